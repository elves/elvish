import ElvProofs.C01
import ElvProofs.C01.Builder
import ElvProofs.C01.Grammar
import ElvProofs.C01.Grammar2
import ElvProofs.C01.Hoare
import ElvProofs.C01.PrimaryCases
import ElvProofs.C01.Rules
import ElvProofs.C01.Scan
import ElvProofs.C01.SpacesCases
import ElvProofs.C01.Tree
import ElvProofs.C01.Utf8
import ElvProofs.C01.Utf8Last
import ElvProofs.C02
import ElvProofs.C02.Amp
import ElvProofs.C02.Framework
import ElvProofs.C02.Grammar
import ElvProofs.C02.Grammar2
import ElvProofs.C02.Leaf
import ElvProofs.C02.Prefix
import ElvProofs.C02.Rules
import ElvProofs.C03
import ElvProofs.C03.Bare
import ElvProofs.C03.Cursor
import ElvProofs.C03.Double
import ElvProofs.C03.DoubleLoop
import ElvProofs.C03.Hex
import ElvProofs.C03.Lit
import ElvProofs.C03.Quote
import ElvProofs.C03.Single
import ElvProofs.C03.Word
import ElvProofs.C04
import ElvProofs.C04.Bracket
import ElvProofs.C04.Canon
import ElvProofs.C04.Cmd
import ElvProofs.C04.Eval
import ElvProofs.C04.Frame
import ElvProofs.C04.Leaf
import ElvProofs.C04.Num
import ElvProofs.C04.Order
import ElvProofs.C04.QuoteEq
import ElvProofs.C04.Step
import ElvProofs.C05
import ElvProofs.C05.Bytes
import ElvProofs.C05.Classes
import ElvProofs.C05.Classify
import ElvProofs.C05.Flank
import ElvProofs.C05.Float
import ElvProofs.C05.FloatInv
import ElvProofs.C05.Format
import ElvProofs.C05.Print
import ElvProofs.C05.Scan
import ElvProofs.C05.Special
import ElvProofs.C06
import ElvProofs.C06.Arith
import ElvProofs.C06.History
import ElvProofs.C06.Iface
import ElvProofs.C06.Iter
import ElvProofs.C06.Reach
import ElvProofs.C06.Rep
import ElvProofs.C06.Tail
import ElvProofs.C06.ToList
import ElvProofs.C06.Vec
import ElvProofs.C07
import ElvProofs.C07.Assoc
import ElvProofs.C07.Bind
import ElvProofs.C07.Bitmap
import ElvProofs.C07.Bits
import ElvProofs.C07.Collision
import ElvProofs.C07.Contents
import ElvProofs.C07.History
import ElvProofs.C07.Inv
import ElvProofs.C07.Iter
import ElvProofs.C07.Kids
import ElvProofs.C07.Repack
import ElvProofs.C07.Slot
import ElvProofs.C07.Update
import ElvProofs.C07.Without
import ElvProofs.C08
import ElvProofs.C08.EqualBasic
import ElvProofs.C08.EqualEquiv
import ElvProofs.C08.HashLemmas
import ElvProofs.C08.MapLemmas
import ElvProofs.C09
import ElvProofs.C09.CmpLaws
import ElvProofs.C09.CmpNormal
import ElvProofs.C09.FloatOrder
import ElvProofs.C09.NumFacts
import ElvProofs.C10
import ElvProofs.C10.Lemmas
import ElvProofs.C11
import ElvProofs.C11.Arith
import ElvProofs.C11.Basic
import ElvProofs.C11.MathFns
import ElvProofs.C11.Pow
import ElvProofs.C11.Range
import ElvProofs.C11.RangeFn
import ElvProofs.C12
import ElvProofs.C12.DoubleRounding
import ElvProofs.C12.Nearest
import ElvProofs.C12.NearestEven
import ElvProofs.C12.NearestRat
import ElvProofs.C12.Pattern
import ElvProofs.C12.RangePow
import ElvProofs.C12.Round
import ElvProofs.C12.Struct
import ElvProofs.C13
import ElvProofs.C13.Atoi
import ElvProofs.C13.Convert
import ElvProofs.C13.Lists
import ElvProofs.C13.Split
import ElvProofs.C13.StringIndex
import ElvProofs.C13.Strings
import ElvProofs.C14
import ElvProofs.C14.Basic
import ElvProofs.C14.Exec
import ElvProofs.C14.Frame
import ElvProofs.C14.NoPanic
import ElvProofs.C15
import ElvProofs.C15.Basic
import ElvProofs.C15.Compound
import ElvProofs.C15.Hoare
import ElvProofs.C15.NoReq
import ElvProofs.C15.PureWf
import ElvProofs.C15.Scope
import ElvProofs.C15.Sem
import ElvProofs.C15.SoundAssign
import ElvProofs.C15.SoundCall
import ElvProofs.C15.SoundExpr
import ElvProofs.C15.SoundForm
import ElvProofs.C15.SoundStep
import ElvProofs.C15.Spec
import ElvProofs.C15.StreamLaws
import ElvProofs.C15.Term
import ElvProofs.C15.TermStep
import ElvProofs.C15.Vals
import ElvProofs.C15.Wf
import ElvProofs.C16
import ElvProofs.C16.Alias
import ElvProofs.C16.EvalCfg
import ElvProofs.C16.Lemmas
import ElvProofs.C16.Mono
import ElvProofs.C16.ParserShape1
import ElvProofs.C16.ParserShape2
import ElvProofs.C16.ParserShape3
import ElvProofs.C16.PrimaryOp
import ElvProofs.C16.Safe
import ElvProofs.C16.Safe2
import ElvProofs.C16.SafeLogic
import ElvProofs.C16.SafeNodes
import ElvProofs.C17
import ElvProofs.C17.Closure
import ElvProofs.C17.ClosureSrc
import ElvProofs.C17.DocMerge
import ElvProofs.C17.DocShow
import ElvProofs.C17.GoFn
import ElvProofs.C17.GoOps
import ElvProofs.C17.MakeMap
import ElvProofs.C17.Subseq
import ElvProofs.C18
import ElvProofs.C18.All
import ElvProofs.C18.Global
import ElvProofs.C18.Inv
import ElvProofs.C18.Local
import ElvProofs.C18.Mpe
import ElvProofs.C18.Progress
import ElvProofs.C18.Steps
import ElvProofs.C19
import ElvProofs.C19.Interp
import ElvProofs.C19.Inv
import ElvProofs.C19.Nested
import ElvProofs.C19.Replay
import ElvProofs.C19.Signal
import ElvProofs.C20
import ElvProofs.C20.Basic
import ElvProofs.C20.Each
import ElvProofs.C20.Inv
import ElvProofs.C20.OneWorker
import ElvProofs.C20.Replay
import ElvProofs.C20.RunParallel
import ElvProofs.C21
import ElvProofs.C21.Accept1
import ElvProofs.C21.Accept2
import ElvProofs.C21.Assign
import ElvProofs.C21.Fuel
import ElvProofs.C21.Seq
import ElvProofs.C21.Store
import ElvProofs.C22
import ElvProofs.C22.Fuel
import ElvProofs.C22.History
import ElvProofs.C22.Inv
import ElvProofs.C22.Paths
import ElvProofs.C22.Reach
import ElvProofs.C22.Trace
import ElvProofs.C23
import ElvProofs.C23.Complete
import ElvProofs.C23.Elem
import ElvProofs.C23.Glob
import ElvProofs.C23.Overlap
import ElvProofs.C23.Parse
import ElvProofs.C23.Top
import ElvProofs.C23.Total
import ElvProofs.C23.TreeRank
import ElvProofs.C24
import ElvProofs.C24.Bytes
import ElvProofs.C24.Dir
import ElvProofs.C24.DirOps
import ElvProofs.C24.Log
import ElvProofs.C24.Ops
import ElvProofs.C24.Refine
import ElvProofs.C24.Sorted
import ElvProofs.C25
import ElvProofs.C25.Crash
import ElvProofs.C25.Store
import ElvProofs.C26
import ElvProofs.C26.Checker
import ElvProofs.C26.Growth
import ElvProofs.C26.Inv
import ElvProofs.C26.Retry
import ElvProofs.C26.Steps
import ElvProofs.C26.Trace
import ElvProofs.C26.Unique
import ElvProofs.C27
import ElvProofs.C27.AcceptSound
import ElvProofs.C27.Cex
import ElvProofs.C27.Inv
import ElvProofs.C27.Sched
import ElvProofs.C28
import ElvProofs.C28.Basic
import ElvProofs.C28.CodeAreaSpec
import ElvProofs.C28.MoverSpec
import ElvProofs.C28.Movers
import ElvProofs.C28.Runes
import ElvProofs.C28.Strings
import ElvProofs.C28.Transpose
import ElvProofs.C28.TransposeWord
import ElvProofs.C28.UpDownSpec
import ElvProofs.C28.Utf8
import ElvProofs.C28.WordSpec
import ElvProofs.C29
import ElvProofs.C29.Db
import ElvProofs.C29.Dedup
import ElvProofs.C29.DedupView
import ElvProofs.C29.Hybrid
import ElvProofs.C29.Keyed
import ElvProofs.C29.Mem
import ElvProofs.C29.Run
import ElvProofs.C29.Sim
import ElvProofs.C30
import ElvProofs.C30.AcceptSound
import ElvProofs.C30.Protocol
import ElvProofs.C30.Pure
import ElvProofs.C30.Sort
import ElvProofs.C30.Sources
import ElvProofs.C31
import ElvProofs.C31.Basic
import ElvProofs.C31.Call
import ElvProofs.C31.Reader
import ElvProofs.C31.Text
import ElvProofs.C32
import ElvProofs.C32.AcceptSound
import ElvProofs.C32.FairExample
import ElvProofs.C32.Inv
import ElvProofs.C32.Liveness
import ElvProofs.C32.Progress
import ElvProofs.C32.Step
import ElvProofs.C33
import ElvProofs.C33.History
import ElvProofs.C33.Normal
import ElvProofs.C33.Ops
import ElvProofs.C33.SdDerender
import ElvProofs.C33.SdLines
import ElvProofs.C33.SdRender
import ElvProofs.C33.SdRoundtrip
import ElvProofs.C33.Split
import ElvProofs.C34
import ElvProofs.C34.Buffer
import ElvProofs.C34.Cropped
import ElvProofs.C34.Extend
import ElvProofs.C34.Horizontal
import ElvProofs.C34.NoWrap
import ElvProofs.C34.Split
import ElvProofs.C34.TextView
import ElvProofs.C34.Trim
import ElvProofs.C34.TrimLines
import ElvProofs.C34.Utf8
import ElvProofs.C34.Vertical
import ElvProofs.C34.Wcwidth
import ElvProofs.C35
import ElvProofs.C35.BlockConcat
import ElvProofs.C35.BlockPara
import ElvProofs.C35.BlockStep
import ElvProofs.C35.Emph
import ElvProofs.C35.Markers
import ElvProofs.C35.Ref
import ElvProofs.C35.WellNested
import ElvProofs.C35.WellNestedBlocks
import ElvProofs.C35.WellNestedBytes
import ElvProofs.C35.WellNestedDefs
import ElvProofs.C35.WellNestedInline
import ElvProofs.C35.WellNestedParse
import ElvProofs.C36
import ElvProofs.C36.Block
import ElvProofs.C36.Boundary
import ElvProofs.C36.Digit
import ElvProofs.C36.FirstByte
import ElvProofs.C36.Inline
import ElvProofs.C36.Lemmas
import ElvProofs.C36.Merge
import ElvProofs.C36.Ordered
import ElvProofs.C36.Reflow
import ElvProofs.C36.ReflowBlock
import ElvProofs.C36.ReflowRead
import ElvProofs.C37
import ElvProofs.C37.Core
import ElvProofs.C37.Lemmas
import ElvProofs.C38
import ElvProofs.C38.Basic
import ElvProofs.C38.Complete
import ElvProofs.C38.Parse
import ElvProofs.C38.Words
import ElvProofs.C39
import ElvProofs.C39.ConcInv
import ElvProofs.C39.ConcLocal
import ElvProofs.C39.ConcSerial
import ElvProofs.C39.ConcTotal
import ElvProofs.C39.Cta
import ElvProofs.C39.Locks
import ElvProofs.C39.Serial
import ElvProofs.C39.Sound
import ElvProofs.C39.UseOnce
import ElvProofs.C39.Witness
import ElvProofs.C40
import ElvProofs.C40.Basic
import ElvProofs.C40.Exec
import ElvProofs.C40.Form
import ElvProofs.C40.Induct
import ElvProofs.C40.Own
import ElvProofs.C40.Redir
import ElvProofs.C40.Release
import ElvProofs.C40.Stage
import ElvProofs.C40.Top
import ElvProofs.C41
import ElvProofs.C41.Codepoints
import ElvProofs.C41.Re
import ElvProofs.C41.Str
import ElvProofs.C41.Template
import ElvProofs.C42
import ElvProofs.C42.Basic
import ElvProofs.C42.Chan
import ElvProofs.C42.Close
import ElvProofs.C42.Own
import ElvProofs.C42.Refine
import ElvProofs.C42.Route
import ElvProofs.C42.View
import ElvProofs.C42.World
import ElvProofs.C43
import ElvProofs.C43.Basic
import ElvProofs.C43.Ext
import ElvProofs.C43.Files
import ElvProofs.C43.Line
import ElvProofs.C43.Nest
import ElvProofs.C43.QuoteC03
import ElvProofs.C43.Range
import ElvProofs.C43.Reach
import ElvProofs.C43.Redir
import ElvProofs.C43.Step
import ElvProofs.C43.Var
import ElvProofs.C43.Words
import ElvProofs.C44
import ElvProofs.C44.Hover
import ElvProofs.C44.Position
import ElvProofs.C44.Server
import ElvProofs.Lemmas.Bytes
import ElvProofs.Lemmas.List
import ElvProofs.Lemmas.Res
import ElvProofs.Lemmas.Utf8
import ElvProofs.Lemmas.Utf8.Ascii
import ElvProofs.Lemmas.Utf8.Audit
import ElvProofs.Lemmas.Utf8.Basic
import ElvProofs.Lemmas.Utf8.Last
import ElvProofs.Lemmas.Utf8.Runes
import ElvProofs.Lemmas.Utf8.Shape
