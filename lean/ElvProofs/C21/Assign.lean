/- C21: what assignments save, and the phases of `with` and of a closure call. -/
import ElvModel.C21.Model
import ElvProofs.C21.Seq
import ElvProofs.C21.Store
namespace C21

variable {β : Type}

def firstFor (x : VarId) (items : List (Item β)) : Option (Item β) :=
  items.find? (fun it => it.head == some x)

theorem save_head (s : St) (x : VarId) : (save s x : Item β).head = some x := by
  unfold save; split <;> rfl

theorem save_target (s : St) (x : VarId) : (save s x : Item β).target = s.store x := by
  unfold save; split <;> simp_all [Item.target]

theorem save_congr (s s' : St) (x : VarId) (h : s'.store x = s.store x) :
    (save s' x : Item β) = save s x := by
  unfold save; rw [h]

theorem refSet_fail_store (c : Cfg) (r : LV) (v : Val) (s : St) (e : Cause)
    (h : (refSet c r v s).out = some e) : (refSet c r v s).st.store = s.store := by
  rcases refSet_cases c r v s with ⟨e', he⟩ | ⟨nv, he⟩ <;> rw [he] at h ⊢
  rw [varSet_eq] at h ⊢
  cases hk : (write c r.head (some nv) (.set r.head nv) s).ok
  · exact write_fail_store c r.head _ _ s hk
  · simp [hk] at h

theorem assignLoop_heads (c : Cfg) (collect : Bool) (pairs : List (LV × Val)) :
    ∀ (s : St), ∀ it ∈ (assignLoop c collect pairs s : AR β).items, ∃ y, it.head = some y := by
  induction pairs with
  | nil => intro s it h; simp [assignLoop] at h
  | cons p rest ih =>
    intro s it h
    obtain ⟨r, v⟩ := p
    simp only [assignLoop] at h
    split at h
    · simp at h
    · simp only [List.mem_append] at h
      rcases h with h | h
      · cases collect <;> simp at h
        subst h; exact ⟨_, save_head s r.head⟩
      · exact ih _ it h

theorem assignLoop_untouched (c : Cfg) (x : VarId) (pairs : List (LV × Val)) :
    ∀ (s : St), (∀ it ∈ (assignLoop c true pairs s : AR β).items, it.head ≠ some x) →
      (assignLoop c true pairs s : AR β).st.store x = s.store x := by
  induction pairs with
  | nil => intro s _; rfl
  | cons p rest ih =>
    intro s h
    obtain ⟨r, v⟩ := p
    simp only [assignLoop] at h ⊢
    split
    · rename_i e he
      rw [refSet_fail_store c r v s e he]
    · rename_i he
      simp only [he] at h
      have hne : x ≠ r.head := by
        intro hx
        have := h (save s r.head) (by simp)
        rw [save_head] at this
        exact this (by rw [hx])
      rw [ih (refSet c r v s).st (fun it hit => h it (by simp [hit]))]
      exact refSet_other c r v s x hne

theorem assignLoop_first (c : Cfg) (x : VarId) (pairs : List (LV × Val)) :
    ∀ (s : St) (it : Item β), firstFor x (assignLoop c true pairs s : AR β).items = some it →
      it = save s x := by
  induction pairs with
  | nil => intro s it h; simp [assignLoop, firstFor] at h
  | cons p rest ih =>
    intro s it h
    obtain ⟨r, v⟩ := p
    simp only [assignLoop] at h
    split at h
    · simp [firstFor] at h
    · simp only [firstFor, if_true, List.singleton_append, List.find?_cons] at h
      by_cases hx : r.head = x
      · subst hx
        simp [save_head] at h
        exact h.symm
      · have hne : ((save s r.head : Item β).head == some x) = false := by
          simp [save_head, hx]
        rw [hne] at h
        have := ih (refSet c r v s).st it h
        rw [this]
        exact save_congr _ _ _ (refSet_other c r v s x (fun h => hx h.symm))

theorem doAssign_eq (c : Cfg) (collect : Bool) (g : Group) (s : St) :
    (doAssign c collect g s : AR β) =
      match derefAll s g.lvs with
      | some e => ⟨s, [], [], some e⟩
      | none =>
        match restValues g.lvs.length g.rest g.vs with
        | none => ⟨s, [], [], some .arity⟩
        | some vs => assignLoop c collect (g.lvs.zip vs) s := rfl

/-- `doAssign` either stops before the first Set (bad index chain, arity) with
nothing changed, logged or collected, or is the loop over lvalue/value pairs. -/
theorem doAssign_cases (c : Cfg) (collect : Bool) (g : Group) (s : St) :
    (∃ e, (doAssign c collect g s : AR β) = ⟨s, [], [], some e⟩) ∨
    (∃ vs, restValues g.lvs.length g.rest g.vs = some vs ∧
      (doAssign c collect g s : AR β) = assignLoop c collect (g.lvs.zip vs) s) := by
  rw [doAssign_eq]
  cases derefAll s g.lvs with
  | some e => exact Or.inl ⟨e, rfl⟩
  | none =>
    cases hr : restValues g.lvs.length g.rest g.vs with
    | none => exact Or.inl ⟨_, rfl⟩
    | some vs => exact Or.inr ⟨vs, rfl, rfl⟩

theorem doAssign_first (c : Cfg) (x : VarId) (g : Group) (s : St) (it : Item β)
    (h : firstFor x (doAssign c true g s : AR β).items = some it) : it = save s x := by
  rcases doAssign_cases (β := β) c true g s with ⟨e, he⟩ | ⟨vs, _, he⟩
  · rw [he] at h; simp [firstFor] at h
  · rw [he] at h; exact assignLoop_first c x _ s it h

theorem doAssign_untouched (c : Cfg) (x : VarId) (g : Group) (s : St)
    (h : ∀ it ∈ (doAssign c true g s : AR β).items, it.head ≠ some x) :
    (doAssign c true g s : AR β).st.store x = s.store x := by
  rcases doAssign_cases (β := β) c true g s with ⟨e, he⟩ | ⟨vs, _, he⟩
  · rw [he]
  · rw [he] at h ⊢; exact assignLoop_untouched c x _ s h

theorem doAssign_heads (c : Cfg) (collect : Bool) (g : Group) (s : St) :
    ∀ it ∈ (doAssign c collect g s : AR β).items, ∃ y, it.head = some y := by
  rcases doAssign_cases (β := β) c collect g s with ⟨e, he⟩ | ⟨vs, _, he⟩
  · rw [he]; intro it h; simp at h
  · rw [he]; exact assignLoop_heads c collect _ s

theorem assignGroups_heads (c : Cfg) (groups : List Group) :
    ∀ (s : St), ∀ it ∈ (assignGroups c groups s : AR β).items, ∃ y, it.head = some y := by
  induction groups with
  | nil => intro s it h; simp [assignGroups] at h
  | cons g rest ih =>
    intro s it h
    simp only [assignGroups] at h
    split at h
    · exact doAssign_heads c true g s it h
    · simp only [List.mem_append] at h
      rcases h with h | h
      · exact doAssign_heads c true g s it h
      · exact ih _ it h

theorem assignGroups_first (c : Cfg) (x : VarId) (groups : List Group) :
    ∀ (s : St) (it : Item β), firstFor x (assignGroups c groups s : AR β).items = some it →
      it = save s x := by
  induction groups with
  | nil => intro s it h; simp [assignGroups, firstFor] at h
  | cons g rest ih =>
    intro s it h
    simp only [assignGroups] at h
    split at h
    · exact doAssign_first c x g s it h
    · simp only [firstFor, List.find?_append] at h
      cases hf : firstFor x (doAssign c true g s : AR β).items with
      | some it' =>
        rw [show List.find? _ _ = some it' from hf, Option.some_or] at h
        exact doAssign_first c x g s it (h ▸ hf)
      | none =>
        rw [show List.find? _ _ = none from hf, Option.none_or] at h
        -- no item of the first group is about x, so x is as it was when the later groups start
        rw [ih _ it h]
        refine save_congr _ _ _ (doAssign_untouched c x g s fun j hj hjx => ?_)
        simpa [hjx] using List.find?_eq_none.mp hf j hj

def noCb : Empty → St → R := fun b _ => b.elim

def withMid (c : Cfg) (groups : List Group) (body : St → R) (s : St) : R :=
  let a : AR Empty := assignGroups c groups s
  match a.out with
  | some e => ⟨a.st, [], some e⟩
  | none => body a.st

theorem withExec_eq (c : Cfg) (groups : List Group) (body : St → R) (s : St) :
    withExec c groups body s =
      (let a : AR Empty := assignGroups c groups s
       let b := withMid c groups body s
       let d := runSeq c noCb a.items.reverse b.st b.out
       ⟨d.st, a.ev ++ b.ev ++ d.ev, d.out⟩) := by
  unfold withExec withMid noCb
  cases he : (assignGroups c groups s : AR Empty).out <;> simp [he, deferLoop_length]

theorem closureCall_eq (c : Cfg) (runCb : β → St → R) (isFn : Bool) (body : St → BodyR β) (s : St) :
    closureCall c runCb isFn body s =
      (let b := body s
       let d := runSeq c runCb b.items.reverse b.st none
       ⟨d.st, b.ev ++ d.ev, keepFirst (fnWrap isFn b.out) d.out⟩) := by
  simp only [closureCall, runDefers, deferLoop_length]

/-- The variable of an item, if its Set/Unset shows up in the log. -/
def loggedHead (c : Cfg) (it : Item β) : Option VarId :=
  match it.head with
  | some x => if (c.kind x).isLogged then some x else none
  | none => none

theorem head_of_noCb (it : Item Empty) : ∃ x, it.head = some x := by
  cases it with
  | cb b => exact b.elim
  | _ => exact ⟨_, rfl⟩

theorem runItem_ev_heads (c : Cfg) (it : Item Empty) (s : St) :
    (runItem c noCb it s).ev.filterMap Event.varOf = (loggedHead c it).toList := by
  obtain ⟨x, hx⟩ := head_of_noCb it
  obtain ⟨e, k, hv, h⟩ := runItem_write c noCb it x s hx
  rw [h, write_ev, loggedHead, hx]
  cases hl : (c.kind x).isLogged <;> simp [hl, hv]

theorem runSeq_ev_heads (c : Cfg) (items : List (Item Empty)) :
    ∀ (s : St) (exc : Outcome),
      (runSeq c noCb items s exc).ev.filterMap Event.varOf = items.filterMap (loggedHead c) := by
  induction items with
  | nil => intro s exc; simp [runSeq]
  | cons f fs ih =>
    intro s exc
    simp only [runSeq, List.filterMap_append, ih, runItem_ev_heads, List.filterMap_cons]
    cases loggedHead c f <;> simp

theorem runItem_ev_len (c : Cfg) (it : Item Empty) (s : St) :
    ((runItem c noCb it s).ev.filterMap Event.varOf).length = (runItem c noCb it s).ev.length := by
  obtain ⟨x, hx⟩ := head_of_noCb it
  obtain ⟨e, k, hv, h⟩ := runItem_write c noCb it x s hx
  rw [h, write_ev]
  cases (c.kind x).isLogged <;> simp [hv]

theorem runSeq_ev_len (c : Cfg) (items : List (Item Empty)) :
    ∀ (s : St) (exc : Outcome),
      ((runSeq c noCb items s exc).ev.filterMap Event.varOf).length = (runSeq c noCb items s exc).ev.length := by
  induction items with
  | nil => intro s exc; simp [runSeq]
  | cons f fs ih =>
    intro s exc
    simp only [runSeq, List.filterMap_append, List.length_append, ih, runItem_ev_len]

theorem varSet_ev_heads (c : Cfg) (x : VarId) (v : Val) (s : St) :
    ((varSet c x v s).ev.filter Event.isOkSet).filterMap Event.varOf =
      if (varSet c x v s).ok = true then (if (c.kind x).isLogged then [x] else []) else [] := by
  rw [varSet_eq, write_ev]
  cases (write c x (some v) (.set x v) s).ok <;> cases (c.kind x).isLogged <;> rfl

theorem refSet_ev_heads (c : Cfg) (r : LV) (v : Val) (s : St) :
    ((refSet c r v s).ev.filter Event.isOkSet).filterMap Event.varOf =
      if (refSet c r v s).out = none then (if (c.kind r.head).isLogged then [r.head] else []) else [] := by
  rcases refSet_cases c r v s with ⟨e, he⟩ | ⟨nv, he⟩ <;> rw [he]
  · simp
  · simp only [varSet_ev_heads]
    cases (varSet c r.head nv s).ok <;> simp

theorem assignLoop_ev_heads (c : Cfg) (pairs : List (LV × Val)) :
    ∀ (s : St),
      ((assignLoop c true pairs s : AR β).ev.filter Event.isOkSet).filterMap Event.varOf =
        (assignLoop c true pairs s : AR β).items.filterMap (loggedHead c) := by
  induction pairs with
  | nil => intro s; simp [assignLoop]
  | cons p rest ih =>
    intro s
    obtain ⟨r, v⟩ := p
    simp only [assignLoop]
    split
    · rename_i e he
      simp [refSet_ev_heads, he]
    · rename_i he
      simp only [List.filter_append, List.filterMap_append, ih, refSet_ev_heads, he, if_true,
        List.singleton_append, List.filterMap_cons, loggedHead, save_head]
      split <;> simp

theorem doAssign_ev_heads (c : Cfg) (g : Group) (s : St) :
    ((doAssign c true g s : AR β).ev.filter Event.isOkSet).filterMap Event.varOf =
      (doAssign c true g s : AR β).items.filterMap (loggedHead c) := by
  rcases doAssign_cases (β := β) c true g s with ⟨e, he⟩ | ⟨vs, _, he⟩
  · rw [he]; simp
  · rw [he]; exact assignLoop_ev_heads c _ s

theorem assignGroups_ev_heads (c : Cfg) (groups : List Group) :
    ∀ (s : St),
      ((assignGroups c groups s : AR β).ev.filter Event.isOkSet).filterMap Event.varOf =
        (assignGroups c groups s : AR β).items.filterMap (loggedHead c) := by
  induction groups with
  | nil => intro s; simp [assignGroups]
  | cons g rest ih =>
    intro s
    simp only [assignGroups]
    split
    · exact doAssign_ev_heads c g s
    · simp only [List.filter_append, List.filterMap_append, ih, doAssign_ev_heads]

end C21
