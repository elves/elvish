/-
C21: the model's log is accepted by the acceptor of ElvModel/C21/Spec.lean — assignments, clean-up lists, loops.
Every lemma has the same shape: the spec function, started on the text of the events the model function emitted
(followed by anything), with the model's store and frame counter, consumes exactly those events, predicts the model's
result and ends with the model's store.
-/
import ElvModel.C21.Model
import ElvModel.C21.Show
import ElvModel.C21.Spec
import ElvProofs.C14.Basic
import ElvProofs.C14.NoPanic
import ElvProofs.C21.Seq
import ElvProofs.C21.Store
import ElvProofs.C21.Assign
namespace C21
open Go

variable {β : Type}

def absS (s : St) (log : List SEv) : AS := ⟨log, s.store, s.next⟩

def evS (ev : List Event) : List SEv := ev.map Event.toS

@[simp] theorem absS_store (s : St) (l : List SEv) : (absS s l).store = s.store := rfl
@[simp] theorem absS_next (s : St) (l : List SEv) : (absS s l).next = s.next := rfl
@[simp] theorem absS_log (s : St) (l : List SEv) : (absS s l).log = l := rfl

@[simp] theorem evS_nil : evS [] = [] := rfl
@[simp] theorem evS_append (a b : List Event) : evS (a ++ b) = evS a ++ evS b := by simp [evS]
@[simp] theorem evS_cons (e : Event) (a : List Event) : evS (e :: a) = e.toS :: evS a := rfl

theorem firstFail_eq_keepFirst (a b : Outcome) : firstFail a b = keepFirst a b := rfl

theorem sVarSet_sim (c : Cfg) (x : VarId) (v : Val) (s : St) (rest : List SEv) :
    sVarSet c.kind x v (absS s (evS (varSet c x v s).ev ++ rest)) =
      some ((varSet c x v s).ok, absS (varSet c x v s).st rest) := by
  unfold varSet sVarSet absS
  by_cases hl : (c.kind x).isLogged = true
  · by_cases hf : c.fails x (s.cnt x) = true
    · simp [hl, hf, Event.toS]
    · simp [hl, hf, Event.toS]
  · simp [hl]

theorem sVarUnset_sim (c : Cfg) (x : VarId) (s : St) (rest : List SEv) :
    sVarUnset c.kind x (absS s (evS (varUnset c x s).ev ++ rest)) =
      some ((varUnset c x s).ok, absS (varUnset c x s).st rest) := by
  unfold varUnset sVarUnset absS
  by_cases hl : (c.kind x).isLogged = true
  · by_cases hf : c.fails x (s.cnt x) = true
    · simp [hl, hf, Event.toS]
    · simp [hl, hf, Event.toS]
  · simp [hl]

/-! `elemAssocers` succeeds iff all but the last index can be looked up -/

theorem assocers_ok_iff (ks : List Key) : ∀ (k : Key) (cur : Val),
    (∃ r, C14.assocers cur (k :: ks) = .ok r) ↔
    (∃ r, C14.indexPath cur (k :: ks).dropLast = .ok r) := by
  induction ks with
  | nil => intro k cur; simp [C14.assocers, C14.indexPath, pure, List.dropLast]
  | cons k2 rest ih =>
    intro k cur
    rw [C14.assocers, List.dropLast_cons_cons, C14.indexPath]
    cases hi : C14.index cur k with
    | panic w => simp [bind, Res.bind]
    | exc e => simp [bind, Res.bind]
    | ok sub =>
      have := ih k2 sub
      simp only [bind, Res.bind]
      constructor
      · rintro ⟨r, hr⟩
        apply this.mp
        cases ha : C14.assocers sub (k2 :: rest) with
        | ok r' => exact ⟨r', rfl⟩
        | exc e => rw [ha] at hr; simp at hr
        | panic w => rw [ha] at hr; simp at hr
      · intro h
        obtain ⟨r', hr'⟩ := this.mpr h
        exact ⟨cur :: r', by rw [hr']; rfl⟩

theorem deref_eq (s : St) (l : LV) :
    deref s l = if pathOk s.store l then none else some .elemErr := by
  cases l with
  | var x => rfl
  | elem x k ks =>
    have h := assocers_ok_iff ks k (curVal (s.store x))
    cases ha : C14.assocers (curVal (s.store x)) (k :: ks) with
    | panic w => exact absurd ha (C14.assocers_no_panic (k :: ks) (by simp) _ w)
    | ok r =>
      obtain ⟨r', hr'⟩ := h.mp ⟨r, ha⟩
      simp [deref, pathOk, ha, hr']
    | exc e =>
      cases hp : C14.indexPath (curVal (s.store x)) (k :: ks).dropLast with
      | ok r' =>
        obtain ⟨r, hr⟩ := h.mpr ⟨r', hp⟩
        rw [ha] at hr; cases hr
      | exc e' => simp [deref, pathOk, ha, hp]
      | panic w => simp [deref, pathOk, ha, hp]

theorem derefAll_eq (s : St) (lvs : List LV) :
    derefAll s lvs = if lvs.all (pathOk s.store) then none else some .elemErr := by
  induction lvs with
  | nil => rfl
  | cons l rest ih =>
    rw [derefAll, deref_eq, List.all_cons]
    cases pathOk s.store l <;> simp [ih]

/-- `refSet` either fails in `vals.Index`/`vals.Assoc` before touching the
variable, or is a Set of the head variable to the nested assoc. -/
theorem refSet_newContent (c : Cfg) (l : LV) (v : Val) (s : St) :
    (newContent (s.store l.head) l v = none ∧ refSet c l v s = ⟨s, [], some .elemErr⟩) ∨
    (∃ nv, newContent (s.store l.head) l v = some nv ∧
      refSet c l v s = ⟨(varSet c l.head nv s).st, (varSet c l.head nv s).ev,
        if (varSet c l.head nv s).ok then none else some (.setFail l.head)⟩) := by
  cases l with
  | var x => exact Or.inr ⟨v, rfl, rfl⟩
  | elem x k ks =>
    have he := C14.setElem_eq_assocIn (curVal (s.store x)) (k :: ks) v (by simp)
    simp only [newContent, LV.head, ← he]
    cases ha : C14.setElem (curVal (s.store x)) (k :: ks) v with
    | exc m => exact Or.inl ⟨rfl, refSet_elem_exc c x k ks v s m ha⟩
    | panic w => exact absurd (he ▸ ha) (C14.assocIn_no_panic (k :: ks) _ v w)
    | ok nv => exact Or.inr ⟨nv, rfl, refSet_elem_ok c x k ks v nv s ha⟩

theorem undoOf_eq_save (s : St) (x : VarId) : (undoOf s.store x : Item β) = save s x := rfl

theorem sAssignLoop_sim (c : Cfg) (collect : Bool) (pairs : List (LV × Val)) :
    ∀ (s : St) (rest : List SEv),
      sAssignLoop (β := β) c.kind collect pairs
          (absS s (evS (assignLoop c collect pairs s : AR β).ev ++ rest)) =
        some (((assignLoop c collect pairs s : AR β).out, (assignLoop c collect pairs s : AR β).items),
              absS (assignLoop c collect pairs s : AR β).st rest) := by
  induction pairs with
  | nil => intro s rest; simp [assignLoop, sAssignLoop]
  | cons p tl ih =>
    intro s rest
    obtain ⟨l, v⟩ := p
    rcases refSet_newContent c l v s with ⟨hn, hr⟩ | ⟨nv, hn, hr⟩
    · simp [assignLoop, sAssignLoop, hr, hn]
    · cases hk : (varSet c l.head nv s).ok <;>
        simp [assignLoop, sAssignLoop, hr, hn, hk, sVarSet_sim, ih, undoOf_eq_save]

theorem sDoAssign_sim (c : Cfg) (collect : Bool) (g : Group) (s : St) (rest : List SEv) :
    sDoAssign (β := β) c.kind collect g (absS s (evS (doAssign c collect g s : AR β).ev ++ rest)) =
      some (((doAssign c collect g s : AR β).out, (doAssign c collect g s : AR β).items),
            absS (doAssign c collect g s : AR β).st rest) := by
  rw [doAssign_eq, derefAll_eq]
  unfold sDoAssign
  cases hall : g.lvs.all (pathOk s.store)
  · simp [hall]
  · cases hr : restValues g.lvs.length g.rest g.vs <;> simp [hall, sAssignLoop_sim]

theorem sAssignGroups_sim (c : Cfg) (groups : List Group) :
    ∀ (s : St) (rest : List SEv),
      sAssignGroups (β := β) c.kind groups (absS s (evS (assignGroups c groups s : AR β).ev ++ rest)) =
        some (((assignGroups c groups s : AR β).out, (assignGroups c groups s : AR β).items),
              absS (assignGroups c groups s : AR β).st rest) := by
  induction groups with
  | nil => intro s rest; simp [assignGroups, sAssignGroups]
  | cons g tl ih =>
    intro s rest
    cases ho : (doAssign c true g s : AR β).out <;>
      simp [assignGroups, sAssignGroups, ho, sDoAssign_sim, ih]

/-- The acceptor `acc` accepts what `run` does (the shape described at the head of this file). -/
def Sim (run : St → R) (acc : AS → Option (Outcome × AS)) : Prop :=
  ∀ (s : St) (rest : List SEv),
    acc (absS s (evS (run s).ev ++ rest)) = some ((run s).out, absS (run s).st rest)

theorem sUndoItem_sim (c : Cfg) (runCb : β → St → R) (scb : β → AS → Option (Outcome × AS))
    (it : Item β) (hcb : ∀ b, it = .cb b → Sim (runCb b) (scb b)) :
    Sim (runItem c runCb it) (sUndoItem c.kind scb it) := by
  intro s rest
  cases it with
  | restore x v => simp [sUndoItem, runItem, sVarSet_sim]
  | unset x => simp [sUndoItem, runItem, sVarUnset_sim]
  | cb b => exact hcb b rfl s rest

theorem sUndoSeq_sim (c : Cfg) (runCb : β → St → R) (scb : β → AS → Option (Outcome × AS))
    (items : List (Item β)) (hcb : ∀ b, Item.cb b ∈ items → Sim (runCb b) (scb b)) :
    ∀ (s : St) (exc : Outcome) (rest : List SEv),
      sUndoSeq c.kind scb items (absS s (evS (runSeq c runCb items s exc).ev ++ rest)) =
        some (firstExc (seqOuts c runCb items s), absS (runSeq c runCb items s exc).st rest) := by
  induction items with
  | nil => intro s exc rest; simp [sUndoSeq, runSeq, seqOuts, firstExc]
  | cons it tl ih =>
    intro s exc rest
    have h1 := sUndoItem_sim c runCb scb it (fun b hb => hcb b (by simp [hb])) s
    have h2 := ih (fun b hb => hcb b (List.mem_cons_of_mem _ hb))
    simp only [sUndoSeq, runSeq, seqOuts, evS_append, List.append_assoc, h1, h2, firstExc_cons]
    rfl

/-- `sUndoAll` on what a function / a `with` collected is the model's reverse
run; the verdict is the first failure in execution order. -/
theorem sUndoAll_sim (c : Cfg) (runCb : β → St → R) (scb : β → AS → Option (Outcome × AS))
    (items : List (Item β)) (hcb : ∀ b, Item.cb b ∈ items → Sim (runCb b) (scb b))
    (s : St) (exc : Outcome) (rest : List SEv) :
    sUndoAll c.kind scb items (absS s (evS (runSeq c runCb items.reverse s exc).ev ++ rest)) =
      some ((runSeq c runCb items.reverse s none).out, absS (runSeq c runCb items.reverse s exc).st rest) := by
  unfold sUndoAll
  rw [sUndoSeq_sim c runCb scb items.reverse (fun b hb => hcb b (List.mem_reverse.mp hb)) s exc rest,
    runSeq_out, keepFirst_none]

theorem sLoop_sim (call : St → R) (scall : AS → Option (Outcome × AS)) (h : Sim call scall) (n : Nat) :
    Sim (forLoop call n) (sLoop scall n) := by
  induction n with
  | zero => intro s rest; simp [sLoop, forLoop]
  | succ n ih =>
    intro s rest
    have h1 := h s
    have ih' := ih (call s).st rest
    -- `break` ends the loop, `continue` and a normal end go on, anything else is the result
    cases ho : (call s).out with
    | none => simp [sLoop, forLoop, ho, h1, ih']
    | some e => cases e <;> simp [sLoop, forLoop, ho, h1, ih']

end C21
