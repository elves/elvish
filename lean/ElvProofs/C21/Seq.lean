/-
C21: the Go index loop `for i := n-1; i >= 0; i--` of Frame.runDefers / withOp.exec is "every function once, last
first".
-/
import ElvModel.C21.Model
namespace C21

variable {β : Type}

/-- Specification-level clean-up: run the items left to right, keep the first
exception (starting from `exc`). -/
def runSeq (c : Cfg) (runCb : β → St → R) : List (Item β) → St → Outcome → R
  | [], s, exc => ⟨s, [], exc⟩
  | f :: fs, s, exc =>
    let r := runItem c runCb f s
    let r2 := runSeq c runCb fs r.st (keepFirst exc r.out)
    ⟨r2.st, r.ev ++ r2.ev, r2.out⟩

def seqOuts (c : Cfg) (runCb : β → St → R) : List (Item β) → St → List Outcome
  | [], _ => []
  | f :: fs, s =>
    let r := runItem c runCb f s
    r.out :: seqOuts c runCb fs r.st

def firstExc : List Outcome → Outcome
  | [] => none
  | some e :: _ => some e
  | none :: os => firstExc os

theorem keepFirst_none (o : Outcome) : keepFirst none o = o := rfl
theorem keepFirst_some (e : Cause) (o : Outcome) : keepFirst (some e) o = some e := rfl

theorem keepFirst_assoc (a b d : Outcome) : keepFirst (keepFirst a b) d = keepFirst a (keepFirst b d) := by
  cases a <;> simp [keepFirst]

theorem firstExc_cons (o : Outcome) (os : List Outcome) : firstExc (o :: os) = keepFirst o (firstExc os) := by
  cases o <;> simp [firstExc, keepFirst]

/-- The index loop entered at `n ≤ len` runs the first `n` items last first, each
once; its ghost trace is `n-1, …, 0`.  In particular `fs[i]` is never out of range. -/
theorem deferLoop_eq (c : Cfg) (runCb : β → St → R) (fs : List (Item β)) :
    ∀ (n : Nat) (s : St) (exc : Outcome), n ≤ fs.length →
      deferLoop c runCb fs n s exc =
        (runSeq c runCb (fs.take n).reverse s exc, (List.range n).reverse) := by
  intro n
  induction n with
  | zero => intro s exc _; rfl
  | succ i ih =>
    intro s exc h
    have hget : fs[i]? = some fs[i] := List.getElem?_eq_getElem (by omega)
    have hrev : (fs.take (i + 1)).reverse = fs[i] :: (fs.take i).reverse := by
      rw [List.take_add_one, hget]; simp
    rw [deferLoop, hget, hrev, List.range_succ]
    simp [ih _ _ (Nat.le_of_succ_le h), runSeq]

theorem deferLoop_length (c : Cfg) (runCb : β → St → R) (fs : List (Item β)) (s : St) (exc : Outcome) :
    deferLoop c runCb fs fs.length s exc =
      (runSeq c runCb fs.reverse s exc, (List.range fs.length).reverse) := by
  rw [deferLoop_eq c runCb fs _ s exc (Nat.le_refl _), List.take_length]

theorem count_range (n i : Nat) : (List.range n).count i = if i < n then 1 else 0 := by
  induction n with
  | zero => simp
  | succ n ih =>
    rw [List.range_succ, List.count_append, ih]
    by_cases h : i < n
    · have : n ≠ i := by omega
      simp [h, this]; omega
    · by_cases h2 : i = n
      · subst h2; simp
      · have : ¬ i < n + 1 := by omega
        have h3 : n ≠ i := fun h => h2 h.symm
        simp [h, this, h3]

theorem runSeq_append (c : Cfg) (runCb : β → St → R) (a b : List (Item β)) :
    ∀ (s : St) (exc : Outcome),
      runSeq c runCb (a ++ b) s exc =
        (let r := runSeq c runCb a s exc
         let r2 := runSeq c runCb b r.st r.out
         ⟨r2.st, r.ev ++ r2.ev, r2.out⟩) := by
  induction a with
  | nil => intro s exc; simp [runSeq]
  | cons f a ih => intro s exc; simp [runSeq, ih, List.append_assoc]

theorem runSeq_out (c : Cfg) (runCb : β → St → R) (fs : List (Item β)) :
    ∀ (s : St) (exc : Outcome),
      (runSeq c runCb fs s exc).out = keepFirst exc (firstExc (seqOuts c runCb fs s)) := by
  induction fs with
  | nil => intro s exc; cases exc <;> simp [runSeq, seqOuts, firstExc, keepFirst]
  | cons f fs ih =>
    intro s exc
    simp only [runSeq, seqOuts, ih, firstExc_cons, keepFirst_assoc]

theorem runSeq_st_ev (c : Cfg) (runCb : β → St → R) (fs : List (Item β)) :
    ∀ (s : St) (e1 e2 : Outcome),
      (runSeq c runCb fs s e1).st = (runSeq c runCb fs s e2).st ∧
      (runSeq c runCb fs s e1).ev = (runSeq c runCb fs s e2).ev := by
  induction fs with
  | nil => intro s e1 e2; simp [runSeq]
  | cons f fs ih =>
    intro s e1 e2
    simp only [runSeq]
    have := ih (runItem c runCb f s).st (keepFirst e1 (runItem c runCb f s).out)
      (keepFirst e2 (runItem c runCb f s).out)
    exact ⟨this.1, by rw [this.2]⟩

end C21
