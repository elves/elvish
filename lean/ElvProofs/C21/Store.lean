/- C21: what Set / restore do to the store and to the log. -/
import ElvModel.C21.Model
import ElvProofs.C21.Seq
namespace C21

variable {β : Type}

/-- Head variable an item acts on (callbacks: none). -/
def Item.head : Item β → Option VarId
  | .restore x _ => some x
  | .unset x => some x
  | .cb _ => none

def Item.target : Item β → Option Val
  | .restore _ v => some v
  | .unset _ => none
  | .cb _ => none

def Event.varOf : Event → Option VarId
  | .set x _ _ => some x
  | .unset x _ => some x
  | _ => none

def Event.isOkSet : Event → Bool
  | .set _ _ true => true
  | _ => false

@[simp] theorem upd_same {α : Type} (f : Nat → α) (x : Nat) (a : α) : upd f x a x = a := by simp [upd]
@[simp] theorem upd_other {α : Type} (f : Nat → α) (x y : Nat) (a : α) (h : y ≠ x) : upd f x a y = f y := by
  simp [upd, h]

def NeverFails (c : Cfg) (x : VarId) : Prop := ∀ i, c.fails x i = false

/-- `Var.Set` and `Unset` in one: the call counts if the variable is logged, takes effect unless the schedule says
it fails, and is logged as `e ok`. -/
def write (c : Cfg) (x : VarId) (o : Option Val) (e : Bool → Event) (s : St) : SR :=
  let lg := (c.kind x).isLogged
  let ok := !(lg && c.fails x (s.cnt x))
  ⟨{ s with cnt := if lg then upd s.cnt x (s.cnt x + 1) else s.cnt, store := if ok then upd s.store x o else s.store },
    if lg then [e ok] else [], ok⟩

theorem varSet_eq (c : Cfg) (x : VarId) (v : Val) (s : St) : varSet c x v s = write c x (some v) (.set x v) s := by
  unfold varSet write
  cases hl : (c.kind x).isLogged <;> cases hf : c.fails x (s.cnt x) <;> simp [hf]

theorem varUnset_eq (c : Cfg) (x : VarId) (s : St) : varUnset c x s = write c x none (.unset x) s := by
  unfold varUnset write
  cases hl : (c.kind x).isLogged <;> cases hf : c.fails x (s.cnt x) <;> simp [hf]

section write
variable (c : Cfg) (x : VarId) (o : Option Val) (e : Bool → Event) (s : St)

theorem write_other (y : VarId) (h : y ≠ x) : (write c x o e s).st.store y = s.store y := by
  simp only [write]
  split <;> simp [h]

theorem write_ok (h : (write c x o e s).ok = true) : (write c x o e s).st.store x = o := by
  unfold write at h ⊢
  simp only at h
  simp [h]

theorem write_fail_store (h : (write c x o e s).ok = false) : (write c x o e s).st.store = s.store := by
  unfold write at h ⊢
  simp only at h
  simp [h]

theorem write_neverFails (h : NeverFails c x) : (write c x o e s).ok = true := by
  simp [write, h (s.cnt x)]

theorem write_ev : (write c x o e s).ev = if (c.kind x).isLogged then [e (write c x o e s).ok] else [] := rfl

theorem write_oof : (write c x o e s).st.oof = s.oof := rfl

end write

theorem refSet_elem_exc (c : Cfg) (x : VarId) (k : Key) (ks : List Key) (v : Val) (s : St) (m : String)
    (h : C14.setElem (curVal (s.store x)) (k :: ks) v = .exc m) :
    refSet c (.elem x k ks) v s = ⟨s, [], some .elemErr⟩ := by
  simp [refSet, h]

theorem refSet_elem_panic (c : Cfg) (x : VarId) (k : Key) (ks : List Key) (v : Val) (s : St) (m : String)
    (h : C14.setElem (curVal (s.store x)) (k :: ks) v = .panic m) :
    refSet c (.elem x k ks) v s = ⟨s, [], some .panic⟩ := by
  simp [refSet, h]

theorem refSet_elem_ok (c : Cfg) (x : VarId) (k : Key) (ks : List Key) (v v' : Val) (s : St)
    (h : C14.setElem (curVal (s.store x)) (k :: ks) v = .ok v') :
    refSet c (.elem x k ks) v s =
      ⟨(varSet c x v' s).st, (varSet c x v' s).ev,
        if (varSet c x v' s).ok then none else some (.setFail x)⟩ := by
  simp [refSet, h]

/-- A Set through an lvalue either fails before it touches anything, or is a
Set of the head variable (to some value). -/
theorem refSet_cases (c : Cfg) (r : LV) (v : Val) (s : St) :
    (∃ e, refSet c r v s = ⟨s, [], some e⟩) ∨
    (∃ nv, refSet c r v s = ⟨(varSet c r.head nv s).st, (varSet c r.head nv s).ev,
      if (varSet c r.head nv s).ok then none else some (.setFail r.head)⟩) := by
  cases r with
  | var x => exact Or.inr ⟨v, rfl⟩
  | elem x k ks =>
    cases h : C14.setElem (curVal (s.store x)) (k :: ks) v with
    | exc m => exact Or.inl ⟨_, refSet_elem_exc c x k ks v s m h⟩
    | panic m => exact Or.inl ⟨_, refSet_elem_panic c x k ks v s m h⟩
    | ok nv => exact Or.inr ⟨nv, refSet_elem_ok c x k ks v nv s h⟩

theorem refSet_other (c : Cfg) (r : LV) (v : Val) (s : St) (y : VarId) (h : y ≠ r.head) :
    (refSet c r v s).st.store y = s.store y := by
  rcases refSet_cases c r v s with ⟨e, he⟩ | ⟨nv, he⟩ <;> rw [he]
  rw [varSet_eq]
  exact write_other c r.head (some nv) (.set r.head nv) s y h

/-- A restore or unset item is a write of its target to its head, logged under the head's name. -/
theorem runItem_write (c : Cfg) (runCb : β → St → R) (it : Item β) (x : VarId) (s : St) (hx : it.head = some x) :
    ∃ (e : Bool → Event) (k : Cause), (∀ ok, (e ok).varOf = some x) ∧
      runItem c runCb it s = ⟨(write c x it.target e s).st, (write c x it.target e s).ev,
        if (write c x it.target e s).ok then none else some k⟩ := by
  cases it with
  | restore y v => cases hx; exact ⟨.set x v, .restoreFail x, fun _ => rfl, by simp only [runItem, varSet_eq]; rfl⟩
  | unset y => cases hx; exact ⟨.unset x, .unsetFail x, fun _ => rfl, by simp only [runItem, varUnset_eq]; rfl⟩
  | cb b => cases hx

theorem runItem_ok_target (c : Cfg) (runCb : β → St → R) (it : Item β) (x : VarId) (s : St)
    (hx : it.head = some x) (hok : (runItem c runCb it s).out = none) :
    (runItem c runCb it s).st.store x = it.target := by
  obtain ⟨e, k, -, h⟩ := runItem_write c runCb it x s hx
  rw [h] at hok ⊢
  refine write_ok c x it.target e s ?_
  cases hw : (write c x it.target e s).ok <;> simp [hw] at hok ⊢

theorem runItem_neverFails (c : Cfg) (runCb : β → St → R) (it : Item β) (x : VarId) (s : St)
    (hx : it.head = some x) (h : NeverFails c x) : (runItem c runCb it s).out = none := by
  obtain ⟨e, k, -, hw⟩ := runItem_write c runCb it x s hx
  simp [hw, write_neverFails c x _ e s h]

def Leaves (c : Cfg) (runCb : β → St → R) (x : VarId) (it : Item β) : Prop :=
  ∀ s, (runItem c runCb it s).st.store x = s.store x

theorem leaves_of_head_ne (c : Cfg) (runCb : β → St → R) (x y : VarId) (it : Item β)
    (hy : it.head = some y) (h : x ≠ y) : Leaves c runCb x it := by
  intro s
  obtain ⟨e, k, -, hw⟩ := runItem_write c runCb it y s hy
  rw [hw]
  exact write_other c y it.target e s x h

theorem runSeq_leaves (c : Cfg) (runCb : β → St → R) (x : VarId) (fs : List (Item β))
    (h : ∀ it ∈ fs, Leaves c runCb x it) :
    ∀ (s : St) (exc : Outcome), (runSeq c runCb fs s exc).st.store x = s.store x := by
  induction fs with
  | nil => intro s exc; rfl
  | cons f fs ih =>
    intro s exc
    simp only [runSeq]
    rw [ih (fun it hit => h it (List.mem_cons_of_mem _ hit))]
    exact h f (List.mem_cons_self ..) s

/-- Core of "the first registered restore of x decides": items = pre ++ it :: post
run last-first; if `it` succeeds and nothing registered before it touches x,
x ends with `it`'s saved content. -/
theorem runSeq_reverse_restores (c : Cfg) (runCb : β → St → R) (x : VarId)
    (pre post : List (Item β)) (it : Item β) (s : St) (exc : Outcome)
    (hx : it.head = some x) (hpre : ∀ j ∈ pre, Leaves c runCb x j)
    (hok : (runItem c runCb it (runSeq c runCb post.reverse s exc).st).out = none) :
    (runSeq c runCb (pre ++ it :: post).reverse s exc).st.store x = it.target := by
  have e : (pre ++ it :: post).reverse = post.reverse ++ ([it] ++ pre.reverse) := by simp
  rw [e]
  simp only [runSeq_append, runSeq]
  rw [runSeq_leaves c runCb x pre.reverse (fun j hj => hpre j (List.mem_reverse.mp hj))]
  exact runItem_ok_target c runCb it x _ hx hok

end C21
