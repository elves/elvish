/-
C21: the acceptor accepts what the interpreter logs — statements, statement sequences, function calls (induction on
the fuel).
-/
import ElvProofs.C21.Accept1
import ElvProofs.C21.Fuel
namespace C21
open Go

theorem expect_sim (e : SEv) (s : St) (rest : List SEv) :
    expect e (absS s (e :: rest)) = some (absS s rest) := by
  simp [expect, absS]

/-- `scall` accepts every call of a lambda nested less than `d` deep. -/
def CallSim (call : Block → Bool → St → R)
    (scall : Nat → List Stmt → Bool → AS → Option (Outcome × AS)) (d : Nat) : Prop :=
  ∀ (k : Nat) (body : List Stmt) (isFn : Bool), depthL body < d →
    Sim (call ⟨k, body⟩ isFn) (scall k body isFn)

theorem sWith_sim (c : Cfg) (groups : List Group) (body : St → R)
    (sbody : AS → Option (Outcome × AS)) (hb : Sim body sbody) (s : St) (rest : List SEv) :
    ((sAssignGroups (β := Empty) c.kind groups (absS s (evS (withExec c groups body s).ev ++ rest))).bind fun r =>
      match r.1.1 with
      | some e => (sUndoAll c.kind noScb r.1.2 r.2).bind fun u => some ((some e, ([] : List (Item Block))), u.2)
      | none =>
        (sbody r.2).bind fun b =>
        (sUndoAll c.kind noScb r.1.2 b.2).bind fun u => some ((firstFail b.1 u.1, []), u.2)) =
    some (((withExec c groups body s).out, []), absS (withExec c groups body s).st rest) := by
  have hundo := sUndoAll_sim c noCb noScb (assignGroups c groups s : AR Empty).items (fun b _ => b.elim)
  have hbody := hb (assignGroups c groups s : AR Empty).st
  rw [withExec_eq]
  cases ho : (assignGroups c groups s : AR Empty).out <;>
    simp [withMid, ho, sAssignGroups_sim, hbody, hundo, runSeq_out, keepFirst, firstFail_eq_keepFirst]

theorem execStmt_sim (c : Cfg) (call : Block → Bool → St → R)
    (scall : Nat → List Stmt → Bool → AS → Option (Outcome × AS)) (d g : Nat)
    (hc : CallSim call scall d) (st : Stmt) (hd : st.depth ≤ d) (s : St) (rest : List SEv) :
    sStmt c.kind scall g st (absS s (evS (execStmt c call g st s).ev ++ rest)) =
      some (((execStmt c call g st s).out, (execStmt c call g st s).items),
            absS (execStmt c call g st s).st rest) := by
  -- for a statement with a body, `hd` becomes `depthL body < d`, so `hc` accepts the body's calls
  cases st <;> simp only [Stmt.depth] at hd
  case asg k tmp grp => simp [execStmt, sStmt, Event.toS, expect_sim, sDoAssign_sim]
  case withS k groups body =>
    simp only [execStmt, sStmt, BodyR.ofR, evS_cons, List.cons_append, List.nil_append, Event.toS,
      expect_sim, Option.bind_some]
    exact sWith_sim c groups _ _ (hc k body false hd) s rest
  case call k isFn body => simp [execStmt, sStmt, BodyR.ofR, Event.toS, expect_sim, hc k body isFn hd s]
  case forS k n body =>
    simp [execStmt, sStmt, BodyR.ofR, Event.toS, expect_sim, sLoop_sim _ _ (hc k body false hd) n s]
  case whileS k n body =>
    simp [execStmt, sStmt, BodyR.ofR, Event.toS, expect_sim, sLoop_sim _ _ (hc k body false hd) n s]
  case tryS k body => simp [execStmt, sStmt, Event.toS, expect_sim, hc k body false hd s]
  case ifS k sel body =>
    by_cases hs : sel ≤ 2 <;>
      simp [execStmt, sStmt, BodyR.ofR, Event.toS, expect_sim, hs, hc k body false hd s]
  all_goals simp [execStmt, sStmt, Event.toS, expect_sim]

theorem execStmts_sim (c : Cfg) (call : Block → Bool → St → R)
    (scall : Nat → List Stmt → Bool → AS → Option (Outcome × AS)) (d g : Nat)
    (hc : CallSim call scall d) (sts : List Stmt) :
    depthL sts ≤ d → ∀ (s : St) (rest : List SEv),
    sStmts c.kind scall g sts (absS s (evS (execStmts c call g sts s).ev ++ rest)) =
      some (((execStmts c call g sts s).out, (execStmts c call g sts s).items),
            absS (execStmts c call g sts s).st rest) := by
  induction sts with
  | nil => intro _ s rest; simp [execStmts, sStmts]
  | cons st tl ih =>
    intro hd s rest
    obtain ⟨hd1, hd2⟩ := depthL_cons_le hd
    have h1 := execStmt_sim c call scall d g hc st hd1 s
    cases ho : (execStmt c call g st s).out <;> simp [execStmts, sStmts, ho, h1, ih hd2]

theorem callBlock_sim (c : Cfg) (f : Nat) : CallSim (callBlock c f) (sCall c.kind f) f := by
  induction f with
  | zero => intro k body isFn h; omega
  | succ f ih =>
    intro k body isFn hd s rest
    have hd' : depthL body ≤ f := by omega
    -- the body's statements, then what they registered: callbacks are lambdas nested less deep
    have h1 := execStmts_sim c (callBlock c f) (sCall c.kind f) f s.next ih body hd'
      { s with next := s.next + 1 }
    have h2 := sUndoAll_sim c (fun cb s => callBlock c f cb false s)
      (fun (b : Block) => sCall c.kind f b.k b.body false)
      (execStmts c (callBlock c f) s.next body { s with next := s.next + 1 }).items
      (fun b hb => ih b.k b.body false (execStmts_items_below c _ _ f body hd' _ b hb))
    show sCall c.kind (f + 1) k body isFn _ = _
    rw [show callBlock c (f + 1) ⟨k, body⟩ isFn s =
      closureCall c (fun cb s => callBlock c f cb false s) isFn (blockBody c (callBlock c f) ⟨k, body⟩) s from rfl,
      closureCall_eq]
    simp only [blockBody, sCall, absS_next, evS_cons, evS_append, List.cons_append, List.append_assoc,
      Event.toS, expect_sim, Option.bind_some]
    simp only [absS] at h1 h2 ⊢
    simp only [h1, h2, Option.bind_some, firstFail_eq_keepFirst, fnWrap]

end C21
