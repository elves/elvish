/-
C21: the interpreter's fuel (nesting depth of lambdas) is never exhausted when it exceeds the static nesting depth
of the program — the sticky out-of-fuel flag `St.oof` is only ever set by `callBlock` at fuel 0.  Also: one restore
per assigned lvalue.
-/
import ElvModel.C21.Model
import ElvProofs.C21.Seq
import ElvProofs.C21.Store
import ElvProofs.C21.Assign
namespace C21

variable {β : Type}

theorem refSet_oof (c : Cfg) (l : LV) (v : Val) (s : St) : (refSet c l v s).st.oof = s.oof := by
  rcases refSet_cases c l v s with ⟨e, he⟩ | ⟨nv, he⟩ <;> rw [he]
  rw [varSet_eq, write_oof]

theorem assignLoop_oof (c : Cfg) (collect : Bool) (pairs : List (LV × Val)) :
    ∀ s, (assignLoop c collect pairs s : AR β).st.oof = s.oof := by
  induction pairs with
  | nil => intro s; rfl
  | cons p tl ih =>
    intro s
    obtain ⟨l, v⟩ := p
    simp only [assignLoop]
    split
    · exact refSet_oof c l v s
    · rw [ih]; exact refSet_oof c l v s

theorem doAssign_oof (c : Cfg) (collect : Bool) (g : Group) (s : St) :
    (doAssign c collect g s : AR β).st.oof = s.oof := by
  rcases doAssign_cases (β := β) c collect g s with ⟨e, he⟩ | ⟨vs, _, he⟩
  · rw [he]
  · rw [he]; exact assignLoop_oof c collect _ s

theorem assignGroups_oof (c : Cfg) (groups : List Group) :
    ∀ s, (assignGroups c groups s : AR β).st.oof = s.oof := by
  induction groups with
  | nil => intro s; rfl
  | cons g tl ih =>
    intro s
    simp only [assignGroups]
    split
    · exact doAssign_oof c true g s
    · rw [ih]; exact doAssign_oof c true g s

theorem runItem_oof (c : Cfg) (runCb : β → St → R) (it : Item β)
    (hcb : ∀ b, it = .cb b → ∀ s, (runCb b s).st.oof = s.oof) (s : St) :
    (runItem c runCb it s).st.oof = s.oof := by
  cases it with
  | cb b => exact hcb b rfl s
  | restore x v => rw [runItem, varSet_eq, write_oof]
  | unset x => rw [runItem, varUnset_eq, write_oof]

theorem runSeq_oof (c : Cfg) (runCb : β → St → R) (items : List (Item β))
    (hcb : ∀ b, Item.cb b ∈ items → ∀ s, (runCb b s).st.oof = s.oof) :
    ∀ s exc, (runSeq c runCb items s exc).st.oof = s.oof := by
  induction items with
  | nil => intro s exc; rfl
  | cons it tl ih =>
    intro s exc
    simp only [runSeq]
    rw [ih (fun b hb => hcb b (List.mem_cons_of_mem _ hb))]
    exact runItem_oof c runCb it (fun b hb => hcb b (by simp [hb])) s

theorem forLoop_oof (call : St → R) (h : ∀ s, (call s).st.oof = s.oof) :
    ∀ n s, (forLoop call n s).st.oof = s.oof := by
  intro n
  induction n with
  | zero => intro s; rfl
  | succ n ih =>
    intro s
    simp only [forLoop]
    split
    · exact h s
    · rw [ih]; exact h s
    · rw [ih]; exact h s
    · exact h s

theorem withExec_oof (c : Cfg) (groups : List Group) (body : St → R)
    (h : ∀ s, (body s).st.oof = s.oof) (s : St) : (withExec c groups body s).st.oof = s.oof := by
  rw [withExec_eq]
  simp only []
  rw [runSeq_oof c noCb _ (fun b _ => b.elim)]
  unfold withMid
  simp only []
  split
  · exact assignGroups_oof c groups s
  · rw [h]; exact assignGroups_oof c groups s

theorem depthL_cons_le {st : Stmt} {tl : List Stmt} {d : Nat} (h : depthL (st :: tl) ≤ d) :
    st.depth ≤ d ∧ depthL tl ≤ d := by
  rw [depthL] at h
  exact Nat.max_le.mp h

def CallOof (call : Block → Bool → St → R) (d : Nat) : Prop :=
  ∀ (k : Nat) (body : List Stmt) (isFn : Bool), depthL body < d →
    ∀ s, (call ⟨k, body⟩ isFn s).st.oof = s.oof

theorem execStmt_oof (c : Cfg) (call : Block → Bool → St → R) (d g : Nat) (hc : CallOof call d)
    (st : Stmt) (hd : st.depth ≤ d) (s : St) : (execStmt c call g st s).st.oof = s.oof := by
  -- for a statement with a body, `hd` becomes `depthL body + 1 ≤ d`, i.e. `depthL body < d`
  cases st <;> simp only [Stmt.depth] at hd
  case asg k tmp grp => exact doAssign_oof c tmp grp s
  case withS k groups body => exact withExec_oof c groups _ (hc k body false hd) s
  case call k isFn body => exact hc k body isFn hd s
  case forS k n body => exact forLoop_oof _ (hc k body false hd) n s
  case whileS k n body => exact forLoop_oof _ (hc k body false hd) n s
  case tryS k body => exact hc k body false hd s
  case ifS k sel body =>
    simp only [execStmt]
    split
    · exact hc k body false hd s
    · rfl
  all_goals rfl

theorem execStmts_oof (c : Cfg) (call : Block → Bool → St → R) (d g : Nat) (hc : CallOof call d)
    (sts : List Stmt) : depthL sts ≤ d → ∀ s, (execStmts c call g sts s).st.oof = s.oof := by
  induction sts with
  | nil => intro _ s; rfl
  | cons st tl ih =>
    intro hd s
    obtain ⟨hd1, hd2⟩ := depthL_cons_le hd
    simp only [execStmts]
    split
    · exact execStmt_oof c call d g hc st hd1 s
    · rw [ih hd2]; exact execStmt_oof c call d g hc st hd1 s

def ItemsBelow (items : List (Item Block)) (d : Nat) : Prop :=
  ∀ b, Item.cb b ∈ items → depthL b.body < d

theorem execStmt_items_below (c : Cfg) (call : Block → Bool → St → R) (g : Nat) (st : Stmt) (s : St)
    (d : Nat) (hd : st.depth ≤ d) : ItemsBelow (execStmt c call g st s).items d := by
  intro b hb
  cases st with
  | asg k tmp grp =>
    obtain ⟨y, hy⟩ := doAssign_heads c tmp grp s _ hb
    cases hy
  | deferS k body =>
    simp only [execStmt, List.mem_singleton, Item.cb.injEq] at hb
    subst hb
    exact hd
  | ifS k sel body =>
    simp only [execStmt] at hb
    split at hb <;> simp [BodyR.ofR] at hb
  | _ => simp [execStmt, BodyR.ofR] at hb

theorem execStmts_items_below (c : Cfg) (call : Block → Bool → St → R) (g : Nat) (d : Nat)
    (sts : List Stmt) : depthL sts ≤ d → ∀ (s : St), ItemsBelow (execStmts c call g sts s).items d := by
  induction sts with
  | nil => intro _ s b hb; simp [execStmts] at hb
  | cons st tl ih =>
    intro hd s b hb
    obtain ⟨hd1, hd2⟩ := depthL_cons_le hd
    simp only [execStmts] at hb
    split at hb
    · exact execStmt_items_below c call g st s d hd1 b hb
    · simp only [List.mem_append] at hb
      rcases hb with hb | hb
      · exact execStmt_items_below c call g st s d hd1 b hb
      · exact ih hd2 _ b hb

theorem callBlock_oof (c : Cfg) (f : Nat) : CallOof (callBlock c f) f := by
  induction f with
  | zero => intro k body isFn h; omega
  | succ f ih =>
    intro k body isFn hd s
    have hd' : depthL body ≤ f := by omega
    rw [show callBlock c (f + 1) ⟨k, body⟩ isFn s =
      closureCall c (fun cb s => callBlock c f cb false s) isFn (blockBody c (callBlock c f) ⟨k, body⟩) s from rfl,
      closureCall_eq]
    simp only [blockBody]
    rw [runSeq_oof c _ _ (fun b hb s' => ih b.k b.body false
        (execStmts_items_below c (callBlock c f) s.next f body hd' { s with next := s.next + 1 } b
          (List.mem_reverse.mp hb)) s'),
      execStmts_oof c (callBlock c f) f s.next ih body hd']

theorem assignLoop_items_heads (c : Cfg) (pairs : List (LV × Val)) :
    ∀ s, (assignLoop c true pairs s : AR β).out = none →
      (assignLoop c true pairs s : AR β).items.map Item.head =
        (pairs.map Prod.fst).map fun l => some l.head := by
  induction pairs with
  | nil => intro s _; rfl
  | cons p tl ih =>
    intro s h
    obtain ⟨l, v⟩ := p
    simp only [assignLoop] at h ⊢
    split
    · rename_i e he; simp [he] at h
    · rename_i he
      simp only [he] at h
      simp [ih _ h, save_head]

/-- Length of what `restValues` hands out: one value per variable (the rest
position must be one of the lvalues — `lhs.rest < len(lhs.lvalues)`). -/
theorem restValues_length (nv : Nat) (rest : Option Nat) (vs vs' : List Val)
    (hr : ∀ r, rest = some r → r < nv) (h : restValues nv rest vs = some vs') : vs'.length = nv := by
  cases rest with
  | none =>
    by_cases hn : nv = vs.length
    · rw [restValues, if_neg (by simpa using hn)] at h
      cases h; exact hn.symm
    · rw [restValues, if_pos hn] at h
      cases h
  | some r =>
    have := hr r rfl
    by_cases hlt : vs.length + 1 < nv
    · rw [restValues, if_pos hlt] at h
      cases h
    · rw [restValues, if_neg hlt] at h
      cases h
      simp only [List.length_append, List.length_take, List.length_drop, List.length_cons, List.length_nil]
      omega

/-- A group as the compiler builds it: the rest position is one of the lvalues. -/
def Group.WF (g : Group) : Prop := ∀ r, g.rest = some r → r < g.lvs.length

theorem doAssign_items_heads (c : Cfg) (g : Group) (s : St) (hwf : g.WF)
    (h : (doAssign c true g s : AR β).out = none) :
    (doAssign c true g s : AR β).items.map Item.head = g.lvs.map fun l => some l.head := by
  rcases doAssign_cases (β := β) c true g s with ⟨e, he⟩ | ⟨vs, hv, he⟩
  · rw [he] at h; cases h
  · rw [he] at h ⊢
    rw [assignLoop_items_heads c _ s h, List.map_fst_zip (by rw [restValues_length _ _ _ _ hwf hv]; omega)]

theorem assignGroups_items_heads (c : Cfg) (groups : List Group) (hwf : ∀ g ∈ groups, g.WF) :
    ∀ s, (assignGroups c groups s : AR β).out = none →
      (assignGroups c groups s : AR β).items.map Item.head =
        (groups.flatMap (·.lvs)).map fun l => some l.head := by
  induction groups with
  | nil => intro s _; rfl
  | cons g tl ih =>
    intro s h
    simp only [assignGroups] at h ⊢
    split
    · rename_i e he; simp [he] at h
    · rename_i he
      simp only [he] at h
      simp only [List.map_append, List.flatMap_cons]
      rw [doAssign_items_heads c g s (hwf g (by simp)) he,
        ih (fun g' hg => hwf g' (List.mem_cons_of_mem _ hg)) _ h]

theorem filterMap_loggedHead (c : Cfg) (items : List (Item β)) :
    ∀ (L : List VarId), items.map Item.head = L.map some →
      items.filterMap (loggedHead c) = L.filter fun x => (c.kind x).isLogged := by
  induction items with
  | nil => intro L h; cases L <;> simp_all
  | cons it tl ih =>
    intro L h
    cases L with
    | nil => simp at h
    | cons x L =>
      simp only [List.map_cons, List.cons.injEq] at h
      simp only [List.filterMap_cons, loggedHead, h.1, List.filter_cons]
      by_cases hl : (c.kind x).isLogged = true <;> simp [hl, ih L h.2]

end C21
