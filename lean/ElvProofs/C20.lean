import ElvProofs.C20.OneWorker
import ElvProofs.C20.RunParallel
import ElvProofs.C20.Replay
/-!
C20 — peach and run-parallel run each task once; one-worker peach equals each.  Every theorem quantifies over all
executions `Run c tr s` of `C20.step` (ElvModel/C20/Model.lean): any number of inputs, any bound, any interleaving of
feeder, workers and the interrupt, any callback behaviour.
-/
open C20

/-- Each input starts at most one callback. -/
theorem C20_start_at_most_once (c : Cfg) (tr : List Label) (s : State) (h : Run c tr s) (i : Nat) :
    tr.count (.start i) ≤ 1 := by
  rw [inv_start_count h i]; exact Bool.toNat_le _

/-- The code with the fix never hits the semaphore / WaitGroup panics; neither does the
unchanged code as long as the evaluation is not interrupted. -/
theorem C20_never_panics (c : Cfg) (tr : List Label) (s : State) (h : Run c tr s)
    (hg : c.checkAcq = true ∨ Label.cancel ∉ tr) : s.panicked = false := by
  cases hk : c.k with
  | none => exact (inv_unbounded h hk).2.1
  | some K => exact (inv_permits h hk (good_of h hg)).2.2.2

/-- Never more callbacks at once than `&num-workers` (for the fixed code also while interrupted). -/
theorem C20_running_le_bound (c : Cfg) (K : Nat) (tr : List Label) (s : State) (h : Run c tr s)
    (hk : c.k = some K) (hg : c.checkAcq = true ∨ Label.cancel ∉ tr) : s.running ≤ K := by
  obtain ⟨h1, h2, _, _⟩ := inv_permits h hk (good_of h hg)
  have h3 : cnt WPc.isRunning s.ws ≤ cnt WPc.holding s.ws :=
    cnt_le_of_imp _ (by intro x hx; cases x <;> first | rfl | cases hx)
  have : s.running = cnt WPc.isRunning s.ws := rfl
  omega

/-- Exactly one callback per input when no callback breaks or fails (and `Acquire` never failed,
which it cannot without an interrupt). -/
theorem C20_exactly_once (c : Cfg) (tr : List Label) (s : State) (h : Run c tr s) (hret : s.fpc = .ret)
    (hok : ∀ i o, Label.finish i o ∈ tr → o.bad = false) (hacq : Label.acqErr ∉ tr) :
    ∀ i, i < c.n → tr.count (.start i) = 1 := by
  intro i hi
  have hlen := (inv_ret h).2 (Or.inr hret)
  have hget : s.ws[i]? = some s.ws[i] := List.getElem?_eq_getElem (by omega)
  -- worker `i` has called `Done` and was not skipped: its callback was started
  rw [inv_start_count h i, State.at, atG_of_getElem? _ hget,
    started_of_settled (settled_at_ret h hret hget), cnt_eq_zero (inv_noskip h hok hacq).2 hget]
  rfl

/-- The output is exactly what the callbacks wrote, and only started callbacks write. -/
theorem C20_outputs_union (c : Cfg) (tr : List Label) (s : State) (h : Run c tr s) :
    s.outs = outsOf tr ∧ ∀ i v, (i, v) ∈ s.outs → tr.count (.start i) = 1 := by
  refine ⟨inv_outs h, fun i v hm => ?_⟩
  rw [inv_start_count h i, inv_outs_started h i v hm]; rfl

/-- `peach` returns only after every started callback has finished: at return no callback is
running and every started callback has a `finish` in the trace. -/
theorem C20_return_after_all_finished (c : Cfg) (tr : List Label) (s : State) (h : Run c tr s)
    (hret : s.fpc = .ret) :
    s.running = 0 ∧ ∀ i, 0 < tr.count (.start i) → ∃ o, Label.finish i o ∈ tr := by
  constructor
  · have h1 : cnt WPc.isRunning s.ws ≤ cnt WPc.undone s.ws :=
      cnt_le_of_imp _ (by intro x hx; cases x <;> first | rfl | cases hx)
    have h2 := (inv_wg h).symm.trans ((inv_ret h).1 hret)
    exact Nat.le_zero.mp (h2 ▸ h1)
  · intro i hpos
    obtain ⟨p, hp, hs⟩ := atG_pos (start_at h i (List.count_pos_iff.mp hpos))
    obtain ⟨o, ho⟩ := outcome_of_settled (settled_at_ret h hret hp) hs
    exact ⟨o, mem_finish_of_at h i o p hp ho⟩

/-- Every callback exception is in the returned error, exactly once, and nothing else is. -/
theorem C20_all_exceptions_reported (c : Cfg) (tr : List Label) (s : State) (h : Run c tr s)
    (hret : s.fpc = .ret) (i : Nat) :
    (Label.finish i .exc ∈ tr ↔ i ∈ s.err) ∧ s.err.count i ≤ 1 := by
  constructor
  · rw [← List.count_pos_iff, ← List.count_pos_iff, err_count_eq h hret i]
  · rw [inv_err_count h i]; exact Bool.toNat_le _

/-- One worker: whenever a callback is about to start, no callback has ended with `break` or a
failure — nothing is started after a break/failure, exactly as in `each`. -/
theorem C20_one_worker_stops_after_bad (c : Cfg) (tr : List Label) (s s' : State) (i : Nat)
    (h : Run c tr s) (hk : c.k = some 1) (hre : c.recheck = true)
    (hg : c.checkAcq = true ∨ Label.cancel ∉ tr) (hst : step c s (.start i) = some s') :
    ∀ j o, Label.finish j o ∈ tr → o.bad = false := by
  intro j o hm
  cases step_spec hst with
  | start _ hp hw =>
    have hq := inv_one_quiet h hk hre (good_of h hg) (Or.inl (cnt_pos WPc.pending hw rfl))
    obtain ⟨x, hx, hxo⟩ := finish_at h j o hm
    rw [← badOutcome_eq hxo]
    exact cnt_eq_zero hq hx

/-- One worker: whenever a callback is about to start, nothing is running and every callback
started earlier has finished — callbacks never overlap, so outputs cannot interleave. -/
theorem C20_one_worker_no_overlap (c : Cfg) (tr : List Label) (s s' : State) (i : Nat)
    (h : Run c tr s) (hk : c.k = some 1) (hg : c.checkAcq = true ∨ Label.cancel ∉ tr)
    (hst : step c s (.start i) = some s') :
    s.running = 0 ∧ ∀ j, Label.start j ∈ tr → ∃ o, Label.finish j o ∈ tr := by
  obtain ⟨hp1, hp2, -, -⟩ := inv_permits h hk (good_of h hg)
  cases step_spec hst with
  | start _ hp hw =>
    -- the spawned worker holds the only permit
    constructor
    · have h1 : cnt WPc.isSpawned s.ws + cnt WPc.isRunning s.ws ≤ cnt WPc.holding s.ws :=
        cnt_add_le _ (by intro x; cases x <;> simp [WPc.isSpawned, WPc.isRunning, WPc.holding])
      have h2 := cnt_pos WPc.isSpawned hw rfl
      have : s.running = cnt WPc.isRunning s.ws := rfl
      omega
    · intro j hm
      obtain ⟨x, hx, hs⟩ := atG_pos (start_at h j hm)
      have hne : i ≠ j := by rintro rfl; rw [hw] at hx; cases hx; cases hs
      have hh : x.holding = false := by
        cases hh : x.holding with
        | false => rfl
        | true => have := cnt_two WPc.holding hw hx hne rfl hh rfl; omega
      obtain ⟨o, ho⟩ := outcome_of_settled (undone_of_not_holding hh) hs
      exact ⟨o, mem_finish_of_at h j o x hx ho⟩

/-- One worker: callbacks start in input order. -/
theorem C20_one_worker_in_order (c : Cfg) (tr : List Label) (s : State) (h : Run c tr s)
    (hk : c.k = some 1) (hg : c.checkAcq = true ∨ Label.cancel ∉ tr) :
    (startsOf tr).Pairwise (· < ·) :=
  one_starts_sorted h hk (good_of h hg)

/-- One worker: at most one exception, like `each` (which stops at the first). -/
theorem C20_one_worker_single_exception (c : Cfg) (tr : List Label) (s : State) (h : Run c tr s)
    (hk : c.k = some 1) (hre : c.recheck = true) (hg : c.checkAcq = true ∨ Label.cancel ∉ tr) :
    s.err.length ≤ 1 :=
  one_single_exception h hk hre (good_of h hg)

/-- The full one-worker statement: for a deterministic callback table `cb`, a completed
uninterrupted run of `peach &num-workers=1` whose callbacks behave as `cb` says has exactly the
observations of `each` (`eachRun`): same starts in the same order, same outputs in the same
order, same exceptions. -/
def C20_one_worker_eq_each_full : Prop :=
  ∀ (cb : Nat → List Nat × Outcome) (n : Nat) (tr : List Label) (s : State),
    Run { k := some 1, n := n } tr s → s.fpc = .ret → Label.cancel ∉ tr →
    (∀ i o, Label.finish i o ∈ tr → o = (cb i).2) →
    (∀ i, Label.start i ∈ tr → (outsOf tr).filter (·.1 = i) = (cb i).1.map (fun v => (i, v))) →
    ({ starts := startsOf tr, outs := s.outs, err := s.err } : EachObs) = eachRun cb n

/-- `peach &num-workers=1` IS `each`: over every interleaving of feeder and worker goroutines, a completed
uninterrupted one-worker run of the fixed code has exactly the observations of the sequential `each`. -/
theorem C20_one_worker_eq_each : C20_one_worker_eq_each_full :=
  fun cb _ _ _ h hret hnc hfin houts => one_worker_eq_each h rfl rfl hret hnc cb hfin houts

/-- `run-parallel` never trips the WaitGroup, and when it returns every function has been run
exactly once and has finished. -/
theorem C20_run_parallel_each_once (n : Nat) (tr : List RLabel) (s : RState) (h : RRun n tr s) :
    s.panicked = false ∧
      (s.returned = true → ∀ i, i < n → tr.count (.rstart i) = 1 ∧ ∃ o, RLabel.rfinish i o ∈ tr) := by
  refine ⟨rinv_nopanic h, fun hret i hi => ?_⟩
  have hlt : i < s.ws.length := by rw [(rinv_counts h).1]; exact hi
  have hget : s.ws[i]? = some s.ws[i] := List.getElem?_eq_getElem hlt
  have hd := all_done h (rinv_returned h hret) hget
  cases hp : s.ws[i] with
  | doneW o =>
    rw [hp] at hget
    constructor
    · rw [rinv_start_count h i, atG_of_getElem? _ hget]; rfl
    · refine ⟨o, List.count_pos_iff.mp ?_⟩
      rw [rinv_finish_count h i o, atG_of_getElem? _ hget]; simp [RPc.hasOutcome]
  | _ => rw [hp] at hd; cases hd

/-- `run-parallel` reports all exceptions: the result (`MakePipelineError`) contains exactly the
(position, exception) pairs of the functions that did not end OK. -/
theorem C20_run_parallel_reports_all (n : Nat) (tr : List RLabel) (s : RState) (h : RRun n tr s)
    (hret : s.returned = true) (i : Nat) (o : Outcome) :
    (i, o) ∈ s.result ↔ (RLabel.rfinish i o ∈ tr ∧ o ≠ .ok) := by
  rw [result_mem]
  refine and_congr_left fun _ => ?_
  rw [← List.count_pos_iff, rinv_finish_count h i o]
  cases hg : s.ws[i]? with
  | none => simp [atG, hg]
  | some x =>
    have hd := all_done h (rinv_returned h hret) hg
    rw [atG_of_getElem? _ hg]
    cases x with
    | doneW o' => by_cases hoo : o' = o <;> simp [RPc.hasOutcome, hoo]
    | _ => cases hd

/-- The unchanged code (no re-check after `Acquire`). -/
def C20.unfixed (k : Option Nat) (n : Nat) : Cfg := { k := k, n := n, recheck := false, checkAcq := false }

/-- Two inputs, one worker: the feeder passes the `broken` test for input 1 while callback 0 is
still running, blocks in `Acquire`, callback 0 breaks, the feeder gets the permit and callback 1
is started although a callback has broken.  (`harness/corpus/C20.txt` replays it on the real code.) -/
def C20.witness : List Label :=
  [.chk1 false, .acqOk, .spawn, .start 0, .chk1 false, .out 0 0, .finish 0 .brk, .mark 0, .done 0,
   .release 0, .acqOk, .spawn]

/-- Without the fix the one-worker guarantee fails: `C20_one_worker_stops_after_bad` does not hold
for `recheck := false` (no interrupt involved). -/
theorem C20_counterexample :
    ¬ (∀ (tr : List Label) (s s' : State) (i : Nat), Run (C20.unfixed (some 1) 2) tr s →
        Label.cancel ∉ tr → step (C20.unfixed (some 1) 2) s (.start i) = some s' →
        ∀ j o, Label.finish j o ∈ tr → o.bad = false) := by
  intro hall
  have hrun : Run (C20.unfixed (some 1) 2) C20.witness _ := run_of_replay rfl
  have := hall C20.witness _ _ 1 hrun (by decide) rfl 0 .brk (by decide)
  simp [Outcome.bad] at this

/-- a completed run of the fixed code: 3 inputs, 2 workers, overlapping callbacks, one failure,
one input skipped after the failure -/
def C20.sample : List Label :=
  [.chk1 false, .acqOk, .chk2 false, .spawn, .chk1 false, .acqOk, .chk2 false, .spawn,
   .start 1, .start 0, .out 1 0, .out 0 0, .finish 1 .exc, .chk1 false, .mark 1, .done 1, .release 1,
   .acqOk, .chk2 true, .frel, .eof, .finish 0 .ok, .done 0, .waitRet, .release 0]

example : ∃ s, Run { k := some 2, n := 3 } C20.sample s ∧ s.fpc = .ret ∧ s.err = [1] ∧
    s.outs = [(1, 0), (0, 0)] ∧ s.running = 0 :=
  ⟨_, run_of_replay rfl, rfl, rfl, rfl, rfl⟩

/-- a completed one-worker run without break/failure (hypotheses of `C20_exactly_once`,
`C20_one_worker_*`): 2 inputs -/
def C20.sample1 : List Label :=
  [.chk1 false, .acqOk, .chk2 false, .spawn, .chk1 false, .start 0, .out 0 0, .finish 0 .cont, .done 0,
   .release 0, .acqOk, .chk2 false, .spawn, .eof, .start 1, .finish 1 .ok, .done 1, .waitRet]

example : ∃ s, Run { k := some 1, n := 2 } C20.sample1 s ∧ s.fpc = .ret ∧
    (∀ i o, Label.finish i o ∈ C20.sample1 → o.bad = false) ∧ Label.acqErr ∉ C20.sample1 ∧
    startsOf C20.sample1 = [0, 1] :=
  ⟨_, run_of_replay rfl, rfl, by intro i o hm; simp [C20.sample1] at hm; rcases hm with ⟨_, rfl⟩ | ⟨_, rfl⟩ <;> rfl,
    by decide, rfl⟩

/-- a start step enabled in a one-worker run (hypothesis of `C20_one_worker_stops_after_bad` /
`_no_overlap`) -/
example : ∃ s s', Run { k := some 1, n := 2 } (C20.sample1.take 14) s ∧
    step { k := some 1, n := 2 } s (.start 1) = some s' :=
  ⟨_, _, run_of_replay rfl, rfl⟩

/-- a completed one-worker run in which callback 1 fails while the feeder waits for the permit for
input 2, which is then skipped (hypotheses of `C20_one_worker_eq_each`; both sides are the
non-trivial observation `starts = [0, 1]`, two outputs, `err = [1]`) -/
def C20.sample2 : List Label :=
  [.chk1 false, .acqOk, .chk2 false, .spawn, .chk1 false, .start 0, .out 0 0, .finish 0 .cont, .done 0,
   .release 0, .acqOk, .chk2 false, .spawn, .chk1 false, .start 1, .out 1 7, .finish 1 .exc, .mark 1,
   .done 1, .release 1, .acqOk, .chk2 true, .frel, .eof, .waitRet]

def C20.sampleCb : Nat → List Nat × Outcome
  | 0 => ([0], .cont)
  | 1 => ([7], .exc)
  | _ => ([], .ok)

example : ∃ s, Run { k := some 1, n := 3 } C20.sample2 s ∧ s.fpc = .ret ∧ Label.cancel ∉ C20.sample2 ∧
    (∀ i o, Label.finish i o ∈ C20.sample2 → o = (C20.sampleCb i).2) ∧
    (∀ i, Label.start i ∈ C20.sample2 →
      (outsOf C20.sample2).filter (·.1 = i) = (C20.sampleCb i).1.map (fun v => (i, v))) ∧
    ({ starts := startsOf C20.sample2, outs := s.outs, err := s.err } : EachObs) =
      { starts := [0, 1], outs := [(0, 0), (1, 7)], err := [1] } ∧
    eachRun C20.sampleCb 3 = { starts := [0, 1], outs := [(0, 0), (1, 7)], err := [1] } :=
  ⟨_, run_of_replay rfl, rfl, by decide,
    by intro i o hm; simp [C20.sample2] at hm; rcases hm with ⟨rfl, rfl⟩ | ⟨rfl, rfl⟩ <;> rfl,
    by intro i hm; simp [C20.sample2] at hm; rcases hm with rfl | rfl <;> rfl,
    rfl, rfl⟩

/-- an interrupted run of the fixed code: `Acquire` fails after `cancel`, the input is skipped -/
example : ∃ s, Run { k := some 1, n := 2 }
    [.chk1 false, .acqOk, .chk2 false, .spawn, .chk1 false, .start 0, .cancel, .acqErr, .eof,
     .finish 0 .exc, .mark 0, .done 0, .waitRet] s ∧ s.fpc = .ret ∧ s.running = 0 ∧ s.err = [0] :=
  ⟨_, run_of_replay rfl, rfl, rfl, rfl⟩

/-- run-parallel: two functions, one fails -/
example : ∃ s, RRun 2 [.rspawn 0, .rspawn 1, .rstart 1, .rfinish 1 .exc, .rstart 0, .rdone 1,
    .rfinish 0 .ok, .rdone 0, .rwait] s ∧ s.returned = true ∧ s.result = [(1, .exc)] :=
  ⟨_, rrun_of_replay rfl, rfl, rfl⟩
