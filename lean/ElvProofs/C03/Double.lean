/-
Double quotes: `doubleQuotedInner` undoes `quoteDouble` on EVERY byte string,
by cases of the branch `quoteDouble` takes for each decoded rune.
-/
import ElvProofs.C03.Hex
import ElvProofs.Lemmas.List
namespace C03
open Go
open C01
open Gen.C01Chars

theorem doubleUnescape_val : doubleUnescape =
    [(7, 97), (8, 98), (12, 102), (10, 110), (13, 114), (9, 116), (11, 118), (92, 92), (34, 34),
      (27, 101)] := by decide

/-- The side conditions say that `c` starts no other kind of escape (`\c`, `\^`, `\x`, `\u`, `\U`, octal). -/
theorem doubleUnescape_table : ∀ kv ∈ doubleUnescape,
    0 ≤ kv.2 ∧ kv.2 < 128 ∧ kv.1 < 128 ∧
    (kv.2 == 99 || kv.2 == 94) = false ∧ (kv.2 == 120 || kv.2 == 117 || kv.2 == 85) = false ∧
    (decide (48 ≤ kv.2) && decide (kv.2 ≤ 55)) = false ∧
    doubleEscape.lookup kv.2 = some kv.1 := by
  rw [doubleUnescape_val]
  decide

theorem table_facts {r : Nat} {c : Int} (h : doubleUnescape.lookup ((r : Nat) : Int) = some c) :
    ∃ cb : UInt8, c = ((cb.toNat : Nat) : Int) ∧ cb.toNat < 0x80 ∧ r < 0x80 ∧
      ((((cb.toNat : Nat) : Int) == 99) || (((cb.toNat : Nat) : Int) == 94)) = false ∧
      ((((cb.toNat : Nat) : Int) == 120) || (((cb.toNat : Nat) : Int) == 117) ||
        (((cb.toNat : Nat) : Int) == 85)) = false ∧
      (decide ((48 : Int) ≤ ((cb.toNat : Nat) : Int)) && decide (((cb.toNat : Nat) : Int) ≤ 55)) = false ∧
      doubleEscape.lookup ((cb.toNat : Nat) : Int) = some ((r : Nat) : Int) ∧
      writeRune c = [cb] := by
  obtain ⟨h0, hc, hr, h1, h2, h3, hl⟩ := doubleUnescape_table _ (List.mem_of_lookup_eq_some h)
  obtain ⟨n, rfl⟩ := Int.eq_ofNat_of_zero_le h0
  have hn : n < 128 := by omega
  have hb : (UInt8.ofNat n).toNat = n := toNat_ofNat_of_lt (by omega)
  refine ⟨UInt8.ofNat n, ?_⟩
  rw [hb, writeRune_nat, encodeRune_one hn]
  exact ⟨rfl, hn, by omega, h1, h2, h3, hl, rfl⟩

/-- the quote and the backslash have table escapes -/
theorem unescape_none {r : Nat} (h : doubleUnescape.lookup ((r : Nat) : Int) = none) :
    r ≠ 34 ∧ r ≠ 92 := by
  rw [doubleUnescape_val] at h
  constructor <;> (rintro rfl; revert h; decide)

/-- a `\x`, `\u` or `\U` escape written by `rtohex` -/
theorem escape_hex {e : Env} {s : St} {k v : Nat} {rest : Bytes} {c : UInt8}
    (hck : c = 120 ∧ k = 2 ∨ c = 117 ∧ k = 4 ∨ c = 85 ∧ k = 8)
    (hk : v < 16 ^ k) (h31 : v < 2147483648) (hcur : Cur e s.pos (c :: rtohex v k ++ rest)) :
    doubleQuotedEscape e s =
      .ok (if c = 120 then [byteOf ((v : Nat) : Int)] else writeRune ((v : Nat) : Int))
        (adv s (c :: rtohex v k).length) := by
  have hdig := hexLoop_rtohex (s := adv s 1) hcur.adv1 hk h31
  rw [adv_adv] at hdig
  rw [List.length_cons, rtohex_length, Nat.add_comm k]
  unfold doubleQuotedEscape
  rcases hck with ⟨rfl, rfl⟩ | ⟨rfl, rfl⟩ | ⟨rfl, rfl⟩
  all_goals
    rw [bind_of_eq (next_at_byte hcur (by decide))]
    simp +decide only [↓reduceIte]
    rw [bind_of_eq hdig]
    rfl

theorem escape_table {e : Env} {s : St} {rest : Bytes} {c : UInt8} {v : Int} (hc : c.toNat < 0x80)
    (h1 : ((((c.toNat : Nat) : Int) == 99) || (((c.toNat : Nat) : Int) == 94)) = false)
    (h2 : ((((c.toNat : Nat) : Int) == 120) || (((c.toNat : Nat) : Int) == 117) ||
      (((c.toNat : Nat) : Int) == 85)) = false)
    (h3 : (decide ((48 : Int) ≤ ((c.toNat : Nat) : Int)) && decide (((c.toNat : Nat) : Int) ≤ 55)) = false)
    (hl : doubleEscape.lookup ((c.toNat : Nat) : Int) = some v)
    (hcur : Cur e s.pos ([c] ++ rest)) :
    doubleQuotedEscape e s = .ok (writeRune v) (adv s [c].length) := by
  unfold doubleQuotedEscape
  rw [bind_of_eq (next_at_byte hcur hc)]
  simp only [h1, h2, h3, Bool.false_eq_true, if_false, hl]
  rfl

/-- The loop of `doubleQuotedInner`, in any state in front of `piece`, appends `out` to the buffer
and goes on behind `piece`. -/
def Reads (piece out : Bytes) : Prop :=
  ∀ ⦃e : Env⦄ ⦃n : Nat⦄ ⦃s : St⦄ ⦃buf rest : Bytes⦄, Cur e s.pos (piece ++ rest) →
    doubleQuotedLoop (n + 1) buf e s = doubleQuotedLoop n (buf ++ out) e (adv s piece.length)

theorem reads_escape {esc out : Bytes}
    (h : ∀ ⦃e : Env⦄ ⦃s : St⦄ ⦃rest : Bytes⦄, Cur e s.pos (esc ++ rest) →
      doubleQuotedEscape e s = .ok out (adv s esc.length)) :
    Reads (92 :: esc) out := by
  intro e n s buf rest hcur
  conv => lhs; unfold doubleQuotedLoop
  rw [bind_of_eq (next_at_byte hcur (by decide))]
  simp +decide only [↓reduceIte]
  rw [bind_of_eq (h (s := adv s 1) hcur.adv1), adv_adv, List.length_cons, Nat.add_comm 1]

theorem reads_literal {r : Nat} (hv : validRune r = true) (h34 : r ≠ 34) (h92 : r ≠ 92) :
    Reads (encodeRune r) (encodeRune r) := by
  intro e n s buf rest hcur
  conv => lhs; unfold doubleQuotedLoop
  have i34 : (((r : Nat) : Int) == 34) = false := by rw [beq_eq_false_iff_ne]; exact_mod_cast h34
  have i92 : (((r : Nat) : Int) == 92) = false := by rw [beq_eq_false_iff_ne]; exact_mod_cast h92
  rw [bind_of_eq (next_at_enc hcur hv)]
  simp only [nat_ne_eof, i34, i92, Bool.false_eq_true, if_false, writeRune_nat]

theorem reads_hex {c : UInt8} {k v : Nat} (hck : c = 120 ∧ k = 2 ∨ c = 117 ∧ k = 4 ∨ c = 85 ∧ k = 8)
    (hk : v < 16 ^ k) (h31 : v < 2147483648) :
    Reads ([92, c] ++ rtohex v k)
      (if c = 120 then [byteOf ((v : Nat) : Int)] else writeRune ((v : Nat) : Int)) :=
  reads_escape (esc := c :: rtohex v k) fun _ _ _ hcur => escape_hex hck hk h31 hcur

theorem reads_table {r : Nat} {c : Int} (h : doubleUnescape.lookup ((r : Nat) : Int) = some c) :
    Reads ([92] ++ writeRune c) (encodeRune r) := by
  obtain ⟨cb, _, hcb, _, h1, h2, h3, hl, hw⟩ := table_facts h
  rw [hw, ← writeRune_nat]
  exact reads_escape (esc := [cb]) fun _ _ _ hcur => escape_table hcb h1 h2 h3 hl hcur

theorem dqPiece_reads_rune (isPrint : Int → Bool) (b0 : UInt8) {r w : Nat} (hv : validRune r = true)
    (herr : ¬ (r = RuneError ∧ w = 1)) : Reads (dqPiece isPrint b0 r w) (encodeRune r) := by
  have hrle : r ≤ 0x10FFFF := by have := validRune_iff.1 hv; omega
  have herr' : (r == RuneError && w == 1) = false := by
    rw [Bool.and_eq_false_iff, beq_eq_false_iff_ne, beq_eq_false_iff_ne]
    exact Decidable.not_and_iff_or_not.1 herr
  rw [dqPiece, herr', if_neg Bool.false_ne_true]
  cases hlk : doubleUnescape.lookup ((r : Nat) : Int) with
  | some c => exact reads_table hlk
  | none =>
    obtain ⟨h34, h92⟩ := unescape_none hlk
    show Reads (if _ then _ else if _ then _ else if _ then _ else _) _
    by_cases hlit : (isPrint ((r : Nat) : Int) && r != RuneError) = true
    · rw [if_pos hlit]
      exact reads_literal hv h34 h92
    rw [if_neg hlit]
    by_cases h7 : r ≤ 0x7f
    · -- an unprintable ASCII rune: `\xHH`
      have := reads_hex (c := 120) (v := r) (Or.inl ⟨rfl, rfl⟩) (show r < 16 ^ 2 from (by omega : r < 256))
        (by omega)
      rw [if_pos rfl, byteOf_nat (by omega), ← encodeRune_one (by omega)] at this
      rw [if_pos h7]
      exact this
    rw [if_neg h7]
    by_cases hu : r ≤ 0xffff
    · -- `\uHHHH`
      have := reads_hex (c := 117) (v := r) (Or.inr (Or.inl ⟨rfl, rfl⟩))
        (show r < 16 ^ 4 from (by omega : r < 65536)) (by omega)
      rw [if_neg (by decide), writeRune_nat] at this
      rw [if_pos hu]
      exact this
    · -- `\UHHHHHHHH`
      have := reads_hex (c := 85) (v := r) (Or.inr (Or.inr ⟨rfl, rfl⟩))
        (show r < 16 ^ 8 from (by omega : r < 4294967296)) (by omega)
      rw [if_neg (by decide), writeRune_nat] at this
      rw [if_neg hu]
      exact this

theorem dqPiece_reads (isPrint : Int → Bool) (b0 : UInt8) (t : Bytes) :
    Reads (dqPiece isPrint b0 (decodeRune (b0 :: t)).1 (decodeRune (b0 :: t)).2)
      ((b0 :: t).take (decodeRune (b0 :: t)).2) := by
  by_cases herr : (decodeRune (b0 :: t)).1 = RuneError ∧ (decodeRune (b0 :: t)).2 = 1
  · -- an invalid byte: `\xHH`
    have hb := byte_toNat_lt b0
    have := reads_hex (c := 120) (Or.inl ⟨rfl, rfl⟩) (show b0.toNat < 16 ^ 2 from hb) (by omega)
    rw [if_pos rfl, byteOf_nat hb, UInt8.ofNat_toNat] at this
    rw [herr.2]
    simpa [dqPiece, herr.1, herr.2] using this
  · obtain ⟨hv, htake⟩ := decodeRune_valid_take (r := (decodeRune (b0 :: t)).1)
      (n := (decodeRune (b0 :: t)).2) rfl (List.cons_ne_nil _ _) herr
    rw [htake]
    exact dqPiece_reads_rune isPrint b0 hv herr

theorem dq_piece_step {e : Env} (isPrint : Int → Bool) (b0 : UInt8) (t : Bytes) (n p : Nat)
    (buf rest : Bytes)
    (hcur : Cur e p (dqPiece isPrint b0 (decodeRune (b0 :: t)).1 (decodeRune (b0 :: t)).2 ++ rest)) :
    doubleQuotedLoop (n + 1) buf e (st p) =
      doubleQuotedLoop n (buf ++ (b0 :: t).take (decodeRune (b0 :: t)).2) e
        (st (p + (dqPiece isPrint b0 (decodeRune (b0 :: t)).1 (decodeRune (b0 :: t)).2).length)) :=
  dqPiece_reads isPrint b0 t (s := st p) hcur

end C03
