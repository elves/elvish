/-
The three forms of string literal `quoteAs` can write, and the parser walked over one of them once: in any
state in front of the literal, whatever text follows that does not continue it, with the exact node.
-/
import ElvProofs.C03.DoubleLoop
import ElvProofs.C03.Single
import ElvProofs.C03.Bare
namespace C03
open Go
open C01
open Gen.C01Chars

/-- `w` is a string literal of type `ty` and value `v`, its bareword runes allowed in `ctx` -/
inductive Lit (isPrint : Int → Bool) (ctx : Int) : Bytes → Int → Bytes → Prop
  | bare {v : Bytes} : v ≠ [] →
      AllRunes (fun r => r ≠ RuneError ∧ allowedInBareword isPrint ((r : Nat) : Int) ctx = true) v →
      Lit isPrint ctx v Bareword v
  | single {v : Bytes} : AllRunes (fun r => r ≠ RuneError) v → Lit isPrint ctx (quoteSingle v) SingleQuoted v
  | double {isPrint' : Int → Bool} {v body : Bytes} : DQ isPrint' v body →
      Lit isPrint ctx (34 :: (body ++ [34])) DoubleQuoted v

namespace Lit
variable {isPrint : Int → Bool} {ctx ty : Int} {w v : Bytes}

theorem ty_cases (h : Lit isPrint ctx w ty v) : ty = Bareword ∨ ty = SingleQuoted ∨ ty = DoubleQuoted := by
  cases h
  · exact Or.inl rfl
  · exact Or.inr (Or.inl rfl)
  · exact Or.inr (Or.inr rfl)

theorem ne_nil (h : Lit isPrint ctx w ty v) : w ≠ [] := by
  cases h with
  | bare hne _ => exact hne
  | single _ => rw [quoteSingle_eq]; exact List.cons_ne_nil _ _
  | double _ => exact List.cons_ne_nil _ _

/-- the first rune of a literal starts a primary, whatever follows -/
theorem starts (h : Lit isPrint ctx w ty v) (rest : Bytes) :
    startsPrimary isPrint (firstRune (w ++ rest)) ctx = true := by
  cases h with
  | bare hne hall =>
    rw [firstRune_append rest hne (hall.head hne).1]
    exact startsPrimary_of_bareword (hall.head hne).2
  | single _ =>
    rw [quoteSingle_eq, List.cons_append, firstRune_byte _ _ (by decide)]
    exact startsIndexing_squote _ _
  | double _ =>
    rw [List.cons_append, firstRune_byte _ _ (by decide)]
    exact startsIndexing_dquote _ _

theorem primary_at {e : Env} (h : Lit e.isPrint ctx w ty v) {s : St} {rest : Bytes} (fuel : Nat)
    (hc : Cur e s.pos (w ++ rest)) (hstop : startsPrimary e.isPrint (firstRune rest) ctx = false) :
    parseNT (fuel + 1) (.primary ctx) e s = .ok (litNode ctx ty s.pos w v) (adv s w.length) := by
  cases h with
  | bare hne hall => exact primary_bare_at ctx fuel hne hall (not_bareword_of_not_starts hstop) hc
  | single hall => exact primary_single_at ctx fuel hall (ne_squote_of_not_starts hstop) hc
  | double hd => exact primary_double_at ctx fuel hd hc

theorem word_at {e : Env} (h : Lit e.isPrint ctx w ty v) {s : St} {rest : Bytes} (fuel : Nat)
    (hc : Cur e s.pos (w ++ rest)) (hnt : firstRune (w ++ rest) ≠ 126)
    (hstop : startsIndexing e.isPrint (firstRune rest) ctx = false) :
    parseNT (fuel + 3) (.compound ctx) e s =
      .ok (wordAt ctx s.pos w (litNode ctx ty s.pos w v)) (adv s w.length) :=
  C03.word_at fuel (h.primary_at fuel hc hstop) hc (h.starts rest) hnt hstop

/-- the cursor at 0 and nothing behind the word -/
theorem parseAs (h : Lit isPrint ctx w ty v) (hnt : firstRune (w ++ []) ≠ 126) :
    parseAs isPrint (.compound ctx) w = .ok (wordTree ctx w ty v) [] := by
  refine parseAs_of_run fun f => ?_
  have hc : Cur { isPrint := isPrint, src := w } (st 0).pos (w ++ []) := by
    rw [List.append_nil]; exact Cur.zero _
  rw [h.word_at (e := { isPrint := isPrint, src := w }) f hc hnt (startsIndexing_eof isPrint ctx),
    wordTree_eq, adv_st, Nat.zero_add]
  rfl

end Lit
end C03
