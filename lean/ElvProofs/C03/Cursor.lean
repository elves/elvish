/-
Running the C01 parser monad on a known source: `Cur e p rest` says the unread text at position `p` is
`rest`; the equations of `peek` / `next` hold in ANY state `s` with `Cur e s.pos rest` (only the position
matters; `overEOF` and the recorded errors are carried along in `adv s n`).
-/
import ElvModel.C03.Model
import ElvProofs.Lemmas.Utf8
import ElvProofs.C01.Hoare
namespace C03
open Go
open C01
open Gen.C01Chars

def st (p : Nat) : St := { pos := p, overEOF := 0, errors := [] }

def Cur (e : Env) (p : Nat) (rest : Bytes) : Prop :=
  p ≤ e.src.length ∧ e.src.drop p = rest

theorem Cur.len {e : Env} {p : Nat} {rest : Bytes} (h : Cur e p rest) :
    p + rest.length = e.src.length := by
  have h2 := congrArg List.length h.2
  rw [List.length_drop] at h2
  have := h.1
  omega

theorem Cur.zero (e : Env) : Cur e 0 e.src := ⟨Nat.zero_le _, rfl⟩

theorem Cur.drop {e : Env} {p : Nat} {rest : Bytes} (h : Cur e p rest) (w : Nat)
    (hw : w ≤ rest.length) : Cur e (p + w) (rest.drop w) := by
  have hl := h.len
  refine ⟨by omega, ?_⟩
  rw [← h.2, List.drop_drop]

theorem Cur.adv {e : Env} {p : Nat} {a rest : Bytes} (h : Cur e p (a ++ rest)) :
    Cur e (p + a.length) rest := by
  have := h.drop a.length (by simp)
  rwa [List.drop_left] at this

theorem Cur.adv1 {e : Env} {p : Nat} {b : UInt8} {rest : Bytes} (h : Cur e p (b :: rest)) :
    Cur e (p + 1) rest := Cur.adv (a := [b]) h

theorem Cur.end_eq {e : Env} {p : Nat} (h : Cur e p []) : p = e.src.length := by
  simpa using h.len

theorem bind_of_eq {α β} {m : M α} {f : α → M β} {e : Env} {s s' : St} {a : α}
    (h : m e s = .ok a s') : (m >>= f) e s = f a e s' := C01.bind_of_eq h

def adv (s : St) (n : Nat) : St := { s with pos := s.pos + n }

theorem adv_adv (s : St) (a b : Nat) : adv (adv s a) b = adv s (a + b) := by
  simp [adv, Nat.add_assoc]

theorem adv_zero (s : St) : adv s 0 = s := rfl

theorem adv_st (p n : Nat) : adv (st p) n = st (p + n) := rfl

/-- what `peek` returns in front of the text `t`: its first rune, `eof` at the end -/
def firstRune (t : Bytes) : Int := if t = [] then eof else (((decodeRune t).1 : Nat) : Int)

theorem firstRune_of_ne_nil {t : Bytes} (hne : t ≠ []) :
    firstRune t = (((decodeRune t).1 : Nat) : Int) := if_neg hne

theorem firstRune_byte (b : UInt8) (t : Bytes) (hb : b.toNat < 0x80) :
    firstRune (b :: t) = ((b.toNat : Nat) : Int) := by
  rw [firstRune_of_ne_nil (List.cons_ne_nil _ _), decodeRune_one b t hb]

theorem firstRune_enc {r : Nat} (hv : validRune r = true) (t : Bytes) :
    firstRune (encodeRune r ++ t) = ((r : Nat) : Int) := by
  rw [firstRune_of_ne_nil (by simp [encodeRune_ne_nil r]), decodeRune_encodeRune_append r hv t]

section
variable {e : Env} {s : St}

theorem peek_at {t : Bytes} (h : Cur e s.pos t) : peek e s = .ok (firstRune t) s := by
  have hl := h.len
  unfold peek firstRune
  by_cases ht : t = []
  · have : s.pos = e.src.length := by simpa [ht] using hl
    simp [this, ht]
  · have h0 : 0 < t.length := List.length_pos_iff.2 ht
    have h1 : s.pos ≠ e.src.length := by omega
    simp [h1, h.1, ht, h.2]

theorem peek_at_byte {b : UInt8} {t : Bytes} (h : Cur e s.pos (b :: t)) (hb : b.toNat < 0x80) :
    peek e s = .ok ((b.toNat : Nat) : Int) s := by
  rw [peek_at h, firstRune_byte b t hb]

theorem next_at {t : Bytes} (h : Cur e s.pos t) (hne : t ≠ []) :
    next e s = .ok (((decodeRune t).1 : Nat) : Int) (adv s (decodeRune t).2) := by
  have hl := h.len
  have h0 : 0 < t.length := List.length_pos_iff.2 hne
  have h1 : s.pos ≠ e.src.length := by omega
  unfold next
  simp [h1, h.1, h.2, adv]

theorem next_at_byte {b : UInt8} {t : Bytes} (h : Cur e s.pos (b :: t)) (hb : b.toNat < 0x80) :
    next e s = .ok ((b.toNat : Nat) : Int) (adv s 1) := by
  rw [next_at h (List.cons_ne_nil _ _), decodeRune_one b t hb]

theorem next_at_enc {r : Nat} {t : Bytes} (h : Cur e s.pos (encodeRune r ++ t)) (hv : validRune r = true) :
    next e s = .ok ((r : Nat) : Int) (adv s (encodeRune r).length) := by
  rw [next_at h (by simp [encodeRune_ne_nil r]), decodeRune_encodeRune_append r hv t]

theorem sliceSrc_consumed {s' : St} {w rest : Bytes} (hc : Cur e s.pos (w ++ rest)) :
    sliceSrc s.pos (adv s w.length).pos e s' = .ok w s' := by
  have hlen := hc.len
  rw [List.length_append] at hlen
  show sliceSrc s.pos (s.pos + w.length) e s' = _
  rw [sliceSrc_eq (Nat.le_add_right _ _) (by omega), srcSlice, Nat.add_sub_cancel_left, hc.2,
    List.take_left]

/-- The wrapper `parse[N]` around a body that consumed exactly `w` and left `From` alone: the node
spans `w`, with the fields and children the body built. -/
theorem parseNT_wrap {nt : NT} {fuel : Nat} {nb : NB} {w rest : Bytes} (hc : Cur e s.pos (w ++ rest))
    (hbody : body (fun nt' => parseNT fuel nt') nt { frm := s.pos, f := nt.init, children := [] } e s =
      .ok nb (adv s w.length))
    (hfrm : nb.frm = s.pos) :
    parseNT (fuel + 1) nt e s =
      .ok (.mk nt.kind s.pos (s.pos + w.length) w nb.f nb.children) (adv s w.length) := by
  simp only [parseNT, wrap]
  rw [bind_of_eq (getPos_eq e s), bind_of_eq hbody, bind_of_eq (getPos_eq e _), hfrm,
    bind_of_eq (sliceSrc_consumed hc)]
  rfl

end

theorem firstRune_runes {r : Nat} (hv : validRune r = true) (rs : List Nat) (t : Bytes) :
    firstRune (encodeRunes (r :: rs) ++ t) = ((r : Nat) : Int) := by
  rw [encodeRunes_cons, List.append_assoc, firstRune_enc hv]

/-- a text that opens with a well-formed rune keeps its first rune whatever follows it -/
theorem firstRune_append {t : Bytes} (rest : Bytes) (hne : t ≠ [])
    (h0 : (decodeRune t).1 ≠ RuneError) : firstRune (t ++ rest) = (((decodeRune t).1 : Nat) : Int) := by
  obtain ⟨hv, ht, _⟩ := decodeRune_eq_encodeRune_append (s := t) (r := (decodeRune t).1) rfl hne
    fun h => h0 h.1
  generalize (decodeRune t).1 = r at hv ht ⊢
  rw [ht, List.append_assoc, firstRune_enc hv]

theorem length_le_encodeRunes : ∀ rs : List Nat, rs.length ≤ (encodeRunes rs).length
  | [] => Nat.le_refl _
  | r :: rs => by
    have h1 := encodeRune_length_pos r
    have h2 := length_le_encodeRunes rs
    rw [encodeRunes_cons, List.length_append, List.length_cons]
    omega

theorem peek_nil {e : Env} {p : Nat} (h : Cur e p []) : peek e (st p) = .ok eof (st p) :=
  peek_at (s := st p) h

theorem peek_cons {e : Env} {p : Nat} {rest : Bytes} (h : Cur e p rest) (hne : rest ≠ []) :
    peek e (st p) = .ok (((decodeRune rest).1 : Nat) : Int) (st p) := by
  rw [peek_at (s := st p) h, firstRune_of_ne_nil hne]

theorem next_cons {e : Env} {p : Nat} {rest : Bytes} (h : Cur e p rest) (hne : rest ≠ []) :
    next e (st p) = .ok (((decodeRune rest).1 : Nat) : Int) (st (p + (decodeRune rest).2)) :=
  next_at (s := st p) h hne

theorem writeRune_nat (r : Nat) : writeRune ((r : Nat) : Int) = encodeRune r := by
  unfold writeRune
  have : ¬ ((r : Int) < 0) := by omega
  simp [this]

theorem nat_ne_eof (r : Nat) : (((r : Nat) : Int) == eof) = false := by
  simp only [beq_eq_false_iff_ne, eof]; omega

theorem parseSep_no {e : Env} {s : St} {t : Bytes} (nb : NB) (sep : Int) (hc : Cur e s.pos t)
    (hno : firstRune t ≠ sep) : parseSep nb sep e s = .ok (false, nb) s := by
  unfold parseSep
  rw [bind_of_eq (peek_at hc), if_neg (by simpa using hno)]
  rfl

/-- every rune `for _, r := range s` yields satisfies `P` -/
def AllRunes (P : Nat → Prop) (s : Bytes) : Prop := ∀ x ∈ runes s, P x.2.1

theorem AllRunes.nil {P : Nat → Prop} : AllRunes P [] := fun _ hx => by simp at hx

theorem AllRunes.head {P : Nat → Prop} {s : Bytes} (h : AllRunes P s) (hne : s ≠ []) :
    P (decodeRune s).1 := by
  have := h (0, (decodeRune s).1, (decodeRune s).2) (by rw [runes_of_ne_nil hne]; simp)
  exact this

theorem AllRunes.tail {P : Nat → Prop} {s : Bytes} (h : AllRunes P s) (hne : s ≠ []) :
    AllRunes P (s.drop (decodeRune s).2) := by
  intro x hx
  have := h ((decodeRune s).2 + x.1, x.2) (by
    rw [runes_of_ne_nil hne]
    exact List.mem_cons_of_mem _ (mem_shiftRunes.2 ⟨x, hx, rfl⟩))
  exact this

theorem AllRunes.mono {P Q : Nat → Prop} {s : Bytes} (h : AllRunes P s) (hpq : ∀ r, P r → Q r) :
    AllRunes Q s := fun x hx => hpq _ (h x hx)

theorem AllRunes.and {P Q : Nat → Prop} {s : Bytes} (h1 : AllRunes P s) (h2 : AllRunes Q s) :
    AllRunes (fun r => P r ∧ Q r) s := fun x hx => ⟨h1 x hx, h2 x hx⟩

theorem AllRunes.validUtf8 {t : Bytes} (h : AllRunes (fun r => r ≠ RuneError) t) : validUtf8 t = true := by
  rw [Go.validUtf8, List.all_eq_true]
  intro x hx
  have : (x.2.1 == RuneError) = false := beq_eq_false_iff_ne.2 (h x hx)
  simp [this]

theorem AllRunes.toRunes {P : Nat → Prop} {s : Bytes} (h : AllRunes P s) : ∀ r ∈ toRunes s, P r := by
  intro r hr
  obtain ⟨x, hx, rfl⟩ := List.mem_map.1 hr
  exact h x hx

end C03
