/-
Single quotes: `singleQuotedInner` undoes `quoteSingle` on every string that
decodes without U+FFFD (valid UTF-8 not containing U+FFFD — the only strings
`quoteAs` / `QuoteVariableName` hand to `quoteSingle`).
-/
import ElvProofs.C03.Word
namespace C03
open Go
open C01
open Gen.C01Chars

/-- the text between the quotes -/
def sqBody (t : Bytes) : Bytes := (runes t).flatMap (fun x => sqPiece x.2.1)

theorem quoteSingle_eq (t : Bytes) : quoteSingle t = 39 :: (sqBody t ++ [39]) := by
  simp [quoteSingle, sqBody]

@[simp] theorem sqBody_nil : sqBody [] = [] := rfl

theorem sqBody_cons {t : Bytes} (hne : t ≠ []) :
    sqBody t = sqPiece (decodeRune t).1 ++ sqBody (t.drop (decodeRune t).2) := by
  unfold sqBody
  rw [runes_of_ne_nil hne, List.flatMap_cons]
  congr 1
  simp [shiftRunes, List.flatMap_map]

theorem sqPiece_length_pos (r : Rune) : 0 < (sqPiece r).length := by
  have := encodeRune_length_pos r
  rw [sqPiece, List.length_append]
  omega

theorem sqBody_eq_flatMap (t : Bytes) : sqBody t = (toRunes t).flatMap sqPiece := by
  rw [sqBody, toRunes, List.flatMap_map]

theorem length_le_flatMap_sqPiece : ∀ rs : List Nat, rs.length ≤ (rs.flatMap sqPiece).length
  | [] => Nat.le_refl _
  | r :: rs => by
    have := sqPiece_length_pos r
    have := length_le_flatMap_sqPiece rs
    rw [List.flatMap_cons, List.length_append, List.length_cons]
    omega

section loop
variable {e : Env} {s : St} {n : Nat} {buf rest : Bytes}

theorem sq_loop_close (hc : Cur e s.pos (39 :: rest)) (hstop : firstRune rest ≠ 39) :
    singleQuotedLoop (n + 1) buf e s = .ok buf (adv s 1) := by
  unfold singleQuotedLoop
  rw [bind_of_eq (next_at_byte hc (by decide))]
  simp +decide only [↓reduceIte]
  rw [bind_of_eq (peek_at (s := adv s 1) hc.adv1), if_neg (by simpa using hstop)]
  rfl

theorem sq_loop_quote (hc : Cur e s.pos (39 :: 39 :: rest)) :
    singleQuotedLoop (n + 1) buf e s = singleQuotedLoop n (buf ++ [39]) e (adv s 2) := by
  conv => lhs; unfold singleQuotedLoop
  rw [bind_of_eq (next_at_byte hc (by decide))]
  simp +decide only [↓reduceIte]
  rw [bind_of_eq (peek_at (s := adv s 1) hc.adv1), firstRune_byte 39 _ (by decide)]
  simp +decide only [↓reduceIte]
  rw [bind_of_eq (next_at_byte (s := adv s 1) hc.adv1 (by decide)), adv_adv]

theorem sq_loop_literal {r : Nat} (hv : validRune r = true) (h39 : r ≠ 39)
    (hc : Cur e s.pos (encodeRune r ++ rest)) :
    singleQuotedLoop (n + 1) buf e s =
      singleQuotedLoop n (buf ++ encodeRune r) e (adv s (encodeRune r).length) := by
  conv => lhs; unfold singleQuotedLoop
  have hi39 : (((r : Nat) : Int) == 39) = false := by
    rw [beq_eq_false_iff_ne]; exact_mod_cast h39
  rw [bind_of_eq (next_at_enc hc hv)]
  simp only [nat_ne_eof, hi39, Bool.false_eq_true, if_false, writeRune_nat]

theorem sq_piece_step {r : Nat} (hv : validRune r = true) (hc : Cur e s.pos (sqPiece r ++ rest)) :
    singleQuotedLoop (n + 1) buf e s =
      singleQuotedLoop n (buf ++ encodeRune r) e (adv s (sqPiece r).length) := by
  unfold sqPiece at hc ⊢
  by_cases h39 : r = 39
  · subst h39
    exact sq_loop_quote hc
  · rw [if_neg (by simpa using h39), List.append_nil] at hc ⊢
    exact sq_loop_literal hv h39 hc

end loop

theorem singleQuotedLoop_runes {e : Env} :
    ∀ (rs : List Nat) (n : Nat) (s : St) (buf rest : Bytes), (∀ r ∈ rs, validRune r = true) →
      firstRune rest ≠ 39 → rs.length < n → Cur e s.pos (rs.flatMap sqPiece ++ 39 :: rest) →
      singleQuotedLoop n buf e s =
        .ok (buf ++ encodeRunes rs) (adv s ((rs.flatMap sqPiece).length + 1))
  | [], n + 1, s, buf, rest, _, hstop, _, hc => by
    rw [sq_loop_close hc hstop, encodeRunes_nil, List.append_nil]
    rfl
  | r :: rs, n + 1, s, buf, rest, hall, hstop, hn, hc => by
    rw [List.flatMap_cons, List.append_assoc] at hc
    rw [sq_piece_step (hall r List.mem_cons_self) hc,
      singleQuotedLoop_runes rs n (adv s (sqPiece r).length) _ rest
        (fun x hx => hall x (List.mem_cons_of_mem _ hx)) hstop (Nat.lt_of_succ_lt_succ hn) hc.adv,
      adv_adv, encodeRunes_cons, List.append_assoc, List.flatMap_cons, List.length_append, Nat.add_assoc]

theorem singleQuotedInner_runes {e : Env} {s : St} {rs : List Nat} {rest : Bytes}
    (hall : ∀ r ∈ rs, validRune r = true) (hstop : firstRune rest ≠ 39)
    (hc : Cur e s.pos (rs.flatMap sqPiece ++ 39 :: rest)) :
    singleQuotedInner e s = .ok (encodeRunes rs) (adv s ((rs.flatMap sqPiece).length + 1)) := by
  have hl := hc.len
  have := length_le_flatMap_sqPiece rs
  rw [List.length_append] at hl
  unfold singleQuotedInner
  rw [bind_of_eq (loopFuel_eq _ _)]
  exact singleQuotedLoop_runes rs _ s [] rest hall hstop (by omega) hc

section
variable {e : Env} {s : St} {t rest : Bytes}

theorem singleQuotedLoop_at {n : Nat} {buf : Bytes} (hn : (runes t).length < n)
    (hc : Cur e s.pos (sqBody t ++ 39 :: rest)) (hall : AllRunes (fun r => r ≠ RuneError) t)
    (hstop : firstRune rest ≠ 39) :
    singleQuotedLoop n buf e s = .ok (buf ++ t) (adv s ((sqBody t).length + 1)) := by
  rw [sqBody_eq_flatMap] at hc ⊢
  have := singleQuotedLoop_runes (toRunes t) n s buf rest (toRunes_validRune t) hstop
    (by rwa [toRunes, List.length_map]) hc
  rwa [encodeRunes_toRunes hall.validUtf8] at this

theorem singleQuotedInner_at (hc : Cur e s.pos (sqBody t ++ 39 :: rest))
    (hall : AllRunes (fun r => r ≠ RuneError) t) (hstop : firstRune rest ≠ 39) :
    singleQuotedInner e s = .ok t (adv s ((sqBody t).length + 1)) := by
  rw [sqBody_eq_flatMap] at hc ⊢
  have := singleQuotedInner_runes (toRunes_validRune t) hstop hc
  rwa [encodeRunes_toRunes hall.validUtf8] at this

end

theorem primary_single_at {e : Env} {s : St} {t rest : Bytes} (ctx : Int) (fuel : Nat)
    (hall : AllRunes (fun r => r ≠ RuneError) t) (hstop : firstRune rest ≠ 39)
    (hc : Cur e s.pos (quoteSingle t ++ rest)) :
    parseNT (fuel + 1) (.primary ctx) e s =
      .ok (litNode ctx SingleQuoted s.pos (quoteSingle t) t) (adv s (quoteSingle t).length) := by
  have hc0 : Cur e s.pos (39 :: (sqBody t ++ 39 :: rest)) := by simpa [quoteSingle_eq] using hc
  refine primary_wrap hc ?_
  rw [primaryBody_of_squote (peek_at_byte hc0 (by decide))]
  unfold singleQuoted
  rw [bind_of_eq (next_at_byte hc0 (by decide)),
    bind_of_eq (singleQuotedInner_at (s := adv s 1) hc0.adv1 hall hstop), adv_adv,
    show (quoteSingle t).length = 1 + ((sqBody t).length + 1) by simp [quoteSingle_eq, Nat.add_comm]]
  rfl

theorem singleQuotedLoop_rt {e : Env} :
    ∀ (n : Nat) (t : Bytes) (p : Nat) (buf : Bytes), (runes t).length < n →
      Cur e p (sqBody t ++ [39]) → AllRunes (fun r => r ≠ RuneError) t →
      singleQuotedLoop n buf e (st p) = .ok (buf ++ t) (st e.src.length) := by
  intro n t p buf hn hc hall
  have hl := hc.len
  rw [List.length_append, List.length_singleton] at hl
  rw [singleQuotedLoop_at (s := st p) hn hc hall (by decide), adv_st, hl]

end C03
