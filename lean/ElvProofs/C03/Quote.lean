/-
Case analysis of `quoteAs` / `QuoteVariableName`, and `ParseAs` of each form they can produce.
-/
import ElvProofs.C03.Lit
namespace C03
open Go
open C01
open Gen.C01Chars

theorem strict_any {isPrint : Int → Bool} {r : Int} (ctx : Int)
    (h : allowedInBareword isPrint r strictExpr = true) : allowedInBareword isPrint r ctx = true := by
  unfold allowedInBareword at h ⊢
  simp only [show (strictExpr != strictExpr) = false by decide, Bool.and_false, Bool.false_and,
    Bool.or_false, show (strictExpr == CmdExpr) = false by decide] at h
  rw [Bool.or_eq_true, Bool.or_eq_true, Bool.or_eq_true]
  exact Or.inl (Or.inl (Or.inl (by simpa using h)))

/-- `ctxQ` (the context the quoting was decided in) is at least as strict as
`ctxP` (the context the text is parsed in). -/
def CtxLe (isPrint : Int → Bool) (ctxQ ctxP : Int) : Prop :=
  ∀ r : Int, allowedInBareword isPrint r ctxQ = true → allowedInBareword isPrint r ctxP = true

theorem CtxLe.refl (isPrint : Int → Bool) (ctx : Int) : CtxLe isPrint ctx ctx := fun _ h => h
theorem CtxLe.strict (isPrint : Int → Bool) (ctx : Int) : CtxLe isPrint strictExpr ctx :=
  fun _ h => strict_any ctx h

theorem scanLoop_some {isPrint allowed : Int → Bool} :
    ∀ (l : List (Nat × Rune × Nat)) (b b' : Bool), scanLoop isPrint allowed l b = some b' →
      (∀ x ∈ l, x.2.1 ≠ RuneError) ∧
      (b' = true → b = true ∧ ∀ x ∈ l, allowed ((x.2.1 : Nat) : Int) = true)
  | [], b, b', h => by
    simp only [scanLoop, Option.some.injEq] at h
    subst h
    simp
  | x :: l, b, b', h => by
    unfold scanLoop at h
    split at h
    · cases h
    · rename_i hx
      simp only [Bool.or_eq_true, beq_iff_eq, Bool.not_eq_true', not_or] at hx
      obtain ⟨ih1, ih2⟩ := scanLoop_some l _ b' h
      refine ⟨List.forall_mem_cons.2 ⟨hx.1, ih1⟩, fun hb' => ?_⟩
      obtain ⟨hb, hl⟩ := ih2 hb'
      -- `bare` is still true behind this rune, so the rune was allowed
      have ha : allowed ((x.2.1 : Nat) : Int) = true := by
        cases ha : allowed ((x.2.1 : Nat) : Int)
        · simp [ha] at hb
        · rfl
      exact ⟨by simpa [ha] using hb, List.forall_mem_cons.2 ⟨ha, hl⟩⟩

theorem first_rune_ne_tilde {b0 : UInt8} {t : Bytes} (h : (b0 != 126) = true) :
    (decodeRune (b0 :: t)).1 ≠ 126 :=
  fun h126 => bne_iff_ne.1 h ((decodeRune_fst_eq_ascii (c := 126) t (by decide)).1 h126)

/-- What `quoteAs` writes is a literal for `s` that does not open with `~`. -/
theorem quoteAs_lit (isPrint : Int → Bool) (s : Bytes) (q ctxQ ctxP : Int) (hle : CtxLe isPrint ctxQ ctxP) :
    ∃ w ty, quoteAs isPrint s q ctxQ = .ok (w, ty) ∧ Lit isPrint ctxP w ty s ∧
      ∀ rest, firstRune (w ++ rest) ≠ 126 := by
  have hdouble : ∃ w, (quoteDouble isPrint s).map (·, DoubleQuoted) = .ok (w, DoubleQuoted) ∧
      Lit isPrint ctxP w DoubleQuoted s ∧ ∀ rest, firstRune (w ++ rest) ≠ 126 := by
    obtain ⟨body, hq, hd⟩ := quoteDouble_spec isPrint s
    exact ⟨_, by rw [hq]; rfl, .double hd, fun rest => by
      rw [List.cons_append, firstRune_byte _ _ (by decide)]; decide⟩
  have hsingle : ∀ t, AllRunes (fun r => r ≠ RuneError) t →
      Lit isPrint ctxP (quoteSingle t) SingleQuoted t ∧ ∀ rest, firstRune (quoteSingle t ++ rest) ≠ 126 :=
    fun t hall => ⟨.single hall, fun rest => by
      rw [quoteSingle_eq, List.cons_append, firstRune_byte _ _ (by decide)]; decide⟩
  unfold quoteAs
  by_cases hq : (q == DoubleQuoted) = true
  · obtain ⟨w, h1, h2⟩ := hdouble
    exact ⟨w, DoubleQuoted, by simp only [hq, if_true]; exact h1, h2⟩
  · simp only [hq, Bool.false_eq_true, if_false]
    match s with
    | [] => exact ⟨[39, 39], SingleQuoted, rfl, hsingle [] .nil⟩
    | b0 :: t =>
      simp only []
      cases hscan : scanLoop isPrint (fun r => allowedInBareword isPrint r ctxQ) (runes (b0 :: t))
          (b0 != 126) with
      | none =>
        obtain ⟨w, h1, h2⟩ := hdouble
        exact ⟨w, DoubleQuoted, h1, h2⟩
      | some bare =>
        obtain ⟨hne, hbare⟩ := scanLoop_some _ _ _ hscan
        simp only []
        by_cases hb : (q == Bareword && bare) = true
        · simp only [hb, if_true]
          obtain ⟨h0, hall⟩ := hbare (by simp only [Bool.and_eq_true] at hb; exact hb.2)
          have hall' : AllRunes (fun r => r ≠ RuneError ∧ allowedInBareword isPrint ((r : Nat) : Int) ctxP = true)
              (b0 :: t) := fun x hx => ⟨hne x hx, hle _ (hall x hx)⟩
          refine ⟨b0 :: t, Bareword, rfl, .bare (by simp) hall', fun rest hh => ?_⟩
          rw [firstRune_append rest (by simp) (hall'.head (by simp)).1] at hh
          exact first_rune_ne_tilde h0 (by exact_mod_cast hh)
        · simp only [hb, Bool.false_eq_true, if_false]
          exact ⟨_, SingleQuoted, rfl, hsingle _ hne⟩

theorem quoteAs_parse (isPrint : Int → Bool) (s : Bytes) (q ctxQ ctxP : Int)
    (hle : CtxLe isPrint ctxQ ctxP) :
    ∃ text ty, quoteAs isPrint s q ctxQ = .ok (text, ty) ∧
      (ty = Bareword ∨ ty = SingleQuoted ∨ ty = DoubleQuoted) ∧
      parseAs isPrint (.compound ctxP) text = .ok (wordTree ctxP text ty s) [] := by
  obtain ⟨w, ty, hq, hl, hnt⟩ := quoteAs_lit isPrint s q ctxQ ctxP hle
  exact ⟨w, ty, hq, hl.ty_cases, hl.parseAs (hnt [])⟩

section inPlace
variable {e : Env} {s : St} {rest : Bytes}

/-- `$'…'`: the variable name is read by `singleQuotedInner` -/
theorem primary_var_single_at {t : Bytes} (ctx : Int) (fuel : Nat)
    (hall : AllRunes (fun r => r ≠ RuneError) t) (hstop : firstRune rest ≠ 39)
    (hc : Cur e s.pos (36 :: quoteSingle t ++ rest)) :
    parseNT (fuel + 1) (.primary ctx) e s =
      .ok (litNode ctx Variable s.pos (36 :: quoteSingle t) t) (adv s (36 :: quoteSingle t).length) := by
  have hc0 : Cur e s.pos (36 :: 39 :: (sqBody t ++ 39 :: rest)) := by simpa [quoteSingle_eq] using hc
  refine primary_wrap hc ?_
  rw [primaryBody_of_dollar (peek_at_byte hc0 (by decide))]
  unfold variableP
  rw [bind_of_eq (getEnv_eq _ _), bind_of_eq (next_at_byte hc0 (by decide)),
    bind_of_eq (next_at_byte (s := adv s 1) hc0.adv1 (by decide))]
  simp +decide only [↓reduceIte]
  rw [bind_of_eq (singleQuotedInner_at (s := adv (adv s 1) 1) hc0.adv1.adv1 hall hstop), adv_adv, adv_adv,
    show (36 :: quoteSingle t).length = 1 + (1 + ((sqBody t).length + 1)) by
      simp [quoteSingle_eq]; omega]
  rfl

/-- `$"…"`: the variable name is read by `doubleQuotedInner` -/
theorem primary_var_double_at {isPrint : Int → Bool} {str body : Bytes} (ctx : Int) (fuel : Nat)
    (hd : DQ isPrint str body) (hc : Cur e s.pos (36 :: 34 :: (body ++ [34]) ++ rest)) :
    parseNT (fuel + 1) (.primary ctx) e s =
      .ok (litNode ctx Variable s.pos (36 :: 34 :: (body ++ [34])) str)
        (adv s (36 :: 34 :: (body ++ [34])).length) := by
  have hc0 : Cur e s.pos (36 :: 34 :: (body ++ 34 :: rest)) := by simpa using hc
  refine primary_wrap hc ?_
  rw [primaryBody_of_dollar (peek_at_byte hc0 (by decide))]
  unfold variableP
  rw [bind_of_eq (getEnv_eq _ _), bind_of_eq (next_at_byte hc0 (by decide)),
    bind_of_eq (next_at_byte (s := adv s 1) hc0.adv1 (by decide))]
  simp +decide only [↓reduceIte]
  rw [bind_of_eq (doubleQuotedInner_at (s := adv (adv s 1) 1) hd hc0.adv1.adv1), adv_adv, adv_adv,
    show (36 :: 34 :: (body ++ [34]) : Bytes).length = 1 + (1 + (body.length + 1)) by simp; omega]
  rfl

end inPlace

theorem quoteVariableName_parse (isPrint : Int → Bool) (s : Bytes) (ctx : Int) :
    ∃ text, QuoteVariableName isPrint s = .ok text ∧
      parseAs isPrint (.primary ctx) (36 :: text) = .ok (litNode ctx Variable 0 (36 :: text) s) [] := by
  -- each of the three forms is read in place, with the cursor at 0 and nothing behind the name
  have whole : ∀ {text : Bytes}, (∀ f, parseNT (f + 2 + 1) (.primary ctx) { isPrint := isPrint, src := 36 :: text }
        (st 0) = .ok (litNode ctx Variable 0 (36 :: text) s) (adv (st 0) (36 :: text).length)) →
      parseAs isPrint (.primary ctx) (36 :: text) = .ok (litNode ctx Variable 0 (36 :: text) s) [] :=
    fun h => parseAs_of_run fun f => by rw [h f, adv_st, Nat.zero_add]
  have hc : ∀ text : Bytes, Cur { isPrint := isPrint, src := 36 :: text } (st 0).pos (36 :: text ++ []) :=
    fun text => by rw [List.append_nil]; exact Cur.zero _
  have hdouble : ∃ text, quoteDouble isPrint s = .ok text ∧
      parseAs isPrint (.primary ctx) (36 :: text) = .ok (litNode ctx Variable 0 (36 :: text) s) [] := by
    obtain ⟨body, hq, hd⟩ := quoteDouble_spec isPrint s
    exact ⟨_, hq, whole fun f => primary_var_double_at ctx (f + 2) hd (hc _)⟩
  have hsingle : AllRunes (fun r => r ≠ RuneError) s →
      parseAs isPrint (.primary ctx) (36 :: quoteSingle s) =
        .ok (litNode ctx Variable 0 (36 :: quoteSingle s) s) [] :=
    fun hall => whole fun f => primary_var_single_at ctx (f + 2) hall (by decide) (hc _)
  unfold QuoteVariableName
  match s with
  | [] => exact ⟨[39, 39], rfl, hsingle .nil⟩
  | b0 :: t =>
    simp only []
    cases hscan : scanLoop isPrint (allowedInVariableName isPrint) (runes (b0 :: t)) true with
    | none => exact hdouble
    | some bare =>
      obtain ⟨hne, hbare⟩ := scanLoop_some _ _ _ hscan
      simp only []
      by_cases hb : bare = true
      · simp only [hb, if_true]
        exact ⟨_, rfl, whole fun f => primary_var_bare_at ctx (f + 2) (List.cons_ne_nil _ _)
          (fun x hx => ⟨hne x hx, (hbare hb).2 x hx⟩) (allowedInVariableName_eof _) (hc _)⟩
      · simp only [hb, Bool.false_eq_true, if_false]
        exact ⟨_, rfl, hsingle hne⟩

end C03
