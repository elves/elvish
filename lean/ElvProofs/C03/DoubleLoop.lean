/-
`quoteDouble` terminates without panic on every byte string, and
`doubleQuotedInner` reads its output back to exactly that string.
-/
import ElvProofs.C03.Double
import ElvProofs.C03.Word
namespace C03
open Go
open C01
open Gen.C01Chars

/-- `DQ s body`: `body` is the concatenation of the pieces `quoteDouble` writes
for the runes of `s`. -/
inductive DQ (isPrint : Int → Bool) : Bytes → Bytes → Prop
  | nil : DQ isPrint [] []
  | cons (b0 : UInt8) (t body : Bytes) :
      DQ isPrint ((b0 :: t).drop (decodeRune (b0 :: t)).2) body →
      DQ isPrint (b0 :: t)
        (dqPiece isPrint b0 (decodeRune (b0 :: t)).1 (decodeRune (b0 :: t)).2 ++ body)

theorem quoteDoubleLoop_spec (isPrint : Int → Bool) :
    ∀ (fuel : Nat) (s buf : Bytes), s.length ≤ fuel →
      ∃ body, quoteDoubleLoop isPrint fuel s buf = .ok (buf ++ body) ∧ DQ isPrint s body
  | _, [], buf, _ => ⟨[], by cases ‹Nat› <;> simp [quoteDoubleLoop], .nil⟩
  | 0, _ :: _, _, h => by simp at h
  | fuel + 1, b0 :: t, buf, h => by
    have hle := Go.decodeRune_size_le (b0 :: t)
    have hpos := Go.decodeRune_size_pos (s := b0 :: t) (by simp)
    have hlen : ((b0 :: t).drop (decodeRune (b0 :: t)).2).length ≤ fuel := by
      rw [List.length_drop]; simp only [List.length_cons] at h ⊢; omega
    obtain ⟨body, hq, hd⟩ := quoteDoubleLoop_spec isPrint fuel _
      (buf ++ dqPiece isPrint b0 (decodeRune (b0 :: t)).1 (decodeRune (b0 :: t)).2) hlen
    refine ⟨_, ?_, .cons b0 t body hd⟩
    rw [quoteDoubleLoop, if_pos hle, hq, List.append_assoc]

theorem quoteDouble_spec (isPrint : Int → Bool) (s : Bytes) :
    ∃ body, quoteDouble isPrint s = .ok (34 :: (body ++ [34])) ∧ DQ isPrint s body := by
  obtain ⟨body, hq, hd⟩ := quoteDoubleLoop_spec isPrint (s.length + 1) s [34] (by omega)
  exact ⟨body, by simp [quoteDouble, hq, QRes.map], hd⟩

theorem ite_length_pos {c : Prop} [Decidable c] {a b : Bytes} (ha : 0 < a.length)
    (hb : 0 < b.length) : 0 < (if c then a else b).length := by
  split <;> assumption

theorem dqPiece_length_pos (isPrint : Int → Bool) (b0 : UInt8) (r w : Nat) :
    0 < (dqPiece isPrint b0 r w).length := by
  have hesc (c : UInt8) (l : Bytes) : 0 < ([92, c] ++ l).length := Nat.succ_pos _
  unfold dqPiece
  refine ite_length_pos (hesc ..) ?_
  cases doubleUnescape.lookup (r : Int) with
  | some c => exact Nat.succ_pos _
  | none =>
    exact ite_length_pos (encodeRune_length_pos r)
      (ite_length_pos (hesc ..) (ite_length_pos (hesc ..) (hesc ..)))

section
variable {e : Env} {isPrint : Int → Bool} {str body : Bytes}

theorem dq_loop_close {s : St} {n : Nat} {buf rest : Bytes} (hc : Cur e s.pos (34 :: rest)) :
    doubleQuotedLoop (n + 1) buf e s = .ok buf (adv s 1) := by
  unfold doubleQuotedLoop
  rw [bind_of_eq (next_at_byte hc (by decide))]
  rfl

theorem doubleQuotedLoop_at (h : DQ isPrint str body) :
    ∀ (n : Nat) (s : St) (buf rest : Bytes), body.length < n → Cur e s.pos (body ++ 34 :: rest) →
      doubleQuotedLoop n buf e s = .ok (buf ++ str) (adv s (body.length + 1)) := by
  induction h with
  | nil =>
    intro n s buf rest hn hc
    match n, hn with
    | n + 1, _ => rw [dq_loop_close hc, List.append_nil]; rfl
  | cons b0 t body _ ih =>
    intro n s buf rest hn hc
    match n, hn with
    | n + 1, hn =>
      have hpos := dqPiece_length_pos isPrint b0 (decodeRune (b0 :: t)).1 (decodeRune (b0 :: t)).2
      rw [List.length_append] at hn
      rw [List.append_assoc] at hc
      rw [dqPiece_reads isPrint b0 t hc, ih n (adv s _) _ rest (by omega) hc.adv, adv_adv,
        List.append_assoc, List.take_append_drop, List.length_append, Nat.add_assoc]

theorem doubleQuotedInner_at {s : St} {rest : Bytes} (hd : DQ isPrint str body)
    (hc : Cur e s.pos (body ++ 34 :: rest)) :
    doubleQuotedInner e s = .ok str (adv s (body.length + 1)) := by
  have hl := hc.len
  rw [List.length_append] at hl
  unfold doubleQuotedInner
  rw [bind_of_eq (loopFuel_eq _ _)]
  exact doubleQuotedLoop_at hd _ s [] rest (by omega) hc

end

theorem primary_double_at {e : Env} {isPrint : Int → Bool} {s : St} {str body rest : Bytes} (ctx : Int)
    (fuel : Nat) (hd : DQ isPrint str body) (hc : Cur e s.pos (34 :: (body ++ [34]) ++ rest)) :
    parseNT (fuel + 1) (.primary ctx) e s =
      .ok (litNode ctx DoubleQuoted s.pos (34 :: (body ++ [34])) str)
        (adv s (34 :: (body ++ [34])).length) := by
  have hc0 : Cur e s.pos (34 :: (body ++ 34 :: rest)) := by simpa using hc
  refine primary_wrap hc ?_
  rw [primaryBody_of_dquote (peek_at_byte hc0 (by decide))]
  unfold doubleQuoted
  rw [bind_of_eq (next_at_byte hc0 (by decide)),
    bind_of_eq (doubleQuotedInner_at (s := adv s 1) hd hc0.adv1), adv_adv,
    show (34 :: (body ++ [34]) : Bytes).length = 1 + (body.length + 1) by simp [Nat.add_comm]]
  rfl

theorem doubleQuotedLoop_rt {e : Env} {isPrint : Int → Bool} {s body : Bytes} (h : DQ isPrint s body) :
    ∀ (n p : Nat) (buf : Bytes), body.length < n → Cur e p (body ++ [34]) →
      doubleQuotedLoop n buf e (st p) = .ok (buf ++ s) (st e.src.length) := by
  intro n p buf hn hc
  have hl := hc.len
  rw [List.length_append, List.length_singleton] at hl
  rw [doubleQuotedLoop_at h n (st p) buf [] hn hc, adv_st, hl]

end C03
