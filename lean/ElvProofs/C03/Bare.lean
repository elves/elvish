/-
Barewords and plain variable names: `for allowed(ps.peek()) { ps.next() }` runs over a text all of whose
runes are allowed and stops in front of the first that is not.
-/
import ElvProofs.C03.Word
namespace C03
open Go
open C01
open Gen.C01Chars

theorem skipWhile_all {e : Env} (pr : Int → Bool) (hp : pr eof = false) :
    ∀ (n p : Nat) (rest : Bytes), Cur e p rest → rest.length < n →
      AllRunes (fun r => pr ((r : Nat) : Int) = true) rest →
      skipWhile pr n e (st p) = .ok () (st e.src.length)
  | 0, _, _, _, hn, _ => absurd hn (Nat.not_lt_zero _)
  | n + 1, p, rest, hc, hn, hall => by
    unfold skipWhile
    by_cases hne : rest = []
    · subst hne
      rw [bind_of_eq (peek_nil hc), hp, ← hc.end_eq]
      rfl
    · have hw := decodeRune_size_pos hne
      have hle := Go.decodeRune_size_le rest
      rw [bind_of_eq (peek_cons hc hne), hall.head hne, if_pos rfl, bind_of_eq (next_cons hc hne)]
      exact skipWhile_all pr hp n _ _ (hc.drop _ hle) (by rw [List.length_drop]; omega) (hall.tail hne)

theorem skipWhile_runes {e : Env} (pr : Int → Bool) :
    ∀ (rs : List Nat) (n : Nat) (s : St) (rest : Bytes),
      (∀ r ∈ rs, validRune r = true ∧ pr ((r : Nat) : Int) = true) → pr (firstRune rest) = false →
      rs.length < n → Cur e s.pos (encodeRunes rs ++ rest) →
      skipWhile pr n e s = .ok () (adv s (encodeRunes rs).length)
  | [], n + 1, s, rest, _, hstop, _, hc => by
    unfold skipWhile
    rw [bind_of_eq (peek_at (t := rest) hc), hstop]
    rfl
  | r :: rs, n + 1, s, rest, hall, hstop, hn, hc => by
    have hr := hall r List.mem_cons_self
    rw [encodeRunes_cons, List.append_assoc] at hc
    unfold skipWhile
    rw [bind_of_eq (peek_at hc), firstRune_enc hr.1, hr.2, if_pos rfl, bind_of_eq (next_at_enc hc hr.1),
      skipWhile_runes pr rs n (adv s _) rest (fun x hx => hall x (List.mem_cons_of_mem _ hx)) hstop
        (Nat.lt_of_succ_lt_succ hn) hc.adv,
      adv_adv, encodeRunes_cons, List.length_append]

/-- a text without U+FFFD is the encoding of its runes -/
theorem AllRunes.encode {P : Nat → Prop} {t : Bytes} (h : AllRunes (fun r => r ≠ RuneError ∧ P r) t) :
    encodeRunes (Go.toRunes t) = t ∧ ∀ r ∈ Go.toRunes t, validRune r = true ∧ P r :=
  ⟨encodeRunes_toRunes (h.mono fun _ hx => hx.1).validUtf8,
    fun r hr => ⟨toRunes_validRune t r hr, (h.toRunes r hr).2⟩⟩

section inPlace
variable {e : Env} {s : St} {t rest : Bytes}

/-- the loop of `bareword` / `variable` with the source's own fuel -/
theorem skipWhile_at (pr : Int → Bool)
    (hall : AllRunes (fun r => r ≠ RuneError ∧ pr ((r : Nat) : Int) = true) t)
    (hstop : pr (firstRune rest) = false) (hc : Cur e s.pos (t ++ rest)) :
    skipWhile pr (e.src.length + 2) e s = .ok () (adv s t.length) := by
  obtain ⟨henc, hrs⟩ := hall.encode
  have hlen := hc.len
  have := toRunes_length_le t
  rw [List.length_append] at hlen
  have := skipWhile_runes pr (toRunes t) (e.src.length + 2) s rest hrs hstop (by omega)
    (by rw [henc]; exact hc)
  rwa [henc] at this

theorem bareword_at (nb : NB) (hfrm : nb.frm = s.pos)
    (hall : AllRunes (fun r => r ≠ RuneError ∧ allowedInBareword e.isPrint ((r : Nat) : Int) nb.f.ctx = true) t)
    (hstop : allowedInBareword e.isPrint (firstRune rest) nb.f.ctx = false)
    (hc : Cur e s.pos (t ++ rest)) :
    bareword nb e s = .ok ((nb.setType Bareword).setValue t) (adv s t.length) := by
  unfold bareword
  rw [bind_of_eq (getEnv_eq e s), bind_of_eq (loopFuel_eq e s),
    bind_of_eq (skipWhile_at (fun r => allowedInBareword e.isPrint r (nb.setType Bareword).f.ctx) hall hstop hc),
    bind_of_eq (getPos_eq e _)]
  show (sliceSrc nb.frm _ >>= _) e _ = _
  rw [hfrm, bind_of_eq (sliceSrc_consumed hc)]
  rfl

theorem primary_bare_at (ctx : Int) (fuel : Nat) (hne : t ≠ [])
    (hall : AllRunes (fun r => r ≠ RuneError ∧ allowedInBareword e.isPrint ((r : Nat) : Int) ctx = true) t)
    (hstop : allowedInBareword e.isPrint (firstRune rest) ctx = false) (hc : Cur e s.pos (t ++ rest)) :
    parseNT (fuel + 1) (.primary ctx) e s = .ok (litNode ctx Bareword s.pos t t) (adv s t.length) := by
  have h0 := hall.head hne
  refine primary_wrap hc ?_
  -- not `rw`: it would elaborate `h0.2` before `nb` is known and unfold the class to compare contexts
  refine Eq.trans (primaryBody_of_bareword (by rw [peek_at hc, firstRune_append rest hne h0.1]) h0.2) ?_
  exact bareword_at { frm := s.pos, f := { ctx := ctx }, children := [] } rfl hall hstop hc

/-- `$name`: the first rune of the name is read before the loop and may also be `@` -/
theorem primary_variable_at {r0 : Nat} {rs : List Nat} (ctx : Int) (fuel : Nat) (hv0 : validRune r0 = true)
    (h0 : allowedInVariableName e.isPrint ((r0 : Nat) : Int) = true ∨ r0 = 64)
    (hall : ∀ r ∈ rs, validRune r = true ∧ allowedInVariableName e.isPrint ((r : Nat) : Int) = true)
    (hstop : allowedInVariableName e.isPrint (firstRune rest) = false)
    (hc : Cur e s.pos (36 :: encodeRunes (r0 :: rs) ++ rest)) :
    parseNT (fuel + 1) (.primary ctx) e s =
      .ok (litNode ctx Variable s.pos (36 :: encodeRunes (r0 :: rs)) (encodeRunes (r0 :: rs)))
        (adv s (36 :: encodeRunes (r0 :: rs)).length) := by
  have hc1 : Cur e (adv s 1).pos (encodeRunes (r0 :: rs) ++ rest) := hc.adv1
  have hc1' := hc1
  rw [encodeRunes_cons, List.append_assoc] at hc1'
  have hc2 : Cur e (adv (adv s 1) (encodeRune r0).length).pos (encodeRunes rs ++ rest) := hc1'.adv
  have hfuel : rs.length < e.src.length + 2 := by
    have := length_le_encodeRunes rs
    have hlen := hc2.len
    rw [List.length_append] at hlen
    omega
  have hskip := skipWhile_runes (allowedInVariableName e.isPrint) rs (e.src.length + 2) _ rest hall hstop
    hfuel hc2
  -- the first rune of the name is neither a quote nor rejected
  have hq : (((r0 : Nat) : Int) == 39) = false ∧ (((r0 : Nat) : Int) == 34) = false ∧
      (!allowedInVariableName e.isPrint ((r0 : Nat) : Int) && ((r0 : Nat) : Int) != 64) = false := by
    rcases h0 with h | rfl
    · refine ⟨?_, ?_, by simp [h]⟩ <;>
        (rw [beq_eq_false_iff_ne]; intro hr; rw [hr] at h; simp [allowedInVariableName] at h)
    · exact ⟨by decide, by decide, by simp⟩
  refine primary_wrap (w := 36 :: encodeRunes (r0 :: rs)) hc ?_
  rw [primaryBody_of_dollar (peek_at_byte hc (by decide))]
  unfold variableP
  rw [bind_of_eq (getEnv_eq e s), bind_of_eq (next_at_byte hc (by decide)), bind_of_eq (next_at_enc hc1' hv0)]
  simp only [nat_ne_eof, hq.1, hq.2.1, hq.2.2, Bool.false_eq_true, if_false]
  rw [bind_of_eq (pure_apply () e _), bind_of_eq (loopFuel_eq e _), bind_of_eq hskip, bind_of_eq (getPos_eq e _),
    adv_adv, ← List.length_append, ← encodeRunes_cons]
  show (sliceSrc (adv s 1).pos (adv (adv s 1) (encodeRunes (r0 :: rs)).length).pos >>= _) e _ = _
  rw [bind_of_eq (sliceSrc_consumed hc1), adv_adv, Nat.add_comm 1]
  rfl

/-- `$name` for a name of variable-name runes only -/
theorem primary_var_bare_at (ctx : Int) (fuel : Nat) (hne : t ≠ [])
    (hall : AllRunes (fun r => r ≠ RuneError ∧ allowedInVariableName e.isPrint ((r : Nat) : Int) = true) t)
    (hstop : allowedInVariableName e.isPrint (firstRune rest) = false)
    (hc : Cur e s.pos (36 :: t ++ rest)) :
    parseNT (fuel + 1) (.primary ctx) e s = .ok (litNode ctx Variable s.pos (36 :: t) t) (adv s (36 :: t).length) := by
  obtain ⟨henc, hrs⟩ := hall.encode
  cases hr : toRunes t with
  | nil => rw [hr] at henc; exact absurd henc.symm hne
  | cons r0 rs =>
    rw [hr] at henc hrs
    rw [← henc] at hc ⊢
    exact primary_variable_at ctx fuel (hrs r0 List.mem_cons_self).1 (Or.inl (hrs r0 List.mem_cons_self).2)
      (fun r hr => hrs r (List.mem_cons_of_mem _ hr)) hstop hc

end inPlace

theorem allowedInVariableName_eof (isPrint : Int → Bool) :
    allowedInVariableName isPrint eof = false := by
  simp [allowedInVariableName, eof]

end C03
