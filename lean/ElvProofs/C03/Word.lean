/-
From a primary to the word it is when nothing that continues a `Compound` follows: one indexing without
indices, no tilde node.  In place, at any cursor; `ParseAs` is the case of the cursor at 0 and no text behind.
-/
import ElvProofs.C03.Cursor
namespace C03
open Go
open C01
open Gen.C01Chars

def wordTree (ctx : Int) (q : Bytes) (ty : Int) (s : Bytes) : Node :=
  .mk .compound 0 q.length q { ctx := ctx }
    [.mk .indexing 0 q.length q { ctx := ctx }
      [.mk .primary 0 q.length q { ctx := ctx, ptype := ty, value := s } []]]

theorem startsIndexing_eof (isPrint : Int → Bool) (ctx : Int) :
    startsIndexing isPrint eof ctx = false := by
  simp [startsIndexing, startsPrimary, allowedInBareword, allowedInVariableName, eof]

theorem not_bareword_squote (isPrint : Int → Bool) (ctx : Int) :
    allowedInBareword isPrint 39 ctx = false := by
  simp [allowedInBareword, allowedInVariableName]

theorem not_bareword_dquote (isPrint : Int → Bool) (ctx : Int) :
    allowedInBareword isPrint 34 ctx = false := by
  simp [allowedInBareword, allowedInVariableName]

theorem not_bareword_dollar (isPrint : Int → Bool) (ctx : Int) :
    allowedInBareword isPrint 36 ctx = false := by
  simp [allowedInBareword, allowedInVariableName]

/-- below 128 the class does not ask `unicode.IsPrint` -/
theorem allowedInBareword_ascii (isPrint : Int → Bool) {x : Int} (hx : x < 128) (ctx : Int) :
    allowedInBareword isPrint x ctx = allowedInBareword (fun _ => false) x ctx := by
  have : decide (x ≥ 128) = false := by simpa using hx
  simp only [allowedInBareword, allowedInVariableName, this, Bool.false_and]

theorem startsPrimary_of_bareword {isPrint : Int → Bool} {r ctx : Int}
    (h : allowedInBareword isPrint r ctx = true) : startsPrimary isPrint r ctx = true := by
  simp [startsPrimary, h]

theorem not_bareword_of_not_starts {isPrint : Int → Bool} {r ctx : Int}
    (h : startsPrimary isPrint r ctx = false) : allowedInBareword isPrint r ctx = false := by
  cases hb : allowedInBareword isPrint r ctx
  · rfl
  · rw [startsPrimary_of_bareword hb] at h; cases h

theorem ne_squote_of_not_starts {isPrint : Int → Bool} {r ctx : Int}
    (h : startsPrimary isPrint r ctx = false) : r ≠ 39 := by
  rintro rfl
  simp [startsPrimary] at h

theorem startsIndexing_squote (isPrint : Int → Bool) (ctx : Int) :
    startsIndexing isPrint 39 ctx = true := by simp [startsIndexing, startsPrimary]

theorem startsIndexing_dquote (isPrint : Int → Bool) (ctx : Int) :
    startsIndexing isPrint 34 ctx = true := by simp [startsIndexing, startsPrimary]

section dispatch
variable {rec : NT → M Node} {nb : NB} {e : Env} {s : St}

theorem primaryBody_of_bareword {r : Int} (hpk : peek e s = .ok r s)
    (h : allowedInBareword e.isPrint r nb.f.ctx = true) :
    primaryBody rec nb e s = bareword nb e s := by
  unfold primaryBody
  rw [bind_of_eq (getEnv_eq e s), bind_of_eq hpk]
  simp [startsPrimary, h]

theorem primaryBody_of_squote (hpk : peek e s = .ok 39 s) :
    primaryBody rec nb e s = singleQuoted nb e s := by
  unfold primaryBody
  rw [bind_of_eq (getEnv_eq e s), bind_of_eq hpk]
  simp [startsPrimary, not_bareword_squote]

theorem primaryBody_of_dquote (hpk : peek e s = .ok 34 s) :
    primaryBody rec nb e s = doubleQuoted nb e s := by
  unfold primaryBody
  rw [bind_of_eq (getEnv_eq e s), bind_of_eq hpk]
  simp [startsPrimary, not_bareword_dquote]

theorem primaryBody_of_dollar (hpk : peek e s = .ok 36 s) :
    primaryBody rec nb e s = variableP nb e s := by
  unfold primaryBody
  rw [bind_of_eq (getEnv_eq e s), bind_of_eq hpk]
  simp [startsPrimary, not_bareword_dollar]

end dispatch

/-- the node `parse(ps, &Primary{ExprCtx: ctx})` returns for a primary without children: type `ty`,
value `v`, over the text `w` at `frm` -/
def litNode (ctx ty : Int) (frm : Nat) (w v : Bytes) : Node :=
  .mk .primary frm (frm + w.length) w { ctx := ctx, ptype := ty, value := v } []

/-- the tree `Compound[Indexing[P]]` over the text `w` at `frm` -/
def wordAt (ctx : Int) (frm : Nat) (w : Bytes) (P : Node) : Node :=
  .mk .compound frm (frm + w.length) w { ctx := ctx } [.mk .indexing frm (frm + w.length) w { ctx := ctx } [P]]

theorem wordTree_eq (ctx : Int) (q : Bytes) (ty : Int) (s : Bytes) :
    wordTree ctx q ty s = wordAt ctx 0 q (litNode ctx ty 0 q s) := by
  simp [wordTree, wordAt, litNode]

section inPlace
variable {e : Env} {s : St} {ctx : Int} {w rest : Bytes}

theorem primary_wrap {fuel : Nat} {ty : Int} {v : Bytes} (hc : Cur e s.pos (w ++ rest))
    (hbody : primaryBody (fun nt' => parseNT fuel nt') { frm := s.pos, f := { ctx := ctx }, children := [] } e s =
      .ok { frm := s.pos, f := { ctx := ctx, ptype := ty, value := v }, children := [] } (adv s w.length)) :
    parseNT (fuel + 1) (.primary ctx) e s = .ok (litNode ctx ty s.pos w v) (adv s w.length) :=
  parseNT_wrap (nt := .primary ctx) hc hbody rfl

theorem indexing_at {P : Node} (fuel : Nat)
    (hprim : parseNT fuel (.primary ctx) e s = .ok P (adv s w.length))
    (hc : Cur e s.pos (w ++ rest)) (hno : firstRune rest ≠ 91) :
    parseNT (fuel + 1) (.indexing ctx) e s =
      .ok (.mk .indexing s.pos (s.pos + w.length) w { ctx := ctx } [P]) (adv s w.length) := by
  refine parseNT_wrap (nb := NB.add { frm := s.pos, f := { ctx := ctx }, children := [] } P) hc ?_ rfl
  simp only [body, NT.init, indexingBody]
  rw [bind_of_eq hprim, bind_of_eq (loopFuel_eq e _)]
  unfold indexingLoop
  rw [bind_of_eq (getEnv_eq e _),
    bind_of_eq (parseSep_no (s := adv s w.length) _ 91 hc.adv hno)]
  rfl

theorem tilde_no {t : Bytes} (nb : NB) (hc : Cur e s.pos t) (hno : firstRune t ≠ 126) :
    tilde nb e s = .ok nb s := by
  unfold tilde
  rw [bind_of_eq (peek_at hc), if_neg (by simpa using hno)]
  rfl

theorem compound_at {I : Node} (fuel : Nat)
    (hidx : parseNT fuel (.indexing ctx) e s = .ok I (adv s w.length)) (hc : Cur e s.pos (w ++ rest))
    (hstart : startsIndexing e.isPrint (firstRune (w ++ rest)) ctx = true)
    (htilde : firstRune (w ++ rest) ≠ 126)
    (hstop : startsIndexing e.isPrint (firstRune rest) ctx = false) :
    parseNT (fuel + 1) (.compound ctx) e s =
      .ok (.mk .compound s.pos (s.pos + w.length) w { ctx := ctx } [I]) (adv s w.length) := by
  refine parseNT_wrap (nb := NB.add { frm := s.pos, f := { ctx := ctx }, children := [] } I) hc ?_ rfl
  simp only [body, NT.init, compoundBody]
  rw [bind_of_eq (tilde_no _ hc htilde), bind_of_eq (loopFuel_eq e s)]
  -- one indexing, then a rune that starts no other
  unfold compoundLoop
  rw [bind_of_eq (getEnv_eq e s), bind_of_eq (peek_at hc), hstart, if_pos rfl, bind_of_eq hidx]
  unfold compoundLoop
  rw [bind_of_eq (getEnv_eq e _), bind_of_eq (peek_at (s := adv s w.length) hc.adv), hstop]
  rfl

/-- A primary that is followed by nothing that continues a compound is a word of its own. -/
theorem word_at {P : Node} (fuel : Nat)
    (hprim : parseNT (fuel + 1) (.primary ctx) e s = .ok P (adv s w.length))
    (hc : Cur e s.pos (w ++ rest))
    (hstart : startsIndexing e.isPrint (firstRune (w ++ rest)) ctx = true)
    (htilde : firstRune (w ++ rest) ≠ 126)
    (hstop : startsIndexing e.isPrint (firstRune rest) ctx = false) :
    parseNT (fuel + 3) (.compound ctx) e s = .ok (wordAt ctx s.pos w P) (adv s w.length) := by
  have h91 : firstRune rest ≠ 91 := by
    intro h
    rw [h] at hstop
    simp [startsIndexing, startsPrimary] at hstop
  exact compound_at (fuel + 2) (indexing_at (fuel + 1) hprim hc h91) hc hstart htilde hstop

end inPlace

theorem compound_of_primary {e : Env} {ctx : Int} {P : Node} {f : Nat}
    (hP : parseNT (f + 1) (.primary ctx) e (st 0) = .ok P (st e.src.length))
    (hne : e.src ≠ [])
    (hstart : startsIndexing e.isPrint (((decodeRune e.src).1 : Nat) : Int) ctx = true)
    (hnt : (decodeRune e.src).1 ≠ 126) :
    parseNT (f + 3) (.compound ctx) e (st 0) =
      .ok (.mk .compound 0 e.src.length e.src { ctx := ctx }
            [.mk .indexing 0 e.src.length e.src { ctx := ctx } [P]]) (st e.src.length) := by
  have hc : Cur e (st 0).pos (e.src ++ []) := by rw [List.append_nil]; exact Cur.zero e
  have hadv : adv (st 0) e.src.length = st e.src.length := by rw [adv_st, Nat.zero_add]
  have hf : firstRune (e.src ++ []) = (((decodeRune e.src).1 : Nat) : Int) := by
    rw [List.append_nil]; exact firstRune_of_ne_nil hne
  rw [word_at f (hadv ▸ hP) hc (hf ▸ hstart) (by rw [hf]; exact_mod_cast hnt) (startsIndexing_eof _ _), hadv,
    wordAt, show (st 0).pos + e.src.length = e.src.length from Nat.zero_add _]
  rfl

/-- `parser.done` adds no error after a run that ends at the end of the source. -/
theorem parseAs_of_run {isPrint : Int → Bool} {src : Bytes} {nt : NT} {n : Node}
    (h : ∀ f, parseNT (f + 3) nt { isPrint := isPrint, src := src } (st 0) = .ok n (st src.length)) :
    parseAs isPrint nt src = .ok n [] := by
  have hd : done { isPrint := isPrint, src := src } (st src.length) = .ok () (st src.length) := by
    simp [done, st]
  unfold parseAs parseAsFuel defaultFuel
  show (match (parseNT (7 * src.length + 5 + 3) nt >>= fun n => done >>= fun _ => pure n) _ (st 0) with
    | .ok n s => ParseResult.ok n s.errors | .panic w => .panic w | .fuel => .fuel) = _
  rw [bind_of_eq (h _), bind_of_eq hd]
  rfl

end C03
