/-
Totality.  `matchElement` on a slash-free pattern returns: the panics of
`matchFixedLength` are unreachable because its chunks hold only literals and
`?`, and every round of the star loop removes a byte.  `glob` returns when the
fuel exceeds `len(segs) * (D+1) + rank(dir)`: a recursive call either has a
shorter pattern (a `/` was consumed; the new directory is arbitrary, since `..`
or a symbolic link as a literal component is followed), or the same pattern
(`**` crossing a `/`) in a sub-directory of smaller rank.
-/
import ElvProofs.C23.Top
namespace C23
open Go

theorem starLoop_total (w : Wild) (F : List Seg) (last : Bool) (hF : ∀ s ∈ F, fixedSeg s = true) :
    ∀ (fuel : Nat) (name : Bytes), name.length ≤ fuel → ∃ o, starLoop w F last fuel name = .ok o := by
  intro fuel
  induction fuel with
  | zero =>
    intro name hl
    obtain rfl : name = [] := List.length_eq_zero_iff.1 (by omega)
    exact ⟨none, starLoop.eq_1 ..⟩
  | succ fuel ih =>
    intro name hl
    by_cases hne : name = []
    · subst hne; exact ⟨none, starLoop.eq_1 ..⟩
    cases hacc : w.accepts (decodeRune name).1 with
    | false => exact ⟨none, starLoop_reject w F last fuel hne hacc⟩
    | true =>
      rw [starLoop_accept w F last fuel hne hacc]
      exact tryAt_ok (mFL_ok F _ hF) (ih _ (by have := stepF_length_lt hne; omega))

theorem tryChunk_total (star : Option Wild) (F : List Seg) (last : Bool) (name : Bytes)
    (hF : ∀ s ∈ F, fixedSeg s = true) : ∃ o, tryChunk star F last name = .ok o := by
  cases star with
  | none => rw [tryChunk_none]; exact tryAt_ok (mFL_ok F _ hF) ⟨_, rfl⟩
  | some w =>
    rw [tryChunk_some]
    exact tryAt_ok (mFL_ok F _ hF) (starLoop_total w F last hF _ _ (Nat.le_refl _))

theorem matchChunks_total : ∀ (cs : List (List Seg)) (name : Bytes),
    (∀ c ∈ cs, ∀ s ∈ (chunkParts c).2, fixedSeg s = true) → ∃ b, matchChunks cs name = .ok b := by
  intro cs
  induction cs with
  | nil => intro name _; exact ⟨_, rfl⟩
  | cons c cs ih =>
    intro name h
    obtain ⟨o, ho⟩ := tryChunk_total (chunkParts c).1 (chunkParts c).2 cs.isEmpty name (h c (by simp))
    unfold matchChunks
    simp only [ho]
    cases o with
    | none => exact ⟨_, rfl⟩
    | some rest => exact ih rest (fun c' hc' => h c' (by simp [hc']))

theorem matchElement_total {segs : List Seg} (hns : NoSlash segs) (name : Bytes) :
    ∃ b, matchElement segs name = .ok b := by
  unfold matchElement
  split
  · exact ⟨_, rfl⟩
  · split
    · exact ⟨_, rfl⟩
    · apply matchChunks_total
      intro c hc
      exact chunkParts_fixed c (fun s hs => hns s (chunkify_mem _ c hc s hs)) (chunkify_tail _ c hc)

/-- the directory strings `glob` works with: empty, or ending in `/` -/
def DirPath (dir : Bytes) : Prop := dir = [] ∨ ∃ d0, dir = d0 ++ [slashByte]

/-- A rank on directory path strings, at most `D`, that strictly decreases from
a directory to every entry its listing reports as a real directory
(`DirEntry.IsDir()`, false for symbolic links).  Every finite tree has one:
directories cannot be hard-linked into cycles and wildcard components do not
follow symbolic links. -/
structure FSRank (fs : FS) (D : Nat) where
  rk : Bytes → Nat
  le : ∀ p, rk p ≤ D
  desc : ∀ dir es name, DirPath dir → fs.readDir dir = some es → (name, true) ∈ es →
    rk (dir ++ name ++ [slashByte]) < rk dir

theorem followLits_shape (fs : FS) : ∀ (segs : List Seg) (dir : Bytes) (segs' : List Seg) (dir' : Bytes),
    DirPath dir → followLits fs segs dir = some (segs', dir') →
    DirPath dir' ∧ ((segs' = segs ∧ dir' = dir) ∨ segs'.length + 2 ≤ segs.length) := by
  intro segs dir
  induction segs, dir using followLits.induct fs with
  | case1 d rest dir _ hdir ih =>
    intro segs' dir' _ h
    rw [followLits.eq_1, if_pos hdir] at h
    obtain ⟨hd', hor⟩ := ih _ _ (.inr ⟨dir ++ d, rfl⟩) h
    refine ⟨hd', .inr ?_⟩
    rcases hor with ⟨rfl, _⟩ | hlt
    · exact Nat.le_refl _
    · simp only [List.length_cons]; omega
  | case2 d rest dir _ hdir =>
    intro segs' dir' _ h
    rw [followLits.eq_1, if_neg hdir] at h
    cases h
  | case3 segs dir hno =>
    intro segs' dir' hd h
    rw [followLits.eq_2 _ _ _ hno] at h
    cases h
    exact ⟨hd, .inl ⟨rfl, rfl⟩⟩

section
variable {fs : FS} {recur : List Seg → Bytes → Res (List Out)} {dir : Bytes} {es : List (Bytes × Bool)}

theorem descend_total {comp next : List Seg} (hcomp : NoSlash comp)
    (H : ∀ name, (name, true) ∈ es → ∃ o, recur next (dir ++ name ++ [slashByte]) = .ok o) :
    ∃ outs, descend recur dir es comp next = .ok outs := by
  rw [descend, forEntries_eq]
  apply concatM_total
  intro r hr
  obtain ⟨⟨n, d⟩, he, rfl⟩ := List.mem_map.1 hr
  obtain ⟨b, hb⟩ := matchElement_total hcomp n
  simp only [hb]
  cases b with
  | false => exact ⟨[], rfl⟩
  | true =>
    cases d with
    | false => exact ⟨[], rfl⟩
    | true => exact H n he

theorem runPiece_total {p : Piece} (hok : p.OK)
    (H : ∀ name segs', (name, true) ∈ es → segs'.length ≤ p.segs.length →
      ∃ o, recur segs' (dir ++ name ++ [slashByte]) = .ok o) :
    ∃ outs, runPiece fs recur dir es p = .ok outs := by
  cases p with
  | final comp =>
    rw [runPiece, forEntries_eq]
    apply concatM_total
    intro r hr
    obtain ⟨⟨n, d⟩, he, rfl⟩ := List.mem_map.1 hr
    obtain ⟨b, hb⟩ := matchElement_total hok n
    simp only [hb]
    cases b <;> exact ⟨_, rfl⟩
  | sub comp rest => exact descend_total hok fun name hm => H name rest hm (by simp [Piece.segs]; omega)
  | cross pre w post =>
    exact descend_total (noSlash_snoc hok.1 rfl) fun name hm => H name _ hm (by simp [Piece.segs])

theorem enum_total {segs : List Seg}
    (H : ∀ name segs', (name, true) ∈ es → segs'.length ≤ segs.length →
      ∃ o, recur segs' (dir ++ name ++ [slashByte]) = .ok o) :
    ∃ outs, enum fs recur dir es [] segs = .ok outs := by
  rw [enum_eq_plan]
  apply concatM_total
  intro r hr
  obtain ⟨p, hp, rfl⟩ := List.mem_map.1 hr
  obtain ⟨rfl, hok⟩ := enumPlan_sound segs [] (fun _ h => nomatch h) p hp
  exact runPiece_total hok H

end

theorem glob_total (fs : FS) {D : Nat} (R : FSRank fs D) : ∀ (fuel : Nat) (segs : List Seg)
    (dir : Bytes), DirPath dir → segs.length * (D + 1) + R.rk dir < fuel →
    ∃ outs, glob fs fuel segs dir = .ok outs := by
  intro fuel
  induction fuel with
  | zero => intro segs dir _ h; omega
  | succ fuel ih =>
    intro segs dir hd hf
    unfold glob
    split
    · exact ⟨_, rfl⟩
    · next segs1 dir1 hfl =>
      obtain ⟨hd1, hor⟩ := followLits_shape fs segs dir segs1 dir1 hd hfl
      split
      · exact ⟨_, rfl⟩
      · exact ⟨_, rfl⟩
      · split
        · exact ⟨_, rfl⟩
        · next es hes =>
          apply enum_total
          intro name segs' hm hl
          apply ih segs' _ (Or.inr ⟨dir1 ++ name, rfl⟩)
          have hle := R.le (dir1 ++ name ++ [slashByte])
          rcases hor with ⟨rfl, rfl⟩ | hlt
          · have hlt := R.desc dir1 es name hd1 hes hm
            have : segs'.length * (D + 1) ≤ segs1.length * (D + 1) := Nat.mul_le_mul_right _ hl
            omega
          · have : (segs'.length + 2) * (D + 1) ≤ segs.length * (D + 1) :=
              Nat.mul_le_mul_right _ (by omega)
            rw [Nat.add_mul] at this
            omega

theorem topStart_dirPath (segs : List Seg) : DirPath (topStart segs).2 := by
  cases segs with
  | nil => exact .inl rfl
  | cons x t => cases x <;> first | exact .inl rfl | exact .inr ⟨[], rfl⟩

theorem patternGlobRaw_total (fs : FS) {D : Nat} (R : FSRank fs D) (fuel : Nat) (segs : List Seg)
    (hf : (segs.length + 1) * (D + 1) < fuel) : ∃ outs, patternGlobRaw fs fuel segs = .ok outs := by
  rw [patternGlobRaw_eq]
  apply glob_total fs R fuel _ _ (topStart_dirPath segs)
  have hle := R.le (topStart segs).2
  have := Nat.mul_le_mul_right (D + 1) (topStart_length segs)
  rw [Nat.add_mul] at hf
  omega

theorem patternGlob_total (fs : FS) {D : Nat} (R : FSRank fs D) (fuel : Nat) (segs : List Seg)
    (hf : (segs.length + 1) * (D + 1) < fuel) : ∃ outs, patternGlob fs fuel segs = .ok outs := by
  obtain ⟨raw, hr⟩ := patternGlobRaw_total fs R fuel segs hf
  exact ⟨dedup raw [], by simp [patternGlob, hr, bind, Res.bind, pure]⟩

theorem runPiece_mono (fs : FS) {r1 r2 : List Seg → Bytes → Res (List Out)}
    (h : ∀ s d a, r1 s d = .ok a → r2 s d = .ok a) (dir : Bytes) (es : List (Bytes × Bool))
    (p : Piece) (a : List Out) (ha : runPiece fs r1 dir es p = .ok a) :
    runPiece fs r2 dir es p = .ok a := by
  have hd : ∀ comp next, descend r1 dir es comp next = .ok a → descend r2 dir es comp next = .ok a := by
    intro comp next
    rw [descend, descend, forEntries_eq, forEntries_eq]
    refine concatM_map_mono fun e _ a' ha' => ?_
    obtain ⟨b, hb, ha'⟩ := Res.bind_eq_ok.1 ha'
    refine Res.bind_eq_ok.2 ⟨b, hb, ?_⟩
    by_cases hc : (b && e.2) = true
    · rw [if_pos hc] at ha' ⊢; exact h _ _ _ ha'
    · rw [if_neg hc] at ha' ⊢; exact ha'
  cases p with
  | final comp => exact ha
  | sub comp rest => exact hd _ _ ha
  | cross pre w post => exact hd _ _ ha

theorem enum_mono (fs : FS) {r1 r2 : List Seg → Bytes → Res (List Out)}
    (h : ∀ s d a, r1 s d = .ok a → r2 s d = .ok a) (dir : Bytes) (es : List (Bytes × Bool))
    (pre post : List Seg) (o : List Out) (ho : enum fs r1 dir es pre post = .ok o) :
    enum fs r2 dir es pre post = .ok o := by
  rw [enum_eq_plan] at ho ⊢
  exact concatM_map_mono (fun p _ a => runPiece_mono fs h dir es p a) ho

theorem glob_mono (fs : FS) : ∀ (f1 f2 : Nat) (segs : List Seg) (dir : Bytes) (o : List Out), f1 ≤ f2 →
    glob fs f1 segs dir = .ok o → glob fs f2 segs dir = .ok o := by
  intro f1
  induction f1 with
  | zero => intro f2 segs dir o _ h; simp [glob] at h
  | succ f1 ih =>
    intro f2 segs dir o hle h
    obtain ⟨f2', rfl⟩ : ∃ k, f2 = k + 1 := ⟨f2 - 1, by omega⟩
    unfold glob at h ⊢
    split
    · next hfl => rw [hfl] at h; exact h
    · next segs1 dir1 hfl =>
      rw [hfl] at h
      simp only at h ⊢
      split
      · exact h
      · exact h
      · next hne1 hne2 =>
        split at h
        · exact absurd rfl (hne1)
        · next d => exact absurd rfl (hne2 d)
        · split
          · next hrd => rw [hrd] at h; exact h
          · next es hrd =>
            rw [hrd] at h
            exact enum_mono fs (fun s d a ha => ih f2' s d a (by omega) ha) dir1 es _ _ o h

theorem patternGlob_mono (fs : FS) (f1 f2 : Nat) (segs : List Seg) (o : List Out) (hle : f1 ≤ f2)
    (h : patternGlob fs f1 segs = .ok o) : patternGlob fs f2 segs = .ok o := by
  unfold patternGlob at h ⊢
  obtain ⟨raw, hr, ho⟩ := Res.bind_eq_ok.1 h
  rw [patternGlobRaw_eq] at hr
  exact Res.bind_eq_ok.2 ⟨raw, patternGlobRaw_eq .. ▸ glob_mono fs _ _ _ _ _ hle hr, ho⟩

end C23
