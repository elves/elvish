/-
The driver's tree model has a rank (`FSRank`), so the driver's fuel `fuelFor` is
sufficient and `FUEL` is unreachable.

The rank of a directory path is `depthBound + 1 - |location it resolves to|`.
A listing entry with `IsDir() = true` is a real directory entry of the tree one
component below the listed location, and the path `dir ++ name ++ "/"` resolves
to exactly that location (symbolic links are listed with `IsDir() = false`, so
wildcard components never go through them).
-/
import ElvProofs.C23.Total
import ElvModel.C23.FsTree
namespace C23
open Go

theorem splitSlash_ne_nil (s : Bytes) : splitSlash s ≠ [] := by
  cases s with
  | nil => simp [splitSlash]
  | cons b t =>
    unfold splitSlash
    split
    · simp
    · split <;> simp

theorem splitSlash_append_slash (a b : Bytes) :
    splitSlash (a ++ slashByte :: b) = splitSlash a ++ splitSlash b := by
  induction a with
  | nil =>
    obtain ⟨c, cs, h⟩ := List.exists_cons_of_ne_nil (splitSlash_ne_nil b)
    simp [splitSlash, h]
  | cons x a ih =>
    obtain ⟨c, cs, h⟩ := List.exists_cons_of_ne_nil (splitSlash_ne_nil a)
    simp only [List.cons_append]
    rw [splitSlash, ih, splitSlash, h]
    simp only [List.cons_append]
    split <;> rfl

theorem splitSlash_snoc_slash (p : Bytes) : splitSlash (p ++ [slashByte]) = splitSlash p ++ [[]] :=
  splitSlash_append_slash p []

theorem splitSlash_noSlash {a : Bytes} (h : slashByte ∉ a) : splitSlash a = [a] := by
  induction a with
  | nil => rfl
  | cons x a ih =>
    have hx : (x == slashByte) = false := by
      simp only [beq_eq_false_iff_ne, ne_eq]
      intro hx; exact h (by simp [hx])
    rw [splitSlash, ih (fun hm => h (by simp [hm]))]
    simp [hx]

theorem walk_cons_follow (t : Tree) (l : Nat) (loc : List Bytes) (c : Bytes) :
    (∀ s rest, t.walk true (s + 1) l loc (c :: rest) = none) ∨
    ∃ l' loc' cs, ∀ s rest,
      t.walk true (s + 1) l loc (c :: rest) = t.walk true s l' loc' (cs ++ rest) := by
  by_cases hdir : t.nodeAt loc ≠ some .dir
  · exact .inl fun s rest => by rw [Tree.walk.eq_3, if_pos hdir]
  by_cases hc : c = [] ∨ c = [dotByte]
  · exact .inr ⟨l, loc, [], fun s rest => by rw [Tree.walk.eq_3, if_neg hdir, if_pos hc]; rfl⟩
  by_cases hdd : c = [dotByte, dotByte]
  · exact .inr ⟨l, _, [], fun s rest => by rw [Tree.walk.eq_3, if_neg hdir, if_neg hc, if_pos hdd]; rfl⟩
  simp only [Tree.walk.eq_3, if_neg hdir, if_neg hc, if_neg hdd]
  cases t.nodeAt (loc ++ [c]) with
  | none => exact .inl fun _ _ => rfl
  | some nd =>
    cases nd with
    | file => exact .inr ⟨l, _, [], fun _ _ => rfl⟩
    | dir => exact .inr ⟨l, _, [], fun _ _ => rfl⟩
    | other => exact .inr ⟨l, _, [], fun _ _ => rfl⟩
    | symlink tgt =>
      simp only [Bool.not_true, Bool.false_eq_true, and_false, if_false]
      cases l with
      | zero => exact .inl fun _ _ => rfl
      | succ l =>
        cases tgt with
        | nil => exact .inl fun _ _ => rfl
        | cons b tg =>
          simp only [reduceCtorEq, if_false]
          by_cases hb : (b == slashByte) = true
          · simp only [hb, if_true]
            cases t.absComps (b :: tg) with
            | none => exact .inl fun _ _ => rfl
            | some cs => exact .inr ⟨l, _, cs, fun _ _ => rfl⟩
          · simp only [hb]
            exact .inr ⟨l, _, _, fun _ _ => rfl⟩

theorem walk_append (t : Tree) : ∀ (s l : Nat) (loc : List Bytes) (c1 c2 : List Bytes) (r : List Bytes),
    t.walk true s l loc (c1 ++ c2) = some r →
    ∃ mid s' l', t.walk true s l loc c1 = some mid ∧ t.walk true s' l' mid c2 = some r := by
  intro s
  induction s with
  | zero =>
    intro l loc c1 c2 r h
    cases c1 with
    | nil => exact ⟨loc, 0, l, Tree.walk.eq_1 .., h⟩
    | cons c rest => rw [List.cons_append, Tree.walk.eq_2] at h; cases h
  | succ s ih =>
    intro l loc c1 c2 r h
    cases c1 with
    | nil => exact ⟨loc, s + 1, l, Tree.walk.eq_1 .., h⟩
    | cons c rest =>
      rw [List.cons_append] at h
      rcases walk_cons_follow t l loc c with hn | ⟨l', loc', cs, he⟩
      · rw [hn] at h; cases h
      · rw [he, ← List.append_assoc] at h
        obtain ⟨mid, s', l'', hm, hw⟩ := ih _ _ _ _ _ h
        exact ⟨mid, s', l'', by rw [he]; exact hm, hw⟩


theorem walk_stay (t : Tree) {c : Bytes} (hc : c = [] ∨ c = [dotByte]) (s l : Nat) (loc r : List Bytes)
    (h : t.walk true s l loc [c] = some r) : r = loc ∧ t.nodeAt loc = some .dir := by
  cases s with
  | zero => rw [Tree.walk.eq_2] at h; cases h
  | succ s =>
    rw [Tree.walk.eq_3] at h
    by_cases hd : t.nodeAt loc ≠ some .dir
    · rw [if_pos hd] at h; cases h
    · rw [if_neg hd, if_pos hc, Tree.walk.eq_1] at h
      exact ⟨(Option.some.inj h).symm, Decidable.not_not.1 hd⟩

theorem walk_dirstep (t : Tree) (s l : Nat) (loc r : List Bytes) (name : Bytes)
    (hn : nameOK name = true) (hc : t.nodeAt (loc ++ [name]) = some .dir)
    (h : t.walk true s l loc [name, []] = some r) : r = loc ++ [name] := by
  simp only [nameOK, Bool.and_eq_true, bne_iff_ne, ne_eq] at hn
  obtain ⟨⟨⟨h1, h2⟩, h3⟩, _⟩ := hn
  cases s with
  | zero => rw [Tree.walk.eq_2] at h; cases h
  | succ s =>
    rw [Tree.walk.eq_3] at h
    by_cases hd : t.nodeAt loc ≠ some .dir
    · rw [if_pos hd] at h; cases h
    · rw [if_neg hd, if_neg (by simp [h1, h2]), if_neg h3] at h
      simp only [hc] at h
      exact (walk_stay t (.inl rfl) s l _ _ h).1

theorem walk_child (t : Tree) {x name : Bytes} (hx : x = [] ∨ x = [dotByte]) (hn : nameOK name = true)
    {s l : Nat} {start loc loc' : List Bytes} (Y : List Bytes)
    (hc : t.nodeAt (loc ++ [name]) = some .dir)
    (h1 : t.walk true s l start (Y ++ [x]) = some loc)
    (h2 : t.walk true s l start (Y ++ [name, []]) = some loc') : loc' = loc ++ [name] := by
  obtain ⟨mid, s1, l1, hm1, hw1⟩ := walk_append t _ _ _ _ _ _ h1
  obtain ⟨mid', s2, l2, hm2, hw2⟩ := walk_append t _ _ _ _ _ _ h2
  obtain rfl : mid = mid' := Option.some.inj (hm1.symm.trans hm2)
  obtain ⟨rfl, _⟩ := walk_stay t hx _ _ _ _ hw1
  exact walk_dirstep t _ _ _ _ _ hn hc hw2

/-- how `Tree.readDir` reads its argument -/
def listedPath (p : Bytes) : Bytes := if p = [] then [dotByte] else p

theorem dropPrefix_append : ∀ (p l m r : List Bytes), dropPrefix p l = some r →
    dropPrefix p (l ++ m) = some (r ++ m) := by
  intro p
  induction p with
  | nil => intro l m r h; simp [dropPrefix] at h ⊢; exact h
  | cons x p ih =>
    intro l m r h
    cases l with
    | nil => simp [dropPrefix] at h
    | cons y l =>
      simp only [dropPrefix, List.cons_append] at h ⊢
      split at h
      · next hxy => simp only [hxy, if_true]; exact ih _ _ _ h
      · cases h

theorem slash_notMem_of_nameOK {name : Bytes} (h : nameOK name = true) : slashByte ∉ name := by
  simp only [nameOK, Bool.and_eq_true, Bool.not_eq_true'] at h
  have := h.2
  intro hm
  simp [hm] at this


theorem resolve_eq (t : Tree) (fl : Bool) {path : Bytes} (hne : path ≠ []) :
    t.resolve fl path =
      if path.head? = some slashByte then (t.absComps path).bind (t.walk fl 4096 40 [])
      else t.walk fl 4096 40 t.cwd (splitSlash path) := by
  obtain ⟨b, p, rfl⟩ := List.exists_cons_of_ne_nil hne
  simp only [Tree.resolve, List.head?_cons, Option.some.injEq, beq_iff_eq]
  split
  · cases t.absComps (b :: p) <;> rfl
  · rfl

theorem absComps_slash (t : Tree) (p : Bytes) :
    t.absComps (p ++ [slashByte]) =
      (dropPrefix t.absRoot ((splitSlash p).filter (· ≠ []))).map (· ++ [[]]) := by
  have hs : splitSlash (p ++ [slashByte]) = splitSlash p ++ [[]] := splitSlash_append_slash p []
  unfold Tree.absComps
  rw [hs, List.filter_append, List.getLast?_concat]
  have hf : ([[]] : List Bytes).filter (· ≠ []) = [] := rfl
  rw [hf, List.append_nil]
  cases dropPrefix t.absRoot ((splitSlash p).filter (· ≠ [])) <;> rfl

theorem resolve_child (t : Tree) (dir name : Bytes) (loc loc' : List Bytes) (hdp : DirPath dir)
    (hres : t.resolve true (listedPath dir) = some loc)
    (hn : nameOK name = true) (hc : t.nodeAt (loc ++ [name]) = some .dir)
    (h : t.resolve true (dir ++ name ++ [slashByte]) = some loc') : loc' = loc ++ [name] := by
  have hns := slash_notMem_of_nameOK hn
  obtain ⟨b0, nt, rfl⟩ : ∃ b0 nt, name = b0 :: nt := by
    cases name with
    | nil => simp [nameOK] at hn
    | cons b0 nt => exact ⟨b0, nt, rfl⟩
  have hb0 : b0 ≠ slashByte := fun hb => hns (by simp [hb])
  rcases hdp with rfl | ⟨d0, rfl⟩
  · -- the empty directory string is listed as `.`, the child is `name/`
    have hd : splitSlash [dotByte] = [[dotByte]] := by decide
    rw [show listedPath [] = [dotByte] from rfl, resolve_eq t true (by simp),
      if_neg (by decide), hd] at hres
    rw [List.nil_append, resolve_eq t true (by simp), List.cons_append, List.head?_cons,
      if_neg (by simpa using hb0), ← List.cons_append, splitSlash_snoc_slash,
      splitSlash_noSlash hns] at h
    exact walk_child t (.inr rfl) hn [] hc hres h
  · have e1 : listedPath (d0 ++ [slashByte]) = d0 ++ [slashByte] := if_neg (by simp)
    have e2 : d0 ++ [slashByte] ++ (b0 :: nt) ++ [slashByte] = (d0 ++ slashByte :: b0 :: nt) ++ [slashByte] := by
      simp
    have hhead : ((d0 ++ slashByte :: b0 :: nt) ++ [slashByte]).head? = (d0 ++ [slashByte]).head? := by
      cases d0 <;> rfl
    have hsn : splitSlash (d0 ++ slashByte :: b0 :: nt) = splitSlash d0 ++ [b0 :: nt] := by
      rw [splitSlash_append_slash, splitSlash_noSlash hns]
    rw [e1, resolve_eq t true (by simp)] at hres
    rw [e2, resolve_eq t true (by simp), hhead] at h
    by_cases habs : (d0 ++ [slashByte]).head? = some slashByte
    · rw [if_pos habs, absComps_slash] at hres
      rw [if_pos habs, absComps_slash, hsn, List.filter_append] at h
      cases hcs : dropPrefix t.absRoot ((splitSlash d0).filter (· ≠ [])) with
      | none => rw [hcs] at hres; cases hres
      | some cs =>
        rw [hcs] at hres
        rw [dropPrefix_append _ _ _ _ hcs] at h
        exact walk_child t (.inl rfl) hn cs hc hres (by simpa using h)
    · rw [if_neg habs, splitSlash_snoc_slash] at hres
      rw [if_neg habs, splitSlash_snoc_slash, hsn, List.append_assoc] at h
      exact walk_child t (.inl rfl) hn _ hc hres h

theorem mem_insertSorted (x y : Bytes × Bool) : ∀ (l : List (Bytes × Bool)),
    y ∈ insertSorted x l ↔ y = x ∨ y ∈ l := by
  intro l
  induction l with
  | nil => simp [insertSorted]
  | cons z l ih =>
    unfold insertSorted
    split
    · simp
    · simp [ih]; constructor
      · rintro (h | h | h) <;> simp [h]
      · rintro (h | h | h) <;> simp [h]

theorem mem_foldr_insertSorted (y : Bytes × Bool) : ∀ (l : List (Bytes × Bool)),
    y ∈ l.foldr insertSorted [] ↔ y ∈ l := by
  intro l
  induction l with
  | nil => simp
  | cons z l ih => simp [mem_insertSorted, ih]

theorem foldr_max_ge (e : List Bytes × Node) (n : Nat) : ∀ (l : List (List Bytes × Node)), e ∈ l →
    e.1.length ≤ l.foldr (fun e m => max e.1.length m) n := by
  intro l
  induction l with
  | nil => intro he; cases he
  | cons e' es ih =>
    intro he
    simp only [List.foldr_cons]
    rcases List.mem_cons.1 he with rfl | he
    · omega
    · have := ih he; omega

theorem depthBound_entry (t : Tree) (e : List Bytes × Node) (he : e ∈ t.entries) :
    e.1.length ≤ t.depthBound := foldr_max_ge e _ _ he

theorem mem_readDir {t : Tree} {dir : Bytes} {es : List (Bytes × Bool)} {name : Bytes} {isDir : Bool}
    (h : t.readDir dir = some es) (hm : (name, isDir) ∈ es) :
    ∃ loc n, t.resolve true (listedPath dir) = some loc ∧ t.nodeAt loc = some .dir ∧
      (loc ++ [name], n) ∈ t.entries ∧ isDir = (n == .dir) := by
  unfold Tree.readDir at h
  change (match t.resolve true (listedPath dir) with | none => none | some loc => _) = _ at h
  cases hres : t.resolve true (listedPath dir) with
  | none => rw [hres] at h; cases h
  | some loc =>
    rw [hres] at h
    by_cases hd : t.nodeAt loc ≠ some .dir
    · simp only [if_pos hd] at h; cases h
    · simp only [if_neg hd, Option.some.injEq] at h
      subst h
      rw [mem_foldr_insertSorted, List.mem_filterMap] at hm
      obtain ⟨⟨l, n⟩, hmem, hf⟩ := hm
      simp only at hf
      cases hl : l.getLast? with
      | none => rw [hl] at hf; cases hf
      | some nm =>
        rw [hl] at hf
        by_cases hdl : (l.dropLast == loc) = true
        · simp only [if_pos hdl, Option.some.injEq, Prod.mk.injEq] at hf
          obtain ⟨rfl, rfl⟩ := hf
          have hl' : loc ++ [nm] = l := by
            obtain ⟨ys, rfl⟩ := List.getLast?_eq_some_iff.1 hl
            rw [← beq_iff_eq.1 hdl, List.dropLast_concat]
          exact ⟨loc, n, rfl, Decidable.not_not.1 hd, hl' ▸ hmem, rfl⟩
        · simp only [if_neg hdl] at hf; cases hf

theorem find?_key {α β : Type} [BEq α] [LawfulBEq α] {k : α} {v : β} : ∀ {l : List (α × β)},
    (k, v) ∈ l → (l.map (·.1)).Nodup → l.find? (·.1 == k) = some (k, v) := by
  intro l
  induction l with
  | nil => intro hm; cases hm
  | cons e l ih =>
    intro hm hnd
    rw [List.map_cons, List.nodup_cons] at hnd
    rcases List.mem_cons.1 hm with rfl | hm
    · simp
    · have hne : e.1 ≠ k := fun he => hnd.1 (List.mem_map.2 ⟨(k, v), hm, he.symm⟩)
      rw [List.find?_cons_of_neg (by simpa using hne)]
      exact ih hm hnd.2

theorem nodeAt_entry {t : Tree} (hwf : t.wf = true) {l : List Bytes} {n : Node} (hne : l ≠ [])
    (hm : (l, n) ∈ t.entries) : t.nodeAt l = some n := by
  simp only [Tree.wf, Bool.and_eq_true, decide_eq_true_eq] at hwf
  rw [Tree.nodeAt, if_neg hne, find?_key hm hwf.2]
  rfl

theorem readDir_dir_entry (t : Tree) (hwf : t.wf = true) (dir : Bytes) (es : List (Bytes × Bool))
    (name : Bytes) (h : t.readDir dir = some es) (hm : (name, true) ∈ es) :
    ∃ loc, t.resolve true (listedPath dir) = some loc ∧ t.nodeAt loc = some .dir ∧
      t.nodeAt (loc ++ [name]) = some .dir ∧ nameOK name = true ∧ loc.length + 1 ≤ t.depthBound := by
  obtain ⟨loc, n, hres, hd, hmem, hn⟩ := mem_readDir h hm
  obtain rfl : n = .dir := by simpa using hn.symm
  refine ⟨loc, hres, hd, nodeAt_entry hwf (by simp) hmem, ?_, ?_⟩
  · simp only [Tree.wf, Bool.and_eq_true, List.all_eq_true] at hwf
    exact hwf.1 _ hmem name (by simp)
  · simpa using depthBound_entry t _ hmem

theorem depthBound_cwd (t : Tree) : t.cwd.length ≤ t.depthBound := by
  unfold Tree.depthBound
  induction t.entries with
  | nil => simp
  | cons e es ih => simp only [List.foldr_cons]; omega

def Tree.rank (t : Tree) (p : Bytes) : Nat :=
  match t.resolve true (listedPath p) with
  | some loc => t.depthBound + 1 - loc.length
  | none => 0

theorem rank_of_resolve {t : Tree} {p : Bytes} {loc : List Bytes}
    (h : t.resolve true (listedPath p) = some loc) : t.rank p = t.depthBound + 1 - loc.length := by
  rw [Tree.rank, h]

theorem rank_le (t : Tree) (p : Bytes) : t.rank p ≤ t.depthBound + 1 := by
  unfold Tree.rank
  split <;> omega

theorem rank_child (t : Tree) (hwf : t.wf = true) (dir : Bytes) (es : List (Bytes × Bool))
    (name : Bytes) (hdp : DirPath dir) (hrd : t.readDir dir = some es) (hm : (name, true) ∈ es) :
    t.rank (dir ++ name ++ [slashByte]) < t.rank dir := by
  obtain ⟨loc, hres, _, hc, hn, hlen⟩ := readDir_dir_entry t hwf dir es name hrd hm
  have hlp : listedPath (dir ++ name ++ [slashByte]) = dir ++ name ++ [slashByte] :=
    if_neg (by simp)
  rw [rank_of_resolve hres]
  cases hres' : t.resolve true (dir ++ name ++ [slashByte]) with
  | none => rw [show t.rank (dir ++ name ++ [slashByte]) = 0 by rw [Tree.rank, hlp, hres']]; omega
  | some loc' =>
    rw [rank_of_resolve (hlp ▸ hres'), resolve_child t dir name loc loc' hdp hres hn hc hres',
      List.length_append, List.length_singleton]
    omega

/-- Real sub-directories lie strictly deeper. -/
def Tree.fsRank (t : Tree) (hwf : t.wf = true) : FSRank t.toFS (t.depthBound + 1) where
  rk := t.rank
  le := rank_le t
  desc := rank_child t hwf

end C23
