/-
Completeness of greedy chunk matching on `greedyOK` patterns.

Positions in the name are counted in rune steps (`iter`).  With valid UTF-8
literals every position the matcher or a declarative match visits lies on the
one decoding grid of the name, a fixed-length run always advances `gridLen`
steps, and so a greedy (leftmost) choice for a chunk leaves the rest of a
valid match reachable — provided the next star may swallow the difference
(it carries no matcher).
-/
import ElvProofs.C23.Elem
namespace C23
open Go

/-- rune steps a fixed-length run consumes (for valid UTF-8 literals) -/
def gridLen : List Seg → Nat
  | [] => 0
  | .lit d :: rest => (toRunes d).length + gridLen rest
  | _ :: rest => 1 + gridLen rest

/-- literals non-empty and valid UTF-8, the rest `?` -/
def fixedOK : List Seg → Bool
  | [] => true
  | .lit d :: rest => !d.isEmpty && validUtf8 d && fixedOK rest
  | .wild w :: rest => w.type == .question && fixedOK rest
  | .slash :: _ => false

theorem fixedOK_lit {d : Bytes} {F : List Seg} :
    fixedOK (.lit d :: F) = true ↔ (d ≠ [] ∧ validUtf8 d = true) ∧ fixedOK F = true := by
  simp [fixedOK]

theorem fixedOK_wild {w : Wild} {F : List Seg} :
    fixedOK (.wild w :: F) = true ↔ w.type = .question ∧ fixedOK F = true := by
  simp [fixedOK]

theorem fixedSeg_of_fixedOK : ∀ {F : List Seg}, fixedOK F = true → ∀ x ∈ F, fixedSeg x = true
  | .lit d :: F, h, x, hx => by
    rcases List.mem_cons.1 hx with rfl | hx
    · rfl
    · exact fixedSeg_of_fixedOK (fixedOK_lit.1 h).2 x hx
  | .wild w :: F, h, x, hx => by
    rcases List.mem_cons.1 hx with rfl | hx
    · simpa [fixedSeg] using (fixedOK_wild.1 h).1
    · exact fixedSeg_of_fixedOK (fixedOK_wild.1 h).2 x hx

theorem fixedOK_of : ∀ {F : List Seg}, (∀ x ∈ F, fixedSeg x = true) →
    (∀ d, Seg.lit d ∈ F → d ≠ [] ∧ validUtf8 d = true) → fixedOK F = true
  | [], _, _ => rfl
  | .lit d :: F, hf, hl =>
    fixedOK_lit.2 ⟨hl d List.mem_cons_self, fixedOK_of (fun x hx => hf x (List.mem_cons_of_mem _ hx))
      (fun d hd => hl d (List.mem_cons_of_mem _ hd))⟩
  | .wild w :: F, hf, hl =>
    fixedOK_wild.2 ⟨by simpa [fixedSeg] using hf (.wild w) List.mem_cons_self,
      fixedOK_of (fun x hx => hf x (List.mem_cons_of_mem _ hx))
        (fun d hd => hl d (List.mem_cons_of_mem _ hd))⟩
  | .slash :: F, hf, _ => absurd (hf .slash List.mem_cons_self) (by simp [fixedSeg])

theorem iter_gridLen_lit {d : Bytes} (hd : validUtf8 d = true) (F : List Seg) (s : Bytes) :
    iter (gridLen (.lit d :: F)) (d ++ s) = iter (gridLen F) s := by
  rw [gridLen, iter_add, iter_valid_append hd]

theorem iter_gridLen_wild (w : Wild) (F : List Seg) (s : Bytes) :
    iter (gridLen (.wild w :: F)) s = iter (gridLen F) (stepF s) := by
  show iter (1 + gridLen F) s = _
  rw [Nat.add_comm]
  rfl

theorem matches_nil_inv {s : Bytes} (h : Matches [] s) : s = [] := by
  cases h; rfl

theorem mFL_complete : ∀ (F R : List Seg) (s : Bytes), fixedOK F = true → Matches (F ++ R) s →
    matchFixedLength F s = .ok (some (iter (gridLen F) s)) ∧ Matches R (iter (gridLen F) s) := by
  intro F
  induction F with
  | nil => intro R s _ h; exact ⟨rfl, h⟩
  | cons seg F ih =>
    intro R s hF h
    cases seg with
    | slash => cases hF
    | lit d =>
      obtain ⟨⟨hdne, hdv⟩, hF'⟩ := fixedOK_lit.1 hF
      cases h with
      | lit hm =>
        next s' =>
        rw [iter_gridLen_lit hdv, mFL_lit_append d F (by simp [hdne])]
        exact ih R s' hF' hm
    | wild w =>
      obtain ⟨hq, hF'⟩ := fixedOK_wild.1 hF
      cases h with
      | skip hnq _ => exact absurd hq hnq
      | step hnq _ _ => exact absurd hq hnq
      | question _ hstep hm =>
        obtain ⟨hne, rfl, hacc, _⟩ := hstep
        rw [iter_gridLen_wild, mFL_question hq F hne, if_pos hacc]
        exact ih R _ hF' hm

theorem mFL_grid : ∀ (F : List Seg) (s rest : Bytes), fixedOK F = true →
    matchFixedLength F s = .ok (some rest) → rest = iter (gridLen F) s := by
  intro F
  induction F with
  | nil =>
    intro s rest _ h
    obtain rfl : s = rest := by simpa [matchFixedLength] using h
    rfl
  | cons seg F ih =>
    intro s rest hF h
    have h' := mFL_cons_some h
    cases seg with
    | slash => exact h'.elim
    | lit d =>
      obtain ⟨⟨_, hdv⟩, hF'⟩ := fixedOK_lit.1 hF
      obtain ⟨s', rfl, h'⟩ := h'
      rw [ih _ _ hF' h', iter_gridLen_lit hdv]
    | wild w =>
      obtain ⟨_, _, _, h'⟩ := h'
      rw [ih _ _ (fixedOK_wild.1 hF).2 h', iter_gridLen_wild]

theorem star_unfold {segs : List Seg} {t : Bytes} (h : Matches segs t) :
    ∀ w X, segs = .wild w :: X → w.type ≠ .question →
    ∃ k, (∀ j, j < k → iter j t ≠ [] ∧ w.accepts (decodeRune (iter j t)).1 = true) ∧
      Matches X (iter k t) := by
  induction h with
  | nil => intro w X e; cases e
  | lit _ _ => intro w X e; cases e
  | question hq _ _ _ => intro w X e hw; cases e; exact absurd hq hw
  | skip _ hm _ =>
    intro w X e _; cases e
    exact ⟨0, fun j hj => absurd hj (Nat.not_lt_zero _), hm⟩
  | step _ hs _ ih =>
    intro w X e hw; cases e
    obtain ⟨hne, hn, hacc, _⟩ := hs
    subst hn
    obtain ⟨k, hk, hm⟩ := ih _ _ rfl hw
    refine ⟨k + 1, ?_, hm⟩
    intro j hj
    cases j with
    | zero => exact ⟨hne, hacc⟩
    | succ j => exact hk j (by omega)

theorem starLoop_complete (w : Wild) (F : List Seg) (hF : fixedOK F = true) (last : Bool) :
    ∀ (fuel : Nat) (x : Bytes) (M : Nat), x.length ≤ fuel →
    (∀ j, j < M → iter j x ≠ [] → w.accepts (decodeRune (iter j x)).1 = true) →
    (∃ q, Fits F last (iter M x) q) → (∀ q, ¬ Fits F last x q) →
    ∃ j rest, 1 ≤ j ∧ j ≤ M ∧ starLoop w F last fuel x = .ok (some rest) ∧
      Fits F last (iter j x) rest := by
  intro fuel
  induction fuel with
  | zero =>
    intro x M hlen _ ⟨q, hq⟩ hnd
    obtain rfl : x = [] := List.length_eq_zero_iff.1 (by omega)
    rw [iter_nil] at hq
    exact absurd hq (hnd q)
  | succ fuel ih =>
    intro x M hlen hacc ⟨q, hq⟩ hnd
    by_cases hne : x = []
    · subst hne; rw [iter_nil] at hq; exact absurd hq (hnd q)
    cases M with
    | zero => exact absurd hq (hnd q)
    | succ M =>
      rw [starLoop_accept w F last fuel hne (hacc 0 (Nat.succ_pos _) hne)]
      by_cases hfit : ∃ r, Fits F last (stepF x) r
      · obtain ⟨r, hr⟩ := hfit
        exact ⟨1, r, Nat.le_refl _, Nat.succ_le_succ (Nat.zero_le _), tryAt_fits hr _, hr⟩
      · obtain ⟨o, ho⟩ := mFL_ok F (stepF x) (fixedSeg_of_fixedOK hF)
        rw [tryAt_next ho (fun r hr => hfit ⟨r, hr⟩)]
        obtain ⟨j, rest, hj1, hj2, hl, hm⟩ := ih (stepF x) M
          (by have := stepF_length_lt hne; omega) (fun j hj => hacc (j + 1) (by omega)) ⟨q, hq⟩
          (fun r hr => hfit ⟨r, hr⟩)
        exact ⟨j + 1, rest, by omega, by omega, hl, hm⟩

theorem accepts_of_unrestricted {w : Wild} (h : w.unrestricted = true) (r : Rune) :
    w.accepts r = true := by
  simp [Wild.unrestricted] at h
  simp [Wild.accepts, h]

theorem chunk_complete (w : Wild) (hw : w.type ≠ .question) (F : List Seg) (hF : fixedOK F = true)
    (cs' : List (List Seg)) (s : Bytes) (M₀ : Nat)
    (hacc : ∀ j, j < M₀ → iter j s ≠ [] → w.accepts (decodeRune (iter j s)).1 = true)
    (hv : Matches (.wild w :: (F ++ cs'.flatten)) (iter M₀ s))
    (IH : cs' ≠ [] → ∀ s' m', Matches cs'.flatten (iter m' s') → matchChunks cs' s' = .ok true) :
    matchChunks ((.wild w :: F) :: cs') s = .ok true := by
  obtain ⟨k, hk, hm⟩ := star_unfold hv w _ rfl hw
  rw [← iter_add] at hm
  -- the valid match places the fixed run at `iter M s`
  generalize hM : M₀ + k = M at hm
  have hacc' : ∀ j, j < M → iter j s ≠ [] → w.accepts (decodeRune (iter j s)).1 = true := by
    intro j hj hne
    by_cases h : j < M₀
    · exact hacc j h hne
    · obtain ⟨i, rfl⟩ : ∃ i, j = M₀ + i := ⟨j - M₀, by omega⟩
      rw [iter_add]
      exact (hk i (by omega)).2
  obtain ⟨hfix, hrest⟩ := mFL_complete F cs'.flatten (iter M s) hF hm
  have hvq : Fits F cs'.isEmpty (iter M s) (iter (gridLen F) (iter M s)) := by
    refine ⟨hfix, ?_⟩
    cases cs' with
    | nil => exact .inl (matches_nil_inv hrest)
    | cons _ _ => exact .inr rfl
  -- once the chunk is placed at `iter j s` with `j ≤ M`, the tail follows
  have tail : ∀ j rest, j ≤ M → Fits F cs'.isEmpty (iter j s) rest → matchChunks cs' rest = .ok true := by
    intro j rest hj ⟨hmf, hc⟩
    cases cs' with
    | nil =>
      obtain rfl : rest = [] := hc.resolve_right (by simp)
      rfl
    | cons c cs'' =>
      apply IH (by simp) rest (M - j)
      rw [mFL_grid F _ _ hF hmf, iter_comm (M - j) (gridLen F), ← iter_add j (M - j),
        Nat.add_sub_cancel' hj]
      exact hrest
  rw [matchChunks.eq_2, chunkParts_of_star hw, tryChunk_some]
  by_cases hd : ∃ q, Fits F cs'.isEmpty s q
  · obtain ⟨q, hq⟩ := hd
    rw [tryAt_fits hq]
    exact tail 0 q (Nat.zero_le _) hq
  · obtain ⟨o, ho⟩ := mFL_ok F s (fixedSeg_of_fixedOK hF)
    obtain ⟨j, rest, _, hjM, hl, hfit⟩ := starLoop_complete w F hF cs'.isEmpty s.length s M
      (Nat.le_refl _) hacc' ⟨_, hvq⟩ (fun q hq => hd ⟨q, hq⟩)
    rw [tryAt_next ho (fun q hq => hd ⟨q, hq⟩), hl]
    exact tail j rest hjM hfit

theorem fixedChunk_complete (c : List Seg) (hc : startsStar c = false) (hF : fixedOK c = true)
    (cs' : List (List Seg)) (s : Bytes) (hv : Matches (c ++ cs'.flatten) s)
    (IH : cs' ≠ [] → ∀ s', Matches cs'.flatten s' → matchChunks cs' s' = .ok true) :
    matchChunks (c :: cs') s = .ok true := by
  obtain ⟨hfix, hrest⟩ := mFL_complete c cs'.flatten s hF hv
  have key : ∀ h : iter (gridLen c) s = [] ∨ cs'.isEmpty = false,
      tryChunk (chunkParts c).1 (chunkParts c).2 cs'.isEmpty s = .ok (some (iter (gridLen c) s)) := by
    intro h
    rw [chunkParts_of_fixed hc, tryChunk_none]
    exact tryAt_fits ⟨hfix, h⟩ _
  rw [matchChunks.eq_2]
  cases cs' with
  | nil =>
    have h0 := matches_nil_inv hrest
    rw [key (.inl h0), h0]
    rfl
  | cons c' cs'' =>
    rw [key (.inr rfl)]
    exact IH (by simp) _ hrest

def chunkUnrestricted (c : List Seg) : Bool :=
  match c with
  | .wild w :: _ => w.unrestricted
  | _ => false

/-- `greedyOK` read off the chunks of one path element: a chunk that starts with a star
and has an earlier such chunk (`seen`) starts with an unrestricted star -/
def chunksOK : Bool → List (List Seg) → Bool
  | _, [] => true
  | seen, c :: cs =>
    (!startsStar c || !seen || chunkUnrestricted c) && chunksOK (seen || startsStar c) cs

/-- Chunks of which only the first may lack a star, matched against a valid match that
starts `m` rune steps after `s`; `m > 0` only behind a star. -/
theorem chunks_complete : ∀ (cs : List (List Seg)) (seen : Bool), chunksOK seen cs = true →
    (∀ c ∈ cs, fixedOK (chunkParts c).2 = true) → (∀ c ∈ cs.tail, startsStar c = true) →
    ∀ (s : Bytes) (m : Nat), (m = 0 ∨ (seen = true ∧ ∀ c ∈ cs, startsStar c = true)) →
    (cs = [] → m = 0) → Matches cs.flatten (iter m s) → matchChunks cs s = .ok true := by
  intro cs
  induction cs with
  | nil =>
    intro _ _ _ _ s m _ hm0 hv
    obtain rfl := hm0 rfl
    obtain rfl : s = [] := matches_nil_inv hv
    rfl
  | cons c cs' ih =>
    intro seen hok hfx hst s m hm _ hv
    rw [chunksOK, Bool.and_eq_true] at hok
    have hfx' : ∀ c ∈ cs', fixedOK (chunkParts c).2 = true := fun c hc =>
      hfx c (List.mem_cons_of_mem _ hc)
    have hst' : ∀ c ∈ cs'.tail, startsStar c = true := fun c hc => hst c (List.mem_of_mem_tail hc)
    rw [List.flatten_cons] at hv
    cases hc : startsStar c with
    | false =>
      have hm0 : m = 0 := hm.resolve_right fun h => by simp [h.2 c List.mem_cons_self] at hc
      subst hm0
      have hF : fixedOK c = true := by simpa [chunkParts_of_fixed hc] using hfx c List.mem_cons_self
      apply fixedChunk_complete c hc hF cs' s hv
      intro hne s' hv'
      rw [hc, Bool.or_false] at hok
      exact ih seen hok.2 hfx' hst' s' 0 (.inl rfl) (fun h => absurd h hne) hv'
    | true =>
      obtain ⟨w, F, rfl, hw⟩ := (startsStar_cases c).resolve_left (by simp [hc])
      apply chunk_complete w hw F (by simpa [chunkParts_of_star hw] using hfx _ List.mem_cons_self) cs' s m
      · intro j hj _
        rcases hm with rfl | ⟨rfl, _⟩
        · omega
        · exact accepts_of_unrestricted (by simpa [hc, chunkUnrestricted] using hok.1) _
      · exact hv
      · intro hne s' m' hv'
        exact ih _ hok.2 hfx' hst' s' m'
          (.inr ⟨by simp [hc], fun c hc => hst c hc⟩) (fun h => absurd h hne) hv'

theorem matches_noSlash {segs : List Seg} {s : Bytes} (h : Matches segs s) : NoSlash segs := by
  induction h with
  | nil => intro x hx; cases hx
  | lit _ ih => intro x hx; cases hx with
    | head => rfl
    | tail _ h => exact ih x h
  | question _ _ _ ih => intro x hx; cases hx with
    | head => rfl
    | tail _ h => exact ih x h
  | skip _ _ ih => intro x hx; cases hx with
    | head => rfl
    | tail _ h => exact ih x h
  | step _ _ _ ih => exact ih

theorem greedyOK_question {w : Wild} (hq : w.type = .question) (sn : Bool) (t : List Seg) :
    greedyOK sn (.wild w :: t) = greedyOK sn t := by
  simp [greedyOK, hq]

theorem greedyOK_star {w : Wild} (hq : w.type ≠ .question) (sn : Bool) (t : List Seg) :
    greedyOK sn (.wild w :: t) = ((!sn || w.unrestricted) && greedyOK true t) := by
  simp [greedyOK, hq]

theorem greedyOK_mono : ∀ (l : List Seg), greedyOK true l = true → greedyOK false l = true := by
  intro l
  induction l with
  | nil => intro _; rfl
  | cons x l ih =>
    intro h
    cases x with
    | slash => simpa [greedyOK] using h
    | lit d => simp [greedyOK] at h ⊢; exact ⟨h.1, ih h.2⟩
    | wild w =>
      by_cases hq : w.type = .question
      · rw [greedyOK_question hq] at h ⊢
        exact ih h
      · rw [greedyOK_star hq, Bool.and_eq_true] at h
        rw [greedyOK_star hq, Bool.and_eq_true]
        exact ⟨rfl, h.2⟩

theorem greedyOK_cons {x : Seg} {t : List Seg} {sn : Bool} (hx : isSlash x = false)
    (h : greedyOK sn (x :: t) = true) :
    (!isStarLike x || !sn || chunkUnrestricted [x]) = true ∧
      greedyOK (sn || isStarLike x) t = true := by
  cases x with
  | slash => cases hx
  | lit d =>
    simp only [greedyOK, Bool.and_eq_true] at h
    simpa [isStarLike] using h.2
  | wild w =>
    by_cases hq : w.type = .question
    · rw [greedyOK_question hq] at h
      simpa [isStarLike, hq] using h
    · have hq' : (w.type != .question) = true := by simpa using hq
      rw [greedyOK_star hq, Bool.and_eq_true] at h
      simpa [isStarLike, hq', chunkUnrestricted] using h

theorem chunksOK_chunkify : ∀ (segs : List Seg) (sn : Bool), NoSlash segs → greedyOK sn segs = true →
    chunksOK sn (chunkify segs) = true := by
  intro segs
  induction segs with
  | nil => intro _ _ _; rfl
  | cons x t ih =>
    intro sn hns hg
    obtain ⟨hx, ht⟩ := greedyOK_cons (hns x List.mem_cons_self) hg
    have ih := ih _ (fun y hy => hns y (List.mem_cons_of_mem _ hy)) ht
    have hux : ∀ c, chunkUnrestricted (x :: c) = chunkUnrestricted [x] := by
      intro c; cases x <;> rfl
    rcases chunkify_cons_cases x t with ⟨h, e⟩ | ⟨c0, cs, h, hs, e⟩ | ⟨c0, cs, h, hs, e⟩ <;>
      rw [h] at ih <;> rw [e]
    · simpa [chunksOK, startsStar] using hx
    · rw [chunksOK, Bool.and_eq_true]
      exact ⟨hx, ih⟩
    · rw [chunksOK, Bool.and_eq_true, hux]
      refine ⟨hx, ?_⟩
      show chunksOK (sn || isStarLike x) cs = true
      simpa [chunksOK, hs] using ih

theorem greedyOK_lit {d : Bytes} : ∀ {segs : List Seg} {sn : Bool}, greedyOK sn segs = true →
    Seg.lit d ∈ segs → d ≠ [] ∧ validUtf8 d = true := by
  intro segs
  induction segs with
  | nil => intro _ _ hm; cases hm
  | cons x t ih =>
    intro sn hg hm
    cases x with
    | slash => exact ih (by simpa [greedyOK] using hg) (by simpa using hm)
    | lit d' =>
      simp only [greedyOK, Bool.and_eq_true] at hg
      rcases List.mem_cons.1 hm with h | h
      · cases h; simpa using hg.1
      · exact ih hg.2 h
    | wild w =>
      have hm : Seg.lit d ∈ t := by simpa using hm
      by_cases hq : w.type = .question
      · exact ih (greedyOK_question hq sn t ▸ hg) hm
      · rw [greedyOK_star hq, Bool.and_eq_true] at hg
        exact ih hg.2 hm

theorem chunkify_fixedOK {segs : List Seg} {sn : Bool} (hns : NoSlash segs)
    (hg : greedyOK sn segs = true) : ∀ c ∈ chunkify segs, fixedOK (chunkParts c).2 = true := by
  intro c hc
  exact fixedOK_of
    (chunkParts_fixed c (fun s hs => hns s (chunkify_mem segs c hc s hs)) (chunkify_tail segs c hc))
    (fun d hd => greedyOK_lit hg (chunkify_mem segs c hc _ (chunkParts_subset c _ hd)))

theorem matchElement_complete {segs : List Seg} {name : Bytes} (hg : greedyOK false segs = true)
    (h : ElemMatches segs name) : matchElement segs name = .ok true := by
  obtain ⟨hh, hm⟩ := h
  have hns := matches_noSlash hm
  unfold matchElement
  cases segs with
  | nil => simp [matches_nil_inv hm]
  | cons s0 t =>
    simp only
    rw [hiddenReject_eq_false_iff.2 hh]
    simp only [Bool.false_eq_true, if_false]
    exact chunks_complete _ false (chunksOK_chunkify _ _ hns hg) (chunkify_fixedOK hns hg)
      (chunkify_tail_star _) name 0 (.inl rfl) (fun _ => rfl) (by rw [chunkify_flatten]; exact hm)

end C23
