/-
A lower bound on the length of a matched name: every literal of a path element
occupies its own bytes of the name, every `?` at least one byte.
-/
import ElvProofs.C23.Top
namespace C23
open Go

def minLen : List Seg → Nat
  | [] => 0
  | .lit d :: rest => d.length + minLen rest
  | .slash :: rest => minLen rest
  | .wild w :: rest => (if w.type = .question then 1 else 0) + minLen rest

theorem matches_minLen {segs : List Seg} {name : Bytes} (h : Matches segs name) :
    minLen segs ≤ name.length := by
  induction h with
  | nil => simp [minLen]
  | lit _ ih => simp [minLen]; omega
  | @question w rest s n hq hr _ ih =>
    obtain ⟨hne, hn, _, _⟩ := hr
    have hp : 0 < n := by rw [hn]; exact decodeRune_size_pos hne
    have hle : n ≤ s.length := by rw [hn]; exact decodeRune_size_le s
    simp only [minLen, hq, if_true]
    simp only [List.length_drop] at ih
    omega
  | skip hq _ ih => simpa [minLen, hq] using ih
  | @step w rest s n hq hr _ ih =>
    simp only [List.length_drop] at ih
    omega

theorem matches_lit_prefix {d : Bytes} {rest : List Seg} {name : Bytes}
    (h : Matches (.lit d :: rest) name) : ∃ t, name = d ++ t ∧ Matches rest t := by
  cases h with
  | lit h => exact ⟨_, rfl, h⟩

theorem matches_lit_suffix {d : Bytes} : ∀ {segs : List Seg} {name : Bytes},
    Matches (segs ++ [.lit d]) name → ∃ t, name = t ++ d := by
  intro segs name h
  generalize hx : segs ++ [Seg.lit d] = x at h
  induction h generalizing segs with
  | nil => cases segs <;> simp at hx
  | @lit d' rest s h ih =>
    cases segs with
    | nil =>
      simp at hx
      obtain ⟨rfl, rfl⟩ := hx
      cases h
      exact ⟨[], by simp⟩
    | cons a segs =>
      simp at hx
      obtain ⟨rfl, rfl⟩ := hx
      obtain ⟨t, ht⟩ := ih rfl
      exact ⟨d' ++ t, by rw [ht]; simp⟩
  | @question w rest s n hq hr h ih =>
    cases segs with
    | nil => simp at hx
    | cons a segs =>
      simp at hx
      obtain ⟨rfl, rfl⟩ := hx
      obtain ⟨t, ht⟩ := ih rfl
      exact ⟨s.take n ++ t, by rw [List.append_assoc, ← ht, List.take_append_drop]⟩
  | @skip w rest s hq h ih =>
    cases segs with
    | nil => simp at hx
    | cons a segs =>
      simp at hx
      obtain ⟨rfl, rfl⟩ := hx
      exact ih rfl
  | @step w rest s n hq hr h ih =>
    obtain ⟨t, ht⟩ := ih hx
    exact ⟨s.take n ++ t, by rw [List.append_assoc, ← ht, List.take_append_drop]⟩

end C23
