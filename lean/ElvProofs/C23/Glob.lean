/-
The directory walk (`glob`, `enum`, `followLits`) against the declarative `Expands`.

`enum` runs a list of loops that depends on the pattern alone (`enumPlan`): one descent
per place where the first path element may end, or the final loop.  Each of them is one
constructor of `Expands`; what holds of `enum` is shown loop by loop.
-/
import ElvProofs.C23.Complete
import ElvProofs.Lemmas.Res
namespace C23
open Go

def concatM : List (Res (List Out)) → Res (List Out)
  | [] => .ok []
  | r :: rs => do
    let a ← r
    let b ← concatM rs
    pure (a ++ b)

theorem concatM_singleton (r : Res (List Out)) : concatM [r] = r := by
  cases r <;> simp [concatM, bind, Res.bind, pure]

theorem concatM_cons_ok {r : Res (List Out)} {rs : List (Res (List Out))} {outs : List Out} :
    concatM (r :: rs) = .ok outs ↔ ∃ a b, r = .ok a ∧ concatM rs = .ok b ∧ outs = a ++ b := by
  rw [concatM, Res.bind_eq_ok]
  constructor
  · rintro ⟨a, ha, h⟩
    obtain ⟨b, hb, h⟩ := Res.bind_eq_ok.1 h
    exact ⟨a, b, ha, hb, (Res.ok.inj h).symm⟩
  · rintro ⟨a, b, ha, hb, rfl⟩
    exact ⟨a, ha, Res.bind_eq_ok.2 ⟨b, hb, rfl⟩⟩

theorem concatM_ok : ∀ {l : List (Res (List Out))} {outs : List Out}, concatM l = .ok outs →
    (∀ r ∈ l, ∃ a, r = .ok a ∧ ∀ o ∈ a, o ∈ outs) ∧ (∀ o ∈ outs, ∃ a, .ok a ∈ l ∧ o ∈ a) := by
  intro l
  induction l with
  | nil =>
    intro outs h
    cases h
    exact ⟨fun _ hr => (by cases hr), fun _ ho => (by cases ho)⟩
  | cons r rs ih =>
    intro outs h
    obtain ⟨a, b, rfl, hb, rfl⟩ := concatM_cons_ok.1 h
    obtain ⟨ih1, ih2⟩ := ih hb
    constructor
    · intro r' hr'
      rcases List.mem_cons.1 hr' with rfl | hr'
      · exact ⟨a, rfl, fun o ho => List.mem_append_left _ ho⟩
      · obtain ⟨a', ha', hsub⟩ := ih1 r' hr'
        exact ⟨a', ha', fun o ho => List.mem_append_right _ (hsub o ho)⟩
    · intro o ho
      rcases List.mem_append.1 ho with ho | ho
      · exact ⟨a, List.mem_cons_self, ho⟩
      · obtain ⟨a', hm, ho'⟩ := ih2 o ho
        exact ⟨a', List.mem_cons_of_mem _ hm, ho'⟩

theorem concatM_total : ∀ {l : List (Res (List Out))}, (∀ r ∈ l, ∃ a, r = .ok a) →
    ∃ outs, concatM l = .ok outs := by
  intro l
  induction l with
  | nil => intro _; exact ⟨_, rfl⟩
  | cons r rs ih =>
    intro h
    obtain ⟨a, ha⟩ := h r List.mem_cons_self
    obtain ⟨b, hb⟩ := ih fun r hr => h r (List.mem_cons_of_mem _ hr)
    exact ⟨a ++ b, concatM_cons_ok.2 ⟨a, b, ha, hb, rfl⟩⟩

theorem concatM_map_mono {α : Type} {f g : α → Res (List Out)} : ∀ {xs : List α} {outs : List Out},
    (∀ x ∈ xs, ∀ a, f x = .ok a → g x = .ok a) →
    concatM (xs.map f) = .ok outs → concatM (xs.map g) = .ok outs := by
  intro xs
  induction xs with
  | nil => intro _ _ h; exact h
  | cons x xs ih =>
    intro outs hfg h
    obtain ⟨a, b, ha, hb, rfl⟩ := concatM_cons_ok.1 h
    exact concatM_cons_ok.2 ⟨a, b, hfg x List.mem_cons_self a ha,
      ih (fun y hy => hfg y (List.mem_cons_of_mem _ hy)) hb, rfl⟩

theorem forEntries_eq (f : Bytes → Bool → Res (List Out)) : ∀ (es : List (Bytes × Bool)),
    forEntries es f = concatM (es.map fun e => f e.1 e.2)
  | [] => rfl
  | (n, d) :: es => by rw [forEntries, forEntries_eq f es]; rfl

theorem mem_lstatOut {fs : FS} {path : Bytes} {o : Out} :
    o ∈ lstatOut fs path ↔ o.1 = path ∧ fs.lstat path = some o.2 := by
  unfold lstatOut
  split
  · next k hk =>
    obtain ⟨p, k'⟩ := o
    simp [hk]
    intro _; exact eq_comm
  · next hk => simp [hk]

/-- the `seen` flag of `greedyOK` behind `a` -/
def seenAfter : Bool → List Seg → Bool
  | sn, [] => sn
  | _, .slash :: rest => seenAfter false rest
  | sn, .lit _ :: rest => seenAfter sn rest
  | sn, .wild w :: rest => seenAfter (sn || w.type != .question) rest

theorem greedyOK_append : ∀ (a b : List Seg) (sn : Bool),
    greedyOK sn (a ++ b) = (greedyOK sn a && greedyOK (seenAfter sn a) b) := by
  intro a
  induction a with
  | nil => intro b sn; rfl
  | cons x a ih =>
    intro b sn
    cases x with
    | slash => exact ih b false
    | lit d => simp only [List.cons_append, greedyOK, seenAfter, ih, Bool.and_assoc]
    | wild w =>
      by_cases hq : w.type = .question
      · simp [greedyOK_question hq, seenAfter, hq, ih]
      · have hq' : (w.type != .question) = true := by simpa using hq
        simp [greedyOK_star hq, seenAfter, hq', ih, Bool.and_assoc]

theorem greedyOK_prefix (a b : List Seg) (sn : Bool) (h : greedyOK sn (a ++ b) = true) :
    greedyOK sn a = true :=
  (Bool.and_eq_true _ _ ▸ greedyOK_append a b sn ▸ h).1

theorem greedyOK_suffix (a b : List Seg) (sn : Bool) (h : greedyOK sn (a ++ b) = true) :
    greedyOK false b = true := by
  rw [greedyOK_append, Bool.and_eq_true] at h
  cases hs : seenAfter sn a with
  | false => exact hs ▸ h.2
  | true => exact greedyOK_mono _ (hs ▸ h.2)

def NoLitDir (segs : List Seg) : Prop := ∀ d rest, segs ≠ .lit d :: .slash :: rest

theorem followLits_sound (fs : FS) : ∀ (segs : List Seg) (dir : Bytes) (segs' : List Seg) (dir' : Bytes),
    followLits fs segs dir = some (segs', dir') →
    NoLitDir segs' ∧ (∀ p, Expands fs segs' dir' p → Expands fs segs dir p) ∧
      (greedyOK false segs = true → greedyOK false segs' = true) := by
  intro segs dir
  induction segs, dir using followLits.induct fs with
  | case1 d rest dir _ hdir ih =>
    intro segs' dir' h
    rw [followLits.eq_1, if_pos hdir] at h
    obtain ⟨a, b, c⟩ := ih _ _ h
    refine ⟨a, fun p hp => Expands.litDir hdir (b p hp), fun hg => c ?_⟩
    simp only [greedyOK, Bool.and_eq_true] at hg
    exact hg.2
  | case2 d rest dir _ hdir =>
    intro segs' dir' h
    rw [followLits.eq_1, if_neg hdir] at h
    cases h
  | case3 segs dir hno =>
    intro segs' dir' h
    rw [followLits.eq_2 _ _ _ hno] at h
    cases h
    exact ⟨fun d rest he => hno d rest he, fun _ h => h, fun h => h⟩

theorem glob_litDir (fs : FS) (fuel : Nat) (d : Bytes) (rest : List Seg) (dir : Bytes)
    (h : fs.lstat (dir ++ d ++ [slashByte]) = some .dir) :
    glob fs (fuel + 1) (.lit d :: .slash :: rest) dir = glob fs (fuel + 1) rest (dir ++ d ++ [slashByte]) := by
  simp only [glob, followLits, if_pos h]

theorem followLits_noLitDir (fs : FS) {segs : List Seg} (dir : Bytes) (h : NoLitDir segs) :
    followLits fs segs dir = some (segs, dir) := by
  unfold followLits
  split
  · next d rest => exact absurd rfl (h d rest)
  · rfl

/-- The loops `enum` runs, in order: a descent at the first `/` (`sub`) and before that at every
`**` (`cross`), or without a `/` the final loop over the whole pattern (`final`). -/
inductive Piece
  | final (comp : List Seg)
  | sub (comp rest : List Seg)
  | cross (pre : List Seg) (w : Wild) (post : List Seg)

def enumPlan : List Seg → List Seg → List Piece
  | pre, [] => [.final pre]
  | pre, .slash :: rest => [.sub pre rest]
  | pre, .wild w :: rest =>
    (if w.type = .starstar then [.cross pre w rest] else []) ++ enumPlan (pre ++ [.wild w]) rest
  | pre, .lit d :: rest => enumPlan (pre ++ [.lit d]) rest

def descend (recur : List Seg → Bytes → Res (List Out)) (dir : Bytes) (es : List (Bytes × Bool))
    (comp next : List Seg) : Res (List Out) :=
  forEntries es fun name isDir => do
    if (← matchElement comp name) && isDir then recur next (dir ++ name ++ [slashByte]) else pure []

def runPiece (fs : FS) (recur : List Seg → Bytes → Res (List Out)) (dir : Bytes)
    (es : List (Bytes × Bool)) : Piece → Res (List Out)
  | .final comp => forEntries es fun name _ => do
      if (← matchElement comp name) then pure (lstatOut fs (dir ++ name)) else pure []
  | .sub comp rest => descend recur dir es comp rest
  | .cross pre w post => descend recur dir es (pre ++ [.wild w]) (.wild w :: post)

section
variable {fs : FS} {recur : List Seg → Bytes → Res (List Out)} {dir : Bytes} {es : List (Bytes × Bool)}

theorem enum_eq_plan : ∀ (post pre : List Seg),
    enum fs recur dir es pre post = concatM ((enumPlan pre post).map (runPiece fs recur dir es)) := by
  intro post
  induction post with
  | nil => intro pre; exact (concatM_singleton _).symm
  | cons x rest ih =>
    intro pre
    cases x with
    | slash => exact (concatM_singleton _).symm
    | lit d => rw [enum, enumPlan, ih]
    | wild w =>
      rw [enum, enumPlan, ih]
      split <;> rfl

end

def Piece.segs : Piece → List Seg
  | .final comp => comp
  | .sub comp rest => comp ++ .slash :: rest
  | .cross pre w post => pre ++ .wild w :: post

def Piece.OK : Piece → Prop
  | .final comp => NoSlash comp
  | .sub comp _ => NoSlash comp
  | .cross pre w _ => NoSlash pre ∧ w.type = .starstar

theorem noSlash_snoc {pre : List Seg} {s : Seg} (hp : NoSlash pre) (hs : isSlash s = false) :
    NoSlash (pre ++ [s]) := by
  intro x hx
  rcases List.mem_append.1 hx with hx | hx
  · exact hp x hx
  · rw [List.mem_singleton.1 hx]; exact hs

theorem enumPlan_sound : ∀ (post pre : List Seg), NoSlash pre → ∀ p ∈ enumPlan pre post,
    p.segs = pre ++ post ∧ p.OK := by
  intro post
  induction post with
  | nil =>
    intro pre hpre p hp
    obtain rfl := List.mem_singleton.1 hp
    exact ⟨(List.append_nil _).symm, hpre⟩
  | cons x rest ih =>
    intro pre hpre p hp
    cases x with
    | slash =>
      obtain rfl := List.mem_singleton.1 hp
      exact ⟨rfl, hpre⟩
    | lit d =>
      rw [List.append_cons]
      exact ih _ (noSlash_snoc hpre rfl) p hp
    | wild w =>
      rw [enumPlan, List.mem_append] at hp
      rcases hp with hp | hp
      · split at hp
        · next hw =>
          obtain rfl := List.mem_singleton.1 hp
          exact ⟨rfl, hpre, hw⟩
        · cases hp
      · rw [List.append_cons]
        exact ih _ (noSlash_snoc hpre rfl) p hp

theorem enumPlan_scan : ∀ (comp pre post : List Seg), NoSlash comp →
    ∀ p ∈ enumPlan (pre ++ comp) post, p ∈ enumPlan pre (comp ++ post) := by
  intro comp
  induction comp with
  | nil => intro pre post _ p hp; simpa using hp
  | cons x comp ih =>
    intro pre post hns p hp
    have hp' := ih (pre ++ [x]) post (fun y hy => hns y (List.mem_cons_of_mem _ hy)) p
      (by rwa [List.append_assoc, List.singleton_append])
    cases x with
    | slash => exact absurd (hns .slash List.mem_cons_self) (by simp [isSlash])
    | lit d => exact hp'
    | wild w => exact List.mem_append_right _ hp'

theorem mem_enumPlan {p : Piece} (h : p.OK) : p ∈ enumPlan [] p.segs := by
  cases p with
  | final comp =>
    have := enumPlan_scan comp [] [] h (.final comp) (by simp [enumPlan])
    rwa [List.append_nil] at this
  | sub comp rest => exact enumPlan_scan comp [] _ h _ (by simp [enumPlan])
  | cross pre w post => exact enumPlan_scan pre [] _ h.1 _ (by simp [enumPlan, h.2])

theorem guard_ok {m : Res Bool} {d : Bool} {K : Res (List Out)} {a : List Out}
    (h : (do if (← m) && d then K else pure []) = .ok a) :
    (m = .ok true ∧ d = true ∧ K = .ok a) ∨ a = [] := by
  obtain ⟨b, hb, h'⟩ := Res.bind_eq_ok.1 h
  by_cases hc : (b && d) = true
  · rw [if_pos hc] at h'
    rw [Bool.and_eq_true] at hc
    exact .inl ⟨hc.1 ▸ hb, hc.2, h'⟩
  · rw [if_neg hc] at h'
    exact .inr (Res.ok.inj h').symm

def RecurSound (fs : FS) (recur : List Seg → Bytes → Res (List Out)) : Prop :=
  ∀ segs dir outs, recur segs dir = .ok outs → ∀ o ∈ outs, Expands fs segs dir o.1 ∧ fs.lstat o.1 = some o.2

theorem cut_shape {comp : List Seg} {x : Seg} (rest : List Seg) (hns : NoSlash comp)
    (hx : ∀ d, x ≠ .lit d) (hsl : x = .slash → ¬ SingleLit comp) :
    NoLitDir (comp ++ x :: rest) ∧ comp ++ x :: rest ≠ [] ∧ ¬ SingleLit (comp ++ x :: rest) := by
  refine ⟨?_, by simp, ?_⟩
  · intro d r he
    cases comp with
    | nil => exact hx d (List.cons.inj he).1
    | cons c cs =>
      cases cs with
      | nil =>
        simp only [List.cons_append, List.nil_append, List.cons.injEq] at he
        exact hsl he.2.1 ⟨d, by rw [he.1]⟩
      | cons c2 cs =>
        simp only [List.cons_append, List.cons.injEq] at he
        have := hns c2 (by simp)
        rw [he.2.1] at this
        cases this
  · rintro ⟨d, he⟩
    cases comp with
    | nil => exact hx d (List.cons.inj he).1
    | cons c cs => simp at he

/-- names returned by `ReadDir` contain no `/` -/
def FSNames (fs : FS) : Prop :=
  ∀ dir es, fs.readDir dir = some es → ∀ n d, (n, d) ∈ es → slashByte ∉ n

section
variable {fs : FS} {recur : List Seg → Bytes → Res (List Out)} {dir : Bytes} {es : List (Bytes × Bool)}
  {comp next : List Seg} {a : List Out}

theorem descend_mem (h : descend recur dir es comp next = .ok a) {o : Out} (ho : o ∈ a) :
    ∃ n a', (n, true) ∈ es ∧ matchElement comp n = .ok true ∧
      recur next (dir ++ n ++ [slashByte]) = .ok a' ∧ o ∈ a' := by
  rw [descend, forEntries_eq] at h
  obtain ⟨a', hm, ho'⟩ := (concatM_ok h).2 o ho
  obtain ⟨⟨n, d⟩, he, hf⟩ := List.mem_map.1 hm
  rcases guard_ok hf with ⟨hme, rfl, hr⟩ | rfl
  · exact ⟨n, a', he, hme, hr, ho'⟩
  · cases ho'

theorem descend_sub (h : descend recur dir es comp next = .ok a) {n : Bytes} (hm : (n, true) ∈ es)
    (hme : matchElement comp n = .ok true) :
    ∃ a', recur next (dir ++ n ++ [slashByte]) = .ok a' ∧ ∀ o ∈ a', o ∈ a := by
  rw [descend, forEntries_eq] at h
  obtain ⟨a', ha', hsub⟩ := (concatM_ok h).1 _ (List.mem_map.2 ⟨(n, true), hm, rfl⟩)
  rw [hme] at ha'
  exact ⟨a', ha', hsub⟩

theorem runPiece_sound (hrec : RecurSound fs recur) (hrd : fs.readDir dir = some es)
    (hnames : ∀ n d, (n, d) ∈ es → slashByte ∉ n) {p : Piece} (hok : p.OK) (hne : p.segs ≠ [])
    (hnsl : ¬ SingleLit p.segs) (hnld : NoLitDir p.segs) (h : runPiece fs recur dir es p = .ok a) :
    ∀ o ∈ a, Expands fs p.segs dir o.1 ∧ fs.lstat o.1 = some o.2 := by
  intro o ho
  cases p with
  | final comp =>
    rw [runPiece, forEntries_eq] at h
    obtain ⟨a', hm, ho'⟩ := (concatM_ok h).2 o ho
    obtain ⟨⟨n, d⟩, he, hf⟩ := List.mem_map.1 hm
    obtain ⟨b, hb, hf⟩ := Res.bind_eq_ok.1 hf
    cases b with
    | false => cases Res.ok.inj hf; cases ho'
    | true =>
      cases Res.ok.inj hf
      obtain ⟨h1, h2⟩ := mem_lstatOut.1 ho'
      rw [h1]
      exact ⟨Expands.last hne hok hnsl hrd he (matchElement_sound (hnames n d he) hb) h2, h2⟩
  | sub comp rest =>
    obtain ⟨n, a', he, hme, hr, ho'⟩ := descend_mem h ho
    obtain ⟨e1, e2⟩ := hrec _ _ _ hr o ho'
    have hnsp : ¬ SingleLit comp := fun ⟨d, hd⟩ => hnld d rest (by rw [hd]; rfl)
    exact ⟨Expands.sub hok hnsp hrd he (matchElement_sound (hnames n _ he) hme) e1, e2⟩
  | cross pre w post =>
    obtain ⟨n, a', he, hme, hr, ho'⟩ := descend_mem h ho
    obtain ⟨e1, e2⟩ := hrec _ _ _ hr o ho'
    exact ⟨Expands.cross hok.1 hok.2 hrd he (matchElement_sound (hnames n _ he) hme) e1, e2⟩

theorem enum_sound (hrec : RecurSound fs recur) (hrd : fs.readDir dir = some es)
    (hnames : ∀ n d, (n, d) ∈ es → slashByte ∉ n) {segs : List Seg} (hne : segs ≠ [])
    (hnsl : ¬ SingleLit segs) (hnld : NoLitDir segs) {outs : List Out}
    (h : enum fs recur dir es [] segs = .ok outs) :
    ∀ o ∈ outs, Expands fs segs dir o.1 ∧ fs.lstat o.1 = some o.2 := by
  intro o ho
  rw [enum_eq_plan] at h
  obtain ⟨a, hm, hoa⟩ := (concatM_ok h).2 o ho
  obtain ⟨p, hp, hrun⟩ := List.mem_map.1 hm
  obtain ⟨rfl, hok⟩ := enumPlan_sound segs [] (fun _ h => nomatch h) p hp
  exact runPiece_sound hrec hrd hnames hok hne hnsl hnld hrun o hoa

theorem enum_piece {p : Piece} (hok : p.OK) {outs : List Out}
    (h : enum fs recur dir es [] p.segs = .ok outs) :
    ∃ a, runPiece fs recur dir es p = .ok a ∧ ∀ o ∈ a, o ∈ outs := by
  rw [enum_eq_plan] at h
  exact (concatM_ok h).1 _ (List.mem_map.2 ⟨p, mem_enumPlan hok, rfl⟩)

end

theorem glob_sound (fs : FS) (hfs : FSNames fs) : ∀ (fuel : Nat), RecurSound fs (glob fs fuel) := by
  intro fuel
  induction fuel with
  | zero => intro segs dir outs h; simp [glob] at h
  | succ fuel ih =>
    intro segs dir outs h o ho
    unfold glob at h
    split at h
    · simp at h; subst h; cases ho
    · next segs' dir' hfl =>
      obtain ⟨hnld, hexp, _⟩ := followLits_sound fs segs dir segs' dir' hfl
      split at h
      · simp at h; subst h
        obtain ⟨h1, h2⟩ := mem_lstatOut.1 ho
        rw [h1]
        exact ⟨hexp _ (Expands.endDir h2), h2⟩
      · next d =>
        simp at h; subst h
        obtain ⟨h1, h2⟩ := mem_lstatOut.1 ho
        rw [h1]
        exact ⟨hexp _ (Expands.litLast h2), h2⟩
      · next hne hnl =>
        split at h
        · simp at h; subst h; cases ho
        · next es hrd =>
          have := enum_sound ih hrd (hfs dir' es hrd) hne (fun ⟨d, hd⟩ => hnl d hd) hnld h o ho
          exact ⟨hexp _ this.1, this.2⟩

theorem glob_general (fs : FS) (fuel : Nat) {segs : List Seg} {dir : Bytes} {es : List (Bytes × Bool)}
    (h : NoLitDir segs ∧ segs ≠ [] ∧ ¬ SingleLit segs) (hrd : fs.readDir dir = some es) :
    glob fs (fuel + 1) segs dir = enum fs (glob fs fuel) dir es [] segs := by
  unfold glob
  rw [followLits_noLitDir fs dir h.1]
  simp only
  split
  · exact absurd rfl h.2.1
  · next d => exact absurd ⟨d, rfl⟩ h.2.2
  · rw [hrd]

theorem noLitDir_of_noSlash {segs : List Seg} (h : NoSlash segs) : NoLitDir segs := by
  intro d rest he
  have := h .slash (by rw [he]; simp)
  simp [isSlash] at this

theorem glob_fuel_pos {fs : FS} {fuel : Nat} {segs : List Seg} {dir : Bytes} {outs : List Out}
    (h : glob fs fuel segs dir = .ok outs) : ∃ f, fuel = f + 1 := by
  cases fuel with
  | zero => cases h
  | succ f => exact ⟨f, rfl⟩

theorem glob_complete (fs : FS) {segs : List Seg} {dir p : Bytes} (h : Expands fs segs dir p) :
    ∀ (fuel : Nat) (outs : List Out), greedyOK false segs = true →
    glob fs fuel segs dir = .ok outs → ∃ k, (p, k) ∈ outs := by
  induction h with
  | endDir hl =>
    intro fuel outs _ hg
    obtain ⟨fuel, rfl⟩ := glob_fuel_pos hg
    cases hg
    exact ⟨_, mem_lstatOut.2 ⟨rfl, hl⟩⟩
  | litLast hl =>
    intro fuel outs _ hg
    obtain ⟨fuel, rfl⟩ := glob_fuel_pos hg
    cases hg
    exact ⟨_, mem_lstatOut.2 ⟨rfl, hl⟩⟩
  | litDir hl _ ih =>
    intro fuel outs hgr hg
    obtain ⟨fuel, rfl⟩ := glob_fuel_pos hg
    rw [glob_litDir fs fuel _ _ _ hl] at hg
    simp only [greedyOK, Bool.and_eq_true] at hgr
    exact ih (fuel + 1) outs hgr.2 hg
  | @last comp dir es name isDir k hne hns hnsl hrd hm hem hl =>
    intro fuel outs hgr hg
    obtain ⟨fuel, rfl⟩ := glob_fuel_pos hg
    rw [glob_general fs fuel ⟨noLitDir_of_noSlash hns, hne, hnsl⟩ hrd] at hg
    obtain ⟨a, hrun, hsub⟩ := enum_piece (p := .final comp) hns hg
    rw [runPiece, forEntries_eq] at hrun
    obtain ⟨a', ha', hsub'⟩ := (concatM_ok hrun).1 _ (List.mem_map.2 ⟨(name, isDir), hm, rfl⟩)
    rw [matchElement_complete hgr hem] at ha'
    cases ha'
    exact ⟨k, hsub _ (hsub' _ (mem_lstatOut.2 ⟨rfl, hl⟩))⟩
  | @sub comp rest dir es name p hns hnsl hrd hm hem _ ih =>
    intro fuel outs hgr hg
    obtain ⟨fuel, rfl⟩ := glob_fuel_pos hg
    rw [glob_general fs fuel (cut_shape rest hns (fun _ h => by cases h) (fun _ => hnsl)) hrd] at hg
    obtain ⟨a, hrun, hsub⟩ := enum_piece (p := .sub comp rest) hns hg
    obtain ⟨a', hrec, hsub'⟩ := descend_sub hrun hm
      (matchElement_complete (greedyOK_prefix comp _ false hgr) hem)
    rw [List.append_cons] at hgr
    obtain ⟨k, hk⟩ := ih fuel a' (greedyOK_suffix _ rest false hgr) hrec
    exact ⟨k, hsub _ (hsub' _ hk)⟩
  | @cross pre w post dir es name p hns hss hrd hm hem _ ih =>
    intro fuel outs hgr hg
    obtain ⟨fuel, rfl⟩ := glob_fuel_pos hg
    rw [glob_general fs fuel (cut_shape post hns (fun _ h => by cases h) (fun h => by cases h)) hrd] at hg
    obtain ⟨a, hrun, hsub⟩ := enum_piece (p := .cross pre w post) ⟨hns, hss⟩ hg
    have hg1 : greedyOK false (pre ++ [.wild w]) = true :=
      greedyOK_prefix _ post false (by rwa [List.append_cons] at hgr)
    obtain ⟨a', hrec, hsub'⟩ := descend_sub hrun hm (matchElement_complete hg1 hem)
    obtain ⟨k, hk⟩ := ih fuel a' (greedyOK_suffix pre _ _ hgr) hrec
    exact ⟨k, hsub _ (hsub' _ hk)⟩

end C23
