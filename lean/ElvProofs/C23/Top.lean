/-
`Pattern.Glob` (leading slash, de-duplication), and the spec-level fact that
wildcards never consume a `/`.
-/
import ElvProofs.C23.Glob
namespace C23
open Go

theorem dedup_sub : ∀ (l : List Out) (seen : List Bytes) (o : Out), o ∈ dedup l seen → o ∈ l ∧ o.1 ∉ seen := by
  intro l
  induction l with
  | nil => intro _ _ h; cases h
  | cons x l ih =>
    intro seen o h
    obtain ⟨p, k⟩ := x
    simp only [dedup] at h
    split at h
    · obtain ⟨a, b⟩ := ih seen o h
      exact ⟨List.mem_cons_of_mem _ a, b⟩
    · next hc =>
      cases h with
      | head => exact ⟨List.mem_cons_self, by simpa using hc⟩
      | tail _ h =>
        obtain ⟨a, b⟩ := ih (p :: seen) o h
        exact ⟨List.mem_cons_of_mem _ a, fun hm => b (List.mem_cons_of_mem _ hm)⟩

theorem dedup_keeps : ∀ (l : List Out) (seen : List Bytes) (p : Bytes), p ∈ l.map (·.1) → p ∉ seen →
    p ∈ (dedup l seen).map (·.1) := by
  intro l
  induction l with
  | nil => intro _ _ h; cases h
  | cons x l ih =>
    intro seen p h hs
    obtain ⟨q, k⟩ := x
    simp only [dedup]
    by_cases hpq : p = q
    · subst hpq
      have : seen.contains p = false := by simpa using hs
      rw [this]
      simp
    · have hl : p ∈ l.map (·.1) := by
        simp at h
        rcases h with h | h
        · exact absurd h hpq
        · simpa using h
      split
      · exact ih seen p hl hs
      · simp only [List.map_cons, List.mem_cons]
        right
        exact ih (q :: seen) p hl (by simp [hpq, hs])

theorem dedup_nodup : ∀ (l : List Out) (seen : List Bytes), ((dedup l seen).map (·.1)).Nodup := by
  intro l
  induction l with
  | nil => intro _; simp [dedup]
  | cons x l ih =>
    intro seen
    obtain ⟨p, k⟩ := x
    simp only [dedup]
    split
    · exact ih seen
    · simp only [List.map_cons, List.nodup_cons]
      refine ⟨?_, ih (p :: seen)⟩
      intro hm
      obtain ⟨o, ho, hop⟩ := List.mem_map.1 hm
      have := (dedup_sub l (p :: seen) o ho).2
      apply this
      rw [hop]; simp

theorem patternGlob_ok {fs : FS} {fuel : Nat} {segs : List Seg} {outs : List Out}
    (h : patternGlob fs fuel segs = .ok outs) :
    ∃ raw, patternGlobRaw fs fuel segs = .ok raw ∧ outs = dedup raw [] := by
  unfold patternGlob at h
  rw [Res.bind_eq_ok] at h
  obtain ⟨raw, hr, h⟩ := h
  rw [Res.pure_eq_ok, Res.ok.injEq] at h
  exact ⟨raw, hr, h.symm⟩

/-- where `Pattern.Glob` starts: a leading `/` is the root -/
def topStart : List Seg → List Seg × Bytes
  | .slash :: rest => (rest, [slashByte])
  | segs => (segs, [])

theorem patternGlobRaw_eq (fs : FS) (fuel : Nat) (segs : List Seg) :
    patternGlobRaw fs fuel segs = glob fs fuel (topStart segs).1 (topStart segs).2 := by
  cases segs with
  | nil => rfl
  | cons x t => cases x <;> rfl

theorem expandsTop_eq (fs : FS) (segs : List Seg) (p : Bytes) :
    ExpandsTop fs segs p = Expands fs (topStart segs).1 (topStart segs).2 p := by
  cases segs with
  | nil => rfl
  | cons x t => cases x <;> rfl

theorem topStart_length (segs : List Seg) : (topStart segs).1.length ≤ segs.length := by
  cases segs with
  | nil => exact Nat.le_refl _
  | cons x t => cases x <;> simp [topStart]

theorem patternGlobRaw_sound {fs : FS} (hfs : FSNames fs) {fuel : Nat} {segs : List Seg} {raw : List Out}
    (h : patternGlobRaw fs fuel segs = .ok raw) (o : Out) (ho : o ∈ raw) :
    ExpandsTop fs segs o.1 ∧ fs.lstat o.1 = some o.2 := by
  rw [patternGlobRaw_eq] at h
  rw [expandsTop_eq]
  exact glob_sound fs hfs fuel _ _ _ h o ho

theorem patternGlobRaw_complete {fs : FS} {fuel : Nat} {segs : List Seg} {raw : List Out}
    (hg : greedyOK false segs = true) (h : patternGlobRaw fs fuel segs = .ok raw) (p : Bytes)
    (hp : ExpandsTop fs segs p) : ∃ k, (p, k) ∈ raw := by
  rw [patternGlobRaw_eq] at h
  rw [expandsTop_eq] at hp
  refine glob_complete fs hp fuel raw ?_ h
  cases segs with
  | nil => exact hg
  | cons x t => cases x <;> exact hg

theorem matches_no_slash {segs : List Seg} {name : Bytes} (h : Matches segs name)
    (hl : ∀ d, Seg.lit d ∈ segs → slashByte ∉ d) : slashByte ∉ name := by
  induction h with
  | nil => simp
  | lit _ ih =>
    intro hm
    rcases List.mem_append.1 hm with hm | hm
    · exact hl _ (by simp) hm
    · exact ih (fun d hd => hl d (by simp [hd])) hm
  | @question w rest s n _ hs _ ih =>
    intro hm
    rw [← List.take_append_drop n s] at hm
    rcases List.mem_append.1 hm with hm | hm
    · exact hs.2.2.2 hm
    · exact ih (fun d hd => hl d (by simp [hd])) hm
  | skip _ _ ih => exact ih (fun d hd => hl d (by simp [hd]))
  | @step w rest s n _ hs _ ih =>
    intro hm
    rw [← List.take_append_drop n s] at hm
    rcases List.mem_append.1 hm with hm | hm
    · exact hs.2.2.2 hm
    · exact ih hl hm

end C23
