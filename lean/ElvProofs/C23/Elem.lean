/-
Matching one path element: `matchElement` unfolded into the attempt it makes at
one position (`tryAt`), its star loop and its chunks; soundness of `matchElement`.
-/
import ElvModel.C23.Spec
import ElvProofs.Lemmas.Utf8
namespace C23
open Go

def stepF (s : Bytes) : Bytes := s.drop (decodeRune s).2

/-- `n` runes further (stays at the end once there) -/
def iter : Nat → Bytes → Bytes
  | 0, s => s
  | n + 1, s => iter n (stepF s)

theorem stepF_nil : stepF [] = [] := by simp [stepF]

theorem iter_nil (n : Nat) : iter n [] = [] := by
  induction n with
  | zero => rfl
  | succ n ih => simp [iter, stepF_nil, ih]

theorem iter_add (a b : Nat) (s : Bytes) : iter (a + b) s = iter b (iter a s) := by
  induction a generalizing s with
  | zero => simp [iter]
  | succ a ih => rw [Nat.succ_add]; simp [iter, ih]

theorem iter_succ' (n : Nat) (s : Bytes) : iter (n + 1) s = stepF (iter n s) := by
  rw [iter_add]; rfl

theorem iter_comm (a b : Nat) (s : Bytes) : iter a (iter b s) = iter b (iter a s) := by
  rw [← iter_add, ← iter_add, Nat.add_comm]

theorem stepF_length_lt {s : Bytes} (h : s ≠ []) : (stepF s).length < s.length := by
  have := decodeRune_size_pos h
  have h2 : 0 < s.length := List.length_pos_iff.2 h
  simp [stepF]; omega

theorem mem_of_mem_stepF {b : UInt8} {s : Bytes} (h : b ∈ stepF s) : b ∈ s :=
  List.mem_of_mem_drop h

theorem stepF_encodeRune_append (r : Nat) (h : validRune r = true) (t : Bytes) :
    stepF (encodeRune r ++ t) = t := by
  simp [stepF, decodeRune_encodeRune_append r h t]

theorem iter_encodeRunes_append (rs : List Rune) (h : ∀ r ∈ rs, validRune r = true) (t : Bytes) :
    iter rs.length (encodeRunes rs ++ t) = t := by
  induction rs with
  | nil => simp [encodeRunes, iter]
  | cons r rs ih =>
    have hr : validRune r = true := h r (by simp)
    have : encodeRunes (r :: rs) ++ t = encodeRune r ++ (encodeRunes rs ++ t) := by
      simp [encodeRunes]
    rw [this, List.length_cons, iter, stepF_encodeRune_append r hr]
    exact ih (fun x hx => h x (by simp [hx]))

theorem iter_valid_append {d : Bytes} (hd : validUtf8 d = true) (t : Bytes) :
    iter (toRunes d).length (d ++ t) = t := by
  have h1 := encodeRunes_toRunes hd
  have h2 := iter_encodeRunes_append (toRunes d) (toRunes_validRune d) t
  rw [h1] at h2; exact h2

def fixedSeg : Seg → Bool
  | .lit _ => true
  | .wild w => w.type == .question
  | .slash => false

theorem mFL_cons_nil (seg : Seg) (F : List Seg) : matchFixedLength (seg :: F) [] = .ok none := by
  cases seg <;> rfl

theorem mFL_lit (d : Bytes) (F : List Seg) {s : Bytes} (hs : s ≠ []) :
    matchFixedLength (.lit d :: F) s =
      if d.length ≤ s.length ∧ s.take d.length = d then matchFixedLength F (s.drop d.length)
      else .ok none := by
  rw [matchFixedLength.eq_2, if_neg hs]

theorem mFL_lit_append (d : Bytes) (F : List Seg) {s : Bytes} (hs : d ++ s ≠ []) :
    matchFixedLength (.lit d :: F) (d ++ s) = matchFixedLength F s := by
  rw [mFL_lit d F hs, if_pos ⟨by simp, List.take_left' rfl⟩, List.drop_left' rfl]

theorem mFL_question {w : Wild} (hq : w.type = .question) (F : List Seg) {s : Bytes} (hs : s ≠ []) :
    matchFixedLength (.wild w :: F) s =
      if w.accepts (decodeRune s).1 then matchFixedLength F (stepF s) else .ok none := by
  rw [matchFixedLength.eq_3, if_neg hs, if_pos hq]
  rfl

theorem mFL_cons_some {seg : Seg} {F : List Seg} {s rest : Bytes}
    (h : matchFixedLength (seg :: F) s = .ok (some rest)) :
    match seg with
    | .lit d => ∃ s', s = d ++ s' ∧ matchFixedLength F s' = .ok (some rest)
    | .wild w => s ≠ [] ∧ w.type = .question ∧ w.accepts (decodeRune s).1 = true ∧
        matchFixedLength F (stepF s) = .ok (some rest)
    | .slash => False := by
  have hs : s ≠ [] := by rintro rfl; rw [mFL_cons_nil] at h; cases h
  cases seg with
  | lit d =>
    rw [mFL_lit d F hs] at h
    by_cases hc : d.length ≤ s.length ∧ s.take d.length = d
    · rw [if_pos hc] at h
      refine ⟨s.drop d.length, ?_, h⟩
      conv => lhs; rw [← List.take_append_drop d.length s, hc.2]
    · rw [if_neg hc] at h; cases h
  | wild w =>
    by_cases hq : w.type = .question
    · rw [mFL_question hq F hs] at h
      by_cases hacc : w.accepts (decodeRune s).1 = true
      · rw [if_pos hacc] at h; exact ⟨hs, hq, hacc, h⟩
      · rw [if_neg hacc] at h; cases h
    · rw [matchFixedLength.eq_3, if_neg hs, if_neg hq] at h; cases h
  | slash => rw [matchFixedLength.eq_4, if_neg hs] at h; cases h

theorem mFL_ok : ∀ (F : List Seg) (s : Bytes), (∀ x ∈ F, fixedSeg x = true) →
    ∃ o, matchFixedLength F s = .ok o := by
  intro F
  induction F with
  | nil => intro s _; exact ⟨_, rfl⟩
  | cons seg F ih =>
    intro s hF
    have hrest : ∀ x ∈ F, fixedSeg x = true := fun x hx => hF x (List.mem_cons_of_mem _ hx)
    by_cases hs : s = []
    · subst hs; exact ⟨_, mFL_cons_nil seg F⟩
    cases seg with
    | lit d =>
      rw [mFL_lit d F hs]
      split
      · exact ih _ hrest
      · exact ⟨_, rfl⟩
    | slash => exact absurd (hF .slash List.mem_cons_self) (by simp [fixedSeg])
    | wild w =>
      have hq : w.type = .question := by simpa [fixedSeg] using hF (.wild w) List.mem_cons_self
      rw [mFL_question hq F hs]
      split
      · exact ih _ hrest
      · exact ⟨_, rfl⟩

theorem chunkify_cons_cases (x : Seg) (t : List Seg) :
    (chunkify t = [] ∧ chunkify (x :: t) = [[x]]) ∨
    (∃ c cs, chunkify t = c :: cs ∧ startsStar c = true ∧ chunkify (x :: t) = [x] :: c :: cs) ∨
    (∃ c cs, chunkify t = c :: cs ∧ startsStar c = false ∧ chunkify (x :: t) = (x :: c) :: cs) := by
  rw [chunkify.eq_2]
  cases chunkify t with
  | nil => exact .inl ⟨rfl, rfl⟩
  | cons c cs =>
    cases hc : startsStar c with
    | true => exact .inr (.inl ⟨c, cs, rfl, hc, if_pos hc⟩)
    | false => exact .inr (.inr ⟨c, cs, rfl, hc, if_neg (by simp [hc])⟩)

theorem chunkify_flatten (segs : List Seg) : (chunkify segs).flatten = segs := by
  induction segs with
  | nil => rfl
  | cons x t ih =>
    rcases chunkify_cons_cases x t with ⟨h, e⟩ | ⟨c, cs, h, _, e⟩ | ⟨c, cs, h, _, e⟩ <;>
      rw [h] at ih <;> rw [e] <;> simpa using ih

theorem chunkify_mem (segs : List Seg) : ∀ c ∈ chunkify segs, ∀ s ∈ c, s ∈ segs := by
  intro c hc s hs
  rw [← chunkify_flatten segs]
  exact List.mem_flatten.2 ⟨c, hc, hs⟩

theorem chunkify_tail (segs : List Seg) :
    ∀ c ∈ chunkify segs, ∀ s ∈ c.tail, isStarLike s = false := by
  induction segs with
  | nil => intro c hc; cases hc
  | cons x t ih =>
    intro c hc
    rcases chunkify_cons_cases x t with ⟨h, e⟩ | ⟨c0, cs, h, _, e⟩ | ⟨c0, cs, h, hst, e⟩ <;>
      rw [h] at ih <;> rw [e] at hc
    · obtain rfl : c = [x] := by simpa using hc
      intro s hs; cases hs
    · rcases List.mem_cons.1 hc with rfl | hc
      · intro s hs; cases hs
      · exact ih c hc
    · rcases List.mem_cons.1 hc with rfl | hc
      · intro s hs
        cases c0 with
        | nil => cases hs
        | cons y c0 =>
          rcases List.mem_cons.1 hs with rfl | hs
          · exact hst
          · exact ih (y :: c0) List.mem_cons_self s hs
      · exact ih c (List.mem_cons_of_mem _ hc)

theorem chunkify_tail_star (segs : List Seg) : ∀ c ∈ (chunkify segs).tail, startsStar c = true := by
  induction segs with
  | nil => intro c hc; cases hc
  | cons x t ih =>
    intro c hc
    rcases chunkify_cons_cases x t with ⟨h, e⟩ | ⟨c0, cs, h, hst, e⟩ | ⟨c0, cs, h, _, e⟩ <;>
      rw [h] at ih <;> rw [e] at hc
    · cases hc
    · rcases List.mem_cons.1 hc with rfl | hc
      · exact hst
      · exact ih c hc
    · exact ih c hc

theorem fixedSeg_iff (s : Seg) : fixedSeg s = true ↔ isSlash s = false ∧ isStarLike s = false := by
  cases s with
  | lit d => simp [fixedSeg, isSlash, isStarLike]
  | slash => simp [fixedSeg, isSlash]
  | wild w => cases h : w.type <;> simp [fixedSeg, isSlash, isStarLike, h]

theorem chunkParts_of_star {w : Wild} (hw : w.type ≠ .question) (F : List Seg) :
    chunkParts (.wild w :: F) = (some w, F) := by
  simp [chunkParts, hw]

theorem chunkParts_of_fixed {c : List Seg} (hc : startsStar c = false) : chunkParts c = (none, c) := by
  unfold chunkParts
  split
  · next w f => rw [if_pos (by simpa [startsStar, isStarLike] using hc)]
  · rfl

theorem startsStar_cases (c : List Seg) :
    startsStar c = false ∨ ∃ w F, c = .wild w :: F ∧ w.type ≠ .question := by
  cases hc : startsStar c with
  | false => exact .inl rfl
  | true =>
    match c, hc with
    | .wild w :: F, hc => exact .inr ⟨w, F, rfl, by simpa [startsStar, isStarLike] using hc⟩

theorem chunkParts_fixed (c : List Seg) (hns : ∀ s ∈ c, isSlash s = false)
    (ht : ∀ s ∈ c.tail, isStarLike s = false) : ∀ s ∈ (chunkParts c).2, fixedSeg s = true := by
  have htail : ∀ s ∈ c.tail, fixedSeg s = true := fun s hs =>
    (fixedSeg_iff s).2 ⟨hns s (List.mem_of_mem_tail hs), ht s hs⟩
  rcases startsStar_cases c with hc | ⟨w, F, rfl, hw⟩
  · rw [chunkParts_of_fixed hc]
    intro s hs
    cases c with
    | nil => cases hs
    | cons x f =>
      rcases List.mem_cons.1 hs with rfl | hs
      · exact (fixedSeg_iff s).2 ⟨hns s List.mem_cons_self, hc⟩
      · exact htail s hs
  · rw [chunkParts_of_star hw]
    exact htail

theorem chunkParts_subset (c : List Seg) : ∀ s ∈ (chunkParts c).2, s ∈ c := by
  rcases startsStar_cases c with hc | ⟨w, F, rfl, hw⟩
  · rw [chunkParts_of_fixed hc]; exact fun _ h => h
  · rw [chunkParts_of_star hw]; exact fun _ h => List.mem_cons_of_mem _ h

/-- the segments `C` match a front part of `s` and leave `rest` -/
def Consumes (C : List Seg) (s rest : Bytes) : Prop :=
  rest <:+ s ∧ ∀ R, Matches R rest → Matches (C ++ R) s

theorem Consumes.skip {w : Wild} (hw : w.type ≠ .question) {F : List Seg} {s rest : Bytes}
    (h : Consumes F s rest) : Consumes (.wild w :: F) s rest :=
  ⟨h.1, fun R hR => Matches.skip hw (h.2 R hR)⟩

theorem Consumes.step {w : Wild} (hw : w.type ≠ .question) {F : List Seg} {s rest : Bytes}
    (hs : RuneStep w s (decodeRune s).2) (h : Consumes (.wild w :: F) (stepF s) rest) :
    Consumes (.wild w :: F) s rest :=
  ⟨h.1.trans (List.drop_suffix _ s), fun R hR => Matches.step hw hs (h.2 R hR)⟩

theorem runeStep_of_accepts {w : Wild} {s : Bytes} (hne : s ≠ []) (hs : slashByte ∉ s)
    (hacc : w.accepts (decodeRune s).1 = true) : RuneStep w s (decodeRune s).2 :=
  ⟨hne, rfl, hacc, fun hm => hs (List.mem_of_mem_take hm)⟩

theorem mFL_sound : ∀ (F : List Seg) (s rest : Bytes), slashByte ∉ s →
    matchFixedLength F s = .ok (some rest) → Consumes F s rest := by
  intro F
  induction F with
  | nil =>
    intro s rest _ h
    obtain rfl : s = rest := by simpa [matchFixedLength] using h
    exact ⟨List.suffix_refl _, fun R hR => hR⟩
  | cons seg F ih =>
    intro s rest hs h
    have h' := mFL_cons_some h
    cases seg with
    | slash => exact h'.elim
    | lit d =>
      obtain ⟨s', rfl, h'⟩ := h'
      obtain ⟨hsuf, hM⟩ := ih _ _ (fun hm => hs (List.mem_append_right _ hm)) h'
      exact ⟨hsuf.trans (List.suffix_append d s'), fun R hR => Matches.lit (hM R hR)⟩
    | wild w =>
      obtain ⟨hne, hq, hacc, h'⟩ := h'
      obtain ⟨hsuf, hM⟩ := ih _ _ (fun hm => hs (mem_of_mem_stepF hm)) h'
      exact ⟨hsuf.trans (List.drop_suffix _ s),
        fun R hR => Matches.question hq (runeStep_of_accepts hne hs hacc) (hM R hR)⟩

/-- the fixed run `F` matches at `x` and leaves `rest`, which the last chunk must not do
unless `rest` is empty -/
def Fits (F : List Seg) (last : Bool) (x rest : Bytes) : Prop :=
  matchFixedLength F x = .ok (some rest) ∧ (rest = [] ∨ last = false)

/-- What `matchElement` does at one position `x`, in the direct attempt of a chunk and in
every round of its star loop: take the fixed run if it fits, else go on with `next`. -/
def tryAt (F : List Seg) (last : Bool) (x : Bytes) (next : Res (Option Bytes)) : Res (Option Bytes) :=
  match matchFixedLength F x with
  | .ok (some rest) => if rest = [] ∨ last = false then .ok (some rest) else next
  | .ok none => next
  | .exc e => .exc e
  | .panic p => .panic p

theorem tryAt_fits {F : List Seg} {last : Bool} {x rest : Bytes} (h : Fits F last x rest)
    (next : Res (Option Bytes)) : tryAt F last x next = .ok (some rest) := by
  rw [tryAt, h.1]
  exact if_pos h.2

theorem tryAt_next {F : List Seg} {last : Bool} {x : Bytes} {o : Option Bytes}
    (ho : matchFixedLength F x = .ok o) (hn : ∀ rest, ¬ Fits F last x rest)
    (next : Res (Option Bytes)) : tryAt F last x next = next := by
  rw [tryAt, ho]
  cases o with
  | none => rfl
  | some rest => exact if_neg fun hc => hn rest ⟨ho, hc⟩

theorem tryAt_some {F : List Seg} {last : Bool} {x rest : Bytes} {next : Res (Option Bytes)}
    (h : tryAt F last x next = .ok (some rest)) : Fits F last x rest ∨ next = .ok (some rest) := by
  rw [tryAt] at h
  cases ho : matchFixedLength F x with
  | exc e => rw [ho] at h; cases h
  | panic p => rw [ho] at h; cases h
  | ok o =>
    rw [ho] at h
    cases o with
    | none => exact .inr h
    | some r =>
      by_cases hc : r = [] ∨ last = false
      · obtain rfl : r = rest := by simpa [hc] using h
        exact .inl ⟨ho, hc⟩
      · exact .inr (by simpa [hc] using h)

theorem tryAt_ok {F : List Seg} {last : Bool} {x : Bytes} {next : Res (Option Bytes)}
    (hF : ∃ o, matchFixedLength F x = .ok o) (hn : ∃ o, next = .ok o) :
    ∃ o, tryAt F last x next = .ok o := by
  obtain ⟨o, ho⟩ := hF
  by_cases h : ∃ rest, Fits F last x rest
  · obtain ⟨rest, h⟩ := h
    exact ⟨_, tryAt_fits h next⟩
  · rw [tryAt_next ho (fun rest hr => h ⟨rest, hr⟩)]
    exact hn

theorem starLoop_reject (w : Wild) (F : List Seg) (last : Bool) (fuel : Nat) {s : Bytes} (hs : s ≠ [])
    (h : w.accepts (decodeRune s).1 = false) : starLoop w F last (fuel + 1) s = .ok none := by
  obtain ⟨b, t, rfl⟩ := List.exists_cons_of_ne_nil hs
  rw [starLoop.eq_3, h]
  rfl

theorem starLoop_accept (w : Wild) (F : List Seg) (last : Bool) (fuel : Nat) {s : Bytes} (hs : s ≠ [])
    (h : w.accepts (decodeRune s).1 = true) :
    starLoop w F last (fuel + 1) s = tryAt F last (stepF s) (starLoop w F last fuel (stepF s)) := by
  obtain ⟨b, t, rfl⟩ := List.exists_cons_of_ne_nil hs
  rw [starLoop.eq_3, h]
  rfl

theorem starLoop_sound (w : Wild) (hw : w.type ≠ .question) (F : List Seg) (last : Bool) :
    ∀ (fuel : Nat) (s rest : Bytes), slashByte ∉ s →
    starLoop w F last fuel s = .ok (some rest) → Consumes (.wild w :: F) s rest := by
  intro fuel
  induction fuel with
  | zero =>
    intro s rest _ h
    cases s with
    | nil => rw [starLoop.eq_1] at h; cases h
    | cons b t => rw [starLoop.eq_2] at h; cases h
  | succ fuel ih =>
    intro s rest hs h
    by_cases hne : s = []
    · subst hne; rw [starLoop.eq_1] at h; cases h
    cases hacc : w.accepts (decodeRune s).1 with
    | false => rw [starLoop_reject w F last fuel hne hacc] at h; cases h
    | true =>
      rw [starLoop_accept w F last fuel hne hacc] at h
      have hs' : slashByte ∉ stepF s := fun hm => hs (mem_of_mem_stepF hm)
      refine Consumes.step hw (runeStep_of_accepts hne hs hacc) ?_
      rcases tryAt_some h with hfit | hnext
      · exact (mFL_sound F _ _ hs' hfit.1).skip hw
      · exact ih _ _ hs' hnext

theorem tryChunk_none (F : List Seg) (last : Bool) (s : Bytes) :
    tryChunk none F last s = tryAt F last s (.ok none) := by
  unfold tryChunk tryAt
  cases matchFixedLength F s with
  | ok o => cases o <;> rfl
  | _ => rfl

theorem tryChunk_some (w : Wild) (F : List Seg) (last : Bool) (s : Bytes) :
    tryChunk (some w) F last s = tryAt F last s (starLoop w F last s.length s) := by
  unfold tryChunk tryAt
  cases matchFixedLength F s with
  | ok o => cases o <;> rfl
  | _ => rfl

theorem matchChunks_sound : ∀ (cs : List (List Seg)) (s : Bytes), slashByte ∉ s →
    matchChunks cs s = .ok true → Matches cs.flatten s := by
  intro cs
  induction cs with
  | nil =>
    intro s _ h
    simp [matchChunks] at h
    subst h; exact Matches.nil
  | cons c cs ih =>
    intro s hs h
    rw [matchChunks.eq_2] at h
    cases ht : tryChunk (chunkParts c).1 (chunkParts c).2 cs.isEmpty s with
    | exc e => rw [ht] at h; cases h
    | panic p => rw [ht] at h; cases h
    | ok o =>
      rw [ht] at h
      cases o with
      | none => cases h
      | some rest =>
        have key : Consumes c s rest := by
          rcases startsStar_cases c with hc | ⟨w, F, rfl, hw⟩
          · rw [chunkParts_of_fixed hc, tryChunk_none] at ht
            rcases tryAt_some ht with hfit | hnext
            · exact mFL_sound c s rest hs hfit.1
            · cases hnext
          · rw [chunkParts_of_star hw, tryChunk_some] at ht
            rcases tryAt_some ht with hfit | hnext
            · exact (mFL_sound F s rest hs hfit.1).skip hw
            · exact starLoop_sound w hw F _ _ _ _ hs hnext
        exact key.2 _ (ih rest (fun hm => hs (key.1.subset hm)) h)

theorem hiddenReject_eq_false_iff {segs : List Seg} {name : Bytes} :
    hiddenReject segs name = false ↔ HiddenOK segs name := by
  cases segs with
  | nil => simp [hiddenReject, HiddenOK]
  | cons x t => cases x <;> cases name <;> simp [hiddenReject, HiddenOK]

theorem matchElement_sound {segs : List Seg} {name : Bytes} (hs : slashByte ∉ name)
    (h : matchElement segs name = .ok true) : ElemMatches segs name := by
  unfold matchElement at h
  split at h
  · simp at h; subst h; exact ⟨by simp [HiddenOK], Matches.nil⟩
  · next s t =>
    split at h
    · simp at h
    · next hr =>
      refine ⟨hiddenReject_eq_false_iff.1 (by simpa using hr), ?_⟩
      have := matchChunks_sound _ _ hs h
      rwa [chunkify_flatten] at this

end C23
