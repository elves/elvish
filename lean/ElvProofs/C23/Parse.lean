/-
`glob.Parse` (`parse`, `parseLoop`, `parseLit` of the model) is total, and for
valid UTF-8 without backslash printing its segments gives the string back up to
`squeeze`.
-/
import ElvProofs.C23.Top
namespace C23
open Go

def printSeg : Seg → Bytes
  | .lit d => d
  | .slash => [0x2F]
  | .wild w =>
    match w.type with
    | .question => [0x3F]
    | .star => [0x2A]
    | .starstar => [0x2A, 0x2A]

def printSegs (l : List Seg) : Bytes := l.flatMap printSeg

/-- every run of `/` becomes one `/`, every run of two or more `*` becomes `**` -/
def squeeze : Bytes → Bytes
  | [] => []
  | [a] => [a]
  | a :: b :: t =>
    if a = 0x2F ∧ b = 0x2F then squeeze (b :: t)
    else if a = 0x2A ∧ b = 0x2A ∧ t.head? = some 0x2A then squeeze (b :: t)
    else a :: squeeze (b :: t)

/-- no `//` and no `***` -/
def normalRuns : Bytes → Bool
  | [] => true
  | [_] => true
  | a :: b :: t =>
    !(a == 0x2F && b == 0x2F) && !(a == 0x2A && b == 0x2A && t.head? == some 0x2A) &&
      normalRuns (b :: t)

theorem squeeze_of_normal : ∀ (s : Bytes), normalRuns s = true → squeeze s = s
  | [], _ => rfl
  | [_], _ => rfl
  | a :: b :: t, h => by
    simp only [normalRuns, Bool.and_eq_true, Bool.not_eq_true', Bool.and_eq_false_iff,
      beq_eq_false_iff_ne, ne_eq] at h
    obtain ⟨⟨h1, h2⟩, h3⟩ := h
    have ih := squeeze_of_normal (b :: t) h3
    rw [squeeze, if_neg (by
      rintro ⟨ha, hb⟩
      rcases h1 with h1 | h1
      · exact h1 ha
      · exact h1 hb), if_neg (by
      rintro ⟨ha, hb, hc⟩
      rcases h2 with (h2 | h2) | h2
      · exact h2 ha
      · exact h2 hb
      · exact h2 hc), ih]

theorem squeeze_plain (b : UInt8) (t : Bytes) (h1 : b ≠ 0x2F) (h2 : b ≠ 0x2A) :
    squeeze (b :: t) = b :: squeeze t := by
  cases t with
  | nil => rfl
  | cons c t => rw [squeeze, if_neg (fun h => h1 h.1), if_neg (fun h => h2 h.1)]

theorem squeeze_plain_append : ∀ (pre rest : Bytes), (∀ x ∈ pre, x ≠ 0x2F ∧ x ≠ 0x2A) →
    squeeze (pre ++ rest) = pre ++ squeeze rest := by
  intro pre
  induction pre with
  | nil => intro rest _; rfl
  | cons x pre ih =>
    intro rest h
    obtain ⟨h1, h2⟩ := h x (by simp)
    rw [List.cons_append, squeeze_plain _ _ h1 h2, ih rest (fun y hy => h y (by simp [hy]))]
    rfl

theorem squeeze_slash : ∀ (t : Bytes),
    squeeze (0x2F :: t) = 0x2F :: squeeze (t.dropWhile (· == 0x2F)) := by
  intro t
  induction t with
  | nil => rfl
  | cons b t ih =>
    by_cases hb : b = 0x2F
    · subst hb
      rw [squeeze, if_pos ⟨rfl, rfl⟩, ih]
      simp [List.dropWhile]
    · have hb' : (b == 0x2F) = false := by simpa using hb
      rw [squeeze, if_neg (fun h => hb h.2), if_neg (fun h => by simp at h)]
      simp [List.dropWhile, hb']

theorem squeeze_star : ∀ (t : Bytes),
    squeeze (0x2A :: t) =
      (if t.head? = some 0x2A then [0x2A, 0x2A] else [0x2A]) ++ squeeze (t.dropWhile (· == 0x2A)) := by
  intro t
  induction t with
  | nil => rfl
  | cons b t ih =>
    by_cases hb : b = 0x2A
    · subst hb
      simp only [List.head?_cons, if_true, List.dropWhile, beq_self_eq_true]
      by_cases hc : t.head? = some 0x2A
      · rw [squeeze, if_neg (fun h => by simp at h), if_pos ⟨rfl, rfl, hc⟩, ih, if_pos hc]
      · rw [squeeze, if_neg (fun h => by simp at h), if_neg (fun h => hc h.2.2), ih, if_neg hc]
        rfl
    · have hb' : (b == 0x2A) = false := by simpa using hb
      have hne : ¬ (some b = some (0x2A : UInt8)) := by simpa using hb
      rw [squeeze, if_neg (fun h => by simp at h), if_neg (fun h => hb h.2.1)]
      simp only [List.head?_cons, hne, if_false, List.dropWhile, hb']
      rfl

theorem validUtf8_dropWhile_ascii (c : UInt8) (hc : c.toNat < 0x80) : ∀ (t : Bytes),
    validUtf8 t = true → validUtf8 (t.dropWhile (· == c)) = true := by
  intro t
  induction t with
  | nil => intro h; exact h
  | cons x t ih =>
    intro h
    by_cases hx : x = c
    · subst hx
      simp only [List.dropWhile, beq_self_eq_true]
      exact ih ((validUtf8_cons_ascii t hc).symm.trans h)
    · have : (x == c) = false := by simpa using hx
      simp only [List.dropWhile, this]
      exact h

theorem mem_of_mem_dropWhile {α : Type} {p : α → Bool} {x : α} {l : List α}
    (h : x ∈ l.dropWhile p) : x ∈ l :=
  (List.dropWhile_sublist p).subset h

theorem length_dropWhile_le {α : Type} (p : α → Bool) (l : List α) :
    (l.dropWhile p).length ≤ l.length :=
  (List.dropWhile_sublist p).length_le

theorem length_dropWhile_eq_iff (c : UInt8) (t : Bytes) :
    (t.dropWhile (· == c)).length = t.length ↔ ¬ t.head? = some c := by
  cases t with
  | nil => simp
  | cons x t =>
    by_cases hx : x = c
    · subst hx
      have := length_dropWhile_le (· == x) t
      simp only [List.dropWhile, beq_self_eq_true, List.length_cons, List.head?_cons, not_true,
        iff_false]
      omega
    · have : (x == c) = false := by simpa using hx
      simp [List.dropWhile, this, hx]

def specialRune (r : Nat) : Prop := r = 0x3F ∨ r = 0x2A ∨ r = 0x2F

theorem parseLit_total : ∀ (fuel : Nat) (s acc : Bytes), s.length < fuel →
    ∃ d rest, parseLit fuel s acc = .ok (d, rest) ∧ rest.length ≤ s.length ∧
      (s ≠ [] → ¬ specialRune (decodeRune s).1 → rest.length < s.length) := by
  intro fuel
  induction fuel with
  | zero => intro s acc h; omega
  | succ fuel ih =>
    intro s acc hl
    cases s with
    | nil => exact ⟨acc, [], parseLit.eq_2 .., Nat.le_refl _, fun h => absurd rfl h⟩
    | cons b t =>
      have hpos := decodeRune_size_pos (s := b :: t) (by simp)
      have hle := decodeRune_size_le (b :: t)
      rw [parseLit.eq_3]
      generalize decodeRune (b :: t) = p at hpos hle ⊢
      obtain ⟨r, n⟩ := p
      simp only at hpos hle ⊢
      by_cases hsp : r = 63 ∨ r = 42 ∨ r = 47
      · rw [if_pos hsp]
        exact ⟨acc, b :: t, rfl, Nat.le_refl _, fun _ hns => absurd hsp hns⟩
      rw [if_neg hsp]
      -- both remaining branches go on with a strictly shorter input
      have go : ∀ (s' acc' : Bytes), s'.length ≤ (b :: t).length - n →
          ∃ d rest, parseLit fuel s' acc' = .ok (d, rest) ∧ rest.length ≤ (b :: t).length ∧
            ((b :: t) ≠ [] → ¬ specialRune r → rest.length < (b :: t).length) := by
        intro s' acc' hs'
        obtain ⟨d, rest, hp, hl1, _⟩ := ih s' acc' (by simp only [List.length_cons] at hl hs'; omega)
        exact ⟨d, rest, hp, by omega, fun _ _ => by simp only [List.length_cons] at hs' ⊢; omega⟩
      by_cases hbs : r = 92
      · rw [if_pos hbs]
        cases hs' : (b :: t).drop n with
        | nil => exact ⟨acc, [], rfl, by simp, fun _ _ => by simp⟩
        | cons c u =>
          simp only
          rcases decodeRune (c :: u) with ⟨r2, n2⟩
          exact go _ _ (by rw [List.length_drop, ← hs', List.length_drop]; omega)
      · rw [if_neg hbs]
        exact go _ _ (by rw [List.length_drop]; omega)

theorem parseLit_spec : ∀ (fuel : Nat) (s acc d rest : Bytes), parseLit fuel s acc = .ok (d, rest) →
    validUtf8 s = true → (0x5C : UInt8) ∉ s →
    ∃ pre, s = pre ++ rest ∧ d = acc ++ pre ∧ (∀ x ∈ pre, x ≠ 0x2F ∧ x ≠ 0x2A) ∧
      validUtf8 rest = true := by
  intro fuel
  induction fuel with
  | zero => intro s acc d rest h; rw [parseLit.eq_1] at h; cases h
  | succ fuel ih =>
    intro s acc d rest h hv hb
    cases s with
    | nil =>
      rw [parseLit.eq_2, Res.ok.injEq, Prod.mk.injEq] at h
      obtain ⟨rfl, rfl⟩ := h
      exact ⟨[], rfl, by simp, by simp, rfl⟩
    | cons b t =>
      rcases hdr : decodeRune (b :: t) with ⟨r, n⟩
      rw [parseLit.eq_3, hdr] at h
      simp only at h
      by_cases hsp : r = 63 ∨ r = 42 ∨ r = 47
      · rw [if_pos hsp, Res.ok.injEq, Prod.mk.injEq] at h
        obtain ⟨rfl, rfl⟩ := h
        exact ⟨[], rfl, by simp, by simp, hv⟩
      have hr : r = (decodeRune (b :: t)).1 := by rw [hdr]
      -- a backslash rune would be a backslash byte
      have hnb : r ≠ 92 := fun hbs =>
        hb (List.mem_cons.2 (.inl ((decodeRune_fst_eq_ascii (c := 0x5C) t (by decide)).1 (hr ▸ hbs)).symm))
      rw [if_neg hsp, if_neg hnb] at h
      rw [validUtf8_of_ne_nil (by simp), hdr, Bool.and_eq_true] at hv
      obtain ⟨herr, hv'⟩ := hv
      obtain ⟨_, htake⟩ := decodeRune_valid_take hdr (by simp)
        (by rintro ⟨h1, h2⟩; simp [h1, h2] at herr)
      obtain ⟨pre', hs, hd, hpre, hvr⟩ := ih _ _ _ _ h hv' (fun hm => hb (List.mem_of_mem_drop hm))
      refine ⟨(b :: t).take n ++ pre', ?_, ?_, ?_, hvr⟩
      · rw [List.append_assoc, ← hs, List.take_append_drop]
      · rw [hd, htake, List.append_assoc]
      · intro x hx
        rcases List.mem_append.1 hx with hx | hx
        · rw [htake] at hx
          constructor
          · rintro rfl
            exact hsp (.inr (.inr (encodeRune_mem_ascii hx (by decide)).symm))
          · rintro rfl
            exact hsp (.inr (.inl (encodeRune_mem_ascii hx (by decide)).symm))
        · exact hpre x hx

/-- The first segment `glob.Parse` reads off a non-empty input, and the input left over:
one iteration of its loop, by the first byte. -/
inductive ParseHead : Bytes → Seg → Bytes → Prop
  | question (t : Bytes) : ParseHead (0x3F :: t) (.wild ⟨.question, false, []⟩) t
  | star (t : Bytes) : ParseHead (0x2A :: t)
      (.wild ⟨if t.head? = some 0x2A then .starstar else .star, false, []⟩) (t.dropWhile (· == 0x2A))
  | slash (t : Bytes) : ParseHead (0x2F :: t) .slash (t.dropWhile (· == 0x2F))
  | lit {b : UInt8} {t d rest : Bytes} : b ≠ 0x3F → b ≠ 0x2A → b ≠ 0x2F →
      parseLit ((b :: t).length + 1) (b :: t) [] = .ok (d, rest) → rest.length < (b :: t).length →
      ParseHead (b :: t) (.lit d) rest

theorem parseLoop_head {s rest : Bytes} {x : Seg} (h : ParseHead s x rest) (fuel : Nat) :
    parseLoop (fuel + 1) s = parseLoop fuel rest >>= fun t' => pure (x :: t') := by
  cases h with
  | question t => rw [parseLoop.eq_3, decodeRune_one _ _ (by decide)]; rfl
  | slash t => rw [parseLoop.eq_3, decodeRune_one _ _ (by decide)]; rfl
  | star t =>
    rw [parseLoop.eq_3, decodeRune_one _ _ (by decide)]
    -- the run has length 1 exactly when no `*` follows
    have hle := length_dropWhile_le (· == (0x2A : UInt8)) t
    have hiff := length_dropWhile_eq_iff 0x2A t
    have hty : (if (0x2A :: t).length - (t.dropWhile (· == (0x2A : UInt8))).length = 1
        then WildType.star else .starstar) = (if t.head? = some 0x2A then .starstar else .star) := by
      by_cases hh : t.head? = some 0x2A
      · have hne : (t.dropWhile (· == (0x2A : UInt8))).length ≠ t.length := fun he => hiff.1 he hh
        rw [if_pos hh, if_neg (by rw [List.length_cons]; omega)]
      · have heq := hiff.2 hh
        rw [if_neg hh, if_pos (by rw [List.length_cons]; omega)]
    rw [← hty]
    rfl
  | @lit b t d rest h1 h2 h3 hp hlt =>
    have hr : ∀ c : UInt8, c.toNat < 0x80 → b ≠ c → (decodeRune (b :: t)).1 ≠ c.toNat :=
      fun c hc hbc h => hbc ((decodeRune_fst_eq_ascii t hc).1 h)
    have r1 := hr 0x3F (by decide) h1
    have r2 := hr 0x2A (by decide) h2
    have r3 := hr 0x2F (by decide) h3
    rw [parseLoop.eq_3]
    generalize decodeRune (b :: t) = p at r1 r2 r3
    obtain ⟨r, n⟩ := p
    simp only
    rw [if_neg (show ¬ r = 63 from r1), if_neg (show ¬ r = 42 from r2),
      if_neg (show ¬ r = 47 from r3), hp]
    simp only [hlt, if_true]

theorem ParseHead.length_lt {s rest : Bytes} {x : Seg} (h : ParseHead s x rest) :
    rest.length < s.length := by
  cases h with
  | question t => exact Nat.lt_succ_self _
  | star t => exact Nat.lt_succ_of_le (length_dropWhile_le _ t)
  | slash t => exact Nat.lt_succ_of_le (length_dropWhile_le _ t)
  | lit _ _ _ _ hlt => exact hlt

theorem parseHead_exists (b : UInt8) (t : Bytes) : ∃ x rest, ParseHead (b :: t) x rest := by
  by_cases h1 : b = 0x3F
  · subst h1; exact ⟨_, _, .question t⟩
  by_cases h2 : b = 0x2A
  · subst h2; exact ⟨_, _, .star t⟩
  by_cases h3 : b = 0x2F
  · subst h3; exact ⟨_, _, .slash t⟩
  obtain ⟨d, rest, hp, _, hlt⟩ := parseLit_total ((b :: t).length + 1) (b :: t) [] (Nat.lt_succ_self _)
  refine ⟨_, _, .lit h1 h2 h3 hp (hlt (by simp) ?_)⟩
  rintro (h | h | h)
  · exact h1 ((decodeRune_fst_eq_ascii (c := 0x3F) t (by decide)).1 h)
  · exact h2 ((decodeRune_fst_eq_ascii (c := 0x2A) t (by decide)).1 h)
  · exact h3 ((decodeRune_fst_eq_ascii (c := 0x2F) t (by decide)).1 h)

theorem parseLoop_total : ∀ (fuel : Nat) (s : Bytes), s.length < fuel →
    ∃ segs, parseLoop fuel s = .ok segs := by
  intro fuel
  induction fuel with
  | zero => intro s h; omega
  | succ fuel ih =>
    intro s hl
    cases s with
    | nil => exact ⟨[], parseLoop.eq_2 _⟩
    | cons b t =>
      obtain ⟨x, rest, hh⟩ := parseHead_exists b t
      obtain ⟨t', ht'⟩ := ih rest (by have := hh.length_lt; omega)
      exact ⟨x :: t', by rw [parseLoop_head hh, ht']; rfl⟩

theorem parseLoop_cons_ok {fuel : Nat} {b : UInt8} {t : Bytes} {segs : List Seg}
    (h : parseLoop (fuel + 1) (b :: t) = .ok segs) :
    ∃ x rest t', ParseHead (b :: t) x rest ∧ parseLoop fuel rest = .ok t' ∧ segs = x :: t' := by
  obtain ⟨x, rest, hh⟩ := parseHead_exists b t
  rw [parseLoop_head hh] at h
  obtain ⟨t', ht', hs⟩ := Res.bind_eq_ok.1 h
  exact ⟨x, rest, t', hh, ht', (Res.ok.inj hs).symm⟩

theorem printSegs_cons (x : Seg) (l : List Seg) : printSegs (x :: l) = printSeg x ++ printSegs l :=
  List.flatMap_cons

theorem ParseHead.print {s rest : Bytes} {x : Seg} (h : ParseHead s x rest)
    (hv : validUtf8 s = true) (hb : (0x5C : UInt8) ∉ s) :
    printSeg x ++ squeeze rest = squeeze s ∧ validUtf8 rest = true ∧ (0x5C : UInt8) ∉ rest := by
  cases h with
  | question t =>
    exact ⟨(squeeze_plain _ _ (by decide) (by decide)).symm, (validUtf8_cons_ascii _ (by decide)).symm.trans hv,
      fun hm => hb (List.mem_cons_of_mem _ hm)⟩
  | star t =>
    refine ⟨?_, validUtf8_dropWhile_ascii _ (by decide) t ((validUtf8_cons_ascii _ (by decide)).symm.trans hv),
      fun hm => hb (List.mem_cons_of_mem _ (mem_of_mem_dropWhile hm))⟩
    rw [squeeze_star]
    split <;> rfl
  | slash t =>
    exact ⟨(squeeze_slash t).symm,
      validUtf8_dropWhile_ascii _ (by decide) t ((validUtf8_cons_ascii _ (by decide)).symm.trans hv),
      fun hm => hb (List.mem_cons_of_mem _ (mem_of_mem_dropWhile hm))⟩
  | lit _ _ _ hp _ =>
    obtain ⟨pre, hs, hd, hpre, hvr⟩ := parseLit_spec _ _ _ _ _ hp hv hb
    rw [List.nil_append] at hd
    subst hd
    refine ⟨?_, hvr, fun hm => hb (by rw [hs]; exact List.mem_append_right _ hm)⟩
    rw [hs, squeeze_plain_append _ _ hpre]
    rfl

theorem parseLoop_print : ∀ (fuel : Nat) (s : Bytes) (segs : List Seg), parseLoop fuel s = .ok segs →
    validUtf8 s = true → (0x5C : UInt8) ∉ s → printSegs segs = squeeze s := by
  intro fuel
  induction fuel with
  | zero => intro s segs h; rw [parseLoop.eq_1] at h; cases h
  | succ fuel ih =>
    intro s segs h hv hb
    cases s with
    | nil =>
      rw [parseLoop.eq_2] at h
      cases h
      rfl
    | cons b t =>
      obtain ⟨x, rest, t', hh, ht', rfl⟩ := parseLoop_cons_ok h
      obtain ⟨hp, hv', hb'⟩ := hh.print hv hb
      rw [printSegs_cons, ih _ _ ht' hv' hb', hp]

theorem ParseHead.plain {s rest : Bytes} {x : Seg} (h : ParseHead s x rest) {w : Wild}
    (hw : x = .wild w) : w.hidden = false ∧ w.matchers = [] := by
  cases h <;> cases hw <;> exact ⟨rfl, rfl⟩

theorem parseLoop_plain : ∀ (fuel : Nat) (s : Bytes) (segs : List Seg), parseLoop fuel s = .ok segs →
    ∀ w, Seg.wild w ∈ segs → w.hidden = false ∧ w.matchers = [] := by
  intro fuel
  induction fuel with
  | zero => intro s segs h; rw [parseLoop.eq_1] at h; cases h
  | succ fuel ih =>
    intro s segs h
    cases s with
    | nil =>
      rw [parseLoop.eq_2] at h
      cases h
      intro w hw; cases hw
    | cons b t =>
      obtain ⟨x0, rest, t', hh, ht', rfl⟩ := parseLoop_cons_ok h
      intro w hw
      rcases List.mem_cons.1 hw with hw | hw
      · exact hh.plain hw.symm
      · exact ih _ _ ht' w hw

end C23
