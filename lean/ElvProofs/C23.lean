/-
C23: wildcard expansion yields exactly the matching paths (pkg/glob,
pkg/eval/glob.go as fixed by fixes/C23-dedup-paths.patch and
fixes/C23-type-regular-symlink.patch).

The property at full strength (`C23_full`) is false for the code: the greedy
chunk matcher of `matchElement` never revisits an earlier star
(`C23_counterexample`).  It is proved for the patterns in `GreedyOK`, which
excludes exactly: a matcher-restricted `*`/`**` with an earlier `*`/`**` in the
same path element, and literals that are empty or not valid UTF-8.
-/
import ElvProofs.C23.Top
import ElvProofs.C23.Overlap
import ElvProofs.C23.TreeRank
import ElvProofs.C23.Parse
open Go C23

/-- What `doGlob` must yield for `p`: the path is expanded by the pattern, not
excluded by `but:`, exists, and passes `type:`. -/
def C23_Selected (fs : FS) (gp : GlobPattern) (p : Bytes) : Prop :=
  ExpandsTop fs gp.segs p ∧ p ∉ gp.buts ∧ ∃ k, fs.lstat p = some k ∧ gp.type.accepts k = true

/-- C23 at full strength: for every directory tree (whose entry names contain no
`/`) and every pattern with non-empty literals, a successful expansion lists
exactly the selected paths, each once. -/
def C23_full : Prop :=
  ∀ (fs : FS) (gp : GlobPattern) (fuel : Nat) (vs : List Bytes), FSNames fs →
    (∀ d, Seg.lit d ∈ gp.segs → d ≠ []) → doGlob fs fuel gp = .ok vs →
    vs.Nodup ∧ ∀ p, p ∈ vs ↔ C23_Selected fs gp p

/-- `xaxb` -/
def C23_xaxb : Bytes := [0x78, 0x61, 0x78, 0x62]

/-- a directory holding the single file `xaxb` -/
def C23_fsX : FS where
  lstat p := if p = C23_xaxb then some .file else none
  readDir d := if d = [] then some [(C23_xaxb, false)] else none

def C23_star : Seg := .wild ⟨.star, false, []⟩
/-- `**` -/
def C23_star2 : Seg := .wild ⟨.starstar, false, []⟩
/-- `*[set:b]` -/
def C23_starB : Seg := .wild ⟨.star, false, [fun r => r == 0x62]⟩

/-- `*x*[set:b][nomatch-ok]` -/
def C23_gpBad : GlobPattern := ⟨[C23_star, .lit [0x78], C23_starB], true, [], .none⟩
/-- `*x*` -/
def C23_gpGood : GlobPattern := ⟨[C23_star, .lit [0x78], C23_star], false, [], .none⟩

theorem C23_fsX_names : FSNames C23_fsX := by
  intro dir es h n d hm
  simp only [C23_fsX] at h
  split at h
  · simp at h; subst h
    simp at hm
    rw [hm.1]; decide
  · cases h

/-- C23: whatever `matchElement` accepts is matched declaratively (every pattern). -/
theorem C23_matchElement_sound (segs : List Seg) (name : Bytes) (hs : slashByte ∉ name)
    (h : matchElement segs name = .ok true) : ElemMatches segs name :=
  matchElement_sound hs h

example : matchElement C23_gpGood.segs C23_xaxb = .ok true := by decide

/-- C23, PARTIAL: on `GreedyOK` patterns leftmost-greedy matching finds every match. -/
theorem C23_matchElement_complete_partial (segs : List Seg) (name : Bytes) (hg : GreedyOK segs)
    (h : ElemMatches segs name) : matchElement segs name = .ok true :=
  matchElement_complete hg h

example : GreedyOK C23_gpGood.segs := by decide

/-- C23: no wildcard matches a leading dot without `match-hidden`. -/
theorem C23_hidden (w : Wild) (rest : List Seg) (t : Bytes)
    (h : matchElement (.wild w :: rest) (dotByte :: t) = .ok true) : w.hidden = true := by
  unfold matchElement at h
  simp only at h
  split at h
  · simp at h
  · next hr => simpa [hiddenReject] using hr

example : matchElement [.wild ⟨.star, true, []⟩] [dotByte, 0x61] = .ok true := by decide
example : matchElement [C23_star] [dotByte, 0x61] = .ok false := by decide

/-- C23: `?`, `*` and (within one element) `**` never consume a `/`: a pattern
element whose literals hold no `/` matches only names without `/`. -/
theorem C23_wildcards_never_match_slash (segs : List Seg) (name : Bytes) (h : Matches segs name)
    (hl : ∀ d, Seg.lit d ∈ segs → slashByte ∉ d) : slashByte ∉ name :=
  matches_no_slash h hl

/-- C23: every reported path is an existing path the pattern expands to, with the
kind `Lstat` reports (every pattern). -/
theorem C23_glob_sound (fs : FS) (hfs : FSNames fs) (fuel : Nat) (segs : List Seg) (outs : List Out)
    (h : patternGlob fs fuel segs = .ok outs) (o : Out) (ho : o ∈ outs) :
    ExpandsTop fs segs o.1 ∧ fs.lstat o.1 = some o.2 := by
  obtain ⟨raw, hr, rfl⟩ := patternGlob_ok h
  exact patternGlobRaw_sound hfs hr o (dedup_sub raw [] o ho).1

/-- C23: every path is reported at most once (every pattern; needs fixes/C23-dedup-paths.patch). -/
theorem C23_each_path_once (fs : FS) (fuel : Nat) (segs : List Seg) (outs : List Out)
    (h : patternGlob fs fuel segs = .ok outs) : (outs.map (·.1)).Nodup := by
  obtain ⟨raw, _, rfl⟩ := patternGlob_ok h
  exact dedup_nodup raw []

example : patternGlob C23_fsX 3 C23_gpGood.segs = .ok [(C23_xaxb, .file)] := by decide

/-- C23, PARTIAL: on `GreedyOK` patterns every expanded path is reported. -/
theorem C23_glob_complete_partial (fs : FS) (fuel : Nat) (segs : List Seg) (outs : List Out)
    (hg : GreedyOK segs) (h : patternGlob fs fuel segs = .ok outs) (p : Bytes)
    (hp : ExpandsTop fs segs p) : ∃ k, (p, k) ∈ outs := by
  obtain ⟨raw, hr, rfl⟩ := patternGlob_ok h
  obtain ⟨k, hk⟩ := patternGlobRaw_complete hg hr p hp
  have := dedup_keeps raw [] p (List.mem_map.2 ⟨(p, k), hk, rfl⟩) (by simp)
  obtain ⟨o, ho, hop⟩ := List.mem_map.1 this
  exact ⟨o.2, by rw [← hop]; exact ho⟩

/-- C23: no match raises the exception unless `nomatch-ok` is given; otherwise the
filtered list is returned. -/
theorem C23_nomatch (fs : FS) (fuel : Nat) (gp : GlobPattern) (outs : List Out)
    (h : patternGlob fs fuel gp.segs = .ok outs) :
    doGlob fs fuel gp =
      let vs := (outs.filter fun o => !gp.buts.contains o.1 && gp.type.accepts o.2).map (·.1)
      if vs.isEmpty && !gp.noMatchOK then .exc "wildcard has no match" else .ok vs := by
  unfold doGlob
  rw [h]
  rfl

example : doGlob C23_fsX 3 ⟨[.lit [0x79], C23_star], false, [], .none⟩ = .exc "wildcard has no match" := by
  decide
example : doGlob C23_fsX 3 ⟨[.lit [0x79], C23_star], true, [], .none⟩ = .ok [] := by decide

theorem C23_doGlob_mem (fs : FS) (fuel : Nat) (gp : GlobPattern) (vs : List Bytes)
    (h : doGlob fs fuel gp = .ok vs) :
    ∃ outs, patternGlob fs fuel gp.segs = .ok outs ∧
      vs = (outs.filter fun o => !gp.buts.contains o.1 && gp.type.accepts o.2).map (·.1) := by
  unfold doGlob at h
  rw [Res.bind_eq_ok] at h
  obtain ⟨outs, ho, h⟩ := h
  refine ⟨outs, ho, ?_⟩
  simp only at h
  split at h
  · cases h
  · exact (Res.ok.inj h).symm

/-- C23: a successful expansion lists only selected paths, each once (every pattern). -/
theorem C23_expansion_sound (fs : FS) (hfs : FSNames fs) (gp : GlobPattern) (fuel : Nat)
    (vs : List Bytes) (h : doGlob fs fuel gp = .ok vs) :
    vs.Nodup ∧ ∀ p, p ∈ vs → C23_Selected fs gp p := by
  obtain ⟨outs, ho, rfl⟩ := C23_doGlob_mem fs fuel gp vs h
  constructor
  · have := C23_each_path_once fs fuel gp.segs outs ho
    exact (List.Nodup.sublist (List.Sublist.map _ List.filter_sublist) this)
  · intro p hp
    obtain ⟨o, hof, rfl⟩ := List.mem_map.1 hp
    obtain ⟨hom, hc⟩ := List.mem_filter.1 hof
    obtain ⟨e1, e2⟩ := C23_glob_sound fs hfs fuel gp.segs outs ho o hom
    simp at hc
    exact ⟨e1, hc.1, o.2, e2, hc.2⟩

/-- C23, PARTIAL: for `GreedyOK` patterns a successful expansion lists exactly the
selected paths, each once. -/
theorem C23_expansion_exact_partial (fs : FS) (hfs : FSNames fs) (gp : GlobPattern)
    (hg : GreedyOK gp.segs) (fuel : Nat) (vs : List Bytes) (h : doGlob fs fuel gp = .ok vs) :
    vs.Nodup ∧ ∀ p, p ∈ vs ↔ C23_Selected fs gp p := by
  obtain ⟨hnd, hs⟩ := C23_expansion_sound fs hfs gp fuel vs h
  refine ⟨hnd, fun p => ⟨hs p, ?_⟩⟩
  rintro ⟨he, hb, k, hk, ht⟩
  obtain ⟨outs, ho, rfl⟩ := C23_doGlob_mem fs fuel gp vs h
  obtain ⟨k', hk'⟩ := C23_glob_complete_partial fs fuel gp.segs outs hg ho p he
  have hkk : k' = k := by
    have := (C23_glob_sound fs hfs fuel gp.segs outs ho (p, k') hk').2
    simp only at this
    rw [hk] at this
    exact (Option.some.inj this).symm
  subst hkk
  refine List.mem_map.2 ⟨(p, k'), List.mem_filter.2 ⟨hk', ?_⟩, rfl⟩
  simp [hb, ht]

example : GreedyOK C23_gpGood.segs ∧ doGlob C23_fsX 3 C23_gpGood = .ok [C23_xaxb] := by decide

theorem C23_xaxb_selected : C23_Selected C23_fsX C23_gpBad C23_xaxb := by
  unfold C23_Selected
  refine ⟨?_, ?_, Kind.file, ?_, rfl⟩
  rotate_left
  · simp [C23_gpBad]
  · simp [C23_fsX]
  show Expands C23_fsX [C23_star, .lit [0x78], C23_starB] [] ([] ++ C23_xaxb)
  refine Expands.last (isDir := false) (k := Kind.file) (es := [(C23_xaxb, false)]) (by simp) ?_ ?_ (by simp [C23_fsX])
    (by simp) ⟨?_, ?_⟩ (by simp [C23_fsX])
  · intro s hs
    simp [C23_star, C23_starB] at hs
    rcases hs with rfl | rfl | rfl <;> rfl
  · rintro ⟨d, hd⟩; simp at hd
  · simp [HiddenOK, C23_star, C23_xaxb, dotByte]
  · -- * = "xa", x, *[set:b] = "b"
    have hq : (⟨.star, false, []⟩ : Wild).type ≠ .question := by decide
    have hqb : (⟨.star, false, [fun r => r == 0x62]⟩ : Wild).type ≠ .question := by decide
    refine Matches.step (n := 1) hq (by decide) ?_
    refine Matches.step (n := 1) hq (by decide) ?_
    refine Matches.skip hq ?_
    show Matches _ ([0x78] ++ [0x62])
    refine Matches.lit ?_
    refine Matches.step (n := 1) hqb (by decide) ?_
    exact Matches.skip hqb Matches.nil

/-- `C23_full` fails: `*x*[set:b]` does not list `xaxb`, although `*` = `xa`, `x`,
`*[set:b]` = `b` is a match. -/
theorem C23_counterexample : ¬ C23_full := by
  intro hfull
  have hrun : doGlob C23_fsX 3 C23_gpBad = .ok [] := by decide
  have := (hfull C23_fsX C23_gpBad 3 [] C23_fsX_names (by
    intro d hd
    simp [C23_gpBad, C23_star, C23_starB] at hd
    rw [hd]; simp) hrun).2 C23_xaxb
  exact absurd (this.2 C23_xaxb_selected) (by simp)

/-- C23: `matchElement` never panics and never runs out of fuel on a slash-free
pattern (what `glob` hands it). -/
theorem C23_matchElement_total (segs : List Seg) (hns : NoSlash segs) (name : Bytes) :
    ∃ b, matchElement segs name = .ok b :=
  matchElement_total hns name

example : NoSlash C23_gpBad.segs := by
  intro s hs
  simp [C23_gpBad, C23_star, C23_starB] at hs
  rcases hs with rfl | rfl | rfl <;> rfl

/-- C23, fuel sufficiency.  If the directory paths of `fs` carry a rank bounded by
`D` that decreases from a directory to every entry listed as a real directory
(`FSRank`), then `Pattern.Glob` returns with any fuel above
`(len(segs)+1) * (D+1)`. -/
theorem C23_glob_fuel_sufficient (fs : FS) (D : Nat) (R : FSRank fs D) (segs : List Seg) (fuel : Nat)
    (hf : (segs.length + 1) * (D + 1) < fuel) : ∃ outs, patternGlob fs fuel segs = .ok outs :=
  patternGlob_total fs R fuel segs hf

def C23_fsX_rank : FSRank C23_fsX 1 where
  rk p := if p = [] then 1 else 0
  le := by intro p; split <;> omega
  desc := by
    intro dir es name _ h hm
    simp only [C23_fsX] at h
    split at h
    · simp at h; subst h
      simp at hm
    · cases h

example : ∃ outs, patternGlob C23_fsX 9 C23_gpBad.segs = .ok outs :=
  C23_glob_fuel_sufficient C23_fsX 1 C23_fsX_rank _ 9 (by decide)

/-- C23: with enough fuel `doGlob` ends in a list or in the no-match exception,
never in `FUEL` or a panic. -/
theorem C23_doGlob_total (fs : FS) (D : Nat) (R : FSRank fs D) (gp : GlobPattern) (fuel : Nat)
    (hf : (gp.segs.length + 1) * (D + 1) < fuel) :
    (∃ vs, doGlob fs fuel gp = .ok vs) ∨ doGlob fs fuel gp = .exc "wildcard has no match" := by
  obtain ⟨outs, ho⟩ := C23_glob_fuel_sufficient fs D R gp.segs fuel hf
  rw [C23_nomatch fs fuel gp outs ho]
  simp only
  split
  · exact Or.inr rfl
  · exact Or.inl ⟨_, rfl⟩

/-- C23, PARTIAL, without the "run returned" hypothesis: for `GreedyOK` patterns
on a ranked file system, with enough fuel, the result is either the list of
exactly the selected paths (each once), or the exception, and then `nomatch-ok`
is absent and no path is selected. -/
theorem C23_expansion_decided_partial (fs : FS) (hfs : FSNames fs) (D : Nat) (R : FSRank fs D)
    (gp : GlobPattern) (hg : GreedyOK gp.segs) (fuel : Nat)
    (hf : (gp.segs.length + 1) * (D + 1) < fuel) :
    (∃ vs, doGlob fs fuel gp = .ok vs ∧ vs.Nodup ∧ ∀ p, p ∈ vs ↔ C23_Selected fs gp p) ∨
    (doGlob fs fuel gp = .exc "wildcard has no match" ∧ gp.noMatchOK = false ∧
      ∀ p, ¬ C23_Selected fs gp p) := by
  obtain ⟨outs, ho⟩ := C23_glob_fuel_sufficient fs D R gp.segs fuel hf
  have hrun := C23_nomatch fs fuel gp outs ho
  simp only at hrun
  split at hrun
  · next hc =>
    refine Or.inr ⟨hrun, ?_, ?_⟩
    · simp only [Bool.and_eq_true, Bool.not_eq_true'] at hc; exact hc.2
    · -- the same pattern with nomatch-ok yields the empty list, which is exact
      have hrun' := C23_nomatch fs fuel ⟨gp.segs, true, gp.buts, gp.type⟩ outs ho
      simp only [Bool.not_true, Bool.and_false, Bool.false_eq_true, if_false] at hrun'
      have hex := (C23_expansion_exact_partial fs hfs ⟨gp.segs, true, gp.buts, gp.type⟩ hg fuel _ hrun').2
      simp only [Bool.and_eq_true, List.isEmpty_iff] at hc
      intro p hp
      have : p ∈ ([] : List Bytes) := by
        rw [← hc.1]
        exact (hex p).2 hp
      cases this
  · exact Or.inl ⟨_, hrun, C23_expansion_exact_partial fs hfs gp hg fuel _ hrun⟩

example : doGlob C23_fsX 9 C23_gpGood = .ok [C23_xaxb] := by decide

/-- C23: a run that returned returns the same list under any larger fuel, so the
results do not depend on the fuel the driver picks. -/
theorem C23_more_fuel_same_result (fs : FS) (f1 f2 : Nat) (gp : GlobPattern) (vs : List Bytes)
    (hle : f1 ≤ f2) (h : doGlob fs f1 gp = .ok vs) : doGlob fs f2 gp = .ok vs := by
  obtain ⟨outs, ho, _⟩ := C23_doGlob_mem fs f1 gp vs h
  have ho2 := patternGlob_mono fs f1 f2 gp.segs outs hle ho
  rw [C23_nomatch fs f2 gp outs ho2, ← C23_nomatch fs f1 gp outs ho]
  exact h

example : doGlob C23_fsX 3 C23_gpGood = .ok [C23_xaxb] ∧ (3 : Nat) ≤ 100 := by decide

/-- a chain `r/a/a` with a symbolic link `r/a/a/up -> ../..` back to `r` -/
def C23_treeUp : Tree where
  entries := [([[0x72]], .dir), ([[0x72], [0x61]], .dir), ([[0x72], [0x61], [0x61]], .dir),
    ([[0x72], [0x61], [0x61], [0x75, 0x70]], .symlink [0x2E, 0x2E, 0x2F, 0x2E, 0x2E])]
  absRoot := [[0x74]]
  cwd := [[0x72]]

/-- C23: the driver never prints `FUEL`: on every well-formed tree (checked by
the driver for every op) the driver's fuel `fuelFor t segs` suffices. -/
theorem C23_driver_never_out_of_fuel (t : Tree) (hwf : t.wf = true) (segs : List Seg) :
    ∃ outs, patternGlob t.toFS (fuelFor t segs) segs = .ok outs :=
  patternGlob_total t.toFS (t.fsRank hwf) _ segs (Nat.lt_succ_self _)

example : C23_treeUp.wf = true := by decide

/-- a chain of `d` directories `r/a/…/a` whose last one holds `up -> ../…/..` (back to `r`) -/
def C23_chainUp (d : Nat) : Tree where
  entries := ((List.range (d + 1)).map fun i => (([0x72] : Bytes) :: List.replicate i [0x61], Node.dir)) ++
    [(([0x72] : Bytes) :: List.replicate d [0x61] ++ [[0x75, 0x70]],
      Node.symlink (List.intercalate [0x2F] (List.replicate d [0x2E, 0x2E])))]
  absRoot := [[0x74]]
  cwd := [[0x72]]

/-- `**/up/` k times, then `**` -/
def C23_upPat (k : Nat) : List Seg :=
  (List.replicate k [C23_star2, .slash, .lit [0x75, 0x70], .slash]).flatten ++ [C23_star2]

/-- Why the fuel must be a product: every `**/up/` walks down the whole chain
again, so the recursion depth is about `k * d`; the sum
`entries + len(segs) + 8` is not enough here. -/
theorem C23_additive_fuel_insufficient :
    patternGlob (C23_chainUp 8).toFS ((C23_chainUp 8).entries.length + (C23_upPat 3).length + 8)
      (C23_upPat 3) = .exc "FUEL" := by decide +kernel

example : (C23_chainUp 8).wf = true := by decide +kernel

/-- C23: `glob.Parse` is total: the model's fuel `len(s)+1` suffices (the literal
loop always consumes its first rune), nothing panics. -/
theorem C23_parse_total (s : Bytes) : ∃ segs, parse s = .ok segs :=
  parseLoop_total _ _ (Nat.lt_succ_self _)

/-- C23: printing the parsed segments gives the pattern string back, up to what
Parse merges: every run of `/` is one `Slash`, every run of two or more `*` one
`**`.  Needs valid UTF-8 (an invalid byte becomes U+FFFD in a literal) and no
backslash (escapes are dropped). -/
theorem C23_parse_print (s : Bytes) (segs : List Seg) (hv : validUtf8 s = true)
    (hb : (0x5C : UInt8) ∉ s) (h : parse s = .ok segs) : printSegs segs = squeeze s :=
  parseLoop_print _ _ _ h hv hb

/-- C23: for a string without `//` and `***` the printed segments are the string. -/
theorem C23_parse_print_normal (s : Bytes) (segs : List Seg) (hv : validUtf8 s = true)
    (hb : (0x5C : UInt8) ∉ s) (hn : normalRuns s = true) (h : parse s = .ok segs) :
    printSegs segs = s := by
  rw [C23_parse_print s segs hv hb h, squeeze_of_normal s hn]

/-- C23: `Parse` never produces matchers or match-hidden. -/
theorem C23_parse_plain_wildcards (s : Bytes) (segs : List Seg) (h : parse s = .ok segs) (w : Wild)
    (hw : Seg.wild w ∈ segs) : w.hidden = false ∧ w.matchers = [] :=
  parseLoop_plain _ _ _ h w hw

/-- Segments hold functions, so results are compared printed. -/
def C23_printParsed (s : Bytes) : Option Bytes :=
  match parse s with
  | .ok segs => some (printSegs segs)
  | _ => none

/-- `a***//?b` -/
def C23_patStr : Bytes := [0x61, 0x2A, 0x2A, 0x2A, 0x2F, 0x2F, 0x3F, 0x62]

example : C23_printParsed C23_patStr = some [0x61, 0x2A, 0x2A, 0x2F, 0x3F, 0x62] := by
  decide +kernel
example : squeeze C23_patStr = [0x61, 0x2A, 0x2A, 0x2F, 0x3F, 0x62] := by decide
example : validUtf8 C23_patStr = true ∧ (0x5C : UInt8) ∉ C23_patStr := by decide +kernel
/-- `a**/?b` is normal -/
example : normalRuns [0x61, 0x2A, 0x2A, 0x2F, 0x3F, 0x62] = true := by decide
/-- the hypotheses are needed: `\*` prints as `*`, the byte `ff` as U+FFFD -/
example : C23_printParsed [0x5C, 0x2A] = some [0x2A] := by decide +kernel
example : C23_printParsed [0xFF] = some [0xEF, 0xBF, 0xBD] := by decide +kernel

/-- C23: a name matched by `lit₁ * lit₂` (any wildcard in the middle) starts with
`lit₁`, ends with `lit₂`, and is at least `|lit₁| + |lit₂|` long.  "Starts with
`lit₁` and ends with `lit₂`" alone is not sufficient: `a` for `a*a`, `aba` for
`ab*ba` (seeded change C23-literal-star-literal-overlap). -/
theorem C23_lit_star_lit_needs_room (l1 l2 : Bytes) (w : Wild) (name : Bytes)
    (h : Matches [.lit l1, .wild w, .lit l2] name) :
    l1.length + l2.length ≤ name.length ∧ (∃ t, name = l1 ++ t) ∧ (∃ t, name = t ++ l2) := by
  refine ⟨?_, ?_, ?_⟩
  · have := matches_minLen h
    simp only [minLen] at this
    omega
  · obtain ⟨t, ht, _⟩ := matches_lit_prefix h
    exact ⟨t, ht⟩
  · exact matches_lit_suffix (segs := [.lit l1, .wild w]) h

/-- C23: the same for what the code accepts. -/
theorem C23_matchElement_lit_star_lit (l1 l2 : Bytes) (w : Wild) (name : Bytes)
    (hs : slashByte ∉ name) (h : matchElement [.lit l1, .wild w, .lit l2] name = .ok true) :
    l1.length + l2.length ≤ name.length :=
  (C23_lit_star_lit_needs_room l1 l2 w name (C23_matchElement_sound _ _ hs h).2).1

/-- `a*a` -/
def C23_aStarA : List Seg := [.lit [0x61], C23_star, .lit [0x61]]
/-- `ab*ba` -/
def C23_abStarBa : List Seg := [.lit [0x61, 0x62], C23_star, .lit [0x62, 0x61]]

example : ¬ Matches C23_aStarA [0x61] := fun h => by
  have := (C23_lit_star_lit_needs_room _ _ _ _ h).1
  simp at this
example : ¬ Matches C23_abStarBa [0x61, 0x62, 0x61] := fun h => by
  have := (C23_lit_star_lit_needs_room _ _ _ _ h).1
  simp at this
example : matchElement C23_aStarA [0x61] = .ok false ∧ matchElement C23_aStarA [0x61, 0x61] = .ok true ∧
    matchElement C23_abStarBa [0x61, 0x62, 0x61] = .ok false ∧
    matchElement C23_abStarBa [0x61, 0x62, 0x62, 0x61] = .ok true := by decide
