import ElvModel.C22.Model
import ElvModel.C22.Spec
import ElvProofs.C22.Reach
import ElvProofs.C22.History
import ElvProofs.C22.Fuel
import ElvProofs.C22.Paths
open C22

/-!
C22 — a module is evaluated at most once per interpreter and shared.  Theorems about the executable model
`ElvModel/C22/Model.lean` of `use` / `useFromFile` / `evalModule` and the `Evaler.modules` cache (tied to pkg/eval by
`./check C22`), for every world `w` (file system, lib dirs, bundled and pre-defined modules; module bodies are
arbitrary lists of `use`, `try use`, `var`, `fail`, `fail on the first n evaluations`) and every sequential history
`ops` of top-level imports — diamonds and cycles included.  `run w ops` is the state after the history; its `log`
(newest first) is the ghost history of events, `mods` the cache.  Vocabulary: `ElvModel/C22/Spec.lean`.
-/

/-- `a.elv`: `var d; use ./b; fail on the first evaluation; var d` — `b.elv`: `use ./a` -/
def C22.exW : World :=
  { files := [(["w", "a"], .code [.def_, .use [".", "b"], .failUntil 1, .def_]),
              (["w", "b"], .code [.use [".", "a"]])],
    libDirs := [["lib"]], bundled := [], predefined := [["pre"]] }
/-- `try { use ./a } catch { }` typed in directory `/w` -/
def C22.exTry : Op := { cwd := ["w"], base := none, acts := [.tryUse [".", "a"]] }
/-- `use ./a; use ./sub/../b` in a script file in `/w` -/
def C22.exUse : Op := { cwd := ["elsewhere"], base := some ["w"], acts := [.use [".", "a"], .use [".", "sub", "..", "b"]] }

/-- `modules[k]` is present iff an evaluation of `k` started and has not failed,
and then holds the namespace of the latest such evaluation. -/
theorem C22_invariant (w : World) (ops : List Op) (k : Key) :
    mget (run w ops).mods k = live (run w ops).log k :=
  (run_inv w ops).coherent k

/-- Every event of every history is justified by the history before it: an
evaluation of `k` starts only when nothing is installed under `k`; every
namespace handed out by `use` (cache hit, completed evaluation, what the
importer received) is the one installed at that moment; an evaluation that
fails was installed and had not completed. -/
theorem C22_history_wf (w : World) (ops : List Op) : WF (run w ops).log :=
  (run_inv w ops).wf

example : (run exW [exTry, exUse]).log.length = 20 := by decide

/-- Each module key is successfully evaluated at most once, however often and
from wherever it is imported. -/
theorem C22_at_most_once (w : World) (ops : List Op) (k : Key) :
    countDone (run w ops).log k ≤ 1 :=
  countDone_le_one (C22_history_wf w ops) k

example : countDone (run exW [exTry, exUse, exUse]).log ["", "w", "a"] = 1 := by decide

/-- No evaluation of `k` starts while a namespace for `k` is installed — be it
completed or still in progress (cycle). -/
theorem C22_no_reevaluation_while_cached (w : World) (ops : List Op) (k : Key) (t : Nat) (l : List Ev)
    (h : (Ev.start k t :: l) <:+ (run w ops).log) : live l k = none :=
  ((C22_history_wf w ops).suffix h).2

/-- Two imports of the same key, in this order, with no failed evaluation of
that key in between, receive the same namespace object — whoever imports,
through whatever spelling of the spec. -/
theorem C22_shared (w : World) (ops : List Op) (k : Key)
    (b1 b2 : Option Nat) (sp1 sp2 : Str) (t1 t2 n1 n2 : Nat) (mid l : List Ev)
    (h : (Ev.got b2 sp2 k t2 n2 :: (mid ++ Ev.got b1 sp1 k t1 n1 :: l)) <:+ (run w ops).log)
    (hnf : ∀ t, Ev.failed k t ∉ mid) : t1 = t2 := by
  have hwf := (C22_history_wf w ops).suffix h
  have h2 : live (mid ++ Ev.got b1 sp1 k t1 n1 :: l) k = some t2 := hwf.2
  have hwf1 : WF (Ev.got b1 sp1 k t1 n1 :: l) := hwf.1.suffix ⟨mid, rfl⟩
  have h1 : live (Ev.got b1 sp1 k t1 n1 :: l) k = some t1 := hwf1.2
  have := live_stable k t1 _ mid hwf.1 hnf h1
  rw [this] at h2
  injection h2

/-- the script's `use ./sub/../b` and module `a`'s `use ./b` received the same namespace #2 -/
example : (Ev.got none [".", "sub", "..", "b"] ["", "w", "b"] 2 0 ::
      ([Ev.hit ["", "w", "b"] 2, Ev.got none [".", "a"] ["", "w", "a"] 3 2, Ev.done ["", "w", "a"] 3, Ev.def_ (some 3)]
        ++ Ev.got (some 3) [".", "b"] ["", "w", "b"] 2 0 :: (run exW [exTry, exUse]).log.drop 6))
      <:+ (run exW [exTry, exUse]).log :=
  ⟨[], by decide⟩

/-- In a history in which no evaluation of `k` fails, `k` is evaluated at most
once altogether and ALL importers receive one and the same namespace. -/
theorem C22_shared_failure_free (w : World) (ops : List Op) (k : Key)
    (hnf : ∀ t, Ev.failed k t ∉ (run w ops).log) :
    countStarts (run w ops).log k ≤ 1 ∧
    ∀ b1 b2 sp1 sp2 t1 t2 n1 n2, Ev.got b1 sp1 k t1 n1 ∈ (run w ops).log →
      Ev.got b2 sp2 k t2 n2 ∈ (run w ops).log → t1 = t2 := by
  refine ⟨countStarts_le_one (C22_history_wf w ops) k hnf, ?_⟩
  intro b1 b2 sp1 sp2 t1 t2 n1 n2 h1 h2
  have a := got_live_final (C22_history_wf w ops) k hnf b1 sp1 t1 n1 h1
  have b := got_live_final (C22_history_wf w ops) k hnf b2 sp2 t2 n2 h2
  rw [a] at b; injection b

/-- no evaluation of `b` fails in the example history (the hypothesis is satisfiable) -/
example : (run exW [exTry, exUse]).log.all (fun e => match e with
    | .failed k _ => decide (k ≠ ["", "w", "b"])
    | _ => true) = true := by decide

/-- While an evaluation of a file is in progress (on the stack of ANY state
reachable by the model), a `use` that resolves to that file returns the
installed, partially initialised namespace at once — a cache hit, no new
evaluation, no recursion. -/
theorem C22_cycle (w : World) (rec : Rec) (s : St) (hs : Steps St.empty s) (p : List Comp) (t : Nat)
    (h : (pathStr p, t) ∈ s.stack) :
    useFromFile w rec s p = (s.emit (.hit (pathStr p) t), .ok (pathStr p) t) := by
  have := (Inv.empty.steps hs).stackIn _ _ h
  unfold useFromFile
  simp [this]

/-- the same for a bundled module that is in progress -/
theorem C22_cycle_bundled (w : World) (cwd : List Comp) (rec : Rec) (cx : Cx) (s : St)
    (hs : Steps St.empty s) (sp : Str) (t : Nat) (hrel : isRel sp = false) (h : (sp, t) ∈ s.stack) :
    useStep w cwd rec cx s sp = (s.emit (.hit sp t), .ok sp t) := by
  have := (Inv.empty.steps hs).stackIn _ _ h
  unfold useStep
  simp [hrel, this]

/-- the importer in a cycle sees the namespace half-way: `b` imported `a` when 1 of `a`'s 2 variables was set -/
example : Ev.got (some 2) [".", "a"] ["", "w", "a"] 1 1 ∈ (run exW [exUse]).log := by decide

/-- When the body of a module fails, `evalModule` leaves its key absent. -/
theorem C22_failed_forgotten (rec : Rec) (key : Key) (base : Option (List Comp)) (body : List Act)
    (s : St) (d : Bool) (c : Cause) (h : (evalModule rec key base body s).2 = .err d c) :
    mget (evalModule rec key base body s).1.mods key = none := by
  obtain ⟨s2, c', _, ⟨_, he⟩ | ⟨_, _, he⟩⟩ := evalModule_cases rec key base body s <;> rw [he] at h ⊢
  · cases h
  · exact mget_mdel_same _ _

/-- A later import of a key that is absent (never loaded, or its evaluation
failed) whose file has code evaluates it again, with a fresh namespace. -/
theorem C22_reevaluated_after_failure (w : World) (rec : Rec) (hrec : RecOK rec) (s : St) (p : List Comp)
    (body : List Act) (habs : mget s.mods (pathStr p) = none) (hf : assoc p w.files = some (.code body)) :
    Ev.start (pathStr p) s.next ∈ (useFromFile w rec s p).1.log := by
  unfold useFromFile
  simp only [habs, hf]
  obtain ⟨s2, c, hb, he⟩ := evalModule_cases rec (pathStr p) (some (dirOf p)) body s
  have hg := runBody_good rec hrec { base := some (dirOf p), tok := some s.next, key := pathStr p } body
    (entered s (pathStr p)) rfl
  rw [hb] at hg
  have hmem : Ev.start (pathStr p) s.next ∈ s2.log := hg.1.log_suffix.subset List.mem_cons_self
  rcases he with ⟨_, he⟩ | ⟨_, _, he⟩ <;> rw [he] <;> exact List.mem_cons_of_mem _ hmem

/-- the failed evaluation #1 of `a` and its re-evaluation #3 -/
example : Ev.failed ["", "w", "a"] 1 ∈ (run exW [exTry, exUse]).log ∧
    Ev.start ["", "w", "a"] 3 ∈ (run exW [exTry, exUse]).log := by decide

/-- Measure: installing the key of a nested evaluation strictly decreases the
number of evaluable keys missing from the cache … -/
theorem C22_measure_decreases (w : World) (s s1 : St) (key : Key) (t : Nat) (hk : key ∈ allKeys w)
    (habs : mget s.mods key = none) (h1 : s1.mods = mset s.mods key t) : missing w s1 < missing w s :=
  missing_lt_of_install w s s1 key t hk habs h1

/-- … and nothing that a `use` does increases it (entries present before a call are present after). -/
theorem C22_measure_monotone (w : World) (cwd : List Comp) (f : Nat) (cx : Cx) (s : St) (sp : Str) :
    missing w (useSpec w cwd f cx s sp).1 ≤ missing w s :=
  missing_le_of_keeps w (useSpec_keeps w cwd f cx s sp)

/-- So `|files with code| + |bundled| + 1` levels of nesting always suffice:
no top-level import, from any state, runs out of fuel — cycles terminate. -/
theorem C22_terminates (w : World) (s : St) (o : Op) : (runOp w s o).2 ≠ some .fuel :=
  runBody_nf w _ (enough w) (useSpec_keeps w o.cwd _) (useSpec_nf w o.cwd _) (topCx o) o.acts s
    (missing_lt_enough w s)

example : (runOp exW (run exW [exTry]) exUse).2 = none := by decide

/-- A relative spec is resolved against the directory of the importing file
if the code is from a file, else against the working directory; the result
(cleaned) is the cache key. -/
theorem C22_relative_resolution (w : World) (cwd : List Comp) (rec : Rec) (cx : Cx) (s : St) (sp : Str)
    (h : isRel sp = true) :
    useStep w cwd rec cx s sp =
      useFromFile w rec s (joinClean (match cx.base with | some d => d | none => cwd) sp) := by
  unfold useStep; rw [if_pos h]; rfl

/-- … in particular code from a file does not depend on the working directory. -/
theorem C22_relative_file_ignores_cwd (w : World) (cwd cwd' : List Comp) (rec : Rec) (cx : Cx) (s : St)
    (sp : Str) (d : List Comp) (h : isRel sp = true) (hb : cx.base = some d) :
    useStep w cwd rec cx s sp = useStep w cwd' rec cx s sp := by
  rw [C22_relative_resolution _ _ _ _ _ _ h, C22_relative_resolution _ _ _ _ _ _ h, hb]

/-- `Clean(dir + "/" + spec)` is the walk from `dir` along the spec (`.` and
empty elements stay, `..` goes to the parent, a name descends), and yields a clean path. -/
theorem C22_relative_is_walk (d : List Comp) (h : ∀ c ∈ d, Plain c) (sp : Str) :
    joinClean d sp = walk d sp ∧ ∀ c ∈ joinClean d sp, Plain c := by
  rw [joinClean_walk d h sp]
  exact ⟨rfl, walk_plain_result sp d h⟩

/-- Different spellings of the same file give the same key. -/
theorem C22_spellings (d : List Comp) (h : ∀ c ∈ d, Plain c) (a x : Comp) (ha : Plain a) (hx : Plain x) :
    joinClean d [".", a] = d ++ [a] ∧
    joinClean d [".", x, "..", a] = d ++ [a] ∧
    joinClean d [".", ".", "", a] = d ++ [a] ∧
    joinClean d ["..", x, "..", a] = d.dropLast ++ [a] := by
  obtain ⟨a1, a2, a3⟩ := ha
  obtain ⟨x1, x2, x3⟩ := hx
  simp only [joinClean_walk d h]
  simp [walk, a1, a2, a3, x1, x2, x3]

example : joinClean ["w"] [".", "sub", "..", "a"] = ["w", "a"] ∧ joinClean ["w", "sub"] ["..", "a"] = ["w", "a"] := by
  decide

/-- Full strength of "all importers see the same namespace" at the level of
states: no completed, cached module holds a namespace that the interpreter
has discarded.  FALSE on the unchanged tree (finding `failed-namespace-retained`). -/
def C22_full_no_stale : Prop := ∀ (w : World) (ops : List Op), ¬ Stale (run w ops).log

/-- Witness: `a` imports `b`, `b` imports `a` (cycle, receives `a`'s namespace
in progress), `b` completes, then `a` fails.  `a` is unloaded, `b` stays cached
holding the discarded namespace; the re-import of `a` makes a second one. -/
theorem C22_counterexample : ¬ C22_full_no_stale := by
  intro h
  apply h exW [exTry, exUse]
  exact ⟨2, [".", "a"], ["", "w", "a"], 1, 1, by decide, ⟨["", "w", "a"], by decide⟩, ⟨["", "w", "b"], by decide⟩⟩

/-- Proved part: in a history without cyclic imports (every `use` hands out a
namespace whose evaluation has completed) no namespace that was ever handed
out is discarded — in particular nothing is stale.  The gap to
`C22_full_no_stale` is exactly the histories with a cyclic import whose outer
evaluation later fails. -/
theorem C22_no_stale_partial (w : World) (ops : List Op) (hac : Acyclic (run w ops).log) :
    (∀ b sp k t n, Ev.got b sp k t n ∈ (run w ops).log → ¬ failedTok (run w ops).log t) ∧
    ¬ Stale (run w ops).log := by
  have key : ∀ b sp k t n, Ev.got b sp k t n ∈ (run w ops).log → ¬ failedTok (run w ops).log t := by
    intro b sp k t n hm ⟨k', hf⟩
    obtain ⟨pre, post, heq⟩ := List.append_of_mem hm
    have hd : Ev.done k t ∈ post := hac b sp k t n post ⟨pre, heq.symm⟩
    have hd' : Ev.done k t ∈ (run w ops).log := by
      rw [heq]; exact List.mem_append_right _ (List.mem_cons_of_mem _ hd)
    exact (run_inv w ops).excl k k' t hd' hf
  refine ⟨key, ?_⟩
  intro ⟨b, sp, k, t, n, hm, hf, _⟩
  exact key _ sp k t n hm hf

example : Acyclic (run exW [{ cwd := ["w"], base := none, acts := [.use ["pre"]] }]).log := by
  intro b sp k t n l h
  have hlog : (run exW [{ cwd := ["w"], base := none, acts := [.use ["pre"]] }]).log =
      [Ev.got none ["pre"] ["pre"] 0 0, .hit ["pre"] 0, .done ["pre"] 0, .start ["pre"] 0] := by decide
  rw [hlog] at h
  rcases List.suffix_cons_iff.mp h with h | h
  · injection h with h1 h2
    injection h1 with _ _ hk ht _
    subst hk; subst ht; subst h2; decide
  · rcases List.suffix_cons_iff.mp h with h | h
    · cases h
    · rcases List.suffix_cons_iff.mp h with h | h
      · cases h
      · rcases List.suffix_cons_iff.mp h with h | h
        · cases h
        · have := List.IsSuffix.length_le h
          simp at this

/-- Top-level code is never affected: whatever a top-level `use` receives is a
completed evaluation, and a completed evaluation is never discarded. -/
theorem C22_top_level_never_stale (w : World) (ops : List Op) (sp : Str) (k : Key) (t n : Nat)
    (h : Ev.got none sp k t n ∈ (run w ops).log) :
    Ev.done k t ∈ (run w ops).log ∧ ¬ failedTok (run w ops).log t := by
  obtain ⟨pre, post, heq⟩ := List.append_of_mem h
  have hd : Ev.done k t ∈ post := (run_inv w ops).topDone sp k t n post ⟨pre, heq.symm⟩
  have hd' : Ev.done k t ∈ (run w ops).log := by
    rw [heq]; exact List.mem_append_right _ (List.mem_cons_of_mem _ hd)
  exact ⟨hd', fun ⟨k', hf⟩ => (run_inv w ops).excl k k' t hd' hf⟩
