/-
Lemma library for the Go-faithful UTF-8 prelude `ElvModel/Go/Utf8.lean`.

`Rune` is an `abbrev` for `Nat`, but `omega` does not see through it; state rune variables as
`(r : Nat)` (as done here) when arithmetic is needed.
-/
import ElvProofs.Lemmas.Utf8.Basic
import ElvProofs.Lemmas.Utf8.Shape
import ElvProofs.Lemmas.Utf8.Runes
import ElvProofs.Lemmas.Utf8.Last
import ElvProofs.Lemmas.Utf8.Ascii
namespace Go

/-! ## Concrete instances: é = U+00E9, 世 = U+4E16, 😀 = U+1F600 -/

example : encodeRune 0xE9 = [0xC3, 0xA9] := by decide
example : encodeRune 0x4E16 = [0xE4, 0xB8, 0x96] := by decide
example : encodeRune 0x1F600 = [0xF0, 0x9F, 0x98, 0x80] := by decide

example : runeLen 0xE9 = some 2 := runeLen_eq_encodeRune_length (r := 0xE9) (by decide)
example : runeLen 0x4E16 = some 3 := runeLen_eq_encodeRune_length (r := 0x4E16) (by decide)
example : runeLen 0x1F600 = some 4 := runeLen_eq_encodeRune_length (r := 0x1F600) (by decide)

example (t : Bytes) : decodeRune ([0xC3, 0xA9] ++ t) = (0xE9, 2) :=
  decodeRune_encodeRune_append 0xE9 (by decide) t
example (t : Bytes) : decodeRune ([0xE4, 0xB8, 0x96] ++ t) = (0x4E16, 3) :=
  decodeRune_encodeRune_append 0x4E16 (by decide) t
example (t : Bytes) : decodeRune ([0xF0, 0x9F, 0x98, 0x80] ++ t) = (0x1F600, 4) :=
  decodeRune_encodeRune_append 0x1F600 (by decide) t

/-- Converse on a concrete string: "世x". -/
example : validRune 0x4E16 = true ∧ ([0xE4, 0xB8, 0x96, 0x78] : Bytes).take 3 = encodeRune 0x4E16 :=
  decodeRune_valid_take (s := [0xE4, 0xB8, 0x96, 0x78]) (r := 0x4E16) (n := 3)
    (decodeRune_encodeRune_append 0x4E16 (by decide) [0x78]) (by simp) (by decide)

example : toRunes (encodeRunes [0xE9, 0x4E16, 0x1F600]) = [0xE9, 0x4E16, 0x1F600] :=
  toRunes_encodeRunes _ (by decide)
example : validUtf8 (encodeRunes [0xE9, 0x4E16, 0x1F600, 0xFFFD]) = true :=
  validUtf8_encodeRunes _

example (t : Bytes) : runes ([0xE4, 0xB8, 0x96] ++ t) = (0, 0x4E16, 3) :: shiftRunes 3 (runes t) :=
  runes_encodeRune_append 0x4E16 (by decide) t
example (t : Bytes) :
    runes ([0xF0, 0x9F, 0x98, 0x80] ++ t) = (0, 0x1F600, 4) :: shiftRunes 4 (runes t) :=
  runes_encodeRune_append 0x1F600 (by decide) t

example : runeStart 0xC3 = true ∧ runeStart 0xA9 = false := by decide
example : ∀ c ∈ (encodeRune 0x1F600).tail, isCont c.toNat = true := encodeRune_tail_isCont _
example : (encodeRune 0xE9).length = 1 ↔ 0xE9 < 0x80 := encodeRune_length_eq_one_iff _

/-- `decodeLastRune` after *any* prefix, even an invalid one (`0xFF`, stray continuation). -/
example (p : Bytes) : decodeLastRune (p ++ [0xC3, 0xA9]) = (0xE9, 2) :=
  decodeLastRune_append_encodeRune (r := 0xE9) (by decide) p
example (p : Bytes) : decodeLastRune (p ++ [0xE4, 0xB8, 0x96]) = (0x4E16, 3) :=
  decodeLastRune_append_encodeRune (r := 0x4E16) (by decide) p
example (p : Bytes) : decodeLastRune (p ++ [0xF0, 0x9F, 0x98, 0x80]) = (0x1F600, 4) :=
  decodeLastRune_append_encodeRune (r := 0x1F600) (by decide) p
example : decodeLastRune ([0xFF, 0x80] ++ [0xE4, 0xB8, 0x96]) = (0x4E16, 3) :=
  decodeLastRune_append_encodeRune (r := 0x4E16) (by decide) [0xFF, 0x80]

end Go
