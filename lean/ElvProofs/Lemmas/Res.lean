/-
The outcome monad `Go.Res` and Go's partial list operations: how `>>=` computes, when it returns
normally and when it cannot panic; `s[i:j]` and `s[i]` on arguments in range, and what a normal
result says about the arguments; the judgement `ROk r Q` (`r` returns normally with a value
satisfying `Q`) with one rule per way of building an `r`.
-/
import ElvModel.Go.Basic
namespace Go
variable {α β : Type}

namespace Res

@[simp] theorem pure_eq_ok (a : α) : (pure a : Res α) = ok a := rfl
@[simp] theorem ok_bind (a : α) (f : α → Res β) : (ok a >>= f) = f a := rfl
@[simp] theorem exc_bind (e : String) (f : α → Res β) : (exc e >>= f) = exc e := rfl
@[simp] theorem panic_bind (w : String) (f : α → Res β) : (panic w >>= f) = panic w := rfl

theorem bind_eq_ok {r : Res α} {f : α → Res β} {b : β} :
    (r >>= f) = ok b ↔ ∃ a, r = ok a ∧ f a = ok b := by
  cases r <;> simp

theorem bind_ne_panic {r : Res α} {f : α → Res β} (hr : ∀ w, r ≠ panic w)
    (hf : ∀ a, r = ok a → ∀ w, f a ≠ panic w) : ∀ w, (r >>= f) ≠ panic w := by
  cases r with
  | ok a => exact hf a rfl
  | exc e => exact fun w => nofun
  | panic w => exact absurd rfl (hr w)

end Res

theorem slice_eq_ok_iff {s x : List α} {i j : Int} :
    slice s i j = .ok x ↔
      0 ≤ i ∧ i ≤ j ∧ j ≤ s.length ∧ x = (s.drop i.toNat).take (j.toNat - i.toNat) := by
  unfold slice
  by_cases h : 0 ≤ i ∧ i ≤ j ∧ j ≤ s.length
  · rw [if_pos h, Res.ok.injEq]
    exact ⟨fun e => ⟨h.1, h.2.1, h.2.2, e.symm⟩, fun e => e.2.2.2.symm⟩
  · rw [if_neg h]
    exact ⟨nofun, fun e => absurd ⟨e.1, e.2.1, e.2.2.1⟩ h⟩

theorem slice_eq_ok (s : List α) {i j : Int} (h0 : 0 ≤ i) (h1 : i ≤ j) (h2 : j ≤ s.length) :
    slice s i j = .ok ((s.drop i.toNat).take (j.toNat - i.toNat)) :=
  if_pos ⟨h0, h1, h2⟩

theorem slice_nat (s : List α) {i j : Nat} (h1 : i ≤ j) (h2 : j ≤ s.length) :
    slice s i j = .ok ((s.drop i).take (j - i)) :=
  slice_eq_ok s (by omega) (by omega) (by omega)

theorem exists_slice_eq_ok (s : List α) (i j : Int) (h0 : 0 ≤ i) (h1 : i ≤ j) (h2 : j ≤ s.length) :
    ∃ x, slice s i j = .ok x ∧ (x.length : Int) = j - i ∧ ∀ a ∈ x, a ∈ s := by
  refine ⟨_, slice_eq_ok s h0 h1 h2, ?_, fun a ha => List.mem_of_mem_drop (List.mem_of_mem_take ha)⟩
  rw [List.length_take, List.length_drop]
  omega

theorem slice_take (s : List α) {j : Int} (h0 : 0 ≤ j) (h1 : j ≤ s.length) :
    slice s 0 j = .ok (s.take j.toNat) :=
  slice_eq_ok s (Int.le_refl 0) h0 h1

theorem slice_drop (s : List α) {i : Int} (h0 : 0 ≤ i) (h1 : i ≤ s.length) :
    slice s i s.length = .ok (s.drop i.toNat) := by
  rw [slice_eq_ok s h0 h1 (Int.le_refl _), List.take_of_length_le (by simp)]

theorem slice_take_nat (s : List α) {n : Nat} (h : n ≤ s.length) : slice s 0 n = .ok (s.take n) :=
  slice_take s (by omega) (by omega)

theorem slice_drop_nat (s : List α) {n : Nat} (h : n ≤ s.length) :
    slice s n s.length = .ok (s.drop n) :=
  slice_drop s (by omega) (by omega)

theorem slice_append_mid (a b c : List α) :
    slice (a ++ b ++ c) a.length (a.length + b.length) = .ok b := by
  rw [slice_eq_ok _ (by omega) (by omega) (by simp only [List.length_append]; omega),
    Int.toNat_natCast, show ((a.length : Int) + b.length).toNat - a.length = b.length by omega,
    List.append_assoc, List.drop_left, List.take_left]

theorem slice_of_append {s a b c : List α} {i j : Int} (hs : s = a ++ b ++ c) (hi : i = a.length)
    (hj : j = a.length + b.length) : slice s i j = .ok b := by
  rw [hs, hi, hj, slice_append_mid]

theorem slice_prefix {s a c : List α} {j : Int} (hs : s = a ++ c) (hj : j = a.length) :
    slice s 0 j = .ok a :=
  slice_of_append (a := []) hs rfl (by rw [hj]; simp)

theorem slice_suffix {s a b : List α} {i j : Int} (hs : s = a ++ b) (hi : i = a.length)
    (hj : j = s.length) : slice s i j = .ok b :=
  slice_of_append (c := []) (by rw [hs, List.append_nil]) hi
    (by rw [hj, hs, List.length_append]; omega)

theorem index_eq_ok_iff {s : List α} {i : Int} {a : α} :
    index s i = .ok a ↔ 0 ≤ i ∧ s[i.toNat]? = some a := by
  unfold index
  by_cases h0 : 0 ≤ i
  · rw [if_pos h0]
    cases s[i.toNat]? <;> simp [h0]
  · simp [h0]

theorem index_nat {s : List α} {i : Nat} {a : α} (h : s[i]? = some a) : index s i = .ok a :=
  index_eq_ok_iff.2 ⟨by omega, h⟩

theorem exists_index_eq_ok (s : List α) (i : Int) (h0 : 0 ≤ i) (h1 : i < s.length) :
    ∃ a, index s i = .ok a ∧ a ∈ s :=
  have h : i.toNat < s.length := by omega
  ⟨s[i.toNat], index_eq_ok_iff.2 ⟨h0, List.getElem?_eq_getElem h⟩, List.getElem_mem h⟩

/-- Total correctness in `Res`: `r` returns normally, and its value satisfies `Q`. -/
def ROk (r : Res α) (Q : α → Prop) : Prop := ∃ a, r = .ok a ∧ Q a

namespace ROk
variable {Q Q' : α → Prop}

theorem pure {a : α} (h : Q a) : ROk (pure a) Q := ⟨a, rfl, h⟩

theorem mono {r : Res α} (h : ROk r Q) (hQ : ∀ a, Q a → Q' a) : ROk r Q' :=
  h.imp fun a ha => ⟨ha.1, hQ a ha.2⟩

theorem bind {r : Res α} {f : α → Res β} {Q2 : β → Prop} (hr : ROk r Q)
    (hf : ∀ a, Q a → ROk (f a) Q2) : ROk (r >>= f) Q2 := by
  obtain ⟨a, rfl, ha⟩ := hr
  exact hf a ha

theorem ite {c : Prop} [Decidable c] {r1 r2 : Res α} (h1 : c → ROk r1 Q) (h2 : ¬c → ROk r2 Q) :
    ROk (if c then r1 else r2) Q :=
  iteInduction (motive := (ROk · Q)) h1 h2

/-- `let x ← if c then r1 else r2` as `do` notation lays it out, the rest of the block in both branches. -/
theorem bind_ite {c : Prop} [Decidable c] {r1 r2 : Res α} {f : α → Res β} {Q2 : β → Prop}
    (hr : ROk (if c then r1 else r2) Q) (hf : ∀ a, Q a → ROk (f a) Q2) :
    ROk (if c then r1 >>= f else r2 >>= f) Q2 :=
  apply_ite (· >>= f) c r1 r2 ▸ hr.bind hf

theorem index {s : List α} {i : Int} (h : 0 ≤ i ∧ i < s.length) : ROk (index s i) (· ∈ s) :=
  exists_index_eq_ok s i h.1 h.2

theorem slice {s : List α} {i j : Int} (h : 0 ≤ i ∧ i ≤ j ∧ j ≤ s.length) :
    ROk (slice s i j) fun x => (x.length : Int) = j - i ∧ ∀ a ∈ x, a ∈ s :=
  exists_slice_eq_ok s i j h.1 h.2.1 h.2.2

end ROk

end Go
