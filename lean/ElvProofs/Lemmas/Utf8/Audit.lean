/- Axiom audit: `lake env lean ElvProofs/Lemmas/Utf8/Audit.lean` must list only propext, Classical.choice, Quot.sound. -/
import ElvProofs.Lemmas.Utf8
#print axioms Go.toNat_ofNat_of_lt
#print axioms Go.byte_toNat_lt
#print axioms Go.isCont_iff
#print axioms Go.isCont_eq_false_iff
#print axioms Go.validRune_iff
#print axioms Go.validRune_RuneError
#print axioms Go.decodeRune_nil
#print axioms Go.decodeRune_one
#print axioms Go.decodeRune_two
#print axioms Go.decodeRune_three
#print axioms Go.decodeRune_four
#print axioms Go.decodeRune_cont
#print axioms Go.decodeRune_case
#print axioms Go.decodeRune_case_of_eq
#print axioms Go.DecodeCase.size_le
#print axioms Go.DecodeCase.size_pos
#print axioms Go.DecodeCase.size_le_four
#print axioms Go.decodeRune_size_le
#print axioms Go.decodeRune_size_pos
#print axioms Go.decodeRune_size_le_four
#print axioms Go.decodeRune_size_eq_zero_iff
#print axioms Go.DecodeCase.rune_le
#print axioms Go.decodeRune_rune_le
#print axioms Go.encodeRune_one
#print axioms Go.encodeRune_two
#print axioms Go.encodeRune_three
#print axioms Go.encodeRune_four
#print axioms Go.encodeRune_invalid
#print axioms Go.encodeRune_RuneError
#print axioms Go.encodeRune_invalid_eq
#print axioms Go.encodeRune_length
#print axioms Go.encodeRune_length_pos
#print axioms Go.encodeRune_length_le_four
#print axioms Go.encodeRune_ne_nil
#print axioms Go.runeLen_eq_encodeRune_length
#print axioms Go.runeLen_eq_none_iff
#print axioms Go.Enc.decode
#print axioms Go.encodeRune_enc
#print axioms Go.decodeRune_encodeRune_append
#print axioms Go.decodeRune_encodeRune
#print axioms Go.decodeRune_encodeRune_append_any
#print axioms Go.DecodeCase.valid_take
#print axioms Go.decodeRune_valid_take
#print axioms Go.decodeRune_eq_encodeRune_append
#print axioms Go.decodeRune_validRune
#print axioms Go.encodeRune_shape
#print axioms Go.encodeRune_shape'
#print axioms Go.runeStart_iff
#print axioms Go.runeStart_eq_false_iff
#print axioms Go.encodeRune_eq_cons
#print axioms Go.encodeRune_head_runeStart
#print axioms Go.encodeRune_head?_runeStart
#print axioms Go.encodeRune_tail_isCont
#print axioms Go.encodeRune_tail_not_runeStart
#print axioms Go.encodeRune_getElem_isCont
#print axioms Go.encodeRune_length_eq_one_iff
#print axioms Go.encodeRune_ascii_iff
#print axioms Go.encodeRune_ascii
#print axioms Go.encodeRune_bytes_ge
#print axioms Go.encodeRune_getLast?
#print axioms Go.shiftRunes_nil
#print axioms Go.shiftRunes_cons
#print axioms Go.shiftRunes_zero
#print axioms Go.shiftRunes_shiftRunes
#print axioms Go.length_shiftRunes
#print axioms Go.shiftRunes_append
#print axioms Go.map_rune_shiftRunes
#print axioms Go.map_size_shiftRunes
#print axioms Go.mem_shiftRunes
#print axioms Go.runesFrom_nil
#print axioms Go.runesFrom_cons
#print axioms Go.runesFrom_fuel_irrel
#print axioms Go.runesFrom_off
#print axioms Go.runes_nil
#print axioms Go.runes_of_ne_nil
#print axioms Go.runes_eq_of_decodeRune
#print axioms Go.runes_induction
#print axioms Go.runes_encodeRune_append
#print axioms Go.runes_append_encode
#print axioms Go.runes_encodeRune_append_any
#print axioms Go.runes_mem
#print axioms Go.runes_mem'
#print axioms Go.runes_sizes_sum
#print axioms Go.runes_offset_eq
#print axioms Go.runes_pairwise
#print axioms Go.runes_offsets_increasing
#print axioms Go.runes_length_le
#print axioms Go.runes_eq_nil_iff
#print axioms Go.toRunes_nil
#print axioms Go.validUtf8_nil
#print axioms Go.encodeRunes_nil
#print axioms Go.encodeRunes_cons
#print axioms Go.encodeRunes_append
#print axioms Go.toRunes_of_ne_nil
#print axioms Go.validUtf8_shiftRunes
#print axioms Go.validUtf8_of_ne_nil
#print axioms Go.toRunes_length_le
#print axioms Go.toRunes_validRune
#print axioms Go.toRunes_encodeRune_append
#print axioms Go.validUtf8_encodeRune_append
#print axioms Go.toRunes_encodeRunes_append
#print axioms Go.toRunes_encodeRunes
#print axioms Go.validUtf8_encodeRunes_append
#print axioms Go.validUtf8_encodeRunes
#print axioms Go.validUtf8_encodeRunes'
#print axioms Go.encodeRunes_toRunes
#print axioms Go.validUtf8_iff_exists_encodeRunes
#print axioms Go.validUtf8_append
#print axioms Go.toRunes_append
#print axioms Go.back_zero
#print axioms Go.back_lt_lim
#print axioms Go.back_hit
#print axioms Go.back_skip
#print axioms Go.decodeLastRune_nil
#print axioms Go.decodeLastRune_append_ascii
#print axioms Go.decodeLastRune_of_back
#print axioms Go.back_scan
#print axioms Go.decodeLastRune_append_start_conts
#print axioms Go.decodeLastRune_append_encodeRune
#print axioms Go.decodeLastRune_append_encodeRune_any
#print axioms Go.decodeLastRune_encodeRune
#print axioms Go.back_le
#print axioms Go.decodeLastRune_size
#print axioms Go.decodeLastRune_size_le_four
#print axioms Go.decodeLastRune_size_le
#print axioms Go.decodeLastRune_size_pos
#print axioms Go.decodeLastRune_encodeRunes_concat
#print axioms Go.decodeLastRune_of_validUtf8
