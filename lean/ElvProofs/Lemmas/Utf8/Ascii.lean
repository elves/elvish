/-
Bytes below 0x80 stand for themselves: what `decodeRune`, `encodeRune` and `validUtf8` do with them.
-/
import ElvProofs.Lemmas.Utf8.Shape
import ElvProofs.Lemmas.Utf8.Runes
namespace Go

theorem encodeRune_toNat_ascii {c : UInt8} (h : c.toNat < 0x80) : encodeRune c.toNat = [c] := by
  rw [encodeRune_one h, UInt8.ofNat_toNat]

theorem decodeRune_fst_eq_ascii {b c : UInt8} (t : Bytes) (hc : c.toNat < 0x80) :
    (decodeRune (b :: t)).1 = c.toNat ↔ b = c := by
  constructor
  · intro h
    have hb := (decodeRune_ascii b t (by rw [h]; exact hc)).1
    exact UInt8.toNat_inj.1 (hb.symm.trans h)
  · rintro rfl
    rw [decodeRune_one _ _ hc]

theorem encodeRune_mem_ascii {r : Nat} {x : UInt8} (hx : x ∈ encodeRune r) (h : x.toNat < 0x80) :
    x.toNat = r := by
  by_cases hr : r < 0x80
  · obtain ⟨he, hn⟩ := encodeRune_ascii hr
    rw [he, List.mem_singleton] at hx
    rw [hx, hn]
  · have := encodeRune_bytes_ge (Nat.le_of_not_lt hr) x hx
    omega

theorem encodeRune_ne_ascii {c : UInt8} (hc : c.toNat < 0x80) {r : Nat} (hr : r ≠ c.toNat) :
    ∀ b ∈ encodeRune r, b ≠ c :=
  fun _ hb e => hr (encodeRune_mem_ascii (e ▸ hb) hc).symm

theorem validUtf8_cons_ascii {b : UInt8} (t : Bytes) (hb : b.toNat < 0x80) :
    validUtf8 (b :: t) = validUtf8 t := by
  rw [validUtf8_of_ne_nil (List.cons_ne_nil b t), decodeRune_one b t hb]
  have : (b.toNat == RuneError) = false := beq_false_of_ne (by unfold RuneError; omega)
  simp [this]

end Go
