/-
`decodeLastRune` returns the last rune of a text that ends in a complete encoding, whatever
stands before it.
-/
import ElvProofs.Lemmas.Utf8.Shape
import ElvProofs.Lemmas.Utf8.Runes
namespace Go

theorem back_zero (s : Bytes) (lim : Nat) (start : Int) :
    decodeLastRune.back s lim 0 start = start := by
  rw [decodeLastRune.back]

theorem back_lt_lim (s : Bytes) (lim fuel : Nat) (start : Int) (h : start < (lim : Int)) :
    decodeLastRune.back s lim fuel start = start := by
  cases fuel with
  | zero => exact back_zero ..
  | succ f => rw [decodeLastRune.back]; simp [h]

theorem back_hit (s : Bytes) (lim fuel : Nat) (start : Int) (b : UInt8)
    (hb : s[start.toNat]? = some b) (hs : runeStart b = true) :
    decodeLastRune.back s lim (fuel + 1) start = start := by
  rw [decodeLastRune.back]
  by_cases h : start < (lim : Int)
  · simp [h]
  · simp [h, hb, hs]

theorem back_skip (s : Bytes) (lim fuel : Nat) (start : Int) (b : UInt8)
    (hl : ¬ start < (lim : Int)) (hb : s[start.toNat]? = some b) (hs : runeStart b = false) :
    decodeLastRune.back s lim (fuel + 1) start = decodeLastRune.back s lim fuel (start - 1) := by
  rw [decodeLastRune.back]
  simp [hl, hb, hs]

theorem decodeLastRune_nil : decodeLastRune [] = (RuneError, 0) := by
  simp [decodeLastRune]

theorem decodeLastRune_append_ascii (p : Bytes) (b : UInt8) (h : b.toNat < 0x80) :
    decodeLastRune (p ++ [b]) = (b.toNat, 1) := by
  simp [decodeLastRune, h]

/-- Unfolding of `decodeLastRune` in the multi-byte branch once the scan result is known. -/
theorem decodeLastRune_of_back (s : Bytes) (last : UInt8) (start : Nat)
    (hlast : s[s.length - 1]? = some last) (hge : ¬ last.toNat < 0x80)
    (hback : decodeLastRune.back s (s.length - 4) 4 ((s.length : Int) - 2) = (start : Int)) :
    decodeLastRune s =
      if start + (decodeRune (s.drop start)).2 ≠ s.length then (RuneError, 1)
      else decodeRune (s.drop start) := by
  have hne : s.length ≠ 0 := by
    intro h0
    have : s = [] := List.eq_nil_of_length_eq_zero h0
    subst this; simp at hlast
  unfold decodeLastRune
  have hs : ¬ ((start : Int) < 0) := by omega
  simp only [hne, if_false, hlast, hge, UTFMax, hback]
  simp [hs]

theorem back_scan (s : Bytes) (lim k : Nat) (b0 : UInt8) (hk : s[k]? = some b0)
    (hb0 : runeStart b0 = true) (hlim : lim ≤ k) :
    ∀ (j fuel : Nat), j < fuel →
      (∀ i, 1 ≤ i → i ≤ j → ∃ c, s[k + i]? = some c ∧ runeStart c = false) →
      decodeLastRune.back s lim fuel ((k + j : Nat) : Int) = (k : Int) := by
  intro j
  induction j with
  | zero =>
    intro fuel hf _
    match fuel, hf with
    | f + 1, _ => exact back_hit s lim f _ b0 (by simpa using hk) hb0
  | succ j ih =>
    intro fuel hf hc
    match fuel, hf with
    | f + 1, hf =>
      obtain ⟨c, hc1, hc2⟩ := hc (j + 1) (by omega) (by omega)
      rw [back_skip s lim f _ c (by omega) (by rw [Int.toNat_natCast]; exact hc1) hc2]
      have : (((k + (j + 1) : Nat) : Int) - 1) = ((k + j : Nat) : Int) := by omega
      rw [this]
      exact ih f (by omega) (fun i h1 h2 => hc i h1 (by omega))

/-- If `s = p ++ b0 :: cs` ends in a rune start followed by `1 ≤ |cs| ≤ 3` continuation bytes,
then `decodeLastRune` decodes `b0 :: cs` and checks that it is consumed entirely, whatever `p`. -/
theorem decodeLastRune_append_start_conts (p : Bytes) (b0 : UInt8) (cs : Bytes)
    (hb0 : runeStart b0 = true) (hcs : ∀ c ∈ cs, isCont c.toNat = true)
    (hne : cs ≠ []) (hlen : cs.length ≤ 3) :
    decodeLastRune (p ++ b0 :: cs) =
      if (decodeRune (b0 :: cs)).2 ≠ cs.length + 1 then (RuneError, 1)
      else decodeRune (b0 :: cs) := by
  have hpos : 0 < cs.length := List.length_pos_iff.2 hne
  have hL : (p ++ b0 :: cs).length = p.length + cs.length + 1 := by
    simp only [List.length_append, List.length_cons]; omega
  have hlast : (p ++ b0 :: cs)[(p ++ b0 :: cs).length - 1]? = some (cs.getLast hne) := by
    rw [hL, List.getElem?_append_right (by omega)]
    have : p.length + cs.length + 1 - 1 - p.length = (cs.length - 1) + 1 := by omega
    rw [this, List.getElem?_cons_succ, List.getLast_eq_getElem, List.getElem?_eq_getElem]
  have hge : ¬ (cs.getLast hne).toNat < 0x80 := by
    have := isCont_iff.1 (hcs _ (List.getLast_mem hne)); omega
  have hback : decodeLastRune.back (p ++ b0 :: cs) ((p ++ b0 :: cs).length - 4) 4
      (((p ++ b0 :: cs).length : Int) - 2) = (p.length : Int) := by
    have e1 : (((p ++ b0 :: cs).length : Int) - 2) = ((p.length + (cs.length - 1) : Nat) : Int) := by
      rw [hL]; omega
    rw [e1]
    apply back_scan _ _ _ b0 (by simp) hb0 (by rw [hL]; omega) _ _ (by omega)
    intro i h1 h2
    have hi : i - 1 < cs.length := by omega
    refine ⟨cs[i - 1], ?_, ?_⟩
    · rw [List.getElem?_append_right (by omega)]
      have : p.length + i - p.length = (i - 1) + 1 := by omega
      rw [this, List.getElem?_cons_succ, List.getElem?_eq_getElem]
    · simp [runeStart, hcs _ (List.getElem_mem hi)]
  rw [decodeLastRune_of_back _ _ _ hlast hge hback, List.drop_left, hL]
  have : (p.length + (decodeRune (b0 :: cs)).2 ≠ p.length + cs.length + 1) ↔
      ((decodeRune (b0 :: cs)).2 ≠ cs.length + 1) := by omega
  simp only [this]

/-- For *any* prefix `p` (valid UTF-8 or not): the backward scan stops at the start byte of
`encodeRune r`, because it is the first non-continuation byte met and lies within `UTFMax` bytes
of the end. -/
theorem decodeLastRune_append_encodeRune {r : Nat} (h : validRune r = true) (p : Bytes) :
    decodeLastRune (p ++ encodeRune r) = (r, (encodeRune r).length) := by
  by_cases c1 : r < 0x80
  · obtain ⟨e, hb⟩ := encodeRune_ascii c1
    rw [e, decodeLastRune_append_ascii p _ (by omega), hb]; rfl
  · obtain ⟨b, cs, e, hb, hcs, hlen⟩ := encodeRune_eq_cons r
    have hne : cs ≠ [] := by
      intro h0
      have := (encodeRune_length_eq_one_iff r).1 (by rw [e, h0]; rfl)
      exact c1 this
    have hd := decodeRune_encodeRune r h
    rw [e] at hd ⊢
    rw [decodeLastRune_append_start_conts p b cs hb hcs hne hlen, hd]
    simp

/-- Invalid `r` read back as U+FFFD, size 3. -/
theorem decodeLastRune_append_encodeRune_any (r : Nat) (p : Bytes) :
    decodeLastRune (p ++ encodeRune r) =
      ((if validRune r then r else RuneError), (encodeRune r).length) := by
  by_cases h : validRune r = true
  · simp [h, decodeLastRune_append_encodeRune h p]
  · have h' : validRune r = false := by simpa using h
    rw [encodeRune_invalid_eq h', decodeLastRune_append_encodeRune validRune_RuneError p]
    simp [h']

theorem decodeLastRune_encodeRune {r : Nat} (h : validRune r = true) :
    decodeLastRune (encodeRune r) = (r, (encodeRune r).length) := by
  simpa using decodeLastRune_append_encodeRune h []

theorem back_le (s : Bytes) (lim : Nat) :
    ∀ (fuel : Nat) (start : Int), decodeLastRune.back s lim fuel start ≤ start := by
  intro fuel
  induction fuel with
  | zero => intro st; rw [back_zero]; exact Int.le_refl _
  | succ f ih =>
    intro st
    rw [decodeLastRune.back]
    split
    · exact Int.le_refl _
    · split
      · split
        · exact Int.le_refl _
        · have := ih (st - 1); omega
      · exact Int.le_refl _

theorem decodeLastRune_cases (s : Bytes) (hne : s ≠ []) :
    decodeLastRune s = (RuneError, 1) ∨
      ∃ start, start < s.length ∧ start + (decodeLastRune s).2 = s.length ∧
        decodeRune (s.drop start) = decodeLastRune s := by
  have hlen : s.length ≠ 0 := by intro h; exact hne (List.length_eq_zero_iff.mp h)
  unfold decodeLastRune
  simp only [hlen, if_false]
  have hlt : s.length - 1 < s.length := by omega
  have hget : s[s.length - 1]? = some s[s.length - 1] := List.getElem?_eq_getElem hlt
  rw [hget]
  simp only
  by_cases hascii : s[s.length - 1].toNat < 128
  · rw [if_pos hascii]
    right
    refine ⟨s.length - 1, hlt, by simp; omega, ?_⟩
    have hd : s.drop (s.length - 1) = [s[s.length - 1]] := by
      rw [List.drop_eq_getElem_cons hlt]
      have : s.length - 1 + 1 = s.length := by omega
      rw [this, List.drop_length]
    rw [hd, decodeRune_one _ _ hascii]
  · rw [if_neg hascii]
    have hb := back_le s (s.length - UTFMax) 4 (↑s.length - 2)
    have hst : (if decodeLastRune.back s (s.length - UTFMax) 4 (↑s.length - 2) < 0 then 0
      else (decodeLastRune.back s (s.length - UTFMax) 4 (↑s.length - 2)).toNat) < s.length := by
      split <;> omega
    revert hst
    generalize (if decodeLastRune.back s (s.length - UTFMax) 4 (↑s.length - 2) < 0 then 0
      else (decodeLastRune.back s (s.length - UTFMax) 4 (↑s.length - 2)).toNat) = start
    intro hst
    cases hd : decodeRune (List.drop start s) with
    | mk r size =>
      simp only
      by_cases hs : start + size ≠ s.length
      · rw [if_pos hs]; left; rfl
      · rw [if_neg hs]; right
        exact ⟨start, hst, by simp at hs ⊢; exact hs, hd⟩

theorem decodeLastRune_size (s : Bytes) :
    (decodeLastRune s).2 ≤ 4 ∧ (decodeLastRune s).2 ≤ s.length ∧
      (s ≠ [] → 0 < (decodeLastRune s).2) := by
  by_cases hs : s = []
  · subst hs; simp [decodeLastRune]
  have hpos : 0 < s.length := List.length_pos_iff.2 hs
  rcases decodeLastRune_cases s hs with e | ⟨start, hlt, hsum, e⟩
  · rw [e]; exact ⟨by decide, hpos, fun _ => by decide⟩
  · have hd : s.drop start ≠ [] := by
      intro h; have := congrArg List.length h; simp at this; omega
    rw [← e] at hsum ⊢
    exact ⟨decodeRune_size_le_four _, by omega, fun _ => decodeRune_size_pos hd⟩

theorem decodeLastRune_size_le_four (s : Bytes) : (decodeLastRune s).2 ≤ 4 :=
  (decodeLastRune_size s).1

theorem decodeLastRune_size_le (s : Bytes) : (decodeLastRune s).2 ≤ s.length :=
  (decodeLastRune_size s).2.1

theorem decodeLastRune_size_pos {s : Bytes} (h : s ≠ []) : 0 < (decodeLastRune s).2 :=
  (decodeLastRune_size s).2.2 h

theorem decodeLastRune_encodeRunes_concat (rs : List Rune) {r : Nat} (h : validRune r = true) :
    decodeLastRune (encodeRunes (rs ++ [r])) = (r, (encodeRune r).length) := by
  rw [encodeRunes_append]
  simpa using decodeLastRune_append_encodeRune h (encodeRunes rs)

theorem decodeLastRune_of_validUtf8 {s : Bytes} (h : validUtf8 s = true) (hs : s ≠ []) :
    ∃ p r, s = p ++ encodeRune r ∧ validRune r = true ∧ validUtf8 p = true ∧
      toRunes s = toRunes p ++ [r] ∧ decodeLastRune s = (r, (encodeRune r).length) := by
  have e := encodeRunes_toRunes h
  have hv := toRunes_validRune s
  have hne : toRunes s ≠ [] := by
    intro h0; rw [h0] at e; exact hs e.symm
  obtain ⟨rs, r, hr⟩ : ∃ rs r, toRunes s = rs ++ [r] :=
    ⟨_, _, (List.dropLast_concat_getLast hne).symm⟩
  have hvr : validRune r = true := hv r (by rw [hr]; simp)
  have hvrs : ∀ x ∈ rs, validRune x = true := fun x hx => hv x (by rw [hr]; simp [hx])
  have es : s = encodeRunes rs ++ encodeRune r := by
    rw [← e, hr, encodeRunes_append]; simp
  refine ⟨encodeRunes rs, r, es, hvr, validUtf8_encodeRunes rs, ?_, ?_⟩
  · rw [toRunes_encodeRunes rs hvrs]; exact hr
  · rw [es]; exact decodeLastRune_append_encodeRune hvr _

end Go
