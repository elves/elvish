/-
`runes` (the `for i, r := range s` iteration) tiles the string; `toRunes`, `validUtf8` and
`encodeRunes` round trips.
-/
import ElvProofs.Lemmas.Utf8.Basic
namespace Go

def shiftRunes (k : Nat) (l : List (Nat × Rune × Nat)) : List (Nat × Rune × Nat) :=
  l.map fun x => (k + x.1, x.2)

@[simp] theorem shiftRunes_nil (k : Nat) : shiftRunes k [] = [] := rfl
@[simp] theorem shiftRunes_cons (k : Nat) (x) (l) :
    shiftRunes k (x :: l) = (k + x.1, x.2) :: shiftRunes k l := rfl
@[simp] theorem shiftRunes_zero (l) : shiftRunes 0 l = l := by
  simp [shiftRunes]
theorem shiftRunes_shiftRunes (a b : Nat) (l) :
    shiftRunes a (shiftRunes b l) = shiftRunes (a + b) l := by
  simp [shiftRunes, Nat.add_assoc]
@[simp] theorem length_shiftRunes (k l) : (shiftRunes k l).length = l.length := by
  simp [shiftRunes]
@[simp] theorem shiftRunes_append (k l₁ l₂) :
    shiftRunes k (l₁ ++ l₂) = shiftRunes k l₁ ++ shiftRunes k l₂ := by
  simp [shiftRunes]
theorem map_rune_shiftRunes (k l) : (shiftRunes k l).map (·.2.1) = l.map (·.2.1) := by
  simp [shiftRunes, Function.comp_def]
theorem map_size_shiftRunes (k l) : (shiftRunes k l).map (·.2.2) = l.map (·.2.2) := by
  simp [shiftRunes, Function.comp_def]
theorem mem_shiftRunes {k l} {x : Nat × Rune × Nat} :
    x ∈ shiftRunes k l ↔ ∃ y ∈ l, x = (k + y.1, y.2) := by
  simp [shiftRunes, eq_comm]

@[simp] theorem runesFrom_nil (fuel off : Nat) : runesFrom fuel off [] = [] := by
  cases fuel <;> rfl

theorem runesFrom_cons (fuel off : Nat) (b : UInt8) (t : Bytes) :
    runesFrom (fuel + 1) off (b :: t) =
      (off, (decodeRune (b :: t)).1, (decodeRune (b :: t)).2) ::
        runesFrom fuel (off + (decodeRune (b :: t)).2)
          ((b :: t).drop (decodeRune (b :: t)).2) := by
  rw [runesFrom]

theorem runesFrom_fuel_irrel (f1 f2 off : Nat) (s : Bytes) (h1 : s.length ≤ f1)
    (h2 : s.length ≤ f2) : runesFrom f1 off s = runesFrom f2 off s := by
  induction f1 generalizing f2 off s with
  | zero =>
    have : s = [] := List.eq_nil_of_length_eq_zero (by omega)
    subst this; simp
  | succ f1 ih =>
    match s, f2 with
    | [], _ => simp
    | b :: t, 0 => simp at h2
    | b :: t, f2 + 1 =>
      rw [runesFrom_cons, runesFrom_cons]
      have hp := decodeRune_size_pos (s := b :: t) (by simp)
      congr 1
      apply ih
      · simp only [List.length_drop, List.length_cons] at h1 ⊢; omega
      · simp only [List.length_drop, List.length_cons] at h2 ⊢; omega

theorem runesFrom_off (fuel off : Nat) (s : Bytes) :
    runesFrom fuel off s = shiftRunes off (runesFrom fuel 0 s) := by
  induction fuel generalizing off s with
  | zero => simp [runesFrom]
  | succ f ih =>
    match s with
    | [] => simp
    | b :: t =>
      rw [runesFrom_cons, runesFrom_cons, ih, ih (0 + _)]
      simp [shiftRunes_shiftRunes]

@[simp] theorem runes_nil : runes [] = [] := rfl

theorem runes_of_ne_nil {s : Bytes} (h : s ≠ []) :
    runes s = (0, (decodeRune s).1, (decodeRune s).2) ::
      shiftRunes (decodeRune s).2 (runes (s.drop (decodeRune s).2)) := by
  match s, h with
  | b :: t, _ =>
    have hp := decodeRune_size_pos (s := b :: t) (by simp)
    unfold runes
    rw [List.length_cons, runesFrom_cons, runesFrom_off, Nat.zero_add]
    congr 2
    apply runesFrom_fuel_irrel
    · simp only [List.length_drop, List.length_cons]; omega
    · exact Nat.le_refl _

theorem runes_eq_of_decodeRune {s : Bytes} {r n : Nat} (hs : s ≠ []) (h : decodeRune s = (r, n)) :
    runes s = (0, r, n) :: shiftRunes n (runes (s.drop n)) := by
  rw [runes_of_ne_nil hs, h]

/-- Induction principle following the `for i, r := range s` iteration. -/
theorem runes_induction {P : Bytes → Prop} (nil : P [])
    (step : ∀ s, s ≠ [] → P (s.drop (decodeRune s).2) → P s) : ∀ s, P s := by
  intro s
  generalize hn : s.length = n
  induction n using Nat.strongRecOn generalizing s with
  | _ n ih =>
    by_cases hs : s = []
    · subst hs; exact nil
    · apply step s hs
      have hp := decodeRune_size_pos hs
      have hl : s.length ≠ 0 := by
        intro h0; exact hs (List.eq_nil_of_length_eq_zero h0)
      exact ih (s.drop (decodeRune s).2).length (by rw [List.length_drop]; omega) _ rfl

theorem runes_encodeRune_append (r : Nat) (h : validRune r = true) (t : Bytes) :
    runes (encodeRune r ++ t) =
      (0, r, (encodeRune r).length) :: shiftRunes (encodeRune r).length (runes t) := by
  have hne : encodeRune r ++ t ≠ [] := by simp [encodeRune_ne_nil r]
  rw [runes_eq_of_decodeRune hne (decodeRune_encodeRune_append r h t), List.drop_left]

/-- Alias of `runes_encodeRune_append`. -/
theorem runes_append_encode (r : Nat) (h : validRune r = true) (t : Bytes) :
    runes (encodeRune r ++ t) =
      (0, r, (encodeRune r).length) :: shiftRunes (encodeRune r).length (runes t) :=
  runes_encodeRune_append r h t

/-- Invalid `r` show up as U+FFFD of size 3. -/
theorem runes_encodeRune_append_any (r : Nat) (t : Bytes) :
    runes (encodeRune r ++ t) =
      (0, (if validRune r then r else RuneError), (encodeRune r).length) ::
        shiftRunes (encodeRune r).length (runes t) := by
  have hne : encodeRune r ++ t ≠ [] := by simp [encodeRune_ne_nil r]
  rw [runes_eq_of_decodeRune hne (decodeRune_encodeRune_append_any r t), List.drop_left]

theorem runes_mem {s : Bytes} {x : Nat × Rune × Nat} (hx : x ∈ runes s) :
    decodeRune (s.drop x.1) = (x.2.1, x.2.2) ∧ x.1 < s.length ∧ x.1 + x.2.2 ≤ s.length ∧
      0 < x.2.2 := by
  induction s using runes_induction generalizing x with
  | nil => simp at hx
  | step s hs ih =>
    have hp := decodeRune_size_pos hs
    have hle := decodeRune_size_le s
    have hl : 0 < s.length := List.length_pos_iff.2 hs
    rw [runes_of_ne_nil hs, List.mem_cons] at hx
    rcases hx with rfl | hx
    · exact ⟨by simp, hl, by simp only; omega, hp⟩
    · obtain ⟨y, hy, rfl⟩ := mem_shiftRunes.1 hx
      obtain ⟨h1, h2, h3, h4⟩ := ih hy
      rw [List.length_drop] at h2 h3
      refine ⟨?_, by simp only; omega, by simp only; omega, h4⟩
      simp only
      rw [← h1, List.drop_drop]

theorem runes_mem' {s : Bytes} {off r n : Nat} (hx : (off, r, n) ∈ runes s) :
    decodeRune (s.drop off) = (r, n) ∧ off < s.length ∧ off + n ≤ s.length ∧ 0 < n :=
  runes_mem hx

theorem runes_sizes_sum (s : Bytes) : ((runes s).map (·.2.2)).sum = s.length := by
  induction s using runes_induction with
  | nil => rfl
  | step s hs ih =>
    have hle := decodeRune_size_le s
    rw [runes_of_ne_nil hs, List.map_cons, List.sum_cons, map_size_shiftRunes, ih,
      List.length_drop]
    simp only; omega

theorem runes_offset_eq (s : Bytes) (i : Nat) (h : i < (runes s).length) :
    ((runes s)[i]).1 = (((runes s).take i).map (·.2.2)).sum := by
  induction s using runes_induction generalizing i with
  | nil => simp at h
  | step s hs ih =>
    have e := runes_of_ne_nil hs
    revert h
    rw [e]
    intro h
    match i with
    | 0 => simp
    | j + 1 =>
      simp only [List.getElem_cons_succ, List.take_succ_cons, List.map_cons, List.sum_cons]
      simp only [List.length_cons, length_shiftRunes] at h
      have hj : j < (runes (s.drop (decodeRune s).2)).length := by omega
      have := ih j hj
      simp only [shiftRunes, List.getElem_map, List.map_take, List.map_map]
      rw [this]
      simp [Function.comp_def, List.map_take]

theorem runes_pairwise (s : Bytes) :
    (runes s).Pairwise (fun a b => a.1 + a.2.2 ≤ b.1) := by
  induction s using runes_induction with
  | nil => simp
  | step s hs ih =>
    rw [runes_of_ne_nil hs, List.pairwise_cons]
    refine ⟨?_, ?_⟩
    · intro b hb
      obtain ⟨y, -, rfl⟩ := mem_shiftRunes.1 hb
      simp
    · unfold shiftRunes
      rw [List.pairwise_map]
      exact ih.imp (by intro a b h; simp only; omega)

theorem runes_offsets_increasing (s : Bytes) : (runes s).Pairwise (fun a b => a.1 < b.1) := by
  have h := runes_pairwise s
  have hm : ∀ x ∈ runes s, 0 < x.2.2 := fun x hx => (runes_mem hx).2.2.2
  revert hm h
  generalize runes s = l
  intro h hm
  induction h with
  | nil => exact .nil
  | cons hab _ ih =>
    refine .cons ?_ (ih fun x hx => hm x (List.mem_cons_of_mem _ hx))
    intro b hb
    have := hab b hb
    have := hm _ (List.mem_cons_self)
    omega

theorem runes_length_le (s : Bytes) : (runes s).length ≤ s.length := by
  have h := runes_sizes_sum s
  have hm : ∀ x ∈ runes s, 0 < x.2.2 := fun x hx => (runes_mem hx).2.2.2
  revert hm h
  generalize runes s = l
  generalize s.length = n
  intro h hm
  induction l generalizing n with
  | nil => simp
  | cons a l ih =>
    simp only [List.map_cons, List.sum_cons] at h
    have := hm a List.mem_cons_self
    have := ih _ rfl (fun x hx => hm x (List.mem_cons_of_mem _ hx))
    simp only [List.length_cons]; omega

theorem runes_eq_nil_iff (s : Bytes) : runes s = [] ↔ s = [] := by
  constructor
  · intro h
    by_cases hs : s = []
    · exact hs
    · rw [runes_of_ne_nil hs] at h; simp at h
  · rintro rfl; rfl

@[simp] theorem toRunes_nil : toRunes [] = [] := rfl
@[simp] theorem validUtf8_nil : validUtf8 [] = true := rfl
@[simp] theorem encodeRunes_nil : encodeRunes [] = [] := rfl
@[simp] theorem encodeRunes_cons (r : Nat) (rs : List Rune) :
    encodeRunes (r :: rs) = encodeRune r ++ encodeRunes rs := rfl
theorem encodeRunes_append (a b : List Rune) :
    encodeRunes (a ++ b) = encodeRunes a ++ encodeRunes b := by
  simp [encodeRunes]

theorem toRunes_of_ne_nil {s : Bytes} (h : s ≠ []) :
    toRunes s = (decodeRune s).1 :: toRunes (s.drop (decodeRune s).2) := by
  unfold toRunes
  rw [runes_of_ne_nil h, List.map_cons, map_rune_shiftRunes]

theorem validUtf8_shiftRunes (k : Nat) (l : List (Nat × Rune × Nat)) :
    ((shiftRunes k l).all fun (_, r, n) => !(r == RuneError && n == 1)) =
      (l.all fun (_, r, n) => !(r == RuneError && n == 1)) := by
  simp [shiftRunes, List.all_map, Function.comp_def]

theorem validUtf8_of_ne_nil {s : Bytes} (h : s ≠ []) :
    validUtf8 s = (!((decodeRune s).1 == RuneError && (decodeRune s).2 == 1) &&
      validUtf8 (s.drop (decodeRune s).2)) := by
  unfold validUtf8
  rw [runes_of_ne_nil h, List.all_cons, validUtf8_shiftRunes]

theorem toRunes_length_le (s : Bytes) : (toRunes s).length ≤ s.length := by
  unfold toRunes; rw [List.length_map]; exact runes_length_le s

theorem toRunes_validRune (s : Bytes) : ∀ r ∈ toRunes s, validRune r = true := by
  induction s using runes_induction with
  | nil => simp
  | step s hs ih =>
    rw [toRunes_of_ne_nil hs]
    intro r hr
    rcases List.mem_cons.1 hr with rfl | hr
    · exact decodeRune_validRune s
    · exact ih r hr

theorem toRunes_encodeRune_append (r : Nat) (h : validRune r = true) (t : Bytes) :
    toRunes (encodeRune r ++ t) = r :: toRunes t := by
  unfold toRunes
  rw [runes_encodeRune_append r h t, List.map_cons, map_rune_shiftRunes]

theorem validUtf8_encodeRune_append (r : Nat) (t : Bytes) :
    validUtf8 (encodeRune r ++ t) = validUtf8 t := by
  unfold validUtf8
  rw [runes_encodeRune_append_any r t, List.all_cons, validUtf8_shiftRunes]
  have h2 : 1 < (encodeRune r).length ∨ (r < 0x80 ∧ validRune r = true) := by
    rw [encodeRune_length]
    by_cases c : r < 0x80
    · exact .inr ⟨c, validRune_iff.2 (by omega)⟩
    · left; simp only [c, if_false]; repeat' split
      all_goals omega
  rcases h2 with h2 | ⟨c, hv⟩
  · have : ((encodeRune r).length == 1) = false := by simp; omega
    simp [this]
  · have : ((if validRune r then r else RuneError) == RuneError) = false := by
      have : r ≠ RuneError := by simp only [RuneError]; omega
      simp [hv, this]
    simp [this]

theorem toRunes_encodeRunes_append (rs : List Rune) (h : ∀ r ∈ rs, validRune r = true)
    (t : Bytes) : toRunes (encodeRunes rs ++ t) = rs ++ toRunes t := by
  induction rs with
  | nil => simp
  | cons r rs ih =>
    rw [encodeRunes_cons, List.append_assoc,
      toRunes_encodeRune_append r (h r List.mem_cons_self),
      ih (fun x hx => h x (List.mem_cons_of_mem _ hx))]
    rfl

theorem toRunes_encodeRunes (rs : List Rune) (h : ∀ r ∈ rs, validRune r = true) :
    toRunes (encodeRunes rs) = rs := by
  simpa using toRunes_encodeRunes_append rs h []

/-- Holds for *any* runes: invalid ones are encoded as U+FFFD (3 bytes), which is valid UTF-8. -/
theorem validUtf8_encodeRunes_append (rs : List Rune) (t : Bytes) :
    validUtf8 (encodeRunes rs ++ t) = validUtf8 t := by
  induction rs with
  | nil => simp
  | cons r rs ih => rw [encodeRunes_cons, List.append_assoc, validUtf8_encodeRune_append, ih]

theorem validUtf8_encodeRunes (rs : List Rune) : validUtf8 (encodeRunes rs) = true := by
  simpa using validUtf8_encodeRunes_append rs []

/-- The hypothesis is not needed; it is there for symmetry with `toRunes_encodeRunes`. -/
theorem validUtf8_encodeRunes' (rs : List Rune) (_h : ∀ r ∈ rs, validRune r = true) :
    validUtf8 (encodeRunes rs) = true := validUtf8_encodeRunes rs

theorem encodeRunes_toRunes {s : Bytes} (h : validUtf8 s = true) : encodeRunes (toRunes s) = s := by
  induction s using runes_induction with
  | nil => rfl
  | step s hs ih =>
    rw [validUtf8_of_ne_nil hs, Bool.and_eq_true] at h
    obtain ⟨h1, h2⟩ := h
    have herr : ¬ ((decodeRune s).1 = RuneError ∧ (decodeRune s).2 = 1) := by
      intro ⟨ha, hb⟩; simp [ha, hb] at h1
    obtain ⟨-, e, -⟩ := decodeRune_eq_encodeRune_append (s := s) rfl hs herr
    rw [toRunes_of_ne_nil hs, encodeRunes_cons, ih h2]
    exact e.symm

theorem validUtf8_iff_exists_encodeRunes (s : Bytes) :
    validUtf8 s = true ↔ ∃ rs, s = encodeRunes rs :=
  ⟨fun h => ⟨_, (encodeRunes_toRunes h).symm⟩, fun ⟨rs, e⟩ => e ▸ validUtf8_encodeRunes rs⟩

theorem validUtf8_append {p : Bytes} (hp : validUtf8 p = true) (q : Bytes) :
    validUtf8 (p ++ q) = validUtf8 q := by
  rw [← encodeRunes_toRunes hp, validUtf8_encodeRunes_append]

theorem toRunes_append {p : Bytes} (hp : validUtf8 p = true) (q : Bytes) :
    toRunes (p ++ q) = toRunes p ++ toRunes q := by
  conv => lhs; rw [← encodeRunes_toRunes hp]
  rw [toRunes_encodeRunes_append _ (toRunes_validRune p)]

end Go
