/-
First-byte / continuation-byte facts about `encodeRune`, and what they say about the bytes
`decodeRune` consumes.
-/
import ElvProofs.Lemmas.Utf8.Basic
namespace Go

/-- Shape of `encodeRune r` for *any* `r` (invalid `r` gives the 3-byte U+FFFD encoding). -/
inductive EncodeShape (r : Nat) : Bytes → Prop
  | one (b0 : UInt8) (h : b0.toNat < 0x80) (hr : b0.toNat = r) : EncodeShape r [b0]
  | two (b0 b1 : UInt8) (h0 : 0xC2 ≤ b0.toNat) (h0' : b0.toNat < 0xE0)
      (h1 : 0x80 ≤ b1.toNat) (h1' : b1.toNat ≤ 0xBF) (hr : 0x80 ≤ r ∧ r < 0x800) :
      EncodeShape r [b0, b1]
  | three (b0 b1 b2 : UInt8) (h0 : 0xE0 ≤ b0.toNat) (h0' : b0.toNat < 0xF0)
      (h1 : 0x80 ≤ b1.toNat) (h1' : b1.toNat ≤ 0xBF)
      (h2 : 0x80 ≤ b2.toNat) (h2' : b2.toNat ≤ 0xBF)
      (hr : 0x800 ≤ r ∧ (r < 0x10000 ∨ validRune r = false)) : EncodeShape r [b0, b1, b2]
  | four (b0 b1 b2 b3 : UInt8) (h0 : 0xF0 ≤ b0.toNat) (h0' : b0.toNat < 0xF5)
      (h1 : 0x80 ≤ b1.toNat) (h1' : b1.toNat ≤ 0xBF)
      (h2 : 0x80 ≤ b2.toNat) (h2' : b2.toNat ≤ 0xBF)
      (h3 : 0x80 ≤ b3.toNat) (h3' : b3.toNat ≤ 0xBF)
      (hr : 0x10000 ≤ r ∧ r ≤ 0x10FFFF) : EncodeShape r [b0, b1, b2, b3]

theorem encodeRune_shape (r : Nat) : EncodeShape r (encodeRune r) := by
  by_cases h : validRune r = true
  · have hv := validRune_iff.1 h
    have he := encodeRune_enc h
    generalize encodeRune r = e at he
    cases he with
    | one b0 h0 hr => exact .one b0 h0 hr.symm
    | two b0 b1 h0 h0' h1 h1' hr => exact .two b0 b1 h0 h0' h1 h1' (by omega)
    | three b0 b1 b2 h0 h0' h1 h1' hlo hhi h2 h2' hr =>
      exact .three b0 b1 b2 h0 h0' h1 h1' h2 h2' ⟨by omega, .inl (by omega)⟩
    | four b0 b1 b2 b3 h0 h0' h1 h1' hlo hhi h2 h2' h3 h3' hr =>
      exact .four b0 b1 b2 b3 h0 h0' h1 h1' h2 h2' h3 h3' (by omega)
  · have h' : validRune r = false := by simpa using h
    have hv : ¬ (r < 0xD800 ∨ (0xDFFF < r ∧ r ≤ 0x10FFFF)) := by rwa [← validRune_iff]
    rw [encodeRune_invalid h']
    exact .three 0xEF 0xBF 0xBD (by decide) (by decide) (by decide) (by decide) (by decide)
      (by decide) ⟨by omega, .inr h'⟩

/-- Form convenient for `obtain ⟨e, he, hs⟩ := …; cases hs`. -/
theorem encodeRune_shape' (r : Nat) : ∃ e, encodeRune r = e ∧ EncodeShape r e :=
  ⟨_, rfl, encodeRune_shape r⟩

theorem runeStart_iff {b : UInt8} : runeStart b = true ↔ b.toNat < 0x80 ∨ 0xBF < b.toNat := by
  simp [runeStart, isCont] <;> omega

theorem runeStart_eq_false_iff {b : UInt8} :
    runeStart b = false ↔ 0x80 ≤ b.toNat ∧ b.toNat ≤ 0xBF := by
  simp [runeStart, isCont]

theorem encodeRune_eq_cons (r : Nat) :
    ∃ b cs, encodeRune r = b :: cs ∧ runeStart b = true ∧
      (∀ c ∈ cs, isCont c.toNat = true) ∧ cs.length ≤ 3 := by
  obtain ⟨e, he, hs⟩ := encodeRune_shape' r
  rw [he]
  cases hs with
  | one b0 h hr => exact ⟨b0, [], rfl, runeStart_iff.2 (.inl h), by simp, by simp⟩
  | two b0 b1 h0 h0' h1 h1' hr =>
    exact ⟨b0, [b1], rfl, runeStart_iff.2 (.inr (by omega)), by simp [isCont, h1, h1'], by simp⟩
  | three b0 b1 b2 h0 h0' h1 h1' h2 h2' hr =>
    exact ⟨b0, [b1, b2], rfl, runeStart_iff.2 (.inr (by omega)),
      by simp [isCont, h1, h1', h2, h2'], by simp⟩
  | four b0 b1 b2 b3 h0 h0' h1 h1' h2 h2' h3 h3' hr =>
    exact ⟨b0, [b1, b2, b3], rfl, runeStart_iff.2 (.inr (by omega)),
      by simp [isCont, h1, h1', h2, h2', h3, h3'], by simp⟩

theorem encodeRune_head_runeStart (r : Nat) :
    runeStart ((encodeRune r).head (encodeRune_ne_nil r)) = true := by
  obtain ⟨b, cs, e, hb, -, -⟩ := encodeRune_eq_cons r
  simp only [e, List.head_cons]; exact hb

theorem encodeRune_head?_runeStart (r : Nat) :
    ∃ b, (encodeRune r).head? = some b ∧ runeStart b = true := by
  obtain ⟨b, cs, e, hb, -, -⟩ := encodeRune_eq_cons r
  exact ⟨b, by simp [e], hb⟩

theorem encodeRune_tail_isCont (r : Nat) : ∀ c ∈ (encodeRune r).tail, isCont c.toNat = true := by
  obtain ⟨b, cs, e, -, hc, -⟩ := encodeRune_eq_cons r
  simpa [e] using hc

theorem encodeRune_tail_not_runeStart (r : Nat) :
    ∀ c ∈ (encodeRune r).tail, runeStart c = false := by
  intro c hc; simp [runeStart, encodeRune_tail_isCont r c hc]

theorem encodeRune_getElem_isCont (r : Nat) (i : Nat) (hi : 0 < i) (h : i < (encodeRune r).length) :
    isCont ((encodeRune r)[i]).toNat = true := by
  apply encodeRune_tail_isCont r
  obtain ⟨b, cs, e, -, -, -⟩ := encodeRune_eq_cons r
  match i, hi with
  | j + 1, _ =>
    simp only [e, List.tail_cons, List.getElem_cons_succ]
    exact List.getElem_mem _

theorem encodeRune_length_eq_one_iff (r : Nat) : (encodeRune r).length = 1 ↔ r < 0x80 := by
  obtain ⟨e, he, hs⟩ := encodeRune_shape' r
  rw [he]
  cases hs <;> simp <;> omega

theorem encodeRune_ascii_iff (r : Nat) (b : UInt8) (hb : (encodeRune r).head? = some b) :
    b.toNat < 0x80 ↔ r < 0x80 := by
  obtain ⟨e, he, hs⟩ := encodeRune_shape' r
  rw [he] at hb
  cases hs <;> simp at hb <;> subst hb <;> omega

theorem encodeRune_ascii {r : Nat} (h : r < 0x80) :
    encodeRune r = [UInt8.ofNat r] ∧ (UInt8.ofNat r).toNat = r :=
  ⟨encodeRune_one h, toNat_ofNat_of_lt (by omega)⟩

theorem encodeRune_bytes_ge {r : Nat} (h : 0x80 ≤ r) : ∀ c ∈ encodeRune r, 0x80 ≤ c.toNat := by
  obtain ⟨e, he, hs⟩ := encodeRune_shape' r
  rw [he]
  cases hs <;> simp <;> omega

theorem encodeRune_getLast? (r : Nat) (l : UInt8) (hl : (encodeRune r).getLast? = some l) :
    if r < 0x80 then l.toNat = r else isCont l.toNat = true := by
  obtain ⟨e, he, hs⟩ := encodeRune_shape' r
  rw [he] at hl
  cases hs <;> simp at hl <;> subst hl
  · rename_i h hr; simp [show r < 128 by omega, hr]
  · rename_i h1 h1' hr; simp [show ¬ r < 128 by omega, isCont, h1, h1']
  · rename_i h2 h2' hr; simp [show ¬ r < 128 by omega, isCont, h2, h2']
  · rename_i h3 h3' hr; simp [show ¬ r < 128 by omega, isCont, h3, h3']

theorem decodeRune_getElem?_isCont (s : Bytes) (i : Nat) (h1 : 1 ≤ i) (h2 : i < (decodeRune s).2) :
    ∃ b, s[i]? = some b ∧ isCont b.toNat = true := by
  have hs : s ≠ [] := by intro e; subst e; simp at h2
  obtain ⟨-, ht⟩ := decodeRune_valid_take (s := s) (r := (decodeRune s).1) (n := (decodeRune s).2)
    rfl hs (by omega)
  have hi : i < (encodeRune (decodeRune s).1).length := by
    rw [← ht, List.length_take]; have := decodeRune_size_le s; omega
  refine ⟨(encodeRune (decodeRune s).1)[i], ?_, encodeRune_getElem_isCont _ i h1 hi⟩
  rw [← List.getElem?_eq_getElem hi, ← ht, List.getElem?_take_of_lt h2]

theorem decodeRune_head_runeStart (b : UInt8) (t : Bytes) (h : 2 ≤ (decodeRune (b :: t)).2) :
    runeStart b = true := by
  cases hb : runeStart b with
  | true => rfl
  | false =>
    have hc : isCont b.toNat = true := by simpa [runeStart] using hb
    rw [decodeRune_cont b t hc] at h
    exact absurd h (by decide)

theorem decodeRune_append_of_runeStart (c t : Bytes) (hc : c ≠ [])
    (ht : ∀ x ∈ t.head?, runeStart x = true) : decodeRune (c ++ t) = decodeRune c := by
  by_cases herr : (decodeRune c).1 = RuneError ∧ (decodeRune c).2 = 1
  · -- an error is not repaired: a success on `c ++ t` would end inside `c` or read `t`'s head
    have hne : c ++ t ≠ [] := by simp [hc]
    by_cases herr' : (decodeRune (c ++ t)).1 = RuneError ∧ (decodeRune (c ++ t)).2 = 1
    · exact Prod.ext (herr'.1.trans herr.1.symm) (herr'.2.trans herr.2.symm)
    · by_cases hn : (decodeRune (c ++ t)).2 ≤ c.length
      · exact (decodeRune_congr (s' := c) (r := (decodeRune (c ++ t)).1)
          (n := (decodeRune (c ++ t)).2) rfl hne herr' (List.take_append_of_le_length hn).symm).symm
      · exfalso
        have hpos : 0 < c.length := List.length_pos_iff.2 hc
        obtain ⟨b, hb, hcont⟩ := decodeRune_getElem?_isCont (c ++ t) c.length hpos (by omega)
        rw [List.getElem?_append_right (Nat.le_refl _), Nat.sub_self, ← List.head?_eq_getElem?] at hb
        have := ht b hb
        simp [runeStart, hcont] at this
  · exact decodeRune_append_of_valid (r := (decodeRune c).1) (n := (decodeRune c).2) rfl hc herr t

end Go
