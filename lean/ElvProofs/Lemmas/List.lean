/-
Facts about core lists and bytes that several properties use: membership in `takeWhile` and in
`lookup`, indexing into `l ++ [a]`, the byte made from a number below 256, and a statement about all
256 bytes from its instances.
-/
import ElvModel.Go.Basic

namespace List
variable {α : Type _} {β : Type _}

theorem mem_takeWhile_imp {p : α → Bool} {l : List α} {x : α} (h : x ∈ l.takeWhile p) : p x = true :=
  all_eq_true.1 all_takeWhile x h

theorem lt_length_of_getElem? {l : List α} {i : Nat} {x : α} (h : l[i]? = some x) : i < l.length :=
  (getElem?_eq_some_iff.1 h).1

theorem getElem?_concat_eq_some {l : List α} {a x : α} {i : Nat} (h : (l ++ [a])[i]? = some x) :
    l[i]? = some x ∨ i = l.length ∧ x = a := by
  rcases Nat.lt_trichotomy i l.length with hi | rfl | hi
  · exact .inl (by rwa [getElem?_append_left hi] at h)
  · rw [getElem?_concat_length] at h
    exact .inr ⟨rfl, (Option.some.inj h).symm⟩
  · rw [getElem?_eq_none (by simp; omega)] at h
    cases h

theorem mem_of_lookup_eq_some [BEq α] [LawfulBEq α] {l : List (α × β)} {k : α} {v : β}
    (h : l.lookup k = some v) : (k, v) ∈ l := by
  obtain ⟨l₁, l₂, rfl, -⟩ := lookup_eq_some_iff.1 h
  exact mem_append_right _ (mem_cons_self ..)

end List

namespace Go

theorem toNat_ofNat_of_lt {n : Nat} (h : n < 256) : (UInt8.ofNat n).toNat = n :=
  UInt8.toNat_ofNat_of_lt' h

theorem forall_uint8 (P : UInt8 → Prop) (h : ∀ i : Fin 256, P (UInt8.ofNat i.val)) : ∀ c, P c := by
  intro c
  have := h ⟨c.toNat, c.toNat_lt⟩
  rwa [UInt8.ofNat_toNat] at this

end Go
