/-
Go's `<` on strings. Each model that sorts or compares strings writes it out as its own four-equation
recursion on bytes; any such function is the lexicographic `<` of the core library, whose order laws
then apply to it.
-/
import ElvModel.Go.Basic
namespace Go

theorem lexLt_eq (f : Bytes → Bytes → Bool) (h00 : f [] [] = false) (h01 : ∀ b bs, f [] (b :: bs) = true)
    (h10 : ∀ a as, f (a :: as) [] = false)
    (h11 : ∀ a as b bs, f (a :: as) (b :: bs) = if a < b then true else if b < a then false else f as bs) :
    ∀ x y : Bytes, f x y = decide (x < y)
  | [], [] => by simp [h00]
  | [], _ :: _ => by simp [h01]
  | _ :: _, [] => by simp [h10]
  | a :: x, b :: y => by
    rw [h11, lexLt_eq f h00 h01 h10 h11 x y]
    rcases Std.lt_trichotomy a b with h | rfl | h
    · simp [List.cons_lt_cons_iff, h]
    · simp [UInt8.lt_irrefl]
    · simp [List.cons_lt_cons_iff, h, UInt8.lt_asymm h, (UInt8.ne_of_lt h).symm]

end Go
