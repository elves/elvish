import ElvProofs.C41.Codepoints
import ElvProofs.C41.Template
import ElvModel.C41.Driver
open Go C41

/-!
C41: laws of the `str:` and `re:` builtins, proved of the model `ElvModel/C41` for every byte string, valid UTF-8 or
not.  The regexp engine is abstract: the `re:` theorems hold for every match list satisfying the contract `EngineOk`.
Properties of Go's `regexp`, `strings`, `unicode` are only sampled by the oracle: the contract itself, that a quoted
pattern matches exactly its text (the lexical half is `C41_quote_*`), case mappings, `trim-space`, `fields`, `equal-fold`.
-/

/-- Joining a split with the same separator gives back the original: every
string (also invalid UTF-8), every separator (also the empty one: split into
UTF-8 sequences), every `&max` except 0. -/
theorem C41_split_join (s sep : Bytes) (max : Int) (h : max ≠ 0) :
    join sep ((split max sep s).map Val.str) = .ok s := by
  rw [join_strs]; unfold split; rw [intercal_splitN s sep max h]

example : split (-1) [44] [97, 44, 0xC3, 0xA9, 44] = [[97], [0xC3, 0xA9], []] := by decide +kernel
example : split (-1) [] [97, 0xFF, 0xC3, 0xA9] = [[97], [0xFF], [0xC3, 0xA9]] := by decide +kernel
example : split 2 [44] [97, 44, 98, 44, 99] = [[97], [98, 44, 99]] := by decide +kernel

/-- `&max=0` outputs nothing (so the round trip needs `max ≠ 0`). -/
theorem C41_split_max_zero (s sep : Bytes) : split 0 sep s = [] := by
  simp [split, splitN]

/-- `str:join` of strings is the strings with the separator in between. -/
theorem C41_join_strings (sep : Bytes) (l : List Bytes) :
    join sep (l.map Val.str) = .ok (intercal sep l) := join_strs sep l

example : join [44] [.str [97], .str [], .str [98]] = .ok [97, 44, 44, 98] := by decide +kernel

/-- A non-string input makes `str:join` fail with a type error naming the kind
of the first such input; nothing is output. -/
theorem C41_join_type_error (sep : Bytes) (pre : List Bytes) (k : String) (rest : List Val) :
    join sep (pre.map Val.str ++ Val.other k :: rest) =
      .exc (badValue "input to str:join" "string" k) := join_type_error sep pre k rest

example : join [44] [.str [97], .other "list", .other "map"] = .exc "BV|input to str:join|string|list" := by
  decide +kernel

/-- `to-codepoints` prints numerals that read back as the runes of `s`, and
`from-codepoints` of those is the re-encoding of the runes … -/
theorem C41_codepoints_roundtrip (s : Bytes) :
    (toCodepoints s).mapM parseHexChars = some (toRunes s) ∧
    fromCodepoints ((toRunes s).map Int.ofNat) = .ok (encodeRunes (toRunes s)) :=
  ⟨mapM_parse_toCodepoints s, fromCodepoints_runes _ (toRunes_validRune s)⟩

/-- … which is `s` itself exactly when `s` is valid UTF-8 (an invalid byte comes
back as U+FFFD). -/
theorem C41_codepoints_roundtrip_iff (s : Bytes) :
    fromCodepoints ((toRunes s).map Int.ofNat) = .ok s ↔ validUtf8 s = true := by
  rw [(C41_codepoints_roundtrip s).2]
  constructor
  · intro h
    injection h with h
    rw [← h]; exact validUtf8_encodeRunes _
  · intro h; rw [encodeRunes_toRunes h]

example : toCodepoints [0x61, 0xE4, 0xB8, 0x96] = [['0', 'x', '6', '1'], ['0', 'x', '4', 'e', '1', '6']] := by
  decide +kernel
example : fromCodepoints [0x61, 0x4E16] = .ok [0x61, 0xE4, 0xB8, 0x96] := by decide +kernel
example : fromCodepoints [0xFFFD] = .ok [0xEF, 0xBF, 0xBD] := by decide +kernel

/-- `from-codepoints` succeeds exactly on lists of Unicode scalar values … -/
theorem C41_from_codepoints_ok_iff (nums : List Int) :
    (∃ b, fromCodepoints nums = .ok b) ↔ ∀ n ∈ nums, 0 ≤ n ∧ n ≤ 0x10FFFF ∧ ¬ isSurrogate n := by
  exact fromCodepointsLoop_ok_iff nums []

/-- … and the error is decided by the first offending argument: out of
`[0, 0x10FFFF]` ⇒ out-of-range error, a surrogate ⇒ bad-value error. -/
theorem C41_from_codepoints_errors (pre rest : List Int) (n : Int)
    (hpre : ∀ m ∈ pre, 0 ≤ m ∧ m ≤ 0x10FFFF ∧ ¬ isSurrogate m) :
    ((n < 0 ∨ n > 0x10FFFF) → fromCodepoints (pre ++ n :: rest) =
      .exc (outOfRange "codepoint" "0" "1114111" (String.ofList (hexOfInt n)))) ∧
    (isSurrogate n → fromCodepoints (pre ++ n :: rest) =
      .exc (badValue "argument to str:from-codepoints" "valid Unicode codepoint" (String.ofList (hexOfInt n)))) := by
  unfold fromCodepoints
  rw [fromCodepointsLoop_good pre _ hpre]
  constructor
  · intro h
    rw [fromCodepointsLoop_cons_bad (fun g => by have := g.1; have := g.2.1; omega), if_pos h]
  · intro h
    rw [fromCodepointsLoop_cons_bad (fun g => g.2.2 h), if_neg (by have := h.1; have := h.2; omega)]

example : fromCodepoints [0x61, 0xD800] =
    .exc "BV|argument to str:from-codepoints|valid Unicode codepoint|0xd800" := by decide +kernel
example : fromCodepoints [0x110000] = .exc "OOR|codepoint|0|1114111|0x110000" := by decide +kernel
example : fromCodepoints [-1] = .exc "OOR|codepoint|0|1114111|-0x1" := by decide +kernel

/-- `to-utf8-bytes` prints numerals that read back as the bytes of `s`;
`from-utf8-bytes` of them is `s` for valid UTF-8 and a bad-value error otherwise. -/
theorem C41_utf8_bytes_roundtrip (s : Bytes) :
    (toUtf8Bytes s).mapM parseHexChars = some (s.map UInt8.toNat) ∧
    fromUtf8Bytes ((s.map UInt8.toNat).map Int.ofNat) =
      if validUtf8 s then .ok s
      else .exc (badValue "arguments to str:from-utf8-bytes" "valid UTF-8 sequence" (fmtByteList s)) := by
  refine ⟨mapM_parse_toUtf8Bytes s, ?_⟩
  have := fromUtf8BytesLoop_bytes s []
  simp only [List.nil_append] at this
  unfold fromUtf8Bytes
  simp only [List.map_map, Function.comp_def, Int.ofNat_eq_natCast]
  rw [this]
  cases hv : validUtf8 s <;> simp [fromUtf8BytesLoop, hv]

example : fromUtf8Bytes [0xE4, 0xB8, 0x96] = .ok [0xE4, 0xB8, 0x96] := by decide +kernel
example : fromUtf8Bytes [0xE4, 0xB8] =
    .exc "BV|arguments to str:from-utf8-bytes|valid UTF-8 sequence|[228 184]" := by decide +kernel
example : fromUtf8Bytes [97, 256] = .exc "OOR|byte|0|255|256" := by decide +kernel

/-- `str:repeat` (with fixes/C41-repeat-overflow.patch and fixes/C41-repeat-size-cap.patch)
never panics, for every string and every count (also one whose product with the length wraps
around 64 bits, or whose result no machine can allocate), on every platform whose allocation
limit is at least the documented cap of 2^31−1 bytes. -/
theorem C41_repeat_no_panic (maxAlloc : Int) (hA : maxRepeatLen ≤ maxAlloc) (s : Bytes) (n : Int) :
    (strRepeatA maxAlloc s n).isPanic = false := by
  rw [strRepeatA_eq maxAlloc hA]
  repeat' split
  all_goals rfl

/-- It fails exactly when the count is negative or the result would be longer than
the documented maximum of 2147483647 bytes (true product, no wrap). -/
theorem C41_repeat_error_iff (maxAlloc : Int) (hA : maxRepeatLen ≤ maxAlloc) (s : Bytes) (n : Int) :
    (∃ e, strRepeatA maxAlloc s n = .exc e) ↔ (n < 0 ∨ (s.length : Int) * n > maxRepeatLen) := by
  rw [strRepeatA_eq maxAlloc hA]
  by_cases h0 : n < 0
  · simp [h0]
  by_cases hc : (s.length : Int) * n > maxRepeatLen
  · rw [if_neg h0, if_pos hc]
    split <;> simp [hc]
  · have hp : ¬ (s.length : Int) * n > maxInt := by unfold maxInt; unfold maxRepeatLen at hc; omega
    simp [h0, hc, hp]

/-- Otherwise the result is `n` copies of `s`, of length `|s|·n`. -/
theorem C41_repeat_result (maxAlloc : Int) (hA : maxRepeatLen ≤ maxAlloc) (s : Bytes) (n : Int) (h0 : 0 ≤ n)
    (h : (s.length : Int) * n ≤ maxRepeatLen) :
    strRepeatA maxAlloc s n = .ok (List.replicate n.toNat s).flatten ∧
    ((List.replicate n.toNat s).flatten.length : Int) = s.length * n := by
  have hp : ¬ (s.length : Int) * n > maxInt := by unfold maxInt; unfold maxRepeatLen at h; omega
  refine ⟨by rw [strRepeatA_eq maxAlloc hA, if_neg (by omega), if_neg hp, if_neg (by omega)], ?_⟩
  rw [length_flatten_replicate]
  obtain ⟨k, rfl⟩ := Int.eq_ofNat_of_zero_le h0
  simp [Int.mul_comm]

example : maxRepeatLen ≤ maxAlloc64 := by decide +kernel
example : strRepeat [97, 98] 3 = .ok [97, 98, 97, 98, 97, 98] := by decide +kernel
example : strRepeat [97, 98, 99] 6148914691236517206 =
    .exc "BV|n|small enough not to overflow result|6148914691236517206" := by decide +kernel
example : strRepeat [126] 9223372036854775807 =
    .exc "BV|n|small enough for the result not to exceed 2147483647 bytes|9223372036854775807" := by decide +kernel
example : strRepeat [97, 98] 1073741824 =
    .exc "BV|n|small enough for the result not to exceed 2147483647 bytes|1073741824" := by decide +kernel

/-- With the overflow guard alone (fixes/C41-repeat-overflow.patch) a result that fits in an
`int` but not in the address space still reaches `strings.Repeat`, whose allocation panics
(`makeslice: len out of range`) and kills the interpreter: `str:repeat '~' 9223372036854775807`
(finding `alloc-str:repeat` of C17).  Replayed on the real code by harness/corpus/C41.txt. -/
theorem C41_repeat_uncapped_counterexample :
    ¬ ∀ (s : Bytes) (n : Int), (repeatUncapped maxAlloc64 s n).isPanic = false := by
  intro h
  have := h [126] 9223372036854775807
  revert this
  decide

/-- The guard of the UNCHANGED tree, `len(s)*n < 0` on the wrapped product, misses
a product that wraps to a positive number: `strings.Repeat` itself panics and the
interpreter dies (`str:repeat abc 6148914691236517206`, 3·n = 2^64 + 2).  Replayed
on the real code by harness/corpus/C41.txt. -/
theorem C41_repeat_orig_counterexample :
    ¬ ∀ (s : Bytes) (n : Int), (repeatOrig s n).isPanic = false := by
  intro h
  have := h [97, 98, 99] 6148914691236517206
  revert this
  decide

/-- Given the engine contract, `re:find` never panics and emits, for each of the
first `&max` matches, `source[start:end]` with its positions, and for every
capture group either its text and positions or — if the group did not take
part — `""`, `-1`, `-1`. -/
theorem C41_find (src : Bytes) (full : List Match) (max : Int) (h : EngineOk src.length full) :
    reFind true max src full = .ok ((takeMax full max).map (matchSpec src)) := by
  unfold reFind
  simp only [Bool.not_true, Bool.false_eq_true, if_false]
  exact mapRes_ok _ _ _ fun m hm => findOne_ok src m (h.shape m (mem_takeMax hm))

/-- The group entries of `matchSpec` in `C41_find`: `""`, `-1`, `-1` for a group that did not take part, else
its text and positions. -/
theorem C41_find_group_value (src : Bytes) (s e : Int) :
    groupSpec src (-1) (-1) = { text := [], start := -1, stop := -1 } ∧
    (0 ≤ s → groupSpec src s e = { text := sub src s e, start := s, stop := e }) := by
  refine ⟨rfl, fun h => ?_⟩
  unfold groupSpec
  rw [if_neg (by omega)]

/-- a pattern the engine rejects is an exception, never a crash -/
theorem C41_find_bad_pattern (src : Bytes) (full : List Match) (max : Int) :
    reFind false max src full = .exc "bad-pattern" := rfl

example : EngineOk 3 [[0, 1, 0, 1, -1, -1], [2, 3, -1, -1, 2, 3]] :=
  ⟨by intro m hm; simp at hm; rcases hm with rfl | rfl <;> simp [MatchOk, GroupsOk], by simp [Asc],
   by simp [EndsIncrease]⟩
example : reFind true (-1) [97, 120, 98] [[0, 1, 0, 1, -1, -1], [2, 3, -1, -1, 2, 3]] =
    .ok [⟨[97], 0, 1, [⟨[97], 0, 1⟩, ⟨[97], 0, 1⟩, ⟨[], -1, -1⟩]⟩,
         ⟨[98], 2, 3, [⟨[98], 2, 3⟩, ⟨[], -1, -1⟩, ⟨[98], 2, 3⟩]⟩] := by decide +kernel
/-- outside the contract the slice does panic (the hypothesis matters) -/
example : (reFind true (-1) [97] [[0, 2]]).isPanic = true := by decide +kernel

/-- Literal replacement: the gaps between the matches `re:find` reports, with the
replacement in between. -/
theorem C41_re_replace_literal (isName : Rune → Bool) (names : List Bytes) (r src : Bytes)
    (full : List Match) (h : EngineOk src.length full) :
    reReplace true true isName names (.str r) src full = .ok (intercal r (gaps src 0 full)) := by
  unfold reReplace
  simp only [Bool.not_true, Bool.false_eq_true, if_false, if_true]
  rw [replaceAll_ok src _ (fun _ => r) () full h (fun _ _ _ => rfl), Res.ok_bind,
    spliceSpec_gaps src r h.contract]
  rfl

/-- Function replacement (a function that outputs one string `f text`): every
match is replaced by `f` of exactly the text `re:find` reports for it. -/
theorem C41_re_replace_fn (isName : Rune → Bool) (names : List Bytes) (f : Bytes → Bytes) (src : Bytes)
    (full : List Match) (h : EngineOk src.length full) :
    reReplace true false isName names (.fn fun t => .vals [.str (f t)]) src full =
      .ok (spliceSpec src (fun m => f (matchSpec src m).text) 0 full) := by
  unfold reReplace
  simp only [Bool.not_true, Bool.false_eq_true, if_false]
  rw [replaceAll_ok src _ (fun m => f (matchSpec src m).text) none full h ?_]
  · rfl
  · intro m _ hmo
    obtain ⟨s, e, gs, rfl, h0, h1, h2, _⟩ := hmo.elim
    simp [index, slice_ok src s e h0 h1 h2, replFunc, matchSpec]

/-- In particular, replacing every match by itself gives the source back: find and
replace agree on the positions. -/
theorem C41_re_replace_identity (isName : Rune → Bool) (names : List Bytes) (src : Bytes)
    (full : List Match) (h : EngineOk src.length full) :
    reReplace true false isName names (.fn fun t => .vals [.str t]) src full = .ok src := by
  have h1 := C41_re_replace_fn isName names id src full h
  have h2 := spliceSpec_self src h.contract
  exact h1.trans (by simpa using h2)

/-- `re:split` (all matches): the same gaps, by Go's documented rule — no empty
first piece before an empty match at 0, no last piece when the last match starts
at the end of the text.  No panic. -/
theorem C41_re_split (exprEmpty : Bool) (src : Bytes) (max : Int) (full : List Match)
    (hn : max < 0) (h : EngineOk src.length full) (hne : exprEmpty = true ∨ src ≠ []) :
    reSplit true exprEmpty max src full = .ok (piecesSpec src full) := by
  unfold reSplit
  simp only [Bool.not_true, Bool.false_eq_true, if_false]
  exact regexpSplit_pieces exprEmpty src max full hn h hne

example : regexpSplit false [97, 44, 98, 44] (-1) [[1, 2], [3, 4]] = .ok [[97], [98], []] := by decide +kernel
example : piecesSpec [97, 44, 98, 44] [[1, 2], [3, 4]] = [[97], [98], []] := by decide +kernel
example : reReplace true true (fun _ => false) [[]] (.str [45]) [97, 44, 98, 44] [[1, 2], [3, 4]] =
    .ok [97, 45, 98, 45] := by decide +kernel

/-- A replacement template without `$` is a literal replacement. -/
theorem C41_re_replace_template_partial (isName : Rune → Bool) (names : List Bytes) (t src : Bytes)
    (full : List Match) (h : EngineOk src.length full) (ht : cutDollar t = none) :
    reReplace true false isName names (.str t) src full = .ok (intercal t (gaps src 0 full)) := by
  unfold reReplace
  simp only [Bool.not_true, Bool.false_eq_true, if_false]
  rw [replaceAll_ok src _ (fun _ => t) () full h ?_, Res.ok_bind, spliceSpec_gaps src t h.contract]
  · rfl
  · intro m _ _
    simp [expand, expandLoop, ht]

/-- For EVERY template and every match satisfying the contract, Go's `expand` loop
finishes within its fuel, does not panic (an out-of-range or unmatched group just
contributes nothing) and yields the concatenation of the values of the template's
tokens. -/
theorem C41_template_expand (isName : Rune → Bool) (names : List Bytes) (t src : Bytes) (m : Match)
    (h : MatchOk src.length m) :
    expand isName names t src m = .ok (expandSpec isName names t src m) := expand_eq isName names src m t h

/-- `re:replace` with a template: the unmatched pieces of the source and, for each
match in order, the expansion of the template for that match. -/
theorem C41_re_replace_template (isName : Rune → Bool) (names : List Bytes) (t src : Bytes)
    (full : List Match) (h : EngineOk src.length full) :
    reReplace true false isName names (.str t) src full =
      .ok (spliceSpec src (expandSpec isName names t src) 0 full) := by
  unfold reReplace
  simp only [Bool.not_true, Bool.false_eq_true, if_false]
  rw [replaceAll_ok src _ (expandSpec isName names t src) () full h ?_]
  · rfl
  · intro m _ hmo
    rw [expand_eq isName names src m t hmo]
    rfl

/-- Under the engine contract `re:replace` succeeds with every template: expansion neither panics nor runs
out of fuel. -/
def C41_re_replace_template_full : Prop :=
  ∀ (isName : Rune → Bool) (names : List Bytes) (t src : Bytes) (full : List Match),
    EngineOk src.length full → ∃ b, reReplace true false isName names (.str t) src full = .ok b

theorem C41_re_replace_template_total : C41_re_replace_template_full :=
  fun isName names t src full h => ⟨_, C41_re_replace_template isName names t src full h⟩

/-- Every template is the rendering (grammar `Tok.render`) of its tokens: the reading
loses nothing. -/
theorem C41_template_tokens_render (isName : Rune → Bool) (t : Bytes) :
    renderToks (tokenize isName t) = t :=
  (tokenizeLoop_render_normal isName _ t (by omega)).1

/-- A NORMAL token list (texts `$`-free, non-empty and maximal; `$name` extends over
every following name rune — longest name; `${name}` is a name up to its `}`; a raw `$`
starts neither `$$` nor a reference) is exactly what its rendering is read as. -/
theorem C41_template_tokens_unique (isName : Rune → Bool) (toks : List Tok) (h : NormalToks isName toks) :
    tokenize isName (renderToks toks) = toks :=
  tokenizeLoop_renderToks isName toks _ h (by omega)

/-- … and the reading of every template is normal: `tokenize` and `renderToks` are
inverse bijections between all templates and the normal token lists. -/
theorem C41_template_tokens_normal (isName : Rune → Bool) (t : Bytes) : NormalToks isName (tokenize isName t) :=
  (tokenizeLoop_render_normal isName _ t (by omega)).2

/-- Templates generated from the grammar: `re:replace` with the rendering of a normal
token list replaces each match by the concatenation of the token values — `$n`/`${n}`
the text of group `n` (nothing if it does not exist or did not take part), `$name` the
first participating group of that name, `$$` and a raw `$` a dollar sign. -/
theorem C41_re_replace_template_grammar (isName : Rune → Bool) (names : List Bytes) (toks : List Tok)
    (src : Bytes) (full : List Match) (hn : NormalToks isName toks) (h : EngineOk src.length full) :
    reReplace true false isName names (.str (renderToks toks)) src full =
      .ok (spliceSpec src (fun m => (toks.map (tokValue names src m)).flatten) 0 full) := by
  rw [C41_re_replace_template isName names _ src full h]
  unfold expandSpec
  rw [C41_template_tokens_unique isName toks hn]

/-- Which names are group NUMBERS (the "Parse number" rule of Go's `extract`): exactly the
strings of ASCII digits without a leading zero (`0` itself is fine) of at most nine
digits, denoting their decimal value; every other name — `01`, `1x`, ten digits — is
looked up among the NAMED groups. -/
theorem C41_template_ref_number (name : Bytes) :
    refNum name =
      if isDigits name = true ∧ name.length ≤ 9 ∧ ¬ (name.head? = some 48 ∧ name.length > 1)
      then ((decVal name 0 : Nat) : Int) else -1 := refNum_spec name

private def asciiName (r : Rune) : Bool :=
  (48 ≤ r && r ≤ 57) || (65 ≤ r && r ≤ 90) || (97 ≤ r && r ≤ 122) || r = 95

-- `$1x` is the group NAMED `1x` (longest name), `${1}x` is group 1 followed by `x`
example : tokenize asciiName [36, 49, 120] = [.ref false [49, 120]] := by decide +kernel
example : tokenize asciiName [36, 123, 49, 125, 120] = [.ref true [49], .lit [120]] := by decide +kernel
-- `a$$-$n_$` : text, dollar, text, reference `n_`, raw dollar;  `${1` and `${}` are raw
example : tokenize asciiName [97, 36, 36, 45, 36, 110, 95, 36] =
    [.lit [97], .dollar, .lit [45], .ref false [110, 95], .raw] := by decide +kernel
example : tokenize asciiName [36, 123, 49] = [.raw, .lit [123, 49]] := by decide +kernel
example : NormalToks asciiName [.lit [97], .dollar, .ref true [49], .lit [120], .ref false [110], .raw, .lit [45]] := by
  simp only [NormalToks, NameBefore, renderToks, Tok.render]
  decide +kernel
-- numbers: `$0`, `$10` are numbers; `$01` and 10-digit numerals are names
example : refNum [48] = 0 ∧ refNum [49, 48] = 10 ∧ refNum [48, 49] = -1 ∧ refNum [49, 120] = -1 ∧
    refNum [49, 48, 48, 48, 48, 48, 48, 48, 48, 48] = -1 ∧ refNum [57, 57, 57, 57, 57, 57, 57, 57, 57] = 999999999 := by
  decide +kernel
-- one match "ab" at 1 of "xaby" with group 1 = "a", group 2 unmatched, group 3 = "b" named n
example : reReplace true false asciiName [[], [], [], [110]]
    (.str [60, 36, 49, 36, 50, 36, 123, 110, 125, 36, 57, 36, 36, 62]) [120, 97, 98, 121] [[1, 3, 1, 2, -1, -1, 2, 3]] =
    .ok [120, 60, 97, 98, 36, 62, 121] := by decide +kernel
example : EngineOk 4 [[1, 3, 1, 2, -1, -1, 2, 3]] :=
  ⟨by intro m hm; simp at hm; subst hm; simp [MatchOk, GroupsOk], by simp [Asc], by simp [EndsIncrease]⟩
/-- outside the contract the expansion does panic (the hypothesis matters) -/
example : (reReplace true false asciiName [[]] (.str [36, 49]) [97] [[0, 1, 0, 5]]).isPanic = true := by decide +kernel

/-- `re:awk` under the engine contract (for each string input, the separator's match
list on the TRIMMED line): no panic; the callback is called for the inputs in order
with `line` and the fields — Go's documented `Split` of `strings.Trim(line, " \t")`
— until the first non-string input (error `input of re:awk must be string`), the
first call ending in `break` (no error) or in an exception (that exception);
`continue` goes on.  The `broken` latch of the code is exactly this early stop. -/
theorem C41_awk (exprEmpty : Bool) (call : List Bytes → Flow) (inputs : List AwkIn)
    (h : AwkInputsOk inputs) :
    reAwk true exprEmpty call inputs = .ok (awkSpec exprEmpty call inputs) := by
  unfold reAwk
  obtain ⟨st', h1, h2, h3⟩ := awkLoop_spec exprEmpty call inputs
    { broken := false, err := none, calls := [] } h rfl rfl
  simp only [Bool.not_true, Bool.false_eq_true, if_false, h1, Res.ok_bind, Res.pure_eq_ok]
  simp at h2
  rw [h2, h3]

/-- a separator the engine rejects is an exception, and the callback is never called -/
theorem C41_awk_bad_pattern (exprEmpty : Bool) (call : List Bytes → Flow) (inputs : List AwkIn) :
    reAwk false exprEmpty call inputs = .exc "bad-pattern" := rfl

-- " a  b" / "x y" / "c" with separator ` +`: the callback `mix` continues on field a, breaks on x
example : reAwk true false (awkCallById "mix")
    [.line [32, 97, 32, 32, 98] [[1, 3]], .line [120, 32, 121] [[1, 2]], .line [99] []] =
    .ok ([[[32, 97, 32, 32, 98], [97], [98]], [[120, 32, 121], [120], [121]]], none) := by decide +kernel
example : AwkInputsOk [.line [32, 97, 32, 32, 98] [[1, 3]], .line [99] []] := by
  refine ⟨⟨?_, by simp [Asc], by simp [EndsIncrease]⟩, ⟨?_, by simp [Asc], by simp [EndsIncrease]⟩, trivial⟩
  · intro m hm
    simp at hm
    subst hm
    have : (trim [32, 97, 32, 32, 98] awkCutset).length = 4 := by decide +kernel
    rw [this]
    simp [MatchOk, GroupsOk]
  · intro m hm
    simp at hm
example : reAwk true false (awkCallById "put") [.line [97] [], .other "number", .line [98] []] =
    .ok ([[[97], [97]]], some errAwkInput) := by decide +kernel

/-- `makePattern` compiles a NEW `*Regexp` on every call and calls the mutating
`Longest()` on that object only; so whatever objects earlier calls have left behind
(`h`), a builtin's result is the function `withPattern` of the pattern, the flags and
the subject. -/
theorem C41_history_independent {β : Type} (E : Engine) (h : Heap) (p : Bytes) (posix longest : Bool)
    (src : Bytes) (bad nilDeref : β) (k : List Match → β) :
    (withPatternH E h p posix longest src bad nilDeref k).2 = withPattern E p posix longest src bad k :=
  withPatternH_eq E h p posix longest src bad nilDeref k

/-- The driver (which threads the heap of regexp objects through the ops of a run, as
the process does) prints for every op line what the history-free `stepPure` prints:
the model side of the stateful streams depends on the op line only. -/
theorem C41_driver_history_independent (h : Heap) (l : List String) : (stepH h l).2 = stepPure l := by
  unfold stepH stepPure
  split
  · exact withPatternH_eq _ h _ _ _ _ _ _ _
  · split <;> rfl

/-- An engine where leftmost-longest differs from leftmost-first. -/
private def demoEngine : Engine where
  patOk := fun _ _ => true
  run := fun _ _ longest _ => if longest then [[0, 2]] else [[0, 1]]

/-- Counter-model (the seeded change `C41-regexp-cache-shares-longest`): with a pattern
cache that hands out a shared object, `Longest()` leaks — after one `&longest` use the
same pattern without `&longest` does not return what it returns on a fresh heap. -/
theorem C41_shared_cache_history_dependent :
    let k := fun full => reFind true (-1) [97, 98] full
    let first := withPatternCachedH demoEngine [] [97] false true [97, 98] (.exc "bad-pattern") (.panic "nil") k
    (withPatternCachedH demoEngine first.1 [97] false false [97, 98] (.exc "bad-pattern") (.panic "nil") k).2 ≠
      (withPatternCachedH demoEngine [] [97] false false [97, 98] (.exc "bad-pattern") (.panic "nil") k).2 := by
  decide

-- the code's `makePattern` on the same history: no leak
example :
    let k := fun full => reFind true (-1) [97, 98] full
    let first := withPatternH demoEngine [] [97] false true [97, 98] (.exc "bad-pattern") (.panic "nil") k
    (withPatternH demoEngine first.1 [97] false false [97, 98] (.exc "bad-pattern") (.panic "nil") k).2 =
      .ok [⟨[97], 0, 1, [⟨[97], 0, 1⟩]⟩] := by decide +kernel

/-- The quoted pattern contains no unescaped metacharacter (and no dangling
backslash): lexically it is a sequence of plain bytes and `\x` escapes … -/
theorem C41_quote_no_unescaped_meta (s : Bytes) : hasUnescapedMeta (quoteMeta s) = false :=
  hasUnescapedMeta_quoteMeta s

/-- … whose literal reading is exactly the text. -/
theorem C41_quote_denotes_literal (s : Bytes) : unquote (quoteMeta s) = s := unquote_quoteMeta s

example : quoteMeta [97, 46, 42, 92] = [97, 92, 46, 92, 42, 92, 92] := by decide +kernel
example : hasUnescapedMeta [97, 46] = true := by decide +kernel

/-- `str:replace` (`strings.Replace`, modelled from its source) never reaches the slice expression that
would panic: the loop count is bounded by `strings.Count`. -/
theorem C41_replace_no_panic (max : Int) (old repl s : Bytes) : ∃ r, strReplace max old repl s = .ok r :=
  replace_no_panic s old repl max

example : strReplace (-1) [97] [98, 98] [97, 120, 97] = .ok [98, 98, 120, 98, 98] := by decide +kernel
example : strReplace 1 [] [45] [0xC3, 0xA9, 97] = .ok [45, 0xC3, 0xA9, 97] := by decide +kernel
