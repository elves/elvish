/-
One option word of the fixed code. `parseShort` produces exactly the options the spec's `cluster`
denotes. `parseLong`, for every spec list, produces those of `codeLongWord`: the spec's `longWord` with
the code's look-up (a name is compared with the whole word before the word is split at `=`), which is
`longWord` itself when no long name contains `=`.
-/
import ElvProofs.C38.Basic
import ElvProofs.Lemmas.Utf8.Runes
namespace C38.Proofs
open Go C38 C38.Spec
open Gen.C38Config

theorem wordOpts_cons_known (k sp l a) (r : List Item × Awaiting) :
    wordOpts (Item.option k sp l a :: r.1, r.2) = known k sp l (argOf a) :: wordOpts r := by
  simp [wordOpts, optsOf, Item.toOpt]

theorem argOf_nonEmpty (s : Bytes) : argOf (nonEmpty s) = s := by
  unfold nonEmpty; split <;> simp_all [argOf]

/-- The three arities, each with what the code's two comparisons give. -/
theorem arityOf_cases (n : Nat) :
    (arityOf n = .none ∧ (n == NoArgument) = true ∧ (n == RequiredArgument) = false) ∨
    (arityOf n = .required ∧ (n == NoArgument) = false ∧ (n == RequiredArgument) = true) ∨
    (arityOf n = .optional ∧ (n == NoArgument) = false ∧ (n == RequiredArgument) = false) := by
  unfold arityOf
  by_cases h0 : n = NoArgument
  · subst h0; exact .inl ⟨rfl, rfl, rfl⟩
  · by_cases h1 : n = RequiredArgument
    · subst h1; exact .inr (.inl ⟨rfl, rfl, rfl⟩)
    · exact .inr (.inr ⟨by rw [if_neg h0, if_neg h1], beq_eq_false_iff_ne.2 h0, beq_eq_false_iff_ne.2 h1⟩)

/-- The `range` loop of the fixed `parseShort`, started at any offset of `s`. -/
theorem parseShortLoop_eq (specs : List OptionSpec) (fuel : Nat) :
    ∀ (pre s' : Bytes) (acc : List Opt),
      parseShortLoop true specs (pre ++ s') (runesFrom fuel pre.length s') acc =
        .ok (acc ++ wordOpts (clusterN specs fuel s'), (clusterN specs fuel s').2.isSome) := by
  induction fuel with
  | zero => intro pre s' acc; simp [runesFrom, clusterN, parseShortLoop, wordOpts, optsOf]
  | succ fuel ih =>
    intro pre s' acc
    cases s' with
    | nil => simp [runesFrom, clusterN, parseShortLoop, wordOpts, optsOf]
    | cons b t =>
      have hle := decodeRune_size_le (b :: t)
      have hdrop : (pre ++ b :: t).drop (pre.length + (decodeRune (b :: t)).2) =
          (b :: t).drop (decodeRune (b :: t)).2 := by
        rw [List.drop_append]; simp
      have hslice : slice (pre ++ b :: t) ((pre.length + (decodeRune (b :: t)).2 : Nat) : Int)
          (pre ++ b :: t).length = .ok ((b :: t).drop (decodeRune (b :: t)).2) := by
        rw [slice_drop_nat _ (by simp; omega), hdrop]
      rw [runesFrom_cons, parseShortLoop, clusterN, findShort_eq]
      simp only [↓reduceIte]
      rw [hslice]
      rcases hl : lookupShort specs (decodeRune (b :: t)).1 with _ | ⟨k, sp⟩
      · simp [wordOpts, optsOf, Item.toOpt]
      · simp only []
        rcases arityOf_cases sp.arity with ⟨ha, hn, hr⟩ | ⟨ha, hn, hr⟩ | ⟨ha, hn, hr⟩
        · simp only [ha, hn, if_true]
          have hpre : pre.length + (decodeRune (b :: t)).2 =
              (pre ++ (b :: t).take (decodeRune (b :: t)).2).length := by
            rw [List.length_append, List.length_take, Nat.min_eq_left hle]
          have hcat : pre ++ b :: t =
              (pre ++ (b :: t).take (decodeRune (b :: t)).2) ++ (b :: t).drop (decodeRune (b :: t)).2 := by
            simp
          rw [hpre, hcat, ih]
          simp [wordOpts_cons_known, argOf, known]
        · simp only [ha, hn, hr]
          by_cases he : (b :: t).drop (decodeRune (b :: t)).2 = []
          · simp [he, wordOpts, optsOf, known]
          · simp [he, wordOpts, optsOf, Item.toOpt, known, argOf]
        · simp [ha, hn, hr, wordOpts, optsOf, Item.toOpt, known, argOf_nonEmpty]

theorem parseShort_eq (specs : List OptionSpec) (s : Bytes) :
    parseShort true s specs = .ok (wordOpts (cluster specs s), (cluster specs s).2.isSome) := by
  have := parseShortLoop_eq specs s.length [] s []
  simpa [parseShort, runes, cluster] using this

/-- What a long word denotes once its name has been looked up: `Spec.longWord` after the look-up. -/
def longWordOf (hit : Option (Nat × OptionSpec)) (name : Bytes) (value : Option Bytes) :
    List Item × Awaiting :=
  match hit with
  | none => ([.unknownLong name value], none)
  | some (k, sp) =>
    match arityOf sp.arity, value with
    | .none, some v => ([.badArg k sp v], none)
    | .required, none => ([], some (k, sp, true))
    | _, v => ([.option k sp true v], none)

theorem longWord_eq (specs : List OptionSpec) (s : Bytes) :
    longWord specs s = longWordOf (lookupLong specs (splitEq s).1) (splitEq s).1 (splitEq s).2 := rfl

/-- What `parseLong` returns once its look-up is done. -/
def longRes (hit : Option (Nat × OptionSpec)) (name : Bytes) (value : Option Bytes) : Opt × Bool × Bool :=
  match hit, value with
  | none, _ => (unknownLongOpt name (argOf value), false, false)
  | some (k, sp), none => (known k sp true [], sp.arity == RequiredArgument, false)
  | some (k, sp), some v => (known k sp true v, false, sp.arity == NoArgument)

/-- The four ways a long word reads, each with what `parseLong` returns for it. -/
inductive LongRead : List Item × Awaiting → Opt × Bool × Bool → Prop
  | unknown (name : Bytes) (value : Option Bytes) :
    LongRead ([.unknownLong name value], none) (unknownLongOpt name (argOf value), false, false)
  | option (k : Nat) (sp : OptionSpec) (value : Option Bytes) :
    LongRead ([.option k sp true value], none) (known k sp true (argOf value), false, false)
  | badArg (k : Nat) (sp : OptionSpec) (v : Bytes) :
    LongRead ([.badArg k sp v], none) (known k sp true v, false, true)
  | awaiting (k : Nat) (sp : OptionSpec) :
    LongRead ([], some (k, sp, true)) (known k sp true [], true, false)

theorem longRes_read (hit : Option (Nat × OptionSpec)) (name : Bytes) (value : Option Bytes) :
    LongRead (longWordOf hit name value) (longRes hit name value) := by
  unfold longWordOf longRes
  rcases hit with _ | ⟨k, sp⟩
  · exact .unknown name value
  · rcases arityOf_cases sp.arity with ⟨ha, hn, hr⟩ | ⟨ha, hn, hr⟩ | ⟨ha, hn, hr⟩ <;>
      rcases value with _ | v <;> simp only [ha, hn, hr] <;> constructor

theorem LongRead.wordOpts_eq {r : List Item × Awaiting} {res : Opt × Bool × Bool} (h : LongRead r res) :
    wordOpts r = [res.1] := by
  cases h <;> rfl

/-- The test `parseLong` applies to a spec: its name is the whole word, or the part before `=`. -/
def codePred (s : Bytes) (sp : OptionSpec) : Bool :=
  sp.long != [] && (sp.long == s || sp.long == (splitEq s).1)

/-- The value `parseLong` attaches to the spec it found: none if the whole word named it. -/
def codeValue (s : Bytes) : Option (Nat × OptionSpec) → Option Bytes
  | some x => if x.2.long = s then none else (splitEq s).2
  | none => (splitEq s).2

/-- The look-up loop of the fixed `parseLong`, for every spec list. -/
theorem parseLongFrom_eq (s : Bytes) (l : List OptionSpec) (eq : Option Nat) (heq : indexEq s = eq) :
    ∀ k, parseLongFrom true s eq l k =
      .ok ((lookupFrom (codePred s) l k).map fun x =>
        longRes (some x) (splitEq s).1 (codeValue s (some x))) := by
  induction l with
  | nil => intro k; rfl
  | cons sp l ih =>
    intro k
    have ih' := ih (k + 1)
    rw [lookupFrom_cons, parseLongFrom.eq_def, codePred]
    by_cases hempty : sp.long = []
    · simp [hempty, ih']
    by_cases hs : s = sp.long
    · subst hs; simp [codeValue, longRes, known, hempty]
    have hs' : ¬ sp.long = s := fun h => hs h.symm
    rcases eq with _ | e
    · simp [hs, hs', (indexEq_none s heq).1, ih', hempty]
    · obtain ⟨h1, h2⟩ := indexEq_some s e heq
      simp only
      rw [slice_take_nat s (by omega), slice_drop_nat s (by omega)]
      by_cases ht : s.take e = sp.long
      · simp [hs, hs', ht, codeValue, longRes, known, hempty, h2]
      · have : ¬ sp.long = s.take e := fun h => ht h.symm
        simp [hs, hs', ht, this, ih', hempty, h2]

/-- What a long word denotes to the fixed `parseLong`, for every spec list: a spec's name is compared
with the whole word before the word is split at its first `=`. -/
def codeLongWord (specs : List OptionSpec) (s : Bytes) : List Item × Awaiting :=
  longWordOf (lookup (codePred s) specs) (splitEq s).1 (codeValue s (lookup (codePred s) specs))

theorem parseLong_longRes (specs : List OptionSpec) (s : Bytes) :
    parseLong true s specs =
      .ok (longRes (lookup (codePred s) specs) (splitEq s).1 (codeValue s (lookup (codePred s) specs))) := by
  unfold parseLong
  simp only [parseLongFrom_eq s specs _ rfl 0, lookup_eq]
  rcases lookupFrom (codePred s) specs 0 with _ | x
  · rw [codeValue]
    rcases hi : indexEq s with _ | e
    · rw [(indexEq_none s hi).1]; rfl
    · obtain ⟨h1, h2⟩ := indexEq_some s e hi
      simp only [Option.map_none]
      rw [slice_take_nat s (by omega), slice_drop_nat s (by omega), h2]
      rfl
  · rfl

theorem parseLong_read (specs : List OptionSpec) (s : Bytes) :
    ∃ res, parseLong true s specs = .ok res ∧ LongRead (codeLongWord specs s) res :=
  ⟨_, parseLong_longRes specs s, longRes_read _ _ _⟩

/-- When no long name contains `=`, `parseLong` reads a long word as getopt_long does. -/
theorem codeLongWord_eq (specs : List OptionSpec) (hwf : WF specs) : codeLongWord specs = longWord specs := by
  funext s
  rw [longWord_eq, codeLongWord, lookupLong, lookup_eq, lookup_eq]
  rcases hv : (splitEq s).2 with _ | v
  · have hname := splitEq_of_none s hv
    have hp : codePred s = fun sp => sp.long != [] && sp.long == (splitEq s).1 := by
      funext sp; rw [codePred, hname, Bool.or_self]
    rw [hp]
    rcases lookupFrom _ specs 0 with _ | x
    · rw [codeValue, hv]
    · rw [codeValue, hv, ite_self]
  · have hne : ∀ sp ∈ specs, ¬ sp.long = s := fun sp hsp h =>
      hwf sp hsp (h ▸ mem_of_splitEq_some s hv)
    rw [lookupFrom_congr (q := fun sp => sp.long != [] && sp.long == (splitEq s).1) 0 fun sp hsp => by
      rw [codePred, beq_eq_false_iff_ne.2 (hne sp hsp), Bool.false_or]]
    rcases hl : lookupFrom _ specs 0 with _ | x
    · rw [codeValue, hv]
    · rw [codeValue, if_neg (hne _ (lookupFrom_mem hl)), hv]

end C38.Proofs
