/-
The errors of `Parse`, and `Complete` against the spec's `context`, for every spec list (`ctxOf`:
`context` with what a long word denotes as a parameter); the dispatch of `edit:complete-getopt`.
-/
import ElvProofs.C38.Parse
namespace C38.Proofs
open Go C38 C38.Spec
open Gen.C38Config


theorem multiError_none (l : List Bytes) : multiError l = none ↔ l = [] := by
  rcases l with _ | ⟨a, _ | ⟨b, t⟩⟩ <;> simp [multiError]

theorem missingOf_none_iff (items : List Item) :
    missingOf items = none ↔ items.any isMissing = false := by
  rw [missingOf, List.findSome?_eq_none_iff, List.any_eq_false]
  refine forall_congr' fun i => imp_congr_right fun _ => ?_
  cases i <;> simp [isMissing]

theorem unknown_filter_nil_iff (b : Bool) (items : List Item) :
    (optsOf b items).filter (·.unknown) = [] ↔ items.any isUnknown = false := by
  have key : ∀ i, (∀ o, Item.toOpt b i = some o → ¬ o.unknown = true) ↔ ¬ isUnknown i = true := by
    intro i
    cases i <;> cases b <;> simp [Item.toOpt, isUnknown, known, unknownShort, unknownLongOpt]
  simp only [optsOf, List.filter_eq_nil_iff, List.mem_filterMap, List.any_eq_false]
  exact ⟨fun h i hi => (key i).1 fun o ho => h o ⟨i, hi, ho⟩, fun h o ⟨i, hi, ho⟩ => (key i).2 (h i hi) o ho⟩

theorem extraOf_nil_iff (items : List Item) : extraOf items = [] ↔ items.any isBadArg = false := by
  rw [extraOf, List.filterMap_eq_nil_iff, List.any_eq_false]
  refine forall_congr' fun i => imp_congr_right fun _ => ?_
  cases i <;> simp [isBadArg]

theorem parseErrors_nil_iff (st : PState) :
    parseErrors st = [] ↔ st.opt = none ∧ st.opts.filter (·.unknown) = [] ∧ st.extraArg = [] := by
  unfold parseErrors
  rcases st.opt with _ | o <;> simp

/-- `Parse` reports no error exactly when GNU/BSD getopt_long accepts the items read. -/
theorem multiError_none_iff (items : List Item) (stopped : Bool) :
    multiError (parseErrors
        ⟨optsOf false items, operandsOf items, missingOf items, stopped, extraOf items⟩) = none ↔
      accepted items = true := by
  rw [multiError_none, parseErrors_nil_iff]
  simp only [missingOf_none_iff, unknown_filter_nil_iff, extraOf_nil_iff, accepted]
  cases items.any isUnknown <;> cases items.any isMissing <;> cases items.any isBadArg <;> simp

theorem containsEq_eq (s : Bytes) : containsEq s = (splitEq s).2.isSome := by
  unfold containsEq
  rcases h : indexEq s with _ | e
  · simp [(indexEq_none s h).1]
  · simp [(indexEq_some s e h).2]

theorem splitEq_dash (t : Bytes) : (splitEq (dash :: t)).2 = (splitEq t).2 := by
  have : ¬ dash = eqSign := by decide
  simp [splitEq, this]

theorem containsEq_dash (t : Bytes) : containsEq (dash :: t) = containsEq t := by
  rw [containsEq_eq, containsEq_eq, splitEq_dash]


theorem wordOpts_clusterN_ne_nil (specs : List OptionSpec) (n : Nat) (b : UInt8) (t : Bytes) :
    wordOpts (clusterN specs (n + 1) (b :: t)) ≠ [] := by
  rw [clusterN]
  rcases lookupShort specs (decodeRune (b :: t)).1 with _ | ⟨k, sp⟩
  · simp [wordOpts, optsOf, Item.toOpt]
  · rcases ha : arityOf sp.arity with _ | _ | _
    · simp [ha, wordOpts, optsOf, Item.toOpt]
    · simp only [ha]; split <;> simp [wordOpts, optsOf, Item.toOpt]
    · simp [ha, wordOpts, optsOf, Item.toOpt]

theorem wordOpts_cluster_ne_nil (specs : List OptionSpec) (s : Bytes) (h : s ≠ []) :
    wordOpts (cluster specs s) ≠ [] := by
  rcases s with _ | ⟨b, t⟩
  · exact absurd rfl h
  · exact wordOpts_clusterN_ne_nil specs _ b t


/-- `Spec.context`, given the option still awaiting its argument, whether option parsing has ended,
and what a long word (without its dashes) denotes. -/
def ctxOf (lw : Bytes → List Item × Awaiting) (cfg : Nat) (specs : List OptionSpec)
    (pending : Option Opt) (stopped : Bool) (last : Bytes) : List Opt × Context :=
  match pending with
  | some o => ([], ⟨OptionArgument, some { o with argument := last }, []⟩)
  | none =>
    if stopped then ([], ⟨Argument, none, last⟩)
    else if last = [] then ([], ⟨OptionOrArgument, none, []⟩)
    else if last = [dash] then ([], ⟨AnyOption, none, []⟩)
    else if hasPrefix last dd || (hasPrefix last [dash] && has cfg LongOnly) then
      let body := if hasPrefix last dd then last.drop 2 else last.drop 1
      if (splitEq body).2 = none then ([], ⟨LongOption, none, body⟩)
      else ([], ⟨OptionArgument, (wordOpts (lw body)).getLast?, []⟩)
    else if hasPrefix last [dash] then
      let os := wordOpts (cluster specs (last.drop 1))
      match os.getLast? with
      | some o =>
        if o.spec.arity = NoArgument then (os, ⟨ChainShortOption, none, []⟩)
        else (os.dropLast, ⟨OptionArgument, some o, []⟩)
      | none => ([], ⟨ChainShortOption, none, []⟩)
    else ([], ⟨Argument, none, last⟩)

theorem context_eq (cfg : Nat) (specs : List OptionSpec) (before : List Item) (last : Bytes) :
    context cfg specs before last =
      ctxOf (longWord specs) cfg specs (missingOf before) (ended cfg before) last := rfl

/-- What `Complete` does with the result of `parseLong`. -/
theorem completeLong (specs : List OptionSpec) (opts : List Opt) (nonOpt : List Bytes) (s : Bytes) :
    (match parseLong true s specs with
      | .ok (newopt, _, _) => Res.ok (opts, nonOpt, (⟨OptionArgument, some newopt, []⟩ : Context))
      | .exc x => .exc x
      | .panic p => .panic p) =
      .ok (opts, nonOpt, ⟨OptionArgument, (wordOpts (codeLongWord specs s)).getLast?, []⟩) := by
  obtain ⟨res, hres, hread⟩ := parseLong_read specs s
  rw [hres, hread.wordOpts_eq]
  rfl

/-- The `switch` of `Complete` for every spec list: the table of `Spec.context`. -/
theorem completeLast_ctx (specs : List OptionSpec) (cfg : Nat) (st : PState) (last : Bytes) :
    completeLast true specs cfg st last =
      .ok (st.opts ++ (ctxOf (codeLongWord specs) cfg specs st.opt st.stopOpt last).1, st.nonOptArgs,
           (ctxOf (codeLongWord specs) cfg specs st.opt st.stopOpt last).2) := by
  obtain ⟨opts, nonOpt, opt, stop, extra⟩ := st
  unfold completeLast ctxOf
  rcases opt with _ | o
  · simp only [beq_iff_eq]
    by_cases h0 : stop = true
    · rw [if_pos h0, if_pos h0, List.append_nil]
    rw [if_neg h0, if_neg h0]
    by_cases h1 : last = []
    · rw [if_pos h1, if_pos h1, List.append_nil]
    rw [if_neg h1, if_neg h1]
    by_cases h2 : last = [dash]
    · rw [if_pos h2, if_pos h2, List.append_nil]
    rw [if_neg h2, if_neg h2]
    by_cases hdd : hasPrefix last dd = true
    · obtain ⟨t, rfl⟩ := hasPrefix_dd hdd
      rw [if_pos hdd, slice_two _ (by simp), containsEq_dash, containsEq_dash, containsEq_eq]
      simp only [hdd, Bool.true_or, if_true, List.drop_succ_cons, List.drop_zero]
      rcases (splitEq t).2 with _ | v
      · simp
      · simp only [Option.isSome_some, Bool.not_true, Bool.false_eq_true, if_false, reduceCtorEq,
          List.append_nil]
        exact completeLong specs opts nonOpt t
    rw [if_neg hdd]
    by_cases hp : hasPrefix last [dash] = true
    · obtain ⟨t, rfl⟩ := hasPrefix_dash hp
      rw [if_pos hp, slice_one _ (by simp)]
      simp only [hdd, hp, Bool.false_or, Bool.true_and, Bool.false_eq_true, if_false, if_true,
        List.drop_succ_cons, List.drop_zero]
      by_cases hlo : has cfg LongOnly = true
      · rw [if_pos hlo, if_pos hlo, containsEq_dash, containsEq_eq]
        rcases (splitEq t).2 with _ | v
        · simp
        · simp only [Option.isSome_some, Bool.not_true, Bool.false_eq_true, if_false, reduceCtorEq,
            List.append_nil]
          exact completeLong specs opts nonOpt t
      · rw [if_neg hlo, if_neg hlo, parseShort_eq]
        have hne := wordOpts_cluster_ne_nil specs t (by rintro rfl; exact h2 rfl)
        rcases hl : (wordOpts (cluster specs t)).getLast? with _ | o
        · exact absurd (List.getLast?_eq_none_iff.1 hl) hne
        · simp only
          rw [index_last _ o hl, slice_init _ hne]
          simp only
          by_cases hn : o.spec.arity = NoArgument
          · rw [if_pos hn, if_pos hn]
          · rw [if_neg hn, if_neg hn]
    · simp [hdd, hp]
  · simp

/-- A context of type `OptionArgument` carries its option, whenever every long word denotes one. -/
theorem ctxOf_option (lw : Bytes → List Item × Awaiting) (hlw : ∀ b, wordOpts (lw b) ≠ []) (cfg : Nat)
    (specs : List OptionSpec) (pending : Option Opt) (stopped : Bool) (last : Bytes) :
    (ctxOf lw cfg specs pending stopped last).2.typ = OptionArgument →
      (ctxOf lw cfg specs pending stopped last).2.option.isSome = true := by
  unfold ctxOf
  rcases pending with _ | o
  · by_cases h1 : stopped = true
    · simp only [h1, if_true]; nofun
    by_cases h2 : last = []
    · simp only [h1, h2, if_true, Bool.false_eq_true, if_false]; nofun
    by_cases h3 : last = [dash]
    · simp only [h1, h3, if_true, Bool.false_eq_true, if_false, reduceCtorEq]; nofun
    simp only [h1, h2, h3, Bool.false_eq_true, if_false]
    by_cases h4 : (hasPrefix last dd || (hasPrefix last [dash] && has cfg LongOnly)) = true
    · simp only [h4, if_true]
      by_cases h5 : (splitEq (if hasPrefix last dd then last.drop 2 else last.drop 1)).2 = none
      · simp only [h5, if_true]; nofun
      · simp only [h5, if_false]; exact fun _ => List.getLast?_isSome.2 (hlw _)
    simp only [h4, Bool.false_eq_true, if_false]
    by_cases h6 : hasPrefix last [dash] = true
    · simp only [h6, if_true]
      rcases (wordOpts (cluster specs (List.drop 1 last))).getLast? with _ | o
      · nofun
      · by_cases hn : o.spec.arity = NoArgument
        · simp only [hn, if_true]; nofun
        · simp only [hn, if_false]; exact fun _ => rfl
    · simp only [h6, Bool.false_eq_true, if_false]; nofun
  · exact fun _ => rfl

theorem wordOpts_codeLongWord_ne_nil (specs : List OptionSpec) (s : Bytes) :
    wordOpts (codeLongWord specs s) ≠ [] := by
  rw [codeLongWord, (longRes_read _ _ _).wordOpts_eq]
  exact List.cons_ne_nil _ _

theorem Complete_concat (specs : List OptionSpec) (cfg : Nat) (front : List Bytes) (last : Bytes) :
    Complete true (front ++ [last]) specs cfg =
      match parse true front specs cfg with
      | .ok st => completeLast true specs cfg st last
      | .exc x => .exc x
      | .panic p => .panic p := by
  unfold Complete
  have hne : front ++ [last] ≠ [] := by simp
  have hemp : (front ++ [last]).isEmpty = false := by simp
  simp only [hemp, Bool.and_false, Bool.false_eq_true, if_false]
  rw [slice_init _ hne, index_last _ last (by simp)]
  simp only [List.dropLast_concat]
  rcases parse true front specs cfg with st | x | p <;> rfl

/-- `Complete` of the fixed code on a non-empty list, for every spec list. -/
theorem complete_eq (specs : List OptionSpec) (cfg : Nat) (front : List Bytes) (last : Bytes) :
    Complete true (front ++ [last]) specs cfg =
      .ok (optsOf false (readOf (codeLongWord specs) cfg specs front false) ++
             (ctxOf (codeLongWord specs) cfg specs
               (missingOf (readOf (codeLongWord specs) cfg specs front false))
               (ended cfg (readOf (codeLongWord specs) cfg specs front false)) last).1,
           operandsOf (readOf (codeLongWord specs) cfg specs front false),
           (ctxOf (codeLongWord specs) cfg specs
               (missingOf (readOf (codeLongWord specs) cfg specs front false))
               (ended cfg (readOf (codeLongWord specs) cfg specs front false)) last).2) := by
  rw [Complete_concat, parse_eq, absState_init]
  exact completeLast_ctx specs cfg _ last

/-- `edit:complete-getopt`'s dispatch dereferences `ctx.Option` only for type `OptionArgument`. -/
theorem completeGetoptOut_ok (specs : List OptionSpec) (r : List Opt × List Bytes × Context)
    (h : r.2.2.typ = OptionArgument → r.2.2.option.isSome = true) :
    ∃ out, completeGetoptOut specs r = .ok out := by
  obtain ⟨o, n, ctx⟩ := r
  unfold completeGetoptOut
  simp only
  by_cases h1 : (ctx.typ == OptionOrArgument || ctx.typ == Argument) = true
  · rw [if_pos h1]; exact ⟨_, rfl⟩
  by_cases h2 : (ctx.typ == AnyOption) = true
  · rw [if_neg h1, if_pos h2]; exact ⟨_, rfl⟩
  by_cases h3 : (ctx.typ == LongOption) = true
  · rw [if_neg h1, if_neg h2, if_pos h3]; exact ⟨_, rfl⟩
  by_cases h4 : (ctx.typ == ChainShortOption) = true
  · rw [if_neg h1, if_neg h2, if_neg h3, if_pos h4]; exact ⟨_, rfl⟩
  by_cases h5 : (ctx.typ == OptionArgument) = true
  · rw [if_neg h1, if_neg h2, if_neg h3, if_neg h4, if_pos h5]
    rcases hopt : ctx.option with _ | o
    · have := h (beq_iff_eq.1 h5)
      rw [hopt] at this
      cases this
    · simp only
      rcases o.ref with _ | k <;> exact ⟨_, rfl⟩
  · rw [if_neg h1, if_neg h2, if_neg h3, if_neg h4, if_neg h5]; exact ⟨_, rfl⟩

end C38.Proofs
