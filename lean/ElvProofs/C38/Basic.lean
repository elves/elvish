/-
Slices, look-ups, and `strings.IndexRune(s, '=')` against the spec's `splitEq`.
-/
import ElvModel.C38.Spec
import ElvProofs.Lemmas.Utf8.Basic
import ElvProofs.Lemmas.Res
namespace C38.Proofs
open Go C38 C38.Spec
open Gen.C38Config

theorem decodeRune_size_pos (s : Bytes) (h : s ≠ []) : 1 ≤ (decodeRune s).2 :=
  Go.decodeRune_size_pos h


theorem slice_init {α} (s : List α) (h : s ≠ []) :
    slice s 0 ((s.length : Int) - 1) = .ok s.dropLast := by
  have hl : 0 < s.length := List.length_pos_iff.mpr h
  have : ((s.length : Int) - 1) = ((s.length - 1 : Nat) : Int) := by omega
  rw [this, slice_take_nat _ (by omega), List.dropLast_eq_take]

theorem index_last {α} (s : List α) (a : α) (h : s.getLast? = some a) :
    index s ((s.length : Int) - 1) = .ok a := by
  have hl : 0 < s.length := List.length_pos_iff.mpr fun h0 => by simp [h0] at h
  rw [List.getLast?_eq_getElem?] at h
  rw [show (s.length : Int) - 1 = ((s.length - 1 : Nat) : Int) by omega]
  exact index_nat h


/-- `lookup` with positions starting at `k`. -/
def lookupFrom (p : OptionSpec → Bool) (specs : List OptionSpec) (k : Nat) : Option (Nat × OptionSpec) :=
  ((specs.zipIdx k).find? fun x => p x.1).map fun x => (x.2, x.1)

theorem lookupFrom_nil (p) (k) : lookupFrom p [] k = none := rfl

theorem lookupFrom_cons (p) (sp : OptionSpec) (l) (k) :
    lookupFrom p (sp :: l) k = if p sp then some (k, sp) else lookupFrom p l (k + 1) := by
  unfold lookupFrom
  simp only [List.zipIdx_cons, List.find?_cons]
  cases h : p sp <;> simp

theorem lookup_eq (p) (l) : lookup p l = lookupFrom p l 0 := rfl

theorem lookupFrom_congr {p q : OptionSpec → Bool} :
    ∀ {l : List OptionSpec} (k : Nat), (∀ sp ∈ l, p sp = q sp) → lookupFrom p l k = lookupFrom q l k
  | [], _, _ => rfl
  | sp :: l, k, h => by
    rw [lookupFrom_cons, lookupFrom_cons, h sp (by simp),
      lookupFrom_congr (k + 1) fun x hx => h x (by simp [hx])]

theorem lookupFrom_mem {p : OptionSpec → Bool} {x : Nat × OptionSpec} :
    ∀ {l : List OptionSpec} {k : Nat}, lookupFrom p l k = some x → x.2 ∈ l
  | [], _, h => by cases h
  | sp :: l, k, h => by
    rw [lookupFrom_cons] at h
    by_cases hp : p sp = true
    · rw [if_pos hp] at h; cases h; simp
    · rw [if_neg hp] at h; exact List.mem_cons_of_mem _ (lookupFrom_mem h)

theorem findShortFrom_eq (r : Rune) (l : List OptionSpec) (k : Nat) :
    findShortFrom true r l k = lookupFrom (fun sp => sp.short != 0 && sp.short == r) l k := by
  induction l generalizing k with
  | nil => rfl
  | cons sp l ih =>
    rw [findShortFrom, lookupFrom_cons, ih]
    have : ((!true || sp.short != 0) && r == sp.short) = (sp.short != 0 && sp.short == r) := by
      simp [Bool.beq_comm]
    rw [this]

theorem findShort_eq (r : Rune) (specs : List OptionSpec) :
    findShort true r specs = lookupShort specs r := by
  unfold findShort lookupShort
  rw [findShortFrom_eq, lookup_eq]


theorem indexByteFrom_none (s : Bytes) (k : Nat) (h : indexByteFrom eqSign s k = none) :
    splitEq s = (s, none) ∧ eqSign ∉ s := by
  induction s generalizing k with
  | nil => simp [splitEq]
  | cons b t ih =>
    unfold indexByteFrom at h
    split at h
    · simp at h
    · rename_i hb
      have hb' : ¬ b = eqSign := by simpa using hb
      have := ih (k + 1) h
      simp [splitEq, hb', this.1, this.2, Ne.symm hb']

theorem indexByteFrom_some (s : Bytes) (k e : Nat) (h : indexByteFrom eqSign s k = some e) :
    k ≤ e ∧ e - k < s.length ∧ splitEq s = (s.take (e - k), some (s.drop (e - k + 1))) := by
  induction s generalizing k with
  | nil => simp [indexByteFrom] at h
  | cons b t ih =>
    unfold indexByteFrom at h
    split at h
    · rename_i hb
      have hb' : b = eqSign := by simpa using hb
      have : k = e := by simpa using h
      subst this
      simp [splitEq, hb']
    · rename_i hb
      have hb' : ¬ b = eqSign := by simpa using hb
      obtain ⟨h1, h2, h3⟩ := ih (k + 1) h
      have he : e - k = (e - (k + 1)) + 1 := by omega
      refine ⟨by omega, by simp; omega, ?_⟩
      rw [he]
      simp [splitEq, hb', h3]

theorem indexEq_none (s : Bytes) (h : indexEq s = none) : splitEq s = (s, none) ∧ eqSign ∉ s :=
  indexByteFrom_none s 0 h

theorem indexEq_some (s : Bytes) (e : Nat) (h : indexEq s = some e) :
    e < s.length ∧ splitEq s = (s.take e, some (s.drop (e + 1))) := by
  have := indexByteFrom_some s 0 e h
  simpa using this.2

theorem mem_of_splitEq_some : ∀ (s : Bytes) {v : Bytes}, (splitEq s).2 = some v → eqSign ∈ s
  | [], _, h => by cases h
  | b :: t, v, h => by
    by_cases hb : b = eqSign
    · simp [hb]
    · rw [splitEq, if_neg hb] at h
      exact List.mem_cons_of_mem _ (mem_of_splitEq_some t h)

theorem splitEq_of_none : ∀ (s : Bytes), (splitEq s).2 = none → (splitEq s).1 = s
  | [], _ => rfl
  | b :: t, h => by
    by_cases hb : b = eqSign
    · rw [splitEq, if_pos hb] at h; cases h
    · rw [splitEq, if_neg hb] at h ⊢
      rw [splitEq_of_none t h]

end C38.Proofs
