import ElvProofs.C39.Sound
import ElvProofs.C39.Serial
import ElvProofs.C39.Witness
import ElvProofs.C39.UseOnce
import ElvProofs.C39.ConcTotal
/-!
C39: one interpreter can safely be used from many goroutines.

The table of access sites is not part of these files: it is extracted from the
Go source at every check (harness/c39/extract.go) and `checkVar` is evaluated on
it by the native driver; the theorems hold for every table.
-/
open C39

/-- C39, the Eraser core for Go's RWMutex: two accesses by different goroutines
made while holding a common mutex, at least one of them exclusively, are ordered
by happens-before in every well-formed trace.  (`hsa`, `hta` are not used:
`lock_orders` orders any two steps made under a common mutex.) -/
theorem C39_lock_orders {L V : Type} [DecidableEq L] [DecidableEq V]
    (tr : Trace L V) (hwf : WF tr) (i j : Nat) (s t : Step L V) (m : L) (x y : V)
    (hij : i < j) (hs : tr[i]? = some s) (ht : tr[j]? = some t) (hne : s.tid ≠ t.tid)
    (hsa : s.ev.accesses x) (hta : t.ev.accesses y)
    (h : (holdsEx (stateAt tr i) s.tid m ∧ holdsAny (stateAt tr j) t.tid m) ∨
         (holdsAny (stateAt tr i) s.tid m ∧ holdsEx (stateAt tr j) t.tid m)) :
    HB tr i j :=
  lock_orders hwf hij hs ht hne h

/-- Non-vacuity: a well-formed trace in which goroutine 1 writes x under Lock
and goroutine 2 reads it under RLock. -/
example : WF Witness.lockedTrace ∧
    holdsEx (stateAt Witness.lockedTrace 4) 1 0 ∧ holdsAny (stateAt Witness.lockedTrace 7) 2 0 := by
  refine ⟨Witness.lockedTrace_wf, ?_, ?_⟩ <;> decide

/-- C39, publication: an access made by goroutine 0 before any `go` statement
happens before everything any other goroutine ever does. -/
theorem C39_init_happens_before {L V : Type} [DecidableEq L] [DecidableEq V]
    (tr : Trace L V) (hf : WFfork tr) (i : Nat) (s : Step L V) (x : V)
    (hs : tr[i]? = some s) (hsa : s.ev.accesses x) (hinit : InitPhase tr i)
    (j : Nat) (t : Step L V) (hij : i < j) (ht : tr[j]? = some t) (ht0 : t.tid ≠ 0) :
    HB tr i j :=
  init_before_all hf hs (not_fork_of_accesses hsa) hinit j t hij ht ht0

/-- C39, lockset soundness.  If the lockset obligation holds for `x` on the table
of access sites (some mutex is held at every access to `x` outside the
construction phase, exclusively at writes, or `x` is only written in the
construction phase), then no well-formed execution whose accesses are instances
of the table's sites has a data race on `x`. -/
theorem C39_lockset_sound {L V : Type} [DecidableEq L] [DecidableEq V]
    (tbl : List (Site L V)) (x : V) (cands : List L)
    (hv : (checkVar tbl x cands).good = true)
    (tr : Trace L V) (hwf : WF tr) (hf : WFfork tr) (hc : Conforms tr tbl) :
    ¬ Race tr x :=
  no_race_of_protected (checkVar_good hv) hwf hf hc

/-- Non-vacuity: the table of `Evaler.modules` with the fix (construction write,
AddModule/installModule under Lock, loadedModule/CheckTree under RLock)
satisfies the obligation, and a well-formed trace conforms to it. -/
example : (checkVar Witness.fixedTbl 0 [0, 1]).good = true ∧
    WF Witness.lockedTrace ∧ WFfork Witness.lockedTrace ∧ Conforms Witness.lockedTrace Witness.fixedTbl :=
  ⟨by decide, Witness.lockedTrace_wf, Witness.lockedTrace_wffork, Witness.lockedTrace_conforms⟩

/-- C39, the race-freedom clause for a whole table: no execution that conforms
to the table has a data race on any shared variable. -/
def C39_race_free_full {L V : Type} [DecidableEq L] [DecidableEq V]
    (tbl : List (Site L V)) : Prop :=
  ∀ tr : Trace L V, WF tr → WFfork tr → Conforms tr tbl → ∀ x, ¬ Race tr x

/-- C39: race freedom follows when the obligation holds for every variable (what
the check evaluates on the extracted table, one `static` op per variable). -/
theorem C39_race_free {L V : Type} [DecidableEq L] [DecidableEq V]
    (tbl : List (Site L V)) (cands : List L)
    (h : ∀ x, (checkVar tbl x cands).good = true) : C39_race_free_full tbl :=
  fun tr hwf hf hc x => C39_lockset_sound tbl x cands (h x) tr hwf hf hc

/-- C39, PARTIAL: race freedom for the variables whose obligation holds, for a
table on which it fails for others.  Without fixes/C39-del-global-copy.patch
that is `Ns.slots` (`del x` writes a slot of a published namespace without any
lock: finding `ns-slot-del-unlocked`). -/
theorem C39_race_free_partial {L V : Type} [DecidableEq L] [DecidableEq V]
    (tbl : List (Site L V)) (cands : List L)
    (tr : Trace L V) (hwf : WF tr) (hf : WFfork tr) (hc : Conforms tr tbl) :
    ∀ x, (checkVar tbl x cands).good = true → ¬ Race tr x :=
  fun x hx => C39_lockset_sound tbl x cands hx tr hwf hf hc

/-- C39 fails on the unchanged code: the table of `Evaler.modules` without
fixes/C39-modules-map-lock.patch (use, useFromFile and evalModule access the map
with no lock) fails the obligation, and not as a false alarm: a well-formed
execution conforming to that table (two goroutines in evalModule) has a data
race on the map.  The same witness is the first corpus op. -/
theorem C39_counterexample :
    (checkVar Witness.unfixedTbl 0 [0, 1]).good = false ∧
    ¬ C39_race_free_full Witness.unfixedTbl := by
  refine ⟨by decide, ?_⟩
  intro h
  exact h Witness.racyTrace Witness.racyTrace_wf Witness.racyTrace_wffork
    (Witness.racyTrace_conforms _ Witness.unfixedTbl[3] (List.getElem_mem _) rfl rfl rfl rfl) 0
    Witness.racyTrace_race

/-- The same for `Ns.slots` without fixes/C39-del-global-copy.patch: `del`
writes `Ns.slots[i]` of a namespace other evaluations read (nsOp.prepare copies
the slots, derefBase reads them) with no lock. -/
theorem C39_counterexample_del :
    (checkVar Witness.slotsTbl 0 [0, 1]).good = false ∧
    ¬ C39_race_free_full Witness.slotsTbl := by
  refine ⟨by decide, ?_⟩
  intro h
  exact h Witness.racyTrace Witness.racyTrace_wf Witness.racyTrace_wffork
    (Witness.racyTrace_conforms _ Witness.slotsTbl[0] (List.getElem_mem _) rfl rfl rfl rfl) 0
    Witness.racyTrace_race

/-- C39, module import: with the fix (installModule re-checks under the lock),
for any number of goroutines importing the same module and any interleaving of
their atomic steps, the module body is started at most once and all goroutines
whose `use` has returned hold the same namespace. -/
theorem C39_module_evaluated_once (n : Nat) (sched : List Nat) :
    (Use.run true (Use.init n) sched).execs ≤ 1 ∧
    ∀ (g g' a b : Nat), (Use.run true (Use.init n) sched).pcs[g]? = some (Use.Pc.done a) →
      (Use.run true (Use.init n) sched).pcs[g']? = some (Use.Pc.done b) → a = b := by
  obtain ⟨h1, h2⟩ := Use.inv_run (Use.init n) sched (Use.inv_init n)
  refine ⟨by rw [h1]; split <;> omega, fun g g' a b ha hb => ?_⟩
  have ha : _ = some a := h2 _ (List.mem_of_getElem? ha)
  have hb : _ = some b := h2 _ (List.mem_of_getElem? hb)
  exact Option.some.inj (ha.symm.trans hb)

/-- Non-vacuity: three goroutines, all finish, one evaluation. -/
example : (Use.run true (Use.init 3) [0, 1, 2, 0, 1, 2, 0, 1, 2]).execs = 1 ∧
    (Use.run true (Use.init 3) [0, 1, 2, 0, 1, 2, 0, 1, 2]).pcs = [.done 0, .done 0, .done 0] := by decide

/-- Without the re-check (the unchanged code, where evalModule stores blindly)
two goroutines that both miss the cache both evaluate the module and end up
with different namespaces: not an outcome of any sequential order. -/
theorem C39_counterexample_twice :
    (Use.run false (Use.init 2) [0, 1, 0, 1, 0, 1]).execs = 2 ∧
    (Use.run false (Use.init 2) [0, 1, 0, 1, 0, 1]).pcs = [.done 0, .done 1] := by decide

/-- C39, check-then-act on the module table.  If the obligation holds for the
extracted table (every write of `modules[k]` reachable from `use` is a direct
write inside an exclusive critical section, guarded by a direct lookup of the
same key in the same section), then in every execution that respects the mutex
and makes each write the way its table entry says, an installed entry is never
overwritten and there is at most one insertion more than deletions. -/
theorem C39_check_then_act_once (tbl : List CtaSite) (h : ctaCheck tbl = .tas)
    (tr : List Cta.Ev) (s : Cta.State) (hr : Cta.run tbl Cta.init tr = some s) :
    s.overwrites = 0 ∧ s.inserts ≤ s.deletes + 1 := by
  obtain ⟨h1, h2, _⟩ := Cta.inv_run (Cta.allTas_of_check h) tr _ _ Cta.inv_init hr
  refine ⟨h1, ?_⟩
  rw [h2]; split <;> omega

/-- Non-vacuity: the table of the fixed tree satisfies the obligation and
describes "goroutine 0 installs, goroutine 1 finds the entry", but not an
execution in which goroutine 1 inserts after having found the entry. -/
example : ctaCheck Cta.Witness.fixedTbl = .tas ∧
    (Cta.run Cta.Witness.fixedTbl Cta.init Cta.Witness.goodTrace).map (·.inserts) = some 1 ∧
    Cta.run Cta.Witness.fixedTbl Cta.init Cta.Witness.badTrace = none := by decide

/-- The seeded change `installModule = loadedModule; AddModule` (every access
locked, so the lockset obligation still holds) fails the check-then-act
obligation, and not as a false alarm: its table describes the execution in which
two goroutines both find nothing and both insert. -/
theorem C39_counterexample_split :
    ctaCheck Cta.Witness.seededTbl = .split "eval.go:Evaler.installModule:231(via AddModule)" ∧
    (Cta.run Cta.Witness.seededTbl Cta.init Cta.Witness.splitTrace).map (fun s => (s.inserts, s.overwrites)) =
      some (2, 1) := by decide

/-- C39, serialisability at full strength: every concurrent outcome (final
state and the result of each evaluation) is the outcome of running the
evaluations one after the other in some order.

Not proved: it is a statement about the whole interpreter, and false for
arbitrary elvish programs (`set x = (+ $x 1)` is not atomic).  Checked by the
oracle for the generated programs, for which it reduces to equality with one
result (`C39_serial_order_irrelevant`).  Fails on the real code for module
imports: finding `module-partial-visible`. -/
def C39_serialisable_full {S E R : Type} (step : S → E → S × R)
    (conc : S → List E → S × List (E × R) → Prop) : Prop :=
  ∀ s es out, conc s es out →
    ∃ order : List E, order.Perm es ∧
      let run := order.foldl (fun (acc : S × List (E × R)) e =>
        let (s', r) := step acc.1 e
        (s', acc.2 ++ [(e, r)])) (s, [])
      run.1 = out.1 ∧ run.2.Perm out.2

/-- C39, serialisability for the commutative program class `Conc.inClass`
(shared state is touched only through counters, set-only flags and imports of
modules of the universe; `$m:x` is read only from modules loaded before the
goroutines start; module bodies produce no output).  In the concurrent semantics
of `ElvModel/C39/Concurrent.lean` (steps of goroutines and of `peach` /
`run-parallel` branches interleave arbitrarily; `use` is the protocol of the
fixed code; `$m:x` of a module whose body has not finished is `$nil`), for every
concurrent execution that runs to the end there is a sequential order (each
evaluation run alone from start to return, `SeqExec`) that ends with the same
shared state and gives every evaluation the same result (compilation verdict and
outputs as a multiset).  The order exists because the sequential run finishes
(`C39_sequential_run_terminates`). -/
theorem C39_serialisable_commutative (w : Conc.World) (prog : List (List Action)) (acc0 : Conc.Acc)
    (hc : Conc.inClass w prog = true) (hf : Conc.Fresh acc0)
    (c : Conc.Cfg) (hx : Conc.Exec w (Conc.Cfg.init acc0 prog) c) (ht : c.terminal) :
    ∃ cS, Conc.SeqExec w (Conc.Cfg.init acc0 prog) cS ∧ cS.terminal ∧
      cS.acc = c.acc ∧ Conc.SameResults cS c := by
  have hfuel := Conc.serialRun_total hc acc0
  cases hr : Conc.serialRun w (Conc.fuelFor w prog) acc0 prog with
  | none => rw [hr] at hfuel; cases hfuel
  | some cS =>
    obtain ⟨hs, hts⟩ := Conc.serialRun_sound hr
    obtain ⟨hb, hk⟩ := Conc.inClass_spec hc acc0
    obtain ⟨h1, h2⟩ := Conc.unique hb hf hk (Conc.exec_of_seqExec hs) hx hts ht
    exact ⟨cS, hs, hts, h1, Conc.sameResults_of_views hts ht h2⟩

/-- C39: every sequential order that runs to the end gives the result of every
concurrent execution. -/
theorem C39_serialisable_every_order (w : Conc.World) (prog : List (List Action)) (acc0 : Conc.Acc)
    (hc : Conc.inClass w prog = true) (hf : Conc.Fresh acc0)
    (c : Conc.Cfg) (hx : Conc.Exec w (Conc.Cfg.init acc0 prog) c) (ht : c.terminal)
    (cS : Conc.Cfg) (hs : Conc.SeqExec w (Conc.Cfg.init acc0 prog) cS) (hts : cS.terminal) :
    cS.acc = c.acc ∧ Conc.SameResults cS c := by
  obtain ⟨hb, hk⟩ := Conc.inClass_spec hc acc0
  obtain ⟨h1, h2⟩ := Conc.unique hb hf hk (Conc.exec_of_seqExec hs) hx hts ht
  exact ⟨h1, Conc.sameResults_of_views hts ht h2⟩

/-- Non-vacuity: a program of the class (two goroutines importing the circular
pair m2/m3) with an interleaved execution that runs to the end. -/
example : Conc.inClass Conc.harnessWorld Conc.Witness.prog = true ∧
    Conc.Exec Conc.harnessWorld Conc.Witness.init
      (Conc.runSched Conc.harnessWorld (Conc.Witness.roundRobin 40) Conc.Witness.init) ∧
    (Conc.runSched Conc.harnessWorld (Conc.Witness.roundRobin 40) Conc.Witness.init).isTerminal = true ∧
    (Conc.serialRun Conc.harnessWorld 100 Conc.zero Conc.Witness.prog).isSome = true ∧
    (Conc.observe (Conc.runSched Conc.harnessWorld (Conc.Witness.roundRobin 40) Conc.Witness.init)).1 = [6, 2, 0, 0] ∧
    (Conc.observe (Conc.runSched Conc.harnessWorld (Conc.Witness.roundRobin 40) Conc.Witness.init)).2.1 =
      [false, true, false, false] ∧
    (Conc.observe (Conc.runSched Conc.harnessWorld (Conc.Witness.roundRobin 40) Conc.Witness.init)).2.2.1 =
      [0, 0, 1, 1, 0, 0, 0] ∧
    (Conc.observe (Conc.runSched Conc.harnessWorld (Conc.Witness.roundRobin 40) Conc.Witness.init)).2.2.2 =
      [[(true, [some 7, some 7])], [(true, [some 9]), (true, [])]] :=
  ⟨by decide, Conc.runSched_sound _ _, by decide, by decide, by decide, by decide, by decide, by decide⟩

/-- The class cannot be widened to reads of `$m:x` of a module loaded while the
goroutines run: `use m0; put $m0:x` in two goroutines is outside the class, has
a concurrent execution in which an evaluation returns `$nil` (goroutine 1 finds
m0 installed by goroutine 0, whose body has not run yet), and the sequential run
gives 100 to both.  This is the finding `module-partial-visible`, which the
model contains on purpose. -/
theorem C39_counterexample_partial_visible :
    Conc.inClass Conc.harnessWorld Conc.Witness.partialProg = false ∧
    (∃ c, Conc.Exec Conc.harnessWorld (Conc.Cfg.init Conc.zero Conc.Witness.partialProg) c ∧
      (Conc.observe c).2.2.2 = [[], [(true, [none])]]) ∧
    (Conc.serialRun Conc.harnessWorld 100 Conc.zero Conc.Witness.partialProg).map
        (fun c => (Conc.observe c).2.2.2) =
      some [[(true, [some 100])], [(true, [some 100])]] :=
  ⟨by decide,
   ⟨_, Conc.runSched_sound Conc.Witness.partialSched _, by decide⟩,
   by decide⟩

/-- C39: the sequential run of a program of the class finishes within
`Conc.fuelFor` steps per evaluation (`each`/`peach` run a fixed number of times,
a module body runs at most once per module of the finite universe).  Outside the
class it need not: a module body may import a module outside the universe, whose
body imports the next one, and so on. -/
theorem C39_sequential_run_terminates (w : Conc.World) (prog : List (List Action)) (acc0 : Conc.Acc)
    (hc : Conc.inClass w prog = true) :
    (Conc.serialRun w (Conc.fuelFor w prog) acc0 prog).isSome = true :=
  Conc.serialRun_total hc acc0

/-- Non-vacuity: the bound for the witness program in the world of the harness. -/
example : Conc.fuelFor Conc.harnessWorld Conc.Witness.prog = 144 := by decide

/-- C39, PARTIAL: for the programs the harness generates, every sequential order
of all evaluations of an op leaves the same shared state, the one the driver
prints; the result of each evaluation does not depend on the shared state
(`runAction` takes only the goroutine's own variables).  Hence "equal to the
model's result" is "equal to what every sequential order produces". -/
theorem C39_serial_order_irrelevant (gs : List (List Action)) (order : List Shared)
    (h : order.Perm (effects gs)) : applyAll order = (runAll gs).1 := by
  rw [runAll_effects]
  exact h.foldl_eq' (fun x _ y _ z => by rw [Shared.add_assoc, Shared.add_comm x y, ← Shared.add_assoc]) _

/-- Non-vacuity: three evaluations in two goroutines, applied in another order. -/
example : (effects Witness.prog).length = 3 ∧
    (applyAll (effects Witness.prog).reverse).cnt 0 = ((runAll Witness.prog).1).cnt 0 ∧
    ((runAll Witness.prog).1).cnt 0 = 6 := by
  refine ⟨by decide, ?_, by decide⟩
  rw [C39_serial_order_irrelevant Witness.prog _ (List.reverse_perm _)]

