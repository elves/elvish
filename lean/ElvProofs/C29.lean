/-
C29 — history navigation visits matching commands newest-first, then back.  Model: ElvModel/C29 (mem_store.go,
db_store.go, hybrid_store.go, dedup_cursor.go over the store model of C24).  Spec: ElvModel/C29/Spec.lean (a cursor
is an index into the session's view).
The session starts on a database holding the well-formed log `l` (`S l d`, C24); `NewDBStore` freezes
`upper = l.counter+1`.  `sess` is the session's in-memory history when the cursor is created.  A walk is a list of
steps `(move, db)`: the move and the database as it is at that moment; `Frozen l.entries upper db` says that database
still holds the snapshot below `upper` — which every addition by this or any other session preserves
(`C29_additions_invisible`).
-/
import ElvProofs.C29.Run
open Go C24 C24.Spec C29 C29.Spec

/-- At session start the snapshot is the whole log, and any number of later
additions to the database — by this session's `AddCmd` or by other sessions —
leave it frozen below `upper`: they are numbered `upper` or more, so the shared
cursor never shows them. -/
theorem C29_additions_invisible (l : Log) (d : Bucket) (hwf : l.WF) (hc : l.counter + 1 < two63) :
    newDBStore (S l d) = ⟨((l.counter + 1 : Nat) : Int)⟩ ∧
    Frozen l.entries (l.counter + 1) (S l d) ∧
    ∀ (db : Store) (t : Bytes), Frozen l.entries (l.counter + 1) db → db.cmd.sequence + 1 < two63 →
      Frozen l.entries (l.counter + 1) (addCmd db t).1 := by
  obtain ⟨h1, _, h3⟩ := session_start l d hwf hc
  exact ⟨h1, h3, fun db t hf hb => (frozen_add _ _ db t hf hb).1⟩

example : Frozen [(1, [7])] 2 (addCmd (addCmd (S ⟨[(1, [7])], 1⟩ Bucket.empty) [7, 7]).1 [8]).1 := by
  have h0 : Log.WF ⟨[(1, [7])], 1⟩ := ⟨by simp, by simp⟩
  have s := C29_additions_invisible ⟨[(1, [7])], 1⟩ Bucket.empty h0 (by decide)
  have f1 := s.2.2 _ [7, 7] s.2.1 (by decide)
  exact s.2.2 _ [8] f1 (by
    obtain ⟨l, d, e, _⟩ := f1
    decide)

/-- The view of a cursor: the session part (newer) followed by the stored part. -/
theorem C29_view_split (stored session : List Cmd) (p : Bytes) :
    view stored session p = (session.filter (isMatch p)).reverse ++ (stored.filter (isMatch p)).reverse :=
  view_split stored session p

/-- MAIN (without de-duplication).  For every prefix, every session history and
every walk — every sequence of Prev/Next, interleaved with arbitrary additions
to the database — the hybrid cursor behaves as an index into the view, starting
at -1: `Prev ↦ min (i+1) |view|`, `Next ↦ max (i-1) (-1)`, and after each move
`Get` returns `view[i]`, or end of history at either end.  No move fails. -/
theorem C29_walk_hybrid (p : Bytes) (l : Log) (d : Bucket) (hwf : l.WF) (hc : l.counter + 1 < two63)
    (sess : List Cmd) (steps : List (Move × Store))
    (hfro : ∀ st ∈ steps, Frozen l.entries (l.counter + 1) st.2) :
    runWalk ((⟨newDBStore (S l d), ⟨sess⟩⟩ : HybridStore).cursor p) (steps.map fun st => (st.1, hybOps st.2))
      = .ok (walkGets (view (l.entries.map toCmd) sess p) (-1) (steps.map (·.1))) := by
  obtain ⟨h1, hsnap, _⟩ := session_start l d hwf hc
  rw [h1]
  exact sim_walk _ _ (·.1) (fun st => hybOps st.2) steps _ (-1)
    (fun st h => hyb_sim p _ _ hsnap sess st.2 (hfro st h)) (hyb_init p _ _ sess)

/-- MAIN (with de-duplication).  The same with `NewDedupCursor` around the hybrid
cursor: the view is replaced by its first-occurrence filter. -/
theorem C29_walk_dedup (p : Bytes) (l : Log) (d : Bucket) (hwf : l.WF) (hc : l.counter + 1 < two63)
    (sess : List Cmd) (steps : List (Move × Store)) (fuel : Nat)
    (hfuel : (view (l.entries.map toCmd) sess p).length + 1 ≤ fuel)
    (hfro : ∀ st ∈ steps, Frozen l.entries (l.counter + 1) st.2) :
    runWalk (newDedup ((⟨newDBStore (S l d), ⟨sess⟩⟩ : HybridStore).cursor p))
        (steps.map fun st => (st.1, dedupOps (hybOps st.2) fuel))
      = .ok (walkGets (dedupView (view (l.entries.map toCmd) sess p)) (-1) (steps.map (·.1))) := by
  obtain ⟨h1, hsnap, _⟩ := session_start l d hwf hc
  rw [h1]
  exact sim_walk _ _ (·.1) (fun st => dedupOps (hybOps st.2) fuel) steps _ (-1)
    (fun st h => dedup_sim _ _ _ (hyb_sim p _ _ hsnap sess st.2 (hfro st h)) fuel hfuel)
    (dedup_init _ _ _ (hyb_init p _ _ sess))

/-- The database-less store (`NewHybridStore(nil)` = `memStore`), plain and de-duplicated. -/
theorem C29_walk_mem (p : Bytes) (s : MemStore) (moves : List Move) (fuel : Nat)
    (hfuel : s.cmds.length + 1 ≤ fuel) :
    runWalk (s.cursor p) (moves.map fun m => (m, memOps)) = .ok (walkGets (view [] s.cmds p) (-1) moves) ∧
    runWalk (newDedup (s.cursor p)) (moves.map fun m => (m, dedupOps memOps fuel))
      = .ok (walkGets (dedupView (view [] s.cmds p)) (-1) moves) := by
  have hv : view [] s.cmds p = (s.cmds.filter (isMatch p)).reverse := by simp [view]
  have hlen : (s.cmds.filter (isMatch p)).reverse.length + 1 ≤ fuel := by
    have := List.length_filter_le (isMatch p) s.cmds
    simp only [List.length_reverse]; omega
  rw [hv]
  constructor
  · simpa using sim_walk _ _ id (fun _ => memOps) moves _ (-1) (fun _ _ => mem_sim s.cmds p) (mem_init s p)
  · simpa using sim_walk _ _ id (fun _ => dedupOps memOps fuel) moves _ (-1)
      (fun _ _ => dedup_sim _ _ _ (mem_sim s.cmds p) fuel hlen) (dedup_init _ _ _ (mem_init s p))

/-- With de-duplication each distinct text appears once, at its most recent
occurrence: the de-duplicated view is a sub-list of the (newest-first) view, has
no repeated text, misses no text, and every entry is the first — i.e. the most
recent — one with its text. -/
theorem C29_dedup_view (v : List Cmd) :
    (dedupView v).Sublist v ∧ (texts (dedupView v)).Nodup ∧ (∀ t, t ∈ texts (dedupView v) ↔ t ∈ texts v) ∧
    ∀ c ∈ dedupView v, ∃ newer older, v = newer ++ c :: older ∧ c.text ∉ texts newer := by
  refine ⟨dedupFrom_sublist v [], dedupFrom_nodup v [], ?_, ?_⟩
  · intro t
    have := mem_texts_dedupFrom t v []
    simpa [dedupView] using this
  · intro c hc
    obtain ⟨X, Y, e, h1, _⟩ := dedupFrom_first c v [] hc
    exact ⟨X, Y, e, h1⟩

example : dedupView [⟨[1], 5⟩, ⟨[2], 4⟩, ⟨[1], 3⟩, ⟨[3], 2⟩, ⟨[2], 1⟩] = [⟨[1], 5⟩, ⟨[2], 4⟩, ⟨[3], 2⟩] := by decide

/-- Shape of a walk on a view `v` (plain or de-duplicated): `n` steps back from the
start end at index `min (n-1) |v|` — the `n`-th newest entry, or end of history once
`n > |v|`; `m` steps forward from index `i` end at `max (i-m) (-1)` — the same entries
in reverse, then end of history; and the `Get` after the last move of any walk
is taken at the index where the walk ends. -/
theorem C29_walk_shape (v : List Cmd) (n m : Nat) (i : Int) (hi : -1 ≤ i ∧ i ≤ v.length) (ms : List Move) (mv : Move) :
    walkIdx v (-1) (List.replicate n Move.prev) = min ((n : Int) - 1) v.length ∧
    walkIdx v i (List.replicate m Move.next) = max (i - m) (-1) ∧
    (walkGets v i (ms ++ [mv])).getLast? = some (walkGet v (walkIdx v i (ms ++ [mv]))) := by
  refine ⟨?_, walk_nexts v m i hi.1, walkGets_last v ms mv i⟩
  rw [walk_prevs v n (-1) (by omega)]
  congr 1

set_option maxRecDepth 8000 in
/-- non-vacuity of the main theorems: a stored history, a concurrent addition,
session additions, and a walk across the hand-off in both directions -/
example :
    let db0 := S ⟨[(1, [1, 1]), (2, [2]), (4, [1])], 4⟩ Bucket.empty
    let db1 := (addCmd db0 [1, 9]).1            -- another session adds "1 9" after this session started
    let hs : HybridStore := ⟨newDBStore db0, ⟨[⟨[1, 5], 6⟩, ⟨[3], 7⟩]⟩⟩
    runWalk (hs.cursor [1]) [(.prev, hybOps db1), (.prev, hybOps db1), (.prev, hybOps db1), (.prev, hybOps db1),
        (.next, hybOps db1), (.next, hybOps db1), (.next, hybOps db1), (.next, hybOps db1)]
      = .ok [.ok ⟨[1, 5], 6⟩, .ok ⟨[1], 4⟩, .ok ⟨[1, 1], 1⟩, .exc errEndOfHistory,
             .ok ⟨[1, 1], 1⟩, .ok ⟨[1], 4⟩, .ok ⟨[1, 5], 6⟩, .exc errEndOfHistory] := by
  decide +kernel
