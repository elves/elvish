/-
C38 — option parsing matches the GNU/BSD getopt_long conventions.

Model: ElvModel/C38/Model.lean (`fx = true`: the code with the four repairs in fixes/C38-*.patch;
`fx = false`: the unchanged tree).  Spec: ElvModel/C38/Spec.lean (`read`: the look-ahead reading of
the conventions into `Item`s; `context`: how the last word is completed).  `WF specs`: no long name
contains `=`.

The refinement is proved for every spec list (`C38.Proofs.parse_eq`, `complete_eq`), against the reading
whose look-up of a long name is the code's (`codeLongWord`); `WF` is used once, to identify that reading
with the spec's (`codeLongWord_eq`).  Panic-freedom, which needs no `WF`, is read off the same equations.
-/
import ElvProofs.C38.Complete
open Go C38 C38.Spec C38.Proofs
open Gen.C38Config

/-! Byte strings used in the witnesses below, as literals the kernel can reduce. -/
/-- `"verbose"` -/
abbrev C38_verbose : Bytes := [118, 101, 114, 98, 111, 115, 101]
/-- `"file"` -/
abbrev C38_file : Bytes := [102, 105, 108, 101]
/-- `"in-place"` -/
abbrev C38_inPlace : Bytes := [105, 110, 45, 112, 108, 97, 99, 101]
/-- `"--verbose=x"` -/
abbrev C38_ddVerboseEqX : Bytes := [45, 45, 118, 101, 114, 98, 111, 115, 101, 61, 120]
/-- `"x"` -/
abbrev C38_x : Bytes := [120]
/-- `"--=x"` -/
abbrev C38_ddEqX : Bytes := [45, 45, 61, 120]
/-- `"foo"` -/
abbrev C38_foo : Bytes := [102, 111, 111]
/-- `"-vf"` -/
abbrev C38_dVF : Bytes := [45, 118, 102]
/-- `"--"` -/
abbrev C38_dd : Bytes := [45, 45]
/-- `"-v"` -/
abbrev C38_dV : Bytes := [45, 118]
/-- `"--file=x"` -/
abbrev C38_ddFileEqX : Bytes := [45, 45, 102, 105, 108, 101, 61, 120]
/-- `"-i.bak"` -/
abbrev C38_dIBak : Bytes := [45, 105, 46, 98, 97, 107]
/-- `"--file"` -/
abbrev C38_ddFile : Bytes := [45, 45, 102, 105, 108, 101]
/-- `"na"` -/
abbrev C38_na : Bytes := [110, 97]

/-- C38 (parsing) at full strength, for the code variant `fx`: the options (with arguments) and
operands are exactly those the conventions assign, and an error is reported exactly when GNU/BSD
getopt_long would report one. -/
def C38_full_parse_for (fx : Bool) : Prop :=
  ∀ (specs : List OptionSpec) (args : List Bytes) (cfg : Nat), WF specs →
    ∃ err, Parse fx args specs cfg =
        .ok (optsOf false (read cfg specs args false), operandsOf (read cfg specs args false), err) ∧
      (err = none ↔ accepted (read cfg specs args false) = true)

/-- C38 (parsing) at full strength (the fixed code). -/
def C38_full_parse : Prop := C38_full_parse_for true

/-- The loop variables of `parse` are exactly the spec's reading: options in order (an option
written `--name=value` although it takes no argument is NOT among them: it is set aside in
`extraArg`), operands in order, the option still waiting for its required argument, and whether
option parsing has ended.  No panic. -/
theorem C38_parse_refines_spec (specs : List OptionSpec) (hwf : WF specs) (cfg : Nat)
    (args : List Bytes) :
    parse true args specs cfg =
      .ok ⟨optsOf false (read cfg specs args false), operandsOf (read cfg specs args false),
           missingOf (read cfg specs args false), ended cfg (read cfg specs args false),
           extraOf (read cfg specs args false)⟩ := by
  rw [parse_eq, absState_init, read_eq, codeLongWord_eq specs hwf]

/-- C38, first sentence: `Parse` returns exactly the conventions' options and operands (strict
reading: `--name=value` for an option that takes no argument delivers no option), and reports an
error exactly when GNU/BSD getopt_long would: a missing required argument, an unknown option, or
such a `--name=value`. -/
theorem C38_Parse_refines_spec : C38_full_parse := by
  intro specs args cfg hwf
  unfold Parse
  rw [C38_parse_refines_spec specs hwf]
  exact ⟨_, rfl, multiError_none_iff _ _⟩

def C38_witnessSpecs : List OptionSpec :=
  [⟨118, C38_verbose, NoArgument⟩, ⟨102, C38_file, RequiredArgument⟩,
   ⟨105, C38_inPlace, OptionalArgument⟩]

/-- `--verbose=x` for the no-argument option `verbose` delivers no option and reports the error. -/
example : (match Parse true [C38_ddVerboseEqX] C38_witnessSpecs GNU with
    | .ok (opts, operands, err) => opts.isEmpty && operands.isEmpty && err.isSome
    | _ => false) = true := by decide

/-- … also with an empty value (`--verbose=`), which Go cannot tell from
`--verbose` by looking at `Option.Argument`. -/
example : (match Parse true [[45, 45, 118, 101, 114, 98, 111, 115, 101, 61]] C38_witnessSpecs GNU with
    | .ok (opts, operands, err) => opts.isEmpty && operands.isEmpty && err.isSome
    | _ => false) = true := by decide

/-- The unchanged tree, `--verbose=x` for the no-argument option `verbose`: GNU/BSD report "option
doesn't allow an argument"; the code returns the option with `Argument = "x"` and no error. -/
theorem C38_counterexample : ¬ C38_full_parse_for false := by
  intro h
  obtain ⟨err, h1, _⟩ := h C38_witnessSpecs [C38_ddVerboseEqX] GNU (by unfold WF C38_witnessSpecs; decide)
  have h2 : Parse false [C38_ddVerboseEqX] C38_witnessSpecs GNU =
      .ok ([known 0 ⟨118, C38_verbose, NoArgument⟩ true C38_x], [], none) := by decide
  rw [h2] at h1
  have h3 : optsOf false (read GNU C38_witnessSpecs [C38_ddVerboseEqX] false) = [] := by decide
  rw [h3] at h1
  cases h1

/-- `Complete(front ++ [last])` is `parse(front)` followed by the classification of `last` in the
resulting state (no hypothesis on the specs). -/
theorem C38_Complete_shares_parse (specs : List OptionSpec) (cfg : Nat) (front : List Bytes)
    (last : Bytes) :
    Complete true (front ++ [last]) specs cfg =
      match parse true front specs cfg with
      | .ok st => completeLast true specs cfg st last
      | .exc x => .exc x
      | .panic p => .panic p :=
  Complete_concat specs cfg front last

/-- C38 (completion) at full strength. -/
def C38_full_complete : Prop :=
  ∀ (specs : List OptionSpec) (cfg : Nat) (front : List Bytes) (last : Bytes), WF specs →
    ∃ st, parse true front specs cfg = .ok st ∧
      Complete true (front ++ [last]) specs cfg =
        .ok (st.opts ++ (context cfg specs (read cfg specs front false) last).1, st.nonOptArgs,
             (context cfg specs (read cfg specs front false) last).2)

/-- C38, second sentence: `Complete` returns the options and operands `parse` finds in all but the
last word (themselves the spec's reading), plus the options of a last word that is a short-option
chain, and the context the table of `ContextType` prescribes. -/
theorem C38_Complete_refines_spec : C38_full_complete := by
  intro specs cfg front last hwf
  refine ⟨_, C38_parse_refines_spec specs hwf cfg front, ?_⟩
  rw [complete_eq, context_eq, read_eq, codeLongWord_eq specs hwf]

theorem C38_Complete_empty (specs : List OptionSpec) (cfg : Nat) :
    Complete true [] specs cfg = .ok ([], [], ⟨OptionOrArgument, none, []⟩) := rfl

/-- For every spec list (no `WF`), every argument list of arbitrary byte strings and every
configuration, neither `Parse` nor `Complete` panics: all slice and index expressions of the fixed
code are in range. -/
def C38_full_no_panic : Prop :=
  ∀ (specs : List OptionSpec) (cfg : Nat) (args : List Bytes),
    (∃ r, Parse true args specs cfg = .ok r) ∧ (∃ r, Complete true args specs cfg = .ok r)

theorem C38_no_panic : C38_full_no_panic := by
  intro specs cfg args
  constructor
  · unfold Parse
    rw [parse_eq]
    exact ⟨_, rfl⟩
  · rcases List.eq_nil_or_concat args with rfl | ⟨front, last, rfl⟩
    · exact ⟨_, rfl⟩
    · rw [List.concat_eq_append, complete_eq]
      exact ⟨_, rfl⟩

/-- `edit:complete-getopt`'s dispatch on the context never dereferences a nil `ctx.Option`: a
context of type `OptionArgument` always carries its option. -/
theorem C38_complete_getopt_dispatch_no_panic (specs : List OptionSpec) (cfg : Nat)
    (args : List Bytes) (r : List Opt × List Bytes × Context)
    (h : Complete true args specs cfg = .ok r) :
    ∃ out, completeGetoptOut specs r = .ok out := by
  refine completeGetoptOut_ok specs r ?_
  rcases List.eq_nil_or_concat args with rfl | ⟨front, last, rfl⟩
  · cases h; nofun
  · rw [List.concat_eq_append, complete_eq] at h
    cases h
    exact ctxOf_option _ (wordOpts_codeLongWord_ne_nil specs) cfg specs _ _ last

/-- `flag:parse-getopt ["-\xff"] []`: `len(string(U+FFFD)) = 3` but the byte is 1 wide. -/
theorem C38_unfixed_width_panics :
    Parse false [[0x2D, 0xFF]] [] GNU = .panic "slice bounds out of range" := by decide

/-- `--=x` is read as the short-only option `-a` in long form with argument `x`. -/
theorem C38_unfixed_empty_long_name_matches :
    Parse false [C38_ddEqX] [⟨97, [], NoArgument⟩] GNU =
      .ok ([⟨some 0, ⟨97, [], NoArgument⟩, false, true, C38_x⟩], [], none) := by decide

/-- `-\x00` is read as the long-only option `foo` in short form. -/
theorem C38_unfixed_nul_matches_long_only :
    Parse false [[0x2D, 0x00]] [⟨0, C38_foo, NoArgument⟩] GNU =
      .ok ([⟨some 0, ⟨0, C38_foo, NoArgument⟩, false, false, []⟩], [], none) := by decide

/-- `edit:complete-getopt [] …`: `args[:len(args)-1]` with `len(args) = 0`. -/
theorem C38_unfixed_complete_empty_panics :
    Complete false [] [] GNU = .panic "slice bounds out of range" := by decide


example : WF C38_witnessSpecs := by unfold WF C38_witnessSpecs; decide

/-- `-vf x -- -v` under GNU: chained shorts, detached argument, terminator, operand. -/
example :
    Parse true [C38_dVF, C38_x, C38_dd, C38_dV] C38_witnessSpecs GNU =
      .ok ([known 0 ⟨118, C38_verbose, NoArgument⟩ false [],
            known 1 ⟨102, C38_file, RequiredArgument⟩ false C38_x],
           [C38_dV], none) := by decide

example : read GNU C38_witnessSpecs [C38_dVF, C38_x, C38_dd, C38_dV] false =
    [.option 0 ⟨118, C38_verbose, NoArgument⟩ false none,
     .option 1 ⟨102, C38_file, RequiredArgument⟩ false (some C38_x),
     .terminator, .operand C38_dV] := by decide

/-- `--file=x -i.bak`: attached arguments where they are allowed. -/
example : (read GNU C38_witnessSpecs [C38_ddFileEqX, C38_dIBak] false).any isBadArg = false := by
  decide

/-- `Complete ["--file", "na"]`: the argument of `--file` is being completed. -/
example :
    Complete true [C38_ddFile, C38_na] C38_witnessSpecs GNU =
      .ok ([], [], ⟨OptionArgument,
        some (known 1 ⟨102, C38_file, RequiredArgument⟩ true C38_na), []⟩) := by decide
