/-
C12 — Inexact arithmetic follows IEEE-754 after the documented conversion.

Two layers.

1. STRUCTURE (every instance `ops : F64Ops F` of the float operations): when
   some argument is a float and no documented exact-zero rule applies, `+ - * /`
   are exactly the folds of the instance's `add/sub/mul/div` over the arguments
   converted with `ConvertToFloat64`; the integerizers, `abs`, `math:pow` and
   `range` apply the instance's operations; `inexact-num` is that conversion and
   `exact-num` is `SetFloat64` + canonicalisation.  What the instance's
   operations compute (the IEEE results of the FPU) is NOT proved — it is
   trusted, and compared bit for bit between Go and hardware `Float` by
   `./check C12`.  C12 is partial in exactly that respect.

2. ROUNDING SPEC (transparent `B64`, ElvModel/C12/Binary64.lean): the function
   the driver uses for `float64(int)` / `big.Rat.Float64`, and the decoding it
   uses for `big.Rat.SetFloat64`, are plain arithmetic.  The specification is
   complete: `C12_rne_nearest` (nearest among ALL finite doubles, ties to even,
   exact overflow thresholds, monotone), `C12_rne_unique`, and the model's
   conversion of a rational is that single rounding
   (`C12_conversion_rat_is_rne`) while `float64(num)/float64(denom)` is not
   (`C12_double_rounding_counterexample`).
-/
import ElvProofs.C12.Struct
import ElvProofs.C12.Round
import ElvProofs.C12.DoubleRounding
import ElvProofs.C12.RangePow
import ElvModel.C12.Driver
open C11 C12 Go

variable {F : Type}

/-- `+` with a float among the arguments: fold of float addition from `+0`
(`float64(0)`) over the converted arguments, left to right. -/
theorem C12_add (ops : F64Ops F) (args : List (Num F)) (st : Option (Num F)) (h : HasFloat args) :
    run ops "+" args st =
      .ok [.flt ((args.map (convertToFloat64 ops)).foldl ops.add (ops.ofInt64 0))] := by
  show outs (add ops args) = _
  rw [add_float ops args h]; rfl

/-- `*` with a float among the arguments and no exact-zero rule: fold of float
multiplication from `1`. -/
theorem C12_mul (ops : F64Ops F) (args : List (Num F)) (st : Option (Num F)) (h : HasFloat args)
    (hz : ¬ (Num.int 0 ∈ args ∧ ∀ a ∈ args, isInfNum ops a = false)) :
    run ops "*" args st =
      .ok [.flt ((args.map (convertToFloat64 ops)).foldl ops.mul (ops.ofInt64 1))] := by
  show outs (mul ops args) = _
  rw [mul_float ops args h (fun hh => hz ((mulZeroRule_iff ops args).1 hh))]; rfl

/-- `-` with a float among the arguments: negation of a single argument,
otherwise the fold of float subtraction from the first argument. -/
theorem C12_sub (ops : F64Ops F) (args : List (Num F)) (st : Option (Num F)) (h : HasFloat args) :
    run ops "-" args st = .ok [.flt (subFold ops (args.map (convertToFloat64 ops)))] := by
  show outs (sub ops args) = _
  rw [sub_float ops args h]; rfl

/-- `/` with a float among the arguments, no exact-zero divisor and a first
argument that is not the exact 0: `1/x` for a single argument, otherwise the
fold of float division from the first argument. -/
theorem C12_div (ops : F64Ops F) (x : Num F) (rest : List (Num F)) (st : Option (Num F))
    (h : HasFloat (x :: rest)) (h0 : rest.any isExactZero = false) (hx : isExactZero x = false) :
    run ops "/" (x :: rest) st =
      .ok [.flt (divFold ops ((x :: rest).map (convertToFloat64 ops)))] := by
  show resMap (fun v => [v]) (slash ops (x :: rest)) = _
  simp [slash, div_float ops x rest h h0 hx, fromGo]

example : HasFloat [Num.int 1, .flt (0x3ff8000000000000 : UInt64), .rat (mkRat 1 3)] :=
  ⟨.flt 0x3ff8000000000000, by simp, rfl⟩

/-- The integerizers and `abs` on a float are the instance's operation. -/
theorem C12_integerizers (ops : F64Ops F) (f : F) (st : Option (Num F)) :
    run ops "floor" [.flt f] st = .ok [.flt (ops.floor f)] ∧
    run ops "ceil" [.flt f] st = .ok [.flt (ops.ceil f)] ∧
    run ops "round" [.flt f] st = .ok [.flt (ops.round f)] ∧
    run ops "round-to-even" [.flt f] st = .ok [.flt (ops.roundEven f)] ∧
    run ops "trunc" [.flt f] st = .ok [.flt (ops.trunc f)] ∧
    run ops "abs" [.flt f] st = .ok [.flt (ops.abs f)] :=
  ⟨rfl, rfl, rfl, rfl, rfl, rfl⟩

/-- The documented conversion of exact numbers: a machine int goes through
`float64(int)`, a big int (canonical, hence outside int64) becomes the infinity
of its sign, a rational goes through `big.Rat.Float64`; a float is unchanged. -/
theorem C12_conversion (ops : F64Ops F) :
    (∀ n, convertToFloat64 ops (.int n) = ops.ofInt64 n) ∧
    (∀ n, Canonical (.big n : Num F) → convertToFloat64 ops (.big n) = ops.inf n.sign) ∧
    (∀ q, convertToFloat64 ops (.rat q) = ops.ofRat q) ∧
    (∀ f, convertToFloat64 ops (.flt f) = f) := by
  refine ⟨fun _ => rfl, ?_, fun _ => rfl, fun _ => rfl⟩
  intro n hc
  have : fitsInt n = false := hc
  simp [convertToFloat64, this]

/-- `inexact-num` is exactly that conversion. -/
theorem C12_inexact_num (ops : F64Ops F) (a : Num F) :
    runC12 ops "inexact-num" [a] = some (.ok [.flt (convertToFloat64 ops a)]) := rfl

/-- `exact-num`: an exception for a float without exact value (±Inf, NaN);
otherwise the canonical exact number whose value is the float's exact value
(`toRat`); an exact argument is returned as is. -/
theorem C12_exact_num (ops : F64Ops F) (a : Num F) (ha : Canonical a) :
    (∃ f, a = .flt f ∧ ops.toRat f = none ∧
      runC12 ops "exact-num" [a] = some (.exc "finite-float")) ∨
    (∃ f r, a = .flt f ∧ ops.toRat f = some r ∧
      ∃ v, runC12 ops "exact-num" [a] = some (.ok [v]) ∧ ExactC v ∧ val v = r) ∨
    (isExact a = true ∧ runC12 ops "exact-num" [a] = some (.ok [a])) := by
  cases a with
  | flt f =>
    cases h : ops.toRat f with
    | none => exact .inl ⟨f, rfl, h, by simp [runC12, exactNum, h, outs]⟩
    | some r =>
      refine .inr (.inl ⟨f, r, rfl, h, fromGo (.rat r), ?_, (fromGo_rat r).1, (fromGo_rat r).2⟩)
      simp [runC12, exactNum, h, outs]
  | int n => exact .inr (.inr ⟨rfl, by simp [runC12, exactNum, outs, fromGo]⟩)
  | big n => exact .inr (.inr ⟨rfl, by simp [runC12, exactNum, outs, fromGo_of_canonical _ ha]⟩)
  | rat q => exact .inr (.inr ⟨rfl, by simp [runC12, exactNum, outs, fromGo_of_canonical _ ha]⟩)

/-- Round trip for every instance whose conversions are inverse on finite
values: `inexact-num (exact-num f) = f`.  (The hypothesis is discharged for the
transparent `B64` functions by `C12_rne_exact` below; it fails only for `-0`,
whose exact value is the integer 0.) -/
theorem C12_round_trip (ops : F64Ops F) (f : F) (r : Rat) (h : ops.toRat f = some r)
    (hinv : ∀ q : Rat, q.den ≠ 1 → ops.toRat f = some q → ops.ofRat q = f)
    (hint : ∀ n : Int, fitsInt n = true → ops.toRat f = some (n : Rat) → ops.ofInt64 n = f)
    (hbig : ∀ n : Int, fitsInt n = false → ops.toRat f = some (n : Rat) → ops.inf n.sign = f) :
    ∃ v, runC12 ops "exact-num" [.flt f] = some (.ok [v]) ∧
      runC12 ops "inexact-num" [v] = some (.ok [.flt f]) := by
  refine ⟨fromGo (.rat r), by simp [runC12, exactNum, h, outs], ?_⟩
  show some (Res.ok [Num.flt (convertToFloat64 ops (fromGo (.rat r)))]) = _
  congr 3
  simp only [fromGo, normalizeBigRat]
  by_cases hd : r.den = 1
  · have hr : r = (r.num : Rat) := by apply Rat.ext <;> simp [hd]
    simp only [hd, if_true, normalizeBigInt]
    by_cases hf : fitsInt r.num = true
    · simp only [hf, if_true, convertToFloat64]; exact congrArg _ (hint _ hf (hr ▸ h))
    · have hf' : fitsInt r.num = false := by simpa using hf
      simp only [hf', Bool.false_eq_true, if_false, convertToFloat64]; exact congrArg _ (hbig _ hf' (hr ▸ h))
  · simp only [hd, if_false, convertToFloat64]; exact congrArg _ (hinv r hd h)

/-! The driver's instance converts with `B64.rne` (for `float64(int)` and
`big.Rat.Float64`) and decodes with `B64.toRat` (for `big.Rat.SetFloat64`);
`./check C12` compares both bit for bit with Go. -/

/-- "Exact on representables" / the `exact-num`–`inexact-num` round trip:
decoding any finite double other than ±0 to its exact value and rounding that
value gives the same bit pattern back. -/
theorem C12_rne_exact (bits : Nat) (hb : bits < 2 ^ 64) (q : Rat) (h : B64.toRat bits = some q)
    (hnz : bits % B64.signBit ≠ 0) : B64.rne q = bits :=
  B64.rne_toRat bits hb q h hnz

/-- Both zeros decode to the exact 0, which converts to `+0`: the round trip
maps `-0` to `+0` (its exact value is the integer 0). -/
theorem C12_rne_zero : B64.toRat 0 = some 0 ∧ B64.toRat B64.signBit = some 0 ∧ B64.rne 0 = 0 :=
  B64.rne_zero

example : B64.toRat 0x3ff8000000000000 = some (3 / 2 : Rat) → B64.rne (3 / 2 : Rat) = 0x3ff8000000000000 :=
  fun h => C12_rne_exact _ (by decide) _ h (by decide)

/-- The exponent used is the right one: `k = ilog2 n d` is `⌊log₂ (n/d)⌋`
(`2^k ≤ n/d < 2^(k+1)`, written without division by `pow2Le`), so the unit in
the last place is `2^(k-52)`, or `2^-1074` in the subnormal range. -/
theorem C12_ilog2_spec (n d : Nat) (hn : 0 < n) (hd : 0 < d) :
    B64.pow2Le (B64.ilog2 n d) n d = true ∧ B64.pow2Le (B64.ilog2 n d + 1) n d = false :=
  B64.ilog2_spec n d hn hd

/-- Within half an ulp.  For positive `n/d` with a finite result `p = rneMag n d`
and `t = ulpExp n d + 1074` (the unit in the last place is `2^t` units of
`2^-1074`; `ulpExp` is `⌊log₂ (n/d)⌋ − 52` clamped to the subnormal spacing):
`|n/d − magUnits p / 2^1074| ≤ (2^t / 2^1074) / 2`, cross-multiplied. -/
theorem C12_rne_half_ulp (n d : Nat) (hn : 0 < n) (hd : 0 < d) (hfin : B64.rneMag n d < B64.infMag) :
    let t := (B64.ulpExp n d + 1074).toNat
    let u := B64.magUnits (B64.rneMag n d)
    2 * (u * d) ≤ 2 * (n * 2 ^ 1074) + d * 2 ^ t ∧ 2 * (n * 2 ^ 1074) ≤ 2 * (u * d) + d * 2 ^ t :=
  B64.rneMag_half_ulp n d hn hd hfin

example : B64.rneMag 1 3 < B64.infMag := by decide

/-- Ties to even: the significand `M = roundHalfEven N D` chosen for the scaled
quotient `N/D = (n/d)/2^E` satisfies `|N/D − M| ≤ 1/2` (written
`2·M·D ≤ 2·N + D ∧ 2·N ≤ 2·M·D + D`), and is even when `N/D` is exactly half
way; it lies in `[2^52, 2^53]` for a normal result and in `[0, 2^52]` at the
subnormal spacing (`B64.significand_bounds`). -/
theorem C12_rne_ties_even (N D : Nat) (hD : 0 < D) :
    let M := B64.roundHalfEven N D
    (2 * (M * D) ≤ 2 * N + D ∧ 2 * N ≤ 2 * (M * D) + D) ∧
    ((2 * (M * D) = 2 * N + D ∨ 2 * N = 2 * (M * D) + D) → M % 2 = 0) :=
  B64.roundHalfEven_nearest N D hD

/-- The result depends only on the value `n/d`, not on the fraction. -/
theorem C12_rne_scale (n d g : Nat) (hn : 0 < n) (hd : 0 < d) (hg : 0 < g) :
    B64.rneMag (n * g) (d * g) = B64.rneMag n d :=
  B64.rneMag_scale n d g hn hd hg

/-! `B64.rdist a b` is `|a − b|` (`if a < b then b - a else a - b`);
`B64.overflowThr` is the natural number `(2^54 − 1)·2^970 = 2^1024 − 2^970`
(`C12_overflow_threshold`), the midpoint between the largest finite double and
`2^1024`. -/

/-- The full rounding specification of `B64.rne : Rat → bit pattern`
(round to nearest, ties to even, IEEE overflow rule), for EVERY rational:

1. the result is a well-formed non-NaN pattern;
2. when it is finite with value `r`, no finite double `v` — of any binade, of
   either sign — is closer to `q` than `r`, and if some other value is equally
   close the returned pattern is the even one;
3. it is `+Inf` exactly when `q ≥ 2^1024 − 2^970` and `-Inf` exactly when
   `q ≤ −(2^1024 − 2^970)` (i.e. exactly when rounding with an unbounded
   exponent would exceed the largest finite double; the midpoint itself is a
   tie that goes to the even neighbour `2^1024`, so it overflows);
4. it is monotone in value: `q₁ ≤ q₂` with finite results gives `r₁ ≤ r₂`
   (and by 3. the infinite results are ordered too: the set of arguments sent
   to `+Inf` is upward closed, the set sent to `-Inf` downward closed). -/
def C12_rne_nearest_full : Prop :=
  (∀ q : Rat, B64.rne q < 2 ^ 64 ∧ B64.rne q % B64.signBit ≤ B64.infMag) ∧
  (∀ q r : Rat, B64.toRat (B64.rne q) = some r →
    ∀ bits : Nat, bits < 2 ^ 64 → ∀ v : Rat, B64.toRat bits = some v →
      B64.rdist q r ≤ B64.rdist q v ∧
      (B64.rdist q r = B64.rdist q v → v ≠ r → B64.rne q % 2 = 0)) ∧
  (∀ q : Rat, (B64.rne q = B64.infMag ↔ (B64.overflowThr : Rat) ≤ q) ∧
    (B64.rne q = B64.signBit + B64.infMag ↔ q ≤ -(B64.overflowThr : Rat))) ∧
  (∀ q1 q2 : Rat, q1 ≤ q2 → ∀ r1 r2 : Rat,
    B64.toRat (B64.rne q1) = some r1 → B64.toRat (B64.rne q2) = some r2 → r1 ≤ r2)

/-- Proof idea.  `C12/Nearest.lean` (natural numbers in units of `2^-1074`): every
double is below the binade of the result or on its grid (`magUnits_grid`), the
significand is a nearest grid point (`sig_nearest`), so the rounding with an
unbounded exponent returns a nearest pattern, the even one at a tie.
`C12/NearestRat.lean` reads that in `Rat` and for both signs as
`NearestEven dval q (rkey q)`: the finite doubles form one increasing sequence
`dval` and the result is the element at a nearest index, even at a tie.
Monotonicity and the overflow thresholds then follow from the order of the
sequence alone (`C12/NearestEven.lean`). -/
theorem C12_rne_nearest : C12_rne_nearest_full :=
  ⟨B64.rne_wf, B64.rne_nearest, fun q => ⟨B64.rne_eq_inf_iff q, B64.rne_eq_neg_inf_iff q⟩, B64.rne_mono⟩

/-- The specification has one answer.  If a finite double `bits` (value
`v`) satisfies item 2 of `C12_rne_nearest_full` for `q` — at least as close as
every finite double, even pattern at a tie — then its value is the value of
`B64.rne q`.  So a conversion that ever differs in value from `B64.rne`
(`C12_double_rounding_counterexample`) cannot be "nearest, ties to even". -/
theorem C12_rne_unique (q r : Rat) (hr : B64.toRat (B64.rne q) = some r)
    (bits : Nat) (hb : bits < 2 ^ 64) (v : Rat) (hv : B64.toRat bits = some v)
    (hspec : ∀ bits' : Nat, bits' < 2 ^ 64 → ∀ v' : Rat, B64.toRat bits' = some v' →
      B64.rdist q v ≤ B64.rdist q v' ∧ (B64.rdist q v = B64.rdist q v' → v' ≠ v → bits % 2 = 0)) :
    v = r := by
  have h := hspec (B64.rne q) (B64.rne_wf q).1 r hr
  exact B64.rne_unique q r hr bits hb v hv h.1 (fun e ne => h.2 e (Ne.symm ne))

-- non-vacuity: `B64.rne q` itself satisfies the hypothesis `hspec`
example (q r : Rat) (hr : B64.toRat (B64.rne q) = some r) :
    ∀ bits' : Nat, bits' < 2 ^ 64 → ∀ v' : Rat, B64.toRat bits' = some v' →
      B64.rdist q r ≤ B64.rdist q v' ∧ (B64.rdist q r = B64.rdist q v' → v' ≠ r → B64.rne q % 2 = 0) :=
  fun b hb v' hv' => C12_rne_nearest.2.1 q r hr b hb v' hv'

/-- The threshold in closed form. -/
theorem C12_overflow_threshold : (B64.overflowThr : Rat) = (2 : Rat) ^ 1024 - (2 : Rat) ^ 970 :=
  B64.overflowThr_rat

/-- The order of magnitude patterns is the order of the values they denote
(every exponent; the pattern of infinity reads as `2^1024`): this is what makes
"nearest within the binade" nearest among all doubles. -/
theorem C12_pattern_order (m1 m2 : Nat) (h : m1 < m2) : B64.magUnits m1 < B64.magUnits m2 :=
  B64.magUnits_strictMono m1 m2 h

-- non-vacuity: a non-dyadic argument (finite result), a tie across a binade
-- boundary (2^53+1 lies half way between 2^53 and 2^53+2: the even pattern,
-- 2^53, is returned), the two sides of the overflow threshold, underflow to
-- the smallest subnormal / to zero at the half-way point (tie to the even 0)
example : (B64.toRat (B64.rne (mkRat 1 3))).isSome = true := by decide +kernel
example : B64.rne (9007199254740993 : Rat) = 0x4340000000000000 := by decide +kernel
example : B64.rne ((2 ^ 1024 - 2 ^ 970 : Int) : Rat) = B64.infMag ∧
    B64.rne ((2 ^ 1024 - 2 ^ 970 - 1 : Int) : Rat) = B64.infMag - 1 := by constructor <;> decide +kernel
example : B64.rne (mkRat 1 (2 ^ 1075)) = 0 ∧ B64.rne (mkRat 3 (2 ^ 1076)) = 1 ∧
    B64.rne (mkRat (-3) (2 ^ 1075)) = B64.signBit + 2 := by
  refine ⟨?_, ?_, ?_⟩ <;> decide +kernel
example : (mkRat 1 3 : Rat) ≤ mkRat 1 2 := by decide +kernel

/-- In the instance the correspondence run executes, the conversion of an exact
rational (and of a machine integer) to `float64` IS `B64.rne` of its exact
value — a single rounding, specified by `C12_rne_nearest` — whatever the size
of numerator and denominator.  (`big.Rat.Float64` and `float64(int)` on the Go
side are compared with it bit for bit.) -/
theorem C12_conversion_rat_is_rne :
    (∀ q : Rat, convertToFloat64 hwOps (.rat q) = fOfBits (B64.rne q)) ∧
    (∀ n : Int, convertToFloat64 hwOps (.int n) = fOfBits (B64.rne (n : Rat))) ∧
    (∀ q : Rat, runC12 hwOps "inexact-num" [.rat q] = some (.ok [.flt (fOfBits (B64.rne q))])) :=
  ⟨fun _ => rfl, fun _ => rfl, fun _ => rfl⟩

/-- Converting `a/b` as `float64(a) / float64(b)` (`B64.divThenRound`: round
`a`, round `b`, round the quotient of the rounded values) is NOT that
conversion: for `1/(2^53+1)` it yields `2^-53` (`3ca0000000000000`) while the
nearest double is its predecessor (`3c9fffffffffffff`).  The witness is in
`harness/corpus/C12.txt` (`inexact-num r:1/9007199254740993`), so the check
fails if the real `ConvertToFloat64` ever takes that shortcut (seeded change
`C12-rat-to-float-double-rounding`). -/
theorem C12_double_rounding_counterexample :
    ¬ ∀ a b : Int, 0 < b → B64.divThenRound a b = some (B64.rne (mkRat a b.toNat)) := by
  intro h
  have h1 := h 1 9007199254740993 (by decide)
  have e : (9007199254740993 : Int).toNat = 9007199254740993 := by decide
  rw [e, B64.divThenRound_witness.1, B64.divThenRound_witness.2] at h1
  exact absurd (Option.some.inj h1) (by decide)

/-- The double-rounded result is strictly farther from `1/(2^53+1)` than the
correctly rounded one (so it violates item 2 of `C12_rne_nearest_full`). -/
theorem C12_double_rounding_not_nearest :
    ∃ r v : Rat, B64.toRat 0x3c9fffffffffffff = some r ∧ B64.toRat 0x3ca0000000000000 = some v ∧
      B64.rdist (mkRat 1 9007199254740993) r < B64.rdist (mkRat 1 9007199254740993) v :=
  ⟨mkRat 9007199254740991 (2 ^ 106), mkRat 1 (2 ^ 53), by decide +kernel, by decide +kernel, by decide +kernel⟩

/-- `math:pow` outside the exact branch (a float argument, or an exact
non-integer exponent): the instance's `pow` on the two converted arguments.
(`ops.pow` itself — Go's `math.Pow` — is trusted like the other FPU operations;
`./check C12` compares it with libm's `pow` and with an exact reference on the
arguments where the value is specified: the C99 special-case table and exactly
representable integer powers.) -/
theorem C12_pow (ops : F64Ops F) (b e : Num F) (st : Option (Num F))
    (h : (isExact b && isExactInt e) = false) :
    run ops "pow" [b, e] st =
      .ok [.flt (ops.pow (convertToFloat64 ops b) (convertToFloat64 ops e))] := by
  show outs (mathPow ops b e) = _
  unfold mathPow
  simp [h, outs, resMap, fromGo]

example : (isExact (Num.int 4 : Num UInt64) && isExactInt (Num.rat (mkRat 1 2) : Num UInt64)) = false := by
  decide

/-- `range` with a float among start, end and `&step` runs the float loop on
the arguments converted with `ConvertToFloat64` (`0` is the default start). -/
theorem C12_range_float (ops : F64Ops F) (c : FCmp F) (fuel : Nat) (s e : Num F) (step : Option (Num F))
    (h : HasFloat ([s, e] ++ step.toList)) :
    rangeC12 ops c fuel [s, e] step =
      resMap (·.map .flt) (rangeBuiltinFloat ops c fuel (([s, e] ++ step.toList).map (convertToFloat64 ops))) ∧
    (HasFloat ([.int 0, e] ++ step.toList) →
      rangeC12 ops c fuel [e] step =
        resMap (·.map .flt)
          (rangeBuiltinFloat ops c fuel (([.int 0, e] ++ step.toList).map (convertToFloat64 ops)))) := by
  constructor
  · cases step with
    | none => simp only [Option.toList, List.append_nil] at h ⊢; simp only [rangeC12]; rw [unifyNums_float ops _ .int h]; rfl
    | some st => simp only [Option.toList] at h ⊢; simp only [rangeC12]; rw [unifyNums_float ops _ .int h]; rfl
  · intro h'
    cases step with
    | none => simp only [Option.toList, List.append_nil] at h' ⊢; simp only [rangeC12]; rw [unifyNums_float ops _ .int h']; rfl
    | some st => simp only [Option.toList] at h' ⊢; simp only [rangeC12]; rw [unifyNums_float ops _ .int h']; rfl

/-- The float loops: the outputs are `start, start+step, (start+step)+step, …`
(left-nested `ops.add`, i.e. accumulated IEEE additions — NOT `start + i·step`),
every output is strictly inside the range, and the loop ends when the bound is
reached or when adding the step no longer moves the value. -/
theorem C12_range_float_loop (ops : F64Ops F) (c : FCmp F) (end_ step : F) (fuel : Nat) (cur : F) (l : List F) :
    (rangeFloatUp ops c end_ step fuel cur = .ok l →
      l = C12.iterate (fun x => ops.add x step) cur l.length ∧
      (∀ x ∈ l, c.lt x end_ = true) ∧ (∀ x ∈ l.dropLast, c.le (ops.add x step) x = false)) ∧
    (rangeFloatDown ops c end_ step fuel cur = .ok l →
      l = C12.iterate (fun x => ops.add x step) cur l.length ∧
      (∀ x ∈ l, c.lt end_ x = true) ∧ (∀ x ∈ l.dropLast, c.le x (ops.add x step) = false)) :=
  ⟨rangeFloatUp_spec ops c end_ step fuel cur l, rangeFloatDown_spec ops c end_ step fuel cur l⟩

-- non-vacuity: on the bit-pattern toy instance (every sum is 0, "less" is < on
-- patterns) the ascending loop from 0 with end 5 outputs 0 and stops on the guard
example : rangeFloatUp C11.bitsOps ⟨fun a b => a < b, fun a b => a ≤ b⟩ 5 1 10 0 = .ok [0] := by decide
example : HasFloat ([Num.flt (0 : UInt64), .int 3] ++ (none : Option (Num UInt64)).toList) :=
  ⟨.flt 0, by simp, rfl⟩
