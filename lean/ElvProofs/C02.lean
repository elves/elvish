/-
C02 — Errors in prefixes of valid programs are partial, so the REPL keeps reading.

Model: the parser of C01 (`ElvModel/C01/Model.lean`, imported) with the flag
`Partial := From == len(src)` recorded by `errorp`, and the editor side
`ElvModel/C02/Model.lean` (`isSyntaxComplete`, `smartEnter`, `InsertAtDot` of
pkg/edit/builtins.go and pkg/cli/tk/codearea.go).

"Cut at a character boundary": the positions `for i := range code` visits, i.e.
the positions reached from 0 by decoding forward (`Bnd s k`; for valid UTF-8 the
rune boundaries).  A "valid program" is a source on which `Parse` reports no
error; valid UTF-8 is not needed for any of the statements below, so they are
proved for arbitrary byte strings.

Reading of the third sentence ("for every such prefix Enter inserts a newline
instead of submitting"): *such* prefixes are the ones that have parse errors —
a prefix that parses cleanly (`echo a` of `echo ab`) is a complete program and
Enter submits it.  Both directions are proved (`C02_enter_newline_iff_partial`).
-/
import ElvProofs.C02.Main
open Go C01 C02

/-- The property at full strength on the model: for every `unicode.IsPrint` and
every source `s` on which `Parse` reports no error, for every position `k` that
`for k := range s` visits (every rune-boundary cut, `k < len(s)`): `Parse` of
`s[:k]` returns, (1) every error it reports is marked partial, (2) every error
marked partial starts at the very end `k` of that input, (3) if there is an error
at all, `smartEnter` on a code area holding `s[:k]` (dot at the end) inserts a
newline and does not submit; if there is none, it submits. -/
def C02_full : Prop :=
  ∀ (isPrint : Int → Bool) (s : Bytes) (t : Node), parse isPrint s = .ok t [] →
    ∀ k, k ∈ (runes s).map (·.1) →
      ∃ t' errs', parse isPrint (s.take k) = .ok t' errs' ∧
        (∀ x ∈ errs', x.partial_ = true) ∧
        (∀ x ∈ errs', x.partial_ = true → x.frm = k) ∧
        (errs' ≠ [] → smartEnter isPrint { content := s.take k, dot := k } =
          .newline { content := s.take k ++ [10], dot := k + 1 }) ∧
        (errs' = [] → smartEnter isPrint { content := s.take k, dot := k } = .commit)

/-- (i) Second sentence of the property, for EVERY input: an error `Parse`
reports is marked partial iff it starts at the very end of the input.  This pins
`parser.errorp` (which sets the flag) and `edit.isSyntaxComplete` (which looks at
the position) to the same criterion. -/
theorem C02_partial_iff_at_end (isPrint : Int → Bool) (src : Bytes) (t : Node) (errs : List PErr)
    (h : parse isPrint src = .ok t errs) : ∀ x ∈ errs, (x.partial_ = true ↔ x.frm = src.length) :=
  flag_iff_at_end h

/-- `isSyntaxComplete(code)` is false exactly when some parse error of `code` is
marked partial. -/
theorem C02_isSyntaxComplete_iff_no_partial (isPrint : Int → Bool) (code : Bytes) :
    ∃ t errs, parse isPrint code = .ok t errs ∧
      isSyntaxComplete isPrint code = .ok (!errs.any (fun e => e.partial_)) := by
  obtain ⟨t, errs, h⟩ := parse_total isPrint code
  exact ⟨t, errs, h, isSyntaxComplete_iff h⟩

/-- (ii) Third sentence, for EVERY buffer with the dot inside the content: Enter
inserts a newline at the dot (and does not submit) iff some parse error of the
content is marked partial; otherwise it submits the code unchanged. -/
theorem C02_enter_newline_iff_partial (isPrint : Int → Bool) (buf : CodeBuffer)
    (h0 : 0 ≤ buf.dot) (h1 : buf.dot ≤ buf.content.length) :
    ∃ t errs, parse isPrint buf.content = .ok t errs ∧
      ((∃ x ∈ errs, x.partial_ = true) →
        smartEnter isPrint buf = .newline
          { content := buf.content.take buf.dot.toNat ++ [10] ++ buf.content.drop buf.dot.toNat,
            dot := buf.dot + 1 }) ∧
      ((∀ x ∈ errs, x.partial_ = false) → smartEnter isPrint buf = .commit) := by
  obtain ⟨t, errs, h⟩ := parse_total isPrint buf.content
  refine ⟨t, errs, h, ?_, ?_⟩
  · intro ⟨x, hx, hp⟩
    have hany : errs.any (fun e => e.partial_) = true := List.any_eq_true.2 ⟨x, hx, hp⟩
    unfold smartEnter
    rw [isSyntaxComplete_iff h, hany]
    simp only [Bool.not_true]
    rw [insertAtDot_ok buf [10] h0 h1]
    simp
  · intro hall
    have hany : errs.any (fun e => e.partial_) = false := by
      rw [List.any_eq_false]
      intro x hx; simp [hall x hx]
    unfold smartEnter
    rw [isSyntaxComplete_iff h, hany]
    simp

/-- (iii) Every error raised while the parser is at the end of the input is
partial: started with `pos = len(src)` (where `peek` returns `EOF`), every grammar
function — any node type, any fuel — stays at the end, appends only errors that
are partial and start at `len(src)`, and returns with at least as many pending
`EOF` reads as it found: each `backup` after an `EOF` `next` only decrements
`overEOF` and never moves `pos` back (the `overEOF` discipline, per call site). -/
theorem C02_error_at_eof_is_partial (isPrint : Int → Bool) (src : Bytes) (fuel : Nat) (nt : NT)
    (st st' : St) (a : Node) (hpos : st.pos = src.length)
    (hr : parseNT fuel nt { isPrint := isPrint, src := src } st = .ok a st') :
    st'.pos = src.length ∧ st.overEOF ≤ st'.overEOF ∧
      ∃ l, st'.errors = st.errors ++ l ∧ ∀ x ∈ l, x.partial_ = true ∧ x.frm = src.length :=
  at_eof_partial isPrint src fuel nt st st' a hpos hr

/-- (iv) The prefix claim for the lexical layer, as a lock-step statement
(`C02.LockStep`): run on a source and on its prefix cut at a boundary `k`, from a
common state before the cut, each of the scanners below either does the same on
both (same value, same state) or — when the run on the whole source returned
without error — the run on the prefix ends at the cut with only partial errors.
Covers cuts inside single-quoted strings, double-quoted strings and their escape
sequences (`\c`, `\^`, `\x`, `\u`, `\U`, octal, one-letter), quoted variable names
(`$'…'`, `$"…"`), and whitespace with comments and `^` line continuations. -/
theorem C02_prefix_lexical_partial (isPrint : Int → Bool) (s : Bytes) (k : Nat) (hk : k < s.length)
    (hb : Bnd s k) (nb : NB) (newlines : Bool) :
    LockStep isPrint s k (singleQuoted nb) ∧ LockStep isPrint s k (doubleQuoted nb) ∧
      LockStep isPrint s k doubleQuotedEscape ∧ LockStep isPrint s k (variableP nb) ∧
      LockStep isPrint s k (parseSpacesInner nb newlines) := by
  let c : Cut := { ip := isPrint, s := s, k := k }
  have g : c.Good := ⟨hk, hb⟩
  exact ⟨singleQuoted_J2.lockStep g, doubleQuoted_J2.lockStep g, doubleQuotedEscape_J2.lockStep g,
    variableP_J2.lockStep g, parseSpacesInner_J2.lockStep g⟩

/-- (v) First sentence of the property, for the whole grammar: if `Parse`
reports no error on `s`, then for every boundary `k < len(s)` every error `Parse`
reports on `s[:k]` is marked partial.  (Lock-step simulation of the two runs up
to the first observation at or beyond `k`; `s` has no error, so none precedes
that point; after it the run on the prefix is at its end — or one `&` before it,
which `Pipeline.parse` then consumes — and (iii) applies.) -/
theorem C02_prefix_partial (isPrint : Int → Bool) (s : Bytes) (k : Nat) (t : Node)
    (hs : parse isPrint s = .ok t []) (hk : k < s.length) (hb : Bnd s k) :
    ∃ t' errs', parse isPrint (s.take k) = .ok t' errs' ∧ ∀ x ∈ errs', x.partial_ = true := by
  obtain ⟨t', errs', hp⟩ := parse_total isPrint (s.take k)
  exact ⟨t', errs', hp, prefix_partial hs hk hb hp⟩

/-- The positions `for k := range s` visits are boundaries below `len(s)`. -/
theorem C02_range_positions_are_boundaries (s : Bytes) (k : Nat) (h : k ∈ (runes s).map (·.1)) :
    Bnd s k ∧ k < s.length := by
  obtain ⟨x, hx, rfl⟩ := List.mem_map.1 h
  exact runes_bnd s x hx

/-- The property at full strength on the model. -/
theorem C02_prefix_partial_and_enter : C02_full := by
  intro isPrint s t hs k hkm
  obtain ⟨hb, hk⟩ := C02_range_positions_are_boundaries s k hkm
  obtain ⟨t', errs', hp, hall⟩ := C02_prefix_partial isPrint s k t hs hk hb
  have hlen : (s.take k).length = k := by simp; omega
  have hflag := flag_iff_at_end hp
  obtain ⟨t'', errs'', hp', hnl, hcm⟩ :=
    C02_enter_newline_iff_partial isPrint { content := s.take k, dot := k } (by simp) (by simp [hlen])
  simp only at hp'
  rw [hp] at hp'
  simp only [ParseResult.ok.injEq] at hp'
  obtain ⟨rfl, rfl⟩ := hp'
  refine ⟨t', errs', hp, hall, ?_, ?_, ?_⟩
  · intro x hx hpx
    rw [(hflag x hx).1 hpx, hlen]
  · intro hne
    obtain ⟨x, hx⟩ := List.exists_mem_of_ne_nil _ hne
    have := hnl ⟨x, hx, hall x hx⟩
    rw [this]
    simp only [Int.toNat_natCast, Enter.newline.injEq, CodeBuffer.mk.injEq, and_true]
    rw [List.take_of_length_le (Nat.le_of_eq hlen), List.drop_of_length_le (Nat.le_of_eq hlen)]
    simp
  · intro he
    exact hcm (by rw [he]; intro x hx; cases hx)

/-- `e 'a'` -/
def C02_src0 : Bytes := [101, 32, 39, 97, 39]

def C02_errs (r : ParseResult) : Option (List (Nat × Nat × Bool)) :=
  match r with
  | .ok _ e => some (e.map fun x => (x.frm, x.to, x.partial_))
  | _ => none

set_option maxRecDepth 100000 in
/-- `e 'a'` parses without error (hypothesis of `C02_prefix_partial`) … -/
example : ∃ t, parse (fun _ => false) C02_src0 = .ok t [] := by
  have h : C02_errs (parse (fun _ => false) C02_src0) = some [] := by decide +kernel
  cases hr : parse (fun _ => false) C02_src0 with
  | ok t e => rw [hr] at h; simp [C02_errs] at h; exact ⟨t, by rw [h]⟩
  | panic w => rw [hr] at h; cases h
  | fuel => rw [hr] at h; cases h

set_option maxRecDepth 100000 in
/-- … 4 is one of its cuts (`e 'a`), whose only error is at 4 = the end and partial. -/
example : 4 ∈ (runes C02_src0).map (·.1) ∧
    C02_errs (parse (fun _ => false) (C02_src0.take 4)) = some [(4, 4, true)] := by decide +kernel

set_option maxRecDepth 100000 in
/-- Enter on `e 'a` inserts a newline; on `e 'a'` it submits. -/
example : smartEnter (fun _ => false) { content := C02_src0.take 4, dot := 4 } =
      .newline { content := C02_src0.take 4 ++ [10], dot := 5 } ∧
    smartEnter (fun _ => false) { content := C02_src0, dot := 5 } = .commit := by decide +kernel

set_option maxRecDepth 100000 in
/-- A non-partial error exists (so clause (i) is not trivially "all partial"): `a )`. -/
example : C02_errs (parse (fun _ => false) [97, 32, 41]) = some [(2, 3, false)] := by decide +kernel

set_option maxRecDepth 100000 in
/-- The `&` look-ahead case of (v): `a &b=c` cut after the `&` — `a &` is a
complete program (a background job), no error at all. -/
example : C02_errs (parse (fun _ => false) ([97, 32, 38, 98, 61, 99] : Bytes)) = some [] ∧
    C02_errs (parse (fun _ => false) (([97, 32, 38, 98, 61, 99] : Bytes).take 3)) = some [] := by decide +kernel
