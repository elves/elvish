import ElvProofs.C10.Lemmas
/-!
# C10 — `order` outputs a stable sorted permutation of its input

Full statement, for every comparator `less` that is a strict weak
order on the keys and does not fail, every key function that does not fail,
every finite input and both values of `&reverse`:

* the output is a permutation of the input;
* no value comes before a value that compares smaller (larger with `&reverse`);
* values that compare equal keep their input order;
* the output is THE stable sort: any routine meeting `sort.Stable`'s contract
  gives the same list (`C10_stable_sorted_unique`), so the model (merge sort)
  speaks for the library;
* `&key f` is decorate–sort–undecorate;
* a failing key callback, a failing comparison, or `&total` with `&less-than`
  makes `order` return the exception with NO output (outputs exist only in
  the `ok` outcome, produced after the sort has finished).

Stated-not-hidden: "an uncomparable pair makes order throw" is proved for the
model, which throws if ANY pair of distinct positions fails to compare; the
library only throws if it actually compares such a pair.  For comparability
by type class (an equivalence) every stable merge/insertion sort must compare
some cross-class pair; for lists, comparability is not transitive
(`[1]`, `[]`, `[a]`) and the claim is only sampled.
-/
open Go C10 List

/-- Uniqueness: two stable sorts of the same list w.r.t. the same `le` are equal. -/
theorem C10_stable_sorted_unique {α} (le : α → α → Bool) (l r₁ r₂ : List α)
    (h₁ : IsStableSort le l r₁) (h₂ : IsStableSort le l r₂) : r₁ = r₂ :=
  isStableSort_unique h₁ h₂

/-- The model's sort meets the `sort.Stable` contract for every strict weak order. -/
theorem C10_stableSort_isStableSort {α} (less : α → α → Bool) (h : StrictWeak less) (l : List α) :
    IsStableSort (leOf less) l (stableSort less l) :=
  mergeSort_isStableSort (leOf_trans h) (leOf_total h) l

/-- Permutation. -/
theorem C10_perm {α} (less : α → α → Bool) (l : List α) : (stableSort less l).Perm l :=
  mergeSort_perm _ _

/-- Sorted: no value before a value that compares smaller. -/
theorem C10_sorted {α} (less : α → α → Bool) (h : StrictWeak less) (l : List α) :
    (stableSort less l).Pairwise (fun a b => less b a = false) := by
  have := pairwise_mergeSort (le := leOf less) (leOf_trans h) (leOf_total h) l
  simpa [stableSort, leOf] using this

/-- Stable: if `a` is before `b` in the input and `b` is not smaller than `a`,
`a` is before `b` in the output. -/
theorem C10_stable {α} (less : α → α → Bool) (h : StrictWeak less) (l : List α) (a b : α)
    (hab : less b a = false) (hs : [a, b] <+ l) : [a, b] <+ stableSort less l :=
  pair_sublist_mergeSort (leOf_trans h) (leOf_total h) (by simp [leOf, hab]) hs

/-- `&reverse` (`sort.Reverse` under `sort.Stable`): descending, and still
input order among equals. -/
theorem C10_reverse {α} (less : α → α → Bool) (h : StrictWeak less) (l : List α) :
    (stableSort (revLess less) l).Perm l ∧
    (stableSort (revLess less) l).Pairwise (fun a b => less a b = false) ∧
    (∀ a b, less a b = false → [a, b] <+ l → [a, b] <+ stableSort (revLess less) l) := by
  refine ⟨C10_perm _ _, ?_, ?_⟩
  · simpa [revLess] using C10_sorted (revLess less) h.rev l
  · intro a b hab hs
    exact C10_stable (revLess less) h.rev l a b (by simpa [revLess] using hab) hs

/-- The `order` builtin, success path: with a non-failing key `f` and a
non-failing comparator, the result is the stable sort of the input by the
composed comparator (decorate–sort–undecorate). -/
theorem C10_order_ok {ν κ} (opts : Opts) (f : ν → κ) (less : κ → κ → Bool) (inputs : List ν)
    (hopt : (opts.total && opts.hasLessThan) = false) :
    order opts (fun v => .ok (f v)) (fun a b => .ok (less a b)) inputs
      = .ok (stableSort (fun a b => (if opts.reverse then revLess less else less) (f a) (f b)) inputs) := by
  simp only [order, hopt, Bool.false_eq_true, if_false, decorate_ok, firstErr_pure, pureLess,
    stableSort]
  cases opts.reverse <;> simp only [Bool.false_eq_true, if_false, if_true] <;> congr 1
  · exact map_snd_mergeSort_decorated f (leOf less) inputs
  · exact map_snd_mergeSort_decorated f (leOf (revLess less)) inputs

/-- Hence the full success-path statement: permutation, sorted, stable. -/
theorem C10_order_sorted_stable_perm {ν κ} (f : ν → κ) (less : κ → κ → Bool) (h : StrictWeak less)
    (inputs : List ν) :
    ∃ out, order {} (fun v => .ok (f v)) (fun a b => .ok (less a b)) inputs = .ok out ∧
      out.Perm inputs ∧
      out.Pairwise (fun a b => less (f b) (f a) = false) ∧
      (∀ a b, less (f b) (f a) = false → [a, b] <+ inputs → [a, b] <+ out) := by
  have hsw : StrictWeak (fun a b : ν => less (f a) (f b)) :=
    ⟨fun a b => h.asymm _ _, fun a b c => h.negTrans _ _ _⟩
  refine ⟨_, C10_order_ok {} f less inputs rfl, ?_, ?_, ?_⟩
  · exact C10_perm _ _
  · exact C10_sorted _ hsw _
  · intro a b hab hs; exact C10_stable _ hsw _ a b hab hs

/-- `&total` together with `&less-than` is rejected before anything else happens. -/
theorem C10_total_and_lessthan_rejected {ν κ} (opts : Opts) (key : ν → Res κ) (less : LessR κ)
    (inputs : List ν) (h : opts.total = true ∧ opts.hasLessThan = true) :
    order opts key less inputs = .exc "both &total and &less-than specified" := by
  simp [order, h.1, h.2]

/-- A failing key callback makes `order` fail (first failure, in input order). -/
theorem C10_key_failure {ν κ} (opts : Opts) (key : ν → Res κ) (less : LessR κ) (inputs : List ν) (e : String)
    (hopt : (opts.total && opts.hasLessThan) = false)
    (h : decorate key inputs = .exc e) : order opts key less inputs = .exc e := by
  simp [order, hopt, h]

/-- A failing comparison among the keys makes `order` fail. -/
theorem C10_compare_failure {ν κ} (opts : Opts) (f : ν → κ) (less : LessR κ) (inputs : List ν) (e : String)
    (hopt : (opts.total && opts.hasLessThan) = false)
    (h : firstErr less (inputs.map f) = some e) :
    order opts (fun v => .ok (f v)) less inputs = .exc e := by
  simp [order, hopt, decorate_ok, Function.comp_def, h]

/-- Atomicity: `order` yields either all outputs or an exception — never an
exception after some outputs (outputs exist only in the `ok` outcome, and
that outcome is a permutation of the input, so it is never a strict part). -/
theorem C10_atomic {ν κ} (opts : Opts) (key : ν → Res κ) (less : LessR κ) (inputs out : List ν)
    (h : order opts key less inputs = .ok out) : out.length = inputs.length :=
  (order_perm opts key less inputs out h).length_eq

/-- Integer `<` is a strict weak order: the hypotheses are satisfiable. -/
example : StrictWeak (fun a b : Int => decide (a < b)) :=
  ⟨by intro a b h; simp at *; omega, by intro a b c h; simp at *; omega⟩

/-- The success-path theorem instantiated on a concrete input with duplicate
keys carrying payloads (all hypotheses discharged). -/
example := C10_order_sorted_stable_perm (fun p : Nat × Nat => p.1) (fun a b => decide (a < b))
  ⟨by intro a b h; simp at *; omega, by intro a b c h; simp at *; omega⟩ [(2, 0), (1, 1), (2, 2), (1, 3)]
/-- A concrete stable sort with duplicates carrying payloads, and its reverse. -/
example : stableSort (fun a b : Nat × Nat => decide (a.1 < b.1)) [(2, 0), (1, 1), (2, 2), (1, 3)]
    = [(1, 1), (1, 3), (2, 0), (2, 2)] := by
  simp [stableSort, leOf, List.mergeSort, List.MergeSort.Internal.splitInTwo]
example : stableSort (revLess fun a b : Nat × Nat => decide (a.1 < b.1)) [(2, 0), (1, 1), (2, 2), (1, 3)]
    = [(2, 0), (2, 2), (1, 1), (1, 3)] := by
  simp [stableSort, revLess, leOf, List.mergeSort, List.MergeSort.Internal.splitInTwo]
/-- An uncomparable pair makes the model throw. -/
example : order {} (fun v => .ok v) lessDefault [Val.int 1, Val.str [97]] = .exc "uncomparable" := by
  have h : cmp (Val.int 1) (Val.str [97]) = .uncomparable := by rw [cmp] <;> (intros; simp_all)
  simp [order, decorate, firstErr, pairs, lessDefault, h]
