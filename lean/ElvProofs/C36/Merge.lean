/-
C36 helpers — emphasis resolution and text merging of the C35 reference on
item lists without closers / of text nodes only; `parseInlines` of escaped text.
-/
import ElvProofs.C36.Inline
namespace C36
open Go C35

/-- an item that `procEmph` just moves to the left -/
def nonCloser : Item → Bool
  | .delim _ _ _ _ true => false
  | _ => true

theorem procEmph_noclosers : ∀ (right left : List Item) (fuel : Nat), right.length < fuel →
    (∀ it ∈ right, nonCloser it = true) → procEmph fuel left right = some (right.reverse ++ left) := by
  intro right
  induction right with
  | nil =>
    intro left fuel hf _
    cases fuel with
    | zero => omega
    | succ f => simp [procEmph]
  | cons it r ih =>
    intro left fuel hf h
    cases fuel with
    | zero => omega
    | succ f =>
      have hit := h it List.mem_cons_self
      have hr : ∀ x ∈ r, nonCloser x = true := fun x hx => h x (List.mem_cons_of_mem _ hx)
      have hlen : r.length < f := by simp at hf; omega
      unfold procEmph
      split
      · simp [nonCloser] at hit
      · rw [ih (it :: left) f hlen hr]; simp

theorem resolveEmph_noclosers (items : List Item) (h : ∀ it ∈ items, nonCloser it = true) :
    resolveEmph items = some (items.map itemToInl) := by
  unfold resolveEmph
  rw [procEmph_noclosers items [] (emphFuel items) (by simp [emphFuel]; omega) h]
  simp

theorem resolveEmph_nodes (ts : List Bytes) :
    resolveEmph (ts.map mkT) = some (ts.map Inl.text) := by
  rw [resolveEmph_noclosers]
  · simp [mkT, itemToInl, Function.comp_def]
  · intro it hit
    rcases List.mem_map.mp hit with ⟨x, _, rfl⟩
    rfl

theorem mergeText_texts (fuel : Nat) (ts : List Bytes) :
    mergeText (fuel + 1) (ts.map Inl.text) = if ts.flatten = [] then [] else [Inl.text ts.flatten] := by
  induction ts with
  | nil => simp [mergeText]
  | cons a t ih =>
    unfold mergeText at ih ⊢
    simp only [List.map_cons, List.foldr_cons] at ih ⊢
    rw [ih]
    by_cases ht : t.flatten = []
    · cases a <;> simp [ht]
    · simp [ht]

theorem parseInlines_of_scan (U : UClass) (s : Bytes) (ts : List Bytes) (p : Nat)
    (h : scan U { acc := [], prev := NL.toNat, skip := 0, bad := false } s =
      { acc := (ts.map mkT).reverse, prev := p, skip := 0, bad := false }) :
    parseInlines U s = some (if ts.flatten = [] then [] else [Inl.text ts.flatten]) := by
  unfold parseInlines
  simp only [h, Bool.false_eq_true, if_false, List.reverse_reverse, resolveEmph_nodes]
  rw [mergeText_texts]

theorem parseInlines_escA (U : UClass) (s : Bytes) (h : ∀ b ∈ s, isEscSpB b = true) :
    parseInlines U (escA s) = some (if s = [] then [] else [Inl.text s]) := by
  obtain ⟨ts, p, h1, h2⟩ := scan_escA U s h 0
    { acc := [], prev := NL.toNat, skip := 0, bad := false } [] rfl ⟨nofun, rfl, nofun⟩
  simp only [List.replicate_zero, List.nil_append, List.append_nil] at h1 h2
  rw [parseInlines_of_scan U _ ts p (by rw [h1]; rfl), h2]

end C36
