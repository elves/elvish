/-
C36 helpers — reflow of plain words, read-back side: the C35 reference
tokenizer on lines of plain words separated by newlines.
-/
import ElvProofs.C36.Reflow
namespace C36
open Go C35

/-- `scan_escA` on a line of plain words, on which escaping is the identity; what follows is the end of the
text or a newline. -/
theorem scan_line (U : UClass) (l : List Bytes) (hl : l ≠ []) (h : ∀ w ∈ l, PlainWord w)
    (st : Scan) (rest : Bytes) (hs : st.skip = 0) (hr : rest.head? = none ∨ rest.head? = some NL) :
    ∃ (ts : List Bytes) (p : Nat),
      scan U st (joinSp l ++ rest) =
        scan U { acc := (ts.map mkT).reverse ++ st.acc, prev := p, skip := 0, bad := st.bad } rest ∧
      ts.flatten = joinSp l := by
  have hb := joinSp_bytes l h
  obtain ⟨e, hlast, he⟩ := joinSp_last l hl h
  have hc : ContOK (List.replicate 0 SP ++ joinSp l) rest := by
    refine ⟨?_, ?_, fun _ => ?_⟩
    · rcases hr with hr | hr <;> simp [hr, SP, NL]
    · rcases hr with hr | hr <;> simp [hr, NL]
    · rw [List.replicate_zero, List.nil_append, hlast]
      intro hx
      injection hx with hx
      subst hx
      exact absurd he (by decide)
  have := scan_escA U (joinSp l) (fun b hb' => (alnum_facts b (hb b hb')).1) 0 st rest hs hc
  simp only [List.replicate_zero, List.nil_append] at this
  rwa [escA_id _ (fun b hb' => (alnum_facts b (hb b hb')).2.1)] at this

theorem scan_nl (U : UClass) (st : Scan) (rest : Bytes) (hs : st.skip = 0)
    (h : rest.head? ≠ some SP) :
    scan U st (NL :: rest) =
      scan U { acc := .node .softbreak :: st.acc, prev := NL.toNat, skip := 0, bad := st.bad } rest := by
  rw [scan_cons0 U st _ _ hs]
  have hc : countWhile (· == SP) rest = 0 := by
    cases rest with
    | nil => rfl
    | cons c r =>
      have : c ≠ SP := by intro hx; subst hx; exact h rfl
      simp [countWhile, this]
  unfold tokenAt
  simp [NL, SP] at hc ⊢
  simp [hc]

/-- pieces of text per line, soft breaks between lines -/
def segInls : List (List Bytes) → List Inl
  | [] => []
  | [ts] => ts.map Inl.text
  | ts :: rest => ts.map Inl.text ++ Inl.softbreak :: segInls rest

/-- one text per line, soft breaks between lines -/
def lineInls : List Bytes → List Inl
  | [] => []
  | [x] => [Inl.text x]
  | x :: xs => Inl.text x :: Inl.softbreak :: lineInls xs

theorem segInls_cons_cons (a b : List Bytes) (r : List (List Bytes)) :
    segInls (a :: b :: r) = a.map Inl.text ++ Inl.softbreak :: segInls (b :: r) := rfl
theorem lineInls_cons_cons (a b : Bytes) (r : List Bytes) :
    lineInls (a :: b :: r) = Inl.text a :: Inl.softbreak :: lineInls (b :: r) := rfl
theorem joinNL_cons_cons (a b : Bytes) (r : List Bytes) :
    joinNL (a :: b :: r) = a ++ NL :: joinNL (b :: r) := rfl

theorem joinNL_head (a : Bytes) (r : List Bytes) (c : UInt8) (t : Bytes) (h : a = c :: t) :
    (joinNL (a :: r)).head? = some c := by
  subst h
  cases r <;> simp [joinNL]

theorem scan_lines (U : UClass) : ∀ (ls : List (List Bytes)), ls ≠ [] →
    (∀ l ∈ ls, l ≠ [] ∧ ∀ w ∈ l, PlainWord w) →
    ∀ (st : Scan), st.skip = 0 →
    ∃ (segs : List (List Bytes)) (p : Nat),
      scan U st (joinNL (ls.map joinSp)) =
        { acc := ((segInls segs).map Item.node).reverse ++ st.acc, prev := p, skip := 0, bad := st.bad } ∧
      segs.map List.flatten = ls.map joinSp := by
  intro ls
  induction ls with
  | nil => intro h; exact absurd rfl h
  | cons l rest ih =>
    intro _ h st hs
    have hl := h l List.mem_cons_self
    cases rest with
    | nil =>
      obtain ⟨ts, p, h1, h2⟩ := scan_line U l hl.1 hl.2 st [] hs (Or.inl rfl)
      refine ⟨[ts], p, ?_, by simp [h2]⟩
      simp only [List.map_cons, List.map_nil, joinNL]
      rw [List.append_nil] at h1
      rw [h1]
      simp [scan, segInls, mkT, Function.comp_def]
    | cons m ms =>
      have hrest : ∀ x ∈ m :: ms, x ≠ [] ∧ ∀ w ∈ x, PlainWord w :=
        fun x hx => h x (List.mem_cons_of_mem _ hx)
      have hm := hrest m List.mem_cons_self
      obtain ⟨c, t, he, hc⟩ := joinSp_head m hm.1 hm.2
      have hcf := alnum_first_facts c hc
      simp only [List.map_cons] at ih ⊢
      rw [joinNL_cons_cons]
      obtain ⟨ts, p, h1, h2⟩ := scan_line U l hl.1 hl.2 st (NL :: joinNL (joinSp m :: ms.map joinSp)) hs
        (Or.inr rfl)
      rw [h1]
      have hnl := scan_nl U { acc := (ts.map mkT).reverse ++ st.acc, prev := p, skip := 0, bad := st.bad }
        (joinNL (joinSp m :: ms.map joinSp)) rfl
        (by rw [joinNL_head _ _ c t he]; simp; intro hx; subst hx; simp [SP] at hcf)
      rw [hnl]
      obtain ⟨segs, p2, h3, h4⟩ := ih (by simp) hrest
        { acc := .node .softbreak :: ((ts.map mkT).reverse ++ st.acc), prev := NL.toNat, skip := 0, bad := st.bad } rfl
      cases segs with
      | nil => simp at h4
      | cons s0 sr =>
        refine ⟨ts :: s0 :: sr, p2, ?_, by rw [List.map_cons, h2, h4]⟩
        rw [h3, segInls_cons_cons]
        simp [mkT, Function.comp_def]

theorem mergeText_softbreak (f : Nat) (R : List Inl) :
    mergeText (f + 1) (Inl.softbreak :: R) = Inl.softbreak :: mergeText (f + 1) R := by
  unfold mergeText
  simp only [List.map_cons, List.foldr_cons]

theorem mergeText_texts_append (f : Nat) (ts : List Bytes) (R : List Inl)
    (hX : mergeText (f + 1) R = [] ∨ ∃ Y, mergeText (f + 1) R = Inl.softbreak :: Y) :
    mergeText (f + 1) (ts.map Inl.text ++ R) =
      if ts.flatten = [] then mergeText (f + 1) R else Inl.text ts.flatten :: mergeText (f + 1) R := by
  induction ts with
  | nil => simp
  | cons a t ih =>
    unfold mergeText at ih hX ⊢
    simp only [List.map_cons, List.cons_append, List.foldr_cons, List.flatten_cons] at ih hX ⊢
    rw [ih]
    rcases hX with hX | ⟨Y, hX⟩
    · rw [hX]
      by_cases ht : t.flatten = []
      · cases a <;> simp [ht]
      · simp [ht]
    · rw [hX]
      by_cases ht : t.flatten = []
      · cases a <;> simp [ht]
      · simp [ht]

theorem mergeText_segs (f : Nat) : ∀ (segs : List (List Bytes)), (∀ seg ∈ segs, seg.flatten ≠ []) →
    mergeText (f + 1) (segInls segs) = lineInls (segs.map List.flatten) := by
  intro segs
  induction segs with
  | nil => intro _; simp [segInls, lineInls, mergeText]
  | cons a r ih =>
    intro h
    have ha := h a List.mem_cons_self
    cases r with
    | nil =>
      simp only [segInls, List.map_cons, List.map_nil, lineInls]
      rw [mergeText_texts, if_neg ha]
    | cons b r' =>
      have ih' := ih (fun x hx => h x (List.mem_cons_of_mem _ hx))
      rw [segInls_cons_cons, mergeText_texts_append f a _ (Or.inr ⟨_, mergeText_softbreak f _⟩),
        if_neg ha, mergeText_softbreak, ih']
      rfl

theorem parseInlines_lines (U : UClass) (ls : List (List Bytes)) (hne : ls ≠ [])
    (h : ∀ l ∈ ls, l ≠ [] ∧ ∀ w ∈ l, PlainWord w) :
    parseInlines U (joinNL (ls.map joinSp)) = some (lineInls (ls.map joinSp)) := by
  obtain ⟨segs, p, h1, h2⟩ := scan_lines U ls hne h
    { acc := [], prev := NL.toNat, skip := 0, bad := false } rfl
  have hseg : ∀ seg ∈ segs, seg.flatten ≠ [] := by
    intro seg hs hflat
    have : seg.flatten ∈ ls.map joinSp := by rw [← h2]; exact List.mem_map.mpr ⟨seg, hs, rfl⟩
    rcases List.mem_map.mp this with ⟨l, hl, hjl⟩
    obtain ⟨c, t, he, _⟩ := joinSp_head l (h l hl).1 (h l hl).2
    rw [hflat, he] at hjl
    cases hjl
  unfold parseInlines
  simp only [h1, List.append_nil, Bool.false_eq_true, if_false, List.reverse_reverse]
  rw [resolveEmph_noclosers _ (by
    intro it hit
    rcases List.mem_map.mp hit with ⟨x, _, rfl⟩
    rfl)]
  simp only [List.map_map]
  have : (itemToInl ∘ Item.node) = id := by funext x; rfl
  rw [this, List.map_id, mergeText_segs _ segs hseg, h2]

end C36
