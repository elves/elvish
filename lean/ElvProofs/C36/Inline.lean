/-
C36 helpers — the inline-level core of escape soundness: `escapeText` on a
byte class, and the C35 reference tokenizer (`scan`) on the escaped text.
-/
import ElvModel.C35.RefHtml
import ElvProofs.C36.Lemmas
import ElvProofs.Lemmas.List
import ElvProofs.Lemmas.Utf8.Basic
namespace C36
open Go C35

/-- bytes that `escapeText` always writes as backslash + byte -/
def isBslB (b : UInt8) : Bool :=
  b == 0x5B || b == 0x5D || b == 0x2A || b == 0x60 || b == 0x5C || b == 0x3C

/-- printable ASCII other than SP, `_` and `&` (whose treatment depends on the
context) -/
def isEscB (b : UInt8) : Bool := 0x20 < b && b < 0x7F && b != 0x5F && b != 0x26

def isEscSpB (b : UInt8) : Bool := isEscB b || b == SP

def esc1 (b : UInt8) : Bytes := if isBslB b then [0x5C, b] else [b]

/-- the escaped form of a string over the class -/
def escA (s : Bytes) : Bytes := s.flatMap esc1

theorem escA_cons (b : UInt8) (t : Bytes) : escA (b :: t) = esc1 b ++ escA t := by
  simp [escA]

theorem escA_nil : escA [] = [] := rfl

theorem isBslB_false {b : UInt8} (h : isBslB b = false) :
    (b == 0x5B) = false ∧ (b == 0x5D) = false ∧ (b == 0x2A) = false ∧ (b == 0x60) = false ∧
    (b == 0x5C) = false ∧ (b == 0x3C) = false := by
  simp only [isBslB, Bool.or_eq_false_iff] at h
  obtain ⟨⟨⟨⟨⟨h1, h2⟩, h3⟩, h4⟩, h5⟩, h6⟩ := h
  exact ⟨h1, h2, h3, h4, h5, h6⟩

theorem isBslB_punct {b : UInt8} (h : isBslB b = true) : isAsciiPunctB b = true := by
  simp only [isBslB, Bool.or_eq_true, beq_iff_eq] at h
  rcases h with ((((rfl | rfl) | rfl) | rfl) | rfl) | rfl <;> decide

theorem isEscSpB_toNat_lt {b : UInt8} (h : isEscSpB b = true) : b.toNat < 0x80 := by
  simp only [isEscSpB, isEscB, Bool.or_eq_true, Bool.and_eq_true, decide_eq_true_eq, beq_iff_eq] at h
  rcases h with ⟨⟨⟨_, h⟩, _⟩, _⟩ | rfl
  · have := UInt8.lt_iff_toNat_lt.mp h
    exact Nat.lt_trans this (by decide)
  · decide

theorem isEscSpB_of_isEscB {b : UInt8} (h : isEscB b = true) : isEscSpB b = true := by
  simp [isEscSpB, h]

theorem eq_SP_of_not_isEscB {b : UInt8} (h : isEscSpB b = true) (h' : isEscB b = false) : b = SP := by
  simpa [isEscSpB, h'] using h

theorem esc1_of_bsl {b : UInt8} (h : isBslB b = true) : esc1 b = [0x5C, b] := by simp [esc1, h]
theorem esc1_of_not_bsl {b : UInt8} (h : isBslB b = false) : esc1 b = [b] := by simp [esc1, h]

theorem escStep_class (G : GoU) (st : Esc) (b : UInt8) (t : Bytes) (hb : isEscSpB b = true)
    (hs : st.skip = 0) :
    escStep G st b t = { out := (esc1 b).reverse ++ st.out, prev := (b.toNat, 1), skip := 0 } := by
  have h5f : (b == 0x5F) = false := beq_false_of_class hb (by decide)
  have h26 : (b == 0x26) = false := beq_false_of_class hb (by decide)
  have h80 := isEscSpB_toNat_lt hb
  unfold escStep esc1 isBslB
  by_cases h5 : (b == 0x5B || b == 0x5D || b == 0x2A || b == 0x60 || b == 0x5C) = true
  · simp [h5, hs]
  · by_cases h3 : (b == 0x3C) = true
    · simp [h5, h3, h5f, h26, hs]
    ·       simp [h5, h3, h5f, h26, decodeRune_one b t h80]

theorem escScan_class (G : GoU) : ∀ (s : Bytes) (st : Esc), st.skip = 0 →
    (∀ b ∈ s, isEscSpB b = true) →
    (escScan G st s).out = (escA s).reverse ++ st.out := by
  intro s
  induction s with
  | nil => intro st _ _; simp [escScan, escA]
  | cons b t ih =>
    intro st hs h
    have hb := h b List.mem_cons_self
    unfold escScan
    rw [hs]
    simp only []
    rw [ih _ (by rw [escStep_class G st b t hb hs]) (fun x hx => h x (List.mem_cons_of_mem _ hx))]
    rw [escStep_class G st b t hb hs, escA_cons]
    simp

theorem escapeText_class (G : GoU) (s : Bytes) (h : ∀ b ∈ s, isEscSpB b = true) :
    escapeText G s = escA s := by
  unfold escapeText
  rw [escScan_class G s _ rfl h]
  simp

/-- `hbang`: `![` would open an image -/
theorem tokenAt_plain (U : UClass) (st : Scan) (b : UInt8) (t : Bytes)
    (hb : isEscB b = true) (hq : isBslB b = false) (hbang : (b == 0x21 && t.head? == some 0x5B) = false) :
    tokenAt U st b t = { acc := pushText st.acc [b], prev := b.toNat, skip := 0, bad := st.bad } := by
  obtain ⟨h5b, h5d, h2a, h60, h5c, h3c⟩ := isBslB_false hq
  have h5f : (b == 0x5F) = false := beq_false_of_class hb (by decide)
  have h26 : (b == 0x26) = false := beq_false_of_class hb (by decide)
  have hsp : (b == SP) = false := beq_false_of_class hb (by decide)
  have hnl : (b == NL) = false := beq_false_of_class hb (by decide)
  have h80 := isEscSpB_toNat_lt (isEscSpB_of_isEscB hb)
  unfold tokenAt
  simp only [h5c, h60, h2a, h5f, h5b, h5d, h3c, h26, hsp, hnl, hbang, decodeRune_one b t h80]
  simp

theorem tokenAt_bsl (U : UClass) (st : Scan) (c : UInt8) (t : Bytes) (hc : isAsciiPunctB c = true) :
    tokenAt U st 0x5C (c :: t) = { acc := pushText st.acc [c], prev := c.toNat, skip := 1, bad := st.bad } := by
  have hnl : (c == NL) = false := beq_false_of_class hc (by decide)
  unfold tokenAt
  simp [hnl, hc]

theorem scan_cons0 (U : UClass) (st : Scan) (b : UInt8) (t : Bytes) (hs : st.skip = 0) :
    scan U st (b :: t) = scan U (tokenAt U st b t) t := by
  conv => lhs; unfold scan
  rw [hs]

theorem scan_skip1 (U : UClass) (st : Scan) (b : UInt8) (t : Bytes) (k : Nat) (hs : st.skip = k + 1) :
    scan U st (b :: t) = scan U { st with skip := k } t := by
  conv => lhs; unfold scan
  rw [hs]

theorem scan_skip (U : UClass) : ∀ (x : Bytes) (acc : List Item) (prev : Nat) (bad : Bool) (rest : Bytes),
    scan U { acc := acc, prev := prev, skip := x.length, bad := bad } (x ++ rest) =
    scan U { acc := acc, prev := prev, skip := 0, bad := bad } rest := by
  intro x
  induction x with
  | nil => intros; rfl
  | cons b t ih =>
    intro acc prev bad rest
    rw [List.cons_append, scan_skip1 U _ b (t ++ rest) t.length rfl]
    exact ih acc prev bad rest

theorem scan_plain (U : UClass) (st : Scan) (b : UInt8) (t : Bytes) (hs : st.skip = 0)
    (hb : isEscB b = true) (hq : isBslB b = false) (hbang : (b == 0x21 && t.head? == some 0x5B) = false) :
    scan U st (b :: t) = scan U { acc := pushText st.acc [b], prev := b.toNat, skip := 0, bad := st.bad } t := by
  rw [scan_cons0 U st b t hs, tokenAt_plain U st b t hb hq hbang]

theorem scan_bsl (U : UClass) (st : Scan) (c : UInt8) (t : Bytes) (hs : st.skip = 0)
    (hc : isAsciiPunctB c = true) :
    scan U st (0x5C :: c :: t) = scan U { acc := pushText st.acc [c], prev := c.toNat, skip := 0, bad := st.bad } t := by
  rw [scan_cons0 U st _ _ hs, tokenAt_bsl U st c t hc]
  exact scan_skip U [c] _ _ _ t

theorem countWhile_replicate (c : UInt8) (k : Nat) (rest : Bytes) (h : rest.head? ≠ some c) :
    countWhile (· == c) (List.replicate k c ++ rest) = k := by
  induction k with
  | zero =>
    cases rest with
    | nil => rfl
    | cons x r =>
      have : x ≠ c := by intro hx; subst hx; exact h rfl
      simp [countWhile, this]
  | succ n ih => simp [List.replicate_succ, countWhile, ih]

theorem scan_spaces (U : UClass) (st : Scan) (k : Nat) (rest : Bytes) (hs : st.skip = 0)
    (h1 : rest.head? ≠ some SP) (h2 : rest.head? ≠ some NL) :
    scan U st (List.replicate (k + 1) SP ++ rest) =
    scan U { acc := pushText st.acc (List.replicate (k + 1) SP), prev := SP.toNat, skip := 0, bad := st.bad } rest := by
  have hcw := countWhile_replicate SP (k + 1) rest h1
  rw [List.replicate_succ, List.cons_append] at hcw ⊢
  rw [scan_cons0 U st _ _ hs]
  have hdrop : (SP :: (List.replicate k SP ++ rest)).drop (k + 1) = rest := by
    simp
  have htok : tokenAt U st SP (List.replicate k SP ++ rest) =
      { acc := pushText st.acc (SP :: List.replicate k SP), prev := SP.toNat, skip := k, bad := st.bad } := by
    unfold tokenAt
    have e1 : (SP == (0x5C : UInt8)) = false := by decide
    have e2 : (SP == (0x60 : UInt8)) = false := by decide
    have e3 : (SP == (0x2A : UInt8) || SP == (0x5F : UInt8)) = false := by decide
    have e4 : (SP == (0x5B : UInt8)) = false := by decide
    have e5 : (SP == (0x21 : UInt8)) = false := by decide
    have e6 : (SP == (0x5D : UInt8)) = false := by decide
    have e7 : (SP == (0x3C : UInt8)) = false := by decide
    have e8 : (SP == (0x26 : UInt8)) = false := by decide
    simp only [e1, e2, e3, e4, e5, e6, e7, e8, Bool.false_and, Bool.false_eq_true, if_false, beq_self_eq_true,
      if_true, hcw, hdrop]
    cases rest with
    | nil => simp [List.replicate_succ]
    | cons c r =>
      have : c ≠ NL := by intro hx; subst hx; exact h2 rfl
      simp [this, List.replicate_succ]
  rw [htok]
  have := scan_skip U (List.replicate k SP) (pushText st.acc (SP :: List.replicate k SP)) SP.toNat st.bad rest
  simpa using this

def mkT (x : Bytes) : Item := .node (.text x)

theorem esc1_cons {b : UInt8} (hb : isEscSpB b = true) :
    ∃ x r, esc1 b = x :: r ∧ (x == 0x5B) = false ∧ (x == NL) = false ∧ (isEscB b = true → (x == SP) = false) := by
  cases hq : isBslB b with
  | true => exact ⟨0x5C, [b], esc1_of_bsl hq, by decide, by decide, fun _ => by decide⟩
  | false =>
    exact ⟨b, [], esc1_of_not_bsl hq, (isBslB_false hq).1, beq_false_of_class hb (by decide),
      fun h => beq_false_of_class h (by decide)⟩

theorem escA_head (t : Bytes) (h : ∀ b ∈ t, isEscSpB b = true) :
    ((escA t).head? == some 0x5B) = false ∧ (escA t).head? ≠ some NL := by
  cases t with
  | nil => simp [escA]
  | cons b t' =>
    obtain ⟨x, r, e, h1, h2, _⟩ := esc1_cons (h b List.mem_cons_self)
    rw [escA_cons, e]
    simpa using ⟨ne_of_beq_false h1, ne_of_beq_false h2⟩

/-- what may follow the escaped text: not a space (it would extend a run), not `[` (after `!`), and a newline
only after a non-space (trailing spaces before a newline are a hard break or dropped) -/
def ContOK (x rest : Bytes) : Prop :=
  rest.head? ≠ some SP ∧ (rest.head? == some 0x5B) = false ∧ (rest.head? = some NL → x.getLast? ≠ some SP)

theorem ContOK.tail {x : Bytes} {b : UInt8} {t rest : Bytes} (h : ContOK (x ++ b :: t) rest) :
    ContOK t rest := by
  refine ⟨h.1, h.2.1, fun hn => ?_⟩
  have := h.2.2 hn
  cases t with
  | nil => simp
  | cons y t' =>
    rw [show x ++ b :: y :: t' = (x ++ [b]) ++ y :: t' by simp, getLast?_append_cons] at this
    exact this

/-- Lock step: the text tokens of the escaped text are the source text, whatever follows (`ContOK`).  Stated
with a pending run of `k` spaces in front, since the tokenizer takes a run of spaces as one token. -/
theorem scan_escA (U : UClass) : ∀ (s : Bytes), (∀ b ∈ s, isEscSpB b = true) →
    ∀ (k : Nat) (st : Scan) (rest : Bytes), st.skip = 0 → ContOK (List.replicate k SP ++ s) rest →
    ∃ (ts : List Bytes) (p : Nat),
      scan U st (List.replicate k SP ++ escA s ++ rest) =
        scan U { acc := (ts.map mkT).reverse ++ st.acc, prev := p, skip := 0, bad := st.bad } rest ∧
      ts.flatten = List.replicate k SP ++ s := by
  intro s
  induction s with
  | nil =>
    intro _ k st rest hs hr
    cases k with
    | zero =>
      refine ⟨[], st.prev, ?_, by simp⟩
      cases st; simp only [] at hs; subst hs; rfl
    | succ k =>
      refine ⟨[List.replicate (k + 1) SP], SP.toNat, ?_, by simp⟩
      have hnl : rest.head? ≠ some NL := fun hn => hr.2.2 hn (by simp [List.replicate_succ'])
      rw [escA_nil, List.append_nil, scan_spaces U st k rest hs hr.1 hnl]
      simp [pushText, mkT]
  | cons b t ih =>
    intro h k st rest hs hr
    have ht : ∀ x ∈ t, isEscSpB x = true := fun x hx => h x (List.mem_cons_of_mem _ hx)
    have hb := h b List.mem_cons_self
    by_cases hsp : isEscB b = true
    · have hrt : ContOK ([] ++ t) rest := hr.tail
      have A : ∀ st : Scan, st.skip = 0 → ∃ (ts : List Bytes) (p : Nat),
          scan U st (esc1 b ++ escA t ++ rest) =
            scan U { acc := (ts.map mkT).reverse ++ st.acc, prev := p, skip := 0, bad := st.bad } rest ∧
          ts.flatten = b :: t := by
        intro st hs
        obtain ⟨ts, p, h1, h2⟩ := ih ht 0
          { acc := pushText st.acc [b], prev := b.toNat, skip := 0, bad := st.bad } rest rfl hrt
        simp only [List.replicate_zero, List.nil_append] at h1
        refine ⟨[b] :: ts, p, ?_, by simpa using h2⟩
        have hh : ((escA t ++ rest).head? == some 0x5B) = false := by
          cases t with
          | nil => simpa [escA] using hr.2.1
          | cons y t' =>
            obtain ⟨x, r, e, h1, _, _⟩ := esc1_cons (ht y List.mem_cons_self)
            rw [escA_cons, e]; simpa using ne_of_beq_false h1
        cases hq : isBslB b with
        | true =>
          simp only [esc1_of_bsl hq, List.cons_append, List.nil_append]
          rw [scan_bsl U st b _ hs (isBslB_punct hq), h1]
          simp [pushText, mkT]
        | false =>
          simp only [esc1_of_not_bsl hq, List.cons_append, List.nil_append]
          rw [scan_plain U st b _ hs hsp hq (by rw [hh, Bool.and_false]), h1]
          simp [pushText, mkT]
      cases k with
      | zero =>
        obtain ⟨ts, p, h1, h2⟩ := A st hs
        exact ⟨ts, p, by simpa [escA_cons] using h1, by simpa using h2⟩
      | succ k =>
        obtain ⟨x, r, e, _, hnl, hx⟩ := esc1_cons hb
        have hh : (esc1 b ++ escA t ++ rest).head? = some x := by rw [e]; rfl
        rw [escA_cons, List.append_assoc, scan_spaces U st k _ hs
          (by rw [hh]; simpa using ne_of_beq_false (hx hsp)) (by rw [hh]; simpa using ne_of_beq_false hnl)]
        obtain ⟨ts, p, h1, h2⟩ := A
          { acc := pushText st.acc (List.replicate (k + 1) SP), prev := SP.toNat, skip := 0, bad := st.bad } rfl
        refine ⟨List.replicate (k + 1) SP :: ts, p, ?_, by simp [h2]⟩
        rw [h1]
        simp [pushText, mkT]
    · have hbsp : b = SP := eq_SP_of_not_isEscB hb (by simpa using hsp)
      subst hbsp
      have e : ∀ z : Bytes, List.replicate k SP ++ SP :: z = List.replicate (k + 1) SP ++ z := by
        intro z; simp [List.replicate_succ']
      obtain ⟨ts, p, h1, h2⟩ := ih ht (k + 1) st rest hs (e t ▸ hr)
      refine ⟨ts, p, ?_, by rw [h2, e]⟩
      rw [escA_cons, esc1_of_not_bsl (by decide), ← h1]
      simp [List.replicate_succ']

end C36
