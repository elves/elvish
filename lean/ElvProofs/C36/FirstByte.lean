/-
C36 helpers — escape soundness for texts whose first byte is a block-marker
lookalike `- + > # ~`: `escapeStartOfLine` against the reference's block starts.
-/
import ElvProofs.C36.ReflowRead
namespace C36
open Go C35

/-- An extra backslash before an ASCII punctuation byte inside escaped text reads back as that byte. -/
theorem parseInlines_escA_bsl (U : UClass) (a : Bytes) (c : UInt8) (t : Bytes)
    (ha : ∀ b ∈ a, isEscSpB b = true) (hc : isAsciiPunctB c = true) (h : ∀ b ∈ t, isEscSpB b = true) :
    parseInlines U (escA a ++ 0x5C :: c :: escA t) = some [Inl.text (a ++ c :: t)] := by
  obtain ⟨ts1, p1, h1, h2⟩ := scan_escA U a ha 0
    { acc := [], prev := NL.toNat, skip := 0, bad := false } (0x5C :: c :: escA t) rfl
    ⟨by simp [SP], rfl, by simp [NL]⟩
  obtain ⟨ts2, p2, h3, h4⟩ := scan_escA U t h 0
    { acc := pushText ((ts1.map mkT).reverse ++ []) [c], prev := c.toNat, skip := 0, bad := false } [] rfl
    ⟨nofun, rfl, nofun⟩
  simp only [List.replicate_zero, List.nil_append, List.append_nil] at h1 h2 h3 h4
  rw [parseInlines_of_scan U _ (ts1 ++ [c] :: ts2) p2
    (by rw [h1, scan_bsl U _ c _ rfl hc, h3]; simp [scan, pushText, mkT])]
  simp [h2, h4]

/-- either a backslash is put in front, or the line is left alone and the
reference finds no block start on it -/
def SolOutcome (c : UInt8) (r : Bytes) : Prop :=
  escapeStartOfLine [] (c :: r) true true = .ok (0x5C :: c :: r) ∨
  (escapeStartOfLine [] (c :: r) true true = .ok (c :: r) ∧ RefInert (c :: r))

/-- no `~~~`, no digits: only the thematic-break lookalike is left -/
theorem solLate_nondigit (sb : Bytes) {c : UInt8} (t : Bytes) (sop eol : Bool)
    (h7 : (c == 0x7E) = false) (hd : isDigitB c = false) :
    solLate sb c t sop eol =
      if eol && thematicBreakLookalike (c :: t) then
        if thematicBreakRe (if sop && c == 0x2D then trailingDashes sb ++ c :: t else c :: t) then 0x5C :: c :: t
        else c :: t
      else c :: t := by
  simp [solLate, startsWith_tildes_cons t h7, orderedLookalike_cons t hd]

theorem sol_plus_eq (r : Bytes) :
    escapeStartOfLine [] (0x2B :: r) true true =
      .ok (if startsWithSpaceOrTab r || r.isEmpty then 0x5C :: 0x2B :: r else 0x2B :: r) := by
  rw [escapeStartOfLine_cons [] 0x2B r true true rfl rfl, solLate_nondigit [] r true true rfl rfl,
    thematicBreakLookalike_cons r rfl rfl]
  simp

theorem sol_dash_eq (r : Bytes) :
    escapeStartOfLine [] (0x2D :: r) true true =
      .ok (if startsWithSpaceOrTab r || r.isEmpty then 0x5C :: 0x2D :: r
           else if thematicBreakLookalike (0x2D :: r) then
             if thematicBreakRe (0x2D :: r) then 0x5C :: 0x2D :: r else 0x2D :: r
           else 0x2D :: r) := by
  rw [escapeStartOfLine_cons [] 0x2D r true true rfl rfl, solLate_nondigit [] r true true rfl rfl]
  simp [trailingDashes]

theorem sol_tilde_eq (r : Bytes) :
    escapeStartOfLine [] (0x7E :: r) true true =
      .ok (if startsWith (0x7E :: r) (bs "~~~") then 0x5C :: 0x7E :: r else 0x7E :: r) := by
  rw [escapeStartOfLine_cons [] 0x7E r true true rfl rfl]
  simp [solLate, orderedLookalike_cons r (c := 0x7E) rfl, thematicBreakLookalike_cons r (c := 0x7E) rfl rfl]

theorem sol_hash_eq (r : Bytes) :
    escapeStartOfLine [] (0x23 :: r) true true =
      .ok (if startsWithSpaceOrTab ((0x23 :: r).drop (min (countWhile (· == 0x23) (0x23 :: r)) 6)) ||
              ((0x23 :: r).drop (min (countWhile (· == 0x23) (0x23 :: r)) 6)).isEmpty
           then 0x5C :: 0x23 :: r else 0x23 :: r) := by
  rw [escapeStartOfLine_cons [] 0x23 r true true rfl rfl, solLate_nondigit [] r true true rfl rfl,
    thematicBreakLookalike_cons r rfl rfl]
  simp

theorem sol_gt (r : Bytes) : SolOutcome 0x3E r := by
  left
  rw [escapeStartOfLine_cons [] 0x3E r true true rfl rfl]
  rfl

theorem notSpTab_facts (r : Bytes) (h : (startsWithSpaceOrTab r || r.isEmpty) = false) :
    r.isEmpty = false ∧ (r.head? == some SP) = false ∧ startsWithSpaceOrTab r = false := by
  cases r with
  | nil => simp at h
  | cons x t =>
    simp [startsWithSpaceOrTab] at h ⊢
    exact h

theorem sol_plus (r : Bytes) : SolOutcome 0x2B r := by
  unfold SolOutcome
  rw [sol_plus_eq]
  cases hc : (startsWithSpaceOrTab r || r.isEmpty) with
  | true => left; rfl
  | false =>
    obtain ⟨h1, h2, _⟩ := notSpTab_facts r hc
    exact Or.inr ⟨rfl, refInert_cons r rfl rfl rfl (.inl rfl) (.inl rfl) (.inl rfl)
      (listMarker_bullet r rfl rfl h1 h2)⟩

theorem sol_dash (r : Bytes) : SolOutcome 0x2D r := by
  unfold SolOutcome
  rw [sol_dash_eq]
  cases hc : (startsWithSpaceOrTab r || r.isEmpty) with
  | true => left; rfl
  | false =>
    obtain ⟨h1, h2, _⟩ := notSpTab_facts r hc
    simp only [Bool.false_eq_true, if_false]
    -- no list item, so only a thematic break is left
    have inert : isThematicBreak (0x2D :: r) = false → RefInert (0x2D :: r) := fun h =>
      refInert_cons r rfl rfl rfl (.inl rfl) (.inl rfl) (.inr h) (listMarker_bullet r rfl rfl h1 h2)
    -- the formatter's lookalike test and `thematicBreakRegexp` together are the reference's rule
    have hT : isThematicBreak (0x2D :: r) = (thematicBreakLookalike (0x2D :: r) && thematicBreakRe (0x2D :: r)) := by
      simp [isThematicBreak, thematicBreakLookalike, thematicBreakRe, leadingSpaces, countWhile, SP]
    cases hl : thematicBreakLookalike (0x2D :: r) with
    | false =>
      rw [hl, Bool.false_and] at hT
      exact Or.inr ⟨rfl, inert hT⟩
    | true =>
      rw [hl, Bool.true_and] at hT
      cases hre : thematicBreakRe (0x2D :: r) with
      | true => left; rfl
      | false =>
        rw [hre] at hT
        exact Or.inr ⟨rfl, inert hT⟩

theorem sol_tilde (r : Bytes) : SolOutcome 0x7E r := by
  unfold SolOutcome
  rw [sol_tilde_eq]
  cases hsw : startsWith (0x7E :: r) (bs "~~~") with
  | true => left; rfl
  | false =>
    -- fewer than three tildes open no fence
    have hcw : countWhile (· == 0x7E) r + 1 < 3 := by
      rw [bs_tildes] at hsw
      cases r with
      | nil => simp [countWhile]
      | cons x r1 =>
        by_cases hx : x = 0x7E
        · subst hx
          cases r1 with
          | nil => simp [countWhile]
          | cons y r2 =>
            have hy : y ≠ 0x7E := by
              intro hy; subst hy; simp [startsWith, List.isPrefixOf] at hsw
            simp [countWhile, hy]
        · simp [countWhile, hx]
    exact Or.inr ⟨rfl, refInert_cons r rfl rfl rfl (.inl rfl)
      (.inr (by simp [fenceOpen, leadingSpaces, countWhile, SP, hcw])) (.inl rfl) (listMarker_other r rfl rfl rfl)⟩

theorem countWhile_drop (p : UInt8 → Bool) : ∀ (r : Bytes) (j : Nat), j < countWhile p r →
    ∃ x rest, r.drop j = x :: rest ∧ p x = true := by
  intro r
  induction r with
  | nil => intro j h; simp [countWhile] at h
  | cons a t ih =>
    intro j h
    cases hp : p a with
    | false => simp [countWhile, hp] at h
    | true =>
      cases j with
      | zero => exact ⟨a, t, rfl, hp⟩
      | succ j =>
        simp only [countWhile, hp, if_true] at h
        exact ih j (by omega)

theorem sol_hash (r : Bytes) : SolOutcome 0x23 r := by
  unfold SolOutcome
  rw [sol_hash_eq]
  generalize hn0 : countWhile (· == 0x23) r = n
  have hcw : countWhile (· == 0x23) (0x23 :: r) = n + 1 := by simp [countWhile, hn0]
  have hls : leadingSpaces (0x23 :: r) = 0 := by simp [leadingSpaces, countWhile, SP]
  -- on a line that starts with `#` only an ATX heading can start
  have hrest : atxHeading (0x23 :: r) = none → RefInert (0x23 :: r) := fun h =>
    refInert_cons r rfl rfl rfl (.inr h) (.inl rfl) (.inl rfl) (listMarker_other r rfl rfl rfl)
  rw [hcw]
  by_cases hn : n + 1 ≤ 6
  · rw [Nat.min_eq_left hn, List.drop_succ_cons]
    cases hA : (startsWithSpaceOrTab (r.drop n) || (r.drop n).isEmpty) with
    | true => left; rfl
    | false =>
      refine Or.inr ⟨rfl, hrest ?_⟩
      simp only [Bool.or_eq_false_iff] at hA
      unfold atxHeading
      simp only [hls, List.drop_zero, hcw, List.drop_succ_cons]
      cases hd : r.drop n with
      | nil => rw [hd] at hA; simp at hA
      | cons c rest =>
        rw [hd] at hA
        simp [startsWithSpaceOrTab] at hA
        simp [hA.1, hA.2]
  · -- seven or more: a `#` follows the first six
    rw [Nat.min_eq_right (by omega)]
    obtain ⟨x, rest, hd, hx⟩ := countWhile_drop (· == 0x23) r 5 (by omega)
    have hx' : x = 0x23 := by simpa using hx
    subst hx'
    refine Or.inr ⟨by simp [hd, startsWithSpaceOrTab, SP], hrest ?_⟩
    unfold atxHeading
    simp only [hls, List.drop_zero, hcw]
    simp
    intro h; omega

theorem escape_sound_marker (G : GoU) (U : UClass) (b0 : UInt8) (t : Bytes)
    (hb0 : isEscB b0 = true) (hq : isBslB b0 = false) (hpun : isAsciiPunctB b0 = true)
    (hsol : ∀ r, SolOutcome b0 r)
    (hcls : ∀ b ∈ t, isEscSpB b = true)
    (hlast : ∀ e, (b0 :: t).getLast? = some e → isEscB e = true) :
    ∃ out, fmtTextParagraph G (b0 :: t) = .ok out ∧
      render U true out = some (bs "<p>" ++ escHtml (b0 :: t) ++ bs "</p>\n") := by
  have hcls' : ∀ b ∈ b0 :: t, isEscSpB b = true := by
    intro b hb
    rcases List.mem_cons.mp hb with rfl | h
    · exact isEscSpB_of_isEscB hb0
    · exact hcls b h
  have hL : escA (b0 :: t) = b0 :: escA t := by rw [escA_cons, esc1_of_not_bsl hq]; rfl
  rcases hsol (escA t) with h1 | ⟨h1, h2⟩
  · -- `\b0…`: the backslash starts no block, and `\b0` reads as `b0`
    exact ⟨_, escape_sound_of_line G U (b0 :: t) (0x5C :: b0 :: escA t) hcls' (by simp) hlast (hL ▸ h1)
      (refInert_of_inert 0x5C _ (by decide))
      (fun b hb => (List.mem_cons.mp hb).imp_right (hL ▸ ·)) (by rw [hL]; rfl)
      (parseInlines_escA_bsl U [] b0 t nofun hpun hcls)⟩
  · have hp := parseInlines_escA U (b0 :: t) hcls'
    simp only [reduceCtorEq, if_false] at hp
    exact ⟨_, escape_sound_of_line G U (b0 :: t) (escA (b0 :: t)) hcls' (by simp) hlast (hL ▸ h1) (hL ▸ h2)
      (fun b hb => Or.inr hb) rfl hp⟩

theorem marker_first_facts : ∀ b : UInt8, isEscB b = true → isDigitB b = false → isGoodFirstB b = false →
    b = 0x2D ∨ b = 0x2B ∨ b = 0x3E ∨ b = 0x23 ∨ b = 0x7E := by
  apply forall_uint8
  decide +kernel

theorem escape_sound_five (G : GoU) (U : UClass) (b0 : UInt8) (t : Bytes)
    (hb0 : b0 = 0x2D ∨ b0 = 0x2B ∨ b0 = 0x3E ∨ b0 = 0x23 ∨ b0 = 0x7E)
    (hcls : ∀ b ∈ t, isEscSpB b = true)
    (hlast : ∀ e, (b0 :: t).getLast? = some e → isEscB e = true) :
    ∃ out, fmtTextParagraph G (b0 :: t) = .ok out ∧
      render U true out = some (bs "<p>" ++ escHtml (b0 :: t) ++ bs "</p>\n") := by
  rcases hb0 with h | h | h | h | h <;> subst h
  · exact escape_sound_marker G U _ t (by decide) (by decide) (by decide) sol_dash hcls hlast
  · exact escape_sound_marker G U _ t (by decide) (by decide) (by decide) sol_plus hcls hlast
  · exact escape_sound_marker G U _ t (by decide) (by decide) (by decide) sol_gt hcls hlast
  · exact escape_sound_marker G U _ t (by decide) (by decide) (by decide) sol_hash hcls hlast
  · exact escape_sound_marker G U _ t (by decide) (by decide) (by decide) sol_tilde hcls hlast

end C36
