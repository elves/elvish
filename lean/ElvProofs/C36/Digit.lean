/-
C36 helpers — escape soundness for texts whose first byte is a digit
(ordered-list-marker lookalikes) against the reference `listMarker`.
-/
import ElvProofs.C36.FirstByte
import ElvProofs.C36.Ordered
namespace C36
open Go C35

/-- for a digit-initial line only `listMarker` can start a block -/
theorem refInert_digit (d : UInt8) (rest : Bytes) (hd : isDigitB d = true)
    (hlm : listMarker (d :: rest) = none) : RefInert (d :: rest) := by
  obtain ⟨f1, f2, f3, _, f5, f6, f7, f8, f9, f0⟩ := digit_ne hd
  exact refInert_cons rest f1 f2 f5 (.inl f6) (.inl (by simp [f0, f7])) (.inl (by simp [f3, f9, f8])) hlm

theorem listMarker_digits (ds tl : Bytes) (p : UInt8) (hd : ∀ b ∈ ds, isDigitB b = true)
    (h1 : 1 ≤ ds.length) (hp : isDigitB p = false)
    (hcond : ds.length > 9 ∨ (p == 0x2E || p == 0x29) = false ∨
      (tl.isEmpty = false ∧ (tl.head? == some SP) = false)) :
    listMarker (ds ++ p :: tl) = none := by
  have hcw := countWhile_digits ds p tl hd hp
  cases ds with
  | nil => simp at h1
  | cons d t =>
    obtain ⟨f1, f2, f3, f4, f5, f6, f7, f8, f9, _⟩ := digit_ne (hd d List.mem_cons_self)
    have hdrop : ((d :: t) ++ p :: tl).drop (d :: t).length = p :: tl := by simp
    simp only [List.cons_append] at hcw hdrop ⊢
    have hls : leadingSpaces (d :: (t ++ p :: tl)) = 0 := by simp [leadingSpaces, countWhile, f1]
    unfold listMarker
    have h03 : ¬ (0 > 3) := by omega
    simp only [hls, List.drop_zero, f3, f4, f8, hcw, hdrop, Bool.or_self, Bool.false_eq_true, if_false, h03]
    rcases hcond with h | h | ⟨h, h'⟩
    · have : ((d :: t).length < 1 || (d :: t).length > 9) = true := by simp; omega
      simp
      intro h'; simp at h; omega
    · split
      · rfl
      · simp [h]
    · split
      · rfl
      · simp [h, h']

theorem listMarker_digits_only (ds : Bytes) (hd : ∀ b ∈ ds, isDigitB b = true) (h1 : 1 ≤ ds.length) :
    listMarker ds = none := by
  have hcw := countWhile_all_digits ds hd
  cases ds with
  | nil => simp at h1
  | cons d t =>
    obtain ⟨f1, f2, f3, f4, f5, f6, f7, f8, f9, _⟩ := digit_ne (hd d List.mem_cons_self)
    have hls : leadingSpaces (d :: t) = 0 := by simp [leadingSpaces, countWhile, f1]
    unfold listMarker
    have h03 : ¬ (0 > 3) := by omega
    simp only [hls, List.drop_zero, f3, f4, f8, hcw, Bool.or_self, Bool.false_eq_true, if_false,
      List.drop_length, h03]
    simp

theorem digit_alnum {b : UInt8} (h : isDigitB b = true) : isAlnumB b = true := by
  simp [isAlnumB, h]

theorem digit_split : ∀ s : Bytes, ∃ ds u, s = ds ++ u ∧ (∀ b ∈ ds, isDigitB b = true) ∧
    (∀ x, u.head? = some x → isDigitB x = false) := by
  intro s
  induction s with
  | nil => exact ⟨[], [], rfl, by simp, by simp⟩
  | cons b t ih =>
    cases hb : isDigitB b with
    | false => exact ⟨[], b :: t, rfl, by simp, by intro x hx; simp at hx; subst hx; exact hb⟩
    | true =>
      obtain ⟨ds, u, h1, h2, h3⟩ := ih
      refine ⟨b :: ds, u, by rw [h1]; rfl, ?_, h3⟩
      intro x hx
      rcases List.mem_cons.mp hx with h | h
      · subst h; exact hb
      · exact h2 x h

theorem refInert_digits (ds rest : Bytes) (hd : ∀ b ∈ ds, isDigitB b = true) (h1 : 1 ≤ ds.length)
    (hlm : listMarker (ds ++ rest) = none) : RefInert (ds ++ rest) := by
  cases ds with
  | nil => simp at h1
  | cons d t => exact refInert_digit d (t ++ rest) (hd d List.mem_cons_self) hlm

theorem escape_sound_digit (G : GoU) (U : UClass) (s : Bytes) (b0 : UInt8)
    (hcls : ∀ b ∈ s, isEscSpB b = true) (hhead : s.head? = some b0) (hb0 : isDigitB b0 = true)
    (hlast : ∀ e, s.getLast? = some e → isEscB e = true) :
    ∃ out, fmtTextParagraph G s = .ok out ∧
      render U true out = some (bs "<p>" ++ escHtml s ++ bs "</p>\n") := by
  obtain ⟨ds, u, hs, hds, hu⟩ := digit_split s
  obtain ⟨d, t, rfl⟩ : ∃ d t, ds = d :: t := by
    cases ds with
    | nil =>
      rw [hs, List.nil_append] at hhead
      rw [hu b0 hhead] at hb0
      cases hb0
    | cons d t => exact ⟨d, t, rfl⟩
  have h1 : 1 ≤ (d :: t).length := by simp
  have hne : s ≠ [] := by rw [hs]; simp
  have hescds : escA (d :: t) = d :: t :=
    escA_id _ (fun b hb => (alnum_classes b (digit_alnum (hds b hb))).2)
  have hclsu : ∀ b ∈ u, isEscSpB b = true := fun b hb => hcls b (by rw [hs]; exact List.mem_append_right _ hb)
  have hpi := parseInlines_escA U s hcls
  simp only [hne, if_false] at hpi
  -- the line is left alone and `listMarker` finds nothing on it
  have hsame : ∀ (_ : escapeStartOfLine [] (escA s) true true = .ok (escA s)) (_ : RefInert (escA s)),
      ∃ out, fmtTextParagraph G s = .ok out ∧
        render U true out = some (bs "<p>" ++ escHtml s ++ bs "</p>\n") :=
    fun hsol hri => ⟨_, escape_sound_of_line G U s (escA s) hcls hne hlast hsol hri (fun b hb => Or.inr hb) rfl hpi⟩
  cases u with
  | nil =>
    have hes : escA s = d :: t := by rw [hs, List.append_nil, hescds]
    apply hsame
    · rw [hes]; exact escapeStartOfLine_all_digits [] _ true true hds h1
    · rw [hes]
      have := refInert_digits (d :: t) [] hds h1 (by rw [List.append_nil]; exact listMarker_digits_only _ hds h1)
      rwa [List.append_nil] at this
  | cons x u' =>
    have hx : isDigitB x = false := hu x rfl
    have hclsu' : ∀ b ∈ u', isEscSpB b = true := fun b hb => hclsu b (List.mem_cons_of_mem _ hb)
    cases hq : isBslB x with
    | true =>
      -- the byte after the digits already has a backslash
      have hes : escA s = d :: t ++ 0x5C :: (x :: escA u') := by
        rw [hs, escA_append, hescds, escA_cons, esc1_of_bsl hq]; rfl
      apply hsame
      · rw [hes, escapeStartOfLine_digits [] d t _ 0x5C true true hds (by decide)]
        simp
      · rw [hes]
        exact refInert_digits _ _ hds h1
          (listMarker_digits _ _ 0x5C hds h1 (by decide) (Or.inr (Or.inl (by decide))))
    | false =>
      have hes : escA s = d :: t ++ x :: escA u' := by
        rw [hs, escA_append, hescds, escA_cons, esc1_of_not_bsl hq]; rfl
      have hsol := escapeStartOfLine_digits [] d t (escA u') x true true hds hx
      simp only [Bool.true_or, Bool.and_true] at hsol
      cases hc : (decide ((d :: t).length ≤ 9) && (x == 0x2E || x == 0x29) &&
          (startsWithSpaceOrTab (escA u') || (escA u').isEmpty)) with
      | false =>
        rw [hc] at hsol
        apply hsame
        · rw [hes]; exact hsol
        · rw [hes]
          apply refInert_digits _ _ hds h1
          apply listMarker_digits _ _ x hds h1 hx
          simp only [Bool.and_eq_false_iff, decide_eq_false_iff_not] at hc
          rcases hc with (hc | hc) | hc
          · left; omega
          · right; left; exact hc
          · right; right
            have := notSpTab_facts _ hc
            exact ⟨this.1, this.2.1⟩
      | true =>
        -- `ds\.…`: `listMarker` fails on the backslash, and `\.` reads as `.`
        rw [hc] at hsol
        simp only [Bool.and_eq_true] at hc
        have hxp : isAsciiPunctB x = true := by
          have := hc.1.2
          simp only [Bool.or_eq_true, beq_iff_eq] at this
          rcases this with h | h <;> subst h <;> decide
        have hpi' := parseInlines_escA_bsl U (d :: t) x u'
          (fun b hb => hcls b (hs ▸ List.mem_append_left _ hb)) hxp hclsu'
        rw [hescds] at hpi'
        refine ⟨_, escape_sound_of_line G U s (d :: t ++ 0x5C :: x :: escA u') hcls hne hlast (hes ▸ hsol)
          (refInert_digits _ _ hds h1
            (listMarker_digits _ _ 0x5C hds h1 (by decide) (Or.inr (Or.inl (by decide))))) ?_ ?_
          (hs ▸ hpi')⟩
        · intro b hb
          rw [hes]
          simp only [List.mem_append, List.mem_cons] at hb ⊢
          rcases hb with h | h | h | h
          · exact Or.inr (Or.inl h)
          · exact Or.inl h
          · exact Or.inr (Or.inr (Or.inl h))
          · exact Or.inr (Or.inr (Or.inr h))
        · rw [hes, getLast?_append_cons, getLast?_append_cons]
          rfl

end C36
