/-
C36 helpers — reflow of plain words, block level: several lines of plain
words are one paragraph for the C35 reference.
-/
import ElvProofs.C36.ReflowRead
namespace C36
open Go C35

theorem listMarker_plain (c : UInt8) (t : Bytes) (hc : isAlnumB c = true)
    (h : ∀ b ∈ c :: t, isAlnumB b = true ∨ b = SP) : listMarker (c :: t) = none := by
  obtain ⟨f1, f2, f3, f4, f5, f6, f7, f8, _, f10, _⟩ := alnum_first_facts c hc
  have hls : leadingSpaces (c :: t) = 0 := by simp [leadingSpaces, countWhile, f1]
  unfold listMarker
  simp only [hls, List.drop_zero, f3, f4, f10, Bool.or_self, Bool.false_eq_true, if_false]
  split
  · rfl
  · split
    · rfl
    · cases hd : List.drop (countWhile isDigitB (c :: t)) (c :: t) with
      | nil => rfl
      | cons d r =>
        have hmem : d ∈ c :: t := List.mem_of_mem_drop (by rw [hd]; exact List.mem_cons_self)
        have := (alnum_facts d (h d hmem)).2.2.2.2
        simp only [this, Bool.false_and, Bool.false_eq_true, if_false]

/-- a line of letters, digits and spaces that starts and ends with a letter or digit -/
def PlainLineP (L : Bytes) : Prop :=
  ∃ c t, L = c :: t ∧ isAlnumB c = true ∧ (∀ b ∈ c :: t, isAlnumB b = true ∨ b = SP) ∧
    ∃ e, (c :: t).getLast? = some e ∧ isAlnumB e = true

theorem plainLine_noNL (L : Bytes) (h : PlainLineP L) : ∀ b ∈ L, b ≠ NL := by
  obtain ⟨c, t, he, _, hb, _⟩ := h
  subst he
  intro b hbm hx
  have := (alnum_facts b (hb b hbm)).2.2.1
  subst hx
  simp at this

theorem plainLine_refInert (L : Bytes) (h : PlainLineP L) : RefInert L := by
  obtain ⟨c, t, rfl, hc, hb, _⟩ := h
  obtain ⟨f1, f2, f3, _, f5, f6, f7, f8, _, f10, f11⟩ := alnum_first_facts c hc
  exact refInert_cons t f1 f2 f5 (.inl f6) (.inl (by simp [f11, f7])) (.inl (by simp [f3, f8, f10]))
    (listMarker_plain c t hc hb)

theorem parseBlocks_plain_lines (Ls : List Bytes) (hne : Ls ≠ []) (h : ∀ L ∈ Ls, PlainLineP L) :
    parseBlocks (Ls.flatMap (fun l => l ++ [NL])) = some [Raw.para Ls] :=
  parseBlocks_inert Ls hne (fun L hL => plainLine_refInert L (h L hL)) (fun L hL => plainLine_noNL L (h L hL))

theorem escHtml_plain (s : Bytes) (h : ∀ b ∈ s, isAlnumB b = true ∨ b = SP) : escHtml s = s := by
  induction s with
  | nil => rfl
  | cons b t ih =>
    -- neither a letter, a digit nor a space is one of `&`, `<`, `>`, `"`
    have hf : (b == 0x26) = false ∧ (b == 0x3C) = false ∧ (b == 0x3E) = false ∧ (b == 0x22) = false := by
      rcases h b List.mem_cons_self with hb | rfl
      · exact ⟨beq_false_of_class hb (by decide), beq_false_of_class hb (by decide),
          beq_false_of_class hb (by decide), beq_false_of_class hb (by decide)⟩
      · decide
    have := ih (fun x hx => h x (List.mem_cons_of_mem _ hx))
    unfold escHtml at this ⊢
    simp only [List.flatMap_cons, hf.1, hf.2.1, hf.2.2.1, hf.2.2.2, Bool.false_eq_true, if_false, this]
    rfl

theorem inlHtml_lineInls (n : Nat) : ∀ (Ls : List Bytes), (∀ L ∈ Ls, PlainLineP L) →
    inlHtml true (n + 1) (lineInls Ls) = joinNL Ls := by
  intro Ls
  induction Ls with
  | nil => intro _; simp [lineInls, inlHtml, joinNL]
  | cons L r ih =>
    intro h
    obtain ⟨c, t, he, _, hb, _⟩ := h L List.mem_cons_self
    have hesc := escHtml_plain L (by rw [he]; exact hb)
    cases r with
    | nil => simp [lineInls, inlHtml, joinNL, hesc]
    | cons M r' =>
      have := ih (fun x hx => h x (List.mem_cons_of_mem _ hx))
      rw [lineInls_cons_cons, joinNL_cons_cons, ← this]
      unfold inlHtml
      simp [hesc]

theorem joinNL_last : ∀ (Ls : List Bytes), Ls ≠ [] → (∀ L ∈ Ls, PlainLineP L) →
    ∃ e, (joinNL Ls).getLast? = some e ∧ isAlnumB e = true := by
  intro Ls
  induction Ls with
  | nil => intro h; exact absurd rfl h
  | cons L r ih =>
    intro _ h
    cases r with
    | nil =>
      obtain ⟨c, t, he, _, _, e, hl, hee⟩ := h L List.mem_cons_self
      exact ⟨e, by simpa [joinNL, he] using hl, hee⟩
    | cons M r' =>
      obtain ⟨e, hl, hee⟩ := ih (by simp) (fun x hx => h x (List.mem_cons_of_mem _ hx))
      exact ⟨e, by rw [joinNL_cons_cons, getLast?_append_sep _ _ hl], hee⟩

theorem render_plain_lines (U : UClass) (Ls : List Bytes) (hne : Ls ≠ []) (h : ∀ L ∈ Ls, PlainLineP L)
    (hp : parseInlines U (joinNL Ls) = some (lineInls Ls)) :
    render U true (Ls.flatMap (fun l => l ++ [NL])) = some (bs "<p>" ++ joinNL Ls ++ bs "</p>\n") := by
  obtain ⟨e, hl, hee⟩ := joinNL_last Ls hne h
  have htrim : trimRightSpTab (joinNL Ls) = joinNL Ls := by
    apply trimRightSpTab_id
    intro b hb
    rw [hl] at hb
    injection hb with hb
    subst hb
    have := alnum_first_facts e hee
    simp [this.1, this.2.1]
  exact render_of_para U _ Ls (lineInls Ls) _ (parseBlocks_plain_lines Ls hne h) (by rw [paraText, htrim, hp])
    (fun k => inlHtml_lineInls k Ls h)

theorem plainLine_joinSp (l : List Bytes) (hl : l ≠ []) (h : ∀ w ∈ l, PlainWord w) :
    PlainLineP (joinSp l) := by
  obtain ⟨c, t, he, hc⟩ := joinSp_head l hl h
  obtain ⟨e, hlast, hee⟩ := joinSp_last l hl h
  refine ⟨c, t, he, hc, ?_, e, ?_, hee⟩
  · rw [← he]; exact joinSp_bytes l h
  · rw [← he]; exact hlast

theorem reflow_preserves_plain_words (G : GoU) (U : UClass) (w : Int) (ws : List Bytes)
    (hne : ws ≠ []) (h : ∀ x ∈ ws, PlainWord x) :
    ∃ lines : List (List Bytes),
      fmtTextReflow G w (joinSp ws) = .ok (lines.flatMap (fun l => joinSp l ++ [NL])) ∧
      lines.flatten = ws ∧ (∀ l ∈ lines, l ≠ []) ∧
      render U true (lines.flatMap (fun l => joinSp l ++ [NL])) =
        some (bs "<p>" ++ joinNL (lines.map joinSp) ++ bs "</p>\n") := by
  obtain ⟨lines, h1, h2, h3, h4⟩ := fmtTextReflow_plain G w ws hne h
  refine ⟨lines, h1, h2, fun l hl => (h3 l hl).1, ?_⟩
  have hflat : lines.flatMap (fun l => joinSp l ++ [NL]) = (lines.map joinSp).flatMap (fun l => l ++ [NL]) := by
    simp [List.flatMap_map]
  rw [hflat]
  apply render_plain_lines U (lines.map joinSp) (by simpa using h4)
  · intro L hL
    rcases List.mem_map.mp hL with ⟨l, hl, rfl⟩
    exact plainLine_joinSp l (h3 l hl).1 (h3 l hl).2
  · exact parseInlines_lines U lines h4 h3

end C36
