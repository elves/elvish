import ElvModel.C36.Model
import ElvProofs.C35.Ref
namespace C36
open Go C35

theorem getLast?_append_cons {α} (a : List α) (y : α) (b : List α) :
    (a ++ y :: b).getLast? = (y :: b).getLast? := by
  rw [List.getLast?_append]
  cases h : (y :: b).getLast? with
  | none => simp at h
  | some v => rfl

theorem foldl_max_ge_init (xs : List Nat) (a : Nat) : a ≤ xs.foldl max a := by
  induction xs generalizing a with
  | nil => simp
  | cons x xs ih =>
    simp only [List.foldl_cons]
    exact Nat.le_trans (Nat.le_max_left a x) (ih (max a x))

theorem le_foldl_max (xs : List Nat) (a k : Nat) (h : k ∈ xs) : k ≤ xs.foldl max a := by
  induction xs generalizing a with
  | nil => cases h
  | cons x xs ih =>
    simp only [List.foldl_cons]
    rcases List.mem_cons.mp h with h | h
    · subst h
      exact Nat.le_trans (Nat.le_max_right a k) (foldl_max_ge_init xs (max a k))
    · exact ih (max a x) h

theorem run_le_maxRun (c : UInt8) (lines : List Bytes) (line : Bytes) (k : Nat)
    (hl : line ∈ lines) (hk : k ∈ runLens c line) : k ≤ maxRun c lines := by
  unfold maxRun
  apply le_foldl_max
  exact List.mem_flatMap.mpr ⟨line, hl, hk⟩

/-- pigeonhole: `spanDelimLen` has `runs.length + 1` candidate lengths, so one of them is not a run -/
theorem interval_subset_length (fuel : Nat) :
    ∀ (runs : List Nat) (a : Nat), (∀ i, a ≤ i → i < a + fuel → i ∈ runs) → fuel ≤ runs.length := by
  induction fuel with
  | zero => intros; omega
  | succ n ih =>
    intro runs a h
    have ha : a ∈ runs := h a (Nat.le_refl a) (by omega)
    have h' : ∀ i, a + 1 ≤ i → i < a + 1 + n → i ∈ runs.erase a := by
      intro i h1 h2
      have : i ∈ runs := h i (by omega) (by omega)
      exact (List.mem_erase_of_ne (by omega)).mpr this
    have := ih (runs.erase a) (a + 1) h'
    rw [List.length_erase_of_mem ha] at this
    have hpos : 0 < runs.length := List.length_pos_of_mem ha
    omega

theorem spanDelimLen_spec (fuel : Nat) :
    ∀ (a : Nat) (runs : List Nat),
      (spanDelimLen fuel a runs ∉ runs) ∨ (∀ i, a ≤ i → i < a + fuel → i ∈ runs) := by
  induction fuel with
  | zero => intro a runs; right; intros; omega
  | succ n ih =>
    intro a runs
    unfold spanDelimLen
    by_cases hc : runs.contains a = true
    · simp only [hc, if_true]
      rcases ih (a + 1) runs with h | h
      · left; exact h
      · right
        intro i h1 h2
        by_cases hia : i = a
        · subst hia; simpa using hc
        · exact h i (by omega) (by omega)
    · simp only [hc]
      left
      simpa using hc

theorem spanDelimLen_ge (fuel : Nat) : ∀ (a : Nat) (runs : List Nat), a ≤ spanDelimLen fuel a runs := by
  induction fuel with
  | zero => intro a runs; simp [spanDelimLen]
  | succ n ih =>
    intro a runs
    unfold spanDelimLen
    split
    · exact Nat.le_trans (Nat.le_succ a) (ih (a + 1) runs)
    · exact Nat.le_refl a

/-- width a line occupies: the spans plus one space between neighbours -/
def lineWidth (width : Bytes → Nat) : List Bytes → Nat
  | [] => 0
  | [x] => width x
  | x :: xs => width x + 1 + lineWidth width xs

theorem lineWidth_append_one (width : Bytes → Nat) (cur : List Bytes) (s : Bytes) (h : cur ≠ []) :
    lineWidth width (cur ++ [s]) = lineWidth width cur + 1 + width s := by
  induction cur with
  | nil => exact absurd rfl h
  | cons x xs ih =>
    cases xs with
    | nil => simp [lineWidth]
    | cons y ys =>
      have := ih (by simp)
      simp only [List.cons_append, lineWidth] at this ⊢
      omega

theorem breakLines_flatten (width : Bytes → Nat) (exactOK : Bool → Bytes → Bool) (maxW : Int)
    (spans : List Bytes) (sop : Bool) (cur : List Bytes) (curW : Nat) :
    (breakLines width exactOK maxW sop cur curW spans).flatten = cur ++ spans := by
  fun_induction breakLines width exactOK maxW sop cur curW spans <;> simp_all

theorem breakLines_nonempty (width : Bytes → Nat) (exactOK : Bool → Bytes → Bool) (maxW : Int)
    (spans : List Bytes) (sop : Bool) (cur : List Bytes) (curW : Nat) :
    ∀ l ∈ breakLines width exactOK maxW sop cur curW spans, l ≠ [] := by
  fun_induction breakLines width exactOK maxW sop cur curW spans <;> simp_all

/-- what the breaker guarantees for a line of two or more spans -/
def FitsOK (width : Bytes → Nat) (exactOK : Bool → Bytes → Bool) (maxW : Int) (l : List Bytes) : Prop :=
  l.length ≥ 2 →
    ((lineWidth width l : Int) < maxW) ∨
    ((lineWidth width l : Int) = maxW ∧ ∃ sop, exactOK sop (joinSp l) = true)

theorem breakLines_fits (width : Bytes → Nat) (exactOK : Bool → Bytes → Bool) (maxW : Int)
    (spans : List Bytes) (sop : Bool) (cur : List Bytes) (curW : Nat)
    (hW : curW = lineWidth width cur) (hfit : FitsOK width exactOK maxW cur) :
    ∀ l ∈ breakLines width exactOK maxW sop cur curW spans, FitsOK width exactOK maxW l := by
  have one : ∀ s, FitsOK width exactOK maxW [s] := fun s h => by simp at h
  fun_induction breakLines width exactOK maxW sop cur curW spans
  case case1 => simp
  case case2 => intro l hl; rw [List.mem_singleton.mp hl]; exact hfit
  case case3 ih => exact ih rfl (one _)
  case case4 sop cur curW s _ hc hf ih =>
    -- the span was added because the line stays below the width, or reaches it exactly and is
    -- left alone by start-of-line escaping
    have hw := lineWidth_append_one width cur s (by intro h; subst h; exact hc rfl)
    refine ih (by rw [hw, hW]) (fun _ => ?_)
    rw [hw, ← hW]
    unfold fitsLine at hf
    rcases Bool.or_eq_true_iff.mp hf with h1 | h2
    · left
      have := of_decide_eq_true h1
      push_cast; omega
    · right
      have h2' := Bool.and_eq_true_iff.mp h2
      have := of_decide_eq_true h2'.1
      exact ⟨by push_cast; omega, sop, h2'.2⟩
  case case5 ih =>
    intro l hl
    rcases List.mem_cons.mp hl with rfl | h
    · exact hfit
    · exact ih rfl (one _) l h

theorem bs_tildes : bs "~~~" = [0x7E, 0x7E, 0x7E] := by decide +kernel

theorem startsWith_tildes_cons {c : UInt8} (t : Bytes) (h : (c == 0x7E) = false) :
    startsWith (c :: t) (bs "~~~") = false := by
  have : ((0x7E : UInt8) == c) = false := by rw [BEq.comm]; exact h
  simp [bs_tildes, startsWith, List.isPrefixOf, this]

theorem thematicBreakLookalike_cons {c : UInt8} (t : Bytes) (h1 : (c == 0x2D) = false) (h2 : (c == 0x5F) = false) :
    thematicBreakLookalike (c :: t) = false := by
  simp [thematicBreakLookalike, h1, h2]

/-- `^[0-9]{1,9}[.)]`: the line starts like an ordered-list marker -/
def orderedLookalike (s : Bytes) : Bool :=
  let k := countWhile isDigitB s
  1 ≤ k && k ≤ 9 &&
    (match (s.drop k).head? with
     | some d => d == 0x2E || d == 0x29
     | none => false)

theorem orderedLookalike_cons {c : UInt8} (t : Bytes) (h : isDigitB c = false) : orderedLookalike (c :: t) = false := by
  simp [orderedLookalike, countWhile, h]

/-- `escapeStartOfLine` after the early returns for `-`, `+`, `>`, `#`: the `~~~`, ordered-marker
and thematic-break lookalikes of the line `c :: t` -/
def solLate (sb : Bytes) (c : UInt8) (t : Bytes) (sop eol : Bool) : Bytes :=
  let s := c :: t
  if startsWith s (bs "~~~") then 0x5C :: s
  else if orderedLookalike s then
    let k := countWhile isDigitB s
    if (startsWithSpaceOrTab (s.drop (k + 1)) || ((s.drop (k + 1)).isEmpty && eol)) &&
       (sop || (s.take k).dropWhile (· == 0x30) == [0x31]) then
      s.take k ++ [0x5C] ++ s.drop k
    else s
  else if eol && thematicBreakLookalike s then
    if thematicBreakRe (if sop && c == 0x2D then trailingDashes sb ++ s else s) then 0x5C :: s else s
  else s

/-- `escapeStartOfLine` on a line that does not start with a space or tab, by first byte -/
theorem escapeStartOfLine_cons (sb : Bytes) (c : UInt8) (t : Bytes) (sop eol : Bool)
    (hsp : (c == SP) = false) (htab : (c == 0x09) = false) :
    escapeStartOfLine sb (c :: t) sop eol = .ok (
      if c == 0x2D || c == 0x2B then
        if startsWithSpaceOrTab t || (t.isEmpty && sop && eol) then 0x5C :: c :: t else solLate sb c t sop eol
      else if c == 0x3E then 0x5C :: c :: t
      else if c == 0x23 then
        let tl := (c :: t).drop (min (countWhile (· == 0x23) (c :: t)) 6)
        if startsWithSpaceOrTab tl || (tl.isEmpty && eol) then 0x5C :: c :: t else solLate sb c t sop eol
      else solLate sb c t sop eol) := by
  unfold escapeStartOfLine
  simp only [escapeLeadingSpaceTab, hsp, htab, Bool.false_eq_true, if_false]
  by_cases h1 : (c == 0x2D || c == 0x2B) = true
  · simp only [h1, if_true]
    by_cases h2 : (startsWithSpaceOrTab t || (t.isEmpty && sop && eol)) = true
    · simp only [h2, if_true]
    · simp only [h2, Bool.false_eq_true, if_false]
      unfold solLate orderedLookalike
      simp only [apply_ite Res.ok]
      rfl
  · simp only [h1, Bool.false_eq_true, if_false]
    by_cases h3 : (c == 0x3E) = true
    · simp only [h3, if_true]
    · simp only [h3, Bool.false_eq_true, if_false]
      by_cases h4 : (c == 0x23) = true
      · simp only [h4, if_true]
        by_cases h5 : (startsWithSpaceOrTab ((c :: t).drop (min (countWhile (· == 0x23) (c :: t)) 6)) ||
            (((c :: t).drop (min (countWhile (· == 0x23) (c :: t)) 6)).isEmpty && eol)) = true
        · simp only [h5, if_true]
        · simp only [h5, Bool.false_eq_true, if_false]
          unfold solLate orderedLookalike
          simp only [apply_ite Res.ok]
          rfl
      · simp only [h4, Bool.false_eq_true, if_false]
        unfold solLate orderedLookalike
        simp only [apply_ite Res.ok]
        rfl

theorem solLate_plain {sb : Bytes} {c : UInt8} {t : Bytes} {sop eol : Bool}
    (h1 : startsWith (c :: t) (bs "~~~") = false) (h2 : orderedLookalike (c :: t) = false)
    (h3 : thematicBreakLookalike (c :: t) = false) : solLate sb c t sop eol = c :: t := by
  simp [solLate, h1, h2, h3]

theorem take_drop_len (s : Bytes) (k : Nat) : (s.take k ++ [(0x5C : UInt8)] ++ s.drop k).length = s.length + 1 := by
  simp only [List.length_append, List.length_take, List.length_drop, List.length_cons, List.length_nil]
  omega

theorem length_ite_le {α : Type} {c : Prop} [Decidable c] {a b : List α} {n : Nat}
    (ha : a.length ≤ n) (hb : b.length ≤ n) : (if c then a else b).length ≤ n := by
  split <;> assumption

theorem solLate_len (sb : Bytes) (c : UInt8) (t : Bytes) (sop eol : Bool) :
    (solLate sb c t sop eol).length ≤ (c :: t).length + 1 := by
  have hb : (0x5C :: c :: t).length ≤ (c :: t).length + 1 := Nat.le_refl _
  have hs : (c :: t).length ≤ (c :: t).length + 1 := Nat.le_succ _
  have hk := fun k => Nat.le_of_eq (take_drop_len (c :: t) k)
  exact length_ite_le hb (length_ite_le (length_ite_le (hk _) hs) (length_ite_le (length_ite_le hb hs) hs))

theorem escapeStartOfLine_len (sb s out : Bytes) (sop eol : Bool)
    (hs : ∀ b, s.head? = some b → b ≠ SP ∧ b ≠ 0x09)
    (h : escapeStartOfLine sb s sop eol = .ok out) : out.length ≤ s.length + 1 := by
  cases s with
  | nil => simp [escapeStartOfLine, escapeLeadingSpaceTab] at h
  | cons c t =>
    have hc := hs c rfl
    rw [escapeStartOfLine_cons sb c t sop eol (by simpa using hc.1) (by simpa using hc.2)] at h
    injection h with h
    subst h
    have hl := solLate_len sb c t sop eol
    have hb : (0x5C :: c :: t).length ≤ (c :: t).length + 1 := Nat.le_refl _
    exact length_ite_le (length_ite_le hb hl) (length_ite_le hb (length_ite_le (length_ite_le hb hl) hl))
end C36
