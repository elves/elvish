/-
C36 helpers — reflow of a paragraph of plain words: the formatter side
(`escapeText`, `splitSpans`, `escapeStartOfLine`, the `emit` loop).
-/
import ElvProofs.C36.Block
import ElvProofs.C36.Lemmas
namespace C36
open Go C35

def PlainWord (w : Bytes) : Prop := w ≠ [] ∧ ∀ b ∈ w, isAlnumB b = true

theorem alnum_classes : ∀ b : UInt8, isAlnumB b = true → isEscB b = true ∧ isBslB b = false := by
  apply forall_uint8
  decide +kernel

theorem alnum_facts (b : UInt8) (h : isAlnumB b = true ∨ b = SP) :
    isEscSpB b = true ∧ isBslB b = false ∧ (b == NL) = false ∧ (b == 0x09) = false ∧
    (b == 0x2E || b == 0x29) = false := by
  rcases h with h | rfl
  · have hc := alnum_classes b h
    have h1 : (b == 0x2E) = false := beq_false_of_class h (by decide)
    have h2 : (b == 0x29) = false := beq_false_of_class h (by decide)
    exact ⟨isEscSpB_of_isEscB hc.1, hc.2, beq_false_of_class h (by decide), beq_false_of_class h (by decide),
      by rw [h1, h2]; rfl⟩
  · decide

theorem alnum_first_facts (c : UInt8) (h : isAlnumB c = true) :
    (c == SP) = false ∧ (c == 0x09) = false ∧ (c == 0x2D) = false ∧ (c == 0x2B) = false ∧
    (c == 0x3E) = false ∧ (c == 0x23) = false ∧ (c == 0x7E) = false ∧ (c == 0x5F) = false ∧
    (c == NL) = false ∧ (c == 0x2A) = false ∧ (c == 0x60) = false :=
  ⟨beq_false_of_class h (by decide), beq_false_of_class h (by decide), beq_false_of_class h (by decide),
   beq_false_of_class h (by decide), beq_false_of_class h (by decide), beq_false_of_class h (by decide),
   beq_false_of_class h (by decide), beq_false_of_class h (by decide), beq_false_of_class h (by decide),
   beq_false_of_class h (by decide), beq_false_of_class h (by decide)⟩

theorem joinSp_single (x : Bytes) : joinSp [x] = x := rfl
theorem joinSp_cons_cons (x y : Bytes) (ys : List Bytes) :
    joinSp (x :: y :: ys) = x ++ SP :: joinSp (y :: ys) := rfl

theorem mem_joinSp (ws : List Bytes) : ∀ b ∈ joinSp ws, b = SP ∨ ∃ w ∈ ws, b ∈ w := by
  induction ws with
  | nil => intro b hb; simp [joinSp] at hb
  | cons x xs ih =>
    cases xs with
    | nil => intro b hb; right; exact ⟨x, List.mem_cons_self, by simpa [joinSp] using hb⟩
    | cons y ys =>
      intro b hb
      rw [joinSp_cons_cons] at hb
      rcases List.mem_append.mp hb with h | h
      · right; exact ⟨x, List.mem_cons_self, h⟩
      · rcases List.mem_cons.mp h with h | h
        · left; exact h
        · rcases ih b h with h | ⟨w, hw, hbw⟩
          · left; exact h
          · right; exact ⟨w, List.mem_cons_of_mem _ hw, hbw⟩

theorem joinSp_bytes (ws : List Bytes) (h : ∀ w ∈ ws, PlainWord w) :
    ∀ b ∈ joinSp ws, isAlnumB b = true ∨ b = SP := by
  intro b hb
  rcases mem_joinSp ws b hb with h1 | ⟨w, hw, hbw⟩
  · right; exact h1
  · left; exact (h w hw).2 b hbw

theorem escA_id (s : Bytes) (h : ∀ b ∈ s, isBslB b = false) : escA s = s := by
  induction s with
  | nil => rfl
  | cons b t ih =>
    rw [escA_cons, ih (fun x hx => h x (List.mem_cons_of_mem _ hx))]
    simp [esc1, h b List.mem_cons_self]

theorem escapeText_alnum_sp (G : GoU) (s : Bytes) (h : ∀ b ∈ s, isAlnumB b = true ∨ b = SP) :
    escapeText G s = s := by
  rw [escapeText_class G s (fun b hb => (alnum_facts b (h b hb)).1)]
  exact escA_id s (fun b hb => (alnum_facts b (h b hb)).2.1)

theorem go_nil (cur : Bytes) : splitSpans.go cur [] = if cur.isEmpty then [] else [cur.reverse] := by
  rw [splitSpans.go]

theorem go_cons (cur : Bytes) (b : UInt8) (t : Bytes) : splitSpans.go cur (b :: t) =
    if b == SP || b == 0x09 || b == NL then
      (if cur.isEmpty then splitSpans.go [] t else cur.reverse :: splitSpans.go [] t)
    else splitSpans.go (b :: cur) t := by
  rw [splitSpans.go]

theorem go_word (w : Bytes) (hw : ∀ b ∈ w, isAlnumB b = true) : ∀ (cur rest : Bytes),
    splitSpans.go cur (w ++ rest) = splitSpans.go (w.reverse ++ cur) rest := by
  induction w with
  | nil => intro cur rest; rfl
  | cons b t ih =>
    intro cur rest
    have hf := alnum_first_facts b (hw b List.mem_cons_self)
    rw [List.cons_append, go_cons]
    simp only [hf.1, hf.2.1, hf.2.2.2.2.2.2.2.2.1, Bool.or_self, Bool.false_eq_true, if_false]
    rw [ih (fun x hx => hw x (List.mem_cons_of_mem _ hx))]
    simp

theorem splitSpans_joinSp (ws : List Bytes) (h : ∀ w ∈ ws, PlainWord w) :
    splitSpans (joinSp ws) = ws := by
  unfold splitSpans
  induction ws with
  | nil => simp [joinSp, go_nil]
  | cons x xs ih =>
    have hx := h x List.mem_cons_self
    have hxe : x.reverse.isEmpty = false := by
      cases x with
      | nil => exact absurd rfl hx.1
      | cons a r => simp
    cases xs with
    | nil =>
      have := go_word x hx.2 [] []
      simp only [List.append_nil] at this
      rw [joinSp_single, this, go_nil]
      simp [hxe]
    | cons y ys =>
      rw [joinSp_cons_cons, go_word x hx.2, go_cons]
      simp only [List.append_nil, beq_self_eq_true, Bool.true_or, if_true, hxe, Bool.false_eq_true, if_false,
        List.reverse_reverse]
      rw [ih (fun w hw => h w (List.mem_cons_of_mem _ hw))]

theorem escapeStartOfLine_alnum_sp (sb : Bytes) (c : UInt8) (t : Bytes) (sop eol : Bool)
    (hc : isAlnumB c = true) (h : ∀ b ∈ c :: t, isAlnumB b = true ∨ b = SP) :
    escapeStartOfLine sb (c :: t) sop eol = .ok (c :: t) := by
  obtain ⟨f1, f2, f3, f4, f5, f6, f7, f8, _, _, _⟩ := alnum_first_facts c hc
  -- what follows the leading digits is a letter, a space or nothing: never `.` or `)`
  have ho : orderedLookalike (c :: t) = false := by
    unfold orderedLookalike
    cases hh : ((c :: t).drop (countWhile isDigitB (c :: t))).head? with
    | none => simp only [hh, Bool.and_false]
    | some d =>
      have hd : d ∈ c :: t := List.mem_of_mem_drop (List.mem_of_mem_head? hh)
      simp only [hh, (alnum_facts d (h d hd)).2.2.2.2, Bool.and_false]
  rw [escapeStartOfLine_cons sb c t sop eol f1 f2,
    solLate_plain (startsWith_tildes_cons t f7) ho (thematicBreakLookalike_cons t f3 f8)]
  simp only [f3, f4, f5, f6, Bool.or_self, Bool.false_eq_true, if_false]

theorem joinSp_head (l : List Bytes) (hl : l ≠ []) (h : ∀ w ∈ l, PlainWord w) :
    ∃ c t, joinSp l = c :: t ∧ isAlnumB c = true := by
  cases l with
  | nil => exact absurd rfl hl
  | cons x xs =>
    have hx := h x List.mem_cons_self
    cases x with
    | nil => exact absurd rfl hx.1
    | cons c r =>
      have hc := hx.2 c List.mem_cons_self
      cases xs with
      | nil => exact ⟨c, r, rfl, hc⟩
      | cons y ys => exact ⟨c, r ++ SP :: joinSp (y :: ys), rfl, hc⟩

theorem getLast?_append_sep {α} (x : List α) (s : α) {y : List α} {e : α} (h : y.getLast? = some e) :
    (x ++ s :: y).getLast? = some e := by
  cases y with
  | nil => cases h
  | cons a b => rw [List.getLast?_append, List.getLast?_cons_cons, h]; rfl

theorem joinSp_last : ∀ (l : List Bytes), l ≠ [] → (∀ w ∈ l, PlainWord w) →
    ∃ e, (joinSp l).getLast? = some e ∧ isAlnumB e = true := by
  intro l
  induction l with
  | nil => intro h; exact absurd rfl h
  | cons x r ih =>
    intro _ h
    have hx := h x List.mem_cons_self
    cases r with
    | nil => exact ⟨_, List.getLast?_eq_some_getLast hx.1, hx.2 _ (List.getLast_mem hx.1)⟩
    | cons y r' =>
      obtain ⟨e, hl, hee⟩ := ih (by simp) (fun w hw => h w (List.mem_cons_of_mem _ hw))
      exact ⟨e, by rw [joinSp_cons_cons, getLast?_append_sep _ _ hl], hee⟩

theorem escapeStartOfLine_plain (sb : Bytes) (l : List Bytes) (sop eol : Bool) (hl : l ≠ [])
    (h : ∀ w ∈ l, PlainWord w) : escapeStartOfLine sb (joinSp l) sop eol = .ok (joinSp l) := by
  obtain ⟨c, t, he, hc⟩ := joinSp_head l hl h
  have hb := joinSp_bytes l h
  rw [he] at hb ⊢
  exact escapeStartOfLine_alnum_sp sb c t sop eol hc hb

theorem emit_plain : ∀ (ls : List (List Bytes)) (sop : Bool),
    (∀ l ∈ ls, l ≠ [] ∧ ∀ w ∈ l, PlainWord w) →
    fmtTextReflow.emit sop ls = .ok (ls.flatMap (fun l => joinSp l ++ [NL])) := by
  intro ls
  induction ls with
  | nil => intro sop _; rw [fmtTextReflow.emit]; rfl
  | cons l rest ih =>
    intro sop h
    have hl := h l List.mem_cons_self
    rw [fmtTextReflow.emit, escapeStartOfLine_plain [] l sop true hl.1 hl.2,
      ih false (fun x hx => h x (List.mem_cons_of_mem _ hx))]
    simp

theorem fmtTextReflow_plain (G : GoU) (w : Int) (ws : List Bytes) (hne : ws ≠ [])
    (h : ∀ x ∈ ws, PlainWord x) :
    ∃ lines : List (List Bytes),
      fmtTextReflow G w (joinSp ws) = .ok (lines.flatMap (fun l => joinSp l ++ [NL])) ∧
      lines.flatten = ws ∧ (∀ l ∈ lines, l ≠ [] ∧ ∀ x ∈ l, PlainWord x) ∧ lines ≠ [] := by
  unfold fmtTextReflow
  simp only [escapeText_alnum_sp G _ (joinSp_bytes ws h), splitSpans_joinSp ws h]
  have he : ws.isEmpty = false := by cases ws with
    | nil => exact absurd rfl hne
    | cons a r => rfl
  simp only [he, Bool.false_eq_true, if_false]
  generalize hL : breakLines asciiWidth _ w true [] 0 ws = lines
  have hflat : lines.flatten = ws := by
    rw [← hL]; simpa using breakLines_flatten asciiWidth _ w ws true [] 0
  have hnon : ∀ l ∈ lines, l ≠ [] := by
    rw [← hL]; exact breakLines_nonempty asciiWidth _ w ws true [] 0
  have hall : ∀ l ∈ lines, l ≠ [] ∧ ∀ x ∈ l, PlainWord x := by
    intro l hl
    refine ⟨hnon l hl, fun x hx => h x ?_⟩
    rw [← hflat]; exact List.mem_flatten.mpr ⟨l, hl, hx⟩
  refine ⟨lines, emit_plain lines true hall, hflat, hall, ?_⟩
  intro hnil; rw [hnil] at hflat; exact hne hflat.symm

end C36
