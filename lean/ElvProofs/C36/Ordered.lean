/-
C36 helpers — ordered-list-marker lookalikes with leading zeros: the
formatter's `TrimLeft(number, "0") == "1"` agrees with the parser's
`Atoi(number) == 1`.
-/
import ElvProofs.C36.Inline
namespace C36
open Go C35

def decFrom (a : Nat) (ds : Bytes) : Nat := ds.foldl (fun a d => a * 10 + (d.toNat - 0x30)) a

theorem decVal_eq (ds : Bytes) : decVal ds = decFrom 0 ds := by
  unfold decVal decFrom; rfl

theorem decFrom_cons (a : Nat) (d : UInt8) (t : Bytes) :
    decFrom a (d :: t) = decFrom (a * 10 + (d.toNat - 0x30)) t := by
  unfold decFrom; rw [List.foldl_cons]

theorem decFrom_ge (ds : Bytes) : ∀ a : Nat, a ≤ decFrom a ds := by
  induction ds with
  | nil => intro a; exact Nat.le_refl a
  | cons d t ih =>
    intro a
    rw [decFrom_cons]
    have := ih (a * 10 + (d.toNat - 0x30))
    omega

theorem decFrom_eq_one (ds : Bytes) (a : Nat) (ha : 1 ≤ a) : decFrom a ds = 1 ↔ (ds = [] ∧ a = 1) := by
  cases ds with
  | nil => simp [decFrom]
  | cons d t =>
    rw [decFrom_cons]
    have := decFrom_ge t (a * 10 + (d.toNat - 0x30))
    constructor
    · intro h; omega
    · intro h; cases h.1

theorem digit_toNat {d : UInt8} (h : isDigitB d = true) : 48 ≤ d.toNat ∧ d.toNat ≤ 57 := by
  simp only [isDigitB, Bool.and_eq_true, decide_eq_true_eq] at h
  exact ⟨UInt8.le_iff_toNat_le.mp h.1, UInt8.le_iff_toNat_le.mp h.2⟩

theorem digit_val {d : UInt8} (h : isDigitB d = true) :
    ((d == 0x30) = true → d.toNat - 0x30 = 0) ∧ ((d == 0x30) = false → 1 ≤ d.toNat - 0x30) ∧
    (d.toNat - 0x30 = 1 ↔ d = 0x31) := by
  have := digit_toNat h
  have e0 : d = 0x30 ↔ d.toNat = 48 := UInt8.toNat_inj.symm
  have e1 : d = 0x31 ↔ d.toNat = 49 := UInt8.toNat_inj.symm
  refine ⟨fun hz => ?_, fun hz => ?_, ?_⟩
  · have := e0.mp (eq_of_beq hz); omega
  · have : d.toNat ≠ 48 := fun hx => ne_of_beq_false hz (e0.mpr hx)
    omega
  · rw [e1]; omega

/-- a digit is none of the bytes that start a block or that start-of-line escaping looks at -/
theorem digit_ne {d : UInt8} (h : isDigitB d = true) :
    (d == SP) = false ∧ (d == 0x09) = false ∧ (d == 0x2D) = false ∧ (d == 0x2B) = false ∧
    (d == 0x3E) = false ∧ (d == 0x23) = false ∧ (d == 0x7E) = false ∧ (d == 0x2A) = false ∧
    (d == 0x5F) = false ∧ (d == 0x60) = false :=
  ⟨beq_false_of_class h (by decide), beq_false_of_class h (by decide), beq_false_of_class h (by decide),
   beq_false_of_class h (by decide), beq_false_of_class h (by decide), beq_false_of_class h (by decide),
   beq_false_of_class h (by decide), beq_false_of_class h (by decide), beq_false_of_class h (by decide),
   beq_false_of_class h (by decide)⟩

theorem trimLeftZeros_eq_one_iff (ds : Bytes) (hd : ∀ b ∈ ds, isDigitB b = true) :
    decVal ds = 1 ↔ ds.dropWhile (· == 0x30) = [0x31] := by
  rw [decVal_eq]
  induction ds with
  | nil => simp [decFrom]
  | cons d t ih =>
    have hf := digit_val (hd d List.mem_cons_self)
    have ht : ∀ b ∈ t, isDigitB b = true := fun b hb => hd b (List.mem_cons_of_mem _ hb)
    rw [decFrom_cons, List.dropWhile_cons]
    cases hz : (d == 0x30) with
    | true =>
      rw [hf.1 hz]
      simpa using ih ht
    | false =>
      have h1 := hf.2.1 hz
      simp only [Nat.zero_mul, Nat.zero_add, Bool.false_eq_true, if_false]
      rw [decFrom_eq_one t _ h1, hf.2.2]
      constructor
      · intro h; rw [h.1, h.2]
      · intro h; injection h with h1 h2; exact ⟨h2, h1⟩

theorem countWhile_digits (ds : Bytes) (p : UInt8) (tail : Bytes) (hd : ∀ b ∈ ds, isDigitB b = true)
    (hp : isDigitB p = false) : countWhile isDigitB (ds ++ p :: tail) = ds.length := by
  induction ds with
  | nil => simp [countWhile, hp]
  | cons d t ih =>
    simp [countWhile, hd d List.mem_cons_self, ih (fun b hb => hd b (List.mem_cons_of_mem _ hb))]

theorem countWhile_all_digits (ds : Bytes) (hd : ∀ b ∈ ds, isDigitB b = true) :
    countWhile isDigitB ds = ds.length := by
  induction ds with
  | nil => rfl
  | cons d t ih =>
    simp [countWhile, hd d List.mem_cons_self, ih (fun b hb => hd b (List.mem_cons_of_mem _ hb))]

theorem escapeStartOfLine_digits (sb : Bytes) (d : UInt8) (t tl : Bytes) (p : UInt8) (sop eol : Bool)
    (hd : ∀ b ∈ d :: t, isDigitB b = true) (hp : isDigitB p = false) :
    escapeStartOfLine sb (d :: t ++ p :: tl) sop eol =
      .ok (if (decide ((d :: t).length ≤ 9) && (p == 0x2E || p == 0x29) &&
               (startsWithSpaceOrTab tl || (tl.isEmpty && eol)) &&
               (sop || (d :: t).dropWhile (· == 0x30) == [0x31])) = true
           then d :: t ++ 0x5C :: p :: tl else d :: t ++ p :: tl) := by
  obtain ⟨f1, f2, f3, f4, f5, f6, f7, _, f9, _⟩ := digit_ne (hd d List.mem_cons_self)
  have hcw : countWhile isDigitB (d :: (t ++ p :: tl)) = (d :: t).length := countWhile_digits (d :: t) p tl hd hp
  have hdrop : (d :: (t ++ p :: tl)).drop (d :: t).length = p :: tl := List.drop_left' rfl
  have hdrop1 : (d :: (t ++ p :: tl)).drop ((d :: t).length + 1) = tl := by
    rw [← List.drop_drop, hdrop]; rfl
  have htake : (d :: (t ++ p :: tl)).take (d :: t).length = d :: t := List.take_left' rfl
  have h1 : decide (1 ≤ (d :: t).length) = true := by simp
  rw [List.cons_append, escapeStartOfLine_cons sb d _ sop eol f1 f2]
  simp only [f3, f4, f5, f6, Bool.or_self, Bool.false_eq_true, if_false]
  unfold solLate orderedLookalike
  simp only [startsWith_tildes_cons _ f7, Bool.false_eq_true, if_false, hcw, hdrop, hdrop1, htake, h1,
    List.head?_cons, Bool.true_and, thematicBreakLookalike_cons _ f3 f9, Bool.and_false]
  generalize decide ((d :: t).length ≤ 9) = b9
  generalize (p == 0x2E || p == 0x29) = bp
  cases b9 <;> cases bp <;> simp

theorem escapeStartOfLine_all_digits (sb : Bytes) (ds : Bytes) (sop eol : Bool)
    (hd : ∀ b ∈ ds, isDigitB b = true) (h1 : 1 ≤ ds.length) : escapeStartOfLine sb ds sop eol = .ok ds := by
  cases ds with
  | nil => simp at h1
  | cons d t =>
    obtain ⟨f1, f2, f3, f4, f5, f6, f7, _, f9, _⟩ := digit_ne (hd d List.mem_cons_self)
    have ho : orderedLookalike (d :: t) = false := by
      simp [orderedLookalike, countWhile_all_digits _ hd]
    rw [escapeStartOfLine_cons sb d t sop eol f1 f2,
      solLate_plain (startsWith_tildes_cons t f7) ho (thematicBreakLookalike_cons t f3 f9)]
    simp only [f3, f4, f5, f6, Bool.or_self, Bool.false_eq_true, if_false]

theorem escapeStartOfLine_ordered (sb ds tail : Bytes) (p : UInt8)
    (hd : ∀ b ∈ ds, isDigitB b = true) (h1 : 1 ≤ ds.length) (h9 : ds.length ≤ 9)
    (hp : p = 0x2E ∨ p = 0x29) (ht : tail = [] ∨ startsWithSpaceOrTab tail = true) :
    escapeStartOfLine sb (ds ++ p :: tail) false true =
      .ok (if decVal ds = 1 then ds ++ 0x5C :: p :: tail else ds ++ p :: tail) := by
  have hpd : isDigitB p = false := by rcases hp with h | h <;> subst h <;> decide
  have hpp : (p == 0x2E || p == 0x29) = true := by rcases hp with h | h <;> subst h <;> decide
  have htl : (startsWithSpaceOrTab tail || (tail.isEmpty && true)) = true := by
    rcases ht with h | h
    · subst h; rfl
    · simp [h]
  have hiff := trimLeftZeros_eq_one_iff ds hd
  cases ds with
  | nil => simp at h1
  | cons d t =>
    rw [escapeStartOfLine_digits sb d t tail p false true hd hpd]
    simp only [decide_eq_true h9, hpp, htl, Bool.true_and, Bool.false_or, beq_iff_eq, ← hiff]

theorem itemPrefix_digits (ds rest : Bytes) (q : UInt8) (hd : ∀ b ∈ ds, isDigitB b = true)
    (h1 : 1 ≤ ds.length) (h9 : ds.length ≤ 9) (hq : isDigitB q = false) :
    itemPrefix (ds ++ q :: rest) =
      if q == 0x2E || q == 0x29 then some (ds.length + 1, none, decVal ds, q) else none := by
  have hcw := countWhile_digits ds q rest hd hq
  cases ds with
  | nil => simp at h1
  | cons d t =>
    obtain ⟨f1, f2, f3, f4, f5, f6, f7, f8, f9, _⟩ := digit_ne (hd d List.mem_cons_self)
    have hdrop : ((d :: t) ++ q :: rest).drop (d :: t).length = q :: rest := by simp
    have htake : ((d :: t) ++ q :: rest).take (d :: t).length = d :: t := by simp
    simp only [List.cons_append] at hcw hdrop htake ⊢
    have hls : leadingSpaces (d :: (t ++ q :: rest)) = 0 := by simp [leadingSpaces, countWhile, f1]
    have hk : ((d :: t).length < 1 || (d :: t).length > 9) = false := by
      simp only [Bool.or_eq_false_iff, decide_eq_false_iff_not]; omega
    unfold itemPrefix
    simp only [hls, List.drop_zero, f3, f4, f8, hcw, hdrop, htake, hk, Bool.or_self, Bool.false_eq_true,
      if_false, Nat.zero_add]
    simp

theorem escaped_not_item (ds tail : Bytes) (p : UInt8) (hd : ∀ b ∈ ds, isDigitB b = true)
    (h1 : 1 ≤ ds.length) (h9 : ds.length ≤ 9) :
    itemPrefix (ds ++ 0x5C :: p :: tail) = none ∧ itemMarkerRe (ds ++ 0x5C :: p :: tail) = none ∧
    itemMarkerBlankRe (ds ++ 0x5C :: p :: tail) = none := by
  have h := itemPrefix_digits ds (p :: tail) 0x5C hd h1 h9 (by decide)
  have h' : itemPrefix (ds ++ 0x5C :: p :: tail) = none := by rw [h]; rfl
  refine ⟨h', ?_, ?_⟩
  · unfold itemMarkerRe; rw [h']
  · unfold itemMarkerBlankRe; rw [h']

/-- the parser's `m.start != 1 && !newParagraph` rule (`parseStartingMarkers`) -/
theorem unescaped_not_interrupting (ds tail : Bytes) (p : UInt8) (hd : ∀ b ∈ ds, isDigitB b = true)
    (h1 : 1 ≤ ds.length) (h9 : ds.length ≤ 9) (hp : p = 0x2E ∨ p = 0x29)
    (hne : decVal ds ≠ 1) (fuel : Nat) :
    startingMarkers (fuel + 1) (ds ++ p :: tail) false [] = some (ds ++ p :: tail, []) := by
  have hpd : isDigitB p = false := by rcases hp with h | h <;> subst h <;> decide
  have hpp : (p == 0x2E || p == 0x29) = true := by rcases hp with h | h <;> subst h <;> decide
  have hip := itemPrefix_digits ds tail p hd h1 h9 hpd
  rw [hpp] at hip
  simp only [if_true] at hip
  have hq : thematicBreakRe (ds ++ p :: tail) = false ∧ blockquoteMarkerLen (ds ++ p :: tail) = none := by
    cases ds with
    | nil => simp at h1
    | cons d t =>
      obtain ⟨f1, _, f3, _, f5, _, _, f8, f9, _⟩ := digit_ne (hd d List.mem_cons_self)
      have : d ≠ 0x3E := ne_of_beq_false f5
      constructor
      · simp [thematicBreakRe, leadingSpaces, countWhile, f1, f3, f8, f9]
      · simp [blockquoteMarkerLen, leadingSpaces, countWhile, f1, this]
  have hs1 : (decVal ds != 1) = true := by simpa using hne
  unfold startingMarkers
  simp only [hq.1, Bool.false_eq_true, if_false, hq.2, itemMarkerRe, hip]
  have hdr : List.drop (ds.length + 1) (ds ++ p :: tail) = tail := by
    rw [← List.drop_drop]; simp
  rw [hdr]
  by_cases hsp : 1 ≤ countWhile (fun x => x == SP) tail
  · simp [hsp, hs1]
  · simp [hsp]

end C36
