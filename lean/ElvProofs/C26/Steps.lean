/-
C26: each kind of step of the daemon model preserves the invariant `Inv`.
-/
import ElvProofs.C26.Inv
namespace C26
variable {σ Op Out : Type} {spec : σ → Op → σ × Out} {s0 : σ} {s : State σ Op Out}

/-- The call table changes as `client.call` allows when nobody resets the client: a call keeps its
operation, never leaves `returned`, gets a reply only if it is a committed one, and comes to the
top of the retry loop only from there. -/
def CallsStep (s : State σ Op Out) (call' : Nat → Option (Call Op Out)) : Prop :=
  ∀ i, call' i = s.call i ∨ ∃ c c', s.call i = some c ∧ call' i = some c' ∧ c'.op = c.op ∧ c.pc ≠ .returned ∧
    (∀ out, c'.pc = .got out → ∃ op, (i, op, out) ∈ s.lin) ∧ (∀ k, c'.pc = .ready k → ∃ k0, c.pc = .ready k0)

theorem inv_calls (h : Inv spec s0 s) {call' : Nat → Option (Call Op Out)} (hstep : CallsStep s call') :
    Inv spec s0 { s with call := call' } :=
  { h with
    bCall := by
      intro i c' hc'
      rcases hstep i with he | ⟨c, _, hc, _⟩
      · exact h.bCall i c' (he.symm.trans hc')
      · exact h.bCall i c hc
    H1 := by
      intro i c' hc'
      rcases hstep i with he | ⟨c, c1, hc, hc1, hop, _⟩
      · exact h.H1 i c' (he.symm.trans hc')
      · cases hc1.symm.trans hc'
        exact hop ▸ h.H1 i c hc
    R1 := by
      intro i hi
      obtain ⟨c, hc, hp⟩ := h.R1 i hi
      rcases hstep i with he | ⟨c0, _, hc0, _, _, hret, _⟩
      · exact ⟨c, he.trans hc, hp⟩
      · cases hc0.symm.trans hc
        exact absurd hp hret
    G1 := by
      intro i c' hc' out hp
      rcases hstep i with he | ⟨c, c1, _, hc1, _, _, hgot, _⟩
      · exact h.G1 i c' (he.symm.trans hc') out hp
      · cases hc1.symm.trans hc'
        exact hgot out hp
    Q1 := by
      intro r q hq
      obtain ⟨c, hc, hop, hnr⟩ := h.Q1 r q hq
      rcases hstep q.id with he | ⟨c0, c1, hc0, hc1, hop1, _, _, hready⟩
      · exact ⟨c, he.trans hc, hop, hnr⟩
      · cases hc0.symm.trans hc
        refine ⟨c1, hc1, hop1.trans hop, fun k hk => ?_⟩
        obtain ⟨k0, hk0⟩ := hready k hk
        exact hnr k0 hk0 }

theorem callsStep_setPc {id : Nat} {c : Call Op Out} (hc : s.call id = some c) (pc' : CallPc Out)
    (hret : c.pc ≠ .returned) (hgot : ∀ out, pc' = .got out → ∃ op, (id, op, out) ∈ s.lin)
    (hready : ∀ k, pc' = .ready k → ∃ k0, c.pc = .ready k0) :
    CallsStep s (upd s.call id (some { c with pc := pc' })) := by
  intro i
  by_cases hi : i = id
  · subst hi
    exact Or.inr ⟨c, _, hc, upd_same _ _ _, rfl, hret, hgot, hready⟩
  · exact Or.inl (upd_ne _ _ hi)

theorem inv_setPc (h : Inv spec s0 s) {id : Nat} {c : Call Op Out} (hc : s.call id = some c)
    (pc' : CallPc Out) (hret : c.pc ≠ .returned)
    (hgot : ∀ out, pc' = .got out → ∃ op, (id, op, out) ∈ s.lin)
    (hready : ∀ k, pc' = .ready k → ∃ k0, c.pc = .ready k0) : Inv spec s0 (setPc s id c pc') :=
  inv_calls h (callsStep_setPc hc pc' hret hgot hready)

theorem failWaiting_eq (call : Nat → Option (Call Op Out)) (c : Nat) (f : Nat → CallPc Out) (i : Nat) :
    failWaiting call c f i = call i ∨
      ∃ cl k, call i = some cl ∧ cl.pc = .waiting c k ∧ failWaiting call c f i = some { cl with pc := f k } := by
  cases hi : call i with
  | none => exact Or.inl (by simp [failWaiting, hi])
  | some cl =>
    cases hp : cl.pc with
    | waiting c' k =>
      by_cases hc : c' = c
      · exact Or.inr ⟨cl, k, rfl, hc ▸ hp, by simp [failWaiting, hi, hp, hc]⟩
      · exact Or.inl (by simp [failWaiting, hi, hp, hc])
    | _ => exact Or.inl (by simp [failWaiting, hi, hp])

theorem callsStep_failWaiting (c : Nat) (f : Nat → CallPc Out) (hf : ∀ k, f k = .failed) :
    CallsStep s (failWaiting s.call c f) := by
  intro i
  rcases failWaiting_eq s.call c f i with he | ⟨cl, k, hi, hp, he⟩
  · exact Or.inl he
  · rw [hf k] at he
    exact Or.inr ⟨cl, _, hi, he, rfl, hp ▸ nofun, nofun, nofun⟩

theorem inv_setObj (h : Inv spec s0 s) (o : Nat) : Inv spec s0 { s with obj := upd s.obj o none } :=
  { h with O1 := fun o' cn ho => h.O1 o' cn (of_upd_none ho) }

/-- no clause of `Inv` mentions `nObjs` -/
theorem inv_newClient (h : Inv spec s0 s) :
    Inv spec s0 { s with nObjs := s.nObjs + 1, obj := upd s.obj s.nObjs none } :=
  { inv_setObj h s.nObjs with }

theorem inv_dial (h : Inv spec s0 s) (o : Nat) :
    Inv spec s0 { s with nConns := s.nConns + 1, conn := upd s.conn s.nConns (Conn.fresh o),
                         obj := upd s.obj o (some s.nConns) } :=
  { h with
    O1 := forall_upd (fun o' cn ho => Nat.lt_succ_of_lt (h.O1 o' cn ho)) (Nat.lt_succ_self _)
    N1 := forall_upd_total (P := fun _ (cn : Conn Out) => cn.closing = false) h.N1 rfl
    Q6 := fun r q hq => Nat.lt_succ_of_lt (h.Q6 r q hq)
    M1 := by
      intro r q hq hp
      show (upd s.conn s.nConns (Conn.fresh o) q.conn).sending = some r
      rw [upd_ne _ _ (Nat.ne_of_lt (h.Q6 r q hq))]
      exact h.M1 r q hq hp
    F1 := forall_upd_total (P := fun c cn => FramesOK cn s.lin s.req c) h.F1
      (framesOK_fresh o s.lin fun r q hq => Nat.ne_of_lt (h.Q6 r q hq)) }

theorem inv_invoke (h : Inv spec s0 s) (o : Nat) (op : Op) :
    Inv spec s0 { s with nCalls := s.nCalls + 1,
                         call := upd s.call s.nCalls (some { obj := o, op := op, pc := .ready 0 }),
                         hist := s.hist ++ [.inv s.nCalls op] } :=
  have hfresh : s.nCalls ∉ invIds s.hist := by simp [h.H0]
  have keep : ∀ i c, s.call i = some c →
      upd s.call s.nCalls (some { obj := o, op := op, pc := .ready 0 }) i = some c := by
    intro i c hc
    rw [upd_ne _ _ (Nat.ne_of_lt (h.bCall i c hc))]
    exact hc
  { h with
    bCall := forall_upd (fun i c hc => Nat.lt_succ_of_lt (h.bCall i c hc)) (Nat.lt_succ_self _)
    H0 := by
      show invIds (s.hist ++ [Event.inv s.nCalls op]) = List.range (s.nCalls + 1)
      rw [invIds_concat_inv, h.H0, List.range_succ]
    H1 := forall_upd (fun i c hc => List.mem_append_left _ (h.H1 i c hc)) (by simp)
    R1 := by
      intro id hid
      obtain ⟨c, hc, hp⟩ := h.R1 id (by simpa using hid)
      exact ⟨c, keep id c hc, hp⟩
    W := h.W.append_inv op hfresh
    L := h.L.append_inv op fun hm => by
      obtain ⟨x, hx, hx1⟩ := List.mem_map.1 hm
      exact hfresh (mem_invIds.2 ⟨x.2.1, hx1 ▸ h.L.invoked x hx⟩)
    G1 := forall_upd h.G1 nofun
    Q1 := by
      intro r q hq
      obtain ⟨c, hc, hr⟩ := h.Q1 r q hq
      exact ⟨c, keep _ c hc, hr⟩ }

theorem inv_newReq (h : Inv spec s0 s) {id cn : Nat} {c : Call Op Out} (hc : s.call id = some c)
    (hpc : ∀ k, c.pc ≠ .ready k) (hcn : cn < s.nConns) (hnone : ∀ r q, s.req r = some q → q.id ≠ id) :
    Inv spec s0 { s with nReqs := s.nReqs + 1,
                         req := upd s.req s.nReqs (some { conn := cn, id := id, op := c.op, phase := .inbox }) } :=
  have keep : ∀ r q, s.req r = some q →
      upd s.req s.nReqs (some { conn := cn, id := id, op := c.op, phase := .inbox }) r = some q := by
    intro r q hq
    rw [upd_ne _ _ (Nat.ne_of_lt (h.bReq r q hq))]
    exact hq
  { h with
    bReq := forall_upd (fun r q hq => Nat.lt_succ_of_lt (h.bReq r q hq)) (Nat.lt_succ_self _)
    Q1 := forall_upd h.Q1 ⟨c, hc, rfl, hpc⟩
    Q2 := by
      refine forall_upd' (fun r q hr hq => forall_upd' (fun r' q' _ hq' => h.Q2 r q hq r' q' hq') ?_) ?_
      · exact fun hid => absurd hid (hnone r q hq)
      · exact forall_upd' (fun r' q' _ hq' hid => absurd hid.symm (hnone r' q' hq')) (fun _ => rfl)
    Q4 := forall_upd h.Q4 nofun
    Q5 := by
      intro x hx
      obtain ⟨r, q, o, hq, hid, hph⟩ := h.Q5 x hx
      exact ⟨r, q, o, keep r q hq, hid, hph⟩
    Q6 := forall_upd h.Q6 hcn
    M1 := forall_upd h.M1 nofun
    F1 := fun c' => (h.F1 c').transfer rfl rfl (fun _ hx => hx)
      (forall_upd (fun _ _ hq _ _ _ => hq) nofun)
      (fun r q _ hq _ _ hsd => ⟨keep r q hq, hsd⟩) }

theorem inv_send (h : Inv spec s0 s) {id cn k : Nat} {c : Call Op Out} (hc : s.call id = some c)
    (hpc : c.pc = .ready k) (ho : s.obj c.obj = some cn) :
    Inv spec s0 { setPc s id c (.waiting cn k) with
                  nReqs := s.nReqs + 1,
                  req := upd s.req s.nReqs (some { conn := cn, id := id, op := c.op, phase := .inbox }) } :=
  inv_newReq (c := { c with pc := .waiting cn k })
    (inv_setPc h hc (.waiting cn k) (hpc ▸ nofun) nofun nofun)
    (upd_same _ _ _) nofun (h.O1 _ _ ho)
    (by
      intro r q hq hid
      obtain ⟨c', hc', _, hnr⟩ := h.Q1 r q hq
      cases (hid ▸ hc').symm.trans hc
      exact hnr k hpc)

theorem inv_respond (h : Inv spec s0 s) {id : Nat} {c : Call Op Out} {op : Op} {out : Out}
    (hc : s.call id = some c) (hpc : c.pc = .returned) (hnew : id ∉ resIds s.hist)
    (hmem : (id, op, out) ∈ s.lin) : Inv spec s0 { s with hist := s.hist ++ [.res id out] } :=
  { h with
    H0 := by
      show invIds (s.hist ++ [Event.res id out]) = List.range s.nCalls
      rw [invIds_concat_res, h.H0]
    H1 := fun i c' hc' => List.mem_append_left _ (h.H1 i c' hc')
    R1 := by
      intro i hi
      have hi' : i ∈ resIds s.hist ++ [id] := by simpa using hi
      rcases List.mem_append.1 hi' with hi' | hi'
      · exact h.R1 i hi'
      · exact ⟨c, List.mem_singleton.1 hi' ▸ hc, hpc⟩
    W := h.W.append_res out (h.H1 id c hc) hnew
    L := h.L.append_res hmem }

theorem inv_ret (h : Inv spec s0 s) {id : Nat} {c : Call Op Out} {out : Out} (hc : s.call id = some c)
    (hpc : c.pc = .got out) :
    Inv spec s0 { setPc s id c .returned with hist := s.hist ++ [.res id out] } := by
  obtain ⟨op, hmem⟩ := h.G1 id c hc out hpc
  refine inv_respond (c := { c with pc := .returned })
    (inv_setPc h hc .returned (hpc ▸ nofun) nofun nofun)
    (upd_same _ _ _) rfl ?_ hmem
  intro hin
  obtain ⟨c0, hc0, hp0⟩ := h.R1 id hin
  cases hc0.symm.trans hc
  rw [hpc] at hp0
  cases hp0

variable {r : Nat} {q : SReq Op Out}

theorem Q2_setPhase (h : Inv spec s0 s) (hq : s.req r = some q) (ph' : Phase Out) :
    ∀ r1 q1, upd s.req r (some { q with phase := ph' }) r1 = some q1 →
      ∀ r2 q2, upd s.req r (some { q with phase := ph' }) r2 = some q2 → q1.id = q2.id → r1 = r2 := by
  intro r1 q1 h1 r2 q2 h2 hid
  have old := forall_upd (P := fun j x => ∃ q0, s.req j = some q0 ∧ x.id = q0.id)
    (fun j x hx => ⟨x, hx, rfl⟩) (v := { q with phase := ph' }) ⟨q, hq, rfl⟩
  obtain ⟨p1, hp1, e1⟩ := old r1 q1 h1
  obtain ⟨p2, hp2, e2⟩ := old r2 q2 h2
  exact h.Q2 r1 p1 hp1 r2 p2 hp2 (by rw [← e1, ← e2, hid])

theorem Q5_setPhase (h : Inv spec s0 s) (hq : s.req r = some q) (ph' : Phase Out)
    (hsome : ∀ o, q.phase.out? = some o → ∃ o', ph'.out? = some o') :
    ∀ x ∈ s.lin, ∃ r' q' o, upd s.req r (some { q with phase := ph' }) r' = some q' ∧ q'.id = x.1 ∧
      q'.phase.out? = some o := by
  intro x hx
  obtain ⟨r0, q0, o0, hq0, hid, hph⟩ := h.Q5 x hx
  by_cases hr : r0 = r
  · subst hr
    cases hq.symm.trans hq0
    obtain ⟨o', ho'⟩ := hsome o0 hph
    exact ⟨r0, _, o', upd_same _ _ _, hid, ho'⟩
  · exact ⟨r0, q0, o0, by rw [upd_ne _ _ hr]; exact hq0, hid, hph⟩

theorem framesOK_setPhase (h : Inv spec s0 s) (hq : s.req r = some q) (ph' : Phase Out)
    {lin' : List (Nat × Op × Out)} (hlin : ∀ x ∈ s.lin, x ∈ lin') {c : Nat}
    (hph : q.conn = c → ∀ o, ph' ≠ .hdrDone o ∧ q.phase ≠ .hdrDone o) :
    FramesOK (s.conn c) lin' (upd s.req r (some { q with phase := ph' })) c := by
  refine (h.F1 c).transfer rfl rfl hlin
    (forall_upd (fun _ _ hq' _ _ _ => hq') (fun o hqc hp => absurd hp (hph hqc o).1)) ?_
  intro r' q' o hq' hqc hp hsd
  have hne : r' ≠ r := by
    intro he
    subst he
    cases hq.symm.trans hq'
    exact (hph hqc o).2 hp
  exact ⟨by rw [upd_ne _ _ hne]; exact hq', hsd⟩

/-- a request moves on inside `sendResponse` (or is read); left to the caller: the facts about
`sending` and the frames of its connection -/
theorem inv_serve (h : Inv spec s0 s) (hq : s.req r = some q) (ph' : Phase Out) (hout : ph'.out? = q.phase.out?)
    (cn' : Conn Out) (hclosing : cn'.closing = false)
    (hnew : (∃ o, ph' = .locked o ∨ ph' = .hdrDone o) → cn'.sending = some r)
    (hothers : ∀ r', r' ≠ r → (s.conn q.conn).sending = some r' → cn'.sending = some r')
    (hF : FramesOK cn' s.lin (upd s.req r (some { q with phase := ph' })) q.conn) :
    Inv spec s0 { setPhase s r q ph' with conn := upd s.conn q.conn cn' } :=
  { h with
    bReq := forall_upd h.bReq (h.bReq r q hq)
    Q1 := forall_upd h.Q1 (h.Q1 r q hq)
    Q2 := Q2_setPhase h hq ph'
    Q4 := forall_upd h.Q4 (fun o ho => h.Q4 r q hq o (hout ▸ ho))
    Q5 := Q5_setPhase h hq ph' (fun o ho => ⟨o, hout ▸ ho⟩)
    Q6 := forall_upd h.Q6 (h.Q6 r q hq)
    N1 := forall_upd_total (P := fun _ (cn : Conn Out) => cn.closing = false) h.N1 hclosing
    M1 := by
      refine forall_upd' (fun r' q' hr hq' hp => ?_) (fun hp => ?_)
      · have := h.M1 r' q' hq' hp
        show (upd s.conn q.conn cn' q'.conn).sending = some r'
        by_cases hc : q'.conn = q.conn
        · rw [hc, upd_same]
          exact hothers r' hr (hc ▸ this)
        · rw [upd_ne _ _ hc]
          exact this
      · show (upd s.conn q.conn cn' q.conn).sending = some r
        rw [upd_same]
        exact hnew hp
    F1 := by
      intro c
      show FramesOK (upd s.conn q.conn cn' c) s.lin _ c
      by_cases hc : c = q.conn
      · subst hc
        rw [upd_same]
        exact hF
      · rw [upd_ne _ _ hc]
        exact framesOK_setPhase h hq ph' (fun _ hx => hx) (fun hx => absurd hx.symm hc) }

theorem inv_read (h : Inv spec s0 s) (hq : s.req r = some q) (hph : q.phase = .inbox) :
    Inv spec s0 (setPhase s r q .handling) := by
  have := inv_serve h hq .handling (by rw [hph]; rfl) (s.conn q.conn) (h.N1 _) nofun (fun _ _ hs => hs)
    (framesOK_setPhase h hq .handling (fun _ hx => hx) (fun _ o => ⟨nofun, hph ▸ nofun⟩))
  rwa [upd_self] at this

theorem inv_commit (h : Inv spec s0 s) (hq : s.req r = some q) (hph : q.phase = .handling) :
    Inv spec s0 { setPhase s r q (.committed (spec s.store q.op).2) with
                  store := (spec s.store q.op).1, lin := s.lin ++ [(q.id, q.op, (spec s.store q.op).2)] } := by
  -- nothing with this id has committed: it would be this request, which has not
  have hnotin : q.id ∉ s.lin.map (·.1) := by
    intro hin
    obtain ⟨x, hx, hx1⟩ := List.mem_map.1 hin
    obtain ⟨r0, q0, o0, hq0, hid, hp0⟩ := h.Q5 x hx
    cases h.Q2 r0 q0 hq0 r q hq (hid.trans hx1)
    cases hq.symm.trans hq0
    rw [hph] at hp0
    cases hp0
  obtain ⟨c, hc, hop, _⟩ := h.Q1 r q hq
  have hL := h.L.commit (hop ▸ h.H1 q.id c hc) hnotin
  rw [h.S1] at hL
  exact { h with
    bReq := forall_upd h.bReq (h.bReq r q hq)
    Q1 := forall_upd h.Q1 (h.Q1 r q hq)
    Q2 := Q2_setPhase h hq _
    Q4 := forall_upd (fun j x hx o ho => List.mem_append_left _ (h.Q4 j x hx o ho)) (by
      intro o ho
      cases ho
      exact List.mem_append_right _ (List.mem_singleton.2 rfl))
    Q5 := by
      intro x hx
      rcases List.mem_append.1 hx with hx | hx
      · exact Q5_setPhase h hq _ (by rw [hph]; intro o ho; cases ho) x hx
      · rw [List.mem_singleton.1 hx]
        exact ⟨r, _, _, upd_same _ _ _, rfl, rfl⟩
    Q6 := forall_upd h.Q6 (h.Q6 r q hq)
    M1 := forall_upd h.M1 nofun
    L := hL
    S1 := by
      show (runSeq spec s0 ((s.lin ++ [(q.id, q.op, (spec s.store q.op).2)]).map (·.2.1))).1 = _
      rw [List.map_append, runSeq_append, h.S1]
      rfl
    G1 := fun id c hc out hp => let ⟨op, ho⟩ := h.G1 id c hc out hp; ⟨op, List.mem_append_left _ ho⟩
    F1 := fun c => framesOK_setPhase h hq _ (fun _ hx => List.mem_append_left _ hx)
      (fun _ o => ⟨nofun, hph ▸ nofun⟩) }

theorem inv_lock (h : Inv spec s0 s) {out : Out} (hq : s.req r = some q)
    (hph : q.phase = .committed out) (hfree : (s.conn q.conn).sending = none) :
    Inv spec s0 { setPhase s r q (.locked out) with
                  conn := upd s.conn q.conn { s.conn q.conn with sending := some r } } := by
  refine inv_serve h hq (.locked out) (by rw [hph]; rfl) _ (h.N1 _) (fun _ => rfl)
    (fun r' _ hs => by rw [hfree] at hs; cases hs) ?_
  refine (framesOK_setPhase h hq (.locked out) (fun _ hx => hx)
    (fun _ o => ⟨nofun, hph ▸ nofun⟩)).transfer rfl rfl (fun _ hx => hx)
    (fun _ _ hq' _ _ _ => hq') ?_
  intro _ _ _ _ _ _ hsd
  rw [hfree] at hsd
  cases hsd

theorem inv_writeHdr (h : Inv spec s0 s) {out : Out} (hq : s.req r = some q) (hph : q.phase = .locked out) :
    Inv spec s0 { setPhase s r q (.hdrDone out) with
                  conn := upd s.conn q.conn
                    (if (s.conn q.conn).srvClosed then s.conn q.conn
                     else { s.conn q.conn with stream := (s.conn q.conn).stream ++ [.hdr q.id] }) } := by
  have hsend : (s.conn q.conn).sending = some r := h.M1 r q hq ⟨out, Or.inl hph⟩
  obtain ⟨pairs, tail, hs, hp, ht, ho⟩ := h.F1 q.conn
  cases hcl : (s.conn q.conn).srvClosed with
  | true =>
    exact inv_serve h hq (.hdrDone out) (by rw [hph]; rfl) _ (h.N1 _) (fun _ => hsend) (fun _ _ hs => hs)
      ((h.F1 q.conn).closed hcl rfl)
  | false =>
    -- the holder had not written its header yet, so the stream ends with a complete response
    have htail : tail = [] := by
      rcases ho hcl with ⟨ht, _⟩ | ⟨r', q', o', _, hsd, hq', _, hp'⟩
      · exact ht
      · cases hsend.symm.trans hsd
        cases hq.symm.trans hq'
        rw [hph] at hp'
        cases hp'
    subst htail
    refine inv_serve h hq (.hdrDone out) (by rw [hph]; rfl) _ (h.N1 _) (fun _ => hsend) (fun _ _ hs => hs) ?_
    exact ⟨pairs, [.hdr q.id], by simp [hs], hp, Or.inr ⟨_, rfl⟩, fun _ =>
      Or.inr ⟨r, { q with phase := .hdrDone out }, out, rfl, hsend, upd_same _ _ _, rfl, rfl⟩⟩

theorem inv_writeBody (h : Inv spec s0 s) {out : Out} (hq : s.req r = some q) (hph : q.phase = .hdrDone out) :
    Inv spec s0 { setPhase s r q (.finished out) with
                  conn := upd s.conn q.conn
                    (if (s.conn q.conn).srvClosed then { s.conn q.conn with sending := none }
                     else { s.conn q.conn with stream := (s.conn q.conn).stream ++ [.body q.id out], sending := none }) } := by
  have hsend : (s.conn q.conn).sending = some r := h.M1 r q hq ⟨out, Or.inr hph⟩
  have hothers : ∀ r', r' ≠ r → (s.conn q.conn).sending = some r' → (none : Option Nat) = some r' := by
    intro r' hr hs
    cases hsend.symm.trans hs
    exact absurd rfl hr
  obtain ⟨pairs, tail, hs, hp, ht, ho⟩ := h.F1 q.conn
  cases hcl : (s.conn q.conn).srvClosed with
  | true =>
    exact inv_serve h hq (.finished out) (by rw [hph]; rfl) _ (h.N1 _) nofun
      hothers ((h.F1 q.conn).closed hcl rfl)
  | false =>
    -- the stream ends with the header of this request
    have htail : tail = [.hdr q.id] := by
      rcases ho hcl with ⟨_, hn⟩ | ⟨r', q', o', ht, hsd, hq', _, _⟩
      · exact absurd hph (hn r q hq out rfl)
      · cases hsend.symm.trans hsd
        cases hq.symm.trans hq'
        exact ht
    subst htail
    refine inv_serve h hq (.finished out) (by rw [hph]; rfl) _ (h.N1 _) nofun
      hothers ?_
    refine ⟨pairs ++ [.hdr q.id, .body q.id out], [], by simp [hs],
      hp.append (.cons q.id out [] ⟨q.op, h.Q4 r q hq out (by rw [hph]; rfl)⟩ .nil), Or.inl rfl, fun _ =>
      Or.inl ⟨rfl, ?_⟩⟩
    -- another request between header and body would hold `sending` too
    refine forall_upd' (P := fun _ (q' : SReq Op Out) => ∀ o, q'.conn = q.conn → q'.phase ≠ .hdrDone o)
      (fun r' q' hr hq' o hqc hp' => ?_) (fun o _ hp' => by cases hp')
    exact absurd (hqc ▸ h.M1 r' q' hq' ⟨o, Or.inr hp'⟩) (fun hs => hr (by cases hsend.symm.trans hs; rfl))

theorem inv_conn (h : Inv spec s0 s) (c : Nat) (cn' : Conn Out)
    (hsend : cn'.sending = (s.conn c).sending) (hclosing : cn'.closing = (s.conn c).closing)
    (hF : FramesOK cn' s.lin s.req c) : Inv spec s0 { s with conn := upd s.conn c cn' } :=
  { h with
    N1 := forall_upd_total (P := fun _ (cn : Conn Out) => cn.closing = false) h.N1 (hclosing ▸ h.N1 c)
    M1 := by
      intro r q hq hp
      show (upd s.conn c cn' q.conn).sending = some r
      by_cases hc : q.conn = c
      · rw [hc, upd_same, hsend, ← hc]
        exact h.M1 r q hq hp
      · rw [upd_ne _ _ hc]
        exact h.M1 r q hq hp
    F1 := forall_upd_total (P := fun c cn => FramesOK cn s.lin s.req c) h.F1 hF }

theorem recv_front (h : Inv spec s0 s) {c id id' : Nat} {out : Out} {rest : List (Frame Out)}
    (hst : (s.conn c).stream = .hdr id :: .body id' out :: rest) :
    id' = id ∧ (∃ op, (id, op, out) ∈ s.lin) ∧
      Inv spec s0 { s with conn := upd s.conn c { s.conn c with stream := rest } } := by
  obtain ⟨pairs, tail, hs, hp, ht, ho⟩ := h.F1 c
  rw [hst] at hs
  cases hp with
  | nil => rcases ht with rfl | ⟨i, rfl⟩ <;> simp at hs
  | cons id0 out0 rest0 hm hr =>
    simp only [List.cons_append, List.cons.injEq, Frame.hdr.injEq, Frame.body.injEq] at hs
    obtain ⟨rfl, ⟨rfl, rfl⟩, rfl⟩ := hs
    exact ⟨rfl, hm, inv_conn h c _ rfl rfl ⟨rest0, tail, rfl, hr, ht, ho⟩⟩

theorem inv_serverClose (h : Inv spec s0 s) (c : Nat) :
    Inv spec s0 { s with conn := upd s.conn c { s.conn c with srvClosed := true } } :=
  inv_conn h c _ rfl rfl ((h.F1 c).closed rfl rfl)

/-- `input` sees EOF on a connection its client did not close (nobody resets clients): the pending
calls fail with an error other than `ErrShutdown`, and `c.rpcClient` stays -/
theorem inv_inputEOF (h : Inv spec s0 s) (c : Nat) :
    Inv spec s0 { s with
      conn := upd s.conn c { s.conn c with shutdown := true },
      call := failWaiting s.call c (fun k => if (s.conn c).closing then .ready (k + 1) else .failed),
      obj := if (s.conn c).closing ∧ s.obj (s.conn c).obj = some c then upd s.obj (s.conn c).obj none
             else s.obj } := by
  have hcl := h.N1 c
  rw [if_neg (by simp [hcl])]
  exact inv_calls (inv_conn h c { s.conn c with shutdown := true } rfl rfl (h.F1 c))
    (callsStep_failWaiting c _ (fun k => by simp [hcl]))

end C26
