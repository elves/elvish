/-
C26: the invariant is inductive (every step except `clientReset` preserves
it), hence holds in every state reachable without `ResetConn`; its clauses `W`
and `L` say that the commit order is a linearization of the history.
-/
import ElvProofs.C26.Steps
namespace C26
variable {σ Op Out : Type} {spec : σ → Op → σ × Out} {s0 : σ} {s : State σ Op Out}

theorem inv_step (h : Inv spec s0 s) (l : Label Op) (hl : l.noReset) {s' : State σ Op Out}
    (hs : step spec s l = some s') : Inv spec s0 s' := by
  cases l with
  | newClient =>
    cases hs
    exact inv_newClient h
  | invoke o op =>
    dsimp only [step] at hs
    split at hs
    · cases hs
      exact inv_invoke h o op
    · cases hs
  | dial id =>
    dsimp only [step] at hs
    split at hs
    next c hc =>
      split at hs
      next k hpc =>
        split at hs
        · cases hs
          exact inv_dial h c.obj
        · cases hs
      next => cases hs
    next => cases hs
  | send id =>
    dsimp only [step] at hs
    split at hs
    next c hc =>
      split at hs
      next k cn hpc ho =>
        split at hs
        · cases hs
          exact inv_send h hc hpc ho
        · cases hs
      next => cases hs
    next => cases hs
  | sendShutdown id =>
    dsimp only [step] at hs
    split at hs
    next c hc =>
      split at hs
      next k cn hpc ho =>
        split at hs
        · cases hs
          exact inv_setObj (inv_setPc h hc (.ready (k + 1)) (hpc ▸ nofun) nofun (fun _ _ => ⟨k, hpc⟩)) c.obj
        · cases hs
      next => cases hs
    next => cases hs
  | giveUp id =>
    dsimp only [step] at hs
    split at hs
    next c hc =>
      split at hs
      next k hpc =>
        split at hs
        · cases hs
          exact inv_setPc h hc .failed (hpc ▸ nofun) nofun nofun
        · cases hs
      next => cases hs
    next => cases hs
  | read r =>
    dsimp only [step] at hs
    split at hs
    next q hq =>
      split at hs
      next hph =>
        split at hs
        · cases hs
          exact inv_read h hq hph
        · cases hs
      next => cases hs
    next => cases hs
  | commit r =>
    dsimp only [step] at hs
    split at hs
    next q hq =>
      split at hs
      next hph =>
        cases hs
        exact inv_commit h hq hph
      next => cases hs
    next => cases hs
  | lock r =>
    dsimp only [step] at hs
    split at hs
    next q hq =>
      split at hs
      next out hph =>
        split at hs
        next hfree =>
          cases hs
          exact inv_lock h hq hph hfree
        next => cases hs
      next => cases hs
    next => cases hs
  | writeHdr r =>
    dsimp only [step] at hs
    split at hs
    next q hq =>
      split at hs
      next out hph =>
        cases hs
        exact inv_writeHdr h hq hph
      next => cases hs
    next => cases hs
  | writeBody r =>
    dsimp only [step] at hs
    split at hs
    next q hq =>
      split at hs
      next out hph =>
        cases hs
        exact inv_writeBody h hq hph
      next => cases hs
    next => cases hs
  | recv c =>
    dsimp only [step] at hs
    split at hs
    next hcond =>
      split at hs
      next id id' out rest hst =>
        obtain ⟨_, hm, hinv⟩ := recv_front h hst
        split at hs
        next cl hcl =>
          split at hs
          next c' k hpc =>
            split at hs
            · cases hs
              refine inv_setPc hinv hcl (.got out) (hpc ▸ nofun) ?_ nofun
              intro o ho
              cases ho
              exact hm
            · cases hs
              exact hinv
          next =>
            cases hs
            exact hinv
        next =>
          cases hs
          exact hinv
      next => cases hs
    next => cases hs
  | ret id =>
    dsimp only [step] at hs
    split at hs
    next c hc =>
      split at hs
      next out hpc =>
        cases hs
        exact inv_ret h hc hpc
      next => cases hs
    next => cases hs
  | retErr id =>
    dsimp only [step] at hs
    split at hs
    next c hc =>
      split at hs
      next hpc =>
        cases hs
        exact inv_setPc h hc .returned (hpc ▸ nofun) nofun nofun
      next => cases hs
    next => cases hs
  | serverClose c =>
    dsimp only [step] at hs
    split at hs
    · cases hs
      exact inv_serverClose h c
    · cases hs
  | clientReset o => exact absurd hl (by simp [Label.noReset])
  | inputEOF c =>
    dsimp only [step] at hs
    split at hs
    · cases hs
      exact inv_inputEOF h c
    · cases hs
  | inputErr c =>
    dsimp only [step] at hs
    split at hs
    next hcond =>
      have := h.N1 c
      rw [this] at hcond
      simp at hcond
    next => cases hs

theorem inv_reachable (hr : Reachable spec s0 Label.noReset s) : Inv spec s0 s := by
  induction hr with
  | init => exact inv_init spec s0
  | step _ hok hs ih => exact inv_step ih _ hok hs

end C26
