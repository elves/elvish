/-
C26: how well-formedness and a linearization carry over when a history grows
by one event, or the witness by one operation.  Nothing here mentions the
daemon: these are facts about `ElvModel/C26/Linearizable.lean` alone.
-/
import ElvModel.C26.Linearizable
import ElvProofs.Lemmas.List
namespace C26
variable {σ Op Out : Type}

theorem runSeq_append (spec : σ → Op → σ × Out) : ∀ (l1 l2 : List Op) (s : σ),
    runSeq spec s (l1 ++ l2) =
      ((runSeq spec (runSeq spec s l1).1 l2).1, (runSeq spec s l1).2 ++ (runSeq spec (runSeq spec s l1).1 l2).2)
  | [], l2, s => by simp [runSeq]
  | a :: l1, l2, s => by
    simp only [List.cons_append, runSeq]
    rw [runSeq_append spec l1 l2]

theorem eq_of_nodup_map_fst {α β : Type} : ∀ {l : List (α × β)}, (l.map (·.1)).Nodup →
    ∀ {a : α} {x y : β}, (a, x) ∈ l → (a, y) ∈ l → x = y
  | e :: t, hn, a, x, y, hx, hy => by
    rw [List.map_cons, List.nodup_cons] at hn
    have hmem : ∀ {z}, (a, z) ∈ t → a ∈ t.map (·.1) := fun h => List.mem_map.2 ⟨_, h, rfl⟩
    rcases List.mem_cons.1 hx, List.mem_cons.1 hy with ⟨rfl | hx', hy' | hy'⟩
    · exact (Prod.mk.inj hy').2.symm
    · exact absurd (hmem hy') hn.1
    · subst hy'
      exact absurd (hmem hx') hn.1
    · exact eq_of_nodup_map_fst hn.2 hx' hy'

theorem nodup_concat {α : Type} {l : List α} {a : α} (hl : l.Nodup) (ha : a ∉ l) : (l ++ [a]).Nodup := by
  refine List.nodup_append.2 ⟨hl, by simp, ?_⟩
  intro b hb c hc hbc
  rw [List.mem_singleton.1 hc] at hbc
  exact ha (hbc ▸ hb)

@[simp] theorem invIds_concat_inv (h : History Op Out) (id : Nat) (op : Op) :
    invIds (h ++ [.inv id op]) = invIds h ++ [id] := by
  simp [invIds, Event.invId?]

@[simp] theorem invIds_concat_res (h : History Op Out) (id : Nat) (out : Out) :
    invIds (h ++ [.res id out]) = invIds h := by
  simp [invIds, Event.invId?]

@[simp] theorem resIds_concat_inv (h : History Op Out) (id : Nat) (op : Op) :
    resIds (h ++ [.inv id op]) = resIds h := by
  simp [resIds, Event.resId?]

@[simp] theorem resIds_concat_res (h : History Op Out) (id : Nat) (out : Out) :
    resIds (h ++ [.res id out]) = resIds h ++ [id] := by
  simp [resIds, Event.resId?]

theorem mem_resIds {h : History Op Out} {id : Nat} : id ∈ resIds h ↔ ∃ out, Event.res id out ∈ h := by
  simp only [resIds, List.mem_filterMap]
  constructor
  · rintro ⟨_ | ⟨i, o⟩, he, hid⟩
    · cases hid
    · cases hid
      exact ⟨o, he⟩
  · rintro ⟨o, ho⟩
    exact ⟨_, ho, rfl⟩

theorem mem_invIds {h : History Op Out} {id : Nat} : id ∈ invIds h ↔ ∃ op, Event.inv id op ∈ h := by
  simp only [invIds, List.mem_filterMap]
  constructor
  · rintro ⟨⟨i, o⟩ | _, he, hid⟩
    · cases hid
      exact ⟨o, he⟩
    · cases hid
  · rintro ⟨o, ho⟩
    exact ⟨_, ho, rfl⟩

theorem getElem?_append_of_some {α : Type} {l : List α} {i : Nat} {x : α} (h : l[i]? = some x) (l' : List α) :
    (l ++ l')[i]? = some x := by
  rw [List.getElem?_append_left (List.lt_length_of_getElem? h)]
  exact h

theorem precedes_append {h : History Op Out} {e : Event Op Out} {a b : Nat} (hp : Precedes (h ++ [e]) a b) :
    Precedes h a b ∨ ∃ op, e = Event.inv b op := by
  obtain ⟨i, j, out, o, hij, hi, hj⟩ := hp
  rcases List.getElem?_concat_eq_some hj with hj' | ⟨_, hje⟩
  · rcases List.getElem?_concat_eq_some hi with hi' | ⟨hil, _⟩
    · exact Or.inl ⟨i, j, out, o, hij, hi', hj'⟩
    · have := List.lt_length_of_getElem? hj'
      omega
  · exact Or.inr ⟨o, hje.symm⟩

theorem precedes_res_mem {h : History Op Out} {a b : Nat} (hp : Precedes h a b) : ∃ out, Event.res a out ∈ h := by
  obtain ⟨i, _, out, _, _, hi, _⟩ := hp
  exact ⟨out, List.mem_of_getElem? hi⟩

theorem append_single_eq_split {α : Type} {l : List α} {x : α} {l1 : List α} {b : α} {l2 : List α}
    (h : l ++ [x] = l1 ++ b :: l2) : (l2 = [] ∧ b = x ∧ l1 = l) ∨ ∃ l2', l2 = l2' ++ [x] ∧ l = l1 ++ b :: l2' := by
  rcases List.eq_nil_or_concat l2 with rfl | ⟨l2', y, rfl⟩
  · have := List.append_inj' h rfl
    exact Or.inl ⟨rfl, by simpa using this.2.symm, this.1.symm⟩
  · have : l ++ [x] = (l1 ++ b :: l2') ++ [y] := by simpa using h
    have := List.append_inj' this rfl
    exact Or.inr ⟨l2', by simpa using this.2.symm, this.1⟩

theorem WellFormed.append_inv {h : History Op Out} (hw : WellFormed h) {id : Nat} (op : Op)
    (hfresh : id ∉ invIds h) : WellFormed (h ++ [.inv id op]) where
  inv_unique := by
    rw [invIds_concat_inv]
    exact nodup_concat hw.inv_unique hfresh
  res_unique := by
    rw [resIds_concat_inv]
    exact hw.res_unique
  res_after_inv := by
    intro i a out hi
    rcases List.getElem?_concat_eq_some hi with hi' | ⟨_, he⟩
    · obtain ⟨j, o, hj, hg⟩ := hw.res_after_inv i a out hi'
      exact ⟨j, o, hj, getElem?_append_of_some hg _⟩
    · cases he

theorem WellFormed.append_res {h : History Op Out} (hw : WellFormed h) {id : Nat} {op : Op} (out : Out)
    (hinv : Event.inv id op ∈ h) (hnew : id ∉ resIds h) : WellFormed (h ++ [.res id out]) where
  inv_unique := by
    rw [invIds_concat_res]
    exact hw.inv_unique
  res_unique := by
    rw [resIds_concat_res]
    exact nodup_concat hw.res_unique hnew
  res_after_inv := by
    intro i a o hi
    rcases List.getElem?_concat_eq_some hi with hi' | ⟨hil, he⟩
    · obtain ⟨j, o', hj, hg⟩ := hw.res_after_inv i a o hi'
      exact ⟨j, o', hj, getElem?_append_of_some hg _⟩
    · cases he
      obtain ⟨j, hj⟩ := List.mem_iff_getElem?.1 hinv
      have := List.lt_length_of_getElem? hj
      exact ⟨j, op, by omega, getElem?_append_of_some hj _⟩

variable {step : σ → Op → σ × Out} {init : σ} {h : History Op Out} {S : List (Nat × Op × Out)}

theorem Linearization.append_inv (hl : Linearization step init h S) {id : Nat} (op : Op)
    (hfresh : id ∉ S.map (·.1)) : Linearization step init (h ++ [.inv id op]) S where
  nodup := hl.nodup
  invoked := fun x hx => List.mem_append_left _ (hl.invoked x hx)
  complete := by
    intro a out hm
    rcases List.mem_append.1 hm with hm | hm
    · exact hl.complete a out hm
    · simp at hm
  legal := hl.legal
  realtime := by
    intro a b hp l1 l2 hS
    rcases precedes_append hp with hp' | ⟨_, he⟩
    · exact hl.realtime a b hp' l1 l2 hS
    · cases he
      exact absurd (by rw [hS]; simp) hfresh

theorem Linearization.append_res (hl : Linearization step init h S) {id : Nat} {op : Op} {out : Out}
    (hmem : (id, op, out) ∈ S) : Linearization step init (h ++ [.res id out]) S where
  nodup := hl.nodup
  invoked := fun x hx => List.mem_append_left _ (hl.invoked x hx)
  complete := by
    intro a o hm
    rcases List.mem_append.1 hm with hm | hm
    · exact hl.complete a o hm
    · simp only [List.mem_singleton, Event.res.injEq] at hm
      obtain ⟨rfl, rfl⟩ := hm
      exact ⟨op, hmem⟩
  legal := hl.legal
  realtime := fun a b hp => hl.realtime a b ((precedes_append hp).resolve_right nofun)

/-- the commit step: appending at the END of the witness respects real time because everything that
has returned is already in the witness -/
theorem Linearization.commit (hl : Linearization step init h S) {id : Nat} {op : Op}
    (hinv : Event.inv id op ∈ h) (hfresh : id ∉ S.map (·.1)) :
    Linearization step init h (S ++ [(id, op, (step (runSeq step init (S.map (·.2.1))).1 op).2)]) where
  nodup := by
    rw [List.map_append]
    exact nodup_concat hl.nodup hfresh
  invoked := by
    intro x hx
    rcases List.mem_append.1 hx with hx | hx
    · exact hl.invoked x hx
    · rw [List.mem_singleton.1 hx]
      exact hinv
  complete := by
    intro a out hm
    obtain ⟨o, ho⟩ := hl.complete a out hm
    exact ⟨o, List.mem_append_left _ ho⟩
  legal := by
    rw [List.map_append, List.map_append, runSeq_append, hl.legal]
    simp [runSeq]
  realtime := by
    intro a b hp l1 l2 hS
    rw [List.map_append] at hS
    rcases append_single_eq_split hS with ⟨_, _, rfl⟩ | ⟨l2', _, hS'⟩
    · obtain ⟨out, hm⟩ := precedes_res_mem hp
      obtain ⟨o, ho⟩ := hl.complete a out hm
      exact List.mem_map.2 ⟨_, ho, rfl⟩
    · exact hl.realtime a b hp l1 l2' hS'

end C26
