/-
C26: sequence numbers returned by AddCmd calls of a history linearizable with respect to the store
of C24 are pairwise different: C24_seq_strictly_increasing_never_reused transported through the
witness; directory operations interleave freely, they do not touch the command bucket.
-/
import ElvModel.C26.Store
import ElvModel.C26.Linearizable
import ElvProofs.C24
namespace C26
open Go C24

def cmdOps : List Op → List C24.Op :=
  List.filterMap fun
    | .cmd o => some o
    | _ => none

def cmdOuts : List Out → List C24.Out :=
  List.filterMap fun
    | .cmd o => some o
    | _ => none

theorem issued_append (l1 l2 : List C24.Out) : Spec.issued (l1 ++ l2) = Spec.issued l1 ++ Spec.issued l2 := by
  fun_induction Spec.issued l1 <;> simp_all [Spec.issued]

theorem step_cmd_only (s s' : Store) (h : s.cmd = s'.cmd) (o : C24.Op) :
    (C24.step s o).1.cmd = (C24.step s' o).1.cmd ∧ (C24.step s o).2 = (C24.step s' o).2 := by
  obtain ⟨c, d⟩ := s
  obtain ⟨c', d'⟩ := s'
  cases h
  cases o with
  | add t =>
    simp only [C24.step, addCmd]
    cases (c.nextSequence.1.put (marshalSeq c.nextSequence.2) t) <;> simp
  | del n => simp [C24.step, delCmd]
  | get n => simp [C24.step, C24.cmd]
  | list f u => simp [C24.step, cmdsWithSeq]
  | next f p => simp [C24.step, nextCmd]
  | prev u p => simp [C24.step, prevCmd]
  | nseq => simp [C24.step, nextCmdSeq]

theorem addDir_cmd (o : ScoreOps) (s : Store) (d : Bytes) (f : o.F) : (C24.addDir o s d f).1.cmd = s.cmd := by
  simp only [addDir]
  split <;> rfl

/-- stated for any `s'` with the same command bucket so that the induction can pass the directory
operations, which change `s` outside that bucket -/
theorem run_cmd_projection : ∀ (ops : List Op) (s s' : Store), s.cmd = s'.cmd →
    cmdOuts (runSeq seqStep s ops).2 = (C24.run s' (cmdOps ops)).2
  | [], _, _, _ => rfl
  | .cmd o :: r, s, s', h => by
    obtain ⟨hc, ho⟩ := step_cmd_only s s' h o
    show (C24.step s o).2 :: cmdOuts (runSeq seqStep (C24.step s o).1 r).2 =
      (C24.step s' o).2 :: (C24.run (C24.step s' o).1 (cmdOps r)).2
    rw [ho, run_cmd_projection r _ _ hc]
  | .addDir p f :: r, s, s', h => run_cmd_projection r _ s' ((addDir_cmd _ s p _).trans h)
  | .delDir p :: r, s, s', h => run_cmd_projection r (C24.delDir s p) s' h
  | .dirs bl :: r, s, s', h => run_cmd_projection r s s' h

theorem issued_increasing (ops : List Op) (hlen : ops.length + 1 < two63) :
    (Spec.issued (cmdOuts (runSeq seqStep Store.fresh ops).2)).Pairwise (· < ·) := by
  rw [run_cmd_projection ops Store.fresh (S Spec.Log.empty Bucket.empty) rfl]
  have hl : (cmdOps ops).length ≤ ops.length := List.length_filterMap_le _ _
  exact (C24_seq_strictly_increasing_never_reused (cmdOps ops) Spec.Log.empty Bucket.empty Log.WF_empty
    (by simp only [Spec.Log.empty]; omega)).1

theorem split_two {α : Type} {l : List α} {x y : α} (hx : x ∈ l) (hy : y ∈ l) (hne : x ≠ y) :
    (∃ l1 l2 l3, l = l1 ++ x :: (l2 ++ y :: l3)) ∨ (∃ l1 l2 l3, l = l1 ++ y :: (l2 ++ x :: l3)) := by
  obtain ⟨l1, l2, rfl⟩ := List.append_of_mem hx
  rcases List.mem_append.1 hy with h | h
  · obtain ⟨a, b, rfl⟩ := List.append_of_mem h
    exact Or.inr ⟨a, b, l2, by simp⟩
  · rcases List.mem_cons.1 h with h | h
    · exact absurd h.symm hne
    · obtain ⟨a, b, rfl⟩ := List.append_of_mem h
      exact Or.inl ⟨l1, a, b, rfl⟩

theorem seq_lt_of_earlier {S l1 l2 l3 : List (Nat × Op × Out)} {a b : Nat} {opa opb : Op} {n m : Int}
    (hp : (Spec.issued (cmdOuts (S.map (·.2.2)))).Pairwise (· < ·))
    (hS : S = l1 ++ (a, opa, .cmd (.seq (.ok n))) :: (l2 ++ (b, opb, .cmd (.seq (.ok m))) :: l3)) : n < m := by
  subst hS
  simp only [List.map_append, List.map_cons, cmdOuts, List.filterMap_append, List.filterMap_cons, issued_append,
    Spec.issued] at hp
  exact (List.pairwise_cons.1 (List.pairwise_append.1 hp).2.1).1 m (by simp)

end C26
