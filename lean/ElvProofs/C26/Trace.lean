import ElvModel.C26.Trace
/-!
C26: the trace acceptor only ever takes steps of the LTS, and never `clientReset`.
-/
namespace C26
variable {σ Op Out : Type}

theorem reqLabel_noReset {a : AState σ Op Out} {c seq : Nat} {mk : Nat → Label Op} {l : Label Op}
    (hmk : ∀ r, (mk r).noReset) (h : reqLabel a c seq mk = .ok l) : l.noReset := by
  unfold reqLabel at h
  split at h
  · cases h
  · split at h
    · split at h
      · cases h; exact hmk _
      · cases h
    · cases h

variable [DecidableEq Op] [DecidableEq Out]

theorem label_noReset {a : AState σ Op Out} {e : Entry Op Out} {l : Label Op}
    (h : e.label a = .ok l) : l.noReset := by
  cases e with
  | newClient o => dsimp only [Entry.label] at h; split at h <;> cases h; trivial
  | invoke id o op => dsimp only [Entry.label] at h; split at h <;> cases h; trivial
  | dial id c => dsimp only [Entry.label] at h; split at h <;> cases h; trivial
  | send id c seq =>
    dsimp only [Entry.label] at h
    split at h
    · split at h
      · split at h <;> cases h; trivial
      · cases h
    · cases h
  | sendShutdown id => cases h; trivial
  | giveUp id => cases h; trivial
  | read c seq op =>
    dsimp only [Entry.label] at h
    split at h
    · cases h
    · split at h
      · split at h <;> cases h; trivial
      · cases h
  | commit c seq out => exact reqLabel_noReset (mk := .commit) (fun _ => trivial) h
  | lock c seq => exact reqLabel_noReset (mk := .lock) (fun _ => trivial) h
  | writeHdr c seq => exact reqLabel_noReset (mk := .writeHdr) (fun _ => trivial) h
  | writeBody c seq => exact reqLabel_noReset (mk := .writeBody) (fun _ => trivial) h
  | recv c seq =>
    dsimp only [Entry.label] at h
    split at h
    · split at h
      · split at h <;> cases h; trivial
      · cases h
    · cases h
  | ret id out =>
    dsimp only [Entry.label] at h
    split at h
    · split at h <;> cases h; trivial
    · cases h
  | retErr id => cases h; trivial
  | serverClose c => cases h; trivial
  | inputEOF c => cases h; trivial
  | inputErr c => cases h; trivial

theorem accept1_step {spec : σ → Op → σ × Out} {a a' : AState σ Op Out} {e : Entry Op Out}
    (h : accept1 spec a e = .ok a') : ∃ l : Label Op, l.noReset ∧ step spec a.s l = some a'.s := by
  unfold accept1 at h
  split at h
  · cases h
  · rename_i l hl
    split at h
    · cases h
    · rename_i s' hs
      split at h
      · cases h
      · cases h
        exact ⟨l, label_noReset hl, hs⟩

theorem acceptFrom_reachable {spec : σ → Op → σ × Out} {s0 : σ} :
    ∀ (es : List (Entry Op Out)) (a a' : AState σ Op Out) (i : Nat),
      Reachable spec s0 Label.noReset a.s → acceptFrom spec a i es = .ok a' →
      Reachable spec s0 Label.noReset a'.s
  | [], a, a', i, hr, h => by simp only [acceptFrom] at h; cases h; exact hr
  | e :: es, a, a', i, hr, h => by
    simp only [acceptFrom] at h
    split at h
    · cases h
    · rename_i a1 h1
      obtain ⟨l, hl, hs⟩ := accept1_step h1
      exact acceptFrom_reachable es a1 a' (i + 1) (.step hr hl hs) h

end C26
