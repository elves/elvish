/-
C26: the inductive invariant of the daemon model (ElvModel/C26/Model.lean) for
runs in which nobody calls `ResetConn`/`Close` on a client in use
(`Label.noReset`; connections may still die at any moment).
-/
import ElvModel.C26.Model
import ElvProofs.C26.Growth
namespace C26
variable {σ Op Out : Type}

@[simp] theorem upd_same {α : Type} (f : Nat → α) (i : Nat) (v : α) : upd f i v i = v := by simp [upd]

theorem upd_ne {α : Type} (f : Nat → α) {i j : Nat} (v : α) (h : j ≠ i) : upd f i v j = f j := by simp [upd, h]

theorem upd_self {α : Type} (f : Nat → α) (i : Nat) : upd f i (f i) = f := by
  funext j
  by_cases h : j = i
  · rw [h, upd_same]
  · exact upd_ne f _ h

theorem forall_upd' {α : Type} {f : Nat → Option α} {i : Nat} {v : α} {P : Nat → α → Prop}
    (hP : ∀ j x, j ≠ i → f j = some x → P j x) (hv : P i v) : ∀ j x, upd f i (some v) j = some x → P j x := by
  intro j x hx
  by_cases h : j = i
  · subst h
    rw [upd_same] at hx
    exact Option.some.inj hx ▸ hv
  · exact hP j x h (by rwa [upd_ne f _ h] at hx)

theorem forall_upd {α : Type} {f : Nat → Option α} {i : Nat} {v : α} {P : Nat → α → Prop}
    (hP : ∀ j x, f j = some x → P j x) (hv : P i v) : ∀ j x, upd f i (some v) j = some x → P j x :=
  forall_upd' (fun j x _ => hP j x) hv

theorem forall_upd_total {α : Type} {f : Nat → α} {i : Nat} {v : α} {P : Nat → α → Prop}
    (hP : ∀ j, P j (f j)) (hv : P i v) : ∀ j, P j (upd f i v j) := by
  intro j
  by_cases h : j = i
  · subst h
    rw [upd_same]
    exact hv
  · rw [upd_ne f _ h]
    exact hP j

theorem of_upd_none {α : Type} {f : Nat → Option α} {i j : Nat} {x : α} (h : upd f i none j = some x) :
    f j = some x := by
  by_cases hji : j = i
  · subst hji
    simp at h
  · rwa [upd_ne f _ hji] at h

/-- complete responses: header and body of the same call, whose reply is the committed one -/
inductive Pairs (lin : List (Nat × Op × Out)) : List (Frame Out) → Prop where
  | nil : Pairs lin []
  | cons (id : Nat) (out : Out) (rest : List (Frame Out)) : (∃ op, (id, op, out) ∈ lin) → Pairs lin rest →
      Pairs lin (.hdr id :: .body id out :: rest)

theorem Pairs.mono {lin lin' : List (Nat × Op × Out)} (hsub : ∀ x ∈ lin, x ∈ lin') :
    ∀ {l : List (Frame Out)}, Pairs lin l → Pairs lin' l
  | _, .nil => .nil
  | _, .cons id out rest ⟨op, hm⟩ hr => .cons id out rest ⟨op, hsub _ hm⟩ (Pairs.mono hsub hr)

theorem Pairs.append {lin : List (Nat × Op × Out)} : ∀ {l1 l2 : List (Frame Out)}, Pairs lin l1 → Pairs lin l2 →
    Pairs lin (l1 ++ l2)
  | _, _, .nil, h2 => h2
  | _, _, .cons id out rest hm hr, h2 => .cons id out _ hm (Pairs.append hr h2)

/-- no request of connection `c` sits between its header and its body -/
def NoHdrPending (req : Nat → Option (SReq Op Out)) (c : Nat) : Prop :=
  ∀ r q, req r = some q → ∀ out, q.conn = c → q.phase ≠ .hdrDone out

/-- the response stream of connection `c`, whose record is `cn`, is a sequence of complete
responses followed by at most one header; while the server side is open that header is the one of
the request that holds `sending` and has written its header -/
def FramesOK (cn : Conn Out) (lin : List (Nat × Op × Out)) (req : Nat → Option (SReq Op Out)) (c : Nat) : Prop :=
  ∃ pairs tail, cn.stream = pairs ++ tail ∧ Pairs lin pairs ∧ (tail = [] ∨ ∃ id, tail = [.hdr id]) ∧
    (cn.srvClosed = false →
      (tail = [] ∧ NoHdrPending req c) ∨
      ∃ r q out, tail = [.hdr q.id] ∧ cn.sending = some r ∧ req r = some q ∧ q.conn = c ∧ q.phase = .hdrDone out)

theorem FramesOK.transfer {cn cn' : Conn Out} {lin lin' : List (Nat × Op × Out)}
    {req req' : Nat → Option (SReq Op Out)} {c : Nat} (hf : FramesOK cn lin req c)
    (hstream : cn'.stream = cn.stream) (hclosed : cn'.srvClosed = cn.srvClosed)
    (hlin : ∀ x ∈ lin, x ∈ lin')
    (hnew : ∀ r q, req' r = some q → ∀ out, q.conn = c → q.phase = .hdrDone out → req r = some q)
    (hold : ∀ r q out, req r = some q → q.conn = c → q.phase = .hdrDone out → cn.sending = some r →
      req' r = some q ∧ cn'.sending = some r) : FramesOK cn' lin' req' c := by
  obtain ⟨pairs, tail, hs, hp, ht, ho⟩ := hf
  refine ⟨pairs, tail, hstream ▸ hs, hp.mono hlin, ht, fun hc => ?_⟩
  rcases ho (hclosed ▸ hc) with ⟨ht, hn⟩ | ⟨r, q, out, ht, hsd, hq, hqc, hph⟩
  · exact Or.inl ⟨ht, fun r q hq out hqc hph => hn r q (hnew r q hq out hqc hph) out hqc hph⟩
  · obtain ⟨hq', hsd'⟩ := hold r q out hq hqc hph hsd
    exact Or.inr ⟨r, q, out, ht, hsd', hq', hqc, hph⟩

structure Inv (spec : σ → Op → σ × Out) (s0 : σ) (s : State σ Op Out) : Prop where
  bCall : ∀ id c, s.call id = some c → id < s.nCalls
  bReq : ∀ r q, s.req r = some q → r < s.nReqs
  O1 : ∀ o cn, s.obj o = some cn → cn < s.nConns
  N1 : ∀ c, (s.conn c).closing = false
  H0 : invIds s.hist = List.range s.nCalls
  H1 : ∀ id c, s.call id = some c → Event.inv id c.op ∈ s.hist
  R1 : ∀ id, id ∈ resIds s.hist → ∃ c, s.call id = some c ∧ c.pc = .returned
  W : WellFormed s.hist
  L : Linearization spec s0 s.hist s.lin
  S1 : (runSeq spec s0 (s.lin.map (·.2.1))).1 = s.store
  G1 : ∀ id c, s.call id = some c → ∀ out, c.pc = .got out → ∃ op, (id, op, out) ∈ s.lin
  /-- a call with a request in the daemon is not at the top of the retry loop (at-most-once send) -/
  Q1 : ∀ r q, s.req r = some q → ∃ c, s.call q.id = some c ∧ c.op = q.op ∧ ∀ k, c.pc ≠ .ready k
  Q2 : ∀ r q, s.req r = some q → ∀ r' q', s.req r' = some q' → q.id = q'.id → r = r'
  Q4 : ∀ r q, s.req r = some q → ∀ o, q.phase.out? = some o → (q.id, q.op, o) ∈ s.lin
  Q5 : ∀ x ∈ s.lin, ∃ r q o, s.req r = some q ∧ q.id = x.1 ∧ q.phase.out? = some o
  Q6 : ∀ r q, s.req r = some q → q.conn < s.nConns
  /-- mutual exclusion of `sending` -/
  M1 : ∀ r q, s.req r = some q → (∃ o, q.phase = .locked o ∨ q.phase = .hdrDone o) →
    (s.conn q.conn).sending = some r
  F1 : ∀ c, FramesOK (s.conn c) s.lin s.req c

theorem FramesOK.closed {cn cn' : Conn Out} {lin : List (Nat × Op × Out)} {req req' : Nat → Option (SReq Op Out)}
    {c : Nat} (hf : FramesOK cn lin req c) (hcl : cn'.srvClosed = true) (hstream : cn'.stream = cn.stream) :
    FramesOK cn' lin req' c :=
  let ⟨pairs, tail, hs, hp, ht, _⟩ := hf
  ⟨pairs, tail, hstream ▸ hs, hp, ht, fun hx => by rw [hcl] at hx; cases hx⟩

theorem framesOK_fresh (o : Nat) (lin : List (Nat × Op × Out)) {req : Nat → Option (SReq Op Out)} {c : Nat}
    (hnone : ∀ r q, req r = some q → q.conn ≠ c) : FramesOK (Conn.fresh o) lin req c :=
  ⟨[], [], rfl, .nil, Or.inl rfl, fun _ => Or.inl ⟨rfl, fun r q hq _ hqc => absurd hqc (hnone r q hq)⟩⟩

theorem inv_init (spec : σ → Op → σ × Out) (s0 : σ) : Inv spec s0 (State.init s0 : State σ Op Out) where
  bCall := by intro _ _ h; cases h
  bReq := by intro _ _ h; cases h
  O1 := by intro _ _ h; cases h
  N1 := fun _ => rfl
  H0 := rfl
  H1 := by intro _ _ h; cases h
  R1 := by intro _ h; cases h
  W := ⟨List.nodup_nil, List.nodup_nil, by intro i _ _ h; simp [State.init] at h⟩
  L :=
    { nodup := List.nodup_nil
      invoked := by intro _ h; cases h
      complete := by intro _ _ h; cases h
      legal := rfl
      realtime := by rintro _ _ ⟨i, _, _, _, _, hi, _⟩; simp [State.init] at hi }
  S1 := rfl
  G1 := by intro _ _ h; cases h
  Q1 := by intro _ _ h; cases h
  Q2 := by intro _ _ h; cases h
  Q4 := by intro _ _ h; cases h
  Q5 := by intro _ h; cases h
  Q6 := by intro _ _ h; cases h
  M1 := by intro _ _ h; cases h
  F1 := fun _ => framesOK_fresh 0 [] (by intro _ _ h; cases h)

end C26
