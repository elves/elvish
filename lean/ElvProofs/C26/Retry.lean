/-
C26: a concrete run of the model in which the retry loop of `client.call` re-sends an AddCmd that the
daemon has already committed, and the history it produces, which is not linearizable.
-/
import ElvModel.C26.Store
import ElvProofs.C26.Main
namespace C26
open Go C24

def addX : Op := .cmd (.add [120])
def listAll : Op := .cmd (.list 0 (-1))

/-- the schedule: … commit, connection closed by the server, ResetConn, EOF ⇒
`ErrShutdown` ⇒ redial, re-send, second commit … -/
def retryRun : List (Label Op) :=
  [.newClient, .invoke 0 addX, .dial 0, .send 0, .read 0, .commit 0,
   .serverClose 0, .clientReset 0, .inputEOF 0,
   .dial 0, .send 0, .read 1, .commit 1, .lock 1, .writeHdr 1, .writeBody 1, .recv 1, .ret 0,
   .invoke 0 listAll, .send 1, .read 2, .commit 2, .lock 2, .writeHdr 2, .writeBody 2, .recv 1, .ret 1]

/-- what the two callers saw: AddCmd returned 2, and the listing shows the text twice -/
def retryHist : History Op Out :=
  [.inv 0 addX, .res 0 (.cmd (.seq (.ok 2))), .inv 1 listAll,
   .res 1 (.cmd (.cmds (.ok [⟨[120], 1⟩, ⟨[120], 2⟩])))]

theorem retryRun_result :
    (run seqStep (State.init Store.fresh) retryRun).map (fun s => (s.hist, s.lin.map (·.1))) =
      some (retryHist, [0, 0, 1]) := by decide +kernel

theorem reachable_run {σ Op Out : Type} (spec : σ → Op → σ × Out) (s0 : σ) (ok : Label Op → Prop) :
    ∀ (ls : List (Label Op)) (s s' : State σ Op Out), Reachable spec s0 ok s → (∀ l ∈ ls, ok l) →
      run spec s ls = some s' → Reachable spec s0 ok s'
  | [], s, s', hr, _, hrun => by
    simp only [run, Option.some.injEq] at hrun
    exact hrun ▸ hr
  | l :: ls, s, s', hr, hok, hrun => by
    simp only [run] at hrun
    cases hst : step spec s l with
    | none => simp [hst] at hrun
    | some s1 =>
      simp only [hst, Option.bind_some] at hrun
      exact reachable_run spec s0 ok ls s1 s' (.step hr (hok l (by simp)) hst) (fun l' hl' => hok l' (by simp [hl'])) hrun

theorem reachable_mono {σ Op Out : Type} {spec : σ → Op → σ × Out} {s0 : σ} {ok ok' : Label Op → Prop}
    (himp : ∀ l, ok l → ok' l) {s : State σ Op Out} (hr : Reachable spec s0 ok s) : Reachable spec s0 ok' s := by
  induction hr with
  | init => exact .init
  | step _ hok hs ih => exact .step ih (himp _ hok) hs

instance {Op : Type} : DecidablePred (Label.noReset (Op := Op)) := fun l => by
  cases l <;> simp only [Label.noReset] <;> infer_instance

theorem retry_first_reply : (seqStep Store.fresh addX).2 = .cmd (.seq (.ok 1)) := by decide

theorem retryHist_not_linearizable : ¬ Linearizable seqStep Store.fresh retryHist := by
  rintro ⟨_, S, hS⟩
  obtain ⟨op0, h0⟩ := hS.complete 0 (.cmd (.seq (.ok 2))) (by simp [retryHist])
  obtain ⟨x, t, rfl⟩ := List.exists_cons_of_ne_nil (List.ne_nil_of_mem h0)
  -- the first entry of the witness is operation 0, because 1 was invoked after 0 had returned
  have hx : x.1 = 0 ∧ x.2.1 = addX := by
    have hinv := hS.invoked x (by simp)
    simp only [retryHist, List.mem_cons, Event.inv.injEq, reduceCtorEq, List.mem_nil_iff, or_false,
      false_or] at hinv
    rcases hinv with h | h
    · exact h
    · have := hS.realtime 0 1 ⟨1, 2, _, _, by omega, rfl, rfl⟩ [] (t.map (·.1)) (by simp [h.1])
      simp at this
  -- so it is the entry with the reply 2 that the caller saw
  have hx0 : x.2.2 = .cmd (.seq (.ok 2)) := by
    rcases List.mem_cons.1 h0 with h | h
    · rw [← h]
    · have hn := hS.nodup
      rw [List.map_cons, List.nodup_cons, hx.1] at hn
      exact absurd (List.mem_map.2 ⟨_, h, rfl⟩) hn.1
  -- but the specification answers 1 on a fresh store
  have hlegal := hS.legal
  simp only [List.map_cons, runSeq, List.cons.injEq, hx.2, hx0, retry_first_reply] at hlegal
  cases hlegal.1

end C26
