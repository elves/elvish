/-
`strings.Split(s, "\n")`, `Text.SplitByRune('\n')` and `Text.CountLines` on segment texts.
-/
import ElvProofs.C34.Cropped
import ElvProofs.C34.TrimLines
namespace C34
open Go C34.Utf8

theorem splitNL_length (s : Bytes) : (splitNL s).length = s.count 10 + 1 := by
  induction s with
  | nil => rfl
  | cons b rest ih =>
    by_cases hb : b = 10
    · rw [hb, splitNL_nl, List.length_cons, ih, List.count_cons_self]
    · obtain ⟨l, ls, e, e'⟩ := splitNL_cons b rest hb
      rw [e', List.count_cons_of_ne hb, ← ih, e]
      rfl

theorem splitNL_noctl (s : Bytes) (h : NoCtlNL s) : ∀ p ∈ splitNL s, NoCtl p := by
  intro p hp b hb
  obtain ⟨hm, hne⟩ := splitNL_mem hp b hb
  exact (h b hm).resolve_right fun e => hne (UInt8.toNat_inj.1 e)

/-- The step of the fold in `splitLinesSegs` (a copy of the local function of the model). -/
def splitStep (acc : List (List Bytes) × List Bytes) (seg : Bytes) : List (List Bytes) × List Bytes :=
  match splitNL seg with
  | [] => acc
  | [p] => (acc.1, if p.isEmpty then acc.2 else acc.2 ++ [p])
  | p :: ps =>
    let firstLine := if p.isEmpty then acc.2 else acc.2 ++ [p]
    let mids := ps.dropLast.map fun m => if m.isEmpty then [] else [m]
    let lastPiece := match ps.getLast? with
      | some l => if l.isEmpty then [] else [l]
      | none => []
    (acc.1 ++ [firstLine] ++ mids, lastPiece)

theorem splitLinesSegs_eq (t : List Bytes) :
    splitLinesSegs t = if t.isEmpty then [] else
      (t.foldl splitStep ([], [])).1 ++ [(t.foldl splitStep ([], [])).2] := rfl

def RowsNoCtl (rows : List (List Bytes)) : Prop := ∀ row ∈ rows, ∀ s ∈ row, NoCtl s

theorem mem_piece {m s : Bytes} (h : s ∈ (if m.isEmpty = true then [] else [m])) : s = m := by
  split at h
  · cases h
  · exact List.mem_singleton.1 h

theorem mem_pasted {row : List Bytes} {p s : Bytes}
    (h : s ∈ (if p.isEmpty = true then row else row ++ [p])) : s ∈ row ∨ s = p := by
  split at h
  · exact .inl h
  · exact (List.mem_append.1 h).imp id List.mem_singleton.1

theorem splitStep_ok (acc : List (List Bytes) × List Bytes) (seg : Bytes) (hseg : NoCtlNL seg)
    (hd : RowsNoCtl acc.1) (hp : ∀ s ∈ acc.2, NoCtl s) :
    (splitStep acc seg).1.length = acc.1.length + seg.count 10 ∧ RowsNoCtl (splitStep acc seg).1 ∧
      ∀ s ∈ (splitStep acc seg).2, NoCtl s := by
  have hlen := splitNL_length seg
  have hnc := splitNL_noctl seg hseg
  have hpaste : ∀ p ∈ splitNL seg, ∀ s ∈ (if p.isEmpty = true then acc.2 else acc.2 ++ [p]), NoCtl s :=
    fun p hp' s hs => (mem_pasted hs).elim (hp s) fun e => e ▸ hnc p hp'
  unfold splitStep
  split
  · rename_i h; rw [h] at hlen; cases hlen
  · rename_i p h
    rw [h] at hlen hpaste
    exact ⟨by simp only [List.length_cons, List.length_nil] at hlen ⊢; omega, hd,
      hpaste p List.mem_cons_self⟩
  · rename_i p ps hne h
    rw [h] at hlen hnc hpaste
    have hps : ∀ x ∈ ps, NoCtl x := fun x hx => hnc x (List.mem_cons_of_mem _ hx)
    refine ⟨?_, ?_, ?_⟩
    · simp only [List.length_append, List.length_cons, List.length_nil, List.length_map,
        List.length_dropLast] at hlen ⊢
      have : ps.length ≠ 0 := fun e => hne (List.eq_nil_of_length_eq_zero e)
      omega
    · intro row hrow
      simp only [List.mem_append, List.mem_singleton, List.mem_map] at hrow
      rcases hrow with (hrow | rfl) | ⟨m, hm, rfl⟩
      · exact hd row hrow
      · exact hpaste p List.mem_cons_self
      · exact fun s hs => mem_piece hs ▸ hps m (List.dropLast_subset ps hm)
    · dsimp only
      split
      · rename_i l hl
        exact fun s hs => mem_piece hs ▸ hps l (List.mem_of_getLast? hl)
      · exact fun s hs => absurd hs List.not_mem_nil

/-- `SplitByRune('\n')` yields `CountLines` rows, none for the empty text. -/
theorem splitLinesSegs_ok (t : List Bytes) (ht : ∀ seg ∈ t, NoCtlNL seg) :
    RowsNoCtl (splitLinesSegs t) ∧ countLines t ≤ (splitLinesSegs t).length + 1 ∧
      ((splitLinesSegs t).length : Int) ≤ countLines t := by
  -- the fold adds a row for every newline
  have fold : ∀ (t : List Bytes) (acc : List (List Bytes) × List Bytes), (∀ seg ∈ t, NoCtlNL seg) →
      RowsNoCtl acc.1 → (∀ s ∈ acc.2, NoCtl s) →
      ((t.foldl splitStep acc).1.length : Int) = acc.1.length + (t.map fun s => (s.count 10 : Int)).sum ∧
        RowsNoCtl (t.foldl splitStep acc).1 ∧ ∀ s ∈ (t.foldl splitStep acc).2, NoCtl s := by
    intro t
    induction t with
    | nil => intro acc _ h1 h2; exact ⟨by simp, h1, h2⟩
    | cons seg t ih =>
      intro acc ht h1 h2
      obtain ⟨hseg, ht⟩ := List.forall_mem_cons.1 ht
      obtain ⟨s1, s2, s3⟩ := splitStep_ok acc seg hseg h1 h2
      obtain ⟨r1, r2, r3⟩ := ih _ ht s2 s3
      refine ⟨?_, r2, r3⟩
      rw [List.foldl_cons, r1, s1, List.map_cons, List.sum_cons]; omega
  rw [splitLinesSegs_eq]
  cases t with
  | nil => simp [RowsNoCtl, countLines]
  | cons a t =>
    obtain ⟨r1, r2, r3⟩ := fold (a :: t) ([], []) ht (fun _ h => absurd h List.not_mem_nil)
      (fun _ h => absurd h List.not_mem_nil)
    simp only [List.isEmpty_cons, Bool.false_eq_true, if_false, List.length_append, List.length_cons,
      List.length_nil, countLines] at r1 ⊢
    refine ⟨fun row hrow => ?_, by omega, by omega⟩
    rcases List.mem_append.1 hrow with hrow | hrow
    · exact r2 row hrow
    · rw [List.mem_singleton.1 hrow]; exact r3

theorem countLines_pos (t : List Bytes) : 1 ≤ countLines t := by
  have : ∀ t : List Bytes, 0 ≤ (t.map fun s => (s.count 10 : Int)).sum := by
    intro t; induction t with
    | nil => exact Int.le_refl _
    | cons a t ih => rw [List.map_cons, List.sum_cons]; omega
  have := this t
  unfold countLines; omega

end C34
