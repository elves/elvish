/-
The horizontal `ListBox`: `getHorizontalWindow` returns an in-range window (no division by zero,
the loop ends), and the column loop (`ExtendRight` of `croppedLines` columns) stays within the width.
-/
import ElvProofs.C34.Vertical
namespace C34
open Go C34.Utf8

theorem mw_go_ok (wd : Int → Int) (items : List (List Bytes)) (high : Int) (k : Nat) :
    ∀ (i w : Int), 0 ≤ i → 0 ≤ w → ROk (maxWidth.go wd items high items.length i w k) (0 ≤ ·) := by
  induction k with
  | zero => exact fun i w _ hw => .pure hw
  | succ k ih =>
    intro i w hi hw
    rw [maxWidth.go]
    refine .ite (fun hc => ?_) fun _ => .pure hw
    simp only [Bool.and_eq_true, decide_eq_true_eq] at hc
    exact .bind (.index ⟨hi, hc.2⟩) fun it _ => ih _ _ (by omega) (by split <;> omega)

theorem maxWidth_ok (wd : Int → Int) (items : List (List Bytes)) (pad low high : Int) (hl : 0 ≤ low) :
    ROk (maxWidth wd items pad low high) (2 * pad ≤ ·) :=
  .bind (mw_go_ok wd items high _ low 0 hl (Int.le_refl _)) fun r hr => .pure (by omega)

theorem goDiv_ok (a b : Int) (ha : 0 ≤ a) (hb : 0 < b) : ROk (goDiv a b) (· = a / b) := by
  rw [goDiv, if_neg (by omega), Int.tdiv_eq_ediv_of_nonneg ha]
  exact .pure rfl

/-- The loop of `getHorizontalWindow`: `first` stays a non-negative multiple of the column height. -/
theorem hgo_ok (wd : Int → Int) (items : List (List Bytes)) (lastFirst pad width h : Int) (hlf : 0 ≤ lastFirst)
    (hh : 1 ≤ h) (k : Nat) : ∀ (m : Nat) (used : Int), m < k →
    ROk (getHorizontalWindow.go wd items lastFirst pad width h ((m : Int) * h) used k)
      fun f => 0 ≤ f ∧ f ≤ (m : Int) * h := by
  induction k with
  | zero => intro m _ hm; omega
  | succ k ih =>
    intro m used hm
    have hmh : 0 ≤ (m : Int) * h := Int.mul_nonneg (by omega) (by omega)
    rw [getHorizontalWindow.go]
    refine .ite (fun hgt => ?_) fun _ => .pure ⟨hmh, Int.le_refl _⟩
    cases m with
    | zero => simp at hgt; omega
    | succ m' =>
      have e : ((m' + 1 : Nat) : Int) * h - h = (m' : Int) * h := by
        rw [Int.natCast_add, Int.add_mul]; simp
      have hneg : 0 ≤ (m' : Int) * h := Int.mul_nonneg (by omega) (by omega)
      rw [e]
      refine .bind (maxWidth_ok wd items pad _ _ hneg) fun w _ => ?_
      exact .ite (fun _ => .pure ⟨hmh, Int.le_refl _⟩) fun _ =>
        (ih m' _ (by omega)).mono fun f hf => ⟨hf.1, by omega⟩

theorem getHorizontalWindow_ok (wd : Int → Int) (items : List (List Bytes)) (sel lastFirst pad W H : Int)
    (hne : 0 < items.length) (hs0 : 0 ≤ sel) (hs1 : sel < items.length) (hlf : 0 ≤ lastFirst) (hp : 0 ≤ pad)
    (hW : 0 ≤ W) (hH : 1 ≤ H) :
    ROk (getHorizontalWindow wd items sel lastFirst pad W H)
      fun r => 0 ≤ r.1 ∧ r.1 < items.length ∧ 1 ≤ r.2.1 ∧ r.2.1 ≤ H := by
  unfold getHorizontalWindow listBoxColGap
  refine .bind (maxWidth_ok wd items pad 0 items.length (Int.le_refl _)) fun mw hmw => ?_
  refine .bind (goDiv_ok (W + 2) (mw + 2) (by omega) (by omega)) fun q0 hq0 => ?_
  have hq : 0 ≤ q0 := hq0 ▸ Int.ediv_nonneg (by omega) (by omega)
  generalize hpr : (if q0 = 0 then 1 else q0) = perRow
  have hpr1 : 1 ≤ perRow := by rw [← hpr]; split <;> omega
  refine .ite (fun hfit => ?_) fun _ => ?_
  · refine .bind (goDiv_ok _ perRow (by omega) (by omega)) fun h hh => .pure ⟨Int.le_refl _, by omega, ?_, ?_⟩
    · exact hh ▸ Int.le_ediv_of_mul_le (by omega) (by omega)
    · have : ((items.length : Int) + perRow - 1) / perRow < H + 1 :=
        Int.ediv_lt_of_lt_mul (by omega) (by rw [Int.add_mul]; omega)
      show h ≤ H
      omega
  · generalize hh' : (if H > 1 then H - 1 else H) = h'
    have hh1 : 1 ≤ h' ∧ h' ≤ H := by rw [← hh']; split <;> omega
    refine .bind (goDiv_ok sel h' hs0 (by omega)) fun q hq => ?_
    have hq0 : 0 ≤ q := hq ▸ Int.ediv_nonneg hs0 (by omega)
    have hqm : q * h' ≤ sel := hq ▸ Int.ediv_mul_le sel (by omega)
    have hqs : q ≤ sel := hq ▸ Int.ediv_le_self _ hs0
    clear hq
    obtain ⟨m, rfl⟩ : ∃ m : Nat, q = m := ⟨q.toNat, by omega⟩
    have hmh : 0 ≤ (m : Int) * h' := Int.mul_nonneg (by omega) (by omega)
    refine .bind (maxWidth_ok wd items pad _ _ hmh) fun u0 _ => ?_
    refine .bind (hgo_ok wd items lastFirst pad W h' hlf hh1.1 _ m u0 (by omega)) fun f hf => ?_
    exact .pure ⟨hf.1, by show f < _; omega, hh1.1, hh1.2⟩

/-- An item of a horizontal list box is one row (its segments). -/
def ItemsNoCtl (items : List (List Bytes)) : Prop := ∀ it ∈ items, ∀ seg ∈ it, NoCtl seg

theorem hcol_ok (items : List (List Bytes)) (sel ch i : Int) (hi : 0 ≤ i)
    (hit : ItemsNoCtl items) (k : Nat) :
    ∀ (j : Int) (acc : List (List Bytes)) (sr last : Int), (acc.length : Int) + i ≤ j → (acc.length : Int) ≤ ch →
      RowsNoCtl acc →
    ROk (listBoxHorizontal.cols.col items sel items.length ch i j acc sr last k)
      fun r => (r.1.length : Int) ≤ ch ∧ RowsNoCtl r.1 := by
  induction k with
  | zero => exact fun j acc sr last _ h2 h3 => .pure ⟨h2, h3⟩
  | succ k ih =>
    intro j acc sr last h1 h2 h3
    rw [listBoxHorizontal.cols.col]
    refine .ite (fun hc => ?_) fun _ => .pure ⟨h2, h3⟩
    simp only [Bool.and_eq_true, decide_eq_true_eq] at hc
    refine .bind (.index ⟨by omega, hc.2⟩) fun it hmem => ih _ _ _ _ ?_ ?_ ?_
    · rw [List.length_append, Int.natCast_add]; simp only [List.length_cons, List.length_nil]; omega
    · rw [List.length_append, Int.natCast_add]; simp only [List.length_cons, List.length_nil]; omega
    · exact fun row hrow => (List.mem_append.1 hrow).elim (h3 row) fun h => List.mem_singleton.1 h ▸ hit it hmem

def BufOK (wd : Int → Int) (b : Buf) : Prop := 0 ≤ b.width ∧ ∀ l ∈ b.lines, lineWidth wd l ≤ b.width

/-- The column loop of `renderHorizontal`. -/
theorem hcols_ok (wd : Int → Int) (ok : WdOK wd) (items : List (List Bytes)) (sel pad : Int) (ext : Bool)
    (ch W : Int) (hch : 1 ≤ ch) (hp0 : 0 ≤ pad) (hp1 : pad ≤ 1)
    (hit : ItemsNoCtl items) (k : Nat) :
    ∀ (i : Int) (buf : Buf) (rem : Int) (hc : Bool) (last : Int), 0 ≤ i → items.length + 1 ≤ i + k → 1 ≤ k → BufOK wd buf →
      buf.width + rem ≤ W → 1 ≤ rem → (buf.lines.length : Int) ≤ ch →
    ROk (listBoxHorizontal.cols wd items sel pad ext items.length ch i buf rem hc last k)
      fun r => BufOK wd r.1 ∧ r.1.width ≤ W ∧ (r.1.lines.length : Int) ≤ ch := by
  induction k with
  | zero => intro i buf rem hc last hi hf hk; omega
  | succ k ih =>
    intro i buf rem hc last hi hf _ hb hw hr hl
    rw [listBoxHorizontal.cols]
    refine .ite (fun _ => ?_) fun _ => .pure ⟨hb, by show buf.width ≤ W; omega, hl⟩
    refine .bind (hcol_ok items sel ch i hi hit _ i [] (-1) last (by simp) (by simp only [List.length_nil]; omega)
      (fun _ h => absurd h List.not_mem_nil)) fun ⟨colItems, selRow, last'⟩ ⟨hcl, hcn⟩ => ?_
    dsimp only at hcl hcn
    refine .bind (maxWidth_ok wd items pad i (i + ch) hi) fun cw0 hcw2 => ?_
    -- the column is as wide as its widest item, or takes the columns that remain
    dsimp only
    generalize hP : (if cw0 > rem then (rem, true) else (cw0, hc)) = P
    obtain ⟨cw, hc'⟩ := P
    have hcw : pad ≤ cw ∧ 0 ≤ cw ∧ cw ≤ rem := by split at hP <;> cases hP <;> omega
    refine .bind (croppedLinesRender_ok wd ok colItems pad selRow (selRow + 1) ext cw hcw.2.1 hp0 hcw.1 hcn)
      fun cb ⟨cbw, cbl, cbf⟩ => ?_
    refine .bind (extendRight_ok wd ok buf cb cw false hb.1 hcw.2.1 hb.2 cbf) fun res ⟨rw', rlen, rfit⟩ => ?_
    have hb0 : 0 ≤ buf.width := hb.1
    have hrl : (res.lines.length : Int) ≤ ch := by omega
    have hrw : res.width = buf.width + cw := by rw [rw', cbw]
    have hrb : BufOK wd res := ⟨by omega, hrw ▸ rfit⟩
    dsimp only [listBoxColGap]
    refine .ite (fun _ => .pure ⟨hrb, by show res.width ≤ W; omega, hrl⟩) fun hgap => ?_
    exact ih _ _ _ _ _ (by omega) (by omega) (by omega)
      ⟨by show 0 ≤ res.width + 2; omega, fun l hl' => by have := hrb.2 l hl'; show _ ≤ res.width + 2; omega⟩
      (by show res.width + 2 + _ ≤ W; omega) (by omega) hrl

theorem listBoxHorizontal_fits (wd : Int → Int) (ok : WdOK wd) (items : List (List Bytes)) (sel lastFirst pad : Int)
    (ext : Bool) (W H : Int) (hW : 2 ≤ W) (hH : 1 ≤ H) (hlf : 0 ≤ lastFirst) (hp0 : 0 ≤ pad) (hp1 : pad ≤ 1)
    (hne : items ≠ []) (hs0 : 0 ≤ sel) (hs1 : sel < items.length) (hit : ItemsNoCtl items) :
    ROk (listBoxHorizontal wd items sel lastFirst pad ext W H)
      fun buf => (buf.lines.length : Int) ≤ H ∧ ∀ l ∈ buf.lines, lineWidth wd l ≤ W := by
  have hlen : 0 < items.length := List.length_pos_iff.2 hne
  unfold listBoxHorizontal
  refine .bind (getHorizontalWindow_ok wd items sel lastFirst pad W H hlen hs0 hs1 hlf hp0 (by omega) hH)
    fun ⟨f, ch, sb⟩ ⟨hf0, hf1, hch1, hchH⟩ => ?_
  dsimp only at hf0 hf1 hch1 hchH
  have h0 : BufOK wd { width := 0, lines := [], dot := (0, 0) } := ⟨Int.le_refl _, nofun⟩
  refine .bind (hcols_ok wd ok items sel pad ext ch W hch1 hp0 hp1 hit (items.length + 1) f
    _ W false f hf0 (by omega) (by omega) h0 (Int.le_of_eq (Int.zero_add W)) (by omega)
    (by simp only [List.length_nil]; omega))
    fun ⟨buf, hc', last'⟩ ⟨hrb, hrw, hrl⟩ => ?_
  dsimp only at hrb hrw hrl
  have hfit : ∀ l ∈ buf.lines, lineWidth wd l ≤ W := fun l hl => Int.le_trans (hrb.2 l hl) hrw
  refine .ite (fun hcond => ?_) fun _ => .pure ⟨Int.le_trans hrl hchH, hfit⟩
  have hlt : ch < H := by
    simp only [Bool.and_eq_true, decide_eq_true_eq] at hcond; exact hcond.1
  refine .bind (hscrollbarRender_ok wd ok W (by omega)) fun sbuf ⟨sl, sfit⟩ => ?_
  obtain ⟨dlen, dfit⟩ := extendDown_ok wd { buf with width := W } sbuf false W hfit sfit
  exact .pure ⟨by simp only [sl] at dlen; omega, dfit⟩

end C34
