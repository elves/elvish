/-
The scrollbars and `Buffer.ExtendRight`.
-/
import ElvProofs.C34.NoWrap
namespace C34
open Go C34.Utf8

theorem scrollCell_noctl : NoCtl scrollCell := by decide

theorem Of_scrollCell (wd : Int → Int) (ok : WdOK wd) : Of wd scrollCell = 1 := Of_space wd ok

theorem lineWidth_spacing (wd : Int → Int) (ok : WdOK wd) (k : Nat) :
    lineWidth wd (List.replicate k [0x20]) = k := by
  induction k with
  | zero => simp [lineWidth]
  | succ k ih => rw [List.replicate_succ, lineWidth_cons, ih, Of_space wd ok]; omega

theorem vscroll_go_pos (wd : Int → Int) (ok : WdOK wd) (k : Nat) : ∀ (bb : BB) (i : Nat), 0 < i → Rows wd 1 bb →
    Rows wd 1 (vscrollbarRender.go wd bb i k) ∧
      (vscrollbarRender.go wd bb i k).prev.length = bb.prev.length + k := by
  induction k with
  | zero => intro bb i _ h; exact ⟨h, rfl⟩
  | succ k ih =>
    intro bb i hi h
    simp only [vscrollbarRender.go]
    rw [if_pos (by omega)]
    obtain ⟨n1, n2, n3⟩ := h.newline
    obtain ⟨w1, w2, _⟩ := n1.writeString ok.nonneg scrollCell scrollCell_noctl (by rw [n3, Of_scrollCell wd ok]; omega)
    obtain ⟨r1, r2⟩ := ih _ (i + 1) (by omega) w1
    exact ⟨r1, by rw [r2, w2, n2]; omega⟩

theorem vscrollbarRender_ok (wd : Int → Int) (ok : WdOK wd) (H : Int) (hH : 1 ≤ H) :
    ROk (vscrollbarRender wd H) fun sb => sb.width = 1 ∧ (sb.lines.length : Int) = H ∧
      ∀ l ∈ sb.lines, lineWidth wd l ≤ 1 := by
  obtain ⟨k, hk⟩ : ∃ k, H.toNat = k + 1 := ⟨H.toNat - 1, by omega⟩
  unfold vscrollbarRender
  refine .bind (Rows.new wd 1 (by omega)) fun b ⟨hr, hp, hc⟩ => .pure ?_
  rw [hk, vscrollbarRender.go, if_neg (by omega)]
  obtain ⟨w1, w2, _⟩ := hr.writeString ok.nonneg scrollCell scrollCell_noctl (by rw [hc, Of_scrollCell wd ok]; omega)
  obtain ⟨r1, r2⟩ := vscroll_go_pos wd ok k _ 1 (by omega) w1
  refine ⟨r1.width, ?_, r1.lines_fit⟩
  rw [BB.buffer_lines_length, r2, w2, hp]; simp only [List.length_nil]; omega

theorem hscroll_go (wd : Int → Int) (ok : WdOK wd) (w : Int) (k : Nat) : ∀ (bb : BB), Rows wd w bb →
    bb.col + k ≤ w →
    Rows wd w (hscrollbarRender.go wd bb k) ∧ (hscrollbarRender.go wd bb k).prev = bb.prev := by
  induction k with
  | zero => intro bb h _; exact ⟨h, rfl⟩
  | succ k ih =>
    intro bb h hf
    simp only [hscrollbarRender.go]
    obtain ⟨w1, w2, w3⟩ := h.writeString ok.nonneg scrollCell scrollCell_noctl (by rw [Of_scrollCell wd ok]; omega)
    obtain ⟨r1, r2⟩ := ih _ w1 (by rw [w3, Of_scrollCell wd ok]; omega)
    exact ⟨r1, by rw [r2, w2]⟩

theorem hscrollbarRender_ok (wd : Int → Int) (ok : WdOK wd) (W : Int) (hW : 0 ≤ W) :
    ROk (hscrollbarRender wd W) fun sb => sb.lines.length = 1 ∧ ∀ l ∈ sb.lines, lineWidth wd l ≤ W := by
  unfold hscrollbarRender
  refine .bind (Rows.new wd W hW) fun b ⟨hr, hp, hc⟩ => .pure ?_
  obtain ⟨r1, r2⟩ := hscroll_go wd ok W W.toNat b hr (by rw [hc]; omega)
  refine ⟨?_, r1.lines_fit⟩
  rw [BB.buffer_lines_length, r2, hp]; rfl

theorem makeSpacing_ok (n : Int) (h : 0 ≤ n) :
    makeSpacing n = .ok (List.replicate n.toNat [0x20]) := by
  rw [makeSpacing, if_neg (by omega)]

theorem extendRows_ok (wd : Int → Int) (ok : WdOK wd) (w w2 : Int) (hw : 0 ≤ w) (hw2 : 0 ≤ w2)
    (ls ls2 : List (List Bytes)) (h1 : ∀ l ∈ ls, lineWidth wd l ≤ w)
    (h2 : ∀ l ∈ ls2, lineWidth wd l ≤ w2) :
    ROk (extendRows wd w ls ls2) fun r => r.length = max ls.length ls2.length ∧
      ∀ l ∈ r, lineWidth wd l ≤ w + w2 := by
  fun_induction extendRows wd w ls ls2 with
  | case1 l ls l2 ls2 w0 rest hlt ih =>
    -- a short line is padded to `w` columns
    obtain ⟨hl2, h2⟩ := List.forall_mem_cons.1 h2
    simp only [makeSpacing_ok (w - w0) (by omega), Res.pure_eq_ok, Res.ok_bind]
    refine .bind (ih (List.forall_mem_cons.1 h1).2 h2) fun r ⟨hlen, hfit⟩ =>
      .pure ⟨?_, List.forall_mem_cons.2 ⟨?_, hfit⟩⟩
    · simp only [List.length_cons, hlen]; omega
    · rw [lineWidth_append, lineWidth_append, lineWidth_spacing wd ok]; omega
  | case2 l ls l2 ls2 w0 rest hlt ih =>
    obtain ⟨hl, h1⟩ := List.forall_mem_cons.1 h1
    obtain ⟨hl2, h2⟩ := List.forall_mem_cons.1 h2
    simp only [Res.pure_eq_ok, Res.ok_bind]
    refine .bind (ih h1 h2) fun r ⟨hlen, hfit⟩ => .pure ⟨?_, List.forall_mem_cons.2 ⟨?_, hfit⟩⟩
    · simp only [List.length_cons, hlen]; omega
    · rw [lineWidth_append]; omega
  | case3 ls => exact .pure ⟨by simp, fun x hx => by have := h1 x hx; omega⟩
  | case4 l2 ls2 ih =>
    obtain ⟨hl2, h2⟩ := List.forall_mem_cons.1 h2
    simp only [makeSpacing_ok w hw, Res.ok_bind]
    refine .bind (ih h1 h2) fun r ⟨hlen, hfit⟩ => .pure ⟨?_, List.forall_mem_cons.2 ⟨?_, hfit⟩⟩
    · simp only [List.length_cons, List.length_nil] at hlen ⊢; omega
    · rw [lineWidth_append, lineWidth_spacing wd ok]; omega

theorem extendRight_ok (wd : Int → Int) (ok : WdOK wd) (b b2 : Buf) (w2 : Int) (md : Bool) (hw : 0 ≤ b.width)
    (hw2 : 0 ≤ w2) (h1 : ∀ l ∈ b.lines, lineWidth wd l ≤ b.width) (h2 : ∀ l ∈ b2.lines, lineWidth wd l ≤ w2) :
    ROk (b.extendRight wd b2 md) fun r => r.width = b.width + b2.width ∧
      r.lines.length = max b.lines.length b2.lines.length ∧ ∀ l ∈ r.lines, lineWidth wd l ≤ b.width + w2 :=
  .bind (extendRows_ok wd ok b.width w2 hw hw2 b.lines b2.lines h1 h2) fun _ h => .pure ⟨rfl, h⟩

/-- `VScrollbarContainer.Render`: a column `W - 1` wide with a vertical scrollbar to its right. -/
theorem withVScrollbar_ok (wd : Int → Int) (ok : WdOK wd) (buf : Buf) (W H : Int) (hW : 1 ≤ W)
    (hH : 1 ≤ H) (hbw : buf.width = W - 1) (hlen : (buf.lines.length : Int) ≤ H)
    (hfit : ∀ l ∈ buf.lines, lineWidth wd l ≤ W - 1) :
    ROk (vscrollbarRender wd H >>= fun sb => buf.extendRight wd sb false) fun res =>
      (res.lines.length : Int) ≤ H ∧ ∀ l ∈ res.lines, lineWidth wd l ≤ W :=
  .bind (vscrollbarRender_ok wd ok H hH) fun sb ⟨_, slen, sfit⟩ =>
    (extendRight_ok wd ok buf sb 1 false (by omega) (by omega) (hbw ▸ hfit) sfit).mono
      fun res ⟨_, rlen, rfit⟩ => ⟨by omega, fun l hl => by have := rfit l hl; omega⟩

theorem extendDown_ok (wd : Int → Int) (b b2 : Buf) (md : Bool) (W : Int)
    (h1 : ∀ l ∈ b.lines, lineWidth wd l ≤ W) (h2 : ∀ l ∈ b2.lines, lineWidth wd l ≤ W) :
    (b.extendDown b2 md).lines.length ≤ b.lines.length + b2.lines.length ∧
      ∀ l ∈ (b.extendDown b2 md).lines, lineWidth wd l ≤ W := by
  unfold Buf.extendDown
  split
  · exact ⟨Nat.le_add_right _ _, h1⟩
  · exact ⟨Nat.le_of_eq List.length_append, fun l hl => (List.mem_append.1 hl).elim (h1 l) (h2 l)⟩

end C34
