/-
`TextView.Render` on control-free lines.
-/
import ElvProofs.C34.Extend
namespace C34
open Go C34.Utf8

theorem Rows.writeTrimmed {wd : Int → Int} (ok : WdOK wd) {tw : Int} (htw : 0 ≤ tw) {bb : BB}
    (h : Rows wd tw bb) (hcol : bb.col = 0) (line : Bytes) (hc : NoCtl line) :
    Rows wd tw (bb.write wd (Trim wd line tw)) ∧ (bb.write wd (Trim wd line tw)).prev = bb.prev := by
  have hT := (Trim_width wd ok.nonneg line tw).2.1 htw
  obtain ⟨w1, w2, -⟩ := h.writeString ok.nonneg _ (Trim_noctl wd line tw hc) (by omega)
  exact ⟨w1, w2⟩

/-- The loop of `TextView.Render` after the first line: every visited line starts a new row. -/
theorem textView_go (wd : Int → Int) (ok : WdOK wd) (lines : List Bytes) (H first tw : Int)
    (hf : 0 ≤ first) (htw : 0 ≤ tw) (hc : ∀ l ∈ lines, NoCtl l) (k : Nat) :
    ∀ (bb : BB) (i : Int), first < i → i ≤ first + H → Rows wd tw bb →
    ROk (textViewRender.go wd lines H lines.length first tw bb i k) fun bb' => Rows wd tw bb' ∧
      (bb'.prev.length : Int) + i ≤ bb.prev.length + first + H := by
  induction k with
  | zero => intro bb i _ hi h; exact .pure ⟨h, by omega⟩
  | succ k ih =>
    intro bb i hfi hi h
    simp only [textViewRender.go, Bool.and_eq_true, decide_eq_true_eq]
    refine .ite (fun hcond => ?_) fun _ => .pure ⟨h, by omega⟩
    rw [if_pos hfi]
    refine .bind (.index ⟨by omega, hcond.2⟩) fun line hmem => ?_
    obtain ⟨n1, n2, n3⟩ := h.newline
    obtain ⟨w1, w2⟩ := n1.writeTrimmed ok htw n3 line (hc line hmem)
    exact (ih _ (i + 1) (by omega) (by omega) w1).mono fun bb' ⟨r, p⟩ => ⟨r, by rw [w2, n2] at p; omega⟩

theorem textView_rows (wd : Int → Int) (ok : WdOK wd) (lines : List Bytes) (H first tw : Int)
    (hH : 1 ≤ H) (hf : 0 ≤ first) (htw : 0 ≤ tw) (hc : ∀ l ∈ lines, NoCtl l) (k : Nat) {bb : BB}
    (h : Rows wd tw bb) (hp : bb.prev = []) (hcol : bb.col = 0) :
    ROk (textViewRender.go wd lines H lines.length first tw bb first (k + 1)) fun bb' =>
      Rows wd tw bb' ∧ (bb'.buffer.lines.length : Int) ≤ H := by
  simp only [textViewRender.go, Bool.and_eq_true, decide_eq_true_eq, BB.buffer_lines_length]
  refine .ite (fun hcond => ?_) fun _ => .pure ⟨h, by rw [hp, List.length_nil]; omega⟩
  rw [if_neg (Int.lt_irrefl _)]
  refine .bind (.index ⟨hf, hcond.2⟩) fun line hmem => ?_
  obtain ⟨w1, w2⟩ := h.writeTrimmed ok htw hcol line (hc line hmem)
  exact (textView_go wd ok lines H first tw hf htw hc k _ (first + 1) (by omega) (by omega) w1).mono
    fun bb' ⟨r, p⟩ => ⟨r, by rw [w2, hp, List.length_nil] at p; omega⟩

theorem textView_fits (wd : Int → Int) (ok : WdOK wd) (sc : Bool) (lines : List Bytes) (first0 W H : Int)
    (hW : 2 ≤ W) (hH : 1 ≤ H) (hf : 0 ≤ first0) (hc : ∀ l ∈ lines, NoCtl l) :
    ROk (textViewRender wd sc lines first0 W H) fun buf => (buf.lines.length : Int) ≤ H ∧
      ∀ l ∈ buf.lines, lineWidth wd l ≤ W := by
  unfold textViewRender
  dsimp only
  generalize hF : (if (decide (first0 > ↑lines.length - H) && decide ((lines.length : Int) - H ≥ 0)) = true
      then (lines.length : Int) - H else first0) = first
  have hf' : 0 ≤ first := by
    rw [← hF]; split
    · rename_i h; simp only [Bool.and_eq_true, decide_eq_true_eq] at h; omega
    · exact hf
  generalize (sc && (decide (first > 0) || decide (first + H < ↑lines.length))) = ns
  generalize htw : (if ns = true then W - 1 else W) = tw
  have htw' : 0 ≤ tw ∧ tw ≤ W ∧ (ns = true → tw = W - 1) := by rw [← htw]; split <;> simp [*] <;> omega
  refine .bind (Rows.new wd tw htw'.1) fun b ⟨hr, hp, hc0⟩ => ?_
  refine .bind (textView_rows wd ok lines H first tw hH hf' htw'.1 hc lines.length hr hp hc0)
    fun bb' ⟨r, hlen⟩ => ?_
  cases ns with
  | false => exact .pure ⟨hlen, fun l hl => by have := r.lines_fit l hl; omega⟩
  | true =>
    exact withVScrollbar_ok wd ok bb'.buffer W H (by omega) hH (r.width.trans (htw'.2.2 rfl)) hlen
      (htw'.2.2 rfl ▸ r.lines_fit)

end C34
