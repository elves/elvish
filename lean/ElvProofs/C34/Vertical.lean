/-
The vertical `ListBox`: `getVerticalWindow` returns an in-range window, the item loop collects at
most `height` control-free rows.
-/
import ElvProofs.C34.Split
namespace C34
open Go C34.Utf8

/-- What `getVerticalWindow` guarantees about `(first, crop)`. -/
def WinOK (items : List (List Bytes)) (f c : Int) : Prop :=
  0 ≤ f ∧ f < items.length ∧ 0 ≤ c ∧ ∀ it, index items f = .ok it → c < countLines it

theorem WinOK.zero_crop (items : List (List Bytes)) (f : Int) (h0 : 0 ≤ f) (h1 : f < items.length) :
    WinOK items f 0 :=
  ⟨h0, h1, Int.le_refl _, fun it _ => by have := countLines_pos it; omega⟩

theorem vdown_ok (items : List (List Bytes)) (budget : Int) (k : Nat) :
    ∀ (i u : Int), 0 ≤ i → 0 ≤ u →
    ROk (getVerticalWindow.down items items.length budget i u k) (0 ≤ ·) := by
  induction k with
  | zero => exact fun i u _ hu => .pure hu
  | succ k ih =>
    intro i u hi hu
    rw [getVerticalWindow.down]
    refine .ite (fun hlt => ?_) fun _ => .pure hu
    refine .bind (.index ⟨hi, hlt⟩) fun it _ => ?_
    have := countLines_pos it
    exact .ite (fun _ => .pure (by omega)) fun _ => ih _ _ (by omega) (by omega)

theorem vup_ok (items : List (List Bytes)) (lastFirst budget useDown budgetUp : Int) (hne : 0 < items.length)
    (k : Nat) :
    ∀ (i u : Int), i < items.length → 0 ≤ u → u < budgetUp →
    ROk (getVerticalWindow.up items lastFirst budget useDown budgetUp i u k) fun r => WinOK items r.1 r.2 := by
  induction k with
  | zero => exact fun i u _ _ _ => .pure (WinOK.zero_crop items 0 (Int.le_refl _) (by omega))
  | succ k ih =>
    intro i u hi hu hub
    rw [getVerticalWindow.up]
    refine .ite (fun hge => ?_) fun _ => .pure (WinOK.zero_crop items 0 (Int.le_refl _) (by omega))
    obtain ⟨it, hit, _⟩ := exists_index_eq_ok items i hge hi
    rw [hit, Res.ok_bind]
    have := countLines_pos it
    refine .ite (fun _ => .pure ⟨hge, hi, by show 0 ≤ u + countLines it - budgetUp; omega, ?_⟩) fun _ =>
      .ite (fun _ => .pure (WinOK.zero_crop items i hge hi)) fun _ => ih _ _ (by omega) (by omega) (by omega)
    intro it' hit'
    rw [hit] at hit'
    cases hit'
    show u + countLines it - budgetUp < _
    omega

theorem getVerticalWindow_ok (items : List (List Bytes)) (sel lastFirst H : Int) (hne : 0 < items.length) :
    ROk (getVerticalWindow items sel lastFirst H) fun r => WinOK items r.1 r.2 := by
  unfold getVerticalWindow
  dsimp only
  generalize hs : (if sel < 0 then 0 else if sel ≥ (items.length : Int) then (items.length : Int) - 1 else sel) = s
  have hs0 : 0 ≤ s ∧ s < items.length := by
    rw [← hs]; split
    · omega
    · split <;> omega
  refine .bind (.index hs0) fun selIt _ => ?_
  refine .ite (fun _ => .pure (WinOK.zero_crop items s hs0.1 hs0.2)) fun hH => ?_
  refine .bind (vdown_ok items (H - countLines selIt) _ (s + 1) 0 (by omega) (Int.le_refl _))
    fun ud hud0 => ?_
  have hb : 0 ≤ H - countLines selIt := by omega
  have ht : (H - countLines selIt).tdiv 2 = (H - countLines selIt) / 2 := Int.tdiv_eq_ediv_of_nonneg hb
  apply vup_ok items _ _ _ _ hne
  · omega
  · exact Int.le_refl _
  · simp only [respectDistance, ht]
    split <;> split <;> omega

theorem vgo_ok (items : List (List Bytes)) (sel H first crop : Int)
    (hitems : ∀ it ∈ items, ∀ seg ∈ it, NoCtlNL seg) (hwin : WinOK items first crop) (k : Nat) :
    ∀ (i : Int) (all : List (List Bytes)) (sf st : Int) (hc : Bool), first ≤ i → (all.length : Int) ≤ H →
      RowsNoCtl all →
    ROk (listBoxVertical.go items sel H items.length first crop i all sf st hc k) fun r =>
      (r.2.1.length : Int) ≤ H ∧ RowsNoCtl r.2.1 := by
  induction k with
  | zero => exact fun i all sf st hc _ h1 h2 => .pure ⟨h1, h2⟩
  | succ k ih =>
    intro i all sf st hc hi h1 h2
    simp only [listBoxVertical.go, Bool.and_eq_true, decide_eq_true_eq]
    refine .ite (fun hcond => ?_) fun _ => .pure ⟨h1, h2⟩
    obtain ⟨item, hitem, hmem⟩ := exists_index_eq_ok items i (by have := hwin.1; omega) (by omega)
    rw [hitem, Res.ok_bind]
    have hso := splitLinesSegs_ok item (hitems item hmem)
    -- the first item shown loses its first `crop` rows
    refine .bind_ite (Q := RowsNoCtl) (.ite (fun hif => ?_) fun _ => .pure hso.1) fun l1 hl1 => ?_
    · have hcrop := hwin.2.2.2 item (hif ▸ hitem)
      exact (ROk.slice ⟨hwin.2.2.1, by omega, Int.le_refl _⟩).mono fun a ha row hrow =>
        hso.1 row (ha.2 row hrow)
    -- the rows are cut to the height that is left
    refine .bind_ite (Q := fun l => RowsNoCtl l ∧ (all.length : Int) + l.length ≤ H)
      (.ite (fun _ => ?_) fun _ => .pure ⟨hl1, by omega⟩) fun l ⟨hl, hlen⟩ => ?_
    · exact (ROk.slice ⟨Int.le_refl _, by omega, by omega⟩).mono fun a ha =>
        ⟨fun row h => hl1 row (ha.2 row h), by omega⟩
    exact ih _ _ _ _ _ (by omega) (by rw [List.length_append, Int.natCast_add]; exact hlen)
      fun row hrow => (List.mem_append.1 hrow).elim (h2 row) (hl row)

theorem listBoxVertical_fits (wd : Int → Int) (ok : WdOK wd) (items : List (List Bytes)) (sel lastFirst pad : Int)
    (ext : Bool) (W H : Int) (hW : 2 ≤ W) (hH : 1 ≤ H) (hp0 : 0 ≤ pad) (hp1 : pad ≤ 1) (hne : items ≠ [])
    (hitems : ∀ it ∈ items, ∀ seg ∈ it, NoCtlNL seg) :
    ROk (listBoxVertical wd items sel lastFirst pad ext W H) fun buf => (buf.lines.length : Int) ≤ H ∧
      ∀ l ∈ buf.lines, lineWidth wd l ≤ W := by
  have hlen : 0 < items.length := List.length_pos_iff.2 hne
  unfold listBoxVertical
  refine .bind (getVerticalWindow_ok items sel lastFirst H hlen) fun ⟨f, c⟩ hw => ?_
  refine .bind (vgo_ok items sel H f c hitems hw _ f [] 0 0 _ (Int.le_refl _)
    (by simp only [List.length_nil]; omega) (by intro row h; simp at h))
    fun ⟨i', all', sf', st', hc'⟩ ⟨hrl, hrn⟩ => ?_
  dsimp only at hrl hrn
  refine .ite (fun _ => ?_) fun _ =>
    (croppedLinesRender_ok wd ok all' pad sf' st' ext W (by omega) hp0 (by omega) hrn).mono
      fun buf ⟨_, bl, bf⟩ => ⟨by rw [bl]; omega, bf⟩
  refine .bind (croppedLinesRender_ok wd ok all' pad sf' st' ext (W - 1) (by omega) hp0 (by omega) hrn)
    fun buf ⟨bw, bl, bf⟩ => ?_
  exact withVScrollbar_ok wd ok buf W H (by omega) hH bw (by rw [bl]; omega) bf

end C34
