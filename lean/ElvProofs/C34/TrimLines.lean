/-
`strings.Split(s, "\n")` and `strings.Join(lines, "\n")`: the pieces of a split are the
newline-free stretches of `s`; the two are inverse on newline-free lines, and `Trim` keeps a line
newline-free, so `TrimEachLine` trims line by line.
-/
import ElvProofs.C34.Trim
namespace C34
open Go C34.Utf8

def NoNL (s : Bytes) : Prop := ∀ b ∈ s, b ≠ 10

theorem splitNL_ne_nil (s : Bytes) : splitNL s ≠ [] := by
  induction s with
  | nil => simp [splitNL]
  | cons b t ih =>
    simp only [splitNL]
    split
    · simp
    · split <;> simp

theorem splitNL_nl (rest : Bytes) : splitNL (10 :: rest) = [] :: splitNL rest := rfl

theorem splitNL_cons (b : UInt8) (rest : Bytes) (hb : b ≠ 10) :
    ∃ l ls, splitNL rest = l :: ls ∧ splitNL (b :: rest) = (b :: l) :: ls := by
  cases h : splitNL rest with
  | nil => exact absurd h (splitNL_ne_nil rest)
  | cons l ls => exact ⟨l, ls, rfl, by rw [splitNL, if_neg hb, h]⟩

theorem splitNL_mem {s p : Bytes} (hp : p ∈ splitNL s) : ∀ b ∈ p, b ∈ s ∧ b ≠ 10 := by
  induction s generalizing p with
  | nil =>
    rw [splitNL, List.mem_singleton] at hp
    subst hp
    exact fun b hb => absurd hb List.not_mem_nil
  | cons c rest ih =>
    have tail : ∀ {q}, q ∈ splitNL rest → ∀ b ∈ q, b ∈ c :: rest ∧ b ≠ 10 :=
      fun hq b hb => ⟨List.mem_cons_of_mem _ (ih hq b hb).1, (ih hq b hb).2⟩
    by_cases hc : c = 10
    · rw [hc, splitNL_nl, List.mem_cons] at hp
      rcases hp with rfl | hp
      · exact fun b hb => absurd hb List.not_mem_nil
      · exact hc ▸ tail hp
    · obtain ⟨l, ls, e, e'⟩ := splitNL_cons c rest hc
      rw [e', List.mem_cons] at hp
      rw [e] at tail
      rcases hp with rfl | hp
      · intro b hb
        rcases List.mem_cons.1 hb with rfl | hb
        · exact ⟨List.mem_cons_self, hc⟩
        · exact tail List.mem_cons_self b hb
      · exact tail (List.mem_cons_of_mem _ hp)

theorem splitNL_nonl (s : Bytes) : ∀ p ∈ splitNL s, NoNL p :=
  fun _ hp b hb => (splitNL_mem hp b hb).2

theorem splitNL_of_nonl (l : Bytes) (h : NoNL l) : splitNL l = [l] := by
  induction l with
  | nil => rfl
  | cons b l ih =>
    simp only [splitNL]
    rw [if_neg (h b List.mem_cons_self), ih (fun x hx => h x (List.mem_cons_of_mem _ hx))]

theorem splitNL_append_nl (l rest : Bytes) (h : NoNL l) : splitNL (l ++ 10 :: rest) = l :: splitNL rest := by
  induction l with
  | nil => simp [splitNL]
  | cons b l ih =>
    simp only [List.cons_append, splitNL]
    rw [if_neg (h b List.mem_cons_self), ih (fun x hx => h x (List.mem_cons_of_mem _ hx))]

theorem splitNL_joinNL (ls : List Bytes) (hne : ls ≠ []) (h : ∀ l ∈ ls, NoNL l) : splitNL (joinNL ls) = ls := by
  induction ls with
  | nil => exact absurd rfl hne
  | cons l ls ih =>
    cases ls with
    | nil => simp only [joinNL]; exact splitNL_of_nonl l (h l List.mem_cons_self)
    | cons l2 ls2 =>
      simp only [joinNL]
      rw [splitNL_append_nl l _ (h l List.mem_cons_self),
        ih (by simp) (fun x hx => h x (List.mem_cons_of_mem _ hx))]

theorem trimEachLine_lines (wd : Int → Int) (s : Bytes) (w : Int) :
    splitNL (TrimEachLine wd s w) = (splitNL s).map fun l => Trim wd l w := by
  unfold TrimEachLine
  apply splitNL_joinNL
  · exact fun h => splitNL_ne_nil s (List.map_eq_nil_iff.1 h)
  · intro l hl
    obtain ⟨l0, h0, rfl⟩ := List.mem_map.1 hl
    exact fun b hb => splitNL_nonl s l0 h0 b (Trim_mem hb)

end C34
