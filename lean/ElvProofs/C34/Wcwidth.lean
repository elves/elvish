/-
The generated table of combining ranges, `sort.Search`, `inRange` and `OfRune`.
-/
import ElvModel.C34.Model
namespace C34

def SortedRanges (rs : List (Int × Int)) : Prop :=
  (∀ p ∈ rs, p.1 ≤ p.2) ∧ rs.Pairwise (fun p q => p.2 < q.1)

instance (rs : List (Int × Int)) : Decidable (SortedRanges rs) := by
  unfold SortedRanges; exact inferInstance

/-- `SortedRanges` compares every pair of ranges; this one pass is what is evaluated on the table
instead. -/
def sortedFrom (lo : Int) : List (Int × Int) → Bool
  | [] => true
  | p :: rs => decide (lo < p.1) && decide (p.1 ≤ p.2) && sortedFrom p.2 rs

theorem sortedFrom_sound {lo : Int} {rs : List (Int × Int)} (h : sortedFrom lo rs = true) :
    (∀ p ∈ rs, lo < p.1) ∧ SortedRanges rs := by
  induction rs generalizing lo with
  | nil => simp [SortedRanges]
  | cons p rs ih =>
    simp only [sortedFrom, Bool.and_eq_true, decide_eq_true_eq] at h
    obtain ⟨hlo, hne, hpw⟩ := ih h.2
    refine ⟨?_, ?_, List.pairwise_cons.2 ⟨hlo, hpw⟩⟩
    · intro q hq
      rcases List.mem_cons.1 hq with rfl | hq
      · exact h.1.1
      · have := hlo q hq; omega
    · intro q hq
      rcases List.mem_cons.1 hq with rfl | hq
      · exact h.1.2
      · exact hne q hq

/-- `sortedFrom` compares strictly, so the bound 0x2ff says that every range starts at 0x300 or later. -/
theorem combining_from_0x300 : sortedFrom 0x2ff combining = true := by decide +kernel

theorem combining_sorted : SortedRanges combining := (sortedFrom_sound combining_from_0x300).2

theorem combining_lo : ∀ p ∈ combining, 0x300 ≤ p.1 :=
  fun p hp => (sortedFrom_sound combining_from_0x300).1 p hp

theorem search_spec (n : Nat) (f : Fin n → Bool) (i j : Nat) (hj : j ≤ n)
    (mono : ∀ a b : Fin n, a.1 ≤ b.1 → f a = true → f b = true)
    (hlo : ∀ m : Fin n, m.1 < i → f m = false)
    (hhi : ∀ m : Fin n, j ≤ m.1 → f m = true) (hij : i ≤ j) :
    let k := search n f i j hj
    k ≤ n ∧ (∀ m : Fin n, m.1 < k → f m = false) ∧ (∀ m : Fin n, k ≤ m.1 → f m = true) := by
  fun_induction search n f i j hj with
  | case1 i j hj hlt h hh hf ih =>
    refine ih (fun m hm => ?_) hhi (by omega)
    cases hfm : f m with
    | false => rfl
    | true => rw [mono m ⟨h, hh⟩ (by simp only; omega) hfm] at hf; cases hf
  | case2 i j hj hlt h hh hf ih =>
    simp only [Bool.not_eq_true', Bool.not_eq_false] at hf
    exact ih hlo (fun m hm => mono ⟨h, hh⟩ m hm hf) (by omega)
  | case3 i j hj hlt =>
    obtain rfl : i = j := by omega
    exact ⟨hj, hlo, hhi⟩

theorem inRange_eq_any (r : Int) (rs : List (Int × Int)) (hs : SortedRanges rs) :
    inRange r rs = rs.any (fun p => decide (p.1 ≤ r) && decide (r ≤ p.2)) := by
  obtain ⟨hne, hpw⟩ := hs
  have hlt := List.pairwise_iff_getElem.1 hpw
  have hend : ∀ a b (ha : a < rs.length) (hb : b < rs.length), a ≤ b → rs[a].2 ≤ rs[b].2 := by
    intro a b ha hb hab
    rcases Nat.lt_or_eq_of_le hab with h | rfl
    · have := hlt a b ha hb h
      have := hne rs[b] (List.getElem_mem hb)
      omega
    · exact Int.le_refl _
  -- the search finds the first range that ends at or after `r`
  obtain ⟨-, hbelow, habove⟩ := search_spec rs.length (fun k => decide (r ≤ (rs[k.1]'k.2).2)) 0
    rs.length (Nat.le_refl _)
    (fun a b hab hfa => by
      have := hend a.1 b.1 a.2 b.2 hab
      simp only [decide_eq_true_eq] at hfa ⊢; omega)
    (fun m hm => by omega) (fun m hm => by have := m.2; omega) (Nat.zero_le _)
  simp only [decide_eq_true_eq, decide_eq_false_iff_not] at hbelow habove
  unfold inRange
  generalize search rs.length _ 0 rs.length _ = k at *
  rw [Bool.eq_iff_iff, List.any_eq_true]
  by_cases hk : k < rs.length
  · simp only [dif_pos hk, ge_iff_le, decide_eq_true_eq, Bool.and_eq_true]
    have hkr : r ≤ rs[k].2 := habove ⟨k, hk⟩ (Nat.le_refl _)
    refine ⟨fun h => ⟨rs[k], List.getElem_mem hk, h, hkr⟩, ?_⟩
    rintro ⟨p, hp, hpr⟩
    obtain ⟨m, hm, rfl⟩ := List.getElem_of_mem hp
    -- `r` is in range `m`, so `k ≤ m`; were `k < m`, range `k` would end before `r`
    have hkm : k ≤ m := Nat.le_of_not_lt fun h => hbelow ⟨m, hm⟩ h hpr.2
    rcases Nat.lt_or_eq_of_le hkm with h | rfl
    · have := hlt k m hk hm h; omega
    · exact hpr.1
  · simp only [dif_neg hk, Bool.false_eq_true, false_iff]
    rintro ⟨p, hp, hpr⟩
    obtain ⟨m, hm, rfl⟩ := List.getElem_of_mem hp
    simp only [Bool.and_eq_true, decide_eq_true_eq] at hpr
    exact hbelow ⟨m, hm⟩ (by omega) hpr.2

theorem inRange_combining (r : Int) :
    inRange r combining = combining.any (fun p => decide (p.1 ≤ r) && decide (r ≤ p.2)) :=
  inRange_eq_any r combining combining_sorted

theorem getOverride_mem (ovr : Overrides) (r w : Int) (h : getOverride ovr r = some w) :
    (r, w) ∈ ovr := by
  induction ovr with
  | nil => simp [getOverride] at h
  | cons p rest ih =>
    obtain ⟨k, v⟩ := p
    simp only [getOverride] at h
    split at h
    · rename_i hk; subst hk; simp only [Option.some.injEq] at h; subst h; exact List.mem_cons_self
    · exact List.mem_cons_of_mem _ (ih h)

/-- What `Override` guarantees. -/
def OvrNonneg (ovr : Overrides) : Prop := ∀ p ∈ ovr, 0 ≤ p.2

theorem override_nonneg (ovr : Overrides) (r w : Int) (h : OvrNonneg ovr) :
    OvrNonneg (override ovr r w) := by
  unfold override unoverride
  intro p hp
  split at hp
  · exact h p (List.mem_filter.1 hp).1
  · rcases List.mem_cons.1 hp with rfl | hp
    · simp only; omega
    · exact h p (List.mem_filter.1 hp).1

theorem OfRune_nil (r : Int) :
    OfRune [] r = if r == 0 || r < 32 || (0x7f ≤ r && r < 0xa0) || inRange r combining then 0
      else if isWide r then 2 else 1 := rfl

theorem OfRune_nonneg (ovr : Overrides) (h : OvrNonneg ovr) (r : Int) : 0 ≤ OfRune ovr r := by
  unfold OfRune
  split
  · rename_i w hw; exact h _ (getOverride_mem ovr r w hw)
  · split
    · exact Int.le_refl _
    · split <;> omega

theorem OfRune_le_two (r : Int) : OfRune [] r ≤ 2 := by
  rw [OfRune_nil]
  split
  · omega
  · split <;> omega

theorem OfRune_ascii (r : Int) (h1 : 0x20 ≤ r) (h2 : r < 0x7f) : OfRune [] r = 1 := by
  have hnr : inRange r combining = false := by
    rw [inRange_combining, List.any_eq_false]
    intro p hp
    have := combining_lo p hp
    simp only [Bool.and_eq_true, decide_eq_true_eq]; omega
  have hw : isWide r = false := by
    unfold isWide
    rw [show decide (r ≥ 0x1100) = false from decide_eq_false (by omega), Bool.false_and]
  rw [OfRune_nil, hnr, hw, if_neg (by simp; omega)]
  rfl

end C34
