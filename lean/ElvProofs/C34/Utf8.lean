/-
`for i, r := range s` (`Go.runes`) in the form C34 uses it: cutting a string at the offset of one
of its runes keeps exactly the runes before it.
-/
import ElvProofs.Lemmas.Utf8
namespace C34.Utf8
open Go

theorem runes_nil : runes [] = [] := Go.runes_nil

theorem runes_eq_nil_iff (s : Bytes) : runes s = [] ↔ s = [] :=
  Go.runes_eq_nil_iff s

theorem runes_take (s : Bytes) (pre : List (Nat × Rune × Nat)) (x : Nat × Rune × Nat)
    (post : List (Nat × Rune × Nat)) (h : runes s = pre ++ x :: post) :
    runes (s.take x.1) = pre := by
  induction s using runes_induction generalizing pre x post with
  | nil => simp at h
  | step s hs ih =>
    rw [runes_of_ne_nil hs] at h
    cases pre with
    | nil =>
      obtain ⟨rfl, -⟩ := List.cons.inj h
      rfl
    | cons p pre =>
      obtain ⟨rfl, hrest⟩ := List.cons.inj h
      -- the runes after the first are those of the rest of `s`, offsets moved by its size
      obtain ⟨pre', rest', hsplit, rfl, hrest'⟩ := List.map_eq_append_iff.1 hrest
      obtain ⟨x', post', rfl, rfl, -⟩ := List.map_eq_cons_iff.1 hrest'
      have hn := decodeRune_size_pos hs
      have hne : s.take ((decodeRune s).2 + x'.1) ≠ [] := by
        simp only [ne_eq, List.take_eq_nil_iff, hs, or_false]; omega
      rw [runes_of_ne_nil hne, decodeRune_take s _ (by omega), List.drop_take,
        Nat.add_sub_cancel_left, ih pre' x' post' hsplit]
      rfl

end C34.Utf8
