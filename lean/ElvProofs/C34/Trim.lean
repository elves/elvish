/-
`Of` as a sum over `range`, and the scan that `Trim` and `Force` share.
-/
import ElvModel.C34.Model
import ElvProofs.C34.Utf8
namespace C34
open Go C34.Utf8

def sumW (wd : Int → Int) (L : List (Nat × Rune × Nat)) : Int :=
  (L.map fun x => wd (x.2.1 : Int)).sum

theorem Of_eq_sumW (wd : Int → Int) (s : Bytes) : Of wd s = sumW wd (runes s) := rfl

theorem sumW_nil (wd : Int → Int) : sumW wd [] = 0 := rfl
theorem sumW_cons (wd : Int → Int) (x) (L) : sumW wd (x :: L) = wd (x.2.1 : Int) + sumW wd L := by
  simp [sumW]
theorem sumW_append (wd : Int → Int) (A B) : sumW wd (A ++ B) = sumW wd A + sumW wd B := by
  simp [sumW]
theorem sumW_shiftRunes (wd : Int → Int) (d : Nat) (L) : sumW wd (shiftRunes d L) = sumW wd L := by
  simp [sumW, shiftRunes, Function.comp_def]

theorem sumW_nonneg (wd : Int → Int) (h : ∀ r, 0 ≤ wd r) (L) : 0 ≤ sumW wd L := by
  induction L with
  | nil => exact Int.le_refl _
  | cons x L ih => rw [sumW_cons]; have := h (x.2.1 : Int); omega

theorem Of_nil (wd : Int → Int) : Of wd [] = 0 := rfl

theorem Of_nonneg (wd : Int → Int) (h : ∀ r, 0 ≤ wd r) (s : Bytes) : 0 ≤ Of wd s :=
  sumW_nonneg wd h _

theorem Of_of_ne_nil (wd : Int → Int) {s : Bytes} (h : s ≠ []) :
    Of wd s = wd ((decodeRune s).1 : Int) + Of wd (s.drop (decodeRune s).2) := by
  rw [Of_eq_sumW, runes_of_ne_nil h, sumW_cons, sumW_shiftRunes, ← Of_eq_sumW]

theorem Of_cons_ascii (wd : Int → Int) (b : UInt8) (t : Bytes) (h : b.toNat < 0x80) :
    Of wd (b :: t) = wd (b.toNat : Int) + Of wd t := by
  rw [Of_of_ne_nil wd (List.cons_ne_nil b t), decodeRune_one b t h]
  rfl

/-- An appended text that starts with an ASCII byte (or is empty) cannot change how the end of `a`
decodes. -/
theorem Of_append_ascii (wd : Int → Int) (a b : Bytes) (hb : ∀ x ∈ b.head?, x.toNat < 0x80) :
    Of wd (a ++ b) = Of wd a + Of wd b := by
  induction a using runes_induction with
  | nil => rw [List.nil_append, Of_nil, Int.zero_add]
  | step a ha ih =>
    have hd : decodeRune (a ++ b) = decodeRune a :=
      decodeRune_append_of_runeStart a b ha fun x hx => runeStart_iff.2 (.inl (hb x hx))
    rw [Of_of_ne_nil wd (List.append_ne_nil_of_left_ne_nil ha b), hd,
      List.drop_append_of_le_length (decodeRune_size_le a), ih, Of_of_ne_nil wd ha, Int.add_assoc]

theorem Of_replicate_space (wd : Int → Int) (k : Nat) :
    Of wd (List.replicate k 0x20) = k * wd 0x20 := by
  induction k with
  | zero => rw [List.replicate_zero, Of_nil, Int.natCast_zero, Int.zero_mul]
  | succ k ih =>
    rw [List.replicate_succ, Of_cons_ascii wd _ _ (by decide), ih, Int.natCast_add, Int.add_mul,
      Int.natCast_one, Int.one_mul, Int.add_comm]
    rfl

theorem Of_append_spaces (wd : Int → Int) (a : Bytes) (k : Nat) :
    Of wd (a ++ List.replicate k (0x20 : UInt8)) = Of wd a + k * wd 0x20 := by
  rw [Of_append_ascii, Of_replicate_space]
  intro x hx
  rw [List.head?_replicate] at hx
  split at hx
  · cases hx
  · cases hx; decide

theorem trimIdx_eq_forceIdx (wd : Int → Int) (L : List (Nat × Rune × Nat)) (w m : Int) :
    trimIdx wd L w m = (forceIdx wd L w m).1 := by
  induction L generalizing w with
  | nil => rfl
  | cons x L ih =>
    simp only [trimIdx, forceIdx]
    split
    · rfl
    · exact ih _

theorem forceIdx_cases (wd : Int → Int) (L : List (Nat × Rune × Nat)) (w m : Int) :
    forceIdx wd L w m = (none, w + sumW wd L) ∨
    ∃ pre x post, L = pre ++ x :: post ∧ forceIdx wd L w m = (some x.1, w + sumW wd pre) ∧
      w + sumW wd pre + wd (x.2.1 : Int) > m := by
  induction L generalizing w with
  | nil => exact .inl (by rw [sumW_nil, Int.add_zero]; rfl)
  | cons y L ih =>
    simp only [forceIdx]
    by_cases hgt : w + wd (y.2.1 : Int) > m
    · rw [if_pos hgt]
      exact .inr ⟨[], y, L, rfl, by rw [sumW_nil, Int.add_zero, Int.add_sub_cancel],
        by rw [sumW_nil, Int.add_zero]; exact hgt⟩
    · rw [if_neg hgt]
      rcases ih (w + wd (y.2.1 : Int)) with h | ⟨pre, x, post, rfl, h, hx⟩
      · exact .inl (by rw [h, sumW_cons, Int.add_assoc])
      · exact .inr ⟨y :: pre, x, post, rfl, by rw [h, sumW_cons, Int.add_assoc],
          by rw [sumW_cons, ← Int.add_assoc]; exact hx⟩

theorem forceIdx_le (wd : Int → Int) (L : List (Nat × Rune × Nat)) (w m : Int) (hw : w ≤ m) :
    (forceIdx wd L w m).2 ≤ m := by
  induction L generalizing w with
  | nil => exact hw
  | cons y L ih =>
    simp only [forceIdx]
    split
    · simp only; omega
    · exact ih _ (by omega)

theorem Trim_cases (wd : Int → Int) (s : Bytes) (wmax : Int) (hw : 0 ≤ wmax) :
    (Trim wd s wmax = s ∧ Of wd s ≤ wmax) ∨
    ∃ pre x post, runes s = pre ++ x :: post ∧ Trim wd s wmax = s.take x.1 ∧
      runes (s.take x.1) = pre ∧ sumW wd pre ≤ wmax ∧ sumW wd pre + wd (x.2.1 : Int) > wmax := by
  have hle := forceIdx_le wd (runes s) 0 wmax hw
  unfold Trim
  rw [trimIdx_eq_forceIdx]
  rcases forceIdx_cases wd (runes s) 0 wmax with h | ⟨pre, x, post, hL, h, hx⟩ <;> rw [h] at hle ⊢
  · exact .inl ⟨rfl, by rw [Of_eq_sumW]; omega⟩
  · exact .inr ⟨pre, x, post, hL, rfl, runes_take s pre x post hL, by omega, by omega⟩

theorem Trim_mem {wd : Int → Int} {s : Bytes} {w : Int} {b : UInt8} (h : b ∈ Trim wd s w) : b ∈ s := by
  unfold Trim at h
  split at h
  · exact List.mem_of_mem_take h
  · exact h

theorem Trim_width_le (wd : Int → Int) (s : Bytes) (wmax : Int) (hw : 0 ≤ wmax) :
    Of wd (Trim wd s wmax) ≤ wmax := by
  rcases Trim_cases wd s wmax hw with ⟨h1, h2⟩ | ⟨pre, x, post, -, h1, h2, h3, -⟩
  · rw [h1]; exact h2
  · rw [h1, Of_eq_sumW, h2]; exact h3

theorem Force_eq_Trim (wd : Int → Int) (s : Bytes) (width : Int) :
    Force wd s width =
      match repeatSpace (width - Of wd (Trim wd s width)) with
      | .ok pad => .ok (Trim wd s width ++ pad)
      | .exc e => .exc e
      | .panic p => .panic p := by
  unfold Force Trim
  rw [trimIdx_eq_forceIdx]
  rcases forceIdx_cases wd (runes s) 0 width with e | ⟨pre, x, post, hL, e, -⟩ <;> rw [e]
  · rw [Int.zero_add, ← Of_eq_sumW]
    rfl
  · rw [Int.zero_add, ← runes_take s pre x post hL, ← Of_eq_sumW]
    rfl

theorem Trim_neg (wd : Int → Int) (hwd : ∀ r, 0 ≤ wd r) (s : Bytes) (wmax : Int) (hw : wmax < 0) :
    Trim wd s wmax = [] := by
  unfold Trim
  cases s with
  | nil => rfl
  | cons b t =>
    rw [runes_of_ne_nil (List.cons_ne_nil b t)]
    simp only [trimIdx]
    have := hwd ((decodeRune (b :: t)).1 : Int)
    rw [if_pos (by omega)]
    rfl

end C34
