/-
The `BufferBuilder` invariant "every line fits" at widths of at least two columns, through
`renderView` and `truncateToHeight` of `CodeArea`.
-/
import ElvModel.C34.Buffer
import ElvProofs.C34.Trim
import ElvProofs.Lemmas.Res
namespace C34
open Go C34.Utf8

/-- What the widget theorems need from the rune width function; `OfRune []`
(no overrides) satisfies it (`C34_ofRune_range`). -/
structure WdOK (wd : Int → Int) : Prop where
  nonneg : ∀ r, 0 ≤ wd r
  le2 : ∀ r, wd r ≤ 2
  ascii : ∀ r, 0x20 ≤ r → r < 0x7f → wd r = 1

theorem Of_encodeRune (wd : Int → Int) (r : Nat) (h : validRune r = true) :
    Of wd (encodeRune r) = wd (r : Int) := by
  rw [Of_of_ne_nil wd (encodeRune_ne_nil r), decodeRune_encodeRune r h, List.drop_length, Of_nil,
    Int.add_zero]

theorem Of_space (wd : Int → Int) (ok : WdOK wd) : Of wd [0x20] = 1 := by
  rw [Of_cons_ascii wd _ _ (by decide), Of_nil, Int.add_zero]
  exact ok.ascii 0x20 (by decide) (by decide)

theorem xor40_printable :
    ∀ r < 0x80, r < 0x20 ∨ r = 0x7f → 0x20 ≤ r ^^^ 0x40 ∧ r ^^^ 0x40 < 0x7f := by decide

theorem cellOf_width (wd : Int → Int) (ok : WdOK wd) (r : Nat) (h : validRune r = true) :
    0 ≤ Of wd (cellOf r) ∧ Of wd (cellOf r) ≤ 2 := by
  unfold cellOf
  split
  · rename_i hc
    have hc : r < 0x20 ∨ r = 0x7f := by simpa using hc
    obtain ⟨h1, h2⟩ := xor40_printable r (by omega) hc
    have hb : (UInt8.ofNat (r ^^^ 0x40)).toNat = r ^^^ 0x40 := toNat_ofNat_of_lt (by omega)
    -- `^` and one printable character, one column each
    rw [encodeRune_one (by omega), Of_cons_ascii wd _ _ (by decide),
      Of_cons_ascii wd _ _ (by omega), Of_nil, hb, ok.ascii _ (by decide) (by decide),
      ok.ascii _ (by omega) (by omega)]
    decide
  · rw [Of_encodeRune wd r h]
    exact ⟨ok.nonneg _, ok.le2 _⟩

theorem lineWidth_nil (wd : Int → Int) : lineWidth wd [] = 0 := rfl
theorem lineWidth_cons (wd : Int → Int) (a : Bytes) (t : List Bytes) :
    lineWidth wd (a :: t) = Of wd a + lineWidth wd t := by simp [lineWidth]
theorem lineWidth_append (wd : Int → Int) (a b : List Bytes) :
    lineWidth wd (a ++ b) = lineWidth wd a + lineWidth wd b := by simp [lineWidth]

theorem lineWidth_nonneg (wd : Int → Int) (h : ∀ r, 0 ≤ wd r) (t : List Bytes) :
    0 ≤ lineWidth wd t := by
  induction t with
  | nil => exact Int.le_refl _
  | cons a t ih => rw [lineWidth_cons]; have := Of_nonneg wd h a; omega

theorem BB.appendCell_col {wd : Int → Int} {b : BB} (h : b.col = lineWidth wd b.cur.reverse)
    (c : Bytes) : (b.appendCell wd c).col = lineWidth wd (b.appendCell wd c).cur.reverse := by
  simp only [BB.appendCell, List.reverse_cons, lineWidth_append, h, lineWidth_cons, lineWidth_nil,
    Int.add_zero]

theorem BB.rows_fit {wd : Int → Int} {b : BB} {w : Int} (hcol : b.col = lineWidth wd b.cur.reverse)
    (hcur : b.col ≤ w) (hprev : ∀ l ∈ b.prev, lineWidth wd l ≤ w) :
    ∀ l ∈ b.cur.reverse :: b.prev, lineWidth wd l ≤ w :=
  List.forall_mem_cons.2 ⟨hcol ▸ hcur, hprev⟩

/-- Every line built so far fits in the width; `col` is the width of the last line. -/
structure Inv (wd : Int → Int) (b : BB) : Prop where
  wpos : 2 ≤ b.width
  ind : b.indent + 2 ≤ b.width
  col : b.col = lineWidth wd b.cur.reverse
  curfit : b.col ≤ b.width
  colnn : 0 ≤ b.col
  prevfit : ∀ l ∈ b.prev, lineWidth wd l ≤ b.width
  dotlo : 0 ≤ b.dot.1
  dothi : b.dot.1 ≤ b.prev.length

/-- `Inv` for a builder whose width is `W`: what writing to the builder preserves. -/
structure InvAt (wd : Int → Int) (W : Int) (b : BB) : Prop where
  inv : Inv wd b
  width : b.width = W

theorem InvAt.new (wd : Int → Int) (W : Int) (hW : 2 ≤ W) : ROk (newBB W) (InvAt wd W) := by
  rw [newBB, if_neg (by omega)]
  refine .pure ⟨⟨hW, ?_, rfl, ?_, Int.le_refl _, fun _ hl => absurd hl List.not_mem_nil, Int.le_refl _,
    Int.le_refl _⟩, rfl⟩ <;> simp only <;> omega

theorem InvAt.appendCell {wd : Int → Int} {W : Int} {b : BB} (h : InvAt wd W b) (c : Bytes)
    (hc0 : 0 ≤ Of wd c) (hfit : b.col + Of wd c ≤ W) : InvAt wd W (b.appendCell wd c) := by
  obtain ⟨h, rfl⟩ := h
  refine ⟨⟨h.wpos, h.ind, BB.appendCell_col h.col c, hfit, ?_, h.prevfit, h.dotlo, h.dothi⟩, rfl⟩
  simp only [BB.appendCell]; have := h.colnn; omega

theorem InvAt.appendSpaces {wd : Int → Int} (ok : WdOK wd) {W : Int} {b : BB} (h : InvAt wd W b)
    (n : Nat) (hfit : b.col + n ≤ W) :
    InvAt wd W (b.appendSpaces wd n) ∧ (b.appendSpaces wd n).col = b.col + n := by
  induction n generalizing b with
  | zero => exact ⟨h, (Int.add_zero _).symm⟩
  | succ n ih =>
    have hs := Of_space wd ok
    have hc : (b.appendCell wd [0x20]).col = b.col + 1 := by simp only [BB.appendCell, hs]
    obtain ⟨i1, i2⟩ := ih (h.appendCell [0x20] (by omega) (by omega)) (by omega)
    exact ⟨i1, by rw [BB.appendSpaces, i2, hc]; omega⟩

theorem BB.appendSpaces_flags (wd : Int → Int) (b : BB) (n : Nat) :
    (b.appendSpaces wd n).indent = b.indent ∧ (b.appendSpaces wd n).eager = b.eager := by
  induction n generalizing b with
  | zero => exact ⟨rfl, rfl⟩
  | succ n ih => exact ih (b.appendCell wd [0x20])

theorem InvAt.appendLine {wd : Int → Int} {W : Int} {b : BB} (h : InvAt wd W b) :
    InvAt wd W b.appendLine := by
  obtain ⟨h, rfl⟩ := h
  refine ⟨⟨h.wpos, h.ind, rfl, ?_, Int.le_refl _, BB.rows_fit h.col h.curfit h.prevfit, h.dotlo, ?_⟩,
    rfl⟩
  · have := h.wpos; simp only [BB.appendLine]; omega
  · have := h.dothi; simp only [BB.appendLine, List.length_cons]; omega

/-- After `Newline` there is room for a two-column cell. -/
theorem InvAt.newline {wd : Int → Int} (ok : WdOK wd) {W : Int} {b : BB} (h : InvAt wd W b) :
    InvAt wd W (b.newline wd) ∧ (b.newline wd).col + 2 ≤ W := by
  have hl := h.appendLine
  have hind : b.indent + 2 ≤ W := h.width ▸ h.inv.ind
  have hW : 2 ≤ W := h.width ▸ h.inv.wpos
  unfold BB.newline
  dsimp only
  split
  · rename_i hi
    have hn : ((b.appendLine.indent.toNat : Nat) : Int) = b.indent := Int.toNat_of_nonneg (by omega)
    obtain ⟨i1, i2⟩ := hl.appendSpaces ok b.appendLine.indent.toNat (by rw [hn]; simp only [BB.appendLine]; omega)
    exact ⟨i1, by rw [i2, hn]; simp only [BB.appendLine]; omega⟩
  · exact ⟨hl, by simp only [BB.appendLine]; omega⟩

theorem Inv.newline {wd : Int → Int} (ok : WdOK wd) {b : BB} (h : Inv wd b) :
    Inv wd (b.newline wd) ∧ (b.newline wd).col + 2 ≤ (b.newline wd).width ∧
      (b.newline wd).width = b.width ∧ (b.newline wd).indent = b.indent ∧
      (b.newline wd).eager = b.eager := by
  obtain ⟨⟨i, w⟩, hc⟩ := InvAt.newline ok ⟨h, rfl⟩
  refine ⟨i, w ▸ hc, w, ?_⟩
  unfold BB.newline
  dsimp only
  split
  · exact BB.appendSpaces_flags wd b.appendLine _
  · exact ⟨rfl, rfl⟩

theorem InvAt.writeRune {wd : Int → Int} (ok : WdOK wd) {W : Int} {b : BB} (h : InvAt wd W b)
    (r : Nat) (hr : validRune r = true) : InvAt wd W (b.writeRune wd r) := by
  obtain ⟨c0, c2⟩ := cellOf_width wd ok r hr
  obtain ⟨hn, hroom⟩ := h.newline ok
  unfold BB.writeRune
  split
  · exact hn
  · dsimp only
    split
    · exact hn.appendCell _ c0 (by omega)
    · rename_i hw
      have h1 := h.appendCell (cellOf r) c0 (by rw [← h.width]; omega)
      split
      · exact (h1.newline ok).1
      · exact h1

theorem InvAt.writeString {wd : Int → Int} (ok : WdOK wd) {W : Int} {b : BB} (h : InvAt wd W b)
    (s : Bytes) : InvAt wd W (b.writeString wd s) :=
  List.foldlRecOn (toRunes s) (BB.writeRune wd) h fun _ hb r hr =>
    hb.writeRune ok r (toRunes_validRune s r hr)

theorem InvAt.writeSegs {wd : Int → Int} (ok : WdOK wd) {W : Int} {b : BB} (h : InvAt wd W b)
    (segs : List Bytes) : InvAt wd W (b.writeSegs wd segs) :=
  List.foldlRecOn segs (BB.writeString wd) h fun _ hb s _ => hb.writeString ok s

theorem InvAt.setFlags {wd : Int → Int} {W : Int} {b : BB} (h : InvAt wd W b) (e : Bool) (k : Int)
    (hk : k + 2 ≤ W) : InvAt wd W { b with eager := e, indent := k } :=
  ⟨⟨h.inv.wpos, h.width ▸ hk, h.inv.col, h.inv.curfit, h.inv.colnn, h.inv.prevfit, h.inv.dotlo,
    h.inv.dothi⟩, h.width⟩

theorem Inv.lines_fit {wd : Int → Int} {b : BB} (h : Inv wd b) :
    ∀ l ∈ b.lines, lineWidth wd l ≤ b.width :=
  fun l hl => BB.rows_fit h.col h.curfit h.prevfit l (List.mem_reverse.1 hl)

theorem BB.buffer_lines_length (b : BB) : b.buffer.lines.length = b.prev.length + 1 := by
  simp [BB.buffer, BB.lines]

theorem rvPrompt_inv {wd : Int → Int} (ok : WdOK wd) (prompt : List Bytes) {W : Int} {b : BB}
    (h : InvAt wd W b) : InvAt wd W (rvPrompt wd prompt b) := by
  have h1 := (h.setFlags true b.indent (h.width ▸ h.inv.ind)).writeSegs ok prompt
  unfold rvPrompt
  dsimp only
  split
  · rename_i hc
    simp only [Bool.and_eq_true, decide_eq_true_eq] at hc
    have := h1.inv.wpos
    exact h1.setFlags _ _ (by rw [← h1.width]; omega)
  · exact h1

theorem rvCode_inv {wd : Int → Int} (ok : WdOK wd) (before after : List Bytes) {W : Int} {b : BB}
    (h : InvAt wd W b) : InvAt wd W (rvCode wd before after b) := by
  have h1 := h.writeSegs ok before
  have h2 : InvAt wd W (b.writeSegs wd before).setDotHere :=
    ⟨⟨h1.inv.wpos, h1.inv.ind, h1.inv.col, h1.inv.curfit, h1.inv.colnn, h1.inv.prevfit,
      Int.natCast_nonneg _, Int.le_refl _⟩, h1.width⟩
  exact h2.writeSegs ok after

theorem rvRPrompt_inv {wd : Int → Int} (ok : WdOK wd) (rprompt : List Bytes) {W : Int} {b : BB}
    (h : InvAt wd W b) : ROk (rvRPrompt wd rprompt b) (InvAt wd W) := by
  have h1 := h.setFlags false 0 (by have := h.inv.wpos; rw [← h.width]; omega)
  unfold rvRPrompt
  refine .ite (fun _ => .ite (fun hp => ?_) fun _ => .pure h1) fun _ => .pure h1
  rw [repeatSpace, if_neg (by omega)]
  exact .pure ((h1.writeString ok _).writeSegs ok rprompt)

theorem rvTips_inv {wd : Int → Int} (ok : WdOK wd) (tips : List (List Bytes)) {W : Int} {b : BB}
    (h : InvAt wd W b) : InvAt wd W (rvTips wd tips b) :=
  List.foldlRecOn tips _ h fun _ hb tip _ => (hb.newline ok).1.writeSegs ok tip

theorem renderView_inv {wd : Int → Int} (ok : WdOK wd) (prompt before after rprompt : List Bytes)
    (tips : List (List Bytes)) {W : Int} {b : BB} (h : InvAt wd W b) :
    ROk (renderView wd prompt before after rprompt tips b) (InvAt wd W) := by
  obtain ⟨b3, h3, i3⟩ := rvRPrompt_inv ok rprompt (rvCode_inv ok before after (rvPrompt_inv ok prompt h))
  unfold renderView
  rw [h3]
  exact .pure (rvTips_inv ok tips i3)

theorem trimToLines_ok (b : Buf) (low high : Int) (h0 : 0 ≤ low) (hlow : low ≤ b.lines.length)
    (hh : low ≤ high) :
    ROk (b.trimToLines low high) fun b' => (b'.lines.length : Int) ≤ high - low ∧
      ∀ l ∈ b'.lines, l ∈ b.lines := by
  unfold Buf.trimToLines
  rw [if_neg (by omega)]
  generalize hH : (if high > (b.lines.length : Int) then (b.lines.length : Int) else high) = high'
  have : low ≤ high' ∧ high' ≤ b.lines.length ∧ high' ≤ high := by rw [← hH]; split <;> omega
  exact .bind (.slice ⟨h0, this.1, this.2.1⟩) fun r ⟨hlen, hsub⟩ =>
    .pure ⟨by show (r.length : Int) ≤ _; omega, hsub⟩

theorem truncateToHeight_ok (b : Buf) (H : Int) (hH : 0 ≤ H)
    (hd : b.dot.1 < b.lines.length) :
    ROk (truncateToHeight b H) fun b' => (b'.lines.length : Int) ≤ H ∧ ∀ l ∈ b'.lines, l ∈ b.lines := by
  unfold truncateToHeight
  refine .ite (fun h => .pure ⟨h, fun _ hl => hl⟩) fun _ => .ite (fun _ => ?_) fun _ => ?_
  · exact (trimToLines_ok b 0 H (Int.le_refl _) (by omega) hH).mono fun b' h => ⟨by omega, h.2⟩
  · exact (trimToLines_ok b (b.dot.1 - H + 1) (b.dot.1 + 1) (by omega) (by omega) (by omega)).mono
      fun b' h => ⟨by omega, h.2⟩

end C34
