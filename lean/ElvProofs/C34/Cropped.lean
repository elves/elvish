/-
`croppedLines.Render` on control-free rows.
-/
import ElvProofs.C34.TextView
namespace C34
open Go C34.Utf8

theorem Of_spaces (wd : Int → Int) (ok : WdOK wd) (k : Nat) : Of wd (List.replicate k 0x20) = k := by
  rw [Of_replicate_space, ok.ascii 0x20 (by decide) (by decide), Int.mul_one]

theorem repeatSpace_ok (n : Int) (h : 0 ≤ n) : repeatSpace n = .ok (List.replicate n.toNat 0x20) := by
  unfold repeatSpace; rw [if_neg (by omega)]

/-- The `if` is the row `croppedLines.Render` writes for a line: left padding, the line trimmed and,
when `c` holds, the right padding, trimmed again. -/
theorem croppedRow_ok (wd : Int → Int) (ok : WdOK wd) (p w : Int) (hw : 0 ≤ w) (hp0 : 0 ≤ p)
    (leftSp rightSp : Bytes) (hl : NoCtl leftSp) (hr : NoCtl rightSp) (hlw : Of wd leftSp = p)
    (hpw : p ≤ w) (line : List Bytes) (hline : ∀ s ∈ line, NoCtl s) (c : Bool) :
    (∀ s ∈ (if c = true then trimSegs wd (leftSp :: trimSegs wd line (w - 2 * p) ++ [rightSp]) w
        else leftSp :: trimSegs wd line (w - 2 * p)), NoCtl s) ∧
      lineWidth wd (if c = true then trimSegs wd (leftSp :: trimSegs wd line (w - 2 * p) ++ [rightSp]) w
        else leftSp :: trimSegs wd line (w - 2 * p)) ≤ w := by
  have hn : ∀ s ∈ leftSp :: trimSegs wd line (w - 2 * p), NoCtl s :=
    List.forall_mem_cons.2 ⟨hl, trimSegs_noctl wd line _ hline⟩
  split
  · refine ⟨trimSegs_noctl wd _ w fun s hs => ?_, (trimSegs_width wd ok.nonneg _ w).2.1 hw⟩
    rcases List.mem_append.1 hs with hs | hs
    · exact hn s hs
    · rw [List.mem_singleton.1 hs]; exact hr
  · refine ⟨hn, ?_⟩
    rw [lineWidth_cons, hlw]
    have := trimSegs_width wd ok.nonneg line (w - 2 * p)
    by_cases h2 : 0 ≤ w - 2 * p
    · have := this.2.1 h2; omega
    · have := this.2.2 (by omega); omega

theorem cropped_go (wd : Int → Int) (ok : WdOK wd) (p sf st : Int) (ext : Bool) (w : Int) (hw : 0 ≤ w)
    (hp0 : 0 ≤ p) (hpw : p ≤ w) (leftSp rightSp : Bytes) (hl : NoCtl leftSp) (hr : NoCtl rightSp)
    (hlw : Of wd leftSp = p) (lines : List (List Bytes)) :
    ∀ (bb : BB) (i : Nat), 0 < i → (∀ row ∈ lines, ∀ s ∈ row, NoCtl s) → Rows wd w bb →
    Rows wd w (croppedLinesRender.go wd p sf st ext w leftSp rightSp bb i lines) ∧
      (croppedLinesRender.go wd p sf st ext w leftSp rightSp bb i lines).prev.length =
        bb.prev.length + lines.length := by
  induction lines with
  | nil => intro bb i _ _ h; exact ⟨h, rfl⟩
  | cons line rest ih =>
    intro bb i hi hc h
    obtain ⟨hline, hrest⟩ := List.forall_mem_cons.1 hc
    simp only [croppedLinesRender.go]
    obtain ⟨haccn, haccw⟩ := croppedRow_ok wd ok p w hw hp0 leftSp rightSp hl hr hlw hpw line hline
      (ext && !line.isEmpty || decide (sf ≤ (i : Int)) && decide ((i : Int) < st))
    obtain ⟨n1, n2, n3⟩ := h.newline
    obtain ⟨w1, w2, -⟩ := n1.writeSegs ok.nonneg _ haccn (by rw [n3]; omega)
    obtain ⟨r1, r2⟩ := ih _ (i + 1) (by omega) hrest w1
    rw [if_pos hi]
    exact ⟨r1, by rw [r2, w2, n2, List.length_cons]; omega⟩

/-- `lines.length - 1 + 1`: no rows still give one empty line. -/
theorem croppedLinesRender_ok (wd : Int → Int) (ok : WdOK wd) (lines : List (List Bytes)) (p sf st : Int)
    (ext : Bool) (w : Int) (hw : 0 ≤ w) (hp0 : 0 ≤ p) (hpw : p ≤ w)
    (hc : ∀ row ∈ lines, ∀ s ∈ row, NoCtl s) :
    ROk (croppedLinesRender wd lines p sf st ext w) fun buf => buf.width = w ∧
      buf.lines.length = lines.length - 1 + 1 ∧ ∀ l ∈ buf.lines, lineWidth wd l ≤ w := by
  have hl := NoCtl.spaces p.toNat
  have hrt := NoCtl.spaces (w - p).toNat
  have hlw : Of wd (List.replicate p.toNat 0x20) = p := by rw [Of_spaces wd ok]; omega
  unfold croppedLinesRender
  refine .bind (Rows.new wd w hw) fun b ⟨hr, hp, hc0⟩ => ?_
  rw [repeatSpace_ok p hp0, repeatSpace_ok (w - p) (by omega)]
  refine .pure ?_
  cases lines with
  | nil => exact ⟨hr.width, by rw [BB.buffer_lines_length, croppedLinesRender.go, hp]; rfl, hr.lines_fit⟩
  | cons line rest =>
    -- the first row is written on the line the builder starts with
    obtain ⟨hline, hrest⟩ := List.forall_mem_cons.1 hc
    simp only [croppedLinesRender.go, Nat.lt_irrefl, if_false]
    obtain ⟨haccn, haccw⟩ := croppedRow_ok wd ok p w hw hp0 _ _ hl hrt hlw hpw line hline
      (ext && !line.isEmpty || decide (sf ≤ ((0 : Nat) : Int)) && decide (((0 : Nat) : Int) < st))
    obtain ⟨w1, w2, -⟩ := hr.writeSegs ok.nonneg _ haccn (by rw [hc0]; omega)
    obtain ⟨r1, r2⟩ := cropped_go wd ok p sf st ext w hw hp0 hpw _ _ hl hrt hlw rest _ (0 + 1)
      (by omega) hrest w1
    exact ⟨r1.width, by rw [BB.buffer_lines_length, r2, w2, hp]; simp, r1.lines_fit⟩

end C34
