/-
Text without C0 control characters / DEL is written to a `BufferBuilder` cell by cell without
`^X` expansion, so a row whose `wcwidth.Of` fits in the remaining columns never wraps.  `Rows` is
the light invariant used for the text area of `TextView`, `croppedLines` and the scrollbars
(their width can be 1 or 0, where `Inv` — width ≥ 2 — does not apply).
-/
import ElvProofs.C34.Buffer
namespace C34
open Go C34.Utf8

/-- No C0 control character (newline included) and no DEL, at byte level.  A byte below 0x80
decodes as itself (also inside invalid UTF-8) and every other rune is ≥ 0x80 (`runes_noctl`), so
this is "no rune `< 0x20` or `= 0x7f`": the complement of the finding class `*-control-char`. -/
def NoCtl (s : Bytes) : Prop := ∀ b ∈ s, 0x20 ≤ b.toNat ∧ b.toNat ≠ 0x7f

/-- As `NoCtl`, but newlines are allowed (items of a vertical list box are multi-line). -/
def NoCtlNL (s : Bytes) : Prop := ∀ b ∈ s, (0x20 ≤ b.toNat ∧ b.toNat ≠ 0x7f) ∨ b.toNat = 10

instance (s : Bytes) : Decidable (NoCtl s) := by unfold NoCtl; exact inferInstance
instance (s : Bytes) : Decidable (NoCtlNL s) := by unfold NoCtlNL; exact inferInstance

theorem NoCtl.nil : NoCtl [] := by intro b hb; simp at hb

theorem NoCtl.spaces (n : Nat) : NoCtl (List.replicate n 0x20) := by
  intro b hb
  rw [List.mem_replicate] at hb
  rw [hb.2]; decide

/-- A rune below 0x80 is the byte it was decoded from. -/
theorem runes_noctl (s : Bytes) (h : NoCtl s) :
    ∀ x ∈ runes s, (0x20 : Nat) ≤ x.2.1 ∧ @Ne Nat x.2.1 0x7f := by
  intro x hx
  obtain ⟨hd, hlt, -, -⟩ := runes_mem hx
  by_cases hr : @LT.lt Nat _ x.2.1 0x80
  · rw [List.drop_eq_getElem_cons hlt] at hd
    have hb := (decodeRune_ascii s[x.1] _ (by rw [hd]; exact hr)).1
    rw [hd] at hb
    have := h _ (List.getElem_mem hlt)
    change @Eq Nat x.2.1 s[x.1].toNat at hb
    omega
  · omega

theorem toRunes_noctl (s : Bytes) (h : NoCtl s) : ∀ r ∈ toRunes s, (0x20 : Nat) ≤ r ∧ @Ne Nat r 0x7f := by
  intro r hr
  unfold toRunes at hr
  obtain ⟨x, hx, rfl⟩ := List.mem_map.1 hr
  exact runes_noctl s h x hx

theorem Of_eq_toRunes (wd : Int → Int) (s : Bytes) : Of wd s = ((toRunes s).map fun (r : Nat) => wd (r : Int)).sum := by
  unfold Of toRunes
  rw [List.map_map]; rfl

theorem sum_wd_nonneg (wd : Int → Int) (h : ∀ r, 0 ≤ wd r) (rs : List Nat) :
    0 ≤ (rs.map fun (r : Nat) => wd (r : Int)).sum := by
  induction rs with
  | nil => simp
  | cons r rs ih => simp only [List.map_cons, List.sum_cons]; have := h (r : Int); omega

theorem segsWidth_eq_lineWidth (wd : Int → Int) (t : List Bytes) : segsWidth wd t = lineWidth wd t := rfl

/-- A builder made by `NewBufferBuilder(w)` (no eager wrap, no indent) all of
whose rows fit in `w` columns. -/
structure Rows (wd : Int → Int) (w : Int) (b : BB) : Prop where
  width : b.width = w
  eager : b.eager = false
  indent : b.indent = 0
  col : b.col = lineWidth wd b.cur.reverse
  colnn : 0 ≤ b.col
  curfit : b.col ≤ w
  prevfit : ∀ l ∈ b.prev, lineWidth wd l ≤ w

theorem Rows.new (wd : Int → Int) (w : Int) (hw : 0 ≤ w) :
    ROk (newBB w) fun b => Rows wd w b ∧ b.prev = [] ∧ b.col = 0 := by
  rw [newBB, if_neg (by omega)]
  exact .pure ⟨⟨rfl, rfl, rfl, rfl, Int.le_refl _, hw, fun _ hl => absurd hl List.not_mem_nil⟩, rfl, rfl⟩

theorem Rows.newline {wd : Int → Int} {w : Int} {b : BB} (h : Rows wd w b) :
    Rows wd w (b.newline wd) ∧ (b.newline wd).prev.length = b.prev.length + 1 ∧ (b.newline wd).col = 0 := by
  have e : b.newline wd = b.appendLine := by
    rw [BB.newline, if_neg (by show ¬ b.indent > 0; rw [h.indent]; omega)]
  rw [e]
  have := h.colnn
  have := h.curfit
  exact ⟨⟨h.width, h.eager, h.indent, rfl, Int.le_refl _, by simp only [BB.appendLine]; omega,
    BB.rows_fit h.col h.curfit h.prevfit⟩, List.length_cons, rfl⟩

theorem writeRune_nowrap (wd : Int → Int) (b : BB) (r : Nat) (hv : validRune r = true)
    (h20 : 0x20 ≤ r) (h7f : r ≠ 0x7f) (he : b.eager = false) (hfit : b.col + wd (r : Int) ≤ b.width) :
    b.writeRune wd r = b.appendCell wd (encodeRune r) ∧ Of wd (encodeRune r) = wd (r : Int) := by
  have hO := Of_encodeRune wd r hv
  refine ⟨?_, hO⟩
  unfold BB.writeRune
  rw [if_neg (show ¬ r = 10 by omega)]
  have hc : cellOf r = encodeRune r := by
    unfold cellOf
    have : (decide (r < 0x20) || r == 0x7f) = false := by simp; omega
    rw [this]; rfl
  simp only [hc]
  rw [if_neg (by rw [hO]; omega)]
  have : (b.appendCell wd (encodeRune r)).eager = false := he
  simp [this]

theorem Rows.appendCell {wd : Int → Int} {w : Int} {b : BB} (h : Rows wd w b) (c : Bytes)
    (hc0 : 0 ≤ Of wd c) (hfit : b.col + Of wd c ≤ w) :
    Rows wd w (b.appendCell wd c) ∧ (b.appendCell wd c).prev = b.prev ∧
      (b.appendCell wd c).col = b.col + Of wd c := by
  refine ⟨⟨h.width, h.eager, h.indent, BB.appendCell_col h.col c, ?_, hfit, h.prevfit⟩, rfl, rfl⟩
  simp only [BB.appendCell]; have := h.colnn; omega

theorem Rows.writeRunes {wd : Int → Int} (nn : ∀ r, 0 ≤ wd r) {w : Int} (rs : List Nat)
    (hrs : ∀ r ∈ rs, validRune r = true ∧ 0x20 ≤ r ∧ r ≠ 0x7f) {b : BB} (h : Rows wd w b)
    (hfit : b.col + (rs.map fun (r : Nat) => wd (r : Int)).sum ≤ w) :
    Rows wd w (rs.foldl (BB.writeRune wd) b) ∧ (rs.foldl (BB.writeRune wd) b).prev = b.prev ∧
      (rs.foldl (BB.writeRune wd) b).col = b.col + (rs.map fun (r : Nat) => wd (r : Int)).sum := by
  induction rs generalizing b with
  | nil => simp; exact h
  | cons r rs ih =>
    simp only [List.foldl_cons, List.map_cons, List.sum_cons] at hfit ⊢
    obtain ⟨hv, h20, h7f⟩ := hrs r List.mem_cons_self
    have hs := sum_wd_nonneg wd nn rs
    have hw := nn (r : Int)
    obtain ⟨e1, e2⟩ := writeRune_nowrap wd b r hv h20 h7f h.eager (by rw [h.width]; omega)
    rw [e1]
    obtain ⟨i1, i2, i3⟩ := h.appendCell (encodeRune r) (by rw [e2]; exact hw) (by rw [e2]; omega)
    obtain ⟨j1, j2, j3⟩ := ih (fun x hx => hrs x (List.mem_cons_of_mem _ hx)) i1 (by rw [i3, e2]; omega)
    exact ⟨j1, by rw [j2, i2], by rw [j3, i3, e2]; omega⟩

theorem Rows.writeString {wd : Int → Int} (nn : ∀ r, 0 ≤ wd r) {w : Int} {b : BB} (h : Rows wd w b)
    (s : Bytes) (hs : NoCtl s) (hfit : b.col + Of wd s ≤ w) :
    Rows wd w (b.writeString wd s) ∧ (b.writeString wd s).prev = b.prev ∧
      (b.writeString wd s).col = b.col + Of wd s := by
  unfold BB.writeString
  rw [Of_eq_toRunes] at hfit ⊢
  exact h.writeRunes nn (toRunes s)
    (fun r hr => ⟨toRunes_validRune s r hr, (toRunes_noctl s hs r hr).1, (toRunes_noctl s hs r hr).2⟩) hfit

theorem Rows.writeSegs {wd : Int → Int} (nn : ∀ r, 0 ≤ wd r) {w : Int} {b : BB} (h : Rows wd w b)
    (segs : List Bytes) (hs : ∀ s ∈ segs, NoCtl s) (hfit : b.col + lineWidth wd segs ≤ w) :
    Rows wd w (b.writeSegs wd segs) ∧ (b.writeSegs wd segs).prev = b.prev ∧
      (b.writeSegs wd segs).col = b.col + lineWidth wd segs := by
  unfold BB.writeSegs
  induction segs generalizing b with
  | nil => simp [lineWidth]; exact h
  | cons s segs ih =>
    simp only [List.foldl_cons]
    rw [lineWidth_cons] at hfit ⊢
    have h0 := lineWidth_nonneg wd nn segs
    obtain ⟨i1, i2, i3⟩ := h.writeString nn s (hs s List.mem_cons_self) (by omega)
    obtain ⟨j1, j2, j3⟩ := ih i1 (fun x hx => hs x (List.mem_cons_of_mem _ hx)) (by rw [i3]; omega)
    exact ⟨j1, by rw [j2, i2], by rw [j3, i3]; omega⟩

theorem Rows.lines_fit {wd : Int → Int} {w : Int} {b : BB} (h : Rows wd w b) :
    ∀ l ∈ b.buffer.lines, lineWidth wd l ≤ w :=
  fun l hl => BB.rows_fit h.col h.curfit h.prevfit l (List.mem_reverse.1 hl)

theorem Trim_noctl (wd : Int → Int) (s : Bytes) (w : Int) (h : NoCtl s) : NoCtl (Trim wd s w) :=
  fun b hb => h b (Trim_mem hb)

theorem Trim_width (wd : Int → Int) (nn : ∀ r, 0 ≤ wd r) (s : Bytes) (w : Int) :
    0 ≤ Of wd (Trim wd s w) ∧ (0 ≤ w → Of wd (Trim wd s w) ≤ w) ∧ (w < 0 → Of wd (Trim wd s w) = 0) :=
  ⟨Of_nonneg wd nn _, Trim_width_le wd s w, fun hw => by rw [Trim_neg wd nn s w hw]; rfl⟩

theorem trimSegs_noctl (wd : Int → Int) (t : List Bytes) (w : Int) (h : ∀ s ∈ t, NoCtl s) :
    ∀ s ∈ trimSegs wd t w, NoCtl s := by
  induction t generalizing w with
  | nil => intro s hs; simp [trimSegs] at hs
  | cons a t ih =>
    intro s hs
    simp only [trimSegs] at hs
    split at hs
    · simp only [List.mem_singleton] at hs
      rw [hs]; exact Trim_noctl wd a w (h a List.mem_cons_self)
    · rcases List.mem_cons.1 hs with rfl | hs
      · exact h _ List.mem_cons_self
      · exact ih _ (fun x hx => h x (List.mem_cons_of_mem _ hx)) s hs

theorem trimSegs_width (wd : Int → Int) (nn : ∀ r, 0 ≤ wd r) (t : List Bytes) (w : Int) :
    0 ≤ lineWidth wd (trimSegs wd t w) ∧ (0 ≤ w → lineWidth wd (trimSegs wd t w) ≤ w) ∧
      (w < 0 → lineWidth wd (trimSegs wd t w) = 0) := by
  refine ⟨lineWidth_nonneg wd nn _, ?_, ?_⟩
  · induction t generalizing w with
    | nil => intro hw; simp [trimSegs, lineWidth]; exact hw
    | cons a t ih =>
      intro hw
      simp only [trimSegs]
      split
      · rw [lineWidth_cons, lineWidth_nil]
        have := (Trim_width wd nn a w).2.1 hw; omega
      · rename_i hle
        rw [lineWidth_cons]
        have := ih (w - Of wd a) (by omega); omega
  · intro hw
    cases t with
    | nil => simp [trimSegs, lineWidth]
    | cons a t =>
      simp only [trimSegs]
      have := Of_nonneg wd nn a
      rw [if_pos (by omega)]
      rw [lineWidth_cons, lineWidth_nil, (Trim_width wd nn a w).2.2 hw]; rfl

end C34
