/-
C13 — Indexing and slicing follow the language reference exactly.
Spec: ElvModel/C13/Spec.lean (`Ref.RefIndex`, written from the reference);
model: ElvModel/C13/Model.lean (+ generated `Gen.C13Index.adjustAndCheckIndex`).

`n < 2^62` (as a hypothesis on a length) stands for "n is the length of a Go
value": it keeps `n + 1`, `-n` and `i + n` inside int64, where the model's
unbounded `Int` arithmetic coincides with Go's.
-/
import ElvModel.C13.Model
import ElvProofs.C13.Convert
import ElvProofs.C13.Lists
import ElvProofs.C13.StringIndex
open Go C13 C13.Ref

/-- Full statement for index conversion: for every length, every raw index
value (typed int, any byte string, any other type) the code's
`ConvertListIndex` yields exactly the selection the reference prescribes, and an
exception (never a panic) for everything the reference rules out. -/
def C13_full_convert : Prop :=
  ∀ (n : Nat) (raw : Raw) (r : Option Sel), (n : Int) < 4611686018427387904 →
    RefIndex n raw r → Agrees (convertListIndex raw n) r

theorem C13_convert_refines_reference : C13_full_convert := by
  intro n raw r hn href
  cases raw with
  | int i => simp only [RefIndex] at href; subst href; exact convert_int n i
  | other =>
    simp only [RefIndex] at href; subst href
    exact ⟨_, rfl⟩
  | str s =>
    rcases href with ⟨idx, hp, rfl⟩ | ⟨hno, rfl⟩
    · cases hp with
      | elem hi => exact convert_elem hi n hn
      | excl hlo hhi => exact convert_slice false hlo hhi n hn
      | incl hlo hhi => exact convert_slice true hlo hhi n hn
    · cases h : convertListIndex (.str s) (n : Int) with
      | ok ix => exact absurd (parses_of_convert_ok h) hno
      | exc e => exact ⟨e, rfl⟩
      | panic w => exact absurd h (convert_no_panic _ _ w)

-- non-vacuity: `1..=2` on a list of 4 selects [1, 3); `..=-1` reaches the end; `5` is ruled out
example : RefIndex 4 (.str [49, 46, 46, 61, 50]) (some (.range 1 3)) :=
  .inl ⟨.slice (some 1) (some 2) true,
    .incl (lo := [49]) (hi := [50]) (.given (.plain [49] (by simp) (by decide))) (.given (.plain [50] (by simp) (by decide))),
    by decide⟩
example : RefIndex 4 (.str [46, 46, 61, 45, 49]) (some (.range 0 4)) :=
  .inl ⟨.slice none (some (-1)) true,
    .incl (lo := []) (hi := [45, 49]) .omitted (.given (.minus [49] (by simp) (by decide))),
    by decide⟩
example : RefIndex 4 (.int 5) none := by show none = select 4 (.elem 5); decide
set_option maxRecDepth 8192 in
example : convertListIndex (.str [49, 46, 46, 61, 50]) 4 = .ok ⟨true, 1, 3⟩ := by decide +kernel

/-- The reference's reading of a string index is unambiguous (for a sequence of any length:
`refIndex_functional`). -/
theorem C13_reference_functional (n : Nat) (raw : Raw) (r1 r2 : Option Sel)
    (hn : (n : Int) < 4611686018427387904) (h1 : RefIndex n raw r1) (h2 : RefIndex n raw r2) : r1 = r2 :=
  refIndex_functional n raw r1 r2 h1 h2

/-- Range lemma: whatever `ConvertListIndex` returns lies in `[0, n]`, ordered, so
`SubVector` / `s[i:j]` are always called in bounds (any `n ≥ 0`, any raw value). -/
theorem C13_bounds_in_range (raw : Raw) (n : Int) (ix : ListIndex) (hn : 0 ≤ n)
    (h : convertListIndex raw n = .ok ix) :
    0 ≤ ix.lower ∧ (ix.slice = true → ix.lower ≤ ix.upper ∧ ix.upper ≤ n) ∧
      (ix.slice = false → ix.lower < n) :=
  convert_bounds hn h

set_option maxRecDepth 8192 in
example : convertListIndex (.str [45, 49]) 3 = .ok ⟨false, 2, 0⟩ := by decide +kernel

/-- Panic-freedom of the conversion, for every raw value and every `n`. -/
theorem C13_convert_no_panic (raw : Raw) (n : Int) (w : String) : convertListIndex raw n ≠ .panic w :=
  convert_no_panic raw n w

/-- Indexing a list returns exactly the element / sub-list the reference
specifies and raises an exception for every index it rules out. -/
theorem C13_list_index {α} (l : List α) (raw : Raw) (r : Option Sel)
    (hlen : (l.length : Int) < 4611686018427387904) (href : RefIndex l.length raw r) :
    match r with
    | some (.elem k) => ∃ v, l[k]? = some v ∧ indexList l raw = .ok (.elem v)
    | some (.range lo hi) => indexList l raw = .ok (.list ((l.drop lo).take (hi - lo)))
    | none => ∃ e, indexList l raw = .exc e := by
  have ha := C13_convert_refines_reference l.length raw r hlen href
  rcases r with _ | ⟨k | ⟨lo, hi⟩⟩
  · obtain ⟨e, he⟩ := ha
    exact ⟨e, by simp [indexList, he, bind, Res.bind]⟩
  · obtain ⟨u, hu⟩ := ha
    have hk : k < l.length := refIndex_within href
    refine ⟨l[k], by simp [hk], ?_⟩
    simp [indexList, hu, bind, Res.bind, pure, vecIndex_nat l k hk]
  · have hu : _ = Res.ok _ := ha
    obtain ⟨h1, h2⟩ := refIndex_within href
    simp [indexList, hu, bind, Res.bind, pure, vecSubVector_nat l lo hi h1 h2]

set_option maxRecDepth 8192 in
example : indexList [10, 11, 12, 13] (.str [49, 46, 46, 61, 50]) = .ok (.list [11, 12]) := by decide +kernel
set_option maxRecDepth 8192 in
example : indexList [10, 11, 12, 13] (.int (-1)) = .ok (.elem 13) := by decide +kernel

/-- `assoc` / `set $x[i] = v` on a list: changes exactly the addressed element
(same length, position `k` holds `v`, every other position is unchanged); a
slice or a ruled-out index is an exception. -/
theorem C13_list_assoc {α} (l : List α) (raw : Raw) (v : α) (r : Option Sel)
    (hlen : (l.length : Int) < 4611686018427387904) (href : RefIndex l.length raw r) :
    match r with
    | some (.elem k) =>
      ∃ l', assocList l raw v = .ok (some l') ∧ l'.length = l.length ∧ l'[k]? = some v ∧
        ∀ j, j ≠ k → l'[j]? = l[j]?
    | _ => ∃ e, assocList l raw v = .exc e := by
  have ha := C13_convert_refines_reference l.length raw r hlen href
  rcases r with _ | ⟨k | ⟨lo, hi⟩⟩
  · obtain ⟨e, he⟩ := ha
    exact ⟨e, by simp [assocList, he, bind, Res.bind]⟩
  · obtain ⟨u, hu⟩ := ha
    have hk : k < l.length := refIndex_within href
    refine ⟨l.set k v, ?_, by simp, by simp [hk], ?_⟩
    · simp [assocList, hu, bind, Res.bind, pure, vecAssoc_nat l k v hk]
    · intro j hj
      simp [Ne.symm hj]
  · have hu : _ = Res.ok _ := ha
    refine ⟨Err.assocWithSlice.render, ?_⟩
    simp only [assocList, hu, bind, Res.bind, C13.throw, if_true]

set_option maxRecDepth 8192 in
example : assocList [10, 11, 12] (.int (-1)) 99 = .ok (some [10, 11, 99]) := by decide +kernel
set_option maxRecDepth 8192 in
example : assocList [10, 11, 12] (.str [46, 46]) 99 = .exc Err.assocWithSlice.render := by decide +kernel

/-! A valid UTF-8 string is `encodeRunes cs` for a list `cs` of Unicode scalar
values (`ValidRunes cs`); `Boundary cs i` / `StartsAt cs i k` are the code
point boundaries of that string (Spec.lean).  The model is index_string.go
with fixes/C13-fffd-boundary.patch applied; U+FFFD needs no special case in
any statement below. -/

/-- Shared core: what `convertStringIndex` returns for each selection of the reference. -/
theorem C13_string_convert (cs : List Rune) (hv : ValidRunes cs) (raw : Raw) (r : Option Sel)
    (hlen : ((encodeRunes cs).length : Int) < 4611686018427387904)
    (href : RefIndex (encodeRunes cs).length raw r) :
    match r with
    | some (.elem i) =>
      (∀ k c, StartsAt cs i k → cs[k]? = some c →
        convertStringIndex raw (encodeRunes cs) = .ok ((i : Int), ((i + (encodeRune c).length : Nat) : Int))) ∧
      (¬ Boundary cs i → ∃ e, convertStringIndex raw (encodeRunes cs) = .exc e)
    | some (.range lo hi) =>
      (Boundary cs lo ∧ Boundary cs hi →
        convertStringIndex raw (encodeRunes cs) = .ok ((lo : Int), (hi : Int))) ∧
      (¬ (Boundary cs lo ∧ Boundary cs hi) → ∃ e, convertStringIndex raw (encodeRunes cs) = .exc e)
    | none => ∃ e, convertStringIndex raw (encodeRunes cs) = .exc e := by
  have ha := C13_convert_refines_reference _ raw r hlen href
  rcases r with _ | ⟨i | ⟨lo, hi⟩⟩
  · obtain ⟨e, he⟩ := ha
    exact ⟨e, by simp [convertStringIndex, he, bind, Res.bind]⟩
  · obtain ⟨u, hu⟩ := ha
    have hi : i < (encodeRunes cs).length := refIndex_within href
    constructor
    · intro k c hs hk
      rw [convertString_elem_start hv hu hs hk, Int.natCast_add]
    · intro hnb
      exact ⟨_, convertString_elem_bad hv hu hi hnb⟩
  · have hu : _ = Res.ok _ := ha
    obtain ⟨h1, h2⟩ := refIndex_within href
    exact ⟨fun hb => convertString_slice_ok hv hu h1 h2 hb.1 hb.2,
      fun hb => ⟨_, convertString_slice_bad hv hu h1 h2 hb⟩⟩

/-- Indexing a valid UTF-8 string: an element index must be where a code point
starts and yields exactly that code point; a slice must begin and end at code
point boundaries and yields exactly that byte range; everything else — off a
boundary, or ruled out by the reference — is an exception. -/
theorem C13_string_index (cs : List Rune) (hv : ValidRunes cs) (raw : Raw) (r : Option Sel)
    (hlen : ((encodeRunes cs).length : Int) < 4611686018427387904)
    (href : RefIndex (encodeRunes cs).length raw r) :
    match r with
    | some (.elem i) =>
      (∀ k c, StartsAt cs i k → cs[k]? = some c →
        indexString (encodeRunes cs) raw = .ok (encodeRune c)) ∧
      (¬ Boundary cs i → ∃ e, indexString (encodeRunes cs) raw = .exc e)
    | some (.range lo hi) =>
      (Boundary cs lo ∧ Boundary cs hi →
        indexString (encodeRunes cs) raw = .ok (((encodeRunes cs).drop lo).take (hi - lo))) ∧
      (¬ (Boundary cs lo ∧ Boundary cs hi) → ∃ e, indexString (encodeRunes cs) raw = .exc e)
    | none => ∃ e, indexString (encodeRunes cs) raw = .exc e := by
  have hcv := C13_string_convert cs hv raw r hlen href
  rcases r with _ | ⟨i | ⟨lo, hi⟩⟩
  · obtain ⟨e, he⟩ := hcv
    exact ⟨e, indexString_of_convert_exc he⟩
  · obtain ⟨h1, h2⟩ := hcv
    constructor
    · intro k c hs hk
      rw [indexString_of_convert (h1 k c hs hk) (by omega) (startsAt_end_le hs hk), drop_at_start hs hk]
      simp
    · intro hnb
      obtain ⟨e, he⟩ := h2 hnb
      exact ⟨e, indexString_of_convert_exc he⟩
  · obtain ⟨h1, h2⟩ := hcv
    obtain ⟨hle, hhi⟩ := refIndex_within href
    constructor
    · intro hb
      exact indexString_of_convert (h1 hb) hle hhi
    · intro hb
      obtain ⟨e, he⟩ := h2 hb
      exact ⟨e, indexString_of_convert_exc he⟩

-- non-vacuity: "a�b" (U+FFFD in the middle, bytes 61 ef bf bd 62): index 1 is the start of
-- code point 1 and yields U+FFFD; index 2 is inside it; `1..4` is that code point as a slice.
example : ValidRunes [97, 0xFFFD, 98] := by intro c hc; simp at hc; rcases hc with rfl | rfl | rfl <;> decide
example : StartsAt [97, 0xFFFD, 98] 1 1 := ⟨by decide, by decide⟩
set_option maxRecDepth 8192 in
example : indexString (encodeRunes [97, 0xFFFD, 98]) (.int 1) = .ok [0xEF, 0xBF, 0xBD] := by decide +kernel
set_option maxRecDepth 8192 in
example : indexString (encodeRunes [97, 0xFFFD, 98]) (.str [49, 46, 46, 52]) = .ok [0xEF, 0xBF, 0xBD] := by decide +kernel
set_option maxRecDepth 8192 in
example : indexString (encodeRunes [97, 0xFFFD, 98]) (.int 2) = .exc Err.notAtRuneBoundary.render := by decide +kernel

/-- `assoc` / `set $s[i] = v` on a valid UTF-8 string replaces exactly the
addressed code point (or the addressed byte range, for a slice on
boundaries) by the replacement string and leaves every other byte in place;
a replacement that is not a string, an index off a boundary or a ruled-out
index is an exception. -/
theorem C13_string_assoc (cs : List Rune) (hv : ValidRunes cs) (raw : Raw) (r : Option Sel)
    (repl : Bytes) (hlen : ((encodeRunes cs).length : Int) < 4611686018427387904)
    (href : RefIndex (encodeRunes cs).length raw r) :
    (∃ e, assocString (encodeRunes cs) raw none = .exc e) ∧
    match r with
    | some (.elem i) =>
      (∀ k c, StartsAt cs i k → cs[k]? = some c →
        assocString (encodeRunes cs) raw (some repl) =
          .ok ((encodeRunes cs).take i ++ repl ++ (encodeRunes cs).drop (i + (encodeRune c).length))) ∧
      (¬ Boundary cs i → ∃ e, assocString (encodeRunes cs) raw (some repl) = .exc e)
    | some (.range lo hi) =>
      (Boundary cs lo ∧ Boundary cs hi →
        assocString (encodeRunes cs) raw (some repl) =
          .ok ((encodeRunes cs).take lo ++ repl ++ (encodeRunes cs).drop hi)) ∧
      (¬ (Boundary cs lo ∧ Boundary cs hi) → ∃ e, assocString (encodeRunes cs) raw (some repl) = .exc e)
    | none => ∃ e, assocString (encodeRunes cs) raw (some repl) = .exc e := by
  refine ⟨assocString_nonstring _ _, ?_⟩
  have hcv := C13_string_convert cs hv raw r hlen href
  rcases r with _ | ⟨i | ⟨lo, hi⟩⟩
  · obtain ⟨e, he⟩ := hcv
    exact ⟨e, assocString_of_convert_exc _ he⟩
  · obtain ⟨h1, h2⟩ := hcv
    constructor
    · intro k c hs hk
      exact assocString_of_convert repl (h1 k c hs hk) (by omega) (startsAt_end_le hs hk)
    · intro hnb
      obtain ⟨e, he⟩ := h2 hnb
      exact ⟨e, assocString_of_convert_exc _ he⟩
  · obtain ⟨h1, h2⟩ := hcv
    obtain ⟨hle, hhi⟩ := refIndex_within href
    constructor
    · intro hb
      exact assocString_of_convert repl (h1 hb) hle hhi
    · intro hb
      obtain ⟨e, he⟩ := h2 hb
      exact ⟨e, assocString_of_convert_exc _ he⟩

set_option maxRecDepth 8192 in
example : assocString (encodeRunes [97, 0xFFFD, 98]) (.int 1) (some [90]) = .ok [97, 90, 98] := by decide +kernel

/-- No string index or string assoc can panic — for ANY byte string (valid
UTF-8 or not), any raw index and any replacement: every Go slice expression in
index_string.go / assocString is evaluated in bounds. -/
theorem C13_string_no_panic (s : Bytes) (raw : Raw) (v : Option Bytes) (w : String) :
    indexString s raw ≠ .panic w ∧ assocString s raw v ≠ .panic w :=
  ⟨indexString_no_panic s raw w, assocString_no_panic s raw v w⟩

set_option maxRecDepth 8192 in
example : indexString [0xFF, 0x80, 0xE4] (.str [49, 46, 46]) = .exc Err.notAtRuneBoundary.render := by decide +kernel
