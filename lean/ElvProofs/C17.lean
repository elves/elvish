/-
C17 — No program can crash the interpreter.

The property quantifies over every program and the whole builtin surface; no
model of the whole interpreter exists.  Following DESIGN §8 it is discharged
as ONE PANIC-FREEDOM THEOREM PER MODELLED FUNCTION:

* the builtin-surface glue modelled here (`ElvModel/C17/*.lean`): `goFn.Call`
  (arity / option handling, the argument loop, the precondition of
  `reflect.Value.Call`), `Closure.Call` (slot arithmetic), `strutil.HasSubseq`,
  `doc:find` highlighting, `make-map`, `closure[def]` / `closure[body]`;
* the panic-freedom facts of the models of the other properties (and, from C43,
  of the replaced range of completion), re-exported under `C17_…` names so that
  this file's audit covers them and breaks when they break.

`C17_covered_partial` is the conjunction of the first group.  The GAP to the full property is
explicit and regenerated on every run: `harness/c17/inventory` lists every
partial operation (index, slice, integer division, unchecked assertion,
`panic`, channel send/close, deny-listed library call) of the files that define
the registered commands; each site is `covered-by:<theorem of this file>`,
`reviewed:<reason>` or `uncovered` in `harness/c17/inventory_baseline.txt`,
and a site not in the baseline breaks the check.  For uncovered code the check
only EXPLORES (every command × an adversarial value pool, in worker processes).
-/
import Lean
import ElvModel.C17.Model
import ElvModel.C17.Covered
import ElvProofs.C17.GoFn
import ElvProofs.C17.Closure
import ElvProofs.C17.Subseq
import ElvProofs.C17.DocShow
import ElvProofs.C17.ClosureSrc
import ElvProofs.C17.MakeMap
import ElvProofs.C01
import ElvProofs.C03
import ElvProofs.C06
import ElvProofs.C07
import ElvProofs.C11
import ElvProofs.C13
import ElvProofs.C14
import ElvProofs.C18
import ElvProofs.C19
import ElvProofs.C20
import ElvProofs.C28
import ElvProofs.C30
import ElvProofs.C31
import ElvProofs.C34
import ElvProofs.C35
import ElvProofs.C37
import ElvProofs.C38
import ElvProofs.C41
import ElvProofs.C40
import ElvProofs.C42
import ElvProofs.C43
import ElvProofs.C44
open Go C17

/-- `goFn.Call` (pkg/eval/go_fn.go) reaches `reflect.Value.Call` or returns an exception for EVERY
`goFn` (any combination of the fields `NewGoFn` sets), every argument list,
every number of options: `b.normalArgs[i]` is in range, the `panic("impossible")`
branch is dead, `args[len(args)-1]` exists when it is evaluated. -/
theorem C17_goFn_call_no_panic (b : GoFn) (args : List Arg) (nopts : Nat) (optScanFails : Bool) :
    ∃ r, goFnCall b args nopts optScanFails = .ok r :=
  (goFnCall_spec b args nopts optScanFails).imp fun _ h => h.1

example : goFnCall ⟨true, false, none, true, [.plain 0], none⟩
    [⟨7, fun _ => true, false⟩, ⟨8, fun _ => true, true⟩] 0 false =
    .ok (.ok [.frame, .scanned (.plain 0) 7, .inputsArg 8]) := rfl

/-- For a function whose signature `NewGoFn` accepts, the vector handed to
`reflect.Value.Call` has exactly the number and the types of values the
signature asks for (variadic: at least the fixed ones, every further one of
the element type) — so `reflect.Value.Call` cannot panic with "too few/many
input arguments" or a type mismatch.  `hwf` is Go's own guarantee that the last
parameter of a variadic function is a slice. -/
theorem C17_goFn_reflect_call_precondition (sig : List PTy) (variadic : Bool) (b : GoFn)
    (hwf : variadic = true → ∃ init e, sig = init ++ [.slice e])
    (hnew : newGoFn sig variadic = .ok b) (args : List Arg) (nopts : Nat) (optScanFails : Bool)
    (ins : List InVal) (hcall : goFnCall b args nopts optScanFails = .ok (.ok ins)) :
    callOK variadic sig ins = true := by
  obtain ⟨r, hr, hspec⟩ := goFnCall_spec b args nopts optScanFails
  obtain ⟨s1, s2, tl, rfl, hs1, hs2, htl⟩ := hspec ins (Res.ok.inj (hr.symm.trans hcall))
  have hfixed : callOK false (prefixTys b ++ b.normalArgs) (prefixIns b ++ s1) = true := by
    rw [callOK_false_append (callOK_prefix b)]
    exact hs1
  cases variadic with
  | false =>
    obtain ⟨b', hsig, hv, heq⟩ := newGoFn_fixed sig
    rw [heq] at hnew
    split at hnew
    · cases hnew
    · obtain rfl := Res.ok.inj hnew
      have : s2 = [] := List.eq_nil_iff_forall_not_mem.mpr fun x hx => by
        obtain ⟨e, he, _⟩ := hs2 x hx
        simp [hv] at he
      rw [hsig, this, List.append_nil, callOK_false_append hfixed]
      exact htl
  | true =>
    obtain ⟨init, e, hs⟩ := hwf rfl
    obtain ⟨b', hsig, hv, hin, heq⟩ := newGoFn_variadic hs
    rw [heq] at hnew
    split at hnew
    · cases hnew
    · obtain rfl := Res.ok.inj hnew
      rw [hin] at htl
      have : tl = [] := by simpa [callOK] using htl
      rw [hsig, this, List.append_nil, ← List.append_assoc]
      refine callOK_variadic hfixed e s2 (List.all_eq_true.mpr fun x hx => ?_)
      obtain ⟨e', he, hx⟩ := hs2 x hx
      obtain rfl : e = e' := Option.some.inj (hv.symm.trans he)
      exact hx

example : ∃ b, newGoFn [.frame, .options, .plain 1, .slice (.plain 0)] true = .ok b ∧
    goFnCall b [⟨0, fun _ => true, false⟩, ⟨1, fun _ => true, false⟩, ⟨2, fun _ => true, false⟩] 1 false =
      .ok (.ok [.frame, .optsStruct, .scanned (.plain 1) 0, .scanned (.plain 0) 1, .scanned (.plain 0) 2]) :=
  ⟨_, rfl, rfl⟩
/-- the precondition is a real constraint: one value too few violates it -/
example : callOK true [.frame, .plain 1, .slice (.plain 0)] [.frame] = false := by decide

/-- The only panic of `NewGoFn` is the documented one (both `RawOptions` and an
options struct), raised when the builtin is REGISTERED, never by a call. -/
theorem C17_newGoFn_panics_only_on_both_options (sig : List PTy) (variadic : Bool) (w : String)
    (hwf : variadic = true → ∃ init e, sig = init ++ [.slice e])
    (h : newGoFn sig variadic = .panic w) :
    w = "Function declares both RawOptions and Options parameters" := by
  obtain ⟨b, heq⟩ : ∃ b : GoFn, newGoFn sig variadic =
      if b.options.isSome && b.rawOptions then .panic "Function declares both RawOptions and Options parameters"
      else .ok b := by
    cases variadic with
    | false => exact (newGoFn_fixed sig).imp fun _ h => h.2.2
    | true =>
      obtain ⟨init, e, hs⟩ := hwf rfl
      exact (newGoFn_variadic hs).imp fun _ h => h.2.2.2
  rw [heq] at h
  split at h
  · exact (Res.panic.inj h).symm
  · cases h

example : newGoFn [.rawOptions, .options] false = .panic "Function declares both RawOptions and Options parameters" := rfl

/-- The prologue of `Closure.Call` (pkg/eval/closure.go: arity check, option check, population of
`local.slots` / `local.infos`) never panics for a closure the compiler can
produce — `-1 ≤ RestArg < len(ArgNames)`, one default per option — whatever the
arguments and options; a successful prologue fills a namespace of exactly
`len(ArgNames)+len(OptNames)+len(newLocal)` slots. -/
theorem C17_closure_call_no_panic (c : Closure) (args : List Nat) (opts : List (Nat × Nat))
    (hrest : -1 ≤ c.restArg ∧ c.restArg < c.nArgs)
    (hdef : c.optDefaults.length = c.optNames.length) :
    ∃ r, closureCall c args opts = .ok r ∧
      ∀ slots, r = .ok slots → slots.length = c.nArgs + c.optNames.length + c.nNew := by
  unfold closureCall
  cases harity : closArityErr c args.length with
  | some e => exact ⟨_, rfl, nofun⟩
  | none =>
    simp only
    split
    · exact ⟨_, rfl, nofun⟩
    · obtain ⟨u, hu, _⟩ := forLoop_ok (fun u => u.length = c.nArgs + c.optNames.length + c.nNew)
        (fun i (u : List Unit) => setIdx u i ()) 0 c.nArgs (List.replicate _ ()) List.length_replicate
        (fun i u h0 h1 hl => (setIdx_ok u i () h0 (by omega)).imp fun _ h => ⟨h.1, h.2.trans hl⟩)
      obtain ⟨s1, h1, hl1⟩ := bindArgs_ok c args (List.replicate (c.nArgs + c.optNames.length + c.nNew) .unset)
        (List.length_replicate ▸ Nat.le_add_right_of_le (Nat.le_add_right _ _)) hrest harity
      rw [List.length_replicate] at hl1
      obtain ⟨s2, h2, hl2⟩ := bindOpts_ok c opts s1 (hl1 ▸ Nat.le_add_right _ _) hdef
      obtain ⟨s3, h3, hl3⟩ := bindNew_ok c s2 (Nat.le_of_eq (hl2.trans hl1).symm)
      refine ⟨.ok s3, by simp only [bind, Res.bind, hu, h1, h2, h3], fun slots h => ?_⟩
      rw [← Except.ok.inj h]
      exact hl3.trans (hl2.trans hl1)

example : closureCall ⟨4, 2, [1, 2], [10, 20], 2⟩ [1, 2, 3, 4, 5, 6] [(2, 99)] =
    .ok (.ok [.val 1, .val 2, .list [3, 4, 5], .val 6, .val 10, .val 99, .fresh 0, .fresh 1]) := rfl
/-- the hypotheses matter: a rest index outside the parameter list panics -/
example : closureCall ⟨1, 1, [], [], 0⟩ [1] [] = .panic "slice bounds out of range" := rfl
example : closureCall ⟨0, -1, [5], [], 0⟩ [] [] = .panic "index out of range" := rfl

/-- Arity errors are exactly the documented ones. -/
theorem C17_closure_arity (c : Closure) (args : List Nat) (opts : List (Nat × Nat)) (l h a : Int) :
    closureCall c args opts = .ok (.error (.arity l h a)) →
      a = args.length ∧
        ((c.restArg ≠ -1 ∧ l = c.nArgs - 1 ∧ h = -1 ∧ a < l) ∨ (c.restArg = -1 ∧ l = c.nArgs ∧ h = l ∧ a ≠ l)) := by
  intro hc
  rcases closureCall_error hc with he | ⟨_, he⟩
  · exact closArityErr_arity he
  · cases he

/-- `strutil.HasSubseq` (`edit:match-subseq`) with fixes/C17-hassubseq-invalid-utf8.patch
never slices out of range, for arbitrary byte strings (invalid UTF-8 included). -/
theorem C17_hasSubseq_no_panic (s t : Bytes) : ∃ b, hasSubseq true s t = .ok b :=
  hasSubseqLoop_fixed_ok (toRunes t) s

example : hasSubseq true [0xFF] [0xEF, 0xBF, 0xBD] = .ok true := by decide +kernel
example : hasSubseq true [97, 0xC3, 0xA9, 98] [0xC3, 0xA9, 98] = .ok true := by decide +kernel

/-- The code as found panics: the pattern rune U+FFFD is found at an invalid
byte of `s` (1 byte), and the code advances by `len(string(p))` = 3.
Witness in `harness/corpus/C17.txt`. -/
theorem C17_counterexample : hasSubseq false [0xFF] [0xEF, 0xBF, 0xBD] = .panic "slice bounds out of range" := by
  decide +kernel

/-- `sortAndMergeMatches` (`doc:find` highlighting, pkg/mods/doc/match.go), for ANY outcome of `sort.Slice` that meets its
contract (a permutation ordered by `From`, stable or not): on a non-empty slice
of matches lying inside a text of `n` bytes the loop never indexes out of
range (`rs[j]`, `rs[j-1]`, `rs[i]`, `rs[i] = …`, `rs[:i+1]`), and what it
returns is ORDERED AND NON-OVERLAPPING — every range ends strictly before the
next one starts — non-empty and inside the text. -/
theorem C17_docfind_merge_no_panic (sort : List Ranging → List Ranging) (hsort : SortContract sort) (n : Int)
    (rs : List Ranging) (hne : rs ≠ []) (hvalid : ∀ r ∈ rs, r.Valid n) :
    ∃ out, sortAndMergeMatches sort rs = .ok out ∧ Sep n 0 out ∧ out ≠ [] ∧ out.length ≤ rs.length :=
  sortAndMergeMatches_ok sort hsort n rs hne hvalid

/-- non-vacuity: the sort of the driver meets the contract; three nested /
chained matches (`doc:find 'whose documentation contains all strings' contains strings`
has this shape) are merged into separated ranges -/
example : SortContract stableSortByFrom := stableSortByFrom_contract
example : mergeSorted [⟨0, 10⟩, ⟨2, 4⟩, ⟨6, 8⟩] = .ok [⟨0, 4⟩, ⟨6, 8⟩] := by decide +kernel
example : C17.Sep 12 0 [⟨0, 4⟩, ⟨6, 8⟩] := by simp [C17.Sep]
/-- an empty slice does panic (`rs[:1]`): `match` only calls it for `len(bMatches[i]) > 0` -/
example : mergeSorted [] = .panic "slice bounds out of range" := by decide +kernel

/-- `matchedBlock.Show` (both branches, with `firstSentenceStart`,
`lastSentenceStart`, `firstLineEnd`, `lastLineStart`): on ordered,
non-overlapping matches inside the text every one of the fourteen slice
expressions is in range, whatever `ui.T(…).String()` renders. -/
theorem C17_docfind_show_no_panic (styled : Bytes → Bytes) (b : MatchedBlock)
    (h : Sep b.block.text.length 0 b.isMatches) : ∃ out, showBlock styled b = .ok out :=
  showBlock_ok styled b h

/-- "ab. cd ef" with `cd` matched: `… ` + sentence start + styled match + rest -/
example : showBlock styledBoldRed ⟨⟨[97, 98, 46, 32, 99, 100, 32, 101, 102], false⟩, [⟨4, 6⟩]⟩ =
    .ok ([0xE2, 0x80, 0xA6, 32] ++ [27, 91, 59, 49, 59, 51, 49, 109, 99, 100, 27, 91, 109] ++ [32, 101, 102]) := by decide +kernel
/-- the separation matters: the ranges `[0,10) [6,8)` that the seeded change
`rs[i].To = max(rs[i].To, rs[j].To)` returns for the matches above make `Show`
evaluate `Text[10:6]` -/
example : showBlock styledBoldRed ⟨⟨[97, 98, 99, 100, 101, 102, 103, 104, 105, 106, 107, 108], false⟩, [⟨0, 10⟩, ⟨6, 8⟩]⟩ =
    .panic "slice bounds out of range" := by decide +kernel

/-- The whole `findIn` of `doc:find` from the rendered blocks on — `match`
(`bMatches[i]` ×4), `sortAndMergeMatches`, `Show` of every matched block — never
panics, for any blocks (arbitrary bytes), any queries (empty, overlapping,
nested, repeated) and any `sort.Slice` meeting its contract. -/
theorem C17_docfind_no_panic (sort : List Ranging → List Ranging) (hsort : SortContract sort)
    (styled : Bytes → Bytes) (bs : List Block) (qs : List Bytes) :
    ∃ r, docFindIn sort styled bs qs = .ok r := by
  have h0 : BMOk bs (List.replicate bs.length []) := by
    refine ⟨List.length_replicate, fun k b rs _ hk r hr => ?_⟩
    rw [(List.mem_replicate.mp (List.mem_of_getElem? hk)).2] at hr
    cases hr
  obtain ⟨r, hr, hok⟩ := matchQueries_ok bs qs _ h0
  unfold docFindIn matchBlocks
  simp only [bind, Res.bind, hr]
  cases r with
  | none => exact ⟨none, rfl⟩
  | some bm =>
    obtain ⟨ms, hms, hsep⟩ := collectMatched_ok sort hsort bs bm (hok bm rfl) bs 0 rfl
    have hms : collectMatched sort bm bs 0 = .ok ms := hms
    obtain ⟨out, hout⟩ := showAll_ok styled ms hsep
    simp only [hms, hout]
    exact ⟨_, rfl⟩

/-- three queries, one containing another, a third starting inside the container after the contained one ended -/
example : docFindIn stableSortByFrom id [⟨[97, 98, 99, 100, 101, 102, 103, 104, 105, 106, 107, 108], false⟩]
    [[97, 98, 99, 100, 101, 102, 103, 104, 105, 106], [99, 100], [103, 104]] =
    .ok (some [[97, 98, 99, 100] ++ [101, 102] ++ [103, 104] ++ [105, 106, 107, 108]]) := by decide +kernel

/-- One input of `make-map` (pkg/eval/builtin_fn_container.go `makeMap`), for EVERY value and EVERY behaviour of `vals.CanIterate` / `vals.Len` /
`vals.Collect` (in particular when `Len` and `Collect` disagree, as they do for strings: bytes vs. runes):
the callback never panics, and it reaches `elems[0]`, `elems[1]` only when `vals.Collect` returned EXACTLY
two entries — otherwise it records an exception (or keeps the pending one) and leaves the map alone. -/
theorem C17_makeMap_pair_checked {V : Type} (ops : IterOps V) (st : MMState V) (v : V) :
    (∃ e, makeMapStep ops true st v = .ok (st.1, some e)) ∨
    (∃ k x, ops.collect v = .ok [k, x] ∧ st.2 = none ∧
      makeMapStep ops true st v = .ok (st.1 ++ [(k, x)], none)) :=
  makeMapStep_spec ops st v

/-- `makeMap` as a whole never panics: it raises an exception, or every input collected to exactly two
entries and the map is built from exactly these pairs, in input order.  No hypothesis. -/
theorem C17_makeMap_no_panic {V : Type} (ops : IterOps V) (inputs : List V) :
    (∃ e, makeMap ops true inputs = .exc e) ∨
    (∃ ps, makeMap ops true inputs = .ok ps ∧ inputs.map ops.collect = ps.map (fun p => .ok [p.1, p.2])) := by
  unfold makeMap
  rcases makeMapLoop_spec ops inputs [] with ⟨acc', e, h⟩ | ⟨ps, h, hf⟩
  · exact .inl ⟨e, by rw [h]; rfl⟩
  · exact .inr ⟨ps, by rw [h]; simp [Res.bind], hf⟩

/-- non-vacuity: a map of two pairs, the second a 2-rune string of 3 bytes … is refused (Len = 3); a string of
two ASCII characters is a pair. -/
example : (makeMap MV.ops true [.list [.str [0x6b], .str [0x76]], .str [0x61, 0x62]]).isPanic = false ∧
    (match makeMap MV.ops true [.list [.str [0x6b], .str [0x76]], .str [0x61, 0x62]] with
      | .ok ps => ps.length == 2 | _ => false) = true := by
  constructor <;> decide +kernel

/-- The last check is NOT dead code: `é` (2 bytes, 1 rune) passes `vals.Len(v) == 2` and collects to one
element.  With the check `make-map [é]` raises "internal bug: collected 1 values"; without it (the seeded
change, `guard = false`) `elems[1]` panics. -/
theorem C17_makeMap_unguarded_counterexample :
    makeMap MV.ops true [.str [0xc3, 0xa9]] = .exc "internal bug: collected 1 values" ∧
    makeMap MV.ops false [.str [0xc3, 0xa9]] = .panic "index out of range" := by
  constructor <;> rfl

/-- `closure[def]` / `closure[body]` (pkg/eval/closure.go).  For every source (arbitrary bytes): the parser returns a tree, and for every
lambda of it `Src.Code[DefRange.From:DefRange.To]` and
`Src.Code[op.Range().From:op.Range().To]` (the `Chunk` child) are in range;
`closure[def]` is the lambda's own text.  Rests on C01 (node ranges lie inside
the source) and on reading `lambdaOp.exec`, the only place a `Closure` is made
(tied by the `closrc` ops). -/
theorem C17_closure_src_fields_no_panic (isPrint : Int → Bool) (src : Bytes) :
    ∃ t errs, C01.parse isPrint src = .ok t errs ∧
      (∀ m, C01_Desc t m → closureSrcSlice src m = .ok m.text) ∧
      ∀ lam ∈ lambdasOf t, ∃ r, closureDefBody src lam = .ok r ∧ r.1 = lam.text := by
  obtain ⟨t, errs, hp, hall, _⟩ := C01_total_lossless isPrint src
  exact ⟨t, errs, hp, fun m hm => closureSrcSlice_ok src m (hall m hm),
    fun lam hl => closureDefBody_ok src t lam hall hl⟩

/-- `s.Buffer.Content[result.Replace.From:result.Replace.To]` (pkg/edit/completion.go
`completionStart`): whenever
`complete.Complete` answers, the slice is in range (C43: the replaced range lies
within the buffer).  The buffer sliced is the buffer completed: both are read on
the editor's event-loop goroutine (C32) with nothing in between. -/
theorem C17_completion_replace_no_panic (env : C43.Env) (src : Bytes) (dot : Int) (r : C43.Result)
    (h : C43.complete env src dot = .result r) : ∃ rep, slice src r.frm r.to = .ok rep := by
  obtain ⟨h1, h2⟩ := C43_range env src dot r h
  exact (exists_slice_eq_ok src r.frm r.to (by omega) (by omega) (by omega)).imp fun _ h => h.1

/-- parser (C01): `parse.Parse…` on any bytes, any fuel. -/
theorem C17_parse_no_panic (isPrint : Int → Bool) (fuel : Nat) (nt : C01.NT) (src : Bytes)
    (hnt : ∀ l, nt ≠ .redir (some l)) (w : String) : C01.parseAsFuel isPrint fuel nt src ≠ .panic w :=
  C01_no_panic isPrint fuel nt src hnt w

/-- persistent hash map (C07): lookups on a well-formed map. -/
theorem C17_hashmap_index_no_panic {K V : Type} {eq : K → K → Bool} {hashf : K → UInt32} {m : C07.HashMap K V}
    (hm : C07.WFMap eq hashf m) (k : Option K) : ∃ r, m.index eq hashf k = .ok r :=
  C07_index_total hm k

/-- persistent vector (C06): Index / SubVector / Assoc / Pop on a well-formed vector, any indices. -/
theorem C17_vector_ops_no_panic {α : Type} {w : C06.Vec α} (H : C06.WF w) :
    (∀ i, ∃ r, w.Index i = .ok r) ∧ (∀ i j, ∃ r, w.SubVector i j = .ok r) ∧
    (∀ i x, ∃ r, w.Assoc i x = .ok r) ∧ (∃ r, w.Pop = .ok r) := by
  refine ⟨fun i => ⟨_, C06_index H i⟩, fun i j => ?_, fun i x => ?_, ?_⟩
  · by_cases h : 0 ≤ i ∧ i ≤ j ∧ j ≤ (w.toList.length : Int)
    · obtain ⟨w', h1, _⟩ := (C06_subvector H i j).1 h
      exact ⟨_, h1⟩
    · exact ⟨_, (C06_subvector H i j).2 h⟩
  · obtain ⟨h1, h2, h3⟩ := C06_assoc H i x
    by_cases ha : i < 0 ∨ i > (w.toList.length : Int)
    · exact ⟨_, h1 ha⟩
    · by_cases hb : i = (w.toList.length : Int)
      · obtain ⟨w', hw, _⟩ := h2 hb
        exact ⟨_, hw⟩
      · obtain ⟨w', hw, _⟩ := h3 (by omega) (by omega)
        exact ⟨_, hw⟩
  · obtain ⟨h1, h2⟩ := C06_pop H
    by_cases he : w.toList = []
    · exact ⟨_, h1 he⟩
    · obtain ⟨w', hw, _⟩ := h2 he
      exact ⟨_, hw⟩

/-- numeric builtins and `math:` (C11): `+ - * / % abs ceil floor round round-to-even trunc max min pow range`
on exact arguments (the inexact paths are float operations, which cannot panic). -/
theorem C17_arith_no_panic {F : Type} (ops : C11.F64Ops F) (cmd : String) (args : List (C11.Num F)) (st : Option (C11.Num F))
    (hcmd : cmd ∈ ["+", "-", "*", "%", "abs", "ceil", "floor", "round", "round-to-even", "trunc",
      "max", "min", "pow"] ∨ (cmd = "/" ∧ args ≠ []) ∨ (cmd = "range"))
    (hc : ∀ a ∈ args, C11.ExactC a) (hst : ∀ z, st = some z → C11.ExactC z) :
    (C11.run ops cmd args st).isPanic = false :=
  C11_no_panic ops cmd args st hcmd hc hst

/-- list indexing (C13): index conversion of any raw index. -/
theorem C17_index_no_panic (raw : C13.Raw) (n : Int) (w : String) : C13.convertListIndex raw n ≠ .panic w :=
  C13_convert_no_panic raw n w

/-- string indexing / assoc (C13), arbitrary bytes. -/
theorem C17_string_index_no_panic (s : Bytes) (raw : C13.Raw) (v : Option Bytes) (w : String) :
    C13.indexString s raw ≠ .panic w ∧ C13.assocString s raw v ≠ .panic w :=
  C13_string_no_panic s raw v w

/-- pipelines (C18): no reachable state of the pipeline protocol has a crashed goroutine. -/
theorem C17_pipeline_no_panic {cfg : C18.Cfg} {s : C18.State} (h : C18.Reachable cfg s) : s.crashed = false :=
  C18_no_go_panic h

/-- `peach` (C20): the semaphore is never released more than held. -/
theorem C17_peach_no_panic (c : C20.Cfg) (tr : List C20.Label) (s : C20.State) (h : C20.Run c tr s)
    (hg : c.checkAcq = true ∨ C20.Label.cancel ∉ tr) : s.panicked = false :=
  C20_never_panics c tr s h hg

/-- terminal input decoding (C31). -/
theorem C17_term_reader_no_panic (T : C31.Tables) (s : C31.Src) (w : String) :
    ((C31.readEvent T).run s).1 ≠ .panic w :=
  C31_no_panic T s w

/-- `diag.NewContext` (C37) on ranges inside the source. -/
theorem C17_diag_context_no_panic (src : Bytes) (f t : Int) (h0 : 0 ≤ f) (h1 : f ≤ t) (h2 : t ≤ src.length) :
    ∃ d, C37.getContextDetails src f t = .ok d :=
  C37_no_panic src f t h0 h1 h2

/-- `getopt.Parse` / `Complete` (C38, `flag:parse-getopt`, `edit:complete-getopt`). -/
theorem C17_getopt_no_panic : C38_full_no_panic := C38_no_panic

theorem C17_getopt_complete_no_panic (specs : List C38.OptionSpec) (cfg : Nat)
    (args : List Bytes) (r : List C38.Opt × List Bytes × C38.Context)
    (h : C38.Complete true args specs cfg = .ok r) :
    ∃ out, C38.completeGetoptOut specs r = .ok out :=
  C38_complete_getopt_dispatch_no_panic specs cfg args r h

/-- `str:repeat` (C41): the overflow guard and the size cap (results above
`C41.maxRepeatLen` bytes are a BadValue error, so Go's allocator is never asked
for more than any platform can give: `maxAlloc` is the platform's limit). -/
theorem C17_str_repeat_no_panic (maxAlloc : Int) (hA : C41.maxRepeatLen ≤ maxAlloc) (s : Bytes) (n : Int) :
    (C41.strRepeatA maxAlloc s n).isPanic = false :=
  C41_repeat_no_panic maxAlloc hA s n

/-- `str:replace` (C41). -/
theorem C17_str_replace_no_panic (max : Int) (old repl s : Bytes) : ∃ r, C41.strReplace max old repl s = .ok r :=
  C41_replace_no_panic max old repl s

/-- redirections (C42): the whole redirection loop of a form that owns no value channel. -/
theorem C17_redir_no_panic (st : C42.St) (rs : List C42.Redir)
    (h : ∀ (i : Nat) (f : C42.Fop), st.fops[i]? = some f → f.chan = false) :
    ∃ s, C42.execRedirs C42.Cfg.fixed st rs = .ok s :=
  C42_no_panic_without_owned_channel st rs h

/-- redirections (C42): every fd value gives an exception or an index for which both tables grow. -/
theorem C17_redir_fd_in_range (st : C42.St) (r : C42.Redir) :
    (∃ e, C42.evalDst C42.Cfg.fixed r = .exc e) ∨
    ∃ dst x, C42.evalDst C42.Cfg.fixed r = .ok dst ∧ 0 ≤ dst ∧ dst ≤ C42.maxRedirFD ∧
      C42.prepDst C42.Cfg.fixed st dst = .ok x :=
  C42_every_dst_fd_port_or_exception st r

/-- `wcwidth.Trim` (C34): the slice it takes is in bounds. -/
theorem C17_wcwidth_trim_no_panic (wd : Int → Int) (s : Bytes) (wmax : Int) (i : Nat)
    (h : C34.trimIdx wd (runes s) 0 wmax = some i) (hw : 0 ≤ wmax) : slice s 0 i = .ok (s.take i) :=
  C34_trim_slice_in_bounds wd s wmax i h hw

/-- LSP server (C44): every well-formed request is answered (no nil dereference, no index out of
range).  `ParserHeads` (every Indexing node of a parsed tree has a Primary head) is C44's remaining
stated hypothesis about the parser; requests other than hover need none
(`C44_answers_every_request_but_hover`). -/
theorem C17_lsp_answers_every_request (lib : C44.Lib) (empty : C44.Text) (s : C44.Server) (hasId : Bool) (r : C44.Req)
    (he : empty.wf) (hs : s.wf lib) (hr : r.wf) (hh : C44.ParserHeads lib.isPrint) :
    ∃ o, C44.serve .fixed lib empty s hasId r = .ok o ∧ o.srv.wf lib ∧ (o.reply = .none ↔ hasId = false) :=
  C44_answers_every_request lib empty s hasId r he hs hr hh

/-- `parse.Quote` / `QuoteAs` / `QuoteCommandName` / `QuoteVariableName` (C03; `repr`, `to-string` of
containers, error messages of every builtin): total on arbitrary bytes. -/
theorem C17_quote_no_panic (isPrint : Int → Bool) (s : Bytes) (q : Int) :
    (∃ text ty, C03.QuoteAs isPrint s q = .ok (text, ty)) ∧ (∃ text, C03.Quote isPrint s = .ok text) ∧
    (∃ text, C03.QuoteCommandName isPrint s = .ok text) ∧ (∃ text, C03.QuoteVariableName isPrint s = .ok text) :=
  C03_quote_total isPrint s q

/-- element assignment and `del` (C14): no Go-panic branch (index arithmetic, nil containers, `ends[level]`). -/
theorem C17_assign_no_panic (σ : C14.Store) (temp : Bool) (lv : C14.LV) (r : C14.Rhs) (w : String)
    (hdecl : (σ.get lv.head).isSome) (hrhs : ∀ x p, r = .ref x p → (σ.get x).isSome) :
    (C14.exec σ (.assign temp [lv] [r])).err ≠ some (.panic w) ∧
    (lv.idx ≠ [] → (C14.exec σ (.del lv)).err ≠ some (.panic w)) :=
  C14_set_del_no_panic σ temp lv r w hdecl hrhs

/-- `peach` while the evaluation is interrupted (C19): never "semaphore: released more than held". -/
theorem C17_peach_interrupt_no_panic (tr : List C19.Label) (s : C19.State) (h : C19.Run tr s) :
    ∀ i ∈ s.insts, ∀ K, i.cfg.k = some K → i.st.running ≤ K ∧ i.st.panicked = false :=
  C19_bound_while_interrupted tr s h

/-- editor buffer commands (C28): no sequence of keys, paste markers and builtin commands panics
(the slice expressions of the movers, kill commands and abbreviation expansion). -/
theorem C17_editor_events_no_panic (E : C28.Env) (S : C28.Spec) (hS : C28.SpecOK S) (b : C28.CodeBuffer)
    (hb : C28.Boundary b.content b.dot) (evs : List C28.Event) :
    ∃ s', C28.runEvents E S (C28.initState b) evs = .ok s' ∧ C28.Boundary s'.buffer.content s'.buffer.dot :=
  C28_sequence_safe E S hS b hb evs

/-- syntax highlighting (C30): `highlight` on regions inside the code, any sort order `sort.Slice` may produce. -/
theorem C17_highlight_no_panic (code : Bytes) (hasCmd : Bool) (regions sorted : List C30.Region)
    (hin : ∀ r ∈ regions, C30.InBounds code.length r) (hs : C30.SortedPerm regions sorted) :
    ∃ t cmds, C30.highlight code hasCmd sorted = .ok (t, cmds) := by
  obtain ⟨t, cmds, h, _⟩ := C30_highlight_total_lossless code hasCmd regions sorted hin hs
  exact ⟨t, cmds, h⟩

/-- the late restyling goroutine of the highlighter (C30): `newText[cmdRegion.seg]` is in range. -/
theorem C17_highlight_late_no_panic (code : Bytes) (hasCmd : Bool) (sorted : List C30.Region) (t : C30.Text)
    (cmds : List C30.CmdRegion) (answers : List Bool) (h : C30.highlight code hasCmd sorted = .ok (t, cmds)) :
    ∃ t', C30.restyle t cmds answers = .ok t' := by
  obtain ⟨t', h', _⟩ := C30_late_restyle_no_panic code hasCmd sorted t cmds answers h
  exact ⟨t', h'⟩

/-- Markdown emphasis processing (C35, `md:show`, `doc:show`, `doc:find`): `Text[1:]` / `Text[2:]` stay in range. -/
theorem C17_md_emph_no_panic (G : C35.GoU) (text : Bytes) : C35.renderEmph G text ≠ .panic :=
  fun h => (C35_emph_total G text).2 h

/-- stage epilogue of a pipeline form (C40, `formOwnedPort.close` over `newFm.ports[i]`): no nil port is
dereferenced, whether the form ended normally, a redirection failed half-way or the body raised. -/
theorem C17_form_cleanup_no_nil_deref (f : C40.Form) (hf : f.noBg = true) (w : C40.World) (ports : C40.Ports)
    (fops : C40.Fops) (B : Nat → Prop) (h : C40.FormInv w ports fops B) :
    (C40.runStage C40.Cfg.fixed w ports fops f).1.panics = w.panics :=
  (C40_form_closes_exactly_what_it_owns f hf w ports fops B h).2.2.2

/-- The part of C17 that is PROVED: the surface glue modelled here.  (The
re-exported facts of the other properties are theorems of this file as well; they are not
repeated in the conjunction because their statements live in the vocabularies
of their own models.)

GAP to the property as stated (every program, every command): the functions
whose partial operations are `uncovered` in the regenerated inventory, and the
parts of the interpreter outside the inventory's files.  Known to be false on
the unchanged tree outside the covered set: see notes/C17.md (fix patches and
finding lines). -/
def C17_covered : Prop :=
  (∀ (b : GoFn) (args : List Arg) (nopts : Nat) (bad : Bool), ∃ r, goFnCall b args nopts bad = .ok r) ∧
  (∀ (sig : List PTy) (variadic : Bool) (b : GoFn), (variadic = true → ∃ init e, sig = init ++ [.slice e]) →
    newGoFn sig variadic = .ok b → ∀ args nopts bad ins, goFnCall b args nopts bad = .ok (.ok ins) →
      callOK variadic sig ins = true) ∧
  (∀ (c : Closure) (args : List Nat) (opts : List (Nat × Nat)),
    (-1 ≤ c.restArg ∧ c.restArg < c.nArgs) → c.optDefaults.length = c.optNames.length →
      ∃ r, closureCall c args opts = .ok r) ∧
  (∀ s t : Bytes, ∃ b, hasSubseq true s t = .ok b) ∧
  (∀ (sort : List Ranging → List Ranging), SortContract sort → ∀ (styled : Bytes → Bytes) (bs : List Block)
    (qs : List Bytes), ∃ r, docFindIn sort styled bs qs = .ok r) ∧
  (∀ (isPrint : Int → Bool) (src : Bytes), ∃ t errs, C01.parse isPrint src = .ok t errs ∧
    ∀ lam ∈ lambdasOf t, ∃ r, closureDefBody src lam = .ok r) ∧
  (∀ (V : Type) (ops : IterOps V) (inputs : List V), (makeMap ops true inputs).isPanic = false)

theorem C17_covered_partial : C17_covered :=
  ⟨C17_goFn_call_no_panic, C17_goFn_reflect_call_precondition,
   fun c args opts h1 h2 => (C17_closure_call_no_panic c args opts h1 h2).imp fun _ h => h.1,
   C17_hasSubseq_no_panic, C17_docfind_no_panic,
   fun isPrint src => by
     obtain ⟨t, errs, hp, _, hl⟩ := C17_closure_src_fields_no_panic isPrint src
     exact ⟨t, errs, hp, fun lam h => (hl lam h).imp fun _ h => h.1⟩,
   fun V ops inputs => by
     rcases C17_makeMap_no_panic ops inputs with ⟨e, h⟩ | ⟨ps, h, _⟩ <;> rw [h] <;> rfl⟩

/-! Every theorem the inventory may name (`C17.coveredTheorems`) exists. -/

open Lean Elab Command in
run_cmd do
  let env ← getEnv
  for n in C17.coveredTheorems do
    unless env.contains (Name.mkSimple n) do
      throwError "C17.coveredTheorems names {n}, which is not a theorem of ElvProofs/C17.lean"
