/-
Byte-string order laws, and a normal form of `cmpG` by "shape"
(nil / bool / number by value / string / list / anything else), so that the
order laws are proved on six shapes instead of ten constructors.
-/
import ElvProofs.C09.NumFacts
import ElvProofs.C08.MapLemmas
import ElvProofs.Lemmas.Bytes

namespace C09
open C08 COrd Go

theorem bytesLt_eq (x y : Bytes) : bytesLt x y = decide (x < y) :=
  lexLt_eq bytesLt rfl (fun _ _ => rfl) (fun _ _ => rfl) (fun _ _ _ _ => by rw [bytesLt]) x y

theorem bytesLt_iff {x y : Bytes} : bytesLt x y = true ↔ x < y := by
  rw [bytesLt_eq, decide_eq_true_iff]

theorem bytesLt_cons (x y : UInt8) (xs ys : Bytes) :
    bytesLt (x :: xs) (y :: ys) = true ↔ x < y ∨ (x = y ∧ bytesLt xs ys = true) := by
  simp only [bytesLt_iff, List.cons_lt_cons_iff]

theorem bytesLt_irrefl (a : Bytes) : bytesLt a a = false := by
  rw [bytesLt_eq]; exact decide_eq_false (List.lt_irrefl a)

theorem bytesLt_trans (a b c : Bytes) (h1 : bytesLt a b = true) (h2 : bytesLt b c = true) : bytesLt a c = true :=
  bytesLt_iff.2 (List.lt_trans (bytesLt_iff.1 h1) (bytesLt_iff.1 h2))

theorem bytesLt_asymm (a b : Bytes) (h : bytesLt a b = true) : bytesLt b a = false := by
  rw [bytesLt_eq]; exact decide_eq_false (List.lt_asymm (bytesLt_iff.1 h))

theorem bytesLt_trichotomy (a b : Bytes) : bytesLt a b = true ∨ a = b ∨ bytesLt b a = true := by
  simp only [bytesLt_iff]; exact Std.lt_trichotomy a b

theorem bytesCmp : ThreeWay compareBytes (fun a b => bytesLt a b = true) :=
  .of_ite (fun a h => by rw [bytesLt_irrefl] at h; cases h) (bytesLt_trans _ _ _) bytesLt_trichotomy

/-- what `cmpInner` sees of a value. -/
inductive Shape where
  | nil
  | bool (b : Bool)
  | num (x : NumVal)
  | str (s : Bytes)
  | list (xs : List Val)
  | other

def shape : Val → Shape
  | .nil => .nil
  | .bool b => .bool b
  | .int i => .num (.fin (i : Rat))
  | .bigint i => .num (.fin (i : Rat))
  | .rat r => .num (.fin r)
  | .float b => .num (F64.val b)
  | .str s => .str s
  | .list xs => .list xs
  | .map _ _ => .other
  | .ref _ _ => .other

def compareBool (x y : Bool) : COrd := if x == y then equal else if x == false then less else more

/-- `cmpInner` on shapes; `rec` compares lists. -/
def innerS (rec : List Val → List Val → COrd) (a b : Val) : COrd :=
  match shape a, shape b with
  | .nil, .nil => equal
  | .bool x, .bool y => compareBool x y
  | .num x, .num y => NumVal.cmp x y
  | .str x, .str y => compareBytes x y
  | .list xs, .list ys => rec xs ys
  | .other, .other => if Equal a b then equal else uncomparable
  | _, _ => uncomparable

/-- `CmpUncomparable ↦ CmpEqual` at the end of `CmpTotal`. -/
def post (total : Bool) (o : COrd) : COrd := if total && o == uncomparable then equal else o

def tyCmp (rank : Nat → Nat) (a b : Val) : COrd := compareNat (rank (typeTag a)) (rank (typeTag b))

theorem numVal_shape {a : Val} {x : NumVal} (h : numVal a = some x) : shape a = .num x := by
  cases a <;> simp [numVal] at h <;> subst h <;> rfl

theorem cmpG_eq (rank : Nat → Nat) (total : Bool) (a b : Val) :
    cmpG rank total a b =
      if (total && tyCmp rank a b != equal) = true then tyCmp rank a b
      else post total (innerS (cmpListG rank total) a b) := by
  unfold cmpG
  show (if _ then _ else post total _) = _
  congr 2
  cases a with
  | int | bigint | rat | float => cases b <;> (rw [cmpNum_eq]; rfl)
  | map | ref => cases b <;> first | rfl | (refine if_neg ?_; exact fun h => nomatch Equal_case h)
  | _ => cases b <;> rfl

end C09
