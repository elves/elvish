/-
Order laws of `Cmp` / `CmpTotal` (antisymmetry, transitivity, eq ⇒ equal,
totality, agreement).  Only lists recurse, so each law is an induction on the
left operand with the elements of a list as hypothesis.
-/
import ElvProofs.C09.CmpNormal

namespace C09
open C08 COrd Go

theorem _root_.C08.Val.listInduct {P : Val → Prop} (step : ∀ a, (∀ xs, a = .list xs → ∀ x ∈ xs, P x) → P a) :
    ∀ a, P a := by
  intro a
  induction a using Val.induct with
  | list xs ih => exact step _ fun _ e x hx => by cases e; exact ih x hx
  | _ => exact step _ fun _ e => nomatch e

def Shape.kind : Shape → Nat
  | .nil => 0 | .bool _ => 1 | .num _ => 2 | .str _ => 3 | .list _ => 4 | .other => 5

/-- `min … 5`: all identity kinds are one shape. -/
theorem shape_kind (a : Val) : (shape a).kind = min (typeTag a) 5 := by
  cases a <;> first | rfl | (simp only [typeTag, shape, Shape.kind]; split <;> omega)

theorem typeTag_kind {a b : Val} (h : typeTag a = typeTag b) : (shape a).kind = (shape b).kind := by
  rw [shape_kind, shape_kind, h]

theorem shape_list {a : Val} {xs : List Val} (h : shape a = .list xs) : a = .list xs := by
  cases a <;> simp [shape] at h; rw [h]

theorem flip_flip (o : COrd) : o.flip.flip = o := by cases o <;> rfl
theorem flip_eq_equal {o : COrd} : o.flip = equal ↔ o = equal := by cases o <;> simp [COrd.flip]
theorem flip_eq_unc {o : COrd} : o.flip = uncomparable ↔ o = uncomparable := by cases o <;> simp [COrd.flip]
theorem post_flip (t : Bool) (o : COrd) : post t o.flip = (post t o).flip := by
  cases t <;> cases o <;> rfl
theorem seq_less (o : COrd) : COrd.seq less o = less := rfl
theorem seq_equal (o : COrd) : COrd.seq equal o = o := rfl

theorem compareBool_flip (x y : Bool) : compareBool y x = (compareBool x y).flip := by
  cases x <;> cases y <;> rfl
theorem compareBool_trans (x y z : Bool) (h1 : (compareBool x y).isLE = true) (h2 : (compareBool y z).isLE = true) :
    compareBool x z = (compareBool x y).seq (compareBool y z) := by
  revert h1 h2; revert x y z; decide
theorem compareBool_ne_unc (x y : Bool) : compareBool x y ≠ uncomparable := by
  cases x <;> cases y <;> decide

theorem isLE_ne_unc {o : COrd} (h : o.isLE = true) : o ≠ uncomparable := by
  cases o <;> simp [COrd.isLE] at h ⊢

theorem lex_trans (o1 o2 o3 r1 r2 r3 : COrd)
    (T : o1.isLE = true → o2.isLE = true → o3 = o1.seq o2)
    (IH : r1.isLE = true → r2.isLE = true → r3 = r1.seq r2)
    (h1 : (if (o1 != equal) = true then o1 else r1).isLE = true)
    (h2 : (if (o2 != equal) = true then o2 else r2).isLE = true) :
    (if (o3 != equal) = true then o3 else r3) =
      (if (o1 != equal) = true then o1 else r1).seq (if (o2 != equal) = true then o2 else r2) := by
  cases o1 with
  | less =>
    cases o2 with
    | less => have := T rfl rfl; subst this; rfl
    | equal => have := T rfl rfl; subst this; rfl
    | more => simp [COrd.isLE] at h2
    | uncomparable => simp [COrd.isLE] at h2
  | equal =>
    cases o2 with
    | less =>
      have := T rfl rfl; subst this
      have h1' : r1.isLE = true := by simpa using h1
      revert h1'; cases r1 <;> simp [COrd.seq, COrd.isLE]
    | equal =>
      have := T rfl rfl; subst this
      have h1' : r1.isLE = true := by simpa using h1
      have h2' : r2.isLE = true := by simpa using h2
      simpa [COrd.seq] using IH h1' h2'
    | more => simp [COrd.isLE] at h2
    | uncomparable => simp [COrd.isLE] at h2
  | more => simp [COrd.isLE] at h1
  | uncomparable => simp [COrd.isLE] at h1

theorem equal_tag {a b : Val} (h : Equal a b = true) : typeTag a = typeTag b := by
  cases Equal_case h <;> rfl

theorem innerS_tag {rec : List Val → List Val → COrd} {a b : Val} (h : innerS rec a b ≠ uncomparable) :
    typeTag a = typeTag b := by
  cases a <;> cases b <;> first | rfl | exact absurd rfl h | skip
  all_goals
    apply equal_tag
    cases he : Equal _ _ with
    | true => rfl
    | false => exact absurd (if_neg (by rw [he]; decide)) h

theorem post_of_ne {t : Bool} {o : COrd} (h : o ≠ uncomparable) : post t o = o := by
  cases t <;> cases o <;> simp [post] at h ⊢

theorem post_false (o : COrd) : post false o = o := rfl

theorem post_true_ne (o : COrd) : post true o ≠ uncomparable := by cases o <;> simp [post]

section laws
variable {rank : Nat → Nat} {total : Bool}

theorem cmpG_total (a b : Val) : cmpG rank true a b ≠ uncomparable := by
  rw [cmpG_eq]
  split
  · exact natCmp.ne_uncomparable _ _
  · exact post_true_ne _

theorem cmpList_total : ∀ xs ys : List Val, cmpListG rank true xs ys ≠ uncomparable
  | [], [] => by simp [cmpListG]
  | [], _ :: _ => by simp [cmpListG]
  | _ :: _, [] => by simp [cmpListG]
  | x :: xs, y :: ys => by
    simp only [cmpListG]
    split
    · exact cmpG_total x y
    · exact cmpList_total xs ys

theorem post_list (xs ys : List Val) :
    post total (cmpListG rank total xs ys) = cmpListG rank total xs ys := by
  cases total with
  | false => rfl
  | true => exact post_of_ne (cmpList_total xs ys)

theorem cmpList_flip : ∀ xs ys : List Val,
    (∀ x ∈ xs, ∀ y ∈ ys, cmpG rank total y x = (cmpG rank total x y).flip) →
    cmpListG rank total ys xs = (cmpListG rank total xs ys).flip
  | [], [], _ => rfl
  | [], _ :: _, _ => rfl
  | _ :: _, [], _ => rfl
  | x :: xs, y :: ys, ih => by
    simp only [cmpListG]
    rw [ih x (by simp) y (by simp), cmpList_flip xs ys fun a ha b hb => ih a (by simp [ha]) b (by simp [hb])]
    cases cmpG rank total x y <;> simp [COrd.flip]

theorem innerS_flip {a b : Val} (wa : WF a) (wb : WF b)
    (ih : ∀ xs, a = .list xs → ∀ x ∈ xs, ∀ y, WF x → WF y → cmpG rank total y x = (cmpG rank total x y).flip) :
    innerS (cmpListG rank total) b a = (innerS (cmpListG rank total) a b).flip := by
  cases hsa : shape a <;> cases hsb : shape b <;> simp only [innerS, hsa, hsb] <;> try rfl
  · exact compareBool_flip _ _
  · exact NumVal.cmp_flip _ _
  · exact bytesCmp.flip _ _
  · cases shape_list hsa
    cases shape_list hsb
    exact cmpList_flip _ _ fun x hx y hy => ih _ rfl x hx y (WFList_iff.1 wa x hx) (WFList_iff.1 wb y hy)
  · rw [Equal_symm_eq wb wa]; split <;> rfl

theorem cmpG_flip (a b : Val) (wa : WF a) (wb : WF b) : cmpG rank total b a = (cmpG rank total a b).flip := by
  induction a using Val.listInduct generalizing b with
  | step a ih =>
    rw [cmpG_eq rank total b a, cmpG_eq rank total a b]
    have hty : tyCmp rank b a = (tyCmp rank a b).flip := natCmp.flip _ _
    rw [hty, innerS_flip wa wb ih, post_flip]
    cases total <;> cases h : tyCmp rank a b <;> simp [COrd.flip]

theorem cmpList_of_equal : ∀ xs ys : List Val,
    (∀ x ∈ xs, ∀ y, Equal x y = true → cmpG rank total x y = equal) →
    xs.length = ys.length → equalList xs ys = true → cmpListG rank total xs ys = equal
  | [], [], _, _, _ => rfl
  | [], _ :: _, _, hl, _ => by simp at hl
  | _ :: _, [], _, hl, _ => by simp at hl
  | x :: xs, y :: ys, ih, hl, he => by
    rw [equalList_cons, Bool.and_eq_true] at he
    simp only [cmpListG]
    rw [ih x (by simp) y he.1]
    exact cmpList_of_equal xs ys (fun a ha => ih a (by simp [ha])) (by simpa using hl) he.2

theorem cmpG_of_equal {a b : Val} (h : Equal a b = true) : cmpG rank total a b = equal := by
  induction a using Val.listInduct generalizing b with
  | step a ih =>
    rw [cmpG_eq]
    have hty : tyCmp rank a b = equal := by
      unfold tyCmp; rw [equal_tag h]; exact natCmp.self _
    have hin : innerS (cmpListG rank total) a b = equal := by
      cases Equal_case h with
      | nil => rfl
      | bool x => cases x <;> rfl
      | int x => exact NumVal.cmp_refl (.fin x)
      | bigint x => exact NumVal.cmp_refl (.fin x)
      | rat x => exact NumVal.cmp_refl (.fin x)
      | float => exact equal_num_cmp (a := .float _) (b := .float _) rfl rfl h
      | str x => exact bytesCmp.self _
      | list hl he => exact cmpList_of_equal _ _ (fun x hx y => ih _ rfl x hx) hl he
      | map => exact if_pos h
      | ref => exact if_pos h
    rw [hty, hin]
    cases total <;> rfl

theorem cmpList_trans : ∀ xs ys zs : List Val,
    (∀ x ∈ xs, ∀ y ∈ ys, ∀ z ∈ zs, (cmpG rank total x y).isLE = true → (cmpG rank total y z).isLE = true →
      cmpG rank total x z = (cmpG rank total x y).seq (cmpG rank total y z)) →
    (cmpListG rank total xs ys).isLE = true → (cmpListG rank total ys zs).isLE = true →
    cmpListG rank total xs zs = (cmpListG rank total xs ys).seq (cmpListG rank total ys zs)
  | [], [], [], _, _, _ => rfl
  | [], [], _ :: _, _, _, _ => rfl
  | [], _ :: _, [], _, _, h2 => by cases h2
  | [], _ :: _, _ :: _, _, _, _ => rfl
  | _ :: _, [], _, _, h1, _ => by cases h1
  | _ :: _, _ :: _, [], _, _, h2 => by cases h2
  | x :: xs, y :: ys, z :: zs, ih, h1, h2 => by
    simp only [cmpListG] at h1 h2 ⊢
    exact lex_trans _ _ _ _ _ _ (ih x (by simp) y (by simp) z (by simp))
      (cmpList_trans xs ys zs fun a ha b hb c hc => ih a (by simp [ha]) b (by simp [hb]) c (by simp [hc])) h1 h2

theorem inner_trans {a b c : Val} (wa : WF a) (wb : WF b) (wc : WF c)
    (ih : ∀ xs, a = .list xs → ∀ x ∈ xs, ∀ y z, WF x → WF y → WF z →
      (cmpG rank total x y).isLE = true → (cmpG rank total y z).isLE = true →
      cmpG rank total x z = (cmpG rank total x y).seq (cmpG rank total y z))
    (k1 : (shape a).kind = (shape b).kind) (k2 : (shape b).kind = (shape c).kind)
    (h1 : (post total (innerS (cmpListG rank total) a b)).isLE = true)
    (h2 : (post total (innerS (cmpListG rank total) b c)).isLE = true) :
    post total (innerS (cmpListG rank total) a c) =
      (post total (innerS (cmpListG rank total) a b)).seq (post total (innerS (cmpListG rank total) b c)) := by
  cases hsa : shape a <;> cases hsb : shape b <;> simp [hsa, hsb, Shape.kind] at k1 <;>
    cases hsc : shape c <;> simp [hsb, hsc, Shape.kind] at k2 <;>
    simp only [innerS, hsa, hsb, hsc] at h1 h2 ⊢
  · cases total <;> rfl
  · simp only [post_of_ne (compareBool_ne_unc _ _)] at h1 h2 ⊢
    exact compareBool_trans _ _ _ h1 h2
  · simp only [post_of_ne (NumVal.cmp_ne_uncomparable _ _)] at h1 h2 ⊢
    exact NumVal.cmp_trans _ _ _ h1 h2
  · simp only [post_of_ne (bytesCmp.ne_uncomparable _ _)] at h1 h2 ⊢
    exact bytesCmp.trans _ _ _ h1 h2
  · cases shape_list hsa
    cases shape_list hsb
    cases shape_list hsc
    simp only [post_list] at h1 h2 ⊢
    exact cmpList_trans _ _ _ (fun x hx y hy z hz =>
      ih _ rfl x hx y z (WFList_iff.1 wa x hx) (WFList_iff.1 wb y hy) (WFList_iff.1 wc z hz)) h1 h2
  · cases total with
    | true => cases Equal a b <;> cases Equal b c <;> cases Equal a c <;> rfl
    | false =>
      simp only [post_false] at h1 h2 ⊢
      have e1 : Equal a b = true := by
        cases h : Equal a b with
        | true => rfl
        | false => simp [h, COrd.isLE] at h1
      have e2 : Equal b c = true := by
        cases h : Equal b c with
        | true => rfl
        | false => simp [h, COrd.isLE] at h2
      simp [e1, e2, Equal_trans wa wb wc e1 e2, COrd.seq]

theorem cmpG_trans (hinj : total = true → ∀ s t, rank s = rank t → s = t) (a b c : Val)
    (wa : WF a) (wb : WF b) (wc : WF c)
    (h1 : (cmpG rank total a b).isLE = true) (h2 : (cmpG rank total b c).isLE = true) :
    cmpG rank total a c = (cmpG rank total a b).seq (cmpG rank total b c) := by
  induction a using Val.listInduct generalizing b c with
  | step a ih =>
    rw [cmpG_eq] at h1 h2 ⊢
    rw [cmpG_eq rank total a b, cmpG_eq rank total b c]
    cases ht : total with
    | false =>
      subst ht
      simp only [Bool.false_and, Bool.false_eq_true, if_false] at h1 h2 ⊢
      have k1 := typeTag_kind (innerS_tag (isLE_ne_unc h1))
      have k2 := typeTag_kind (innerS_tag (isLE_ne_unc h2))
      exact inner_trans wa wb wc ih k1 k2 h1 h2
    | true =>
      subst ht
      simp only [Bool.true_and] at h1 h2 ⊢
      unfold tyCmp at h1 h2 ⊢
      generalize hra : rank (typeTag a) = ra at h1 h2 ⊢
      generalize hrb : rank (typeTag b) = rb at h1 h2 ⊢
      generalize hrc : rank (typeTag c) = rc at h1 h2 ⊢
      rcases Nat.lt_trichotomy ra rb with hab | hab | hab
      · rw [natCmp.of_lt hab] at h1 ⊢
        rcases Nat.lt_trichotomy rb rc with hbc | hbc | hbc
        · rw [natCmp.of_lt hbc, natCmp.of_lt (Nat.lt_trans hab hbc)]; rfl
        · subst hbc; rw [natCmp.of_lt hab]; simp [COrd.seq]
        · rw [natCmp.of_gt hbc] at h2; simp [COrd.isLE] at h2
      · subst hab
        rw [natCmp.self] at h1 ⊢
        rcases Nat.lt_trichotomy ra rc with hbc | hbc | hbc
        · rw [natCmp.of_lt hbc] at h2 ⊢
          simp only [bne_self_eq_false, Bool.false_eq_true, if_false] at h1 ⊢
          simp [isLE_seq_less h1]
        · subst hbc
          rw [natCmp.self] at h2 ⊢
          simp only [bne_self_eq_false, Bool.false_eq_true, if_false] at h1 h2 ⊢
          have t1 : typeTag a = typeTag b := hinj rfl _ _ (hra.trans hrb.symm)
          have t2 : typeTag b = typeTag c := hinj rfl _ _ (hrb.trans hrc.symm)
          exact inner_trans wa wb wc ih (typeTag_kind t1) (typeTag_kind t2) h1 h2
        · rw [natCmp.of_gt hbc] at h2; simp [COrd.isLE] at h2
      · rw [natCmp.of_gt hab] at h1; simp [COrd.isLE] at h1

end laws

theorem Cmp_eq (a b : Val) : Cmp a b = innerS (cmpListG id false) a b :=
  cmpG_eq id false a b

theorem cmpList_agree {r r' : Nat → Nat} : ∀ xs ys : List Val,
    (∀ x ∈ xs, ∀ y, cmpG r' false x y ≠ uncomparable → cmpG r true x y = cmpG r' false x y) →
    cmpListG r' false xs ys ≠ uncomparable → cmpListG r true xs ys = cmpListG r' false xs ys
  | [], [], _, _ => rfl
  | [], _ :: _, _, _ => rfl
  | _ :: _, [], _, _ => rfl
  | x :: xs, y :: ys, ih, h => by
    simp only [cmpListG] at h ⊢
    by_cases he : cmpG r' false x y = equal
    · rw [ih x (by simp) y (by rw [he]; decide), he]
      rw [he] at h
      exact cmpList_agree xs ys (fun a ha => ih a (by simp [ha])) h
    · have hne : (cmpG r' false x y != equal) = true := by simpa using he
      rw [if_pos hne] at h
      rw [ih x (by simp) y h, if_pos hne, if_pos hne]

theorem cmpG_agree (r r' : Nat → Nat) (a b : Val) (h : cmpG r' false a b ≠ uncomparable) :
    cmpG r true a b = cmpG r' false a b := by
  induction a using Val.listInduct generalizing b with
  | step a ih =>
    rw [cmpG_eq] at h ⊢
    rw [cmpG_eq r' false a b]
    simp only [Bool.false_and, Bool.false_eq_true, if_false, post_false] at h ⊢
    have hty : tyCmp r a b = equal := by unfold tyCmp; rw [innerS_tag h]; exact natCmp.self _
    simp only [hty, bne_self_eq_false, Bool.and_false, Bool.false_eq_true, if_false]
    have hin : innerS (cmpListG r true) a b = innerS (cmpListG r' false) a b := by
      cases hsa : shape a <;> cases hsb : shape b <;> simp only [innerS, hsa, hsb] at h ⊢
      cases shape_list hsa
      exact cmpList_agree _ _ (fun x hx y => ih _ rfl x hx y) h
    rw [hin]
    exact post_of_ne h

theorem cmpList_rank_irrelevant {r r' : Nat → Nat} : ∀ xs ys : List Val,
    (∀ x ∈ xs, ∀ y, cmpG r false x y = cmpG r' false x y) →
    cmpListG r false xs ys = cmpListG r' false xs ys
  | [], [], _ => rfl
  | [], _ :: _, _ => rfl
  | _ :: _, [], _ => rfl
  | x :: xs, y :: ys, ih => by
    simp only [cmpListG]
    rw [ih x (by simp) y, cmpList_rank_irrelevant xs ys fun a ha => ih a (by simp [ha])]

theorem cmpG_rank_irrelevant (r r' : Nat → Nat) (a b : Val) : cmpG r false a b = cmpG r' false a b := by
  induction a using Val.listInduct generalizing b with
  | step a ih =>
    rw [cmpG_eq, cmpG_eq r' false a b]
    simp only [Bool.false_and, Bool.false_eq_true, if_false, post_false]
    cases hsa : shape a <;> cases hsb : shape b <;> simp only [innerS, hsa, hsb]
    cases shape_list hsa
    exact cmpList_rank_irrelevant _ _ fun x hx y => ih _ rfl x hx y

theorem cmpG_false_rank (r r' : Nat → Nat) : ∀ n (a b : Val), sizeOf a ≤ n → sizeOf b ≤ n →
    cmpG r false a b = cmpG r' false a b :=
  fun _ a b _ _ => cmpG_rank_irrelevant r r' a b

end C09
