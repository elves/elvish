/-
Numbers: `NumVal.cmp` is a total preorder; `cmpNum` (fixed tree:
`UnifyNums2ForCmp`) and the builtins `<`, `<=`, `==` compare by mathematical value.
-/
import ElvProofs.C09.FloatOrder
import ElvProofs.C08.EqualBasic

namespace C09
open C08 COrd

/-- `c` is the three-way comparison (`compareBuiltin`) of the strict total order `lt`. -/
structure ThreeWay {α : Type} (c : α → α → COrd) (lt : α → α → Prop) : Prop where
  irrefl : ∀ a, ¬ lt a a
  lt_trans : ∀ {a b c}, lt a b → lt b c → lt a c
  tri : ∀ a b, lt a b ∨ a = b ∨ lt b a
  of_lt : ∀ {a b}, lt a b → c a b = less
  of_gt : ∀ {a b}, lt b a → c a b = more
  self : ∀ a, c a a = equal

namespace ThreeWay
variable {α : Type} {c : α → α → COrd} {lt : α → α → Prop} (T : ThreeWay c lt)
include T

theorem flip (a b : α) : c b a = (c a b).flip := by
  rcases T.tri a b with h | rfl | h
  · rw [T.of_lt h, T.of_gt h]; rfl
  · rw [T.self]; rfl
  · rw [T.of_gt h, T.of_lt h]; rfl

theorem ne_uncomparable (a b : α) : c a b ≠ uncomparable := by
  rcases T.tri a b with h | rfl | h
  · rw [T.of_lt h]; decide
  · rw [T.self]; decide
  · rw [T.of_gt h]; decide

theorem eq_less {a b : α} : c a b = less ↔ lt a b := by
  refine ⟨fun hc => ?_, T.of_lt⟩
  rcases T.tri a b with h | rfl | h
  · exact h
  · rw [T.self] at hc; cases hc
  · rw [T.of_gt h] at hc; cases hc

theorem eq_equal {a b : α} : c a b = equal ↔ a = b := by
  refine ⟨fun hc => ?_, fun h => h ▸ T.self a⟩
  rcases T.tri a b with h | h | h
  · rw [T.of_lt h] at hc; cases hc
  · exact h
  · rw [T.of_gt h] at hc; cases hc

theorem isLE {a b : α} (h : (c a b).isLE = true) : lt a b ∨ a = b := by
  rcases T.tri a b with h' | h' | h'
  · exact Or.inl h'
  · exact Or.inr h'
  · rw [T.of_gt h'] at h; cases h

theorem trans (a b d : α) (h1 : (c a b).isLE = true) (h2 : (c b d).isLE = true) :
    c a d = (c a b).seq (c b d) := by
  rcases T.isLE h1 with h | rfl
  · rcases T.isLE h2 with h' | rfl
    · rw [T.of_lt h, T.of_lt h', T.of_lt (T.lt_trans h h')]; rfl
    · rw [T.of_lt h, T.self]; rfl
  · rw [T.self]; rfl

end ThreeWay

/-- the `if a < b … else if a > b … else …` of `compareBuiltin`. -/
theorem ThreeWay.of_ite {α : Type} {lt : α → α → Prop} [DecidableRel lt] (irrefl : ∀ a, ¬ lt a a)
    (lt_trans : ∀ {a b c}, lt a b → lt b c → lt a c) (tri : ∀ a b, lt a b ∨ a = b ∨ lt b a) :
    ThreeWay (fun a b => if lt a b then less else if lt b a then more else equal) lt where
  irrefl := irrefl
  lt_trans := lt_trans
  tri := tri
  of_lt h := if_pos h
  of_gt h := by
    have : ¬ lt _ _ := fun h' => irrefl _ (lt_trans h h')
    simp only [if_neg this, if_pos h]
  self a := by simp only [if_neg (irrefl a)]

theorem natCmp : ThreeWay compareNat (· < ·) := .of_ite Nat.lt_irrefl Nat.lt_trans Nat.lt_trichotomy
theorem intCmp : ThreeWay compareInt (· < ·) := .of_ite Int.lt_irrefl Int.lt_trans Int.lt_trichotomy
theorem ratCmp : ThreeWay compareRat (· < ·) := .of_ite (by grind) (by grind) (by grind)

theorem compareNat_eq_less {a b : Nat} : compareNat a b = less ↔ a < b :=
  natCmp.eq_less

theorem compareInt_flip (a b : Int) : compareInt b a = (compareInt a b).flip :=
  intCmp.flip a b

theorem compareInt_trans (a b c : Int) (h1 : (compareInt a b).isLE = true) (h2 : (compareInt b c).isLE = true) :
    compareInt a c = (compareInt a b).seq (compareInt b c) :=
  intCmp.trans a b c h1 h2

theorem compareInt_ne_uncomparable (a b : Int) : compareInt a b ≠ uncomparable :=
  intCmp.ne_uncomparable a b

theorem compareInt_eq_compareRat (i j : Int) : compareInt i j = compareRat (i : Rat) (j : Rat) := by
  unfold compareInt compareRat
  simp only [GT.gt, Rat.intCast_lt_intCast]

theorem isLE_iff (o : COrd) : o.isLE = true ↔ o = less ∨ o = equal := by
  cases o <;> simp [COrd.isLE]

theorem isLE_seq_less {o : COrd} (h : o.isLE = true) : COrd.seq o less = less := by
  cases o <;> simp [COrd.isLE] at h <;> rfl

theorem NumVal.cmp_fin (p q : Rat) : NumVal.cmp (.fin p) (.fin q) = compareRat p q := rfl

theorem NumVal.cmp_of_cls {x y : NumVal} (h : x.cls ≠ 2 ∨ y.cls ≠ 2) : NumVal.cmp x y = compareNat x.cls y.cls := by
  cases x <;> cases y <;> first | rfl | simp [NumVal.cls] at h

theorem NumVal.of_cls_two {x : NumVal} (h : x.cls = 2) : ∃ q, x = .fin q := by
  cases x <;> first | exact ⟨_, rfl⟩ | cases h

theorem NumVal.cmp_cls_lt {x y : NumVal} (h : x.cls < y.cls) : NumVal.cmp x y = less := by
  rw [NumVal.cmp_of_cls (by omega)]
  exact natCmp.of_lt h

theorem NumVal.cmp_ne_uncomparable (x y : NumVal) : NumVal.cmp x y ≠ uncomparable := by
  cases x <;> cases y <;> first | exact natCmp.ne_uncomparable _ _ | exact ratCmp.ne_uncomparable _ _

theorem NumVal.cmp_flip (x y : NumVal) : NumVal.cmp y x = (NumVal.cmp x y).flip := by
  cases x <;> cases y <;> first | exact natCmp.flip _ _ | exact ratCmp.flip _ _

theorem NumVal.cmp_refl (x : NumVal) : NumVal.cmp x x = equal := by
  cases x <;> first | exact natCmp.self _ | exact ratCmp.self _

theorem NumVal.cmp_cls_le {x y : NumVal} (h : (NumVal.cmp x y).isLE = true) : x.cls ≤ y.cls := by
  rcases Nat.lt_or_ge y.cls x.cls with hlt | hge
  · rw [NumVal.cmp_flip y x, NumVal.cmp_cls_lt hlt] at h
    cases h
  · exact hge

theorem NumVal.cmp_trans (x y z : NumVal) (h1 : (NumVal.cmp x y).isLE = true) (h2 : (NumVal.cmp y z).isLE = true) :
    NumVal.cmp x z = (NumVal.cmp x y).seq (NumVal.cmp y z) := by
  have c1 := NumVal.cmp_cls_le h1
  have c2 := NumVal.cmp_cls_le h2
  rcases Nat.lt_or_ge x.cls y.cls with hxy | hxy
  · rw [NumVal.cmp_cls_lt hxy, NumVal.cmp_cls_lt (by omega : x.cls < z.cls)]; rfl
  · rcases Nat.lt_or_ge y.cls z.cls with hyz | hyz
    · rw [NumVal.cmp_cls_lt hyz, NumVal.cmp_cls_lt (by omega : x.cls < z.cls), isLE_seq_less h1]
    · -- one class: three rationals, or the comparison of the classes
      by_cases hx : x.cls = 2
      · obtain ⟨p, rfl⟩ := NumVal.of_cls_two hx
        obtain ⟨q, rfl⟩ := NumVal.of_cls_two (x := y) (by omega)
        obtain ⟨r, rfl⟩ := NumVal.of_cls_two (x := z) (by omega)
        exact ratCmp.trans p q r h1 h2
      · have hy : y.cls ≠ 2 := by omega
        rw [NumVal.cmp_of_cls (.inl hx)] at h1 ⊢
        rw [NumVal.cmp_of_cls (.inl hy)] at h2 ⊢
        rw [NumVal.cmp_of_cls (.inl hx)]
        exact natCmp.trans _ _ _ h1 h2

theorem compareRat_toRat (x y : UInt64) :
    compareRat (F64.toRat x) (F64.toRat y) = compareInt (F64.key x) (F64.key y) := by
  unfold compareRat compareInt
  simp only [GT.gt, toRat_lt_iff]

theorem F64.val_cases (b : UInt64) (h : F64.isNaN b = false) :
    (F64.val b = .negInf ∧ F64.key b = -(F64.expInf : Int) ∧ F64.mag b = F64.expInf) ∨
    (F64.val b = .fin (F64.toRat b) ∧ -(F64.expInf : Int) < F64.key b ∧ F64.key b < (F64.expInf : Int) ∧
      F64.mag b < F64.expInf) ∨
    (F64.val b = .posInf ∧ F64.key b = (F64.expInf : Int) ∧ F64.mag b = F64.expInf) := by
  have hm : F64.mag b ≤ F64.expInf := by
    unfold F64.isNaN at h; simpa using h
  by_cases hi : F64.isInf b = true
  · have hme : F64.mag b = F64.expInf := by simpa [F64.isInf] using hi
    by_cases hn : F64.neg b = true
    · left
      exact ⟨by simp [F64.val, h, hi, hn], by simp [F64.key, hn, hme], hme⟩
    · right; right
      exact ⟨by simp [F64.val, h, hi, hn], by simp [F64.key, hn, hme], hme⟩
  · have hme : F64.mag b ≠ F64.expInf := by simpa [F64.isInf] using hi
    right; left
    refine ⟨by simp [F64.val, h, hi], ?_, ?_, by omega⟩
    · unfold F64.key; split <;> omega
    · unfold F64.key; split <;> omega

theorem F64.val_cls_ne_zero (b : UInt64) : (F64.val b).cls ≠ 0 ↔ F64.isNaN b = false := by
  cases h : F64.isNaN b with
  | false =>
    simp only [iff_true]
    rcases F64.val_cases b h with ⟨v, _⟩ | ⟨v, _⟩ | ⟨v, _⟩ <;> rw [v] <;> simp [NumVal.cls]
  | true => simp [F64.val, h, NumVal.cls]

theorem compareFloat_nonNaN {x y : UInt64} (hx : F64.isNaN x = false) (hy : F64.isNaN y = false) :
    compareFloat x y = compareInt (F64.key x) (F64.key y) := by
  unfold compareFloat F64.lt compareInt
  simp [hx, hy, GT.gt]

theorem compareFloat_eq (x y : UInt64) : compareFloat x y = NumVal.cmp (F64.val x) (F64.val y) := by
  cases hx : F64.isNaN x with
  | true =>
    have vx : F64.val x = .nan := by simp [F64.val, hx]
    cases hy : F64.isNaN y with
    | true =>
      have vy : F64.val y = .nan := by simp [F64.val, hy]
      simp [compareFloat, hx, hy, vx, vy, NumVal.cmp_refl]
    | false =>
      have : (F64.val y).cls ≠ 0 := (F64.val_cls_ne_zero y).2 hy
      rw [vx, NumVal.cmp_cls_lt (x := .nan) (y := F64.val y) (Nat.pos_of_ne_zero this)]
      simp [compareFloat, hx, hy]
  | false =>
    cases hy : F64.isNaN y with
    | true =>
      have vy : F64.val y = .nan := by simp [F64.val, hy]
      have : (F64.val x).cls ≠ 0 := (F64.val_cls_ne_zero x).2 hx
      rw [NumVal.cmp_flip, vy, NumVal.cmp_cls_lt (x := .nan) (y := F64.val x) (Nat.pos_of_ne_zero this)]
      simp [compareFloat, hx, hy, COrd.flip]
    | false =>
      rw [compareFloat_nonNaN hx hy]
      rcases F64.val_cases x hx with ⟨vx, kx, _⟩ | ⟨vx, kx1, kx2, _⟩ | ⟨vx, kx, _⟩ <;>
      rcases F64.val_cases y hy with ⟨vy, ky, _⟩ | ⟨vy, ky1, ky2, _⟩ | ⟨vy, ky, _⟩ <;> rw [vx, vy]
      · rw [kx, ky, intCmp.self, NumVal.cmp_refl]
      · rw [intCmp.of_lt (by omega), NumVal.cmp_cls_lt (by simp [NumVal.cls])]
      · rw [intCmp.of_lt (by rw [kx, ky]; decide), NumVal.cmp_cls_lt (by decide)]
      · rw [intCmp.of_gt (by omega), NumVal.cmp_flip, NumVal.cmp_cls_lt (by simp [NumVal.cls])]; rfl
      · rw [NumVal.cmp_fin, compareRat_toRat]
      · rw [intCmp.of_lt (by omega), NumVal.cmp_cls_lt (by simp [NumVal.cls])]
      · rw [intCmp.of_gt (by rw [kx, ky]; decide), NumVal.cmp_flip, NumVal.cmp_cls_lt (by decide)]; rfl
      · rw [intCmp.of_gt (by omega), NumVal.cmp_flip, NumVal.cmp_cls_lt (by simp [NumVal.cls])]; rfl
      · rw [kx, ky, intCmp.self, NumVal.cmp_refl]

theorem F64.isFinite_iff (b : UInt64) : F64.isFinite b = true ↔ (F64.val b).cls = 2 := by
  cases h : F64.isNaN b with
  | false =>
    rcases F64.val_cases b h with ⟨v, _, m⟩ | ⟨v, _, _, m⟩ | ⟨v, _, m⟩ <;> rw [v] <;>
      simp [NumVal.cls, F64.isFinite, m]
  | true =>
    have : F64.expInf < F64.mag b := by simpa [F64.isNaN] using h
    simp [F64.val, h, NumVal.cls, F64.isFinite]
    omega

theorem F64.val_of_finite {b : UInt64} (h : F64.isFinite b = true) : F64.val b = .fin (F64.toRat b) := by
  have hm : F64.mag b < F64.expInf := by simpa [F64.isFinite] using h
  have h1 : F64.isNaN b = false := by simp [F64.isNaN]; omega
  have h2 : F64.isInf b = false := by simp [F64.isInf]; omega
  simp [F64.val, h1, h2]

theorem F64.val_zero : ∃ z : Rat, F64.val 0 = .fin z := ⟨_, F64.val_of_finite (by decide)⟩

theorem numVal_cases {a : Val} {x : NumVal} (h : numVal a = some x) :
    (∃ i, a = .int i ∧ x = .fin (i : Rat)) ∨ (∃ i, a = .bigint i ∧ x = .fin (i : Rat)) ∨
    (∃ r, a = .rat r ∧ x = .fin r) ∨ (∃ b, a = .float b ∧ x = F64.val b) := by
  cases a <;> simp [numVal] at h
  · exact Or.inl ⟨_, rfl, h.symm⟩
  · exact Or.inr (Or.inl ⟨_, rfl, h.symm⟩)
  · exact Or.inr (Or.inr (Or.inl ⟨_, rfl, h.symm⟩))
  · exact Or.inr (Or.inr (Or.inr ⟨_, rfl, h.symm⟩))

theorem numVal_isSome (a : Val) : (numVal a).isSome = isNum a := by
  cases a <;> rfl

theorem not_num {a : Val} (h : numVal a = none) :
    numType a = none ∧ promoteToBigRat a = none ∧ ∀ u, a ≠ .float u := by
  cases a <;> first | exact ⟨rfl, rfl, fun _ h => nomatch h⟩ | cases h

/-- `none`: `UnifyNums2ForCmp` + dispatch on a non-number is a Go panic. -/
theorem unifyNums2And_eq_none {α : Type} (fInt fBigInt : Int → Int → α) (fRat : Rat → Rat → α)
    (fFloat : UInt64 → UInt64 → α) {a b : Val} (h : numVal a = none ∨ numVal b = none) :
    unifyNums2And a b fInt fBigInt fRat fFloat = none := by
  unfold unifyNums2And
  split
  · rcases h with h | h <;> cases h
  · rcases h with h | h
    · cases h
    · rw [(not_num h).1, (not_num h).2.1]
      split <;> rfl
  · rcases h with h | h
    · rw [(not_num h).1, (not_num h).2.1]
      split <;> rfl
    · cases h
  · unfold unifyNums2AndOld
    rcases h with h | h
    · rw [(not_num h).1]; rfl
    · rw [(not_num h).1]; cases numType a <;> rfl

theorem cmpNum_eq_none {a b : Val} (h : numVal a = none ∨ numVal b = none) : cmpNum a b = none :=
  unifyNums2And_eq_none _ _ _ _ h

attribute [local irreducible] F64.toRat

/-- `UnifyNums2ForCmp` + dispatch computes any function of the two mathematical
values whose four per-type implementations agree with it. -/
theorem unifyNums2And_spec {α : Type} (G : NumVal → NumVal → α)
    (fInt fBigInt : Int → Int → α) (fRat : Rat → Rat → α) (fFloat : UInt64 → UInt64 → α)
    (hI : ∀ i j : Int, fInt i j = G (.fin (i : Rat)) (.fin (j : Rat)))
    (hB : ∀ i j : Int, fBigInt i j = G (.fin (i : Rat)) (.fin (j : Rat)))
    (hR : ∀ p q : Rat, fRat p q = G (.fin p) (.fin q))
    (hF : ∀ u v : UInt64, fFloat u v = G (F64.val u) (F64.val v))
    (hcl : ∀ (x : NumVal) (p q : Rat), x.cls ≠ 2 → G x (.fin p) = G x (.fin q) ∧ G (.fin p) x = G (.fin q) x)
    {a b : Val} {x y : NumVal} (ha : numVal a = some x) (hb : numVal b = some y) :
    unifyNums2And a b fInt fBigInt fRat fFloat = some (G x y) := by
  -- a float next to an exact number of value `r`: exact comparison if finite,
  -- otherwise the exact number may be replaced by 0.0
  have mixL : ∀ (u : UInt64) (r : Rat) (t : Option Nat), t.isSome = true →
      (if F64.isFinite u then (some r).map fun r => fRat (F64.toRat u) r
        else t.map fun _ => fFloat u 0) = some (G (F64.val u) (.fin r)) := by
    intro u r t ht
    obtain ⟨_, rfl⟩ := Option.isSome_iff_exists.1 ht
    by_cases hf : F64.isFinite u = true
    · rw [if_pos hf, F64.val_of_finite hf]; exact congrArg some (hR _ _)
    · obtain ⟨z, hz⟩ := F64.val_zero
      rw [if_neg hf, Option.map_some, hF, hz, (hcl _ z r fun h => hf ((F64.isFinite_iff u).2 h)).1]
  have mixR : ∀ (u : UInt64) (r : Rat) (t : Option Nat), t.isSome = true →
      (if F64.isFinite u then (some r).map fun r => fRat r (F64.toRat u)
        else t.map fun _ => fFloat 0 u) = some (G (.fin r) (F64.val u)) := by
    intro u r t ht
    obtain ⟨_, rfl⟩ := Option.isSome_iff_exists.1 ht
    by_cases hf : F64.isFinite u = true
    · rw [if_pos hf, F64.val_of_finite hf]; exact congrArg some (hR _ _)
    · obtain ⟨z, hz⟩ := F64.val_zero
      rw [if_neg hf, Option.map_some, hF, hz, (hcl _ z r fun h => hf ((F64.isFinite_iff u).2 h)).2]
  rcases numVal_cases ha with ⟨i, rfl, rfl⟩ | ⟨i, rfl, rfl⟩ | ⟨r, rfl, rfl⟩ | ⟨u, rfl, rfl⟩ <;>
  rcases numVal_cases hb with ⟨j, rfl, rfl⟩ | ⟨j, rfl, rfl⟩ | ⟨q, rfl, rfl⟩ | ⟨v, rfl, rfl⟩
  -- the dispatch table: left operand int, big int, rational, float
  · exact congrArg some (hI i j)
  · exact congrArg some (hB i j)
  · exact congrArg some (hR i q)
  · exact mixR v i (some 0) rfl
  · exact congrArg some (hB i j)
  · exact congrArg some (hB i j)
  · exact congrArg some (hR i q)
  · exact mixR v i (some 1) rfl
  · exact congrArg some (hR r j)
  · exact congrArg some (hR r j)
  · exact congrArg some (hR r q)
  · exact mixR v r (some 2) rfl
  · exact mixL u j (some 0) rfl
  · exact mixL u j (some 1) rfl
  · exact mixL u q (some 2) rfl
  · exact congrArg some (hF u v)

theorem cmpNum_by_value {a b : Val} {x y : NumVal} (ha : numVal a = some x) (hb : numVal b = some y) :
    cmpNum a b = some (NumVal.cmp x y) := by
  unfold cmpNum
  refine unifyNums2And_spec NumVal.cmp _ _ _ _ ?_ ?_ ?_ compareFloat_eq ?_ ha hb
  · intro i j; rw [compareInt_eq_compareRat]; rfl
  · intro i j; rw [compareInt_eq_compareRat]; rfl
  · intro p q; rfl
  · intro x p q hx
    constructor
    · rw [NumVal.cmp_of_cls (Or.inl hx), NumVal.cmp_of_cls (Or.inl hx)]; rfl
    · rw [NumVal.cmp_of_cls (Or.inr hx), NumVal.cmp_of_cls (Or.inr hx)]; rfl

theorem cmpNum_eq (a b : Val) :
    cmpNum a b = (numVal a).bind fun x => (numVal b).map fun y => NumVal.cmp x y := by
  cases ha : numVal a with
  | none => exact cmpNum_eq_none (.inl ha)
  | some x =>
    cases hb : numVal b with
    | none => exact cmpNum_eq_none (.inr hb)
    | some y => exact cmpNum_by_value ha hb

theorem equal_num_cmp {a b : Val} {x y : NumVal} (ha : numVal a = some x) (hb : numVal b = some y)
    (h : Equal a b = true) : NumVal.cmp x y = equal := by
  cases Equal_case h with
  | float hf =>
    cases ha; cases hb
    rw [← compareFloat_eq]
    unfold F64.eq at hf
    simp only [Bool.and_eq_true, Bool.not_eq_true', beq_iff_eq] at hf
    rw [compareFloat_nonNaN hf.1.1 hf.1.2, hf.2, intCmp.self]
  | _ =>
    cases ha.symm.trans hb
    exact NumVal.cmp_refl _

theorem chain_pair (pInt : Int → Int → Bool) (pRat : Rat → Rat → Bool) (pF : UInt64 → UInt64 → Bool) (a b : Val) :
    chainCompareNums pInt pRat pF [a, b] = unifyNums2And a b pInt pInt pRat pF := by
  simp only [chainCompareNums]
  cases unifyNums2And a b pInt pInt pRat pF with
  | none => rfl
  | some r => cases r <;> rfl

/-- the result shape shared by `<`, `<=`, `==`: false with a NaN operand. -/
def numPred (g : COrd → Bool) (x y : NumVal) : Bool :=
  decide (x.cls ≠ 0) && decide (y.cls ≠ 0) && g (NumVal.cmp x y)

theorem numPred_cls (g : COrd → Bool) (x : NumVal) (p q : Rat) (hx : x.cls ≠ 2) :
    numPred g x (.fin p) = numPred g x (.fin q) ∧ numPred g (.fin p) x = numPred g (.fin q) x := by
  unfold numPred
  constructor
  · rw [NumVal.cmp_of_cls (Or.inl hx), NumVal.cmp_of_cls (Or.inl hx)]; rfl
  · rw [NumVal.cmp_of_cls (Or.inr hx), NumVal.cmp_of_cls (Or.inr hx)]; rfl

theorem numPred_float (g : COrd → Bool) (pF : UInt64 → UInt64 → Bool)
    (h : ∀ u v, pF u v = (!F64.isNaN u && !F64.isNaN v && g (compareInt (F64.key u) (F64.key v)))) (u v : UInt64) :
    pF u v = numPred g (F64.val u) (F64.val v) := by
  rw [h]
  unfold numPred
  cases hu : F64.isNaN u with
  | true =>
    have : (F64.val u).cls = 0 := by simp [F64.val, hu, NumVal.cls]
    simp [this]
  | false =>
    cases hv : F64.isNaN v with
    | true =>
      have : (F64.val v).cls = 0 := by simp [F64.val, hv, NumVal.cls]
      simp [this]
    | false =>
      have h1 := (F64.val_cls_ne_zero u).2 hu
      have h2 := (F64.val_cls_ne_zero v).2 hv
      simp [h1, h2, ← compareFloat_eq, compareFloat_nonNaN hu hv]

theorem numPred_fin (g : COrd → Bool) (p q : Rat) : numPred g (.fin p) (.fin q) = g (compareRat p q) := by
  simp [numPred, NumVal.cls, NumVal.cmp]

theorem builtin_pair (g : COrd → Bool) (pInt : Int → Int → Bool) (pRat : Rat → Rat → Bool) (pF : UInt64 → UInt64 → Bool)
    (hI : ∀ i j, pInt i j = g (compareInt i j)) (hR : ∀ p q, pRat p q = g (compareRat p q))
    (hF : ∀ u v, pF u v = (!F64.isNaN u && !F64.isNaN v && g (compareInt (F64.key u) (F64.key v))))
    {a b : Val} {x y : NumVal} (ha : numVal a = some x) (hb : numVal b = some y) :
    chainCompareNums pInt pRat pF [a, b] = some (numPred g x y) := by
  rw [chain_pair]
  refine unifyNums2And_spec (numPred g) _ _ _ _ ?_ ?_ ?_ (numPred_float g pF hF) (numPred_cls g) ha hb
  · intro i j; rw [numPred_fin, hI, compareInt_eq_compareRat]
  · intro i j; rw [numPred_fin, hI, compareInt_eq_compareRat]
  · intro p q; rw [numPred_fin, hR]

theorem builtinLt_pair {a b : Val} {x y : NumVal} (ha : numVal a = some x) (hb : numVal b = some y) :
    builtinLt [a, b] = some (decide (x.cls ≠ 0 ∧ y.cls ≠ 0 ∧ NumVal.cmp x y = less)) := by
  unfold builtinLt
  rw [builtin_pair (fun o => o == less) _ _ _ ?_ ?_ ?_ ha hb]
  · congr 1; rw [Bool.eq_iff_iff]; simp [numPred, and_assoc]
  · intro i j; rw [Bool.eq_iff_iff]; simp [intCmp.eq_less]
  · intro p q; rw [Bool.eq_iff_iff]; simp [ratCmp.eq_less]
  · intro u v; rw [Bool.eq_iff_iff]; simp [F64.lt, intCmp.eq_less]

theorem builtinEqNum_pair {a b : Val} {x y : NumVal} (ha : numVal a = some x) (hb : numVal b = some y) :
    builtinEqNum [a, b] = some (decide (x.cls ≠ 0 ∧ y.cls ≠ 0 ∧ NumVal.cmp x y = equal)) := by
  unfold builtinEqNum
  rw [builtin_pair (fun o => o == equal) _ _ _ ?_ ?_ ?_ ha hb]
  · congr 1; rw [Bool.eq_iff_iff]; simp [numPred, and_assoc]
  · intro i j; rw [Bool.eq_iff_iff]; simp [intCmp.eq_equal]
  · intro p q; rw [Bool.eq_iff_iff]; simp [ratCmp.eq_equal]
  · intro u v; rw [Bool.eq_iff_iff]; simp [F64.eq, intCmp.eq_equal]

theorem builtinLe_pair {a b : Val} {x y : NumVal} (ha : numVal a = some x) (hb : numVal b = some y) :
    builtinLe [a, b] = some (decide (x.cls ≠ 0 ∧ y.cls ≠ 0 ∧ (NumVal.cmp x y).isLE = true)) := by
  unfold builtinLe
  rw [builtin_pair COrd.isLE _ _ _ ?_ ?_ ?_ ha hb]
  · congr 1; rw [Bool.eq_iff_iff]; simp [numPred, and_assoc]
  · intro i j
    rw [Bool.eq_iff_iff]; simp only [decide_eq_true_eq, isLE_iff, intCmp.eq_less, intCmp.eq_equal]; omega
  · intro p q
    rw [Bool.eq_iff_iff]; simp only [decide_eq_true_eq, isLE_iff, ratCmp.eq_less, ratCmp.eq_equal]; grind
  · intro u v
    rw [Bool.eq_iff_iff]
    simp only [f64le, F64.lt, F64.eq, Bool.or_eq_true, Bool.and_eq_true, Bool.not_eq_true', decide_eq_true_eq,
      beq_iff_eq, isLE_iff, intCmp.eq_less, intCmp.eq_equal]
    grind

end C09
