/-
The order of float64 bit patterns (sign-magnitude key) is the order of their exact values.
-/
import ElvModel.C09.Spec
import ElvProofs.C12.Pattern

namespace C09
open C08 COrd
open C12.B64 (magUnits magUnits_strictMono magUnits_pos)

/-- The value of the pattern with sign-magnitude key `k`, in units of `2^-1074`
(`C12.B64.magUnits` is the value of a magnitude pattern). -/
def keyVal (k : Int) : Int := if k < 0 then - (magUnits k.natAbs : Int) else (magUnits k.natAbs : Int)

theorem keyVal_strictMono {k1 k2 : Int} (h : k1 < k2) : keyVal k1 < keyVal k2 := by
  unfold keyVal
  by_cases h1 : k1 < 0 <;> by_cases h2 : k2 < 0 <;> simp only [h1, h2, if_true, if_false]
  · have := magUnits_strictMono k2.natAbs k1.natAbs (by omega)
    omega
  · have := magUnits_pos k1.natAbs (by omega)
    omega
  · omega
  · have := magUnits_strictMono k1.natAbs k2.natAbs (by omega)
    omega

theorem scaled_eq_keyVal (b : UInt64) : F64.scaled b = keyVal (F64.key b) := by
  unfold F64.scaled keyVal F64.key magUnits
  by_cases hn : F64.neg b = true
  · simp only [hn, if_true]
    by_cases hz : F64.mag b = 0
    · simp [hz]
    · have : -(F64.mag b : Int) < 0 := by omega
      simp only [this, if_true, Int.natAbs_neg, Int.natAbs_natCast]
  · simp only [hn]
    have : ¬ ((F64.mag b : Int) < 0) := by omega
    simp only [Bool.false_eq_true, if_false, this, Int.natAbs_natCast]

theorem scaled_lt_iff (a b : UInt64) : F64.scaled a < F64.scaled b ↔ F64.key a < F64.key b := by
  rw [scaled_eq_keyVal, scaled_eq_keyVal]
  constructor
  · intro h
    rcases Int.lt_trichotomy (F64.key a) (F64.key b) with h1 | h1 | h1
    · exact h1
    · rw [h1] at h; omega
    · have := keyVal_strictMono h1; omega
  · exact keyVal_strictMono

theorem mkRat_lt_mkRat (a b : Int) {d : Nat} (hd : 0 < d) : mkRat a d < mkRat b d ↔ a < b := by
  rw [Rat.mkRat_eq_div, Rat.mkRat_eq_div, Rat.div_def, Rat.div_def]
  have hpos : (0 : Rat) < ((d : Rat))⁻¹ := by
    apply Rat.inv_pos.2
    exact_mod_cast hd
  rw [Rat.mul_lt_mul_right hpos]
  exact Rat.intCast_lt_intCast

theorem toRat_lt_iff (a b : UInt64) : F64.toRat a < F64.toRat b ↔ F64.key a < F64.key b := by
  unfold F64.toRat
  rw [mkRat_lt_mkRat _ _ (Nat.two_pow_pos _), scaled_lt_iff]

end C09
