/-
C28 — Editor buffer commands keep the cursor valid and edit exactly.

The model `ElvModel/C28/{Model,CodeArea}.lean` is tied to
pkg/edit/buffer_builtins.go and pkg/cli/tk/codearea.go by `./check C28`.
`Boundary buf dot` (ElvModel/C28/Spec.lean): `0 ≤ dot ≤ |buf|` and the text on
both sides of the dot is valid UTF-8.  `Env`: the `unicode.*` / `wcwidth.OfRune` tables.
-/
import ElvProofs.C28.WordSpec
import ElvProofs.C28.UpDownSpec
import ElvProofs.C28.CodeAreaSpec
open Go C28

/-- `a世b` with the dot after `a`. -/
example : Boundary [0x61, 0xE4, 0xB8, 0x96, 0x62] 1 := by unfold Boundary; decide

/-- `Boundary` is the usual Go test on valid UTF-8: `0 ≤ dot ≤ len(s)` and
`dot == len(s) || utf8.RuneStart(s[dot])` (how the implementation-side oracle
of `./check C28` tests it). -/
theorem C28_boundary_is_runeStart (buf : Bytes) (dot : Int) :
    Boundary buf dot ↔
      validUtf8 buf = true ∧ 0 ≤ dot ∧ dot ≤ buf.length ∧
        (dot = buf.length ∨ ∃ b, buf[dot.toNat]? = some b ∧ runeStart b = true) :=
  boundary_iff_runeStart buf dot

/-- Every dot movement (left/right, the six word motions, start/end of line,
up/down) of a valid buffer with the dot on a character boundary does not
panic and returns a dot inside the buffer and on a character boundary. -/
theorem C28_mover_boundary (E : Env) (m : Mover) (buf : Bytes) (dot : Int) (h : Boundary buf dot) :
    ∃ d', m.fn E buf dot = .ok d' ∧ Boundary buf d' :=
  m.boundary E buf dot h

/-- The `move-dot-*` builtins leave the text alone. -/
theorem C28_move_builtin (E : Env) (m : Mover) (buf : Bytes) (dot : Int) (h : Boundary buf dot) :
    ∃ d', (Cmd.move m).fn E buf dot = .ok (buf, d') ∧ Boundary buf d' := by
  obtain ⟨d', h1, h2⟩ := m.boundary E buf dot h
  exact ⟨d', by simp [Cmd.fn, makeMove, h1], h2⟩

/-- Kill commands delete exactly the text between the old dot and the dot the
corresponding movement would reach, and leave the dot at the smaller of the
two, on a boundary of the new (valid) buffer. -/
theorem C28_kill_exact (E : Env) (m : Mover) (buf : Bytes) (dot : Int) (h : Boundary buf dot) :
    ∃ d', m.fn E buf dot = .ok d' ∧
      (Cmd.kill m).fn E buf dot =
        .ok (buf.take (min dot d').toNat ++ buf.drop (max dot d').toNat, min dot d') ∧
      Boundary (buf.take (min dot d').toNat ++ buf.drop (max dot d').toNat) (min dot d') :=
  m.kill E buf dot h

/-- `kill-word-left` on `ab cd|` deletes `cd`. -/
example : (Cmd.kill .leftWord).fn ⟨fun r => r == 32, fun _ => true, fun _ => false, fun _ => true, fun _ => false, fun _ => 1⟩
    [0x61, 0x62, 0x20, 0x63, 0x64] 5 = .ok ([0x61, 0x62, 0x20], 3) := by decide

/-- Transpose commands (`transpose-rune`, `-word`, `-small-word`, `-alnum-word`)
cut the buffer into five pieces of whole characters `a l m r z` and exchange
`l` and `r`; the dot ends after the exchanged region, on a boundary.  (The
"nothing to transpose" cases are the instance `l = m = r = []`, `a = buf[:dot]`.) -/
theorem C28_transpose_swap (E : Env) (t : Transformer) (buf : Bytes) (dot : Int) (h : Boundary buf dot) :
    ∃ a l m r z : Bytes,
      buf = a ++ l ++ m ++ r ++ z ∧
      validUtf8 a = true ∧ validUtf8 l = true ∧ validUtf8 m = true ∧ validUtf8 r = true ∧ validUtf8 z = true ∧
      (Cmd.transform t).fn E buf dot = .ok (a ++ r ++ m ++ l ++ z, ((a ++ r ++ m ++ l).length : Int)) ∧
      Boundary (a ++ r ++ m ++ l ++ z) ((a ++ r ++ m ++ l).length : Int) := by
  obtain ⟨a, l, m, r, z, h1, va, vl, vm, vr, vz, h2⟩ := t.swap E buf dot h
  exact ⟨a, l, m, r, z, h1, va, vl, vm, vr, vz, h2,
    boundary_concat _ z (validUtf8_append (validUtf8_append (validUtf8_append va vr) vm) vl) vz⟩

/-- Transpose commands only reorder text: the runes of the result are a
permutation of the runes of the input. -/
theorem C28_transpose_perm (E : Env) (t : Transformer) (buf : Bytes) (dot : Int) (h : Boundary buf dot) :
    ∃ out d', (Cmd.transform t).fn E buf dot = .ok (out, d') ∧ Boundary out d' ∧
      (toRunes out).Perm (toRunes buf) := by
  obtain ⟨L, R, hL, hR, rfl, rfl⟩ := h.zipper
  obtain ⟨a, l, m, r, z, h1, h2⟩ := t.fn_zip E L R hL hR
  have hv : VR (a ++ l ++ m ++ r ++ z) := h1 ▸ hL.append hR
  have hperm : (a ++ r ++ m ++ l ++ z).Perm (a ++ l ++ m ++ r ++ z) := by
    rw [List.perm_iff_count]
    intro x
    simp only [List.count_append]
    omega
  refine ⟨_, _, by rw [← enc_append]; exact h2, boundary_enc rfl, ?_⟩
  rw [← enc_append, h1, toRunes_encodeRunes _ hv,
    toRunes_encodeRunes _ (fun x hx => hv x (hperm.mem_iff.1 hx))]
  exact hperm

/-- `transpose-word` on `ab cd` with the dot after `ab` gives `cd ab`. -/
example : (Cmd.transform .word).fn ⟨fun r => r == 32, fun _ => true, fun _ => false, fun _ => true, fun _ => false, fun _ => 1⟩
    [0x61, 0x62, 0x20, 0x63, 0x64] 2 = .ok ([0x63, 0x64, 0x20, 0x61, 0x62], 5) := by decide

/-- Moving left one word (any flavour) lands on the nearest word start strictly
left of the dot — the start of the buffer if there is none: the result is a
word start or 0, and no boundary strictly between it and the old dot is a word
start. -/
theorem C28_word_left_lands_on_word_start (E : Env) (f : Flavour) (buf : Bytes) (dot : Int)
    (h : Boundary buf dot) :
    ∃ d', f.left.fn E buf dot = .ok d' ∧ 0 ≤ d' ∧ d' ≤ dot ∧ (0 < dot → d' < dot) ∧
      (d' = 0 ∨ WordStart (f.cat E) buf d'.toNat) ∧
      (∀ p : Int, Boundary buf p → d' < p → p < dot → ¬ WordStart (f.cat E) buf p.toNat) := by
  cases f <;> exact wordLeft_spec _ buf dot h

/-- Moving right one word lands on the nearest word start strictly right of
the dot — the end of the buffer if there is none. -/
theorem C28_word_right_lands_on_word_start (E : Env) (f : Flavour) (buf : Bytes) (dot : Int)
    (h : Boundary buf dot) :
    ∃ d', f.right.fn E buf dot = .ok d' ∧ dot ≤ d' ∧ d' ≤ buf.length ∧ (dot < buf.length → dot < d') ∧
      (d' = buf.length ∨ WordStart (f.cat E) buf d'.toNat) ∧
      (∀ p : Int, Boundary buf p → dot < p → p < d' → ¬ WordStart (f.cat E) buf p.toNat) := by
  cases f <;> exact wordRight_spec _ buf dot h

/-- in `ab--cd` the small word `--` starts at offset 2. -/
example : WordStart (categorizeSmallWord ⟨fun r => r == 32, fun r => 97 ≤ r && r ≤ 122, fun _ => false, fun _ => true, fun _ => false, fun _ => 1⟩)
    [0x61, 0x62, 0x2d, 0x2d, 0x63, 0x64] 2 := by unfold WordStart; decide

/-- `move-dot-up`: on the first line the dot stays; otherwise it goes to the
previous line, at a display column not larger than the original one. -/
theorem C28_up_keeps_column (E : Env) (buf : Bytes) (dot : Int) (h : Boundary buf dot) :
    ∃ d', Mover.up.fn E buf dot = .ok d' ∧ Boundary buf d' ∧
      (lineStart buf dot.toNat = 0 → d' = dot) ∧
      (lineStart buf dot.toNat ≠ 0 →
        d' ≤ (lineStart buf dot.toNat : Int) - 1 ∧
        lineStart buf d'.toNat = lineStart buf (lineStart buf dot.toNat - 1) ∧
        column E buf d'.toNat ≤ column E buf dot.toNat) :=
  up_spec E buf dot h

/-- `move-dot-down`: on the last line the dot stays; otherwise it goes to the
next line (whose start is one past the end of the current line), at a display
column not larger than the original one. -/
theorem C28_down_keeps_column (E : Env) (buf : Bytes) (dot : Int) (h : Boundary buf dot) :
    ∃ d', Mover.down.fn E buf dot = .ok d' ∧ Boundary buf d' ∧
      (dot.toNat + findFirstEOL (buf.drop dot.toNat) = buf.length → d' = dot) ∧
      (dot.toNat + findFirstEOL (buf.drop dot.toNat) ≠ buf.length →
        ((dot.toNat + findFirstEOL (buf.drop dot.toNat) + 1 : Nat) : Int) ≤ d' ∧
        lineStart buf d'.toNat = dot.toNat + findFirstEOL (buf.drop dot.toNat) + 1 ∧
        column E buf d'.toNat ≤ column E buf dot.toNat) :=
  down_spec E buf dot h

/-- Every builtin of `bufferBuiltinsData`, run on a valid buffer with the dot on
a boundary, returns normally with a valid buffer and the dot on a boundary. -/
theorem C28_builtin_preserves_boundary (E : Env) (c : Cmd) (buf : Bytes) (dot : Int) (h : Boundary buf dot) :
    ∃ buf' dot', c.fn E buf dot = .ok (buf', dot') ∧ Boundary buf' dot' :=
  c.boundary E buf dot h

/-- all 26 names of `bufferBuiltinsData` are covered by `Cmd` -/
example : bufferBuiltinsData.length = 26 ∧ (bufferBuiltinsData.map (·.1)).Nodup := by decide +kernel

/-- Bracketed paste: the start marker edits nothing; the end marker inserts the
accumulated text verbatim at the dot — quoted by `parse.Quote` exactly when
`QuotePaste()` says so — and the invariant is kept. -/
theorem C28_paste_exact (S : Spec) (hS : SpecOK S) (s : State) (h : Inv s) (start : Bool) :
    ∃ s', handlePasteSetting S s start = .ok s' ∧ Inv s' ∧
      (start = true → s'.buffer = s.buffer ∧ s'.pasting = true ∧ s'.pasteBuffer = s.pasteBuffer) ∧
      (start = false →
        let text := if S.quotePaste then S.quote s.pasteBuffer else s.pasteBuffer
        s'.buffer = Inserted s.buffer text ∧ s'.pasting = false ∧ s'.pasteBuffer = []) :=
  handlePasteSetting_spec S hS s h start

/-- During a bracketed paste, keys never edit the buffer: non-function keys
append exactly `string(rune)` to the paste buffer, function keys are ignored. -/
theorem C28_key_during_paste (E : Env) (S : Spec) (s : State) (key : Key) (hp : s.pasting = true) :
    handleKeyEvent E S s key = .ok
      ({ s with pasteBuffer := s.pasteBuffer ++ (if key.isFunc then [] else encodeRune key.rune.toNat) }, true) := by
  by_cases hf : key.isFunc = true
  · rw [hke_pasting_func E S s key hp hf]; simp [hf]
  · have hf' : key.isFunc = false := by simpa using hf
    rw [hke_pasting E S s key hp hf']; simp [hf']

/-- Backspace (and Ctrl-H) delete exactly the rune before the dot. -/
theorem C28_backspace_exact (E : Env) (S : Spec) (s : State) (key : Key) (h : Inv s)
    (hp : s.pasting = false) (hk : key.isBackspace) :
    ∃ s', handleKeyEvent E S s key = .ok (s', true) ∧ Inv s' ∧
      (let chop : Int := (decodeLastRune (s.buffer.content.take s.buffer.dot.toNat)).2
       s'.buffer = ⟨s.buffer.content.take (s.buffer.dot - chop).toNat ++ s.buffer.content.drop s.buffer.dot.toNat,
         s.buffer.dot - chop⟩) := by
  obtain ⟨b', he, hb', hbnd⟩ := backspace_spec E S s key h hp hk
  exact ⟨{ resetInserts s with buffer := b' }, he, ⟨hbnd, ⟨[], by simp [resetInserts]⟩, h.paste⟩, hb'⟩

/-- Enter, function keys and non-graphic runes do not edit the buffer. -/
theorem C28_key_non_inserting (E : Env) (S : Spec) (s : State) (key : Key) (h : Inv s)
    (hp : s.pasting = false) (hbs : ¬ key.isBackspace)
    (hk : key = ⟨10, 0⟩ ∨ (key.isFunc || !(E.isGraphic key.rune.toNat)) = true) :
    ∃ s' ret, handleKeyEvent E S s key = .ok (s', ret) ∧ Inv s' ∧ s'.buffer = s.buffer := by
  by_cases hent : key = ⟨10, 0⟩
  · rw [hent]; exact ⟨resetInserts s, true, hke_enter E S s hp, inv_reset h, rfl⟩
  · rcases hk with hk | hk
    · exact absurd hk hent
    · exact ⟨resetInserts s, false, hke_other E S s key hp hent hbs hk, inv_reset h, rfl⟩

/-- A graphic key inserts exactly `string(rune)` at the dot; afterwards at most
one abbreviation fires, and it replaces exactly the abbreviation (ending at
the dot, or just before the typed trigger rune) by its expansion
(`KeyInsertEffect`, ElvModel/C28/Spec.lean).  No slice expression of
`expandSimpleAbbr` / `expandCommandAbbr` / `expandSmallWordAbbr` panics. -/
theorem C28_key_insert_exact (E : Env) (S : Spec) (hS : SpecOK S) (s : State) (key : Key) (h : Inv s)
    (hp : s.pasting = false) (hne : key ≠ ⟨10, 0⟩) (hbs : ¬ key.isBackspace)
    (hg : (key.isFunc || !(E.isGraphic key.rune.toNat)) = false) :
    ∃ s', handleKeyEvent E S s key = .ok (s', true) ∧ Inv s' ∧
      KeyInsertEffect S s.buffer s'.buffer (encodeRune key.rune.toNat) :=
  key_insert_spec E S hS s key h hp hne hbs hg

/-- "Typed consecutively" (edit:abbr: an abbreviation expands when "typed in
full and consecutively, without being interrupted by the use of other editing
functionalities, such as cursor movements"): a key that finds the buffer —
content OR dot — different from what the previous insertion left behind is
handled exactly as on a code area whose insertion run has been reset.  Hence
the characters typed before a cursor movement never count towards an
abbreviation, and `expandSimpleAbbr`'s `Content[:Dot-len(abbr)]` is only ever
evaluated for text that was inserted immediately left of the dot.
A comparison of the contents only is the seeded change
C28-inserts-not-reset-by-cursor-move (harness/corpus/C28.txt). -/
theorem C28_interruption_restarts_run (E : Env) (S : Spec) (s : State) (key : Key)
    (hp : s.pasting = false) (hne : s.last ≠ s.buffer) :
    handleKeyEvent E S s key = handleKeyEvent E S (resetInserts s) key := by
  have hp' : (resetInserts s).pasting = false := hp
  have hb : (resetInserts s).buffer = s.buffer := rfl
  have hrr : resetInserts (resetInserts s) = resetInserts s := rfl
  have h4 : (if (resetInserts s).last ≠ s.buffer then resetInserts s else resetInserts s) = resetInserts s := by
    split <;> rfl
  unfold handleKeyEvent
  simp only [hp, hp', hb, hrr, h4, if_pos hne, Bool.false_eq_true, if_false]

/-- The documentation's own example: with `||` ↦ ` or ` configured, `|`,
cursor left, `|` leaves `||` with the dot in the middle … -/
example : ((·.buffer) <$> runEvents ⟨fun _ => false, fun _ => false, fun _ => false, fun _ => true, fun _ => false, fun _ => 1⟩
      ⟨[([0x7c, 0x7c], [0x20, 0x6f, 0x72, 0x20])], [], [], false, id⟩ (initState ⟨[], 0⟩)
      [.key ⟨124, 0⟩, .cmd (.move .left), .key ⟨124, 0⟩])
    = Res.ok ⟨[0x7c, 0x7c], 1⟩ := by decide +kernel

/-- … while `|`, `|` typed consecutively expands. -/
example : ((·.buffer) <$> runEvents ⟨fun _ => false, fun _ => false, fun _ => false, fun _ => true, fun _ => false, fun _ => 1⟩
      ⟨[([0x7c, 0x7c], [0x20, 0x6f, 0x72, 0x20])], [], [], false, id⟩ (initState ⟨[], 0⟩)
      [.key ⟨124, 0⟩, .key ⟨124, 0⟩])
    = Res.ok ⟨[0x20, 0x6f, 0x72, 0x20], 4⟩ := by decide +kernel

/-- Every event (key, paste marker, builtin command) keeps the invariant: the
buffer stays valid UTF-8 with the dot inside it on a character boundary. -/
theorem C28_step_preserves_invariant (E : Env) (S : Spec) (hS : SpecOK S) (s : State) (ev : Event) (h : Inv s) :
    ∃ s' ret, step E S s ev = .ok (s', ret) ∧ Inv s' :=
  step_inv E S hS s ev h

/-- Starting from a fresh code area whose buffer is valid with the dot on a
boundary, no sequence of keys, paste markers and builtin commands panics, and
the buffer is valid with the dot on a boundary afterwards. -/
theorem C28_sequence_safe (E : Env) (S : Spec) (hS : SpecOK S) (b : CodeBuffer)
    (hb : Boundary b.content b.dot) (evs : List Event) :
    ∃ s', runEvents E S (initState b) evs = .ok s' ∧ Boundary s'.buffer.content s'.buffer.dot := by
  have hi : Inv (initState b) := ⟨hb, ⟨[], by simp [initState]⟩, rfl⟩
  obtain ⟨s', h1, h2⟩ := runEvents_inv E S hS (initState b) evs hi
  exact ⟨s', h1, h2.bnd⟩

/-- `SpecOK` and `Inv` are satisfiable: a configuration with abbreviations, an empty fresh buffer. -/
example : SpecOK ⟨[([0x78, 0x78], [0xC3, 0xA9])], [], [([0x67], [0x67, 0x69, 0x74])], false, id⟩ ∧
    Inv (initState ⟨[], 0⟩) := by
  refine ⟨⟨?_, ?_, ?_, fun _ h => h⟩, ⟨by unfold Boundary; decide, ⟨[], by simp [initState]⟩, rfl⟩⟩
  · intro p hp; simp at hp; subst hp; decide
  · intro p hp; simp at hp
  · intro p hp; simp at hp; subst hp; decide

/-- with the simple abbreviation `xx ↦ é` configured, typing `x` `x` into an
empty buffer yields `é`. -/
example :
    (runEvents ⟨fun r => r == 32, fun _ => true, fun _ => false, fun _ => true, fun _ => false, fun _ => 1⟩
      ⟨[([0x78, 0x78], [0xC3, 0xA9])], [], [], false, id⟩ (initState ⟨[], 0⟩)
      [.key ⟨0x78, 0⟩, .key ⟨0x78, 0⟩]).bind (fun s => .ok (s.buffer.content, s.buffer.dot)) =
      .ok ([0xC3, 0xA9], 2) := by decide
