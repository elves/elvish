/- C30 — the pure part of the model: overlap filter, segment assembly, late restyling. -/
import ElvModel.C30.Model
import ElvProofs.Lemmas.Res
namespace C30
open Go

def InBounds (n : Nat) (r : Region) : Prop := 0 ≤ r.b ∧ r.b ≤ r.e ∧ r.e ≤ (n : Int)

def Ordered : Int → List Region → Prop
  | _, [] => True
  | lastEnd, r :: rs => lastEnd ≤ r.b ∧ Ordered r.e rs

/-- `t` tiles `code` from byte offset `k` on: its segments are consecutive,
non-overlapping slices `code[k:m₁], code[m₁:m₂], …` in order, ending exactly at
`|code|`. -/
def Tiles (code : Bytes) : Nat → Text → Prop
  | k, [] => k = code.length
  | k, s :: rest => ∃ m, k ≤ m ∧ m ≤ code.length ∧ s.text = (code.drop k).take (m - k) ∧ Tiles code m rest

theorem filterOverlap_ordered : ∀ (rs : List Region) (lastEnd : Int), Ordered lastEnd (filterOverlap rs lastEnd) := by
  intro rs
  induction rs with
  | nil => intro _; trivial
  | cons r rs ih =>
    intro lastEnd
    unfold filterOverlap
    split
    · exact ih lastEnd
    · next h => exact ⟨by omega, ih r.e⟩

theorem filterOverlap_sublist : ∀ (rs : List Region) (lastEnd : Int), (filterOverlap rs lastEnd).Sublist rs := by
  intro rs
  induction rs with
  | nil => intro _; exact List.Sublist.slnil
  | cons r rs ih =>
    intro lastEnd
    unfold filterOverlap
    split
    · exact (ih lastEnd).cons _
    · exact (ih r.e).cons_cons _

theorem filterOverlap_mem {rs : List Region} {lastEnd : Int} {r : Region}
    (h : r ∈ filterOverlap rs lastEnd) : r ∈ rs :=
  (filterOverlap_sublist rs lastEnd).subset h

theorem filterOverlap_id : ∀ (rs : List Region) (lastEnd : Int), Ordered lastEnd rs → filterOverlap rs lastEnd = rs := by
  intro rs
  induction rs with
  | nil => intro _ _; rfl
  | cons r rs ih =>
    intro lastEnd h
    unfold filterOverlap
    have : ¬ r.b < lastEnd := by have := h.1; omega
    simp [this, ih r.e h.2]

theorem tiles_le {code : Bytes} : ∀ {t : Text} {k : Nat}, Tiles code k t → k ≤ code.length := by
  intro t
  induction t with
  | nil => intro k h; simp [Tiles] at h; omega
  | cons s rest _ => intro k h; obtain ⟨m, h1, h2, _, _⟩ := h; omega

theorem tiles_plain {code : Bytes} : ∀ {t : Text} {k : Nat}, Tiles code k t → plain t = code.drop k := by
  intro t
  induction t with
  | nil =>
    intro k h
    simp only [Tiles] at h
    simp [plain, h]
  | cons s rest ih =>
    intro k h
    obtain ⟨m, h1, h2, hs, hrest⟩ := h
    have := ih hrest
    simp only [plain, List.map_cons, List.flatten_cons] at this ⊢
    rw [this, hs]
    have e : code.drop m = (code.drop k).drop (m - k) := by
      rw [List.drop_drop]; congr 1; omega
    rw [e, List.take_append_drop]

theorem tiles_congr {code : Bytes} : ∀ {t t' : Text} {k : Nat}, t'.map (·.text) = t.map (·.text) →
    Tiles code k t → Tiles code k t' := by
  intro t
  induction t with
  | nil =>
    intro t' k h ht
    cases t' with
    | nil => exact ht
    | cons _ _ => simp at h
  | cons s rest ih =>
    intro t' k h ht
    cases t' with
    | nil => simp at h
    | cons s' rest' =>
      simp only [List.map_cons, List.cons.injEq] at h
      obtain ⟨m, h1, h2, hs, hrest⟩ := ht
      exact ⟨m, h1, h2, by rw [h.1, hs], ih h.2 hrest⟩

theorem regionSeg_text (hc : Bool) (r : Region) (rc : Bytes) : (regionSeg hc r rc).1.text = rc := by
  unfold regionSeg styleSegment
  split <;> (try split) <;> rfl

theorem regionSeg_cmd {hc : Bool} {r : Region} {rc : Bytes} (h : (regionSeg hc r rc).2 = true) :
    (regionSeg hc r rc).1 = { style := {}, text := rc } := by
  unfold regionSeg at h ⊢
  split at h
  · split at h
    · next h1 h2 => simp [h1, h2]
    · simp at h
  · simp at h

theorem assembleFrom_cons_ok {code : Bytes} {hc : Bool} {r : Region} {rs : List Region} {lastEnd : Int}
    {n : Nat} {t : Text} {cmds : List CmdRegion}
    (h : assembleFrom code hc (r :: rs) lastEnd n = .ok (t, cmds)) :
    ∃ gap rc rest restCmds,
      (if r.b > lastEnd then ∃ g, slice code lastEnd r.b = .ok g ∧ gap = [{ style := {}, text := g }]
        else gap = []) ∧
      slice code r.b r.e = .ok rc ∧
      assembleFrom code hc rs r.e (n + gap.length + 1) = .ok (rest, restCmds) ∧
      t = gap ++ (regionSeg hc r rc).1 :: rest ∧
      cmds = (if (regionSeg hc r rc).2 then [{ seg := n + gap.length, cmd := rc }] else []) ++ restCmds := by
  rw [assembleFrom] at h
  split at h
  · obtain ⟨g, hg, h⟩ := Res.bind_eq_ok.1 h
    obtain ⟨gap, hgap, h⟩ := Res.bind_eq_ok.1 h
    cases hgap
    obtain ⟨rc, hrc, h⟩ := Res.bind_eq_ok.1 h
    generalize hrs : regionSeg hc r rc = p at h
    obtain ⟨seg, isCmd⟩ := p
    obtain ⟨⟨rest, restCmds⟩, hrec, h⟩ := Res.bind_eq_ok.1 h
    cases h
    refine ⟨_, rc, rest, restCmds, ?_, hrc, hrec, by rw [hrs], by rw [hrs]⟩
    rw [if_pos ‹_›]; exact ⟨g, hg, rfl⟩
  · obtain ⟨gap, hgap, h⟩ := Res.bind_eq_ok.1 h
    cases hgap
    obtain ⟨rc, hrc, h⟩ := Res.bind_eq_ok.1 h
    generalize hrs : regionSeg hc r rc = p at h
    obtain ⟨seg, isCmd⟩ := p
    obtain ⟨⟨rest, restCmds⟩, hrec, h⟩ := Res.bind_eq_ok.1 h
    cases h
    exact ⟨[], rc, rest, restCmds, by rw [if_neg ‹_›], hrc, hrec, by rw [hrs], by rw [hrs]⟩

theorem getElem?_append_cons {α} (g : List α) (x : α) (r : List α) :
    (g ++ x :: r)[g.length]? = some x ∧ ∀ i, (g ++ x :: r)[g.length + 1 + i]? = r[i]? := by
  refine ⟨by simp, fun i => ?_⟩
  rw [List.getElem?_append_right (by omega), show g.length + 1 + i - g.length = i + 1 by omega]
  rfl

theorem assembleFrom_ok (code : Bytes) (hc : Bool) :
    ∀ (rs : List Region) (lastEnd : Int) (n : Nat) (t : Text) (cmds : List CmdRegion),
      Ordered lastEnd rs → 0 ≤ lastEnd → lastEnd ≤ (code.length : Int) →
      assembleFrom code hc rs lastEnd n = .ok (t, cmds) →
      Tiles code lastEnd.toNat t ∧
      ∀ c ∈ cmds, n ≤ c.seg ∧ t[c.seg - n]? = some { style := {}, text := c.cmd } := by
  intro rs
  induction rs with
  | nil =>
    intro lastEnd n t cmds _ h0 h1 h
    rw [assembleFrom] at h
    split at h
    · obtain ⟨tail, hs, h⟩ := Res.bind_eq_ok.1 h
      cases h
      obtain ⟨_, _, _, rfl⟩ := slice_eq_ok_iff.1 hs
      exact ⟨⟨code.length, by omega, Nat.le_refl _, by simp, rfl⟩, by simp⟩
    · cases h
      exact ⟨by simp only [Tiles]; omega, by simp⟩
  | cons r rs ih =>
    intro lastEnd n t cmds ⟨hb, hrest⟩ h0 h1 h
    obtain ⟨gap, rc, rest, restCmds, hgap, hrc, hrec, rfl, rfl⟩ := assembleFrom_cons_ok h
    obtain ⟨hb0, hbe, hel, rfl⟩ := slice_eq_ok_iff.1 hrc
    obtain ⟨ihT, ihC⟩ := ih r.e _ rest restCmds hrest (by omega) hel hrec
    have hseg : Tiles code r.b.toNat ((regionSeg hc r _).1 :: rest) :=
      ⟨r.e.toNat, by omega, by omega, regionSeg_text _ _ _, ihT⟩
    obtain ⟨hat, hafter⟩ := getElem?_append_cons gap (regionSeg hc r _).1 rest
    refine ⟨?_, ?_⟩
    · split at hgap
      · obtain ⟨g, hg, rfl⟩ := hgap
        obtain ⟨_, _, _, rfl⟩ := slice_eq_ok_iff.1 hg
        exact ⟨r.b.toNat, by omega, by omega, rfl, hseg⟩
      · subst hgap
        have : r.b = lastEnd := by omega
        rw [← this]; exact hseg
    · intro c hcm
      rcases List.mem_append.mp hcm with hcm | hcm
      · split at hcm
        · next hcmd =>
          cases List.mem_singleton.mp hcm
          refine ⟨Nat.le_add_right n _, ?_⟩
          show (gap ++ _)[n + gap.length - n]? = _
          rw [Nat.add_sub_cancel_left, hat, regionSeg_cmd hcmd]
        · cases hcm
      · obtain ⟨h1', h2'⟩ := ihC c hcm
        refine ⟨by omega, ?_⟩
        rw [show c.seg - n = gap.length + 1 + (c.seg - (n + gap.length + 1)) by omega, hafter]
        exact h2'
theorem assembleFrom_no_panic (code : Bytes) (hc : Bool) :
    ∀ (rs : List Region) (lastEnd : Int) (n : Nat),
      Ordered lastEnd rs → (∀ r ∈ rs, InBounds code.length r) → 0 ≤ lastEnd → lastEnd ≤ (code.length : Int) →
      ∃ t cmds, assembleFrom code hc rs lastEnd n = .ok (t, cmds) := by
  intro rs
  induction rs with
  | nil =>
    intro lastEnd n _ _ h0 h1
    unfold assembleFrom
    split
    · rw [slice_eq_ok code h0 h1 (Int.le_refl _)]
      exact ⟨_, _, rfl⟩
    · exact ⟨_, _, rfl⟩
  | cons r rs ih =>
    intro lastEnd n hord hin h0 h1
    obtain ⟨hb, hrest⟩ := hord
    obtain ⟨hb0, hbe, hel⟩ := hin r List.mem_cons_self
    have hin' : ∀ r' ∈ rs, InBounds code.length r' := fun r' h => hin r' (List.mem_cons_of_mem _ h)
    unfold assembleFrom
    simp only [bind, Res.bind, pure]
    rw [slice_eq_ok code hb0 hbe hel]
    by_cases hgap : r.b > lastEnd
    · simp only [hgap, if_true]
      rw [slice_eq_ok code h0 hb (by omega)]
      simp only
      obtain ⟨t, cmds, e⟩ := ih r.e (n + [({ style := {}, text := List.take (r.b.toNat - lastEnd.toNat) (List.drop lastEnd.toNat code) } : Seg)].length + 1) hrest hin' (by omega) hel
      rw [e]
      exact ⟨_, _, rfl⟩
    · simp only [hgap, if_false]
      obtain ⟨t, cmds, e⟩ := ih r.e (n + ([] : Text).length + 1) hrest hin' (by omega) hel
      rw [e]
      exact ⟨_, _, rfl⟩

theorem restyleAt_text : ∀ (t : Text) (i : Nat) (st : Styling) (t' : Text),
    restyleAt t i st = .ok t' → t'.map (·.text) = t.map (·.text) := by
  intro t
  induction t with
  | nil => intro i st t' h; simp [restyleAt] at h
  | cons s rest ih =>
    intro i st t' h
    cases i with
    | zero =>
      simp only [restyleAt, Res.ok.injEq] at h
      subst h
      simp [styleSegment]
    | succ i =>
      rw [restyleAt] at h
      obtain ⟨rest', hr, h⟩ := Res.bind_eq_ok.1 h
      cases h
      simp [ih i st rest' hr]

theorem restyleAt_in : ∀ (t : Text) (i : Nat) (st : Styling), i < t.length → ∃ t', restyleAt t i st = .ok t' := by
  intro t
  induction t with
  | nil => intro i _ h; simp at h
  | cons s rest ih =>
    intro i st h
    cases i with
    | zero => exact ⟨_, rfl⟩
    | succ i =>
      obtain ⟨r', e⟩ := ih i st (by simpa using h)
      simp only [restyleAt, bind, Res.bind, pure, e]
      exact ⟨_, rfl⟩

theorem restyle_text : ∀ (cmds : List CmdRegion) (answers : List Bool) (t t' : Text),
    restyle t cmds answers = .ok t' → t'.map (·.text) = t.map (·.text) := by
  intro cmds
  induction cmds with
  | nil => intro answers t t' h; simp [restyle] at h; subst h; rfl
  | cons c cs ih =>
    intro answers t t' h
    cases answers with
    | nil => simp [restyle] at h; subst h; rfl
    | cons a as =>
      rw [restyle] at h
      obtain ⟨t1, hr, h⟩ := Res.bind_eq_ok.1 h
      rw [ih as t1 t' h, restyleAt_text _ _ _ _ hr]

theorem map_text_length {t t' : Text} (h : t'.map (·.text) = t.map (·.text)) : t'.length = t.length := by
  have := congrArg List.length h
  simpa using this

theorem restyle_no_panic : ∀ (cmds : List CmdRegion) (answers : List Bool) (t : Text),
    (∀ c ∈ cmds, c.seg < t.length) → ∃ t', restyle t cmds answers = .ok t' := by
  intro cmds
  induction cmds with
  | nil => intro answers t _; exact ⟨t, by simp [restyle]⟩
  | cons c cs ih =>
    intro answers t h
    cases answers with
    | nil => exact ⟨t, by simp [restyle]⟩
    | cons a as =>
      obtain ⟨t1, e1⟩ := restyleAt_in t c.seg (if a then stylingForGoodCommand else stylingForBadCommand)
        (h c List.mem_cons_self)
      have hl := map_text_length (restyleAt_text _ _ _ _ e1)
      obtain ⟨t2, e2⟩ := ih as t1 (fun c' hc' => by rw [hl]; exact h c' (List.mem_cons_of_mem _ hc'))
      exact ⟨t2, by simp only [restyle, bind, Res.bind, e1, e2]⟩

theorem plain_congr {t t' : Text} (h : t'.map (·.text) = t.map (·.text)) : plain t' = plain t := by
  simp [plain, h]

end C30
