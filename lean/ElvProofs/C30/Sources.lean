/-
C30 — where the regions come from: parse nodes and parse errors.  By C01 (`C01_total_lossless`) every node of the
tree `parse.Parse` returns and every parse error has `from ≤ to ≤ |src|`, so the regions `getRegions` and
`addDiagError` build from them satisfy the hypothesis of `C30_highlight_total_lossless`.  (`emitRegions` itself —
WHICH nodes become regions — is not modelled; any choice of nodes is covered.)
-/
import ElvProofs.C01
import ElvProofs.C30.Pure

theorem C30.parser_ranges_in_bounds (isPrint : Int → Bool) (src : Go.Bytes) :
    ∃ t errs, C01.parse isPrint src = .ok t errs ∧
      (∀ m, C01_Desc t m → ∀ k ty, C30.InBounds src.length ⟨m.frm, m.to, k, ty⟩) ∧
      (∀ x ∈ errs, ∀ k ty, C30.InBounds src.length ⟨x.frm, x.to, k, ty⟩) := by
  obtain ⟨t, errs, hp, hn, _, _, _, he⟩ := C01_total_lossless isPrint src
  refine ⟨t, errs, hp, ?_, ?_⟩
  · intro m hm k ty
    obtain ⟨h1, h2, _⟩ := hn m hm
    exact ⟨Int.natCast_nonneg _, by simpa using h1, by simpa using h2⟩
  · intro x hx k ty
    obtain ⟨h1, h2⟩ := he x hx
    exact ⟨Int.natCast_nonneg _, by simpa using h1, by simpa using h2⟩
