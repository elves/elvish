/-
C30 — the contract of `sort.Slice(regions, less)`: the executable check used by the driver is sound for the
declarative contract, and the contract is satisfiable for every input (insertion sort).
-/
import ElvModel.C30.Model
namespace C30

/-- What `sort.Slice` guarantees: a permutation of the input in which no later
element is `less` than an earlier one. (Not stable: ties in any order.) -/
def SortedPerm (input sorted : List Region) : Prop :=
  sorted.Perm input ∧ sorted.Pairwise (fun a b => less b a = false)

theorem less_iff (x y : Region) :
    less x y = true ↔ x.b < y.b ∨ (x.b = y.b ∧ x.kind = .semantic ∧ y.kind = .lexical) := by
  unfold less
  by_cases h1 : x.b < y.b
  · simp [h1]
  · by_cases h2 : x.b = y.b
    · simp [h2]
    · simp [h1, h2]

theorem less_asymm {x y : Region} (h : less x y = true) : less y x = false := by
  rw [less_iff] at h
  cases hyx : less y x with
  | false => rfl
  | true =>
    rw [less_iff] at hyx
    rcases h with h | ⟨h1, h2, h3⟩ <;> rcases hyx with h' | ⟨h1', h2', h3'⟩
    · omega
    · omega
    · omega
    · rw [h2'] at h3; cases h3

theorem less_trans {x y z : Region} (h1 : less x y = true) (h2 : less y z = true) : less x z = true := by
  rw [less_iff] at h1 h2 ⊢
  rcases h1 with h | ⟨a1, a2, a3⟩ <;> rcases h2 with h' | ⟨b1, b2, b3⟩
  · left; omega
  · left; omega
  · left; omega
  · rw [a3] at b2; cases b2

/-- `less` is a strict weak order: incomparability is transitive. -/
theorem not_less_trans {x y z : Region} (h1 : less y x = false) (h2 : less z y = false) : less z x = false := by
  cases h : less z x with
  | false => rfl
  | true =>
    rw [less_iff] at h
    have n1 : ¬ (y.b < x.b ∨ (y.b = x.b ∧ y.kind = .semantic ∧ x.kind = .lexical)) := by
      rw [← less_iff]; simp [h1]
    have n2 : ¬ (z.b < y.b ∨ (z.b = y.b ∧ z.kind = .semantic ∧ y.kind = .lexical)) := by
      rw [← less_iff]; simp [h2]
    exfalso
    rcases h with h | ⟨e, k1, k2⟩
    · apply n1; left
      have : ¬ z.b < y.b := fun h' => n2 (Or.inl h')
      omega
    · have hzy : ¬ z.b < y.b := fun h' => n2 (Or.inl h')
      have hyx : ¬ y.b < x.b := fun h' => n1 (Or.inl h')
      have e1 : z.b = y.b := by omega
      have e2 : y.b = x.b := by omega
      cases hk : y.kind with
      | lexical => exact n2 (Or.inr ⟨e1, k1, hk⟩)
      | semantic => exact n1 (Or.inr ⟨e2, hk, k2⟩)

theorem isSorted_iff (l : List Region) : isSorted l = true ↔ l.Pairwise (fun a b => less b a = false) := by
  induction l with
  | nil => simp [isSorted]
  | cons x rest ih =>
    simp only [isSorted, Bool.and_eq_true, List.all_eq_true, Bool.not_eq_true', List.pairwise_cons, ih]

theorem eraseFirst_perm {x : Region} : ∀ {l l' : List Region}, eraseFirst x l = some l' → l.Perm (x :: l') := by
  intro l
  induction l with
  | nil => intro l' h; simp [eraseFirst] at h
  | cons y ys ih =>
    intro l' h
    unfold eraseFirst at h
    split at h
    · next e => cases h; subst e; exact List.Perm.refl _
    · cases he : eraseFirst x ys with
      | none => rw [he] at h; cases h
      | some r =>
        rw [he] at h
        simp only [Option.map_some, Option.some.injEq] at h
        subst h
        exact ((ih he).cons y).trans (List.Perm.swap x y r)

theorem isPerm_sound : ∀ {a b : List Region}, isPerm a b = true → a.Perm b := by
  intro a
  induction a with
  | nil =>
    intro b h
    cases b with
    | nil => exact List.Perm.refl _
    | cons _ _ => simp [isPerm] at h
  | cons x a ih =>
    intro b h
    unfold isPerm at h
    cases he : eraseFirst x b with
    | none => rw [he] at h; cases h
    | some b' =>
      rw [he] at h
      exact ((ih h).cons x).trans (eraseFirst_perm he).symm

theorem sortContract_sound {input sorted : List Region} (h : sortContract input sorted = true) :
    SortedPerm input sorted := by
  unfold sortContract at h
  simp only [Bool.and_eq_true] at h
  exact ⟨isPerm_sound h.1, (isSorted_iff _).mp h.2⟩

theorem insertSorted_perm (x : Region) : ∀ l : List Region, (insertSorted x l).Perm (x :: l) := by
  intro l
  induction l with
  | nil => exact List.Perm.refl _
  | cons y ys ih =>
    unfold insertSorted
    split
    · exact List.Perm.refl _
    · exact (ih.cons y).trans (List.Perm.swap x y ys)

theorem insertSorted_sorted (x : Region) : ∀ l : List Region,
    l.Pairwise (fun a b => less b a = false) → (insertSorted x l).Pairwise (fun a b => less b a = false) := by
  intro l
  induction l with
  | nil => intro _; simp [insertSorted]
  | cons y ys ih =>
    intro h
    obtain ⟨hy, hys⟩ := List.pairwise_cons.mp h
    unfold insertSorted
    split
    · next hlt =>
      refine List.pairwise_cons.mpr ⟨?_, h⟩
      intro z hz
      rcases List.mem_cons.mp hz with rfl | hz
      · exact less_asymm hlt
      · -- z after y: less z y = false, and less x y: then less z x = false
        cases hzx : less z x with
        | false => rfl
        | true => have := less_trans hzx hlt; rw [hy z hz] at this; cases this
    · next hnl =>
      have hnl' : less x y = false := by simpa using hnl
      refine List.pairwise_cons.mpr ⟨?_, ih hys⟩
      intro z hz
      have := (insertSorted_perm x ys).subset hz
      rcases List.mem_cons.mp this with rfl | hz'
      · exact hnl'
      · exact hy z hz'

theorem sortRegions_contract : ∀ l : List Region, SortedPerm l (sortRegions l) := by
  intro l
  induction l with
  | nil => exact ⟨List.Perm.refl _, List.Pairwise.nil⟩
  | cons x xs ih =>
    unfold sortRegions
    exact ⟨(insertSorted_perm x _).trans (ih.1.cons x), insertSorted_sorted x _ ih.2⟩

end C30
