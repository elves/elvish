/-
C30 — the trace acceptor only ever holds reachable model states: every candidate is produced from `Cand.init` by
`step`.  Hence a recorded trace that the driver accepts is an execution of the model.
-/
import ElvModel.C30.Accept
namespace C30

def CandsOK (cs : List Cand) : Prop := ∀ c ∈ cs, Reachable c.s

theorem CandsOK.nil : CandsOK [] := fun _ h => nomatch h

theorem CandsOK.single {c : Cand} (h : Reachable c.s) : CandsOK [c] := by
  intro x hx
  cases List.mem_singleton.mp hx
  exact h

theorem CandsOK.step_clear {s : State} {l : Label} (hr : Reachable s) :
    CandsOK ((step s l).map clearScratch).toList := by
  cases hs : step s l with
  | none => exact .nil
  | some s' => exact .single (Reachable.step l hr hs)

theorem resolvePanic_ok {hasCmd : Bool} {c c' : Cand} (hr : Reachable c.s)
    (h : resolvePanic hasCmd c = some c') : Reachable c'.s := by
  unfold resolvePanic at h
  split at h
  · split at h
    · exact CandsOK.step_clear hr c' (Option.mem_toList.mpr h)
    · cases h
  · cases h; exact hr

/-- Every successor candidate holds the state it came with, or that state after `step`s of the model
(one for the entry, and one before it if a panicked `Get` had to be resolved). -/
theorem applyEntry_ok (hasCmd : Bool) (c0 : Cand) (e : Entry) (hr : Reachable c0.s) :
    CandsOK (applyEntry hasCmd c0 e) := by
  cases e with
  | GL _ | IV =>
    simp only [applyEntry]
    split
    · next c hc => exact .step_clear (resolvePanic_ok hr hc)
    · exact .nil
  | RP _ _ | RS _ | RF _ =>
    simp only [applyEntry]
    split
    · split
      · exact .single hr
      · exact .nil
    · exact .nil
  | HN | HF | HI =>
    simp only [applyEntry]
    split
    · exact .single hr
    · exact .nil
  | GM _ _ | GH _ _ | LS _ _ =>
    simp only [applyEntry]
    split
    · split
      · exact .nil
      · split
        · next s' hs =>
          split
          · exact .single (Reachable.step _ hr hs)
          · exact .nil
        · exact .nil
    · exact .nil
  | LL code =>
    simp only [applyEntry]
    split
    · next c hc =>
      intro x hx
      obtain ⟨i, _, hi⟩ := List.mem_filterMap.mp hx
      split at hi
      · next s' hs =>
        split at hi
        · split at hi
          · cases hi; exact Reachable.step _ (resolvePanic_ok hr hc) hs
          · cases hi
        · cases hi
      · cases hi
    · exact .nil
  | LD _ _ =>
    simp only [applyEntry]
    split
    · split
      · exact .nil
      · exact .step_clear hr
    · exact .nil

theorem insertNew_ok {acc : List Cand} {c : Cand} (ha : CandsOK acc) (hc : Reachable c.s) :
    CandsOK (insertNew acc c) := by
  unfold insertNew
  split
  · exact ha
  · intro x hx
    rcases List.mem_append.mp hx with h | h
    · exact ha x h
    · simp only [List.mem_singleton] at h; subst h; exact hc

theorem foldl_insertNew_ok (l acc : List Cand) (ha : CandsOK acc) (hl : CandsOK l) : CandsOK (l.foldl insertNew acc) :=
  List.foldlRecOn l insertNew ha fun _ hb c hc => insertNew_ok hb (hl c hc)

theorem accept_ok (hasCmd : Bool) (e : Entry) (cs acc : List Cand) (hcs : CandsOK cs) (ha : CandsOK acc) :
    CandsOK (cs.foldl (fun acc c => (applyEntry hasCmd c e).foldl insertNew acc) acc) :=
  List.foldlRecOn cs _ ha fun _ hb c hc => foldl_insertNew_ok _ _ hb (applyEntry_ok hasCmd c e (hcs c hc))

theorem finish_ok (hasCmd : Bool) {cs : List Cand} (h : CandsOK cs) : CandsOK (finish hasCmd cs) := by
  intro x hx
  simp only [finish, List.mem_filterMap] at hx
  obtain ⟨c, hc, hx⟩ := hx
  split at hx
  · next c' hc' =>
    split at hx
    · simp only [Option.some.injEq] at hx; subst hx
      exact resolvePanic_ok (h c hc) hc'
    · cases hx
  · cases hx

theorem init_cands_ok : CandsOK [Cand.init] := .single Reachable.init

end C30
