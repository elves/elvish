/- C30 — the inductive invariant of the `Highlighter.Get` / late-callback transition system. -/
import ElvModel.C30.Model
import ElvProofs.C30.Pure
namespace C30
open Go

/-- `t` is a highlighting COMPUTED FOR `c`: the text a `highlight(c, …)` call
assembles for some sort outcome, or that text with its command segments
restyled by some answers of `HasCommand`. -/
def Computed (c : Bytes) (t : Text) : Prop :=
  ∃ (hc : Bool) (sorted : List Region) (imm : Text) (cmds : List CmdRegion),
    highlight c hc sorted = .ok (imm, cmds) ∧
    (t = imm ∨ ∃ answers, restyle imm cmds answers = .ok t)

def PendOK (p : Pending) : Prop :=
  ∃ (hc : Bool) (sorted : List Region), highlight p.code hc sorted = .ok (p.imm, p.cmds)

def ObsOK : Obs → Prop
  | .shown asked text origin => origin = asked ∧ Tiles asked 0 text ∧ Computed asked text
  | .lateStored origin cached text => origin = cached ∧ Tiles cached 0 text ∧ Computed cached text
  | .lateDropped origin cached => origin ≠ cached

structure Inv (s : State) : Prop where
  cache_tiles : Tiles s.code 0 s.styled
  cache_origin : s.origin = s.code
  cache_computed : Computed s.code s.styled
  pending_ok : ∀ p ∈ s.pending, PendOK p
  holder_ok : ∀ p, s.mu = some (.late p) → PendOK p
  log_ok : ∀ o ∈ s.log, ObsOK o

theorem highlight_ok {code : Bytes} {hc : Bool} {sorted : List Region} {imm : Text} {cmds : List CmdRegion}
    (h : highlight code hc sorted = .ok (imm, cmds)) :
    Tiles code 0 imm ∧ ∀ c ∈ cmds, imm[c.seg]? = some { style := {}, text := c.cmd } := by
  unfold highlight assemble fixRegionsSorted at h
  obtain ⟨hT, hC⟩ := assembleFrom_ok code hc _ 0 0 imm cmds (filterOverlap_ordered sorted 0)
    (Int.le_refl 0) (Int.natCast_nonneg _) h
  exact ⟨by simpa using hT, fun c hc' => by simpa using (hC c hc').2⟩

theorem cmds_in_range {imm : Text} {cmds : List CmdRegion}
    (h : ∀ c ∈ cmds, imm[c.seg]? = some ({ style := {}, text := c.cmd } : Seg)) :
    ∀ c ∈ cmds, c.seg < imm.length := by
  intro c hc
  have := h c hc
  rcases Nat.lt_or_ge c.seg imm.length with hlt | hge
  · exact hlt
  · rw [List.getElem?_eq_none hge] at this; cases this

theorem init_inv : Inv init := by
  refine ⟨by simp [init, Tiles], rfl, ?_, by simp [init], by simp [init], by simp [init]⟩
  exact ⟨false, [], [], [], by decide, Or.inl rfl⟩

theorem runHighlight_ok {code : Bytes} {env : Env} {text : Text} {pend : Option Pending}
    (h : runHighlight code env = .ok (text, pend)) :
    Tiles code 0 text ∧ Computed code text ∧ ∀ p, pend = some p → p.code = code ∧ PendOK p := by
  unfold runHighlight at h
  cases hh : highlight code env.hasCmd env.sorted with
  | exc e => rw [hh] at h; cases h
  | panic w => rw [hh] at h; cases h
  | ok r =>
    obtain ⟨imm, cmds⟩ := r
    rw [hh] at h
    simp only at h
    obtain ⟨hT, hC⟩ := highlight_ok hh
    split at h
    · -- a late computation exists
      cases hf : env.fast with
      | none =>
        rw [hf] at h
        simp only [Res.ok.injEq, Prod.mk.injEq] at h
        obtain ⟨rfl, rfl⟩ := h
        refine ⟨hT, ⟨_, _, _, _, hh, Or.inl rfl⟩, ?_⟩
        intro p hp
        cases hp
        exact ⟨rfl, _, _, hh⟩
      | some answers =>
        rw [hf] at h
        simp only at h
        split at h
        · cases hr : restyle imm cmds answers with
          | ok late =>
            rw [hr] at h
            simp only [Res.ok.injEq, Prod.mk.injEq] at h
            obtain ⟨rfl, rfl⟩ := h
            refine ⟨tiles_congr (restyle_text _ _ _ _ hr) hT, ⟨_, _, _, _, hh, Or.inr ⟨_, hr⟩⟩, ?_⟩
            intro p hp; cases hp
          | exc e => rw [hr] at h; cases h
          | panic w => rw [hr] at h; cases h
        · cases h
    · cases hf : env.fast with
      | none =>
        rw [hf] at h
        simp only [Res.ok.injEq, Prod.mk.injEq] at h
        obtain ⟨rfl, rfl⟩ := h
        refine ⟨hT, ⟨_, _, _, _, hh, Or.inl rfl⟩, ?_⟩
        intro p hp; cases hp
      | some answers => rw [hf] at h; cases h

theorem removeAt_mem : ∀ {ps : List Pending} {i : Nat} {p : Pending} {rest : List Pending},
    removeAt ps i = some (p, rest) → p ∈ ps ∧ ∀ q ∈ rest, q ∈ ps := by
  intro ps
  induction ps with
  | nil => intro i p rest h; simp [removeAt] at h
  | cons a ps ih =>
    intro i p rest h
    cases i with
    | zero =>
      simp only [removeAt, Option.some.injEq, Prod.mk.injEq] at h
      obtain ⟨rfl, rfl⟩ := h
      exact ⟨List.mem_cons_self, fun q hq => List.mem_cons_of_mem _ hq⟩
    | succ i =>
      simp only [removeAt] at h
      cases hr : removeAt ps i with
      | none => rw [hr] at h; cases h
      | some x =>
        obtain ⟨q, qs⟩ := x
        rw [hr] at h
        simp only [Option.map_some, Option.some.injEq, Prod.mk.injEq] at h
        obtain ⟨rfl, rfl⟩ := h
        obtain ⟨h1, h2⟩ := ih hr
        refine ⟨List.mem_cons_of_mem _ h1, ?_⟩
        intro x hx
        rcases List.mem_cons.mp hx with rfl | hx
        · exact List.mem_cons_self
        · exact List.mem_cons_of_mem _ (h2 x hx)

theorem inv_step {s s' : State} (l : Label) (hi : Inv s) (hs : step s l = some s') : Inv s' := by
  cases l with
  | getLock code =>
    simp only [step] at hs
    split at hs
    · cases hs
      exact ⟨hi.cache_tiles, hi.cache_origin, hi.cache_computed, hi.pending_ok,
        (by intro p hp; cases hp), hi.log_ok⟩
    · cases hs
  | getHit =>
    simp only [step] at hs
    split at hs
    · next code hmu =>
      split at hs
      · next hc =>
        cases hs
        subst hc
        exact ⟨hi.cache_tiles, hi.cache_origin, hi.cache_computed, hi.pending_ok,
          (by intro p hp; cases hp),
          List.forall_mem_cons.mpr ⟨⟨hi.cache_origin, hi.cache_tiles, hi.cache_computed⟩, hi.log_ok⟩⟩
      · cases hs
    · cases hs
  | getMiss env =>
    simp only [step] at hs
    split at hs
    · next code hmu =>
      split at hs
      · cases hs
      · cases hr : runHighlight code env with
        | ok r =>
          obtain ⟨text, pend⟩ := r
          rw [hr] at hs
          simp only [Option.some.injEq] at hs
          subst hs
          obtain ⟨hT, hC, hP⟩ := runHighlight_ok hr
          refine ⟨hT, rfl, hC, ?_, (by intro p hp; cases hp),
            List.forall_mem_cons.mpr ⟨⟨rfl, hT, hC⟩, hi.log_ok⟩⟩
          intro p hp
          rcases List.mem_append.mp hp with hp | hp
          · exact hi.pending_ok p hp
          · exact (hP p (Option.mem_toList.mp hp)).2
        | exc e => rw [hr] at hs; cases hs
        | panic w => rw [hr] at hs; cases hs
    · cases hs
  | getPanic env =>
    simp only [step] at hs
    split at hs
    · next code hmu =>
      split at hs
      · cases hs
      · split at hs
        · cases hs
          exact ⟨hi.cache_tiles, hi.cache_origin, hi.cache_computed, hi.pending_ok,
            (by intro p hp; cases hp), hi.log_ok⟩
        · cases hs
    · cases hs
  | lateLock i =>
    simp only [step] at hs
    split at hs
    · split at hs
      · next p rest hrm =>
        cases hs
        obtain ⟨h1, h2⟩ := removeAt_mem hrm
        refine ⟨hi.cache_tiles, hi.cache_origin, hi.cache_computed,
          fun q hq => hi.pending_ok q (h2 q hq), ?_, hi.log_ok⟩
        intro q hq
        simp only [Option.some.injEq, Holder.late.injEq] at hq
        subst hq
        exact hi.pending_ok _ h1
      · cases hs
    · cases hs
  | lateStore answers =>
    simp only [step] at hs
    split at hs
    · next p hmu =>
      split at hs
      · next hc =>
        cases hr : restyle p.imm p.cmds answers with
        | ok late =>
          rw [hr] at hs
          simp only [Option.some.injEq] at hs
          subst hs
          obtain ⟨hc', sorted, hh⟩ := hi.holder_ok p hmu
          obtain ⟨hT, _⟩ := highlight_ok hh
          have hT' : Tiles s.code 0 late := by
            rw [hc.1]; exact tiles_congr (restyle_text _ _ _ _ hr) hT
          have hC' : Computed s.code late := by
            rw [hc.1]; exact ⟨_, _, _, _, hh, Or.inr ⟨_, hr⟩⟩
          exact ⟨hT', hc.1.symm, hC', hi.pending_ok, (by intro q hq; cases hq),
            List.forall_mem_cons.mpr ⟨⟨hc.1.symm, hT', hC'⟩, hi.log_ok⟩⟩
        | exc e => rw [hr] at hs; cases hs
        | panic w => rw [hr] at hs; cases hs
      · cases hs
    · cases hs
  | lateDrop =>
    simp only [step] at hs
    split at hs
    · next p hmu =>
      split at hs
      · cases hs
      · next hne =>
        cases hs
        exact ⟨hi.cache_tiles, hi.cache_origin, hi.cache_computed, hi.pending_ok,
          (by intro q hq; cases hq), List.forall_mem_cons.mpr ⟨fun h => hne h.symm, hi.log_ok⟩⟩
    · cases hs
  | inval =>
    simp only [step] at hs
    split at hs
    · next hmu =>
      cases hs
      refine ⟨by simp [Tiles], rfl, init_inv.cache_computed, hi.pending_ok, ?_, hi.log_ok⟩
      intro p hp
      simp [hmu] at hp
    · cases hs

theorem reachable_inv {s : State} (h : Reachable s) : Inv s := by
  induction h with
  | init => exact init_inv
  | step l _ hs ih => exact inv_step l ih hs

end C30
