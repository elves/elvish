/-
C14 — Element assignment never mutates values seen elsewhere.  Theorems over `ElvModel/C14/Model.lean` (element.go
with fixes/C14-element-set-stale-containers.patch) and the spec vocabulary `ElvModel/C14/Spec.lean` (`assocIn`,
`dissocIn`, `headsS`).  Values of the model are immutable by construction, so the theorems state which VARIABLES a
statement may rebind and to what; what that leaves out is said at `C14_full`.
-/
import ElvProofs.C14.Exec
import ElvProofs.C14.NoPanic
open Go C14

/-- `elem.Set` (containers outside-in, then `Assoc` inside-out) computes
`assoc a i₁ (assoc a[i₁] i₂ (… v))`. -/
theorem C14_element_set_is_nested_assoc (cur : Val) (idx : List Key) (v : Val) (hne : idx ≠ []) :
    setElem cur idx v = assocIn cur idx v :=
  setElem_eq_assocIn cur idx v hne

/-- `DelElement` computes `assoc a i₁ (… (dissoc a[i₁]…[i_{k-1}] i_k))`. -/
theorem C14_element_del_is_nested_dissoc (cur : Val) (idx : List Key) :
    delElem cur idx = dissocIn cur idx :=
  delElem_eq_dissocIn cur idx

/-- What `assoc`/`dissoc` mean on maps (the reference operations the HAMT is
proved to refine in C07): the key gets the value / disappears, every other key
keeps its entry. -/
theorem C14_map_assoc_dissoc_lookup (kvs : List (Key × Val)) (k k' : Key) (v : Val) :
    lookup (mapAssoc kvs k v) k = some v ∧
    lookup (mapDissoc kvs k) k = none ∧
    (k' ≠ k → lookup (mapAssoc kvs k v) k' = lookup kvs k' ∧ lookup (mapDissoc kvs k) k' = lookup kvs k') := by
  have hfilter : ∀ k', k' ≠ k →
      (kvs.filter (fun e => !(e.1 == k))).find? (fun e => e.1 == k') = kvs.find? (fun e => e.1 == k') := by
    intro k' hk
    induction kvs with
    | nil => rfl
    | cons e rest ih =>
      by_cases he : e.1 = k
      · have h1 : (e.1 == k) = true := by simpa using he
        have h2 : (e.1 == k') = false := by simpa [he] using fun h => hk h.symm
        simp [List.filter, List.find?, h1, h2, ih]
      · have h1 : (e.1 == k) = false := by simpa using he
        by_cases he' : e.1 = k'
        · have h2 : (e.1 == k') = true := by simpa using he'
          simp [List.filter, List.find?, h1, h2]
        · have h2 : (e.1 == k') = false := by simpa using he'
          simp [List.filter, List.find?, h1, h2, ih]
  refine ⟨by simp [lookup, mapAssoc], ?_, ?_⟩
  · simp only [lookup, mapDissoc, Option.map_eq_none_iff, List.find?_eq_none]
    intro e he
    simp only [List.mem_filter] at he
    simpa using he.2
  · intro hk
    have hb : (k == k') = false := by simpa using fun h => hk h.symm
    simp [lookup, mapAssoc, mapDissoc, hb, hfilter k' hk]

example : lookup (mapAssoc [(.str [97], .nil)] (.str [98]) (.num 1)) (.str [98]) = some (.num 1) := rfl

/-- `set a[i₁]…[i_k] = e`: every other variable keeps its value; on success
the new value of `a` is the nested assoc of its old value (`k = 0`: `e` itself)
and no restore is registered; on failure the store is untouched. -/
theorem C14_set_rebinds_only_head (σ : Store) (lv : LV) (r : Rhs) :
    (∀ y, y ≠ lv.head → (exec σ (.assign false [lv] [r])).store.get y = σ.get y) ∧
    ((exec σ (.assign false [lv] [r])).err = none →
      ∃ cur v nv, σ.get lv.head = some cur ∧ evalRhs σ r = .ok v ∧ assocIn cur lv.idx v = .ok nv ∧
        (exec σ (.assign false [lv] [r])).store = σ.set lv.head nv ∧
        (exec σ (.assign false [lv] [r])).store.get lv.head = some nv ∧
        (exec σ (.assign false [lv] [r])).defers = []) ∧
    ((exec σ (.assign false [lv] [r])).err ≠ none → (exec σ (.assign false [lv] [r])).store = σ) := by
  refine ⟨fun y hy => exec_frame σ _ y (by simpa [headsS] using hy), ?_, ?_⟩
  all_goals
    simp only [exec]
    rcases doAssign_single false σ lv r with ⟨f, hf⟩ | ⟨cur, v, nv, h1, h2, h3, h4⟩
  · intro h; rw [hf] at h; cases h
  · intro _
    rw [h4]
    exact ⟨cur, v, nv, h1, h2, by rw [← newValue_eq_assocIn]; exact h3, rfl, get_set_eq _ _ _, rfl⟩
  · intro _; rw [hf]
  · intro h; rw [h4] at h; exact absurd rfl h

/-- non-vacuity: `set a[1][k] = z` on `a = [x [&k=y]]`. -/
example :
    ((exec [("a", .list [.str [120], .map [(.str [107], .str [121])]])]
        (.assign false [⟨"L", "a", [.str [49], .str [107]]⟩] [.lit (.str [122])])).store.get "a").isSome = true ∧
    (exec [("a", .list [.str [120], .map [(.str [107], .str [121])]])]
        (.assign false [⟨"L", "a", [.str [49], .str [107]]⟩] [.lit (.str [122])])).err.isNone = true := by
  constructor <;> decide

theorem C14_del_rebinds_only_head (σ : Store) (lv : LV) :
    (∀ y, y ≠ lv.head → (exec σ (.del lv)).store.get y = σ.get y) ∧
    ((exec σ (.del lv)).err = none →
      ∃ cur nv, σ.get lv.head = some cur ∧ dissocIn cur lv.idx = .ok nv ∧
        (exec σ (.del lv)).store = σ.set lv.head nv ∧
        (exec σ (.del lv)).store.get lv.head = some nv) ∧
    ((exec σ (.del lv)).err ≠ none → (exec σ (.del lv)).store = σ) := by
  refine ⟨fun y hy => exec_frame σ _ y (by simpa [headsS] using hy), ?_, ?_⟩ <;>
    simp only [exec] <;>
    rcases execDel_cases σ lv with ⟨f, he⟩ | ⟨cur, nv, hg, hd, he⟩ <;> rw [he] <;> intro h
  · cases h
  · exact ⟨cur, nv, hg, by rw [← delElem_eq_dissocIn]; exact hd, rfl, get_set_eq _ _ _⟩
  · rfl
  · exact absurd rfl h

/-- The error range of `del`: `ends[level]` is always inside `ends` (length
`n+1`); the "does not support element removal" error points at the whole
`a[i₁]…[i_n]`, every other error at the variable name. -/
theorem C14_del_error_level_in_range (msg : String) (n : Nat) :
    ∃ i, delErrSite msg n = some i ∧ i < n + 1 ∧
      (msg = noRemoval → i = n ∧ delErrLevel msg n = n) ∧
      (msg ≠ noRemoval → i = 0 ∧ delErrLevel msg n = -1) := by
  unfold delErrSite delErrLevel
  by_cases h : msg = noRemoval
  · refine ⟨n, ?_, by omega, fun _ => ⟨rfl, by simp [h]⟩, fun h' => absurd h h'⟩
    simp only [h, if_true]
    rw [if_neg (by omega), if_pos (by omega)]
    simp
  · refine ⟨0, ?_, by omega, fun h' => absurd h' h, fun _ => ⟨rfl, by simp [h]⟩⟩
    simp [h]

/-- ANY statement (nested `set`/`tmp`/`del`/`with`/function calls) leaves every
variable that is not the head of one of its lvalues exactly as it was. -/
theorem C14_frame (σ : Store) (s : Stmt) (y : String) (hy : y ∉ headsS s) :
    (exec σ s).store.get y = σ.get y :=
  exec_frame σ s y hy

/-- An alias — another variable (or a closure's private variable) holding the
value — still evaluates to that value after any statement that does not
assign the alias itself. -/
theorem C14_alias_unchanged (σ : Store) (s : Stmt) (b : String) (v : Val)
    (hb : σ.get b = some v) (hs : b ∉ headsS s) :
    evalRhs (exec σ s).store (.ref b []) = .ok v := by
  simp [evalRhs, exec_frame σ s b hs, hb, indexPath]

example : "b" ∉ headsS (.call [.assign true [⟨"L", "a", [.str [48]]⟩] [.lit .nil], .del ⟨"M", "a", [.str [49]]⟩]) := by
  decide

/-- `with [l₁ = r₁]… { body }`: whatever the body does (including assignments
to the same variables), afterwards every head variable of the assignments has
the value it had before — and if one of the assignments fails, every variable
has. -/
theorem C14_with_restores (σ : Store) (assigns : List (List LV × List Rhs)) (body : List Stmt) :
    (∀ a ∈ assigns, ∀ lv ∈ a.1, (exec σ (.withS assigns body)).store.get lv.head = σ.get lv.head) ∧
    ((withAssigns σ [] assigns).2.2 ≠ none →
      ∀ h, (exec σ (.withS assigns body)).store.get h = σ.get h) := by
  obtain ⟨hinv, hall, _⟩ := withAssigns_inv σ assigns σ [] (inv_init σ)
  simp only [exec]
  rcases hw : withAssigns σ [] assigns with ⟨σ1, ds, e⟩
  rw [hw] at hinv hall
  cases e with
  | some f => exact ⟨fun a _ lv _ => restore_inv hinv lv.head, fun _ h => restore_inv hinv h⟩
  | none =>
    refine ⟨fun a ha lv hlv => ?_, fun h => absurd rfl h⟩
    simpa using restore_covered hinv (hall rfl a ha lv hlv) [] _

/-- A function whose first statement is `tmp l₁ … = r₁ …`: whatever the rest of
the body does, when the function has finished every head variable of that `tmp`
has the value it had before. -/
theorem C14_tmp_restores (σ : Store) (lhs : List LV) (rhs : List Rhs) (body : List Stmt) :
    ∀ lv ∈ lhs, (exec σ (.call (.assign true lhs rhs :: body))).store.get lv.head = σ.get lv.head := by
  intro lv hlv
  obtain ⟨hinv, hall, _⟩ := doAssign_inv σ σ [] lhs rhs (inv_init σ)
  simp only [exec, execList]
  rcases hd : doAssign true σ lhs rhs with ⟨σ1, ds, e⟩
  rw [hd] at hinv hall
  simp only [List.nil_append] at hinv hall
  cases e with
  | some f => exact restore_inv hinv lv.head
  | none =>
    -- the function's defer list starts with the restores of the `tmp`
    exact restore_covered hinv (hall rfl lv hlv) _ _

/-- non-vacuity: `{ tmp a[0] = t; set a[1] = u; put $a }` leaves `a` as it was
and outputs the temporary value. -/
example :
    let σ : Store := [("a", .list [.str [120], .str [121]])]
    let r := exec σ (.call [.assign true [⟨"L", "a", [.str [48]]⟩] [.lit (.str [116])],
                             .assign false [⟨"M", "a", [.str [49]]⟩] [.lit (.str [117])],
                             .put [.ref "a" []]])
    r.err.isNone = true ∧ r.outs.length = 1 ∧ (r.store.get "a").isSome = true := by
  decide

/-- A single `set`/`tmp` on a declared variable and a `del` with at least one
index never take a Go-panic branch (bad index arithmetic, nil containers,
`ends[level]` out of range). -/
theorem C14_set_del_no_panic (σ : Store) (temp : Bool) (lv : LV) (r : Rhs) (w : String)
    (hdecl : (σ.get lv.head).isSome) (hrhs : ∀ x p, r = .ref x p → (σ.get x).isSome) :
    (exec σ (.assign temp [lv] [r])).err ≠ some (.panic w) ∧
    (lv.idx ≠ [] → (exec σ (.del lv)).err ≠ some (.panic w)) := by
  obtain ⟨cur, hcur⟩ := Option.isSome_iff_exists.mp hdecl
  constructor
  · simp only [exec, doAssign]
    cases hd : derefAll σ [lv] with
    | error f =>
      intro h
      simp only [Option.some.injEq] at h
      exact derefAll_single_no_panic σ lv cur hcur w (by rw [hd, h])
    | ok u =>
      rw [evalAll_single]
      have hr : ∀ w', evalRhs σ r ≠ .panic w' := by
        intro w'
        cases r with
        | lit v => simp [evalRhs]
        | ref x p =>
          obtain ⟨c, hc⟩ := Option.isSome_iff_exists.mp (hrhs x p rfl)
          simpa [evalRhs, hc] using indexPath_no_panic p c w'
      cases he : evalRhs σ r with
      | panic w' => exact absurd he (hr w')
      | exc e => simp
      | ok v =>
        simp only [List.length_cons, List.length_nil, ne_eq, not_true_eq_false, if_false,
          List.zip_cons_cons, List.zip_nil_right, setAll, hcur]
        have hn := newValue_eq_assocIn cur lv v
        unfold newValue at hn
        rw [hn]
        cases ha : assocIn cur lv.idx v with
        | panic w' => exact absurd ha (assocIn_no_panic _ cur v w')
        | exc e => simp
        | ok nv => simp
  · intro hne
    simp only [exec, execDel, hcur, delElem_eq_dissocIn]
    cases hd : dissocIn cur lv.idx with
    | panic w' => exact absurd hd (dissocIn_no_panic _ hne cur w')
    | ok nv => simp
    | exc e =>
      simp only []
      obtain ⟨i, hi, _, _, _⟩ := C14_del_error_level_in_range e lv.idx.length
      rw [hi]
      cases i <;> simp

/-- `set a[i…] a[j…] = e₁ e₂`: both right-hand sides are evaluated first; then
the elements are assigned in order, the second into the value the first
assignment produced — `a` ends as `assocIn (assocIn a i e₁) j e₂`.  (Hence
`set a[i] a[j] = $a[j] $a[i]` swaps.) -/
theorem C14_multi_assign_is_sequential (σ : Store) (t1 t2 a : String) (i1 i2 : List Key) (r1 r2 : Rhs)
    (hok : (exec σ (.assign false [⟨t1, a, i1⟩, ⟨t2, a, i2⟩] [r1, r2])).err = none) :
    ∃ cur v1 v2 nv1 nv2, σ.get a = some cur ∧ evalRhs σ r1 = .ok v1 ∧ evalRhs σ r2 = .ok v2 ∧
      assocIn cur i1 v1 = .ok nv1 ∧ assocIn nv1 i2 v2 = .ok nv2 ∧
      (exec σ (.assign false [⟨t1, a, i1⟩, ⟨t2, a, i2⟩] [r1, r2])).store.get a = some nv2 := by
  simp only [exec] at hok ⊢
  rcases doAssign_cases false σ [⟨t1, a, i1⟩, ⟨t2, a, i2⟩] [r1, r2] with ⟨f, hf⟩ | ⟨vs, hv, _, he⟩
  · rw [hf] at hok; cases hok
  · obtain ⟨v1, _, h1, hv', rfl⟩ := evalAll_cons_ok hv
    obtain ⟨v2, _, h2, hnil, rfl⟩ := evalAll_cons_ok hv'
    cases hnil
    rw [he, List.zip_cons_cons, List.zip_cons_cons, List.zip_nil_right] at hok ⊢
    -- the first Set, then the second on the store the first one left
    rcases setAll_cons_cases false σ [] ⟨t1, a, i1⟩ v1 [(⟨t2, a, i2⟩, v2)] with
      ⟨f, hf⟩ | ⟨cur, nv1, hg, hn1, hs1⟩
    · rw [hf] at hok; cases hok
    · rw [hs1] at hok ⊢
      rcases setAll_cons_cases false (σ.set a nv1) [] ⟨t2, a, i2⟩ v2 [] with
        ⟨f, hf⟩ | ⟨cur2, nv2, hg2, hn2, hs2⟩
      · rw [show (if false = true then [] ++ [(a, cur)] else ([] : List (String × Val))) = [] from rfl, hf] at hok
        cases hok
      · rw [show (if false = true then [] ++ [(a, cur)] else ([] : List (String × Val))) = [] from rfl, hs2]
        rw [show (⟨t2, a, i2⟩ : LV).head = a from rfl, get_set_eq] at hg2
        cases hg2
        rw [newValue_eq_assocIn] at hn1 hn2
        exact ⟨cur, v1, v2, nv1, nv2, hg, h1, h2, hn1, hn2, get_set_eq _ _ _⟩

example :
    (exec [("a", .list [.str [49], .str [50], .str [51]])]
      (.assign false [⟨"L1", "a", [.str [48]]⟩, ⟨"L2", "a", [.str [49]]⟩] [.ref "a" [.str [49]], .ref "a" [.str [48]]])).err.isNone = true := by
  decide

/-- With the containers cached by `MakeElement`, `set a[0] a[1] = x y` on
`a = [1 2 3]` succeeds and leaves `[1 y 3]` — the assignment to `a[0]` is lost
(the variable is NOT rebound to the nested assoc of its old value `[x 2 3]`) —
and the swap `set a[0] a[1] = $a[1] $a[0]` leaves `[1 1 3]`.  The fixed model
gives `[x y 3]` and `[2 1 3]`.  Witness in harness/corpus/C14.txt. -/
theorem C14_unfixed_counterexample :
    let σ : Store := [("a", .list [.str [49], .str [50], .str [51]])]
    let lhs : List LV := [⟨"L1", "a", [.str [48]]⟩, ⟨"L2", "a", [.str [49]]⟩]
    let xy : List Rhs := [.lit (.str [120]), .lit (.str [121])]
    let swap : List Rhs := [.ref "a" [.str [49]], .ref "a" [.str [48]]]
    (doAssignStale σ lhs xy).1.get "a" = some (.list [.str [49], .str [121], .str [51]]) ∧
    (doAssignStale σ lhs xy).2.isNone = true ∧
    (exec σ (.assign false lhs xy)).store.get "a" = some (.list [.str [120], .str [121], .str [51]]) ∧
    (doAssignStale σ lhs swap).1.get "a" = some (.list [.str [49], .str [49], .str [51]]) ∧
    (exec σ (.assign false lhs swap)).store.get "a" = some (.list [.str [50], .str [49], .str [51]]) := by
  refine ⟨?_, ?_, ?_, ?_, ?_⟩ <;> rfl

/-- C14 as far as a model with immutable values can state it: statements
rebind only the variables they assign (every other variable, hence every alias
held in another variable or in a closure's own variable, keeps its value);
`set` rebinds to the nested assoc and `del` to the nested dissoc of the old
value, and change nothing when they fail; `with` and a function starting with
`tmp` put back the head variable's whole previous value.

NOT expressible here (the `_partial` in the theorem's name): that the Go
containers reachable from an old value are never written through — in Lean a
`Val` cannot change.  For the containers in isolation this is
`C06_ops_preserve_old` / `C07_history_refines_reference`; for their use by
element assignment it is checked on every step of every generated history by
the `alias-mutated` oracle of harness/c14 (sampled). -/
def C14_full : Prop :=
  (∀ (σ : Store) (s : Stmt) (y : String), y ∉ headsS s → (exec σ s).store.get y = σ.get y) ∧
  (∀ (σ : Store) (s : Stmt) (b : String) (v : Val), σ.get b = some v → b ∉ headsS s →
    evalRhs (exec σ s).store (.ref b []) = .ok v) ∧
  (∀ (σ : Store) (lv : LV) (r : Rhs),
    ((exec σ (.assign false [lv] [r])).err = none →
      ∃ cur v nv, σ.get lv.head = some cur ∧ evalRhs σ r = .ok v ∧ assocIn cur lv.idx v = .ok nv ∧
        (exec σ (.assign false [lv] [r])).store = σ.set lv.head nv) ∧
    ((exec σ (.assign false [lv] [r])).err ≠ none → (exec σ (.assign false [lv] [r])).store = σ)) ∧
  (∀ (σ : Store) (lv : LV),
    ((exec σ (.del lv)).err = none →
      ∃ cur nv, σ.get lv.head = some cur ∧ dissocIn cur lv.idx = .ok nv ∧
        (exec σ (.del lv)).store = σ.set lv.head nv) ∧
    ((exec σ (.del lv)).err ≠ none → (exec σ (.del lv)).store = σ)) ∧
  (∀ (σ : Store) (assigns : List (List LV × List Rhs)) (body : List Stmt),
    ∀ a ∈ assigns, ∀ lv ∈ a.1, (exec σ (.withS assigns body)).store.get lv.head = σ.get lv.head) ∧
  (∀ (σ : Store) (lhs : List LV) (rhs : List Rhs) (body : List Stmt),
    ∀ lv ∈ lhs, (exec σ (.call (.assign true lhs rhs :: body))).store.get lv.head = σ.get lv.head)

theorem C14_full_partial : C14_full := by
  refine ⟨C14_frame, C14_alias_unchanged, ?_, ?_, fun σ as body => (C14_with_restores σ as body).1,
    C14_tmp_restores⟩
  · intro σ lv r
    obtain ⟨_, h2, h3⟩ := C14_set_rebinds_only_head σ lv r
    refine ⟨fun h => ?_, h3⟩
    obtain ⟨cur, v, nv, a, b, c, d, _⟩ := h2 h
    exact ⟨cur, v, nv, a, b, c, d⟩
  · intro σ lv
    obtain ⟨_, h2, h3⟩ := C14_del_rebinds_only_head σ lv
    refine ⟨fun h => ?_, h3⟩
    obtain ⟨cur, nv, a, b, c, _⟩ := h2 h
    exact ⟨cur, nv, a, b, c⟩
