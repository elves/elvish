/-
C33 — styled text stays normalised and keeps its content.
`Normal t`: no segment of `t` is empty and no two adjacent segments have the same style (an empty text is
the only empty list, Go's nil).  `styledBytes t`: every byte of `t` with the style it carries; `plain t`: the
bytes alone.
-/
import ElvProofs.C33.SdRoundtrip
import ElvProofs.C33.History
open Go C33

def exRed : Style := { fg := some (.ansi 1) }
def exBlue : Style := { fg := some (.ansi 4) }
/-- [red "ab", blue "c\n"] -/
def exText : Text := [⟨exRed, [0x61, 0x62]⟩, ⟨exBlue, [0x63, 0x0a]⟩]
example : Normal exText := by decide

/-- `T(s, stylings...)` is normal and its content is `s`. -/
theorem C33_T_normal_content (s : Bytes) (ts : List Styling) : Normal (T s ts) ∧ plain (T s ts) = s :=
  ⟨T_normal s ts, plain_T s ts⟩

/-- `TextFromSegment` is normal. -/
theorem C33_textFromSegment_normal (s : Segment) : Normal (textFromSegment s) := textFromSegment_normal s

/-- `TextBuilder`: writing a normal text to a builder whose `Text()` is normal keeps it so. -/
theorem C33_builder_keeps_normal (tb : TB) (t : Text) (h : Normal tb.toText) (ht : Normal t) :
    Normal (tb.writeText t).toText := TBInv_writeText tb t h ht

/-- `Concat` of normal texts is normal. -/
theorem C33_concat_normal (ts : List Text) (h : ∀ t ∈ ts, Normal t) : Normal (Concat ts) := Concat_normal ts h

/-- `Concat` keeps every byte with its style, in order (for any inputs). -/
theorem C33_concat_content (ts : List Text) :
    styledBytes (Concat ts) = (ts.map styledBytes).flatten ∧ plain (Concat ts) = (ts.map plain).flatten := by
  refine ⟨Concat_content ts, ?_⟩
  rw [plain_eq, Concat_content]
  induction ts with
  | nil => rfl
  | cons t ts ih => simp only [List.map_cons, List.flatten_cons, List.map_append, ih, plain_eq]

example : Concat [exText, exText] = [⟨exRed, [0x61, 0x62]⟩, ⟨exBlue, [0x63, 0x0a]⟩, ⟨exRed, [0x61, 0x62]⟩, ⟨exBlue, [0x63, 0x0a]⟩] := by decide
example : Concat [[⟨exRed, [0x61]⟩], [⟨exRed, [0x62]⟩]] = [⟨exRed, [0x61, 0x62]⟩] := by decide

/-- The `Concat`/`RConcat` methods of `*Segment` and `Text` (string, segment and
text operands) give a normal text when the text operands are normal — for every
segment, including one with empty text. -/
theorem C33_concat_methods_normal (s : Segment) (t : Text) (ht : Normal t) (str : Bytes) (seg2 : Segment)
    (t2 : Text) (ht2 : Normal t2) :
    Normal (s.concat (.str str)) ∧ Normal (s.concat (.seg seg2)) ∧ Normal (s.concat (.text t2)) ∧
    Normal (s.rconcat str) ∧
    Normal (Text.concat t (.str str)) ∧ Normal (Text.concat t (.seg seg2)) ∧ Normal (Text.concat t (.text t2)) ∧
    Normal (Text.rconcat t str) := by
  have hT := T_normal str []
  have hs := textFromSegment_normal s
  have hs2 := textFromSegment_normal seg2
  exact ⟨Concat2_normal _ _ hs hT, Concat2_normal _ _ hs hs2, Concat2_normal _ _ hs ht2, Concat2_normal _ _ hT hs,
    Concat2_normal _ _ ht hT, Concat2_normal _ _ ht hs2, Concat2_normal _ _ ht ht2, Concat2_normal _ _ hT ht⟩

/-- … and their content is the concatenation of the operands' contents. -/
theorem C33_concat_methods_content (s : Segment) (t : Text) (str : Bytes) (seg2 : Segment) (t2 : Text) :
    plain (s.concat (.str str)) = s.text ++ str ∧ plain (s.concat (.seg seg2)) = s.text ++ seg2.text ∧
    plain (s.concat (.text t2)) = s.text ++ plain t2 ∧ plain (s.rconcat str) = str ++ s.text ∧
    plain (Text.concat t (.str str)) = plain t ++ str ∧ plain (Text.concat t (.seg seg2)) = plain t ++ seg2.text ∧
    plain (Text.concat t (.text t2)) = plain t ++ plain t2 ∧ plain (Text.rconcat t str) = str ++ plain t := by
  have hT := plain_T str []
  simp only [Segment.concat, Segment.rconcat, Text.concat, Text.rconcat, (C33_concat_content _).2,
    List.map_cons, List.map_nil, List.flatten_cons, List.flatten_nil, List.append_nil, hT,
    plain_textFromSegment, and_self]

/-- Every part of a partition of a normal text is normal (any indices). -/
theorem C33_partition_normal (t : Text) (idx : List Int) (h : Normal t) : ∀ p ∈ Partition t idx, Normal p :=
  partitionGo_normal t 0 idx h

/-- The parts of a partition concatenate back to the original, byte for byte
with styles (any text, any indices), and there are `n + 1` of them. -/
theorem C33_partition_content (t : Text) (idx : List Int) :
    ((Partition t idx).map styledBytes).flatten = styledBytes t ∧ (Partition t idx).length = idx.length + 1 :=
  ⟨partitionGo_content t 0 idx, partitionGo_length t 0 idx⟩

/-- With one index `0 ≤ i ≤ len`, the first part has exactly `i` bytes. -/
theorem C33_partition_size (t : Text) (i : Int) (h0 : 0 ≤ i) (hi : i ≤ (plain t).length) :
    ∃ a b, Partition t [i] = [a, b] ∧ ((plain a).length : Int) = i := by
  refine ⟨(consume t (i - 0)).1, (consume t (i - 0)).2, rfl, ?_⟩
  have := consume_size t (i - 0) (by omega) (by omega)
  omega

example : Partition exText [1, 3] = [[⟨exRed, [0x61]⟩], [⟨exRed, [0x62]⟩, ⟨exBlue, [0x63]⟩], [⟨exBlue, [0x0a]⟩]] := by decide

/-- Every part `SplitByRune` returns is normal — for any input text. -/
theorem C33_split_normal (t : Text) (r : Int) (parts : List Text) (h : SplitByRune t r = some parts) :
    ∀ p ∈ parts, Normal p := SplitByRune_normal t r parts h

/-- The plain texts of the parts, joined with the separator `string(r)`, give
the plain text back; an empty text gives the nil slice. -/
theorem C33_split_content (t : Text) (r : Int) :
    (t = [] → SplitByRune t r = none) ∧
    (t ≠ [] → ∃ parts, SplitByRune t r = some parts ∧ joinSep (runeString r) (parts.map plain) = plain t) := by
  constructor
  · intro h; subst h; rfl
  · intro h
    have e := (SplitByRune_eq_some t r _).2 ⟨h, rfl⟩
    exact ⟨_, e, by rw [joinSep_eq_joinL]; exact SplitByRune_plain t r _ e⟩

example : SplitByRune exText 10 = some [[⟨exRed, [0x61, 0x62]⟩, ⟨exBlue, [0x63]⟩], []] := by decide

-- `TrimWcwidth` is the code with fixes/C33-trimwcwidth-normalise.patch, `TrimWcwidthOld` the code without it.

/-- `TrimWcwidth` returns a normal text — for any input text and any width. -/
theorem C33_trim_normal (wd : Int → Int) (t : Text) (w : Int) : Normal (TrimWcwidth wd t w) :=
  trimGo_inv wd {} t w TBInv_empty

/-- `TrimWcwidth t w` is a prefix of `t`, byte for byte with styles: whole
segments followed by `wcwidth.Trim` of the first segment that does not fit. -/
theorem C33_trim_content (wd : Int → Int) (t : Text) (w : Int) :
    styledBytes (TrimWcwidth wd t w) = styledBytes (kept wd t w) ∧
    ∃ rest, styledBytes t = styledBytes (TrimWcwidth wd t w) ++ rest := by
  have e : styledBytes (TrimWcwidth wd t w) = styledBytes (kept wd t w) := trimGo_content wd {} t w
  exact ⟨e, by rw [e]; exact kept_prefix wd t w⟩

/-- The kept segments are at most `w` columns wide in total (`w ≥ 0`), measured
segment by segment as the code does. -/
theorem C33_trim_width (wd : Int → Int) (t : Text) (w : Int) (hw : 0 ≤ w) : segsWidth wd (kept wd t w) ≤ w :=
  kept_width wd t w hw

/-- The unchanged `TrimWcwidth` leaves an empty segment: `TrimWcwidth 0` of a
one-segment text (witness in harness/corpus/C33.txt). -/
theorem C33_unfixed_trim_counterexample :
    ¬ Normal (TrimWcwidthOld (fun _ => 1) [⟨{}, [0x61]⟩] 0) := by decide

example : TrimWcwidth (fun _ => 1) exText 3 = [⟨exRed, [0x61, 0x62]⟩, ⟨exBlue, [0x63]⟩] := by decide

/-- `StyleText` keeps the content and the number of segments. -/
theorem C33_styleText_content (t : Text) (ts : List Styling) :
    plain (styleText t ts) = plain t ∧ (styleText t ts).length = t.length :=
  ⟨plain_styleText t ts, styleText_length t ts⟩

/-- The full statement for restyling: the result of `StyleText` on a normal text is normal. -/
def C33_full_styleText_normal : Prop := ∀ (t : Text) (ts : List Styling), Normal t → Normal (styleText t ts)

/-- It is false for the code as it is (finding `styletext-merges-neighbour-styles`):
`StyleText([red "ab", blue "c\n"], FgDefault)` has two adjacent segments with the same style. -/
theorem C33_counterexample : ¬ C33_full_styleText_normal := by
  intro h
  have := h exText [.fg none] (by decide)
  revert this; decide

/-- Exactly that class is the exception: the result is normal iff the styling
does not map the styles of two neighbouring segments to the same style. -/
theorem C33_styleText_normal_partial (t : Text) (ts : List Styling) (h : Normal t) :
    Normal (styleText t ts) ↔ NoMergedNeighbours ts t := styleText_normal_iff t ts h

example : NoMergedNeighbours [.on .bold] exText ∧ Normal (styleText exText [.on .bold]) := by decide

/-- `SplitByRune('\n')` keeps every byte with its style when every newline lies in a
default-style segment: the lines joined with a default-style newline have exactly the
styled bytes of the text (`C33_split_content` is the unstyled law for any rune and text). -/
theorem C33_split_styled_content (t : Text) (hnl : ∀ s ∈ t, 10 ∈ s.text → s.style = {}) (ls : List Text)
    (h : SplitByRune t 10 = some ls) : joinL sepD (ls.map styledBytes) = styledBytes t :=
  SplitByRune_styled t hnl ls h

example : SplitByRune [⟨exRed, [0x61]⟩, ⟨{}, [10, 0x62]⟩] 10 = some [[⟨exRed, [0x61]⟩], [⟨{}, [0x62]⟩]] := by decide

/-- The normal form is canonical: two normal texts with the same styled bytes are equal. -/
theorem C33_normal_canonical (a b : Text) (ha : Normal a) (hb : Normal b) (h : styledBytes a = styledBytes b) :
    a = b := Normal_unique a b ha hb h

example : Normal exText ∧ styledBytes exText = styledBytes exText := by decide

/-! `sdRender`/`sdDerender` model `styledown.Render`/`Derender` (ElvModel/C33/Styledown.lean,
tied by the `sd`/`sdren` ops).  `pd` is the `strings.Fields`/`DecodeRuneInString`/
`ui.ParseStyling` part of `parseStyleCharDef` (`PdOK`: what is used of it); `wd` the rune
width function (non-negative, printable ASCII one column — true of `wcwidth.OfRune`
without overrides, `C34_ofRune_range`). -/

/-- The texts styledown can express: the complement of the three finding classes. -/
structure C33_SdExpressible (wd : Int → Int) (t : Text) : Prop where
  /-- not `styledown-invalid-utf8` -/
  utf8 : ∀ s ∈ t, validUtf8 s.text = true
  /-- not `styledown-zero-width-char` (a newline is the line separator, not a character of a line) -/
  width : ∀ s ∈ t, ∀ r ∈ toRunes s.text, r ≠ 10 → wd ((r : Nat) : Int) ≠ 0
  /-- not `styledown-styled-newline` -/
  newline : ∀ s ∈ t, 10 ∈ s.text → s.style = {}

/-- The full statement: whenever `Derender` accepts a normal text, `Render` gives the text back. -/
def C33_full_styledown_roundtrip : Prop :=
  ∀ (wd : Int → Int) (pd : DefParser), (∀ r, 0 ≤ wd r) → (∀ r : Int, 0x20 ≤ r → r < 0x7f → wd r = 1) → PdOK wd pd →
    ∀ (t : Text) (defs m : Bytes), Normal t → sdDerender wd pd t defs = .ok m → sdRender wd pd m = .ok t

def exSdWd : Int → Int := fun r => if r = 10 ∨ r = 0x301 then 0 else 1
/-- an example definition parser: only `"R red"` is a definition -/
def exSdPd : DefParser := fun line =>
  if line = [0x52, 0x20, 0x72, 0x65, 0x64] then some (0x52, exRed) else none

theorem C33_exSd_ok : (∀ r, 0 ≤ exSdWd r) ∧ (∀ r : Int, 0x20 ≤ r → r < 0x7f → exSdWd r = 1) ∧ PdOK exSdWd exSdPd := by
  refine ⟨fun r => by unfold exSdWd; split <;> omega, fun r h1 h2 => by unfold exSdWd; rw [if_neg (by omega)], ?_⟩
  constructor
  · intro line r st h
    unfold exSdPd at h
    split at h
    · simp only [Option.some.injEq, Prod.mk.injEq] at h; rw [← h.1]; decide
    · simp at h
  · intro line r st h _
    unfold exSdPd at h
    split at h
    · rename_i hl; rw [hl]; decide
    · simp at h
  · decide

/-- It is false for the code as it is — the three finding classes (witnesses in harness/corpus/C33.txt):
a styled newline comes back unstyled (`[inverse "\n"]` ↦ `"\n\n"` ↦ `[default "\n"]`). -/
theorem C33_styledown_counterexample : ¬ C33_full_styledown_roundtrip := by
  intro h
  have := h exSdWd exSdPd C33_exSd_ok.1 C33_exSd_ok.2.1 C33_exSd_ok.2.2 [⟨{ inverse := true }, [10]⟩] [] [10, 10]
    (by decide) (by decide)
  revert this; decide

/-- The other two classes: a zero-width character is accepted by `Derender` and rejected by `Render`;
an invalid byte comes back as U+FFFD. -/
theorem C33_styledown_counterexamples :
    (∃ m, sdDerender exSdWd exSdPd [⟨{}, [0x61, 0xcc, 0x81]⟩] [] = .ok m ∧ sdRender exSdWd exSdPd m ≠ .ok [⟨{}, [0x61, 0xcc, 0x81]⟩]) ∧
    (∃ m, sdDerender exSdWd exSdPd [⟨{}, [0xff]⟩] [] = .ok m ∧ sdRender exSdWd exSdPd m = .ok [⟨{}, [0xef, 0xbf, 0xbd]⟩]) := by
  refine ⟨⟨[0x61, 0xcc, 0x81, 10, 0x20, 10, 10] ++ noEolLine ++ [10], by decide, by decide⟩,
    ⟨[0xff, 10, 0x20, 10, 10] ++ noEolLine ++ [10], by decide, by decide⟩⟩

/-- Outside exactly those three classes the round trip holds: for a normal text of valid UTF-8
without zero-width characters whose newlines are unstyled, whatever `Derender(t, styleDefs)`
returns, `Render` turns it back into `t` — for every `styleDefs`, including definitions that
override builtin characters, unused definitions, and definitions of a builtin style. -/
theorem C33_styledown_roundtrip_partial (wd : Int → Int) (pd : DefParser) (nn : ∀ r, 0 ≤ wd r)
    (hascii : ∀ r : Int, 0x20 ≤ r → r < 0x7f → wd r = 1) (hpd : PdOK wd pd)
    (t : Text) (defs m : Bytes) (ht : Normal t) (hx : C33_SdExpressible wd t)
    (h : sdDerender wd pd t defs = .ok m) : sdRender wd pd m = .ok t := by
  refine sd_roundtrip wd nn hascii pd hpd t defs m ht ?_ hx.newline h
  intro s hs
  refine ⟨toRunes s.text, ?_, (Go.encodeRunes_toRunes (hx.utf8 s hs)).symm⟩
  intro r hr
  exact ⟨Go.toRunes_validRune s.text r hr, hx.width s hs r hr⟩

-- non-vacuity: [red "ab", default "c\n世"] with `R red` defined: Derender gives "abc\nRR \n世\n  \n\nno-eol\nR red\n"
example : Normal [⟨exRed, [0x61, 0x62]⟩, ⟨{}, [0x63, 10, 0xe4, 0xb8, 0x96]⟩] ∧
    sdDerender exSdWd exSdPd [⟨exRed, [0x61, 0x62]⟩, ⟨{}, [0x63, 10, 0xe4, 0xb8, 0x96]⟩] [0x52, 0x20, 0x72, 0x65, 0x64] =
      .ok ([0x61, 0x62, 0x63, 10, 0x52, 0x52, 0x20, 10, 0xe4, 0xb8, 0x96, 10, 0x20, 10, 10] ++ noEolLine ++
        [10, 0x52, 0x20, 0x72, 0x65, 0x64, 10]) := by decide
example : C33_SdExpressible exSdWd [⟨exRed, [0x61, 0x62]⟩, ⟨{}, [0x63, 10, 0xe4, 0xb8, 0x96]⟩] :=
  ⟨by decide, by decide, by decide⟩

/-! Histories over named values (`ElvModel/C33/History.lean`): a history is a sequence of operations whose
operands are literals or VALUES MADE EARLIER in the same history (`$i`), kept by the harness as the
real Go values and fed to later operations again.  The model gives a history value semantics.  That the
Go values really are immutable (no operation appends into the backing array of an operand, of a
part, of a sub-slice, of an earlier `TextBuilder.Text()`) cannot be expressed on lists:
it is SAMPLED - the harness re-observes every value after every step (oracle class
`operand-mutated`), and compares every result with the same operation on fresh copies
(`result-depends-on-history`), which is `C33_history_value_semantics` on the code. -/

/-- A value, once made, is what it is for the rest of the history: no later
step changes register `i`. -/
theorem C33_history_keeps_values (wd : Int → Int) (s : HState) (ops : List HOp) (i : Nat) (h : i < s.regs.length) :
    (s.run wd ops).regs[i]? = s.regs[i]? := run_keeps wd ops s i h

/-- An operation is a function of the VALUES of its operands: with the operands
replaced by literal copies of their values (and no register file at all) it
gives the same result and the same builder. -/
theorem C33_history_value_semantics (wd : Int → Int) (regs : List Text) (tb : TB) (op : HOp) :
    evalOp wd regs tb op = evalOp wd [] tb (op.literal regs) := (evalOp_literal wd regs tb op).symm

/-- … so the same operation on the same operands gives the same result again,
whatever was made in between (`Concat(a, b)` twice, `$a$b` twice): if the
operands exist in `s` and the steps in between leave the builder as it was,
running `op` after them prints what it prints in `s`. -/
theorem C33_history_same_operands_same_result (wd : Int → Int) (s : HState) (op : HOp) (between : List HOp)
    (hok : op.ok s.regs = true) (htb : (s.run wd between).tb = s.tb) :
    ((s.run wd between).step wd op).2 = (s.step wd op).2 := by
  obtain ⟨more, h⟩ := run_regs_append wd between s
  show (evalOp wd (s.run wd between).regs (s.run wd between).tb op).1 = (evalOp wd s.regs s.tb op).1
  rw [h, htb, evalOp_append wd s.regs more s.tb op hok]

/-- [red "x", blue "y"] and [blue "z", bold "w"]: the operands of the seeded change's demonstration -/
def exA : Text := [⟨exRed, [0x78]⟩, ⟨exBlue, [0x79]⟩]
def exB : Text := [⟨exBlue, [0x7a]⟩, ⟨{ bold := true }, [0x77]⟩]
example : HOp.ok ((HState.run (fun _ => 1) {} [.lit exA, .lit exB]).regs) (.concat [.reg 0, .reg 1]) = true := by decide
example : (HState.run (fun _ => 1) {} [.lit exA, .lit exB, .concat [.reg 0, .reg 1], .concat [.reg 0, .reg 1]]).regs =
    [exA, exB, [⟨exRed, [0x78]⟩, ⟨exBlue, [0x79, 0x7a]⟩, ⟨{ bold := true }, [0x77]⟩],
      [⟨exRed, [0x78]⟩, ⟨exBlue, [0x79, 0x7a]⟩, ⟨{ bold := true }, [0x77]⟩]] := by decide

/-- The normal form is closed under histories: when every LITERAL of a history
is in normal form and no step is a restyling (`C33_styleText_normal_partial`),
EVERY value made - results of operations on results, parts of partitions and
splits, sub-slices `t[lo..hi]`, what the builder returns between writes - is in
normal form, and so is what the builder would return at the end. -/
theorem C33_history_normal (wd : Int → Int) (ops : List HOp) (h : ∀ op ∈ ops, op.NormalLits) :
    (∀ t ∈ (HState.run wd {} ops).regs, Normal t) ∧ Normal (HState.run wd {} ops).tb.toText :=
  HInv_run wd ops {} HInv_init h

example : ∀ op ∈ [HOp.lit exA, .partition (.reg 0) [1], .sub (.reg 0) 0 1, .textconcat (.reg 3) (.text (.reg 2)),
    .tbwrite (.reg 4), .tbtext], op.NormalLits := by
  intro op h
  simp only [List.mem_cons, List.not_mem_nil, or_false] at h
  rcases h with rfl | rfl | rfl | rfl | rfl | rfl <;> first | trivial | (show Normal exA; decide) | exact ⟨trivial, trivial⟩
