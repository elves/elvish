/-
C18 — pipelines deliver data exactly once, in order, and never hang writers.  Theorems over `C18.Reachable`: every
interleaving of the stage goroutines and every behaviour of the stage programs.  Model: ElvModel/C18/Model.lean
(`pipelineOp.exec`, `valueOutput.Put`, `byteOutput.Write`, `MakePipelineError`); tied to the Go code by trace
refinement (harness/c18).  Not claimed: deadlock freedom of the stage programs (`C18_stage_programs_can_deadlock`),
only that a stage which exits is never what the others wait for (`C18_no_deadlock_by_exiting`).
-/
import ElvProofs.C18.Progress
import ElvModel.C18.Prog

open C18

/-- The clauses of C18 as one proposition. -/
def C18_full (cfg : Cfg) : Prop :=
  ∀ s, Reachable cfg s →
    -- no Go panic (close of closed channel, send on closed channel, negative WaitGroup)
    s.crashed = false ∧
    -- each link: what was received is a prefix of what was sent, the rest is in flight
    (∀ k, (s.link k).sent = (s.link k).recvd ++ (s.link k).q ∧ (s.link k).bsent = (s.link k).brecvd ++ (s.link k).pipe) ∧
    -- a reader that saw the closed channel / EOF has received everything
    (∀ k, ((s.link k).sawClosed = true → (s.link k).recvd = (s.link k).sent) ∧
          ((s.link k).sawEof = true → (s.link k).brecvd = (s.link k).bsent)) ∧
    -- after the reader signalled, a pending Put / Write of the upstream stage completes with reader-gone
    (∀ k v, k + 1 < cfg.n → 4 ≤ (s.stage (k + 1)).pc → (s.stage k).out = .putting v → (s.stage k).outRedir = 0 →
      ∃ s', step cfg s (.selStop k) = some s' ∧ (s'.stage k).out = .putDone (.stopped (some .readerGone))) ∧
    (∀ k todo m, k + 1 < cfg.n → 6 ≤ (s.stage (k + 1)).pc → (s.stage k).out = .writing todo m → (s.stage k).outRedir = 0 →
      ∃ s', step cfg s (.wrEpipe k) = some s' ∧ (s'.stage k).out = .writeDone m (some .readerGone)) ∧
    -- which is never reported for a stage whose output is a pipe
    (∀ i, i + 1 < cfg.n → (s.stage i).exc ≠ some .readerGone) ∧
    -- exec returns only after every stage is done, with MakePipelineError of what remains
    (∀ r, s.result = some r → (∀ i, i < cfg.n → (s.stage i).pc = 9) ∧ r = mpeSpec (s.excs cfg)) ∧
    -- if the protocol is stuck, only stages still running their programs are involved
    (s.result = none → ProtocolStuck cfg s → StuckShape cfg s)

/-- The protocol never panics: no close of a closed channel, no send on a
closed channel, no negative WaitGroup counter, no index panic in
`MakePipelineError` — for every pipeline and every schedule. -/
theorem C18_no_go_panic {cfg : Cfg} {s : State} (h : Reachable cfg s) : s.crashed = false :=
  (reachable_all h).inv.2.2

/-- (1) Exactly once, in order, within each of the two channels: everything
ever sent on a link is what was received so far followed by what is still
buffered — nothing is lost, duplicated or reordered. -/
theorem C18_exactly_once_in_order {cfg : Cfg} {s : State} (h : Reachable cfg s) (k : Nat) :
    (s.link k).sent = (s.link k).recvd ++ (s.link k).q ∧
    (s.link k).bsent = (s.link k).brecvd ++ (s.link k).pipe :=
  ⟨((reachable_all h).inv.1 k).queue, ((reachable_all h).inv.1 k).bqueue⟩

/-- … hence the received sequence is a prefix of the sent sequence. -/
theorem C18_received_prefix_of_sent {cfg : Cfg} {s : State} (h : Reachable cfg s) (k : Nat) :
    (s.link k).recvd <+: (s.link k).sent ∧ (s.link k).brecvd <+: (s.link k).bsent := by
  obtain ⟨h1, h2⟩ := C18_exactly_once_in_order h k
  exact ⟨⟨_, h1.symm⟩, ⟨_, h2.symm⟩⟩

/-- The value channel never holds more than `pipelineChanBufferSize` values. -/
theorem C18_channel_bounded {cfg : Cfg} {s : State} (h : Reachable cfg s) (k : Nat) :
    (s.link k).q.length ≤ cfg.cap ∧ (s.link k).pipe.length ≤ cfg.pcap :=
  ⟨((reachable_all h).inv.1 k).cap, ((reachable_all h).inv.1 k).bcap⟩

/-- (2) A stage that reads to the end sees everything: once the reader has
observed the closed channel (resp. EOF), it has received every value (byte)
its predecessor ever sent — in this and in every later state, because the
statement is an invariant and `sawClosed` / `sawEof` are never reset. -/
theorem C18_reader_to_end_sees_all {cfg : Cfg} {s : State} (h : Reachable cfg s) (k : Nat) :
    ((s.link k).sawClosed = true → (s.link k).recvd = (s.link k).sent) ∧
    ((s.link k).sawEof = true → (s.link k).brecvd = (s.link k).bsent) := by
  have hk := (reachable_all h).inv.1 k
  refine ⟨fun hc => ?_, fun he => ?_⟩
  · rw [hk.queue, (hk.sawC hc).2, List.append_nil]
  · rw [hk.bqueue, (hk.sawE he).2, List.append_nil]

/-- … because the predecessor closes only after its last send: the channel is
closed only once the producer is past its last operation (or redirected its
output), and a closed channel is never sent on again. -/
theorem C18_close_after_last_send {cfg : Cfg} {s : State} (h : Reachable cfg s) (k : Nat)
    (hc : (s.link k).chClosed = true) :
    k + 1 < cfg.n ∧ (s.stage k).out = .idle ∨ (s.stage k).outRedir = 2 := by
  have hk := (reachable_all h).inv.1 k
  have hs := (reachable_all h).inv.2.1 k
  have := hk.pC.mp hc
  rcases this with ⟨hn, h2 | ⟨h0, h8⟩⟩
  · exact Or.inr h2
  · refine Or.inl ⟨hn, ?_⟩
    apply Classical.byContradiction
    intro hne
    have := (hs.outBusy hne).1
    omega

/-- `Put` never returns a nil error without having sent the value, and on a
pipe of the pipeline the only error it returns is reader-gone. -/
theorem C18_put_error_is_reader_gone {cfg : Cfg} {s : State} (h : Reachable cfg s) (i : Nat) (e : Option Exc)
    (hout : (s.stage i).out = .putDone (.stopped e)) (hr : (s.stage i).outRedir = 0) : e = some .readerGone :=
  (((reachable_all h).err i).putErr e hout).1 hr

/-- (3a) After the downstream stage has closed `sendStop` (it does so right
after its `form.exec` returned, without any blocking step in between — see
`C18_epilogue_never_blocks`), a `Put` of the upstream stage that is waiting in
its select can complete, and it completes with reader-gone. -/
theorem C18_put_never_hangs_after_reader_exit {cfg : Cfg} {s : State} (h : Reachable cfg s) (k : Nat) (v : Val)
    (hk : k + 1 < cfg.n) (hpc : 4 ≤ (s.stage (k + 1)).pc) (hout : (s.stage k).out = .putting v)
    (hr : (s.stage k).outRedir = 0) :
    ∃ s', step cfg s (.selStop k) = some s' ∧ (s'.stage k).out = .putDone (.stopped (some .readerGone)) :=
  put_completes_after_stop (reachable_all h) hk hpc hout hr

/-- (3b) The same for byte writes once the reader closed its end of the pipe. -/
theorem C18_write_never_hangs_after_reader_exit {cfg : Cfg} {s : State} (h : Reachable cfg s) (k : Nat)
    (todo : List Byte) (m : Nat) (hk : k + 1 < cfg.n) (hpc : 6 ≤ (s.stage (k + 1)).pc)
    (hout : (s.stage k).out = .writing todo m) (hr : (s.stage k).outRedir = 0) :
    ∃ s', step cfg s (.wrEpipe k) = some s' ∧ (s'.stage k).out = .writeDone m (some .readerGone) :=
  write_completes_after_close (reachable_all h) hk (Or.inr hpc) hout hr

/-- (3c) The exit sequence of a stage (record the exception, signal
reader-gone, close the ports, `wg.Done`) never blocks, whatever the other
stages are doing. -/
theorem C18_epilogue_never_blocks {cfg : Cfg} {s : State} (h : Reachable cfg s) (i : Nat) (hi : i < cfg.n)
    (h2 : 2 ≤ (s.stage i).pc) (h8 : (s.stage i).pc ≤ 8) :
    ∃ s', step cfg s (epilogueLabel (s.stage i).pc i) = some s' :=
  epilogue_enabled (C18_no_go_panic h) hi h2 h8

/-- (3d) … and reader-gone is not reported: `excs[i]` of a stage whose output
is a pipe is never reader-gone. -/
theorem C18_reader_gone_not_reported {cfg : Cfg} {s : State} (h : Reachable cfg s) (i : Nat) (hi : i + 1 < cfg.n) :
    (s.stage i).exc ≠ some .readerGone := by
  have hs := (reachable_all h).inv.2.1 i
  cases hr : (s.stage i).retv with
  | none => rw [hs.retvN hr]; simp
  | some r =>
    rw [hs.retv r hr]
    unfold keptExc
    cases r with
    | none => simp
    | some e =>
      by_cases he : e = Exc.readerGone
      · simp [hi, he]
      · simp [he]

/-- (4) `exec` has a result only after every stage has called `wg.Done`, and
the result is `MakePipelineError` of the recorded exceptions, which equals its
specification `mpeSpec`. -/
theorem C18_result {cfg : Cfg} {s : State} (h : Reachable cfg s) (r : PipeRes) (hr : s.result = some r) :
    (∀ i, i < cfg.n → (s.stage i).pc = 9) ∧ r = mpeSpec (s.excs cfg) := by
  have ha := reachable_all h
  obtain ⟨hw, hm⟩ := ha.g.res r hr
  refine ⟨fun i hi => ?_, ?_⟩
  · rw [ha.g.wg, sumTo_eq_zero] at hw
    simpa [notDone] using hw i hi
  · rw [makePipelineError_eq] at hm
    exact (Option.some.inj hm).symm

/-- `MakePipelineError` (the Go loop with its `notOK` counter and `lastNotOK`
index) never indexes out of range and computes `mpeSpec`. -/
theorem C18_makePipelineError_spec (excs : List (Option Exc)) : makePipelineError excs = some (mpeSpec excs) :=
  makePipelineError_eq excs

/-- nothing left → nil -/
theorem C18_result_nil (excs : List (Option Exc)) (h : notOKs excs = []) : mpeSpec excs = .nil := by
  unfold mpeSpec; rw [h]

/-- exactly one exception left → that exception itself -/
theorem C18_result_single (excs : List (Option Exc)) (e : Exc) (h : notOKs excs = [e]) : mpeSpec excs = .single e := by
  unfold mpeSpec; rw [h]

/-- several → a pipeline error listing EVERY stage in order (OK for the others):
none is dropped -/
theorem C18_result_multi (excs : List (Option Exc)) (e1 e2 : Exc) (rest : List Exc) (h : notOKs excs = e1 :: e2 :: rest) :
    mpeSpec excs = .multi (newexcs excs) ∧ (newexcs excs).length = excs.length ∧
    ∀ e, e ∈ notOKs excs → e ∈ newexcs excs := by
  refine ⟨by unfold mpeSpec; rw [h], by simp [newexcs], fun e he => ?_⟩
  unfold notOKs at he
  exact (List.mem_filter.mp he).1

/-- (5) No stage can make the PROTOCOL deadlock by exiting early: in any
reachable state in which `exec` has not returned and no protocol step is
enabled (only the stage programs could move), every stage is either completely
done or still inside its own `form.exec`; some stage is still inside
`form.exec`; and every blocked `Put` / `Write` / receive / read waits for a
neighbour that is itself still inside `form.exec`.  So a stage that has exited
— or is exiting — is never what anybody waits for. -/
theorem C18_no_deadlock_by_exiting {cfg : Cfg} {s : State} (h : Reachable cfg s) (hres : s.result = none)
    (hstuck : ProtocolStuck cfg s) : StuckShape cfg s :=
  stuck_shape (reachable_all h) hres hstuck

/-- (6) The pipeline finishes once all its stages finish: from any reachable
state in which every `form.exec` has returned, some step is enabled as long as
`exec` has no result, every possible step keeps that situation and decreases
`remaining` by one — so under every schedule `exec` returns after exactly
`remaining` more steps. -/
theorem C18_finishes_once_stages_finish {cfg : Cfg} {s : State} (h : Reachable cfg s) (hret : AllReturned cfg s) :
    (s.result = none → ∃ l s', step cfg s l = some s') ∧
    (∀ l s', step cfg s l = some s' → AllReturned cfg s' ∧ remaining cfg s' + 1 = remaining cfg s) ∧
    (remaining cfg s = 0 → s.result ≠ none) :=
  ⟨finishing_enabled (reachable_all h) hret, fun _ _ hs => finishing_step (reachable_all h) hret hs, remaining_zero⟩

/-- Whatever finite programs the stages run, every state they can reach is a
reachable state of the unconstrained system; so all theorems above hold for
every choice of stage programs. -/
theorem C18_prog_reachable {cfg : Cfg} {progs : Nat → Prog} {sp : State × (Nat → Prog)}
    (h : PReachable cfg progs sp) : Reachable cfg sp.1 := by
  induction h with
  | init => exact Reachable.init
  | step l _ hs ih =>
    unfold pstep at hs
    split at hs
    · simp only [Option.map_eq_some_iff] at hs
      obtain ⟨a, ha, rfl⟩ := hs
      exact Reachable.step l ih ha
    · split at hs
      · cases hs
      · simp only [Option.map_eq_some_iff] at hs
        obtain ⟨a, ha, rfl⟩ := hs
        exact Reachable.step l ih ha

theorem C18_full_holds (cfg : Cfg) : C18_full cfg := by
  intro s h
  exact ⟨C18_no_go_panic h, C18_exactly_once_in_order h, C18_reader_to_end_sees_all h,
    fun k v hk hpc ho hr => C18_put_never_hangs_after_reader_exit h k v hk hpc ho hr,
    fun k todo m hk hpc ho hr => C18_write_never_hangs_after_reader_exit h k todo m hk hpc ho hr,
    C18_reader_gone_not_reported h, C18_result h, C18_no_deadlock_by_exiting h⟩

/-- C18 for every pipeline length, every channel and pipe capacity (in
particular the regenerated `pipelineChanBufferSize`), every schedule and every
stage program. -/
theorem C18_holds_for_every_stage_program (cfg : Cfg) (progs : Nat → Prog) (sp : State × (Nat → Prog))
    (h : PReachable cfg progs sp) :
    sp.1.crashed = false ∧
    (∀ k, (sp.1.link k).recvd <+: (sp.1.link k).sent ∧ (sp.1.link k).brecvd <+: (sp.1.link k).bsent) ∧
    (∀ k, ((sp.1.link k).sawClosed = true → (sp.1.link k).recvd = (sp.1.link k).sent) ∧
          ((sp.1.link k).sawEof = true → (sp.1.link k).brecvd = (sp.1.link k).bsent)) ∧
    (∀ i, i + 1 < cfg.n → (sp.1.stage i).exc ≠ some .readerGone) ∧
    (∀ r, sp.1.result = some r → (∀ i, i < cfg.n → (sp.1.stage i).pc = 9) ∧ r = mpeSpec (sp.1.excs cfg)) :=
  have hr := C18_prog_reachable h
  ⟨C18_no_go_panic hr, C18_received_prefix_of_sent hr, C18_reader_to_end_sees_all hr,
    C18_reader_gone_not_reported hr, C18_result hr⟩

theorem run_reachable {cfg : Cfg} : ∀ (ls : List Label) {s s' : State}, Reachable cfg s → run cfg s ls = some s' →
    Reachable cfg s'
  | [], s, s', h, hr => by simp [run] at hr; subst hr; exact h
  | l :: ls, s, s', h, hr => by
    simp only [run] at hr
    cases hs : step cfg s l with
    | none => simp [hs] at hr
    | some s1 => simp [hs] at hr; exact run_reachable ls (Reachable.step l h hs) hr

def exCfg : Cfg := { n := 2, cap := 2, pcap := 4 }

/-- stage 0 puts 7 and 8; stage 1 takes 7 and exits with exception 5; stage 0's
third put then is stopped; stage 0 exits with reader-gone; exec returns. -/
def exRun : List Label :=
  [.start 0, .start 1, .putBeg 0 7, .enq 0, .putEnd 0, .takeBeg 1, .deq 1, .takeEnd 1,
   .putBeg 0 8, .enq 0, .putEnd 0, .ret 1 (some (.other 5)), .setErr 1, .closeStop 1,
   .putBeg 0 9, .selStop 0, .putEnd 0, .ret 0 (some .readerGone),
   .storeGone 1, .closeIn 1, .closeOutFile 1, .closeOutChan 1, .wgDone 1,
   .setErr 0, .closeStop 0, .storeGone 0, .closeIn 0, .closeOutFile 0, .closeOutChan 0, .wgDone 0, .waitRet]

/-- the run is a path of the model; it ends with the single exception of stage 1
(reader-gone of stage 0 dropped), value 7 delivered, value 8 still buffered -/
example : (run exCfg (State.init exCfg) exRun).map
    (fun s => (s.result, (s.link 0).sent, (s.link 0).recvd, (s.link 0).q, (s.stage 0).exc)) =
    some (some (.single (.other 5)), [7, 8], [7], [8], none) := by decide

/-- the hypotheses of (3a) are satisfiable: after `close(sendStop)` a Put is pending -/
example : (run exCfg (State.init exCfg) (exRun.take 15)).map
    (fun s => ((s.stage 1).pc, (s.stage 0).out, (s.stage 0).outRedir)) = some (4, .putting 9, 0) := by decide

/-- the hypotheses of (2) are satisfiable: a reader that drains the channel sees `closed` -/
example : (run exCfg (State.init exCfg)
    [.start 0, .start 1, .putBeg 0 7, .enq 0, .putEnd 0, .ret 0 none, .setErr 0, .closeStop 0, .storeGone 0, .closeIn 0,
     .closeOutFile 0, .closeOutChan 0, .takeBeg 1, .deq 1, .takeEnd 1, .takeBeg 1, .deqClosed 1]).map
    (fun s => ((s.link 0).sawClosed, (s.link 0).recvd, (s.link 0).sent, (s.stage 1).vin)) =
    some (true, [7], [7], .took none) := by decide

/-- several exceptions are all reported, in stage order -/
example : mpeSpec [some (.other 1), none, some (.other 3)] = .multi [.other 1, .ok, .other 3] := by decide

/-- a stage program that reacts to results, and a run that follows the programs -/
def exProgs : Nat → Prog
  | 0 => .put 7 fun _ => .put 8 fun r => match r with
      | .sent => .exit none
      | .stopped _ => .exit (some .readerGone)
  | _ => .take fun _ => .exit (some (.other 5))

example : ∃ sp, PReachable exCfg exProgs sp ∧ (sp.1.stage 0).out = .putDone .sent :=
  ⟨_, .step (.enq 0) (.step (.putBeg 0 7) (.step (.start 0) .init rfl) rfl) rfl, rfl⟩

/-- producer blocked on the full value channel while the consumer, still
running, waits for bytes first -/
def deadRun : List Label :=
  [.start 0, .start 1, .putBeg 0 1, .enq 0, .putEnd 0, .putBeg 0 2, .enq 0, .putEnd 0, .putBeg 0 3, .readBeg 1 1]

def deadState : State :=
  match run exCfg (State.init exCfg) deadRun with
  | some s => s
  | none => State.init exCfg

theorem deadState_run : run exCfg (State.init exCfg) deadRun = some deadState := by
  unfold deadState
  cases h : run exCfg (State.init exCfg) deadRun with
  | some s => rfl
  | none =>
    have : (run exCfg (State.init exCfg) deadRun).isSome = true := by decide
    rw [h] at this; cases this

/-- General deadlock freedom is NOT a property of pipelines: in the state reached by `deadRun` both stages are still
running their programs, the producer's `Put` can neither send (channel full) nor stop (reader alive) and the
consumer's read can neither return bytes nor EOF. -/
theorem C18_stage_programs_can_deadlock :
    ∃ s, Reachable exCfg s ∧ (s.stage 0).pc = 1 ∧ (s.stage 1).pc = 1 ∧
      (s.stage 0).out = .putting 3 ∧ (s.stage 1).bin = .reading 1 ∧
      step exCfg s (.enq 0) = none ∧ step exCfg s (.selStop 0) = none ∧
      (∀ k, step exCfg s (.rd 1 k) = none) ∧ step exCfg s (.rdEof 1) = none := by
  refine ⟨deadState, run_reachable deadRun Reachable.init deadState_run, by decide, by decide, by decide, by decide,
    by decide, by decide, ?_, by decide⟩
  intro k
  have hp : (deadState.link 0).pipe = [] := by decide
  have hb : (deadState.stage 1).bin = .reading 1 := by decide
  have hr : (deadState.stage 1).inRedir = false := by decide
  have hc : deadState.crashed = false := by decide
  rw [step_of_core hc rfl (by decide)]
  simp only []
  unfold stepRd
  simp only [hb, hr, hp]
  simp
  omega
