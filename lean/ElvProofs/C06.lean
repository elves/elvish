/-
C06 — Lists are immutable sequences that behave like arrays at every length.

The model ElvModel/C06/Model.lean mirrors pkg/persistent/vector/vector.go after
fixes/C06-subvector-bounds.patch.  `Vec.toList` (ElvModel/C06/Spec.lean) reads the elements
out of the representation: leaves left to right, then the tail; a slice is the segment of its
parent.  `WF w` = `∃ l, VReps w l` says that count, height, root and tail fit together (see
`RepF`, `Reps`, `VReps`); a slice has `0 ≤ begin ≤ end ≤ parent length`.

The theorems hold for every length: the lengths where the tail is pushed into the tree and
where the tree gains or loses a level are cases of the proofs.  The branching constants are
generated from the Go source (`Gen.C06Consts`); the proofs use only the four facts about them
that `C06_constants` collects (ElvProofs/C06/Arith.lean).  Each
`.ok` conclusion is also panic freedom: failed type assertions, out-of-range indexing, nil
dereference and method calls on a nil interface are explicit `panic` outcomes of the model.
-/
import ElvProofs.C06.History
import ElvProofs.C06.Iter
import ElvProofs.C06.ToList
open Go C06
open Gen.C06Consts

/-- The only facts about the generated constants that the proofs use. -/
theorem C06_constants :
    nodeSize = 2 ^ chunkBits ∧ chunkMask = nodeSize - 1 ∧ tailMaxLen = nodeSize ∧ 1 ≤ chunkBits :=
  ⟨nodeSize_eq, chunkMask_eq, tailMaxLen_eq, chunkBits_pos⟩

/-- The abstraction relation `VReps` of the proofs is "well formed, and `toList` is that list". -/
theorem C06_abstraction {α : Type} (w : Vec α) (l : List α) :
    VReps w l ↔ (WF w ∧ w.toList = l) :=
  ⟨fun h => ⟨⟨l, h⟩, vreps_toList h⟩, fun ⟨h1, h2⟩ => h2 ▸ h1.vreps⟩

/-- `Empty` is well formed and is the empty list. -/
theorem C06_empty {α : Type} :
    WF (.vec (empty : Vector α)) ∧ (Vec.vec (empty : Vector α)).toList = [] :=
  (C06_abstraction _ _).mp reps_empty

/-- Every list of every length is the `toList` of a well-formed vector (built
by `Conj` from `Empty`): the hypotheses `WF w` below are satisfiable at every
length. -/
theorem C06_every_list_represented {α : Type} (l : List α) : ∃ w : Vec α, WF w ∧ w.toList = l :=
  let ⟨v, h⟩ := exists_reps l; ⟨.vec v, (C06_abstraction _ _).mp h⟩

-- non-vacuity of the hypothesis `WF w` of every theorem below, at a length of height 3,
-- and for a slice
example : ∃ w : Vec Nat, WF w ∧ w.toList = List.range 32801 := C06_every_list_represented _
example : ∃ w : Vec Nat, WF w ∧ (∃ v b e, w = .sub v b e) ∧ w.toList = [3, 4] := by
  obtain ⟨v, hv⟩ := exists_reps (List.range 10)
  have h : VReps (.sub v 3 5) [3, 4] := ⟨_, hv, by decide, by decide, by decide, rfl⟩
  exact ⟨_, ⟨_, h⟩, ⟨_, _, _, rfl⟩, vreps_toList h⟩

/-- `Len` is the length. -/
theorem C06_len {α : Type} {w : Vec α} (H : WF w) : w.Len = .ok (w.toList.length : Int) :=
  vreps_len H.vreps

/-- `Index` never panics and is `toList[i]?`: the element when `0 ≤ i < len`,
`(nil,false)` for every other `i` — for whole lists and slices alike. -/
theorem C06_index {α : Type} {w : Vec α} (H : WF w) (i : Int) :
    w.Index i = .ok (if 0 ≤ i then (w.toList[i.toNat]?).map Slot.val else none) :=
  vreps_index H.vreps i

/-- `Conj` never panics, preserves `WF`, and is append — at every length. -/
theorem C06_conj {α : Type} {w : Vec α} (H : WF w) (x : α) :
    ∃ w', w.Conj x = .ok w' ∧ WF w' ∧ w'.toList = w.toList ++ [x] :=
  let ⟨w', h1, h2⟩ := vreps_conj H.vreps x
  ⟨w', h1, (C06_abstraction _ _).mp h2⟩

/-- `Assoc`: no value (`nil`) for `i < 0` or `i > len`, `Conj` at `i = len`,
replacement of exactly position `i` otherwise; never panics. -/
theorem C06_assoc {α : Type} {w : Vec α} (H : WF w) (i : Int) (x : α) :
    (i < 0 ∨ i > w.toList.length → w.Assoc i x = .ok .nil) ∧
    (i = w.toList.length →
      ∃ w', w.Assoc i x = .ok w' ∧ WF w' ∧ w'.toList = w.toList ++ [x]) ∧
    (0 ≤ i → i < w.toList.length →
      ∃ w', w.Assoc i x = .ok w' ∧ WF w' ∧ w'.toList = w.toList.set i.toNat x) :=
  ⟨vreps_assoc_nil H.vreps i x,
   fun h => let ⟨w', h1, h2⟩ := vreps_assoc_end H.vreps i x h; ⟨w', h1, (C06_abstraction _ _).mp h2⟩,
   fun h0 h => let ⟨w', h1, h2⟩ := vreps_assoc_set H.vreps i x h0 h
     ⟨w', h1, (C06_abstraction _ _).mp h2⟩⟩

/-- `Pop`: `dropLast`, no value on the empty list; never panics — at every
length, including those where the last leaf becomes the tail and where the
tree loses a level. -/
theorem C06_pop {α : Type} {w : Vec α} (H : WF w) :
    (w.toList = [] → w.Pop = .ok .nil) ∧
    (w.toList ≠ [] → ∃ w', w.Pop = .ok w' ∧ WF w' ∧ w'.toList = w.toList.dropLast) :=
  ⟨fun h => vreps_pop_nil (h ▸ H.vreps),
   fun h => let ⟨w', h1, h2⟩ := vreps_pop H.vreps h; ⟨w', h1, (C06_abstraction _ _).mp h2⟩⟩

/-- `SubVector(i,j)`: the segment `toList[i:j]` when `0 ≤ i ≤ j ≤ len`, no
value otherwise — for whole lists and for slices of slices alike (the second
part is what fixes/C06-subvector-bounds.patch establishes). -/
theorem C06_subvector {α : Type} {w : Vec α} (H : WF w) (i j : Int) :
    (0 ≤ i ∧ i ≤ j ∧ j ≤ w.toList.length →
      ∃ w', w.SubVector i j = .ok w' ∧ WF w' ∧
        w'.toList = (w.toList.drop i.toNat).take (j.toNat - i.toNat)) ∧
    (¬ (0 ≤ i ∧ i ≤ j ∧ j ≤ w.toList.length) → w.SubVector i j = .ok .nil) :=
  ⟨fun h => let ⟨w', h1, h2⟩ := vreps_subVector_ok H.vreps h; ⟨w', h1, (C06_abstraction _ _).mp h2⟩,
   vreps_subVector_nil H.vreps⟩

/-- The iterator (`Iterator(); HasElem(); Elem(); Next()` loop, path stack and
all) never panics, never runs out of fuel, and yields exactly `toList`, in
order — for whole lists and slices. -/
theorem C06_iterator {α : Type} {w : Vec α} (H : WF w) :
    w.iterate = .ok (w.toList.map Slot.val) := vreps_iterate H.vreps

/-- Run any list of operations, each applied to any earlier version and appending its result
to the store, on the model and on plain lists (`specHist`; `none` = "no value").  If the stores
correspond before (`Sim`: each version is `nil` exactly where the plain run has no value, and
otherwise well formed with that `toList`), then the model run does not panic, the stores
correspond after, and the old stores are prefixes of the new ones: every result equals the
plain-list result, out-of-range requests have no value, and no operation changes a previously
obtained list. -/
theorem C06_history_refines {α : Type} (ops : List (Op α)) {cs : List (Vec α)}
    {as as' : List (Option (List α))} (h : Sim cs as) (hs : specHist ops as = some as') :
    ∃ cs', runHist ops cs = .ok cs' ∧ Sim cs' as' ∧ cs <+: cs' ∧ as <+: as' :=
  hist_refines ops h hs

example : Sim [Vec.vec (empty : Vector Nat)] [some []] := ⟨reps_empty, trivial⟩
example : specHist [Op.conj 0 (1 : Nat), .conj 1 2, .sub 2 0 1, .sub 3 0 2, .pop 0, .assoc 2 1 7]
    [some []] = some [some [], some [1], some [1, 2], some [1], none, none, some [1, 7]] := by
  decide

/-- Persistence, stated on its own (it is structural in a pure model: a
version is a value).  After any history the version stored at position `k`
is the same value as before, hence still well formed with the same `toList`,
`Len`, `Index` and iteration. -/
theorem C06_ops_preserve_old {α : Type} (ops : List (Op α)) {cs cs' : List (Vec α)}
    (hrun : runHist ops cs = .ok cs') (k : Nat) (w : Vec α) (hk : cs[k]? = some w) :
    cs'[k]? = some w := by
  obtain ⟨t, rfl⟩ := runHist_prefix ops hrun
  rw [List.getElem?_append_left (List.getElem?_eq_some_iff.mp hk).1]
  exact hk

/-- The property at full strength, over the model. -/
def C06_full : Prop := ∀ (α : Type),
  -- the empty list
  (WF (.vec (empty : Vector α)) ∧ (Vec.vec (empty : Vector α)).toList = []) ∧
  -- every sequence of appends, pops, replacements, slicings (also of slices):
  -- results equal the plain-array results, out-of-range = no value, nothing
  -- panics, earlier versions stay in the store unchanged
  (∀ (ops : List (Op α)) (cs : List (Vec α)) (as as' : List (Option (List α))),
    Sim cs as → specHist ops as = some as' →
    ∃ cs', runHist ops cs = .ok cs' ∧ Sim cs' as' ∧ cs <+: cs' ∧ as <+: as') ∧
  -- what can be observed of any version: length, indexing (out of range
  -- rejected), iteration
  (∀ (w : Vec α), WF w →
    w.Len = .ok (w.toList.length : Int) ∧
    (∀ i : Int, w.Index i = .ok (if 0 ≤ i then (w.toList[i.toNat]?).map Slot.val else none)) ∧
    w.iterate = .ok (w.toList.map Slot.val))

theorem C06_full_holds : C06_full := fun _ =>
  ⟨C06_empty, fun ops _ _ _ h hs => hist_refines ops h hs,
   fun _ H => ⟨C06_len H, C06_index H, C06_iterator H⟩⟩

/-- The unfixed `(*subVector).SubVector` accepts an out-of-range request:
`[0..10][2:5]` sliced `0:6` is a 6-element view of the parent (witness
replayed on the real code from harness/corpus/C06.txt). -/
theorem C06_unfixed_subvector_counterexample :
    let v : Vector Nat := ⟨10, 0, none, (List.range 10).map Slot.val⟩
    ¬ ((0 : Int) ≤ 0 ∧ (0 : Int) ≤ 6 ∧ (6 : Int) ≤ 5 - 2) ∧
    (match subSubVectorUnfixed v 2 5 0 6 with | .sub _ 2 8 => true | _ => false) = true := by
  refine ⟨by decide, rfl⟩

/-- The unfixed `(*subVector).Assoc` panics on `i = MaxInt` (`s.begin+i`
overflows, the parent returns nil, `.SubVector` is called on nil). -/
theorem C06_unfixed_assoc_counterexample :
    let v : Vector Nat := ⟨10, 0, none, (List.range 10).map Slot.val⟩
    (subAssocUnfixed v 2 5 (2 ^ 63 - 1) 7).isPanic = true := by
  rfl
