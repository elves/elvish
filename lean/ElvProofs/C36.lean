/-
C36 — the Markdown formatter (pkg/md/fmt.go, model lean/ElvModel/C36/Model.lean) preserves
meaning and is idempotent.  PARTIAL: proved are the local decisions that make code blocks, code
spans, escaped text (printable ASCII without `_`, `&`) and reflowed plain-word paragraphs read
back through the C35 reference parser; `C36_full` and `C36_escape_sound_full` are only sampled.
-/
import ElvModel.C36.Model
import ElvModel.C35.RefHtml
import ElvProofs.C36.Lemmas
import ElvProofs.C36.Block
import ElvProofs.C36.Boundary
import ElvProofs.C36.Ordered
import ElvProofs.C36.Reflow
import ElvProofs.C36.ReflowRead
import ElvProofs.C36.ReflowBlock
import ElvProofs.C36.FirstByte
import ElvProofs.C36.Digit
open C36 C35 Go

/-- The property at full strength, not proved: the oracle evaluates it on the real code. -/
def C36_full (fmt render : Bytes → Bytes) (supported : Bytes → Prop) : Prop :=
  ∀ d, supported d → render (fmt d) = render d ∧ fmt (fmt d) = fmt d

/-- Soundness of text escaping against the C35 reference: a text node `s` written by the
formatter as a paragraph reads back as exactly that text.  Proved for non-empty `s` over printable
ASCII other than `_`, `&` whose first and last bytes are not spaces (`C36_escape_sound_ascii`).
Not proved (executed per `esc` op, no counterexample found): a leading/trailing SP or tab (written
`&#32;`/`&Tab;`), `&` (`charRefLen` against `parseEntity`), `_` (the intraword rule against
`flanking`; needs `prev`/next-rune tracking in the lock step `scan_escA`), non-ASCII runes and
U+00A0 → `&nbsp;`. -/
def C36_escape_sound_full : Prop :=
  ∀ (s out : Bytes), s ≠ [] → validUtf8 s = true → ¬ s.contains NL →
    fmtTextParagraph goStdU s = .ok out → inSubset stdU out = true →
    render stdU true out = some (bs "<p>" ++ escHtml s ++ bs "</p>\n")

/-- Inline level.  For `s` over `isEscSpB` (printable ASCII 0x20 … 0x7E other than `_`, `&`)
`escapeText` only puts a backslash before each of `[ ] * \` \\ <` (`escA`), and the C35 reference
inline parser reads the result back as the single text node `s`. -/
theorem C36_escape_inline_sound (G : GoU) (U : UClass) (s : Bytes)
    (h : ∀ b ∈ s, isEscSpB b = true) :
    escapeText G s = escA s ∧
    parseInlines U (escapeText G s) = some (if s = [] then [] else [Inl.text s]) := by
  rw [escapeText_class G s h]
  exact ⟨rfl, parseInlines_escA U s h⟩

example : escapeText goStdU [0x61, 0x2A, 0x20, 0x5B, 0x21] = [0x61, 0x5C, 0x2A, 0x20, 0x5C, 0x5B, 0x21] ∧
    parseInlines stdU [0x61, 0x5C, 0x2A, 0x20, 0x5C, 0x5B, 0x21] = some [Inl.text [0x61, 0x2A, 0x20, 0x5B, 0x21]] :=
  C36_escape_inline_sound goStdU stdU [0x61, 0x2A, 0x20, 0x5B, 0x21] (by decide)

/-- emphasis resolution of the reference is the identity on item lists
without closing delimiter runs (in particular on text nodes) -/
theorem C36_resolveEmph_nodes (ts : List Bytes) :
    resolveEmph (ts.map mkT) = some (ts.map Inl.text) := resolveEmph_nodes ts

/-- text merging of the reference concatenates a list of text nodes -/
theorem C36_mergeText_texts (fuel : Nat) (ts : List Bytes) :
    mergeText (fuel + 1) (ts.map Inl.text) = if ts.flatten = [] then [] else [Inl.text ts.flatten] :=
  mergeText_texts fuel ts

example : mergeText 1 ([[0x61], [], [0x62]].map Inl.text) = [Inl.text [0x61, 0x62]] := by
  rw [C36_mergeText_texts]; rfl

/-- Block level, `C36_escape_sound_full` on the class where start/end-of-line escaping change
nothing: bytes in `isEscSpB`, first byte in `isGoodFirstB` (not a space, none of `- + > # ~`, not a
digit, so the written line opens no block), last byte not a space.  The formatter writes `escA s`
and NL, and the C35 reference renders that as one paragraph with exactly the text `s`.
`inSubset out` is not needed. -/
theorem C36_escape_sound_partial (G : GoU) (U : UClass) (s out : Bytes)
    (hcls : ∀ b ∈ s, isEscSpB b = true)
    (hfirst : ∀ b, s.head? = some b → isGoodFirstB b = true)
    (hlast : ∀ e, s.getLast? = some e → isEscB e = true)
    (hne : s ≠ [])
    (hfmt : fmtTextParagraph G s = .ok out) :
    out = escA s ++ [NL] ∧
    render U true out = some (bs "<p>" ++ escHtml s ++ bs "</p>\n") := by
  cases s with
  | nil => exact absurd rfl hne
  | cons b0 t =>
    obtain ⟨h1, h2⟩ := escape_sound_class G U b0 t hcls (hfirst b0 rfl) hlast
    rw [h1] at hfmt
    injection hfmt with hfmt
    subst hfmt
    exact ⟨rfl, h2⟩

/-- First byte a block-marker lookalike `- + > # ~`.  `escapeStartOfLine … true true` either
puts a backslash in front (`\\- a`, `\\---`, `\\# a`, `\\~~~…`), which the reference reads as the
text byte, or leaves the line alone (`-a`, `--`, `#a`, `#######`, `~~`), and exactly then the
reference finds no block start on the line (`SolOutcome`).  Either way the written paragraph
renders as `<p>s</p>`. -/
theorem C36_escape_sound_marker_first (G : GoU) (U : UClass) (b0 : UInt8) (t : Bytes)
    (hb0 : b0 = 0x2D ∨ b0 = 0x2B ∨ b0 = 0x3E ∨ b0 = 0x23 ∨ b0 = 0x7E)
    (hcls : ∀ b ∈ t, isEscSpB b = true)
    (hlast : ∀ e, (b0 :: t).getLast? = some e → isEscB e = true) :
    ∃ out, fmtTextParagraph G (b0 :: t) = .ok out ∧
      render U true out = some (bs "<p>" ++ escHtml (b0 :: t) ++ bs "</p>\n") :=
  escape_sound_five G U b0 t hb0 hcls hlast

/-- `C36_escape_sound_partial` and `C36_escape_sound_marker_first` together: first byte neither
a space nor a digit. -/
theorem C36_escape_sound_partial_nondigit (G : GoU) (U : UClass) (s : Bytes)
    (hcls : ∀ b ∈ s, isEscSpB b = true)
    (hfirst : ∀ b, s.head? = some b → isEscB b = true ∧ isDigitB b = false)
    (hlast : ∀ e, s.getLast? = some e → isEscB e = true)
    (hne : s ≠ []) :
    ∃ out, fmtTextParagraph G s = .ok out ∧
      render U true out = some (bs "<p>" ++ escHtml s ++ bs "</p>\n") := by
  cases s with
  | nil => exact absurd rfl hne
  | cons b0 t =>
    obtain ⟨h1, h2⟩ := hfirst b0 rfl
    cases hg : isGoodFirstB b0 with
    | true =>
      obtain ⟨h3, h4⟩ := escape_sound_class G U b0 t hcls hg hlast
      exact ⟨_, h3, h4⟩
    | false =>
      exact escape_sound_five G U b0 t (marker_first_facts b0 h1 h2 hg)
        (fun b hb => hcls b (List.mem_cons_of_mem _ hb)) hlast

-- `--`, left alone
example : ∃ out, fmtTextParagraph goStdU [0x2D, 0x2D] = .ok out ∧
    render stdU true out = some (bs "<p>" ++ escHtml [0x2D, 0x2D] ++ bs "</p>\n") :=
  C36_escape_sound_partial_nondigit goStdU stdU [0x2D, 0x2D] (by decide) (by decide) (by decide) (by simp)

/-- Escape soundness for printable ASCII without `_`, `&`: every non-empty text over `isEscSpB`
whose first and last bytes are not spaces is written as a paragraph that the C35 reference renders
as `<p>s</p>`.  A digit first: `escapeStartOfLine … true true` writes `ds\\.…` / `ds\\)…` iff 1–9
digits are followed by `.`/`)` and then end of line or SP/tab (`escapeStartOfLine_digits`), and
the reference's `listMarker` is `none` on every other line by the same test (`listMarker_digits`). -/
theorem C36_escape_sound_ascii (G : GoU) (U : UClass) (s : Bytes)
    (hcls : ∀ b ∈ s, isEscSpB b = true)
    (hfirst : ∀ b, s.head? = some b → isEscB b = true)
    (hlast : ∀ e, s.getLast? = some e → isEscB e = true)
    (hne : s ≠ []) :
    ∃ out, fmtTextParagraph G s = .ok out ∧
      render U true out = some (bs "<p>" ++ escHtml s ++ bs "</p>\n") := by
  cases s with
  | nil => exact absurd rfl hne
  | cons b0 t =>
    cases hd : isDigitB b0 with
    | true => exact escape_sound_digit G U (b0 :: t) b0 hcls rfl hd hlast
    | false =>
      exact C36_escape_sound_partial_nondigit G U (b0 :: t) hcls
        (fun b hb => by simp at hb; subst hb; exact ⟨hfirst _ rfl, hd⟩) hlast hne

/-- … as an instance of `C36_escape_sound_full` -/
theorem C36_escape_sound_ascii_instance (s out : Bytes)
    (hcls : ∀ b ∈ s, isEscSpB b = true)
    (hfirst : ∀ b, s.head? = some b → isEscB b = true)
    (hlast : ∀ e, s.getLast? = some e → isEscB e = true) :
    s ≠ [] → validUtf8 s = true → ¬ s.contains NL →
    fmtTextParagraph goStdU s = .ok out → inSubset stdU out = true →
    render stdU true out = some (bs "<p>" ++ escHtml s ++ bs "</p>\n") := by
  intro hne _ _ hfmt _
  obtain ⟨o, h1, h2⟩ := C36_escape_sound_ascii goStdU stdU s hcls hfirst hlast hne
  rw [h1] at hfmt
  injection hfmt with hfmt
  subst hfmt
  exact h2

-- `1. a`, written `1\. a`
example : ∃ out, fmtTextParagraph goStdU [0x31, 0x2E, 0x20, 0x61] = .ok out ∧
    render stdU true out = some (bs "<p>" ++ escHtml [0x31, 0x2E, 0x20, 0x61] ++ bs "</p>\n") :=
  C36_escape_sound_ascii goStdU stdU [0x31, 0x2E, 0x20, 0x61] (by decide) (by decide) (by decide) (by simp)

/-- `C36_escape_sound_partial` as an instance of `C36_escape_sound_full` -/
theorem C36_escape_sound_on_class (s out : Bytes)
    (hcls : ∀ b ∈ s, isEscSpB b = true)
    (hfirst : ∀ b, s.head? = some b → isGoodFirstB b = true)
    (hlast : ∀ e, s.getLast? = some e → isEscB e = true) :
    s ≠ [] → validUtf8 s = true → ¬ s.contains NL →
    fmtTextParagraph goStdU s = .ok out → inSubset stdU out = true →
    render stdU true out = some (bs "<p>" ++ escHtml s ++ bs "</p>\n") :=
  fun hne _ _ hfmt _ => (C36_escape_sound_partial goStdU stdU s out hcls hfirst hlast hne hfmt).2

-- `a*b [c] <d`
example : fmtTextParagraph goStdU [0x61, 0x2A, 0x62, 0x20, 0x5B, 0x63, 0x5D, 0x20, 0x3C, 0x64] =
      .ok (escA [0x61, 0x2A, 0x62, 0x20, 0x5B, 0x63, 0x5D, 0x20, 0x3C, 0x64] ++ [NL]) ∧
    render stdU true (escA [0x61, 0x2A, 0x62, 0x20, 0x5B, 0x63, 0x5D, 0x20, 0x3C, 0x64] ++ [NL]) =
      some (bs "<p>" ++ escHtml [0x61, 0x2A, 0x62, 0x20, 0x5B, 0x63, 0x5D, 0x20, 0x3C, 0x64] ++ bs "</p>\n") :=
  escape_sound_class goStdU stdU 0x61 [0x2A, 0x62, 0x20, 0x5B, 0x63, 0x5D, 0x20, 0x3C, 0x64]
    (by decide) (by decide) (by decide)

/-- The hypothesis `¬ s.contains NL` of `C36_escape_sound_full` is needed: for `s = "a\n\nb"` all
the others hold but the output `a\n\nb\n` is two paragraphs. -/
theorem C36_escape_unsound_with_newline :
    ∃ s out : Bytes, s ≠ [] ∧ validUtf8 s = true ∧ fmtTextParagraph goStdU s = .ok out ∧
      inSubset stdU out = true ∧
      render stdU true out = some (bs "<p>a</p>\n<p>b</p>\n") ∧
      render stdU true out ≠ some (bs "<p>" ++ escHtml s ++ bs "</p>\n") :=
  ⟨[0x61, 0x0A, 0x0A, 0x62], [0x61, 0x0A, 0x0A, 0x62, 0x0A], by decide, by decide +kernel, by decide +kernel,
   by decide +kernel, by decide +kernel, by decide +kernel⟩

/-- … and so is `"a\n# b"` (the second line becomes a heading) -/
theorem C36_escape_unsound_with_newline_heading :
    soundOn [0x61, 0x0A, 0x23, 0x20, 0x62] = false := by decide +kernel

/-- Outside the class of `C36_escape_sound_partial` its first conclusion `out = escA s ++ [NL]`
fails; one witness per dropped hypothesis: first byte (`- a`), last byte (`a `), byte class
(`_a`, `&amp;`, U+00A0). -/
theorem C36_escape_boundary_class_is_tight :
    fmtTextParagraph goStdU [0x2D, 0x20, 0x61] = .ok [0x5C, 0x2D, 0x20, 0x61, 0x0A] ∧
    fmtTextParagraph goStdU [0x61, 0x20] = .ok [0x61, 0x26, 0x23, 0x33, 0x32, 0x3B, 0x0A] ∧
    fmtTextParagraph goStdU [0x5F, 0x61] = .ok [0x5C, 0x5F, 0x61, 0x0A] ∧
    fmtTextParagraph goStdU [0x26, 0x61, 0x6D, 0x70, 0x3B] = .ok [0x5C, 0x26, 0x61, 0x6D, 0x70, 0x3B, 0x0A] ∧
    fmtTextParagraph goStdU [0xC2, 0xA0] = .ok [0x26, 0x6E, 0x62, 0x73, 0x70, 0x3B, 0x0A] := by
  decide +kernel

/-- … while the conclusion of `C36_escape_sound_full` (`soundOn`, without `inSubset`) holds on
these witnesses outside the class: block-marker lookalikes, zero-padded ordered markers, `_` in
all positions, entities known and unknown, leading/trailing spaces, tab, U+00A0, non-ASCII
letters, and a single interior newline (a soft break renders as the newline itself). -/
theorem C36_escape_boundary_sound_outside_class :
    ∀ s ∈ ([[0x2D, 0x20, 0x61],
     [0x2D],
     [0x2B],
     [0x31, 0x2E, 0x20, 0x61],
     [0x31, 0x2E],
     [0x30, 0x31, 0x2E, 0x20, 0x61],
     [0x32, 0x29, 0x20, 0x61],
     [0x23, 0x20, 0x61],
     [0x23],
     [0x23, 0x23, 0x23, 0x23, 0x23, 0x23, 0x23, 0x20, 0x61],
     [0x7E, 0x7E, 0x7E],
     [0x3E, 0x20, 0x61],
     [0x5F, 0x61],
     [0x61, 0x5F, 0x62],
     [0x5F, 0x61, 0x5F],
     [0x61, 0x5F, 0x5F, 0x62],
     [0x26, 0x61, 0x6D, 0x70, 0x3B],
     [0x26, 0x23, 0x33, 0x32, 0x3B],
     [0x26, 0x66, 0x6F, 0x6F, 0x3B],
     [0x61, 0x26, 0x62],
     [0x61, 0x20],
     [0x20, 0x61],
     [0x20, 0x20, 0x61, 0x20, 0x20],
     [0xC2, 0xA0],
     [0xC3, 0xA9, 0x5F, 0xC3, 0xA9],
     [0x2D, 0x2D, 0x2D],
     [0x2D, 0x20, 0x2D, 0x20, 0x2D],
     [0x2D, 0x2D],
     [0x61, 0x09, 0x62],
     [0x09],
     [0x3D],
     [0x21, 0x5B, 0x61, 0x5D, 0x28, 0x62, 0x29],
     [0x61, 0x0A, 0x62]] : List Bytes),
      soundOn s = true := by
  decide +kernel

/-- every single rune of the boundary alphabet (ASCII metacharacters, tab,
U+0001, DEL, U+0085, U+FFFD, U+2028, U+2003, U+00A0, é, FF, CR) is sound even
though several of them put the output outside `inSubset` -/
theorem C36_escape_boundary_single_runes : ∀ s ∈ boundaryStrings 1, soundOn s = true := by
  decide +kernel

/-- `strconv.Atoi(ds) == 1` (what the parser tests, `decVal`) iff
`strings.TrimLeft(ds, "0") == "1"` (what the formatter tests), for digit strings -/
theorem C36_trimLeftZeros_eq_one_iff (ds : Bytes) (hd : ∀ b ∈ ds, isDigitB b = true) :
    decVal ds = 1 ↔ ds.dropWhile (· == 0x30) = [0x31] :=
  trimLeftZeros_eq_one_iff ds hd

example : decVal [0x30, 0x30, 0x31] = 1 ∧ decVal [0x31, 0x30] ≠ 1 ∧ decVal [0x30, 0x32] ≠ 1 := by decide

/-- On a continuation line of a paragraph (`startOfParagraph = false`) a line starting with 1–9
digits, `.` or `)`, and then end of line or a space/tab gets a backslash before the punctuation
iff the number is 1 as the parser reads it (`decVal`), leading zeros included (`01.`, `001)`).
Against the C35 model of `parseStartingMarkers`: the escaped line is not an item marker, and the
unescaped line (number ≠ 1) opens no container when it continues a paragraph
(`m.start != 1 && !newParagraph`); either way a continuation line stays one. -/
theorem C36_ordered_lookalike_escaped (sb ds tail : Bytes) (p : UInt8)
    (hd : ∀ b ∈ ds, isDigitB b = true) (h1 : 1 ≤ ds.length) (h9 : ds.length ≤ 9)
    (hp : p = 0x2E ∨ p = 0x29) (ht : tail = [] ∨ startsWithSpaceOrTab tail = true) :
    (decVal ds = 1 →
      escapeStartOfLine sb (ds ++ p :: tail) false true = .ok (ds ++ 0x5C :: p :: tail) ∧
      itemPrefix (ds ++ 0x5C :: p :: tail) = none ∧ itemMarkerRe (ds ++ 0x5C :: p :: tail) = none ∧
      itemMarkerBlankRe (ds ++ 0x5C :: p :: tail) = none) ∧
    (decVal ds ≠ 1 →
      escapeStartOfLine sb (ds ++ p :: tail) false true = .ok (ds ++ p :: tail) ∧
      ∀ fuel, startingMarkers (fuel + 1) (ds ++ p :: tail) false [] = some (ds ++ p :: tail, [])) := by
  have h := escapeStartOfLine_ordered sb ds tail p hd h1 h9 hp ht
  constructor
  · intro hv
    rw [if_pos hv] at h
    exact ⟨h, escaped_not_item ds tail p hd h1 h9⟩
  · intro hv
    rw [if_neg hv] at h
    exact ⟨h, unescaped_not_interrupting ds tail p hd h1 h9 hp hv⟩

-- `01. bar`, `001) bar`, `1.` get the backslash; `2. bar`, `02. bar`, `10. bar` do not
example :
    escapeStartOfLine [] [0x30, 0x31, 0x2E, 0x20, 0x62, 0x61, 0x72] false true = .ok [0x30, 0x31, 0x5C, 0x2E, 0x20, 0x62, 0x61, 0x72] ∧
    escapeStartOfLine [] [0x30, 0x30, 0x31, 0x29, 0x20, 0x62, 0x61, 0x72] false true = .ok [0x30, 0x30, 0x31, 0x5C, 0x29, 0x20, 0x62, 0x61, 0x72] ∧
    escapeStartOfLine [] [0x31, 0x2E] false true = .ok [0x31, 0x5C, 0x2E] ∧
    escapeStartOfLine [] [0x32, 0x2E, 0x20, 0x62, 0x61, 0x72] false true = .ok [0x32, 0x2E, 0x20, 0x62, 0x61, 0x72] ∧
    escapeStartOfLine [] [0x30, 0x32, 0x2E, 0x20, 0x62, 0x61, 0x72] false true = .ok [0x30, 0x32, 0x2E, 0x20, 0x62, 0x61, 0x72] ∧
    escapeStartOfLine [] [0x31, 0x30, 0x2E, 0x20, 0x62, 0x61, 0x72] false true = .ok [0x31, 0x30, 0x2E, 0x20, 0x62, 0x61, 0x72] ∧
    startingMarkers 8 [0x30, 0x32, 0x2E, 0x20, 0x62, 0x61, 0x72] false [] = some ([0x30, 0x32, 0x2E, 0x20, 0x62, 0x61, 0x72], []) ∧
    (startingMarkers 8 [0x30, 0x31, 0x2E, 0x20, 0x62, 0x61, 0x72] false []).map (·.2) = some [Cont.ordered 0x2E 1 4] := by
  decide +kernel

/-- Reflow of a paragraph of plain words (non-empty, ASCII letters/digits) at any width: the
formatter writes lines of words joined by single spaces, the lines concatenated are the words, and
the C35 reference reads the result back as one paragraph with soft breaks exactly at the line
breaks. -/
def C36_reflow_preserves_plain_words_full : Prop :=
  ∀ (w : Int) (ws : List Bytes), ws ≠ [] → (∀ x ∈ ws, x ≠ [] ∧ ∀ b ∈ x, isAlnumB b = true) →
    ∃ lines : List (List Bytes),
      fmtTextReflow goStdU w (joinSp ws) = .ok (lines.flatMap (fun l => joinSp l ++ [NL])) ∧
      lines.flatten = ws ∧ (∀ l ∈ lines, l ≠ []) ∧
      render stdU true (lines.flatMap (fun l => joinSp l ++ [NL])) =
        some (bs "<p>" ++ joinNL (lines.map joinSp) ++ bs "</p>\n")

/-- The same for any `GoU` / `UClass`, with the rendering of the unformatted paragraph: the two
renderings differ only in soft break ↔ space. -/
theorem C36_reflow_preserves_plain_words_general (G : GoU) (U : UClass) (w : Int) (ws : List Bytes)
    (hne : ws ≠ []) (h : ∀ x ∈ ws, PlainWord x) :
    ∃ lines : List (List Bytes),
      fmtTextReflow G w (joinSp ws) = .ok (lines.flatMap (fun l => joinSp l ++ [NL])) ∧
      lines.flatten = ws ∧ (∀ l ∈ lines, l ≠ []) ∧
      render U true (lines.flatMap (fun l => joinSp l ++ [NL])) =
        some (bs "<p>" ++ joinNL (lines.map joinSp) ++ bs "</p>\n") ∧
      render U true (joinSp ws ++ [NL]) = some (bs "<p>" ++ joinSp ws ++ bs "</p>\n") := by
  obtain ⟨lines, h1, h2, h3, h4⟩ := reflow_preserves_plain_words G U w ws hne h
  refine ⟨lines, h1, h2, h3, h4, ?_⟩
  have := render_plain_lines U [joinSp ws] (by simp)
    (by intro L hL; simp at hL; subst hL; exact plainLine_joinSp ws hne h)
    (by simpa using parseInlines_lines U [ws] (by simp) (by intro l hl; simp at hl; subst hl; exact ⟨hne, h⟩))
  simpa [joinNL] using this

theorem C36_reflow_preserves_plain_words : C36_reflow_preserves_plain_words_full := by
  intro w ws hne h
  obtain ⟨lines, h1, h2, h3, h4⟩ := reflow_preserves_plain_words goStdU stdU w ws hne h
  exact ⟨lines, h1, h2, h3, h4⟩

/-- Model side of reflow for plain words: `escapeText` is the identity on `joinSp ws`,
`splitSpans` recovers `ws`, `escapeStartOfLine` changes no line (leading digits are never
followed by `.`/`)`), so the formatter writes exactly the breaker's lines. -/
theorem C36_reflow_plain_words_written (G : GoU) (w : Int) (ws : List Bytes) (hne : ws ≠ [])
    (h : ∀ x ∈ ws, PlainWord x) :
    ∃ lines : List (List Bytes),
      fmtTextReflow G w (joinSp ws) = .ok (lines.flatMap (fun l => joinSp l ++ [NL])) ∧
      lines.flatten = ws ∧ (∀ l ∈ lines, l ≠ [] ∧ ∀ x ∈ l, PlainWord x) ∧ lines ≠ [] :=
  fmtTextReflow_plain G w ws hne h

example : ∀ x ∈ [[0x61, 0x61], [0x31, 0x32], [0x63]], PlainWord x := by
  intro x hx
  simp only [List.mem_cons, List.not_mem_nil, or_false] at hx
  rcases hx with h | h | h <;> subst h <;> exact ⟨by simp, by decide⟩

/-- Inline read-back of reflow for plain words: the C35 reference inline parser reads the
formatted paragraph text as one text per line with a `.softbreak` at each line end (`lineInls`),
and the unformatted `joinSp ws` as a single text: formatting only turns some spaces into soft
breaks. -/
theorem C36_reflow_plain_words_inline (G : GoU) (U : UClass) (w : Int) (ws : List Bytes)
    (hne : ws ≠ []) (h : ∀ x ∈ ws, PlainWord x) :
    ∃ lines : List (List Bytes),
      fmtTextReflow G w (joinSp ws) = .ok (lines.flatMap (fun l => joinSp l ++ [NL])) ∧
      lines.flatten = ws ∧ (∀ l ∈ lines, l ≠ []) ∧
      parseInlines U (joinNL (lines.map joinSp)) = some (lineInls (lines.map joinSp)) ∧
      parseInlines U (joinSp ws) = some [Inl.text (joinSp ws)] := by
  obtain ⟨lines, h1, h2, h3, h4⟩ := fmtTextReflow_plain G w ws hne h
  refine ⟨lines, h1, h2, fun l hl => (h3 l hl).1, parseInlines_lines U lines h4 h3, ?_⟩
  have hb := joinSp_bytes ws h
  have := parseInlines_escA U (joinSp ws) (fun b hb' => (alnum_facts b (hb b hb')).1)
  rw [escA_id _ (fun b hb' => (alnum_facts b (hb b hb')).2.1)] at this
  obtain ⟨c, t, he, _⟩ := joinSp_head ws hne h
  rw [this, he]
  simp

example : lineInls [[0x61, 0x61, 0x20, 0x62, 0x62], [0x63]] =
    [Inl.text [0x61, 0x61, 0x20, 0x62, 0x62], Inl.softbreak, Inl.text [0x63]] := rfl

/-- the statement evaluated on `aa bb c` at width 5: lines `aa bb` / `c` -/
theorem C36_reflow_plain_words_instance :
    fmtTextReflow goStdU 5 [0x61, 0x61, 0x20, 0x62, 0x62, 0x20, 0x63] =
      .ok ([[[0x61, 0x61], [0x62, 0x62]], [[0x63]]].flatMap (fun l => joinSp l ++ [NL])) ∧
    render stdU true ([[[0x61, 0x61], [0x62, 0x62]], [[0x63]]].flatMap (fun l => joinSp l ++ [NL])) =
      some (bs "<p>" ++ joinNL ([[[0x61, 0x61], [0x62, 0x62]], [[0x63]]].map joinSp) ++ bs "</p>\n") := by
  decide +kernel

/-- The fence written by `codeFences` is at least three characters long and strictly longer
than every run of the fence character inside the content, so no content line can close it; a
backtick fence is only chosen when the info string has no backtick (a backtick there would
disqualify the opening line). -/
theorem C36_fence_longer (info : Bytes) (lines : List Bytes) :
    3 ≤ (codeFences info lines).2.1 ∧
    (∀ line ∈ lines, ∀ k ∈ runLens (codeFences info lines).1 line, k < (codeFences info lines).2.1) ∧
    ((codeFences info lines).1 = 0x60 → info.contains 0x60 = false) ∧
    ((codeFences info lines).1 = 0x60 ∨ (codeFences info lines).1 = 0x7E) := by
  unfold codeFences
  refine ⟨?_, ?_, ?_, ?_⟩
  · simp only []; omega
  · intro line hl k hk
    have := run_le_maxRun _ lines line k hl hk
    simp only [] at this ⊢
    omega
  · by_cases h : info.contains 0x60 = true <;> simp [h]
  · simp only []
    split
    · right; rfl
    · left; rfl

/-- the block written for a code block: opening line, the content lines
unchanged, and a closing fence of the same character and length -/
theorem C36_fence_block_shape (info : Bytes) (lines : List Bytes) :
    fmtCodeBlock info lines =
      (codeFences info lines).2.2 ++ [NL] ++ lines.flatMap (· ++ [NL]) ++
        List.replicate (codeFences info lines).2.1 (codeFences info lines).1 ++ [NL] := by
  simp [fmtCodeBlock]

example : (codeFences [0x67, 0x6F] [[0x60, 0x60, 0x60, 0x60], [0x61]]).2.1 = 5 := by decide
example : (codeFences [0x60] [[0x7E, 0x7E, 0x7E]]).1 = 0x7E ∧ (codeFences [0x60] [[0x7E, 0x7E, 0x7E]]).2.1 = 4 := by decide

/-- The backtick string chosen for a code span has a length different from that of every
backtick run in the content (so the content cannot close it), and a space of padding is written
whenever the content starts or ends with a backtick (so the delimiter run is not extended). -/
theorem C36_span_delim (text out : Bytes) (h : fmtCodeSpan text = .ok out) :
    ∃ (l : Nat) (pad : Bytes),
      1 ≤ l ∧ l ∉ runLens 0x60 text ∧
      out = List.replicate l 0x60 ++ pad ++ text ++ pad ++ List.replicate l 0x60 ∧
      ((text.head? = some 0x60 ∨ text.getLast? = some 0x60) → pad = [SP]) ∧
      (pad = [] ∨ pad = [SP]) := by
  unfold fmtCodeSpan at h
  cases hf : text.head? with
  | none => simp [hf] at h
  | some first =>
    cases hl : text.getLast? with
    | none => simp [hf, hl] at h
    | some last =>
      simp only [hf, hl] at h
      injection h with h
      refine ⟨spanDelimLen ((runLens 0x60 text).length + 1) 1 (runLens 0x60 text), _, ?_, ?_, h.symm, ?_, ?_⟩
      · exact spanDelimLen_ge _ 1 _
      · rcases spanDelimLen_spec ((runLens 0x60 text).length + 1) 1 (runLens 0x60 text) with h1 | h2
        · exact h1
        · have := interval_subset_length _ _ _ h2
          omega
      · intro hb
        rcases hb with hb | hb
        · have : first = 0x60 := by simpa using hb
          simp [this]
        · have : last = 0x60 := by simpa using hb
          simp [this]
      · by_cases hp : (first == 0x60 || last == 0x60 || (first == SP && last == SP && !(text.all (· == SP)))) = true
        · right; simp [hp]
        · left; simp [hp]

example : fmtCodeSpan [0x61, 0x60, 0x62, 0x60, 0x60] = .ok ([0x60,0x60,0x60,0x20] ++ [0x61, 0x60, 0x62, 0x60, 0x60] ++ [0x20,0x60,0x60,0x60]) := by decide

/-- The line breaker never splits, drops, duplicates or reorders an
unbreakable span: the lines, concatenated, are exactly the spans; and no line
is empty. -/
theorem C36_reflow_no_split (width : Bytes → Nat) (exactOK : Bool → Bytes → Bool) (maxW : Int)
    (spans : List Bytes) :
    (breakLines width exactOK maxW true [] 0 spans).flatten = spans ∧
    ∀ l ∈ breakLines width exactOK maxW true [] 0 spans, l ≠ [] := by
  refine ⟨?_, breakLines_nonempty width exactOK maxW spans true [] 0⟩
  simpa using breakLines_flatten width exactOK maxW spans true [] 0

/-- Every line on which a break was possible (two or more spans) is narrower
than the width, or exactly as wide and left unchanged by start-of-line
escaping — so it fits.  (Lines of a single span can be wider: an unbreakable
unit is never split.) -/
theorem C36_reflow_fits (width : Bytes → Nat) (exactOK : Bool → Bytes → Bool) (maxW : Int)
    (spans : List Bytes) :
    ∀ l ∈ breakLines width exactOK maxW true [] 0 spans,
      l.length ≥ 2 →
        ((lineWidth width l : Int) < maxW) ∨
        ((lineWidth width l : Int) = maxW ∧ ∃ sop, exactOK sop (joinSp l) = true) := by
  intro l hl
  exact breakLines_fits width exactOK maxW spans true [] 0 (by simp [lineWidth]) (by intro h; simp at h) l hl

example : breakLines asciiWidth (fun _ _ => true) 5 true [] 0 [[0x61, 0x61], [0x62, 0x62], [0x63]] =
    [[[0x61, 0x61], [0x62, 0x62]], [[0x63]]] := by decide

/-- `lineWidth` is the width of the line as written (spans joined by one space) -/
theorem C36_lineWidth_joinSp (l : List Bytes) : lineWidth asciiWidth l = (joinSp l).length := by
  induction l with
  | nil => simp [lineWidth, joinSp]
  | cons x xs ih =>
    cases xs with
    | nil => simp [lineWidth, joinSp, asciiWidth]
    | cons y ys =>
      simp only [lineWidth, joinSp, asciiWidth, List.length_append, List.length_cons] at ih ⊢
      omega

/-- `escapeStartOfLine` adds at most ONE byte (a backslash) to a line that does
not start with a space or tab — which is why the breaker only has to be careful
when a line is exactly as wide as the width. -/
theorem C36_startOfLine_adds_at_most_one (sb s out : Bytes) (sop eol : Bool)
    (hs : ∀ b, s.head? = some b → b ≠ SP ∧ b ≠ 0x09)
    (h : escapeStartOfLine sb s sop eol = .ok out) : out.length ≤ s.length + 1 :=
  escapeStartOfLine_len sb s out sop eol hs h

/-- Consequence for the written text: a line of two or more spans that the
breaker judged strictly narrower than the width is, after start-of-line
escaping, still within the width. -/
theorem C36_reflow_written_line_fits (l : List Bytes) (maxW : Int) (sb out : Bytes) (sop : Bool)
    (hw : (lineWidth asciiWidth l : Int) < maxW)
    (hs : ∀ b, (joinSp l).head? = some b → b ≠ SP ∧ b ≠ 0x09)
    (h : escapeStartOfLine sb (joinSp l) sop true = .ok out) : (out.length : Int) ≤ maxW := by
  have h1 := escapeStartOfLine_len sb (joinSp l) out sop true hs h
  have h2 := C36_lineWidth_joinSp l
  omega

example : escapeStartOfLine [] [0x2D, 0x20, 0x61] true true = .ok [0x5C, 0x2D, 0x20, 0x61] := by decide
