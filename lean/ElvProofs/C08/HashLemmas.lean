/-
`Equal a b → Hash a = Hash b` on well-formed values, for every float hash that
identifies what Go `==` does (fixed tree: float zeros hash alike).
-/
import ElvProofs.C08.EqualEquiv

namespace C08
open Gen.C08Hash

def sumT {α : Type} (t : α → UInt32) : List α → UInt32
  | [] => 0
  | x :: xs => t x + sumT t xs

theorem sumT_append_cons {α : Type} (t : α → UInt32) (s : List α) (q : α) (u : List α) :
    sumT t (s ++ q :: u) = t q + sumT t (s ++ u) := by
  induction s with
  | nil => rfl
  | cons x s ih =>
    simp only [List.cons_append, sumT, ih]
    rw [← UInt32.add_assoc, ← UInt32.add_assoc, UInt32.add_comm (t x)]

theorem sumT_eq_of_matching {α : Type} (t : α → UInt32) (M : α → α → Prop) :
    ∀ (xs ys : List α), xs.length = ys.length →
      (∀ p ∈ xs, ∃ q ∈ ys, M p q) →
      xs.Pairwise (fun p p' => ∀ q ∈ ys, ¬ (M p q ∧ M p' q)) →
      (∀ p ∈ xs, ∀ q ∈ ys, M p q → t p = t q) →
      sumT t xs = sumT t ys
  | [], [], _, _, _, _ => rfl
  | [], _ :: _, hlen, _, _, _ => by simp at hlen
  | p :: xs, ys, hlen, hm, hinj, ht => by
    obtain ⟨q0, s, u, rfl, hp, hlen', hm', hinj'⟩ := matching_step hlen hm hinj
    rw [sumT_append_cons, sumT, ht p (by simp) q0 (by simp) hp]
    rw [sumT_eq_of_matching t M xs (s ++ u) hlen' hm' hinj' fun p' hp' q hq => ht p' (by simp [hp']) q (by
      have : q ∈ s ∨ q ∈ u := by simpa using hq
      rcases this with h | h <;> simp [h])]

section
variable (rh : Nat → Nat → UInt32) (fh : UInt64 → UInt32)

theorem hashEntriesG_eq_sumT (kvs : List (Val × Val)) :
    hashEntriesG rh fh kvs = sumT (fun p => djb [HashG rh fh p.1, HashG rh fh p.2]) kvs := by
  induction kvs with
  | nil => rfl
  | cons p kvs ih => obtain ⟨k, v⟩ := p; simp [hashEntriesG, sumT, ih]

theorem hashList_eq : ∀ (xs ys : List Val) (h : UInt32), xs.length = ys.length →
    (∀ x ∈ xs, ∀ y ∈ ys, Equal x y = true → HashG rh fh x = HashG rh fh y) → equalList xs ys = true →
    hashListG rh fh h xs = hashListG rh fh h ys
  | [], [], _, _, _, _ => rfl
  | [], _ :: _, _, hlen, _, _ => by simp at hlen
  | _ :: _, [], _, hlen, _, _ => by simp at hlen
  | x :: xs, y :: ys, h, hlen, hh, he => by
    rw [equalList_cons, Bool.and_eq_true] at he
    simp only [hashListG]
    rw [hh x (by simp) y (by simp) he.1]
    exact hashList_eq xs ys _ (by simpa using hlen)
      (fun a ha b hb => hh a (by simp [ha]) b (by simp [hb])) he.2

theorem hashEntries_eq {xs ys : List (Val × Val)} (wx : WFEntries xs) (wy : WFEntries ys)
    (hh : ∀ p ∈ xs, ∀ q ∈ ys, Partner p q →
      HashG rh fh p.1 = HashG rh fh q.1 ∧ HashG rh fh p.2 = HashG rh fh q.2)
    (hlen : xs.length = ys.length) (hnd : NoDupKeys xs)
    (h : entriesEq xs ys = true) : hashEntriesG rh fh xs = hashEntriesG rh fh ys := by
  rw [hashEntriesG_eq_sumT, hashEntriesG_eq_sumT]
  refine sumT_eq_of_matching _ Partner xs ys hlen (entries_partner h)
    (partner_injective symTrans_wf (WFEntries_mem wx) (WFEntries_mem wy) hnd) ?_
  intro p hp q hq hpq
  show djb [HashG rh fh p.1, HashG rh fh p.2] = djb [HashG rh fh q.1, HashG rh fh q.2]
  rw [(hh p hp q hq hpq).1, (hh p hp q hq hpq).2]

theorem Equal_hashG (hf : ∀ x y, F64.eq x y = true → fh x = fh y) {a b : Val} (wa : WF a) (wb : WF b)
    (h : Equal a b = true) : HashG rh fh a = HashG rh fh b := by
  induction a using Val.induct generalizing b with
  | float x =>
    cases Equal_case h with
    | float he => exact hf _ _ he
  | list xs ih =>
    cases Equal_case h with
    | list hl he =>
      exact hashList_eq rh fh xs _ _ hl
        (fun x hx y hy => ih x hx (WFList_iff.1 wa x hx) (WFList_iff.1 wb y hy)) he
  | map f xs ih =>
    cases Equal_case h with
    | map =>
      obtain ⟨wx, ndx⟩ := wa
      obtain ⟨wy, ndy⟩ := wb
      obtain ⟨hlen, h1, _⟩ := map_equal_both symTrans_wf (WFEntries_mem wx) (WFEntries_mem wy) ndx ndy h
      refine hashEntries_eq rh fh wx wy ?_ hlen ndx h1
      intro p hp q hq hpq
      have wp := WFEntries_mem wx p hp
      have wq := WFEntries_mem wy q hq
      exact ⟨(ih p hp).1 wp.1 wq.1 hpq.1, (ih p hp).2 wp.2 wq.2 hpq.2⟩
  | _ => cases Equal_case h; rfl

end

theorem F64.toNat_eq (b : UInt64) : b.toNat = F64.mag b + (if F64.neg b then 2 ^ 63 else 0) := by
  unfold F64.mag F64.neg
  have := b.toNat_lt
  split <;> simp_all <;> omega

theorem F64.eq_cases {a b : UInt64} (h : F64.eq a b = true) :
    a = b ∨ (F64.isZero a = true ∧ F64.isZero b = true) := by
  unfold F64.eq at h
  simp only [Bool.and_eq_true, beq_iff_eq] at h
  have hk := h.2
  unfold F64.key at hk
  have ha := F64.toNat_eq a
  have hb := F64.toNat_eq b
  unfold F64.isZero
  by_cases hz : F64.mag a = 0 ∧ F64.mag b = 0
  · right; simp [hz.1, hz.2]
  · left
    apply UInt64.toNat_inj.1
    split at hk <;> split at hk <;> simp_all <;> omega

theorem hashFloat_eq {a b : UInt64} (h : F64.eq a b = true) : hashFloat a = hashFloat b := by
  rcases F64.eq_cases h with rfl | ⟨ha, hb⟩
  · rfl
  · simp [hashFloat, ha, hb]

theorem Equal_hash (rh : Nat → Nat → UInt32) {a b : Val} (wa : WF a) (wb : WF b)
    (h : Equal a b = true) : Hash rh a = Hash rh b :=
  Equal_hashG rh hashFloat (fun _ _ => hashFloat_eq) wa wb h

theorem hash_small_nat (rh : Nat → Nat → UInt32) (n : Nat) (h : n < 2 ^ 32) :
    Hash rh (.int (n : Int)) = UInt32.ofNat n := by
  simp only [Hash, HashG, hashUIntPtr, hashU64, mul33]
  have h1 : UInt64.ofInt (n : Int) = UInt64.ofNat n := by
    unfold UInt64.ofInt
    congr 1
    omega
  rw [h1]
  have hn : n % 18446744073709551616 = n := Nat.mod_eq_of_lt (by omega)
  have h2 : (UInt64.ofNat n >>> 32).toUInt32 = 0 := by
    apply UInt32.toNat_inj.1
    simp [Nat.shiftRight_eq_div_pow, hn]
    omega
  have h3 : (UInt64.ofNat n &&& 4294967295).toUInt32 = UInt32.ofNat n := by
    apply UInt32.toNat_inj.1
    simp
    have : (4294967295 : Nat) = 2 ^ 32 - 1 := by decide
    rw [this, Nat.and_two_pow_sub_one_eq_mod]
    omega
  rw [h2, h3]; simp

end C08
