/-
`Equal` and its auxiliaries `equalList`, `entriesEq`, `lookupEq` in iff form; structural induction on values.
-/
import ElvModel.C08.Spec

namespace C08

theorem Equal_map (f g : Bool) (xs ys : List (Val × Val)) :
    Equal (.map f xs) (.map g ys) =
      (xs.length == ys.length && if (!f && g) = true then entriesEq ys xs else entriesEq xs ys) := by
  cases f <;> cases g <;> simp [Equal]

/-- `cases Equal_case h` leaves the ten diagonal cases of `h : Equal a b = true` and replaces `b` by the matching form. -/
inductive EqualCase : Val → Val → Prop
  | nil : EqualCase .nil .nil
  | bool (x : Bool) : EqualCase (.bool x) (.bool x)
  | int (x : Int) : EqualCase (.int x) (.int x)
  | bigint (x : Int) : EqualCase (.bigint x) (.bigint x)
  | rat (x : Rat) : EqualCase (.rat x) (.rat x)
  | float {x y : UInt64} : F64.eq x y = true → EqualCase (.float x) (.float y)
  | str (x : Go.Bytes) : EqualCase (.str x) (.str x)
  | list {xs ys : List Val} : xs.length = ys.length → equalList xs ys = true → EqualCase (.list xs) (.list ys)
  | map {f g : Bool} {xs ys : List (Val × Val)} : xs.length = ys.length →
      (if (!f && g) = true then entriesEq ys xs else entriesEq xs ys) = true → EqualCase (.map f xs) (.map g ys)
  | ref (k i : Nat) : EqualCase (.ref k i) (.ref k i)

theorem Equal_case {a b : Val} (h : Equal a b = true) : EqualCase a b := by
  unfold Equal at h
  split at h
  next => exact .nil
  next => cases eq_of_beq h; exact .bool _
  next => cases eq_of_beq h; exact .int _
  next => cases eq_of_beq h; exact .bigint _
  next => cases eq_of_beq h; exact .rat _
  next => exact .float h
  next => cases eq_of_beq h; exact .str _
  next =>
    rw [Bool.and_eq_true, beq_iff_eq] at h
    exact .list h.1 h.2
  next =>
    rw [Bool.and_eq_true, beq_iff_eq, beq_iff_eq] at h
    obtain ⟨rfl, rfl⟩ := h
    exact .ref _ _
  next =>
    rw [Bool.and_eq_true, beq_iff_eq] at h
    exact .map h.1 h.2
  next f _ g _ hfg =>
    rw [Bool.and_eq_true, beq_iff_eq] at h
    have : (!f && g) = false := by cases f <;> cases g <;> simp at hfg ⊢
    exact .map h.1 (by rw [this]; exact h.2)
  next => cases h

theorem Equal_of_case {a b : Val} (h : EqualCase a b) : Equal a b = true := by
  cases h with
  | float hf => rw [Equal]; exact hf
  | list hl he => rw [Equal, hl, he, beq_self_eq_true]; rfl
  | map hl he => rw [Equal_map, hl, he, beq_self_eq_true]; rfl
  | _ => simp [Equal]

theorem Val.induct {P : Val → Prop} (nil : P .nil) (bool : ∀ b, P (.bool b)) (int : ∀ i, P (.int i))
    (bigint : ∀ i, P (.bigint i)) (rat : ∀ r, P (.rat r)) (float : ∀ b, P (.float b)) (str : ∀ s, P (.str s))
    (list : ∀ xs, (∀ x ∈ xs, P x) → P (.list xs))
    (map : ∀ f kvs, (∀ p ∈ kvs, P p.1 ∧ P p.2) → P (.map f kvs))
    (ref : ∀ k i, P (.ref k i)) : ∀ a, P a :=
  Val.rec (motive_1 := P) (motive_2 := fun xs => ∀ x ∈ xs, P x)
    (motive_3 := fun kvs => ∀ p ∈ kvs, P p.1 ∧ P p.2) (motive_4 := fun p => P p.1 ∧ P p.2)
    nil bool int bigint rat float str list map ref
    (fun _ h => nomatch h) (fun _ _ hx hxs => List.forall_mem_cons.2 ⟨hx, hxs⟩)
    (fun _ h => nomatch h) (fun _ _ hp hkvs => List.forall_mem_cons.2 ⟨hp, hkvs⟩) (fun _ _ hk hv => ⟨hk, hv⟩)

theorem entriesEq_iff (xs ys : List (Val × Val)) :
    entriesEq xs ys = true ↔ ∀ p ∈ xs, lookupEq p.1 p.2 ys = true := by
  induction xs with
  | nil => simp [entriesEq]
  | cons p xs ih =>
    obtain ⟨k, v⟩ := p
    simp [entriesEq, ih]

theorem lookupEq_iff (k v : Val) (ys : List (Val × Val)) :
    lookupEq k v ys = true ↔
      ∃ l1 q l2, ys = l1 ++ q :: l2 ∧ (∀ r ∈ l1, Equal k r.1 = false) ∧
        Equal k q.1 = true ∧ Equal v q.2 = true := by
  induction ys with
  | nil => simp [lookupEq]
  | cons y ys ih =>
    obtain ⟨k', v'⟩ := y
    rw [lookupEq]
    constructor
    · intro h
      split at h
      next hk => exact ⟨[], (k', v'), ys, rfl, nofun, hk, h⟩
      next hk =>
        obtain ⟨l1, q, l2, rfl, hno, hq⟩ := ih.1 h
        exact ⟨(k', v') :: l1, q, l2, rfl, List.forall_mem_cons.2 ⟨Bool.eq_false_iff.2 hk, hno⟩, hq⟩
    · rintro ⟨l1, q, l2, heq, hno, hk, hv⟩
      cases l1 with
      | nil =>
        cases heq
        rw [if_pos hk]
        exact hv
      | cons r l1 =>
        cases heq
        rw [if_neg (Bool.eq_false_iff.1 (hno (k', v') (by simp)))]
        exact ih.2 ⟨l1, q, l2, rfl, fun s hs => hno s (by simp [hs]), hk, hv⟩
theorem equalList_cons (x y : Val) (xs ys : List Val) :
    equalList (x :: xs) (y :: ys) = (Equal x y && equalList xs ys) := by
  rw [equalList]

theorem equalList_nil_left (ys : List Val) : equalList [] ys = true := by
  rw [equalList]; intros; simp_all

theorem equalList_nil_right (xs : List Val) : equalList xs [] = true := by
  rw [equalList]; intros; simp_all

theorem WFList_iff {xs : List Val} : WFList xs ↔ ∀ x ∈ xs, WF x := by
  induction xs with
  | nil => simp [WFList]
  | cons x xs ih => simp [WFList, ih]

theorem WFEntries_iff {xs : List (Val × Val)} : WFEntries xs ↔ ∀ p ∈ xs, WF p.1 ∧ WF p.2 := by
  induction xs with
  | nil => simp [WFEntries]
  | cons p xs ih => simp [WFEntries, ih, and_assoc]

theorem WFEntries_mem {xs : List (Val × Val)} (h : WFEntries xs) : ∀ p ∈ xs, WF p.1 ∧ WF p.2 :=
  WFEntries_iff.1 h

theorem WFList_of_mem {xs : List Val} (h : ∀ x ∈ xs, WF x) : WFList xs :=
  WFList_iff.2 h

theorem WFEntries_of_mem {xs : List (Val × Val)} (h : ∀ p ∈ xs, WF p.1 ∧ WF p.2) : WFEntries xs :=
  WFEntries_iff.2 h

theorem NaNFreeList_iff {xs : List Val} : NaNFreeList xs ↔ ∀ x ∈ xs, NaNFree x := by
  induction xs with
  | nil => simp [NaNFreeList]
  | cons x xs ih => simp [NaNFreeList, ih]

theorem NaNFreeEntries_iff {xs : List (Val × Val)} :
    NaNFreeEntries xs ↔ ∀ p ∈ xs, NaNFree p.1 ∧ NaNFree p.2 := by
  induction xs with
  | nil => simp [NaNFreeEntries]
  | cons p xs ih => simp [NaNFreeEntries, ih, and_assoc]

theorem sizeOf_mem_list {xs : List Val} {x : Val} (h : x ∈ xs) : sizeOf x < sizeOf (Val.list xs) := by
  have := List.sizeOf_lt_of_mem h
  simp; omega

theorem sizeOf_mem_map {f : Bool} {xs : List (Val × Val)} {p : Val × Val} (h : p ∈ xs) :
    sizeOf p.1 < sizeOf (Val.map f xs) ∧ sizeOf p.2 < sizeOf (Val.map f xs) := by
  have := List.sizeOf_lt_of_mem h
  obtain ⟨k, v⟩ := p
  simp at this ⊢
  omega

end C08
