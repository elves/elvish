/-
Consequences for maps (association list modulo `Equal` = the abstract map of
C07): eq keys are interchangeable in has-key / index / assoc / dissoc, and
assoc / dissoc never produce two eq keys.
-/
import ElvProofs.C08.HashLemmas

namespace C08

theorem Equal_congr_left {a b c : Val} (wa : WF a) (wb : WF b) (wc : WF c) (h : Equal a b = true) :
    Equal a c = Equal b c :=
  Bool.eq_iff_iff.2 ⟨Equal_trans wb wa wc (Equal_symm wa wb h), Equal_trans wa wb wc h⟩

theorem mapIndex_congr {a b : Val} (wa : WF a) (wb : WF b) (h : Equal a b = true) :
    ∀ m : List (Val × Val), WFEntries m → mapIndex a m = mapIndex b m := by
  intro m
  induction m with
  | nil => intro _; rfl
  | cons p m ih =>
    obtain ⟨k, v⟩ := p
    intro wm
    simp only [WFEntries] at wm
    simp only [mapIndex, Equal_congr_left wa wb wm.1 h, ih wm.2.2]

theorem mapDissoc_congr {a b : Val} (wa : WF a) (wb : WF b) (h : Equal a b = true) :
    ∀ m : List (Val × Val), WFEntries m → mapDissoc a m = mapDissoc b m := by
  intro m
  induction m with
  | nil => intro _; rfl
  | cons p m ih =>
    obtain ⟨k, v⟩ := p
    intro wm
    simp only [WFEntries] at wm
    simp only [mapDissoc, Equal_congr_left wa wb wm.1 h, ih wm.2.2]

theorem mapAssoc_congr {a b : Val} (wa : WF a) (wb : WF b) (h : Equal a b = true) (v : Val) :
    ∀ m : List (Val × Val), WFEntries m →
      (mapAssoc a v m).length = (mapAssoc b v m).length ∧
      (mapAssoc a v m).map Prod.snd = (mapAssoc b v m).map Prod.snd ∧
      ∀ c, WF c → mapIndex c (mapAssoc a v m) = mapIndex c (mapAssoc b v m) := by
  intro m
  induction m with
  | nil =>
    intro _
    refine ⟨rfl, rfl, ?_⟩
    intro c wc
    simp only [mapAssoc, mapIndex, Equal_symm_eq wc wa, Equal_symm_eq wc wb, Equal_congr_left wa wb wc h]
  | cons p m ih =>
    obtain ⟨k, w⟩ := p
    intro wm
    simp only [WFEntries] at wm
    obtain ⟨ih1, ih2, ih3⟩ := ih wm.2.2
    simp only [mapAssoc, Equal_congr_left wa wb wm.1 h]
    split
    · refine ⟨rfl, rfl, ?_⟩
      intro c wc
      simp only [mapIndex, Equal_symm_eq wc wa, Equal_symm_eq wc wb, Equal_congr_left wa wb wc h]
    · refine ⟨by simp [ih1], by simp [ih2], ?_⟩
      intro c wc
      simp only [mapIndex, ih3 c wc]

theorem mem_mapAssoc {a v : Val} : ∀ {m : List (Val × Val)} {p : Val × Val},
    p ∈ mapAssoc a v m → p = (a, v) ∨ p ∈ m := by
  intro m
  induction m with
  | nil => intro p hp; simp [mapAssoc] at hp; exact Or.inl hp
  | cons q m ih =>
    obtain ⟨k, w⟩ := q
    intro p hp
    simp only [mapAssoc] at hp
    split at hp
    · simp at hp; rcases hp with rfl | hp
      · exact Or.inl rfl
      · exact Or.inr (by simp [hp])
    · simp at hp; rcases hp with rfl | hp
      · exact Or.inr (by simp)
      · rcases ih hp with h | h
        · exact Or.inl h
        · exact Or.inr (by simp [h])

theorem mem_mapDissoc {a : Val} : ∀ {m : List (Val × Val)} {p : Val × Val},
    p ∈ mapDissoc a m → p ∈ m := by
  intro m
  induction m with
  | nil => intro p hp; simp [mapDissoc] at hp
  | cons q m ih =>
    obtain ⟨k, w⟩ := q
    intro p hp
    simp only [mapDissoc] at hp
    split at hp
    · simp [hp]
    · simp at hp; rcases hp with rfl | hp
      · simp
      · simp [ih hp]

theorem mapAssoc_noDup {a v : Val} (wa : WF a) :
    ∀ m : List (Val × Val), WFEntries m → NoDupKeys m → NoDupKeys (mapAssoc a v m) := by
  intro m
  induction m with
  | nil => intro _ _; simp [mapAssoc, NoDupKeys]
  | cons q m ih =>
    obtain ⟨k, w⟩ := q
    intro wm nd
    simp only [WFEntries] at wm
    unfold NoDupKeys at nd ⊢
    rw [List.pairwise_cons] at nd
    simp only [mapAssoc]
    split
    next hk =>
      rw [List.pairwise_cons]
      refine ⟨?_, nd.2⟩
      intro p hp
      have wp := (WFEntries_mem wm.2.2 p hp).1
      have := nd.1 p hp
      simp only at this ⊢
      rw [Equal_congr_left wa wm.1 wp hk, Equal_symm_eq wp wa, Equal_congr_left wa wm.1 wp hk]
      exact ⟨this.1, this.1⟩
    next hk =>
      rw [List.pairwise_cons]
      refine ⟨?_, ih wm.2.2 nd.2⟩
      intro p hp
      rcases mem_mapAssoc hp with rfl | hp
      · simp only
        have hk' : Equal a k = false := by simpa using hk
        exact ⟨by rw [Equal_symm_eq wm.1 wa]; exact hk', hk'⟩
      · exact nd.1 p hp

theorem mapDissoc_noDup {a : Val} :
    ∀ m : List (Val × Val), NoDupKeys m → NoDupKeys (mapDissoc a m) := by
  intro m
  induction m with
  | nil => intro _; simp [mapDissoc, NoDupKeys]
  | cons q m ih =>
    obtain ⟨k, w⟩ := q
    intro nd
    unfold NoDupKeys at nd ⊢
    rw [List.pairwise_cons] at nd
    simp only [mapDissoc]
    split
    · exact nd.2
    · rw [List.pairwise_cons]
      exact ⟨fun p hp => nd.1 p (mem_mapDissoc hp), ih nd.2⟩

theorem mapAssoc_wfEntries {a v : Val} (wa : WF a) (wv : WF v) {m : List (Val × Val)}
    (wm : WFEntries m) : WFEntries (mapAssoc a v m) := by
  apply WFEntries_of_mem
  intro p hp
  rcases mem_mapAssoc hp with rfl | hp
  · exact ⟨wa, wv⟩
  · exact WFEntries_mem wm p hp

theorem mapAssoc_length_of_hasKey {a v : Val} : ∀ m : List (Val × Val),
    mapHasKey a m = true → (mapAssoc a v m).length = m.length := by
  intro m
  induction m with
  | nil => intro h; simp [mapHasKey, mapIndex] at h
  | cons q m ih =>
    obtain ⟨k, w⟩ := q
    intro h
    simp only [mapHasKey, mapIndex] at h
    simp only [mapAssoc]
    split
    · simp
    next hk =>
      simp only [hk] at h
      simp [ih (by simpa [mapHasKey] using h)]

theorem mapHasKey_mapAssoc_self {a v : Val} (haa : Equal a a = true) : ∀ m : List (Val × Val),
    mapHasKey a (mapAssoc a v m) = true := by
  intro m
  induction m with
  | nil => simp [mapAssoc, mapHasKey, mapIndex, haa]
  | cons q m ih =>
    obtain ⟨k, w⟩ := q
    simp only [mapAssoc]
    split
    · simp [mapHasKey, mapIndex, haa]
    next hk =>
      simp only [mapHasKey, mapIndex, hk]
      exact ih

/-- `mapIndexH` compares the probe only with keys of the same hash, as the HAMT does. -/
theorem mapIndexH_eq (rh : Nat → Nat → UInt32) {k : Val} (wk : WF k) :
    ∀ m : List (Val × Val), WFEntries m → mapIndexH (Hash rh) k m = mapIndex k m := by
  intro m
  induction m with
  | nil => intro _; rfl
  | cons q m ih =>
    obtain ⟨k', v'⟩ := q
    intro wm
    simp only [WFEntries] at wm
    simp only [mapIndexH, mapIndex, ih wm.2.2]
    cases h : Equal k k' with
    | false => simp
    | true => simp [Equal_hash rh wk wm.1 h]

end C08
