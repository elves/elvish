/-
`Equal` is symmetric and transitive on well-formed values (maps without
eq-duplicate keys), and reflexive on those that hold no NaN.  Symmetry and
transitivity are proved together by induction on a bound for the sizes:
symmetry of map equality needs transitivity on the keys (pigeonhole on the
entry matching) and vice versa.
-/
import ElvProofs.C08.EqualBasic

namespace C08

theorem matching_step {α : Type} {M : α → α → Prop} {p : α} {xs ys : List α}
    (hlen : (p :: xs).length = ys.length) (hm : ∀ p' ∈ p :: xs, ∃ q ∈ ys, M p' q)
    (hinj : (p :: xs).Pairwise fun p p' => ∀ q ∈ ys, ¬ (M p q ∧ M p' q)) :
    ∃ q0 s t, ys = s ++ q0 :: t ∧ M p q0 ∧ xs.length = (s ++ t).length ∧
      (∀ p' ∈ xs, ∃ q ∈ s ++ t, M p' q) ∧
      xs.Pairwise fun p p' => ∀ q ∈ s ++ t, ¬ (M p q ∧ M p' q) := by
  obtain ⟨q0, hq0, hpq0⟩ := hm p (by simp)
  obtain ⟨s, t, rfl⟩ := List.append_of_mem hq0
  rw [List.pairwise_cons] at hinj
  obtain ⟨hhead, htail⟩ := hinj
  refine ⟨q0, s, t, rfl, hpq0, by simp at hlen ⊢; omega, ?_, ?_⟩
  · intro p' hp'
    obtain ⟨q', hq', hpq'⟩ := hm p' (by simp [hp'])
    have : q' ∈ s ∨ q' = q0 ∨ q' ∈ t := by simpa using hq'
    rcases this with h | rfl | h
    · exact ⟨q', by simp [h], hpq'⟩
    · exact absurd ⟨hpq0, hpq'⟩ (hhead p' hp' q' hq0)
    · exact ⟨q', by simp [h], hpq'⟩
  · refine htail.imp fun hab q hq => hab q ?_
    have : q ∈ s ∨ q ∈ t := by simpa using hq
    rcases this with h | h <;> simp [h]

theorem pigeonhole {α : Type} (M : α → α → Prop) :
    ∀ (xs ys : List α), xs.length = ys.length →
      (∀ p ∈ xs, ∃ q ∈ ys, M p q) →
      xs.Pairwise (fun p p' => ∀ q ∈ ys, ¬ (M p q ∧ M p' q)) →
      ∀ q ∈ ys, ∃ p ∈ xs, M p q
  | [], [], _, _, _, _, hq => nomatch hq
  | [], _ :: _, hlen, _, _, _, _ => by simp at hlen
  | p :: xs, ys, hlen, hm, hinj, q, hq => by
    obtain ⟨q0, s, t, rfl, hp, hlen', hm', hinj'⟩ := matching_step hlen hm hinj
    have hq' : q = q0 ∨ q ∈ s ++ t := by
      have : q ∈ s ∨ q = q0 ∨ q ∈ t := by simpa using hq
      rcases this with h | h | h <;> simp [h]
    rcases hq' with rfl | h
    · exact ⟨p, by simp, hp⟩
    · obtain ⟨p', hp', h'⟩ := pigeonhole M xs (s ++ t) hlen' hm' hinj' q h
      exact ⟨p', by simp [hp'], h'⟩

structure SymTrans (S : Val → Prop) : Prop where
  symm : ∀ {a b}, S a → S b → Equal a b = true → Equal b a = true
  trans : ∀ {a b c}, S a → S b → S c → Equal a b = true → Equal b c = true → Equal a c = true

def AllIn (S : Val → Prop) (xs : List (Val × Val)) : Prop := ∀ p ∈ xs, S p.1 ∧ S p.2

def Partner (p q : Val × Val) : Prop := Equal p.1 q.1 = true ∧ Equal p.2 q.2 = true

theorem entries_partner {xs ys : List (Val × Val)} (h : entriesEq xs ys = true) :
    ∀ p ∈ xs, ∃ q ∈ ys, Partner p q := by
  intro p hp
  obtain ⟨l1, q, l2, rfl, _, hq⟩ := (lookupEq_iff _ _ _).1 ((entriesEq_iff xs ys).1 h p hp)
  exact ⟨q, by simp, hq⟩

theorem NoDupKeys.before {s t : List (Val × Val)} {p : Val × Val} (h : NoDupKeys (s ++ p :: t)) :
    ∀ r ∈ s, Equal r.1 p.1 = false ∧ Equal p.1 r.1 = false := by
  unfold NoDupKeys at h
  rw [List.pairwise_append] at h
  exact fun r hr => h.2.2 r hr p (by simp)

section
variable {S : Val → Prop} (E : SymTrans S)
include E

theorem partner_injective {xs ys : List (Val × Val)} (hx : AllIn S xs) (hy : AllIn S ys)
    (hnd : NoDupKeys xs) : xs.Pairwise (fun p p' => ∀ q ∈ ys, ¬ (Partner p q ∧ Partner p' q)) := by
  refine List.Pairwise.imp_of_mem ?_ hnd
  intro p p' hp hp' hne q hq ⟨⟨h1, _⟩, ⟨h2, _⟩⟩
  have h3 := E.symm (hx p' hp').1 (hy q hq).1 h2
  rw [E.trans (hx p hp).1 (hy q hq).1 (hx p' hp').1 h1 h3] at hne
  cases hne.1

theorem entries_sym {xs ys : List (Val × Val)} (hx : AllIn S xs) (hy : AllIn S ys)
    (hlen : xs.length = ys.length) (hnd : NoDupKeys xs) (h : entriesEq xs ys = true) :
    entriesEq ys xs = true := by
  have surj := pigeonhole Partner xs ys hlen (entries_partner h) (partner_injective E hx hy hnd)
  rw [entriesEq_iff]
  intro q hq
  obtain ⟨p, hp, hk, hv⟩ := surj q hq
  obtain ⟨s, t, rfl⟩ := List.append_of_mem hp
  rw [lookupEq_iff]
  refine ⟨s, p, t, rfl, ?_, E.symm (hx p hp).1 (hy q hq).1 hk, E.symm (hx p hp).2 (hy q hq).2 hv⟩
  -- an earlier key of `xs` eq to `q`'s would be eq to `p`'s
  intro r hr
  cases hqr : Equal q.1 r.1 with
  | false => rfl
  | true =>
    have h4 := E.trans (hx p hp).1 (hy q hq).1 (hx r (by simp [hr])).1 hk hqr
    rw [(hnd.before r hr).2] at h4
    cases h4

theorem entries_trans {xs ys zs : List (Val × Val)} (hx : AllIn S xs) (hy : AllIn S ys) (hz : AllIn S zs)
    (h1 : entriesEq xs ys = true) (h2 : entriesEq ys zs = true) : entriesEq xs zs = true := by
  rw [entriesEq_iff] at h2 ⊢
  intro p hp
  obtain ⟨q, hq, hk, hv⟩ := entries_partner h1 p hp
  obtain ⟨l1, r, l2, rfl, hno, hk2, hv2⟩ := (lookupEq_iff _ _ _).1 (h2 q hq)
  have hr := hz r (by simp)
  rw [lookupEq_iff]
  refine ⟨l1, r, l2, rfl, ?_, E.trans (hx p hp).1 (hy q hq).1 hr.1 hk hk2,
    E.trans (hx p hp).2 (hy q hq).2 hr.2 hv hv2⟩
  -- an earlier key of `zs` eq to `p`'s would be eq to `q`'s
  intro s hsm
  cases hps : Equal p.1 s.1 with
  | false => rfl
  | true =>
    have hqp := E.symm (hx p hp).1 (hy q hq).1 hk
    rw [← hno s hsm]
    exact (E.trans (hy q hq).1 (hx p hp).1 (hz s (by simp [hsm])).1 hqp hps).symm

theorem equalList_sym : ∀ xs ys : List Val, (∀ x ∈ xs, S x) → (∀ y ∈ ys, S y) →
    equalList xs ys = true → equalList ys xs = true
  | [], ys, _, _, _ => equalList_nil_right ys
  | _ :: _, [], _, _, _ => equalList_nil_left _
  | x :: xs, y :: ys, hx, hy, h => by
    rw [equalList_cons, Bool.and_eq_true] at h ⊢
    exact ⟨E.symm (hx x (by simp)) (hy y (by simp)) h.1,
      equalList_sym xs ys (fun a ha => hx a (by simp [ha])) (fun a ha => hy a (by simp [ha])) h.2⟩

theorem equalList_trans : ∀ xs ys zs : List Val, xs.length = ys.length →
    (∀ x ∈ xs, S x) → (∀ y ∈ ys, S y) → (∀ z ∈ zs, S z) →
    equalList xs ys = true → equalList ys zs = true → equalList xs zs = true
  | [], _, zs, _, _, _, _, _, _ => equalList_nil_left zs
  | _ :: _, [], _, hlen, _, _, _, _, _ => by simp at hlen
  | _ :: _, _ :: _, [], _, _, _, _, _, _ => equalList_nil_right _
  | x :: xs, y :: ys, z :: zs, hlen, hx, hy, hz, h1, h2 => by
    rw [equalList_cons, Bool.and_eq_true] at h1 h2 ⊢
    exact ⟨E.trans (hx x (by simp)) (hy y (by simp)) (hz z (by simp)) h1.1 h2.1,
      equalList_trans xs ys zs (by simpa using hlen) (fun a ha => hx a (by simp [ha]))
        (fun a ha => hy a (by simp [ha])) (fun a ha => hz a (by simp [ha])) h1.2 h2.2⟩

theorem map_equal_both {f g : Bool} {xs ys : List (Val × Val)} (hx : AllIn S xs) (hy : AllIn S ys)
    (ndx : NoDupKeys xs) (ndy : NoDupKeys ys) (h : Equal (.map f xs) (.map g ys) = true) :
    xs.length = ys.length ∧ entriesEq xs ys = true ∧ entriesEq ys xs = true := by
  cases Equal_case h with
  | map hlen h =>
    refine ⟨hlen, ?_⟩
    split at h
    · exact ⟨entries_sym E hy hx hlen.symm ndy h, h⟩
    · exact ⟨h, entries_sym E hx hy hlen ndx h⟩

end

theorem map_equal_of {f g : Bool} {xs ys : List (Val × Val)} (hlen : xs.length = ys.length)
    (h1 : entriesEq xs ys = true) (h2 : entriesEq ys xs = true) :
    Equal (.map f xs) (.map g ys) = true :=
  Equal_of_case (.map hlen (by split <;> assumption))

theorem F64.eq_symm (a b : UInt64) : F64.eq a b = F64.eq b a := by
  unfold F64.eq
  rw [Bool.and_comm (!F64.isNaN a), Bool.beq_comm]

theorem F64.eq_trans {a b c : UInt64} (h1 : F64.eq a b = true) (h2 : F64.eq b c = true) :
    F64.eq a c = true := by
  unfold F64.eq at *
  simp only [Bool.and_eq_true, Bool.not_eq_true', beq_iff_eq] at *
  exact ⟨⟨h1.1.1, h2.1.2⟩, h1.2.trans h2.2⟩

def Sized (n : Nat) (a : Val) : Prop := sizeOf a < n ∧ WF a

theorem sized_of_list {n : Nat} {xs : List Val} (h : Sized (n + 1) (.list xs)) : ∀ x ∈ xs, Sized n x := by
  intro x hx
  have := sizeOf_mem_list hx
  exact ⟨by have := h.1; omega, WFList_iff.1 h.2 x hx⟩

theorem sized_of_map {n : Nat} {f : Bool} {xs : List (Val × Val)} (h : Sized (n + 1) (.map f xs)) :
    AllIn (Sized n) xs ∧ NoDupKeys xs := by
  obtain ⟨hsz, hwf, hnd⟩ := h
  refine ⟨fun p hp => ?_, hnd⟩
  have := sizeOf_mem_map (f := f) hp
  have hw := WFEntries_mem hwf p hp
  exact ⟨⟨by omega, hw.1⟩, ⟨by omega, hw.2⟩⟩

theorem symTrans_step {n : Nat} (E : SymTrans (Sized n)) : SymTrans (Sized (n + 1)) where
  symm {a b} sa sb h := by
    cases Equal_case h with
    | float hf => exact Equal_of_case (.float (F64.eq_symm _ _ ▸ hf))
    | list hl he => exact Equal_of_case (.list hl.symm (equalList_sym E _ _ (sized_of_list sa) (sized_of_list sb) he))
    | map =>
      obtain ⟨hx, ndx⟩ := sized_of_map sa
      obtain ⟨hy, ndy⟩ := sized_of_map sb
      obtain ⟨hlen, h1, h2⟩ := map_equal_both E hx hy ndx ndy h
      exact map_equal_of hlen.symm h2 h1
    | _ => exact h
  trans {a b c} sa sb sc h1 h2 := by
    cases Equal_case h1 with
    | float hf1 =>
      cases Equal_case h2 with
      | float hf2 => exact Equal_of_case (.float (F64.eq_trans hf1 hf2))
    | list hl1 he1 =>
      cases Equal_case h2 with
      | list hl2 he2 =>
        exact Equal_of_case (.list (hl1.trans hl2)
          (equalList_trans E _ _ _ hl1 (sized_of_list sa) (sized_of_list sb) (sized_of_list sc) he1 he2))
    | map =>
      cases Equal_case h2 with
      | map =>
        obtain ⟨hx, ndx⟩ := sized_of_map sa
        obtain ⟨hy, ndy⟩ := sized_of_map sb
        obtain ⟨hz, ndz⟩ := sized_of_map sc
        obtain ⟨l1, a1, a2⟩ := map_equal_both E hx hy ndx ndy h1
        obtain ⟨l2, b1, b2⟩ := map_equal_both E hy hz ndy ndz h2
        exact map_equal_of (l1.trans l2) (entries_trans E hx hy hz a1 b1) (entries_trans E hz hy hx b2 a2)
    | _ => exact h2

theorem symTrans_sized : ∀ n, SymTrans (Sized n)
  | 0 => ⟨fun sa => absurd sa.1 (Nat.not_lt_zero _), fun sa => absurd sa.1 (Nat.not_lt_zero _)⟩
  | n + 1 => symTrans_step (symTrans_sized n)

theorem Equal_symm {a b : Val} (wa : WF a) (wb : WF b) (h : Equal a b = true) : Equal b a = true :=
  (symTrans_sized (sizeOf a + sizeOf b + 1)).symm ⟨by omega, wa⟩ ⟨by omega, wb⟩ h

theorem Equal_trans {a b c : Val} (wa : WF a) (wb : WF b) (wc : WF c)
    (h1 : Equal a b = true) (h2 : Equal b c = true) : Equal a c = true :=
  (symTrans_sized (sizeOf a + sizeOf b + sizeOf c + 1)).trans ⟨by omega, wa⟩ ⟨by omega, wb⟩ ⟨by omega, wc⟩ h1 h2

theorem symTrans_wf : SymTrans WF := ⟨Equal_symm, Equal_trans⟩

theorem Equal_symm_eq {a b : Val} (wa : WF a) (wb : WF b) : Equal a b = Equal b a :=
  Bool.eq_iff_iff.2 ⟨Equal_symm wa wb, Equal_symm wb wa⟩

theorem equalList_self : ∀ {xs : List Val}, (∀ x ∈ xs, Equal x x = true) → equalList xs xs = true
  | [], _ => equalList_nil_left _
  | x :: xs, h => by
    rw [equalList_cons, h x (by simp), equalList_self fun a ha => h a (by simp [ha])]
    rfl

theorem Equal_refl {a : Val} (wa : WF a) (na : NaNFree a) : Equal a a = true := by
  induction a using Val.induct with
  | float b =>
    have nb : F64.isNaN b = false := na
    exact Equal_of_case (.float (by simp [F64.eq, nb]))
  | list xs ih =>
    exact Equal_of_case (.list rfl (equalList_self fun x hx =>
      ih x hx (WFList_iff.1 wa x hx) (NaNFreeList_iff.1 na x hx)))
  | map f xs ih =>
    obtain ⟨we, nd⟩ := wa
    have he : entriesEq xs xs = true := by
      rw [entriesEq_iff]
      intro p hp
      obtain ⟨s, t, hst⟩ := List.append_of_mem hp
      have wp := WFEntries_mem we p hp
      have np := NaNFreeEntries_iff.1 na p hp
      rw [lookupEq_iff]
      exact ⟨s, p, t, hst, fun r hr => ((hst ▸ nd).before r hr).2, (ih p hp).1 wp.1 np.1, (ih p hp).2 wp.2 np.2⟩
    exact map_equal_of rfl he he
  | _ => exact Equal_of_case (by constructor)

end C08
