/-
The candidates `Complete` offers for file names are exactly the matching
directory entries, each once, sorted.
-/
import ElvProofs.C43.Words
import ElvProofs.C43.Basic
namespace C43
open Go C01
open Gen.C01Chars

/-- a code suffix as the generators use it: nothing or one space -/
def PlainSuffix (s : Bytes) : Prop := s = [] ∨ s = [32]

theorem stops_suffix (isPrint : Int → Bool) (ctx : Int) (s : Bytes) (h : PlainSuffix s) :
    startsIndexing isPrint (peekOf (s ++ [])) ctx = false := by
  rcases h with rfl | rfl
  · exact stops_nil isPrint ctx
  · exact stops_space isPrint ctx []

theorem quoteAs_inj (isPrint : Int → Bool) (q : Int) (a b sa sb : Bytes)
    (ha : PlainSuffix sa) (hb : PlainSuffix sb)
    (h : (QuoteAs isPrint a q).1 ++ sa = (QuoteAs isPrint b q).1 ++ sb) : a = b := by
  have h1 := quoteAs_word_rt isPrint a q 0 [] (sa ++ []) 0 [] (stops_suffix isPrint 0 sa ha)
  have h2 := quoteAs_word_rt isPrint b q 0 [] (sb ++ []) 0 [] (stops_suffix isPrint 0 sb hb)
  have hsrc : ([] : Bytes) ++ (QuoteAs isPrint a q).1 ++ (sa ++ []) = [] ++ (QuoteAs isPrint b q).1 ++ (sb ++ []) := by
    simpa using h
  rw [hsrc, h2] at h1
  -- the same word node: evaluate it on both sides
  have hv := congrArg (fun n => purelyEvalPartialCompound (literalEnv isPrint) n (-1)) (Out.ok.inj h1).1
  simp only [wordNode_value _ _ _ _ _ _ (quoteAs_type _ _ _)] at hv
  cases hv
  rfl

theorem dedupFrom_id : ∀ (prev : Option Bytes) (l : List Item),
    (∀ x ∈ l, prev ≠ some x.toInsert) → (l.map (·.toInsert)).Nodup → dedupFrom prev l = l
  | _, [], _, _ => rfl
  | prev, x :: rest, hp, hn => by
    have hx : (prev == some x.toInsert) = false := by
      have := hp x List.mem_cons_self
      simpa using this
    simp only [dedupFrom, hx, Bool.false_eq_true, if_false]
    simp only [List.map_cons, List.nodup_cons] at hn
    congr 1
    apply dedupFrom_id
    · intro y hy hxy
      simp only [Option.some.injEq] at hxy
      exact hn.1 (by rw [hxy]; exact List.mem_map_of_mem hy)
    · exact hn.2

theorem dedup_id (l : List Item) (hn : (l.map (·.toInsert)).Nodup) : dedup l = l :=
  dedupFrom_id none l (by intro x _ h; cases h) hn

/-- What `Complete` shows, for any generator output `raw` whose candidates that pass the prefix filter (`L`) are
quoted, carry a plain suffix and have distinct stems: exactly their stems, each once, sorted.  `dedup` removes
nothing, because quoting is injective on the stems. -/
theorem finish_shown (env : C43.Env) (ctx : Ctx) (raw L : List Raw) (hfilt : filterPrefix ctx.seed raw = L)
    (hplain : ∀ x ∈ L, x.noQuote = false ∧ PlainSuffix x.suffix) (hnodup : (L.map (·.stem)).Nodup) :
    let shown := (finish true env ctx (.items raw)).items.map (·.toShow)
    shown.Perm (L.map (·.stem)) ∧ shown.Nodup ∧ shown.Pairwise (fun a b => bytesLe a b = true) := by
  intro shown
  have hS := sortRaw_perm L
  have hcooked : (finish true env ctx (.items raw)).items =
      (sortRaw L).map (cook env.isPrint (styleOf true ctx.quote)) := by
    unfold finish
    simp only [hfilt]
    apply dedup_id
    rw [List.map_map]
    have hSn : ((sortRaw L).map (·.stem)).Nodup := (hS.map _).nodup_iff.mpr hnodup
    rw [List.nodup_iff_pairwise_ne, List.pairwise_map] at hSn ⊢
    refine List.Pairwise.imp_of_mem ?_ hSn
    intro a b ha hb hne heq
    obtain ⟨hna, hsa⟩ := hplain a (mem_sortRaw.mp ha)
    obtain ⟨hnb, hsb⟩ := hplain b (mem_sortRaw.mp hb)
    apply hne
    simp only [Function.comp, cook, hna, hnb, Bool.false_eq_true, if_false] at heq
    exact quoteAs_inj env.isPrint _ _ _ _ _ hsa hsb heq
  have hshown : shown = (sortRaw L).map (·.stem) := by
    show List.map (fun (x : Item) => x.toShow) (finish true env ctx (.items raw)).items = _
    rw [hcooked, List.map_map]
    apply List.map_congr_left
    intro a _
    simp only [Function.comp, cook]
    split <;> rfl
  rw [hshown]
  refine ⟨hS.map _, (hS.map _).nodup_iff.mpr hnodup, ?_⟩
  rw [List.pairwise_map]
  exact sortRaw_sorted L

/-- what `generateFileNames` makes of an entry that passes -/
def entryRaw (dir : Bytes) (e : Entry) : Raw :=
  if e.dirLike then { stem := dir ++ e.name ++ [47], suffix := [] } else { stem := dir ++ e.name, suffix := [32] }

theorem fileItem_eq (dir pre : Bytes) (x : Bool) (e : Entry) :
    fileItem dir pre x e =
      if e.infoOk && (dotfile pre == dotfile e.name) && (!x || e.exec || e.isDir) then some (entryRaw dir e)
      else none := by
  unfold fileItem entryRaw
  cases e.infoOk <;> cases hd : (dotfile pre == dotfile e.name) <;> cases x <;> cases hx : (e.exec || e.isDir) <;>
    simp_all [bne] <;> split <;> rfl

theorem entryRaw_stem (dir : Bytes) (e : Entry) :
    (entryRaw dir e).stem = dir ++ e.name ++ (if e.dirLike then [47] else []) := by
  unfold entryRaw; split <;> simp

theorem entryRaw_suffix (dir : Bytes) (e : Entry) : PlainSuffix (entryRaw dir e).suffix := by
  unfold entryRaw PlainSuffix; split <;> simp

theorem entryRaw_noQuote (dir : Bytes) (e : Entry) : (entryRaw dir e).noQuote = false := by
  unfold entryRaw; split <;> rfl

theorem prefix_entry (seed : Bytes) (e : Entry) :
    seed.isPrefixOf (entryRaw (splitPath seed).1 e).stem = (splitPath seed).2.isPrefixOf e.name := by
  rw [entryRaw_stem]
  conv => lhs; arg 1; rw [← splitPath_append seed]
  rw [List.append_assoc, isPrefixOf_append_left]
  split
  · exact isPrefixOf_snoc_slash _ _ (splitPath_file_noslash seed)
  · simp

theorem filtered_eq (seed : Bytes) (x : Bool) : ∀ listing : List Entry,
    filterPrefix seed (listing.filterMap (fileItem (splitPath seed).1 (splitPath seed).2 x)) =
      (listing.filter fun e => e.infoOk && (dotfile (splitPath seed).2 == dotfile e.name) &&
        (!x || e.exec || e.isDir) && (splitPath seed).2.isPrefixOf e.name).map (entryRaw (splitPath seed).1)
  | [] => rfl
  | e :: rest => by
    have ih := filtered_eq seed x rest
    unfold filterPrefix at ih ⊢
    rw [List.filterMap_cons, fileItem_eq]
    by_cases hc : (e.infoOk && (dotfile (splitPath seed).2 == dotfile e.name) && (!x || e.exec || e.isDir)) = true
    · simp only [hc, if_true, List.filter_cons, prefix_entry, Bool.true_and]
      split
      · rw [List.map_cons, ih]
      · exact ih
    · have hc' : (e.infoOk && (dotfile (splitPath seed).2 == dotfile e.name) && (!x || e.exec || e.isDir)) = false := by
        simpa using hc
      simp only [hc', Bool.false_eq_true, if_false, List.filter_cons, Bool.false_and]
      exact ih

theorem fileStems_eq (listing : List Entry) (dir pre : Bytes) (x : Bool) :
    fileStems listing dir pre x =
      ((listing.filter fun e => e.infoOk && (dotfile pre == dotfile e.name) && (!x || e.exec || e.isDir) &&
        pre.isPrefixOf e.name).map (entryRaw dir)).map (·.stem) := by
  unfold fileStems
  rw [List.map_map]
  congr 1
  funext e
  simp [entryRaw_stem]

theorem stem_inj (dir : Bytes) (e1 e2 : Entry) (h1 : (47 : UInt8) ∉ e1.name) (h2 : (47 : UInt8) ∉ e2.name)
    (h : (entryRaw dir e1).stem = (entryRaw dir e2).stem) : e1.name = e2.name := by
  rw [entryRaw_stem, entryRaw_stem, List.append_assoc, List.append_assoc] at h
  have h' := List.append_cancel_left h
  by_cases d1 : e1.dirLike = true <;> by_cases d2 : e2.dirLike = true <;>
    simp only [d1, d2, if_true, if_false, Bool.false_eq_true, List.append_nil] at h'
  · exact List.append_cancel_right h'
  · exfalso; apply h2; rw [← h']; simp
  · exfalso; apply h1; rw [h']; simp
  · exact h'

end C43
