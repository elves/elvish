/-
The target of a redirection — `sort < fo`, `ls >> (date) fo` … : the innermost
command may end with a redirection sign (and one optional space) before the
word being completed.  Then the step from the `Chunk` run to `Parse` and
`wordValueAt`, for both shapes of the innermost level.
-/
import ElvProofs.C43.Nest
namespace C43
open Go C01
open Gen.C01Chars

theorem error_pos {m : Msg} {e : C01.Env} {s s' : St} {x : Unit} (h : C01.error m e s = .ok x s') : s'.pos = s.pos := by
  unfold C01.error at h
  rw [C02.errorp_ok h]

/-- an invalid sign such as `><` only adds an error: the position is unaffected -/
theorem setMode_pos {nb nb' : NB} {sign : Bytes} {e : C01.Env} {s s' : St}
    (h : setMode nb sign e s = .ok nb' s') : s'.pos = s.pos := by
  unfold setMode at h
  cases hm : redirMode sign with
  | some m =>
    rw [hm] at h
    simp only at h
    rw [← (ok_pure_inv h).2]
  | none =>
    rw [hm] at h
    simp only at h
    obtain ⟨_, s1, h1, h⟩ := C02.bind_ok.1 h
    rw [← (ok_pure_inv h).2]
    exact error_pos h1

theorem sign_facts (isPrint : Int → Bool) {r : Nat} (h : r = 60 ∨ r = 62) :
    validRune r = true ∧ isRedirSign (r : Int) = true ∧ ((r : Int) == 38) = false ∧
      startsCompound isPrint (r : Int) NormalExpr = false ∧ NextStart (r : Int) := by
  rcases h with rfl | rfl <;>
    exact ⟨by decide, by decide, by decide,
      by simp [startsCompound, startsIndexing, startsPrimary, allowedInBareword, allowedInVariableName, NormalExpr,
        CmdExpr],
      ⟨by decide, by decide, by decide⟩⟩

theorem sign_peek {rs : List Nat} (hs : SignRunes rs) (t : Bytes) :
    ∃ r0 : Nat, (r0 = 60 ∨ r0 = 62) ∧ peekOf (encodeRunes rs ++ t) = (r0 : Int) := by
  obtain ⟨hne, hall⟩ := hs
  cases rs with
  | nil => exact absurd rfl hne
  | cons r0 rs' =>
    have h0 := hall r0 List.mem_cons_self
    exact ⟨r0, h0, peekOf_runes (sign_facts (fun _ => false) h0).1 rs' t⟩

theorem blank_next (isPrint : Int → Bool) (sp : Bool) (T : Bytes) (hT : WordStart isPrint (peekOf T)) :
    isRedirSign (peekOf (blank sp ++ T)) = false := by
  cases sp with
  | true => simp only [blank, if_true, List.cons_append, List.nil_append]; rw [peekOf_space]; decide
  | false =>
    simp only [blank, Bool.false_eq_true, if_false, List.nil_append]
    exact hT.facts.nredir

theorem redir_right {e : C01.Env} (g : Nat) (rs : List Nat) (hs : SignRunes rs) (sp : Bool) (T : Bytes)
    (hT : WordStart e.isPrint (peekOf T)) :
    Down e (g + 1) (.redir none) (redirText rs sp) g (.compound NormalExpr) T := by
  intro s s1 rd hat h
  have hat : At e s (encodeRunes rs ++ (blank sp ++ T)) := by rwa [redirText, List.append_assoc] at hat
  rw [parseNT_succ] at h
  obtain ⟨nbr, text, hb, rfl⟩ := wrap_ok' h
  simp only [body, redirBody, attachLeft] at hb
  have hextAll := redirRest_ext.ext hb
  unfold redirRest at hb
  rw [bind_of_eq (getPos_eq e s), bind_of_eq (loopFuel_eq e s)] at hb
  have hfuel : rs.length < e.src.length + 2 := by
    have := length_le_encodeRunes rs
    have hlen := hat.len
    simp only [List.length_append] at hlen
    omega
  have hskip := C03.skipWhile_runes (e := e) isRedirSign rs (e.src.length + 2) s (blank sp ++ T)
    (fun r hr => ⟨(sign_facts e.isPrint (hs.2 r hr)).1, (sign_facts e.isPrint (hs.2 r hr)).2.1⟩)
    (blank_next e.isPrint sp T hT) hfuel hat
  rw [bind_of_eq hskip, bind_of_eq (getPos_eq e _)] at hb
  obtain ⟨sign, s3, hsl, hb⟩ := C02.bind_ok.1 hb
  have e3 := C02.Pure.sliceSrc _ _ e _ sign s3 hsl
  subst e3
  obtain ⟨nb2, s4, h4, hb⟩ := C02.bind_ok.1 hb
  obtain ⟨nb3, s5, h5, hb⟩ := C02.bind_ok.1 hb
  rw [(addSep_facts h5).1] at hb
  have hatB4 : At e s4 (blank sp ++ T) := hat.adv.of_pos (setMode_pos h4)
  obtain ⟨nb4, s6, h6, hb⟩ := C02.bind_ok.1 hb
  have hatT6 : At e s6 T := by
    cases sp with
    | true =>
      have hb4 : At e s4 (32 :: T) := by simpa [blank] using hatB4
      rw [(parseSpaces_one hb4 hT.next h6).1]
      exact hb4.adv1
    | false =>
      have hb4 : At e s4 T := by simpa [blank] using hatB4
      rw [(parseSpaces_zero hb4 hT.next h6).1]
      exact hb4
  -- no `&`, then the right operand
  have hne38 : peekOf T ≠ 38 := by simpa using hT.facts.n38
  rw [bind_of_eq (parseSep_no _ 38 hatT6 hne38)] at hb
  simp only [Bool.false_eq_true, if_false] at hb
  obtain ⟨right, s7, hright, hb⟩ := C02.bind_ok.1 hb
  refine ⟨rfl, hextAll.1, right, s6, s7, ?_, hatT6, hright⟩
  show right ∈ nbr.children
  split at hb
  · obtain ⟨_, s8, _, hb⟩ := C02.bind_ok.1 hb
    rw [← (ok_pure_inv hb).1]; simp [NB.add]
  · rw [← (ok_pure_inv hb).1]; simp [NB.add]

/-- one iteration of `formLoop` at a redirection sign: the `Redir` node becomes a child, the word its right operand -/
theorem formLoop_redir {e : C01.Env} (g : Nat) (W : Word) (rs : List Nat) (hs : SignRunes rs)
    (sp : Bool) (R : Bytes) (hR : WordStart e.isPrint (peekOf R))
    (hreach : Reach e (g + 3) (.compound NormalExpr) [] R W) (M : Nat) (nb nbR : NB) (s sR : St)
    (hat : At e s (redirText rs sp ++ R))
    (h : formLoop (fun nt' => parseNT (g + 4) nt') (M + 1) nb e s = .ok nbR sR) :
    ∃ c, c ∈ nbR.children ∧ c.frm = s.pos ∧ Reaches (s.pos + (redirText rs sp).length) W c := by
  obtain ⟨r0, h0, hpk⟩ := sign_peek hs (blank sp ++ R)
  obtain ⟨_, hrd0, h38, hsc, _⟩ := sign_facts e.isPrint h0
  have hrr : Reach e (g + 4) (.redir none) (redirText rs sp ++ []) R W :=
    Reach.down (redir_right (g + 3) rs hs sp R hR) (Or.inl (by decide)) hreach
  rw [List.append_nil] at hrr
  unfold formLoop at h
  rw [bind_of_eq (getEnv_eq e s), bind_of_eq (peek_at hat), redirText, List.append_assoc, hpk] at h
  simp only [h38, hsc, hrd0, Bool.false_eq_true, if_false, if_true] at h
  obtain ⟨rd, s1, hrd, h⟩ := C02.bind_ok.1 h
  obtain ⟨nb1, s2, h2, h⟩ := C02.bind_ok.1 h
  obtain ⟨hrf, hr⟩ := hrr s s1 rd hat hrd
  exact ⟨rd, ((parseSpaces_ext.ext h2).trans ((formLoop_ext _ _ _).ext h)).mem_of_add, hrf, hr⟩

theorem inner_word {e : C01.Env} (stem : Bytes) (q : Int) (tail : Bytes)
    (hstop : ∀ ctx, startsIndexing e.isPrint (peekOf tail) ctx = false) (inner : Frame) (hin : FrameOk inner) (f : Nat) :
    Reach e (f + 7) .chunk (frameText e.isPrint inner) ((QuoteAs e.isPrint stem q).1 ++ tail)
      ⟨(QuoteAs e.isPrint stem q).1, (QuoteAs e.isPrint stem q).2, stem⟩ := by
  have hQ := quoteAs_peek e.isPrint stem q tail
  have h := frame_gen (f + 1) _ inner hin [] ((QuoteAs e.isPrint stem q).1 ++ tail) (fun _ => hQ)
    (form_reach (f + 1) _ [] _ hQ (creach_word (f + 1) stem q tail hstop) inner.2.2)
  rwa [List.append_nil] at h

theorem inner_redir {e : C01.Env} (stem : Bytes) (q : Int) (tail : Bytes)
    (hstop : ∀ ctx, startsIndexing e.isPrint (peekOf tail) ctx = false) (inner : Frame) (hin : FrameOk inner)
    (hws : inner.2.2 ≠ []) (rs : List Nat) (hs : SignRunes rs) (sp : Bool) (f : Nat) :
    Reach e (f + 7) .chunk (frameText e.isPrint inner ++ redirText rs sp) ((QuoteAs e.isPrint stem q).1 ++ tail)
      ⟨(QuoteAs e.isPrint stem q).1, (QuoteAs e.isPrint stem q).2, stem⟩ := by
  obtain ⟨ps, fs, ws⟩ := inner
  obtain ⟨w, ws', rfl⟩ := List.exists_cons_of_ne_nil hws
  have hQ := quoteAs_peek e.isPrint stem q tail
  have hX : NextStart (peekOf (redirText rs sp ++ ((QuoteAs e.isPrint stem q).1 ++ tail))) := by
    obtain ⟨r0, h0, hpk⟩ := sign_peek hs (blank sp ++ ((QuoteAs e.isPrint stem q).1 ++ tail))
    rw [redirText, List.append_assoc, hpk]
    exact (sign_facts e.isPrint h0).2.2.2.2
  refine frame_gen (f + 1) _ (ps, fs, w :: ws') hin _ _ (fun h => by cases h) ?_
  exact form_args (f + 1) _ _ _ hX
    (formLoop_redir f _ rs hs sp _ hQ (creach_word f stem q tail hstop NormalExpr)) w ws'

theorem parse_run {isPrint : Int → Bool} {B : Bytes} {tree : Node} {errs : List PErr}
    (hp : parse isPrint B = .ok tree errs) :
    ∃ s1, parseNT (defaultFuel B) .chunk { isPrint := isPrint, src := B } { pos := 0, overEOF := 0, errors := [] } =
      .ok tree s1 := by
  unfold parse parseAs at hp
  rw [parseAsFuel_eq] at hp
  cases hr : (parseNT (defaultFuel B) .chunk >>= fun n => done >>= fun _ => pure n)
      { isPrint := isPrint, src := B } { pos := 0, overEOF := 0, errors := [] } with
  | ok n s =>
    rw [hr] at hp
    obtain ⟨n', s1, h1, h2⟩ := C02.bind_ok.1 hr
    obtain ⟨_, s2, _, h3⟩ := C02.bind_ok.1 h2
    exact ⟨s1, by rw [h1, (ok_pure_inv h3).1, (ParseResult.ok.inj hp).1]⟩
  | panic w => rw [hr] at hp; cases hp
  | fuel => rw [hr] at hp; cases hp

theorem reach_wordValueAt (isPrint : Int → Bool) (B : Bytes) (n : Nat) (stem : Bytes) (q : Int)
    (hreach : ∀ (tree : Node) (s1 : St),
      parseNT (defaultFuel B) .chunk { isPrint := isPrint, src := B } { pos := 0, overEOF := 0, errors := [] } =
        .ok tree s1 →
      Reaches n ⟨(QuoteAs isPrint stem q).1, (QuoteAs isPrint stem q).2, stem⟩ tree) :
    wordValueAt isPrint B n = some (stem, n + (QuoteAs isPrint stem q).1.length) := by
  obtain ⟨tree, errs, hp, _⟩ := C01_total_lossless isPrint B
  have hwf : WF B tree := by
    have hgood := parseAsFuel_good isPrint (defaultFuel B) .chunk B (fun l => by simp)
    unfold parse parseAs at hp
    rw [hp] at hgood
    exact hgood.1
  obtain ⟨s1, h1⟩ := parse_run hp
  obtain ⟨ctx, hsp⟩ := hreach tree s1 h1
  have hWt : n < (wordNode ctx n (QuoteAs isPrint stem q).1 (QuoteAs isPrint stem q).2 stem).to := by
    have : 0 < (QuoteAs isPrint stem q).1.length := List.length_pos_iff.mpr (quoteAs_ne_nil isPrint stem q)
    simp only [wordNode, Node.to]; omega
  have hs := (spine_search (W := wordNode ctx n (QuoteAs isPrint stem q).1 (QuoteAs isPrint stem q).2 stem) (n := n)
    rfl rfl hWt hsp hwf).1
  unfold wordValueAt
  rw [hp]
  simp only [hs, wordNode_value isPrint ctx _ _ _ stem (quoteAs_type isPrint stem q)]
  rfl

/-- outer nesting levels, then an innermost text `mid` up to the quoted word, given
what `(*Chunk).parse` does on `mid ++ word ++ tail` wherever that stands -/
theorem nest_gen_wordValueAt (isPrint : Int → Bool) (outer : List (Frame × Bool)) (hout : ∀ p ∈ outer, FrameOk p.1)
    (stem : Bytes) (q : Int) (mid tail : Bytes)
    (hmid : WordStart isPrint (peekOf (mid ++ ((QuoteAs isPrint stem q).1 ++ tail))))
    (hinner : ∀ (e : C01.Env), e.isPrint = isPrint → ∀ f,
      Reach e (f + 7) .chunk mid ((QuoteAs isPrint stem q).1 ++ tail)
        ⟨(QuoteAs isPrint stem q).1, (QuoteAs isPrint stem q).2, stem⟩) :
    wordValueAt isPrint (outerText isPrint outer ++ (mid ++ ((QuoteAs isPrint stem q).1 ++ tail)))
        ((outerText isPrint outer).length + mid.length) =
      some (stem, (outerText isPrint outer).length + mid.length + (QuoteAs isPrint stem q).1.length) := by
  generalize hB : outerText isPrint outer ++ (mid ++ ((QuoteAs isPrint stem q).1 ++ tail)) = B
  apply reach_wordValueAt
  intro tree s1 h1
  have hfuel : defaultFuel B = (7 * B.length + 1 - 6 * outer.length) + 6 * outer.length + 7 := by
    have := outerText_length isPrint outer
    have : B.length = (outerText isPrint outer).length + (mid ++ ((QuoteAs isPrint stem q).1 ++ tail)).length := by
      rw [← hB, List.length_append]
    unfold defaultFuel; omega
  rw [hfuel] at h1
  obtain ⟨e, hee⟩ : ∃ e : C01.Env, e = { isPrint := isPrint, src := B } := ⟨_, rfl⟩
  rw [← hee] at h1
  have he : e.isPrint = isPrint := by rw [hee]
  have hat0 : At e { pos := 0, overEOF := 0, errors := [] }
      ((outerText e.isPrint outer ++ mid) ++ ((QuoteAs isPrint stem q).1 ++ tail)) := by
    refine ⟨Nat.zero_le _, ?_⟩
    rw [he, hee, ← hB, List.append_assoc]
    rfl
  have := (nest_gen (e := e) _ mid _ (by rw [he]; exact hmid) (hinner e he) outer hout _ _ s1 tree hat0 h1).2
  simpa [he] using this

theorem nest_wordValueAt (isPrint : Int → Bool) (outer : List (Frame × Bool)) (hout : ∀ p ∈ outer, FrameOk p.1)
    (inner : Frame) (hin : FrameOk inner) (stem : Bytes) (q : Int) (tail : Bytes)
    (hstop : ∀ ctx, startsIndexing isPrint (peekOf tail) ctx = false) :
    wordValueAt isPrint (nestText isPrint outer inner ++ ((QuoteAs isPrint stem q).1 ++ tail))
        (nestText isPrint outer inner).length =
      some (stem, (nestText isPrint outer inner).length + (QuoteAs isPrint stem q).1.length) := by
  have h := nest_gen_wordValueAt isPrint outer hout stem q (frameText isPrint inner) tail
    (frameText_start isPrint inner hin _ (fun _ => quoteAs_peek isPrint stem q tail))
    (fun e he f => by subst he; exact inner_word stem q tail hstop inner hin f)
  simpa [nestText, outerText] using h

theorem nest_redir_wordValueAt (isPrint : Int → Bool) (outer : List (Frame × Bool)) (hout : ∀ p ∈ outer, FrameOk p.1)
    (inner : Frame) (hin : FrameOk inner) (hws : inner.2.2 ≠ []) (rs : List Nat) (hs : SignRunes rs) (sp : Bool)
    (stem : Bytes) (q : Int) (tail : Bytes) (hstop : ∀ ctx, startsIndexing isPrint (peekOf tail) ctx = false) :
    wordValueAt isPrint (nestText isPrint outer inner ++ (redirText rs sp ++ ((QuoteAs isPrint stem q).1 ++ tail)))
        ((nestText isPrint outer inner).length + (redirText rs sp).length) =
      some (stem, (nestText isPrint outer inner).length + (redirText rs sp).length +
        (QuoteAs isPrint stem q).1.length) := by
  have h := nest_gen_wordValueAt isPrint outer hout stem q (frameText isPrint inner ++ redirText rs sp) tail
    (by rw [List.append_assoc]; exact frameText_start isPrint inner hin _ (fun h => absurd h hws))
    (fun e he f => by subst he; exact inner_redir stem q tail hstop inner hin hws rs hs sp f)
  simpa [nestText, outerText, Nat.add_assoc] using h

end C43
