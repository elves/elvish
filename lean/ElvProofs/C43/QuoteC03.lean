/-
The quoting functions of `ElvModel/C43/Quote.lean` are the functions of the C03
model (`ElvModel/C03/Model.lean`).  C43's copy is written without outcomes
(structural `skip` counter instead of fuel, Boolean folds instead of the `range`
loop with early return); C03's has the Go partial operations explicit
(`QRes.ok | panic | fuel`).  Every function equals its C03 counterpart returning `.ok`.
-/
import ElvModel.C43.Quote
import ElvModel.C03.Model
import ElvProofs.Lemmas.Utf8
namespace C43
open Go C01
open Gen.C01Chars

theorem hexLower_eq (d : Nat) : hexLower d = C03.hexDigitByte d := by
  unfold hexLower C03.hexDigitByte
  split
  · rfl
  · congr 1; omega

theorem rtohex_eq : ∀ (w r : Nat), rtohex r w = C03.rtohex r w
  | 0, _ => rfl
  | w + 1, r => by
    simp only [rtohex, C03.rtohex, rtohex_eq w, hexLower_eq]

theorem doubleUnescape_eq : doubleUnescape = C03.doubleUnescape := by decide

theorem dqPiece_eq (isPrint : Int → Bool) (r w : Nat) (b0 : UInt8) :
    dqPiece isPrint r w b0 = C03.dqPiece isPrint b0 r w := by
  unfold dqPiece C03.dqPiece
  simp only [rtohex_eq, doubleUnescape_eq]
  rfl

theorem quoteSingle_eq (s : Bytes) : quoteSingle s = C03.quoteSingle s := by
  unfold quoteSingle quoteSingleBody C03.quoteSingle toRunes
  rw [List.flatMap_map]
  rfl

/-! `quoteDoubleLoop` rune by rune: the `skip` counter steps over the rest of the current rune. -/

theorem qdl_skip (isPrint : Int → Bool) : ∀ (k : Nat) (t : Bytes),
    quoteDoubleLoop isPrint k t = quoteDoubleLoop isPrint 0 (t.drop k)
  | 0, t => by simp
  | k + 1, [] => by simp [quoteDoubleLoop]
  | k + 1, _ :: t => by
    simp only [quoteDoubleLoop, List.drop_succ_cons]
    exact qdl_skip isPrint k t

theorem qdl_step (isPrint : Int → Bool) (b : UInt8) (t : Bytes) :
    quoteDoubleLoop isPrint 0 (b :: t) =
      dqPiece isPrint (decodeRune (b :: t)).1 (decodeRune (b :: t)).2 b ++
        quoteDoubleLoop isPrint 0 ((b :: t).drop (decodeRune (b :: t)).2) := by
  simp only [quoteDoubleLoop]
  rw [qdl_skip]
  have hpos := Go.decodeRune_size_pos (s := b :: t) (by simp)
  generalize (decodeRune (b :: t)).2 = w at *
  cases w with
  | zero => omega
  | succ w => simp

theorem quoteDoubleLoop_eq (isPrint : Int → Bool) :
    ∀ (fuel : Nat) (s buf : Bytes), s.length ≤ fuel →
      C03.quoteDoubleLoop isPrint fuel s buf = .ok (buf ++ quoteDoubleLoop isPrint 0 s)
  | _, [], buf, _ => by cases ‹Nat› <;> simp [C03.quoteDoubleLoop, quoteDoubleLoop]
  | 0, _ :: _, _, h => by simp at h
  | fuel + 1, b0 :: t, buf, h => by
    have hle := Go.decodeRune_size_le (b0 :: t)
    have hpos := Go.decodeRune_size_pos (s := b0 :: t) (by simp)
    have hlen : ((b0 :: t).drop (decodeRune (b0 :: t)).2).length ≤ fuel := by
      rw [List.length_drop]; simp only [List.length_cons] at h ⊢; omega
    unfold C03.quoteDoubleLoop
    simp only [hle, if_true]
    rw [quoteDoubleLoop_eq isPrint fuel _ _ hlen, qdl_step, dqPiece_eq, List.append_assoc]

theorem quoteDouble_eq (isPrint : Int → Bool) (s : Bytes) :
    C03.quoteDouble isPrint s = .ok (quoteDouble isPrint s) := by
  unfold C03.quoteDouble quoteDouble
  rw [quoteDoubleLoop_eq isPrint (s.length + 1) s [34] (by omega)]
  simp [C03.QRes.map]

theorem scanLoop_eq (isPrint allowed : Int → Bool) :
    ∀ (l : List (Nat × Rune × Nat)) (b : Bool),
      C03.scanLoop isPrint allowed l b =
        if (l.any fun x => x.2.1 == RuneError || !isPrint (x.2.1 : Int)) then none
        else some (b && l.all fun x => allowed (x.2.1 : Int))
  | [], b => by simp [C03.scanLoop]
  | x :: l, b => by
    unfold C03.scanLoop
    by_cases hx : (x.2.1 == RuneError || !isPrint (x.2.1 : Int)) = true
    · simp [hx]
    · have hx' : (x.2.1 == RuneError || !isPrint (x.2.1 : Int)) = false := by simpa using hx
      simp only [hx', Bool.false_eq_true, if_false, List.any_cons, Bool.false_or, List.all_cons]
      rw [scanLoop_eq isPrint allowed l]
      split
      · rfl
      · cases allowed (x.2.1 : Int) <;> cases b <;> simp

theorem needsDouble_runes (isPrint : Int → Bool) (s : Bytes) :
    needsDouble isPrint s = (runes s).any fun x => x.2.1 == RuneError || !isPrint (x.2.1 : Int) := by
  unfold needsDouble toRunes
  rw [List.any_map]
  rfl

theorem isBare_runes (isPrint : Int → Bool) (b0 : UInt8) (t : Bytes) (ctx : Int) :
    isBare isPrint (b0 :: t) ctx =
      ((b0 != 126) && (runes (b0 :: t)).all fun x => allowedInBareword isPrint (x.2.1 : Int) ctx) := by
  unfold isBare toRunes
  rw [List.all_map]
  have : ((b0 :: t).head? != some 126) = (b0 != 126) := by
    simp only [List.head?_cons]
    cases h : b0 == 126 <;> simp_all [bne]
  rw [this]
  rfl

theorem quoteAs_eq (isPrint : Int → Bool) (s : Bytes) (q ctx : Int) :
    C03.quoteAs isPrint s q ctx = .ok (quoteAs isPrint s q ctx) := by
  unfold C03.quoteAs quoteAs
  by_cases hq : (q == DoubleQuoted) = true
  · simp only [hq, if_true, quoteDouble_eq, C03.QRes.map]
  · simp only [hq, Bool.false_eq_true, if_false]
    cases s with
    | nil => simp
    | cons b0 t =>
      simp only [List.isEmpty_cons, Bool.false_eq_true, if_false]
      rw [scanLoop_eq, ← needsDouble_runes]
      by_cases hnd : needsDouble isPrint (b0 :: t) = true
      · simp only [hnd, if_true, quoteDouble_eq, C03.QRes.map]
      · simp only [hnd, Bool.false_eq_true, if_false]
        rw [← isBare_runes, quoteSingle_eq]
        split <;> rfl

theorem QuoteAs_eq (isPrint : Int → Bool) (s : Bytes) (q : Int) :
    C03.QuoteAs isPrint s q = .ok (QuoteAs isPrint s q) :=
  quoteAs_eq isPrint s q strictExpr

end C43
