/-
Nesting: the command being completed may sit inside output captures and lambdas, `if $c { echo (cat (ls fo`,
each level a script of simple commands followed by `(` or `{ `.  The target of a command is a compound from which
a spine leads to the word (`Reaches`); the chain `Compound ∋ Indexing ∋ Primary ∋ Chunk` behind an opener supplies
it.  `(*Primary).lbrace` sees a blank after `{`, so it is a lambda, not a braced list.
-/
import ElvProofs.C43.Reach
namespace C43
open Go C01
open Gen.C01Chars

structure Word where
  text : Bytes
  ty : Int
  val : Bytes

/-- a spine leads from `X` to the word `W` standing at `n` -/
def Reaches (n : Nat) (W : Word) (X : Node) : Prop := ∃ ctx, Spine n (wordNode ctx n W.text W.ty W.val) X

theorem Reaches.down {n : Nat} {W : Word} {X c : Node} (hm : c ∈ X.children) (hf : c.frm ≤ n)
    (hk : X.kind ≠ .compound ∨ X.frm ≠ n) (h : Reaches n W c) : Reaches n W X := by
  obtain ⟨ctx, hs⟩ := h
  exact ⟨ctx, .down hm hf hk hs⟩

/-- wherever `C ++ R` stands in the source: a run of `parse[nt]` in front of it that returns, returns a node
that starts there and from which a spine leads to the word `W` standing where `R` begins -/
def Reach (e : C01.Env) (fuel : Nat) (nt : NT) (C R : Bytes) (W : Word) : Prop :=
  ∀ (s s' : St) (node : Node), At e s (C ++ R) → parseNT fuel nt e s = .ok node s' →
    node.frm = s.pos ∧ Reaches (s.pos + C.length) W node

/-- one level down.  A compound that starts where the word does would end the search for the word; every other
node on the way is no compound or starts before the word. -/
theorem Reach.down {e : C01.Env} {f f' : Nat} {nt nt' : NT} {C₁ C₂ R : Bytes} {W : Word}
    (hd : Down e f nt C₁ f' nt' (C₂ ++ R)) (hk : nt.kind ≠ .compound ∨ C₁ ++ C₂ ≠ [])
    (h : Reach e f' nt' C₂ R W) : Reach e f nt (C₁ ++ C₂) R W := by
  intro s s' node hat hrun
  rw [List.append_assoc] at hat
  obtain ⟨hk1, hf1, c, s₁, sc, hcm, hat₁, hc⟩ := hd s s' node hat hrun
  obtain ⟨hf2, hr⟩ := h s₁ sc c hat₁ hc
  have hpos : s₁.pos = s.pos + C₁.length := by
    have h1 := hat.len
    have h2 := hat₁.len
    rw [List.length_append] at h1
    omega
  rw [hpos, Nat.add_assoc, ← List.length_append] at hr
  refine ⟨hf1, hr.down hcm (by rw [hf2, hpos, List.length_append]; omega) ?_⟩
  rcases hk with hk | hk
  · exact Or.inl (by rw [hk1]; exact hk)
  · have := List.length_pos_iff.mpr hk
    exact Or.inr (by rw [hf1]; omega)

theorem indexing_head {e : C01.Env} (f : Nat) (ctx : Int) (T : Bytes) :
    Down e (f + 1) (.indexing ctx) [] f (.primary ctx) T := by
  intro s s' inn hat h
  rw [parseNT_succ] at h
  obtain ⟨nb, text, hb, rfl⟩ := wrap_ok' h
  simp only [body, NT.init] at hb
  unfold indexingBody at hb
  obtain ⟨pn, sp, hpn, hb⟩ := C02.bind_ok.1 hb
  obtain ⟨k, s2, _, hb⟩ := C02.bind_ok.1 hb
  have hall : Ext (NB.add _ pn) nb := (indexingLoop_ext _ _ _).ext hb
  exact ⟨rfl, hall.1, pn, s, sp, hall.mem_of_add, hat, hpn⟩

/-- the head of a command is a child of its `Form` -/
theorem form_head {e : C01.Env} (f : Nat) (T : Bytes) : Down e (f + 1) .form [] f (.compound CmdExpr) T := by
  intro s sR F hat h
  rw [parseNT_succ] at h
  obtain ⟨nb, text, hb, rfl⟩ := wrap_ok' h
  simp only [body] at hb
  have hfrm := (formBody_ext.ext hb).1
  unfold formBody at hb
  obtain ⟨hd, s1, hhd, hb⟩ := C02.bind_ok.1 hb
  obtain ⟨nb1, s2, h2, hb⟩ := C02.bind_ok.1 hb
  obtain ⟨k, s3, _, hb⟩ := C02.bind_ok.1 hb
  exact ⟨rfl, hfrm, hd, s, s1, ((parseSpaces_ext.ext h2).trans ((formLoop_ext _ _ _).ext hb)).mem_of_add, hat, hhd⟩

/-- one iteration of `formLoop` at the target: the compound becomes a child, by
itself or as the left operand of a redirection -/
theorem formLoop_target {e : C01.Env} (f : Nat) (W : Word) (C R : Bytes)
    (hT : WordStart e.isPrint (peekOf (C ++ R)))
    (hreach : ∀ ctx, Reach e (f + 3) (.compound ctx) C R W)
    (M : Nat) (nb nbR : NB) (s sR : St) (hat : At e s (C ++ R))
    (h : formLoop (fun nt' => parseNT (f + 3) nt') (M + 1) nb e s = .ok nbR sR) :
    ∃ c, c ∈ nbR.children ∧ c.frm = s.pos ∧ Reaches (s.pos + C.length) W c := by
  unfold formLoop at h
  rw [bind_of_eq (getEnv_eq e s), bind_of_eq (peek_at hat)] at h
  simp only [hT.facts.n38, hT.facts.compound NormalExpr, Bool.false_eq_true, if_false, if_true] at h
  obtain ⟨cn, s1, hcn, h⟩ := C02.bind_ok.1 h
  obtain ⟨hcf, hcr⟩ := hreach NormalExpr s s1 cn hat hcn
  obtain ⟨r, s2, _, h⟩ := C02.bind_ok.1 h
  split at h
  · obtain ⟨rd, s3, hrd, h⟩ := C02.bind_ok.1 h
    obtain ⟨hrk, hrf, hrm⟩ := redir_left (f := f + 2) hrd
    obtain ⟨nb1, s4, h4, h⟩ := C02.bind_ok.1 h
    refine ⟨rd, ((parseSpaces_ext.ext h4).trans ((formLoop_ext _ _ _).ext h)).mem_of_add, hrf.trans hcf, ?_⟩
    exact hcr.down hrm (by rw [hcf]; omega) (Or.inl (by rw [hrk]; decide))
  · obtain ⟨nb1, s4, h4, h⟩ := C02.bind_ok.1 h
    exact ⟨cn, ((parseSpaces_ext.ext h4).trans ((formLoop_ext _ _ _).ext h)).mem_of_add, hcf, hcr⟩

theorem form_args {e : C01.Env} (f : Nat) (W : Word) (C R : Bytes) (hX : NextStart (peekOf (C ++ R)))
    (hloop : ∀ (M : Nat) (nb nbR : NB) (s sR : St), At e s (C ++ R) →
      formLoop (fun nt' => parseNT (f + 3) nt') (M + 1) nb e s = .ok nbR sR →
      ∃ c, c ∈ nbR.children ∧ c.frm = s.pos ∧ Reaches (s.pos + C.length) W c)
    (w : Bytes × Int) (ws : List (Bytes × Int)) :
    Reach e (f + 4) .form (lineText e.isPrint (w :: ws) ++ C) R W := by
  intro s sR F hat h
  rw [List.append_assoc] at hat
  refine ⟨form_frm h, ?_⟩
  rw [parseNT_succ] at h
  obtain ⟨nbR, text, hb, rfl⟩ := wrap_ok' h
  simp only [body] at hb
  obtain ⟨nb', M, _, h'⟩ := formBody_walk f _ hX w ws _ nbR s sR hat hb
  obtain ⟨c, hm, hf, hr⟩ := hloop M nb' nbR _ sR hat.adv h'
  simp only [adv, Nat.add_assoc, ← List.length_append] at hf hr
  exact hr.down (X := Node.mk NT.form.kind nbR.frm sR.pos text nbR.f nbR.children) hm
    (by rw [hf, List.length_append]; omega) (Or.inl (by simp [Node.kind, NT.kind]))

theorem form_reach {e : C01.Env} (f : Nat) (W : Word) (C R : Bytes)
    (hT : WordStart e.isPrint (peekOf (C ++ R)))
    (hreach : ∀ ctx, Reach e (f + 3) (.compound ctx) C R W) (ws : List (Bytes × Int)) :
    Reach e (f + 4) .form (lineText e.isPrint ws ++ C) R W := by
  cases ws with
  | cons w ws => exact form_args f W C R hT.next (formLoop_target f W C R hT hreach) w ws
  | nil => exact Reach.down (C₁ := []) (form_head (f + 3) (C ++ R)) (Or.inl (by decide)) (hreach CmdExpr)

theorem creach_word {e : C01.Env} (f : Nat) (stem : Bytes) (q : Int) (tail : Bytes)
    (hstop : ∀ ctx, startsIndexing e.isPrint (peekOf tail) ctx = false) (ctx : Int) :
    Reach e (f + 3) (.compound ctx) [] ((QuoteAs e.isPrint stem q).1 ++ tail)
      ⟨(QuoteAs e.isPrint stem q).1, (QuoteAs e.isPrint stem q).2, stem⟩ := by
  intro s s' node hat h
  rw [quoteAs_word_at stem q ctx tail f (hstop ctx) hat] at h
  rw [← (Out.ok.inj h).1]
  exact ⟨rfl, ctx, .here⟩

theorem compound_first {e : C01.Env} (f : Nat) (ctx : Int) (T : Bytes)
    (hsi : startsIndexing e.isPrint (peekOf T) ctx = true) (h126 : peekOf T ≠ 126) :
    Down e (f + 1) (.compound ctx) [] f (.indexing ctx) T := by
  intro s s' cn hat h
  have hat : At e s T := hat
  rw [parseNT_succ] at h
  obtain ⟨nb, text, hb, rfl⟩ := wrap_ok' h
  simp only [body, NT.init] at hb
  unfold compoundBody at hb
  rw [bind_of_eq (tilde_no _ hat h126), bind_of_eq (loopFuel_eq e s)] at hb
  unfold compoundLoop at hb
  rw [bind_of_eq (getEnv_eq e s), bind_of_eq (peek_at hat)] at hb
  simp only [hsi, if_true] at hb
  obtain ⟨inn, si, hinn, hb⟩ := C02.bind_ok.1 hb
  have hall := (compoundLoop_ext _ _ _ _).ext hb
  exact ⟨rfl, hall.1, inn, s, si, hall.mem_of_add, hat, hinn⟩

/-! `(*Primary).parse` dispatches on the rune it peeks at; `(` and `{` start a primary and are
not bareword runes, in every context (`'`, `"` and `$`: `C03.primaryBody_of_squote` …). -/
theorem primaryBody_lparen {rec : NT → M Node} {nb : NB} {e : C01.Env} {s : St} {t : Bytes} (hat : At e s t)
    (hr : peekOf t = 40) : primaryBody rec nb e s = outputCapture rec nb e s := by
  unfold primaryBody
  rw [bind_of_eq (getEnv_eq e s), bind_of_eq (peek_at hat), hr]
  simp [startsPrimary, allowedInBareword, allowedInVariableName]

theorem primaryBody_lbrace {rec : NT → M Node} {nb : NB} {e : C01.Env} {s : St} {t : Bytes} (hat : At e s t)
    (hr : peekOf t = 123) : primaryBody rec nb e s = lbrace rec nb e s := by
  unfold primaryBody
  rw [bind_of_eq (getEnv_eq e s), bind_of_eq (peek_at hat), hr]
  simp [startsPrimary, allowedInBareword, allowedInVariableName]

theorem primary_paren {e : C01.Env} (f : Nat) (ctx : Int) (S : Bytes) :
    Down e (f + 1) (.primary ctx) [40] f .chunk S := by
  intro s s' pn hat h
  have hat : At e s (40 :: S) := hat
  rw [parseNT_succ] at h
  obtain ⟨nb, text, hb, rfl⟩ := wrap_ok' h
  simp only [body, NT.init] at hb
  rw [primaryBody_lparen hat (peekOf_byte 40 40 _)] at hb
  unfold outputCapture at hb
  obtain ⟨x, s1, hx, hb⟩ := C02.bind_ok.1 hb
  obtain ⟨_, hs1, hext1⟩ := parseSep_yes 40 40 hat hx
  subst hs1
  obtain ⟨ok1, nb1⟩ := x
  simp only at hb hext1
  obtain ⟨c, sc, hc, hb⟩ := C02.bind_ok.1 hb
  obtain ⟨y, s2, hy, hb⟩ := C02.bind_ok.1 hb
  have hall : Ext (nb1.add c) y.2 := parseSep_ext.ext hy
  obtain ⟨ok2, nb2⟩ := y
  simp only at hb hall
  have hfin : nb = nb2 := by
    split at hb
    · obtain ⟨_, s3, _, hb⟩ := C02.bind_ok.1 hb
      exact (ok_pure_inv hb).1.symm
    · exact (ok_pure_inv hb).1.symm
  subst hfin
  exact ⟨rfl, hall.1.trans hext1.1, c, _, sc, hall.mem_of_add, hat.adv1, hc⟩

theorem primary_brace {e : C01.Env} (f : Nat) (ctx : Int) (S : Bytes) (hS : WordStart e.isPrint (peekOf S)) :
    Down e (f + 1) (.primary ctx) [123, 32] f .chunk S := by
  intro s s' pn hat h
  have hat : At e s (123 :: 32 :: S) := hat
  rw [parseNT_succ] at h
  obtain ⟨nb, text, hb, rfl⟩ := wrap_ok' h
  simp only [body, NT.init] at hb
  rw [primaryBody_lbrace hat (peekOf_byte 123 123 _)] at hb
  unfold lbrace at hb
  obtain ⟨x, s1, hx, hb⟩ := C02.bind_ok.1 hb
  obtain ⟨_, hs1, hext1⟩ := parseSep_yes 123 123 hat hx
  obtain ⟨ok1, nb1⟩ := x
  simp only at hb hext1
  rw [hs1, bind_of_eq (peek_at hat.adv1), peekOf_space] at hb
  simp only [show ((32 : Int) == 59 || (32 : Int) == 13 || (32 : Int) == 10 || (32 : Int) == 124 ||
      IsInlineWhitespace 32) = true by decide, if_true] at hb
  unfold lambda at hb
  obtain ⟨nb2, s2, h2, hb⟩ := C02.bind_ok.1 hb
  obtain ⟨hs2, hext2⟩ := parseSpacesInner_one true hat.adv1 hS.next (fun _ => hS.facts.nws) h2
  rw [hs2, bind_of_eq (parseSep_no _ 124 hat.adv1.adv1 hS.facts.npipe)] at hb
  simp only [Bool.false_eq_true, if_false] at hb
  rw [bind_of_eq (pure_apply _ e _)] at hb
  obtain ⟨c, sc, hc, hb⟩ := C02.bind_ok.1 hb
  obtain ⟨y, s3, hy, hb⟩ := C02.bind_ok.1 hb
  have hall : Ext (nb2.add c) y.2 := parseSep_ext.ext hy
  obtain ⟨ok2, nb3⟩ := y
  simp only at hb hall
  have hfin : nb = nb3 := by
    split at hb
    · obtain ⟨_, s4, _, hb⟩ := C02.bind_ok.1 hb
      exact (ok_pure_inv hb).1.symm
    · exact (ok_pure_inv hb).1.symm
  subst hfin
  exact ⟨rfl, hall.1.trans (hext2.1.1.trans hext1.1), c, _, sc, hall.mem_of_add, hat.adv1.adv1, hc⟩

theorem opener_peek (lam : Bool) (S : Bytes) : peekOf (opener lam ++ S) = 40 ∨ peekOf (opener lam ++ S) = 123 := by
  cases lam
  · exact Or.inl (peekOf_byte 40 40 S)
  · exact Or.inr (peekOf_byte 123 123 (32 :: S))

theorem opener_start (isPrint : Int → Bool) (lam : Bool) (S : Bytes) : WordStart isPrint (peekOf (opener lam ++ S)) := by
  rcases opener_peek lam S with h | h <;> rw [h]
  · exact Or.inr (Or.inr (Or.inr (Or.inl rfl)))
  · exact Or.inr (Or.inr (Or.inr (Or.inr rfl)))

theorem primary_opener {e : C01.Env} (f : Nat) (ctx : Int) (lam : Bool) (S : Bytes)
    (hS : WordStart e.isPrint (peekOf S)) : Down e (f + 1) (.primary ctx) (opener lam) f .chunk S := by
  cases lam
  · exact primary_paren f ctx S
  · exact primary_brace f ctx S hS

/-- `Compound ∋ Indexing ∋ Primary ∋ Chunk` behind an opener -/
theorem creach_opener {e : C01.Env} (f : Nat) (W : Word) (lam : Bool) (C R : Bytes)
    (hS : WordStart e.isPrint (peekOf (C ++ R))) (hchunk : Reach e f .chunk C R W) (ctx : Int) :
    Reach e (f + 3) (.compound ctx) (opener lam ++ C) R W := by
  have hop : WordStart e.isPrint (peekOf ((opener lam ++ C) ++ R)) := by
    rw [List.append_assoc]; exact opener_start e.isPrint lam (C ++ R)
  have h126 : peekOf ((opener lam ++ C) ++ R) ≠ 126 := by
    rw [List.append_assoc]; rcases opener_peek lam (C ++ R) with h | h <;> rw [h] <;> decide
  have hne : opener lam ++ C ≠ [] := by cases lam <;> simp [opener]
  exact Reach.down (C₁ := []) (compound_first (f + 2) ctx _ (hop.facts.compound ctx) h126) (Or.inr hne)
    (Reach.down (C₁ := []) (indexing_head (f + 1) ctx _) (Or.inl (by simp [NT.kind]))
      (Reach.down (primary_opener f ctx lam _ hS) (Or.inl (by simp [NT.kind])) hchunk))

theorem frameText_start (isPrint : Int → Bool) (fr : Frame) (hok : FrameOk fr) (T : Bytes)
    (h : fr.2.2 = [] → WordStart isPrint (peekOf T)) :
    WordStart isPrint (peekOf (frameText isPrint fr ++ T)) := by
  obtain ⟨ps, fs, ws⟩ := fr
  simp only [frameText, List.append_assoc]
  exact chunkText_start isPrint ps hok.1 _ (pipeText_start isPrint fs hok.2 _ (lineText_start isPrint ws T h))

/-- one nesting level: a script of simple commands whose current command reaches the word -/
theorem frame_gen {e : C01.Env} (f : Nat) (W : Word) (fr : Frame) (hok : FrameOk fr) (C R : Bytes)
    (hstart : fr.2.2 = [] → WordStart e.isPrint (peekOf (C ++ R)))
    (hform : Reach e (f + 4) .form (lineText e.isPrint fr.2.2 ++ C) R W) :
    Reach e (f + 6) .chunk (frameText e.isPrint fr ++ C) R W := by
  obtain ⟨ps, fs, ws⟩ := fr
  have hwl : WordStart e.isPrint (peekOf ((lineText e.isPrint ws ++ C) ++ R)) := by
    rw [List.append_assoc]; exact lineText_start e.isPrint ws (C ++ R) hstart
  have hpl : WordStart e.isPrint (peekOf ((pipeText e.isPrint fs ++ (lineText e.isPrint ws ++ C)) ++ R)) := by
    rw [List.append_assoc]; exact pipeText_start e.isPrint fs hok.2 _ hwl
  have h := Reach.down (chunk_target f ps hok.1 _ hpl) (Or.inl (by decide))
    (Reach.down (pipeline_target f fs hok.2 _ hwl) (Or.inl (by decide)) hform)
  simpa only [frameText, List.append_assoc] using h

def outerText (isPrint : Int → Bool) (outer : List (Frame × Bool)) : Bytes :=
  outer.flatMap fun p => frameText isPrint p.1 ++ opener p.2

theorem outerText_cons (isPrint : Int → Bool) (p : Frame × Bool) (outer : List (Frame × Bool)) (X : Bytes) :
    outerText isPrint (p :: outer) ++ X = frameText isPrint p.1 ++ (opener p.2 ++ (outerText isPrint outer ++ X)) := by
  simp [outerText]

theorem outerText_length (isPrint : Int → Bool) : ∀ outer : List (Frame × Bool),
    outer.length ≤ (outerText isPrint outer).length
  | [] => Nat.zero_le _
  | p :: outer => by
    have := outerText_length isPrint outer
    have : 0 < (opener p.2).length := by cases p.2 <;> decide
    simp only [outerText, List.flatMap_cons, List.length_cons, List.length_append] at *
    omega

theorem outerText_start (isPrint : Int → Bool) (outer : List (Frame × Bool)) (hok : ∀ p ∈ outer, FrameOk p.1)
    (X : Bytes) (hX : WordStart isPrint (peekOf X)) : WordStart isPrint (peekOf (outerText isPrint outer ++ X)) := by
  cases outer with
  | nil => simpa [outerText] using hX
  | cons p outer =>
    rw [outerText_cons]
    exact frameText_start isPrint p.1 (hok p List.mem_cons_self) _ (fun _ => opener_start isPrint p.2 _)

/-- any depth, given what `(*Chunk).parse` does on the innermost level; each
opener takes 6 of the 7 levels of nesting fuel the parser has per byte -/
theorem nest_gen {e : C01.Env} (W : Word) (X R : Bytes) (hXs : WordStart e.isPrint (peekOf (X ++ R)))
    (hinner : ∀ f, Reach e (f + 7) .chunk X R W) :
    ∀ (outer : List (Frame × Bool)), (∀ p ∈ outer, FrameOk p.1) → ∀ f,
      Reach e (f + 6 * outer.length + 7) .chunk (outerText e.isPrint outer ++ X) R W
  | [], _, f => by simpa [outerText] using hinner f
  | p :: outer, hok, f => by
    have hok' : ∀ p' ∈ outer, FrameOk p'.1 := fun p' h' => hok p' (List.mem_cons_of_mem _ h')
    have hS : WordStart e.isPrint (peekOf ((outerText e.isPrint outer ++ X) ++ R)) := by
      rw [List.append_assoc]; exact outerText_start e.isPrint outer hok' _ hXs
    have hop : WordStart e.isPrint (peekOf ((opener p.2 ++ (outerText e.isPrint outer ++ X)) ++ R)) := by
      rw [List.append_assoc]; exact opener_start e.isPrint p.2 _
    rw [outerText_cons, show f + 6 * (p :: outer).length + 7 = (f + 6 * outer.length + 7) + 6 by
      simp only [List.length_cons]; omega]
    exact frame_gen _ W p.1 (hok p List.mem_cons_self) _ R (fun _ => hop)
      (form_reach _ W _ R hop (creach_opener _ W p.2 _ R hS (nest_gen W X R hXs hinner outer hok' f)) p.1.2.2)

end C43
