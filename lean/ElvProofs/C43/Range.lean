/-
The replaced range of every completion context comes from a node of the path
`np.find` returns (the leaf's end, a compound, or the tail of a variable written
bare), and every node of the path is a node of the tree.
-/
import ElvProofs.C01
import ElvProofs.C43.Basic
namespace C43
open Go C01
open Gen.C01Chars

/-- the test of the `descend:` loop of `np.find` on a child -/
def Enters (p : Int) (pl : Bool) (c : Node) : Prop :=
  ((c.frm : Int) ≤ p ∧ p < (c.to : Int)) ∨ (pl = true ∧ p = (c.to : Int))

/-- what `np.find` returns at `n` (child number `i`): a leaf, or the path of a child the loop entered, then `n` -/
inductive Found (p : Int) (pl : Bool) : Nat → Node → Path → Prop
  | leaf {n : Node} {i : Nat} : n.children = [] → Found p pl i n [(n, i)]
  | step {n c : Node} {i j : Nat} {path : Path} : c ∈ n.children → Enters p pl c → Found p pl j c path →
      Found p pl i n (path ++ [(n, i)])

mutual
theorem findN_found (p : Int) (pl : Bool) : ∀ (n : Node) (i : Nat) (path : Path),
    findN p pl i n = some path → Found p pl i n path
  | .mk k a b t f cs, i, path => by
    intro h
    cases cs with
    | nil =>
      simp only [findN, Option.some.injEq] at h
      subst h
      exact .leaf rfl
    | cons c cs' =>
      simp only [findN] at h
      cases hl : findL p pl 0 (c :: cs') with
      | none => rw [hl] at h; cases h
      | some pth =>
        rw [hl] at h
        simp only [Option.some.injEq] at h
        subst h
        obtain ⟨c', j, hc', he, hf⟩ := findL_found p pl (c :: cs') 0 pth hl
        exact .step hc' he hf
theorem findL_found (p : Int) (pl : Bool) : ∀ (cs : List Node) (i : Nat) (path : Path),
    findL p pl i cs = some path → ∃ c j, c ∈ cs ∧ Enters p pl c ∧ Found p pl j c path
  | [], _, _ => by intro h; simp [findL] at h
  | c :: rest, i, path => by
    intro h
    simp only [findL] at h
    split at h
    · rename_i hc
      refine ⟨c, i, List.mem_cons_self, ?_, findN_found p pl c i path h⟩
      simpa [Enters] using hc
    · obtain ⟨c', j, hc', hd⟩ := findL_found p pl rest (i + 1) path h
      exact ⟨c', j, List.mem_cons_of_mem _ hc', hd⟩
end

/-- the path consists of nodes of the tree, ends with the node searched, every node before that was entered, and the
first is a leaf -/
theorem Found.facts {p : Int} {pl : Bool} {i : Nat} {n : Node} {path : Path} (h : Found p pl i n path) :
    (∀ x ∈ path, C01_Desc n x.1) ∧
    ∃ pre, path = pre ++ [(n, i)] ∧ (∀ x ∈ pre, Enters p pl x.1) ∧
      ∃ leaf, path.head? = some leaf ∧ leaf.1.children = [] := by
  induction h with
  | leaf hl => exact ⟨fun x hx => by rw [List.mem_singleton.mp hx]; exact .self _, [], rfl, by simp, _, rfl, hl⟩
  | @step n c i j path hc he _ ih =>
    obtain ⟨hd, pre, hp, hall, leaf, hhead, hleaf⟩ := ih
    refine ⟨fun x hx => ?_, path, rfl, fun x hx => ?_, leaf, ?_, hleaf⟩
    · rcases List.mem_append.mp hx with hx | hx
      · exact .child hc (hd x hx)
      · rw [List.mem_singleton.mp hx]; exact .self _
    · rw [hp] at hx
      rcases List.mem_append.mp hx with hx | hx
      · exact hall x hx
      · rw [List.mem_singleton.mp hx]; exact he
    · rw [hp] at hhead ⊢
      cases pre <;> simpa using hhead

theorem findN_desc (p : Int) (pl : Bool) (n : Node) (i : Nat) (path : Path)
    (h : findN p pl i n = some path) : ∀ x ∈ path, C01_Desc n x.1 :=
  (findN_found p pl n i path h).facts.1

theorem findL_desc (p : Int) (pl : Bool) : ∀ (cs : List Node) (i : Nat) (path : Path),
    findL p pl i cs = some path → ∀ x ∈ path, ∃ c ∈ cs, C01_Desc c x.1 := by
  intro cs i path h x hx
  obtain ⟨c, j, hc, _, hf⟩ := findL_found p pl cs i path h
  exact ⟨c, hc, hf.facts.1 x hx⟩

/-- `np.find` went into this node at position `p`. -/
def Holds (p : Int) (n : Node) : Prop := ((n.frm : Int) ≤ p ∧ p < (n.to : Int)) ∨ p = (n.to : Int)

theorem findN_dropLast_holds {p : Int} {pl : Bool} {n : Node} {i : Nat} {path : Path}
    (h : findN p pl i n = some path) : ∀ x ∈ path.dropLast, Holds p x.1 := by
  obtain ⟨_, pre, hp, hpre, _⟩ := (findN_found p pl n i path h).facts
  rw [hp, List.dropLast_concat]
  exact fun x hx => (hpre x hx).imp_right And.right

theorem matchKind_inv {k : Kind} {p : Path} {n : Node} {rest : Path}
    (h : matchKind k p = some (n, rest)) : ∃ i, p = (n, i) :: rest ∧ n.kind = k := by
  cases p with
  | nil => simp [matchKind] at h
  | cons x xs =>
    obtain ⟨m, i⟩ := x
    simp only [matchKind] at h
    split at h
    · rename_i hk
      simp only [Option.some.injEq, Prod.mk.injEq] at h
      exact ⟨i, by rw [h.1, h.2], by rw [← h.1]; simpa using hk⟩
    · cases h

theorem matchSimpleExpr_inv {env : Env} {p : Path} {d : SimpleExprData} {rest : Path}
    (h : matchSimpleExpr env p = .ok (some (d, rest))) :
    ∃ pn inn, p = pn :: inn :: (d.compound, d.cidx) :: rest ∧
      pn.1.kind = .primary ∧ inn.1.kind = .indexing ∧ d.compound.kind = .compound ∧
      purelyEvalPartialCompound env d.compound (inn.1.to : Int) = .ok (some d.value) := by
  match p, h with
  | (pn, i) :: (inn, j) :: (cn, ci) :: rest', h =>
    simp only [matchSimpleExpr] at h
    split at h
    · rename_i hk
      simp only [Bool.and_eq_true, beq_iff_eq] at hk
      cases he : purelyEvalPartialCompound env cn (inn.to : Int) with
      | ok r =>
        cases r with
        | none => simp [he] at h
        | some v =>
          simp only [he, Res.ok.injEq, Option.some.injEq, Prod.mk.injEq] at h
          obtain ⟨h1, h2⟩ := h
          subst h1
          exact ⟨(pn, i), (inn, j), by rw [h2], hk.1.1, hk.1.2, hk.2, he⟩
      | exc e => simp [he] at h
      | panic w => simp [he] at h
    · cases h
  | [], h => simp [matchSimpleExpr] at h
  | [_], h => simp [matchSimpleExpr] at h
  | [_, _], h => simp [matchSimpleExpr] at h

def CtxRange (fixed : Bool) (p : Path) (ctx : Ctx) : Prop :=
  (∃ x, p.head? = some x ∧ ctx.frm = x.1.to ∧ ctx.to = x.1.to ∧ ctx.seed = []) ∨
  (∃ x ∈ p.dropLast, x.1.kind = .compound ∧ ctx.frm = x.1.frm ∧ ctx.to = x.1.to) ∨
  (∃ x, p.head? = some x ∧ (fixed = true → x.1.text = 36 :: x.1.value) ∧
    ctx.frm = x.1.frm + 1 + (splitSigil x.1.value).1.length +
      (splitIncompleteQNameNs (splitSigil x.1.value).2).1.length ∧
    ctx.to = x.1.to ∧ ctx.seed = (splitIncompleteQNameNs (splitSigil x.1.value).2).2)

theorem sepBelow_some {k : Kind} {p : Path} {sep n : Node} (h : sepBelow k p = some (sep, n)) :
    ∃ i rest, p = (sep, i) :: rest := by
  unfold sepBelow at h
  split at h
  · rename_i sep' rest hm
    split at h
    · simp only [Option.some.injEq, Prod.mk.injEq] at h
      obtain ⟨i, hp, _⟩ := matchKind_inv hm
      exact ⟨i, rest, by rw [hp, h.1]⟩
    · cases h
  · cases h

theorem ctxRange_range0 {fixed : Bool} {leaf : Node} {i : Nat} {xs : Path} (name : String) :
    CtxRange fixed ((leaf, i) :: xs) (range0 name leaf.to) := by
  left
  exact ⟨(leaf, i), rfl, rfl, rfl, rfl⟩

theorem ctxRange_expr {fixed : Bool} {env : Env} {p : Path} {expr : SimpleExprData} {rest : Path}
    (name : String) (hm : matchSimpleExpr env p = .ok (some (expr, rest)))
    {k : Kind} (hr : (matchKind k rest).isSome = true) :
    CtxRange fixed p (exprCtx name expr) := by
  obtain ⟨a, b, hp, _, _, hk, _⟩ := matchSimpleExpr_inv hm
  right; left
  refine ⟨(expr.compound, expr.cidx), ?_, hk, rfl, rfl⟩
  rw [hp]
  cases rest with
  | nil => simp [matchKind] at hr
  | cons y ys => simp [List.dropLast]

def RangeOk (fixed : Bool) (p : Path) (m : Res Completion) : Prop :=
  ∀ ctx g, m = .ok (some (ctx, g)) → CtxRange fixed p ctx

theorem RangeOk.none {fixed : Bool} {p : Path} : RangeOk fixed p (pure none) := by
  intro ctx g h; cases h

theorem RangeOk.some {fixed : Bool} {p : Path} {ctx : Ctx} {g : Gen} (h : CtxRange fixed p ctx) :
    RangeOk fixed p (pure (some (ctx, g))) := by
  intro ctx' g' h'; cases h'; exact h

theorem RangeOk.bind {fixed : Bool} {p : Path} {α : Type} {m : Res α} {f : α → Res Completion}
    (h : ∀ a, m = .ok a → RangeOk fixed p (f a)) : RangeOk fixed p (m >>= f) := by
  intro ctx g hr
  cases m with
  | ok a => exact h a rfl ctx g hr
  | exc e => cases hr
  | panic w => cases hr

theorem RangeOk.of_eq {fixed : Bool} {p : Path} {m : Res Completion} {c : Completion} (hm : RangeOk fixed p m)
    (hc : m = .ok c) : RangeOk fixed p (pure c) := by
  intro ctx g h; cases h; exact hm ctx g hc

theorem completeRedir_range {fixed : Bool} {env : Env} {p : Path} : RangeOk fixed p (completeRedir env p) := by
  unfold completeRedir
  cases p with
  | nil => intro ctx g h; cases h
  | cons x xs =>
    obtain ⟨leaf, i⟩ := x
    simp only
    split
    · exact .some (ctxRange_range0 _)
    · refine .bind fun m hm => ?_
      split
      · split
        · rename_i hr; exact .some (ctxRange_expr _ hm hr)
        · exact .none
      · exact .none

theorem completeCommand_range {fixed : Bool} {env : Env} {p : Path} : RangeOk fixed p (completeCommandG fixed env p) := by
  unfold completeCommandG
  cases p with
  | nil => intro ctx g h; cases h
  | cons x xs =>
    obtain ⟨leaf, i⟩ := x
    simp only
    split
    · exact .some (ctxRange_range0 _)
    · refine .bind fun m hm => ?_
      split
      · split
        · rename_i hr; exact .some (ctxRange_expr _ hm (Bool.and_eq_true_iff.mp hr).1)
        · exact .none
      · exact .none

theorem completeIndex_range {fixed : Bool} {env : Env} {p : Path} : RangeOk fixed p (completeIndexG fixed env p) := by
  unfold completeIndexG
  cases p with
  | nil => intro ctx g h; cases h
  | cons x xs =>
    obtain ⟨leaf, i⟩ := x
    simp only
    have hnew : RangeOk fixed ((leaf, i) :: xs) (completeNewIndex fixed env ((leaf, i) :: xs) leaf.to) := by
      unfold completeNewIndex
      split
      · refine .bind fun v _ => ?_
        split
        · exact .some (ctxRange_range0 _)
        · exact .none
      · exact .none
    refine .bind fun r1 hr1 => ?_
    split
    · exact hnew.of_eq hr1
    · unfold completeOldIndex
      refine .bind fun m hm => ?_
      split
      · split
        · rename_i harr
          split
          · refine .bind fun v _ => ?_
            split
            · exact .some (ctxRange_expr _ hm (k := .array) (by rw [harr]; rfl))
            · exact .none
          · exact .none
        · exact .none
      · exact .none

theorem completeArg_range {fixed : Bool} {env : Env} {p : Path} : RangeOk fixed p (completeArg env p) := by
  unfold completeArg
  split
  · rename_i sep form hc
    refine .bind fun args _ => .bind fun g' _ => ?_
    unfold argCase1 at hc
    split at hc
    · rename_i sep' form' hs
      split at hc
      · simp only [Option.some.injEq, Prod.mk.injEq] at hc
        obtain ⟨i, rest, hp⟩ := sepBelow_some hs
        rw [hp, ← hc.1]
        exact .some (ctxRange_range0 _)
      · cases hc
    · cases hc
  · refine .bind fun m hm => ?_
    split
    · split
      · rename_i hform
        split
        · exact .bind fun args _ => .bind fun g' _ => .some (ctxRange_expr _ hm (k := .form) (by rw [hform]; rfl))
        · exact .none
      · exact .none
    · exact .none

theorem completeVariable_range {fixed : Bool} {env : Env} {p : Path} :
    RangeOk fixed p (completeVariableG fixed env p) := by
  unfold completeVariableG
  cases p with
  | nil => intro ctx g h; cases h
  | cons x xs =>
    obtain ⟨primary, i⟩ := x
    simp only
    split
    · split
      · exact .none
      · rename_i hfix
        refine RangeOk.some (Or.inr (Or.inr ⟨(primary, i), rfl, ?_, rfl, rfl, rfl⟩))
        intro hf
        simpa [hf] using hfix
    · exact .none

theorem runCompleters_range {fixed : Bool} {env : Env} {p : Path} {ctx : Ctx} {g : Gen}
    (h : runCompleters fixed env p = .ok (some (ctx, g))) : CtxRange fixed p ctx := by
  revert ctx g
  show RangeOk fixed p (runCompleters fixed env p)
  unfold runCompleters
  refine .bind fun c1 h1 => ?_
  split
  · exact completeCommand_range.of_eq h1
  refine .bind fun c2 h2 => ?_
  split
  · exact completeIndex_range.of_eq h2
  refine .bind fun c3 h3 => ?_
  split
  · exact completeRedir_range.of_eq h3
  refine .bind fun c4 h4 => ?_
  split
  · exact completeVariable_range.of_eq h4
  exact completeArg_range

theorem completeG_result {fixed : Bool} {env : Env} {src : Bytes} {dot : Int} {r : Result}
    (h : completeG fixed env src dot = .result r) :
    ∃ tree errs path ctx g, parse env.isPrint src = .ok tree errs ∧ findLeft tree dot = some path ∧
      runCompleters fixed env path = .ok (some (ctx, g)) ∧ r = finish fixed env ctx g ∧
      (fixed = true → ∀ x, path.head? = some x → ¬ (x.1.kind = .sep ∧ endsInComment x.1.text = true)) := by
  unfold completeG at h
  split at h
  · cases h
  · cases h
  · rename_i tree errs hp
    split at h
    · cases h
    · cases h
    · rename_i leaf i rest hf
      split at h
      · cases h
      · rename_i hcom
        split at h
        · rename_i ctx g hr
          simp only [Outcome.result.injEq] at h
          refine ⟨tree, errs, (leaf, i) :: rest, ctx, g, hp, hf, hr, h.symm, ?_⟩
          intro hfx x hx hk
          simp only [List.head?_cons, Option.some.injEq] at hx
          subst hx
          apply hcom
          simp [hfx, hk.1, hk.2]
        all_goals cases h

theorem finish_frm {fixed env ctx g} : (finish fixed env ctx g).frm = ctx.frm := rfl
theorem finish_to {fixed env ctx g} : (finish fixed env ctx g).to = ctx.to := rfl
theorem finish_name {fixed env ctx g} : (finish fixed env ctx g).name = ctx.name := rfl

theorem splitSigil_append (v : Bytes) : (splitSigil v).1 ++ (splitSigil v).2 = v := by
  unfold splitSigil
  split <;> simp

theorem value_split (v : Bytes) :
    v = (splitSigil v).1 ++ (splitIncompleteQNameNs (splitSigil v).2).1 ++
      (splitIncompleteQNameNs (splitSigil v).2).2 := by
  conv => lhs; rw [← splitSigil_append v, ← splitNs_append (splitSigil v).2]
  simp

theorem complete_range {env : Env} {src : Bytes} {dot : Int} {r : Result} (h : complete env src dot = .result r) :
    ∃ tree errs x, parse env.isPrint src = .ok tree errs ∧ C01_Desc tree x ∧ C01_NodeOk src x ∧
      ((r.frm = x.to ∧ r.to = x.to) ∨
       (x.kind = .compound ∧ r.frm = x.frm ∧ r.to = x.to ∧ Holds dot x) ∨
       (x.text = 36 :: x.value ∧ r.to = x.to ∧
        r.frm = x.frm + 1 + (splitSigil x.value).1.length + (splitIncompleteQNameNs (splitSigil x.value).2).1.length)) := by
  obtain ⟨tree, errs, path, ctx, g, hp, hf, hr, hres, _⟩ := completeG_result h
  have hok := (C01_lossless_partial env.isPrint src tree errs hp).1
  have hdesc := findN_desc dot true tree 0 path hf
  subst hres
  rw [finish_frm, finish_to]
  rcases runCompleters_range hr with ⟨x, hx, h1, h2, _⟩ | ⟨x, hx, hk, h1, h2⟩ | ⟨x, hx, htxt, h1, h2, _⟩
  · have hd := hdesc x (List.mem_of_mem_head? hx)
    exact ⟨tree, errs, x.1, hp, hd, hok _ hd, Or.inl ⟨h1, h2⟩⟩
  · have hd := hdesc x (List.dropLast_subset _ hx)
    exact ⟨tree, errs, x.1, hp, hd, hok _ hd, Or.inr (Or.inl ⟨hk, h1, h2, findN_dropLast_holds hf x hx⟩)⟩
  · have hd := hdesc x (List.mem_of_mem_head? hx)
    exact ⟨tree, errs, x.1, hp, hd, hok _ hd, Or.inr (Or.inr ⟨htxt rfl, h2, h1⟩)⟩

theorem var_slice {src : Bytes} {a b : Nat} {sg ns nm : Bytes} (hab : a ≤ b) (hb : b ≤ src.length)
    (htext : 36 :: (sg ++ ns ++ nm) = (src.drop a).take (b - a)) :
    a + 1 + sg.length + ns.length ≤ b ∧
    (src.drop (a + 1 + sg.length + ns.length)).take (b - (a + 1 + sg.length + ns.length)) = nm ∧
      src.drop a = 36 :: sg ++ ns ++ src.drop (a + 1 + sg.length + ns.length) := by
  have hsrc : src.drop a = (36 :: (sg ++ ns)) ++ (nm ++ src.drop b) := by
    have h1 : src.drop a = (src.drop a).take (b - a) ++ (src.drop a).drop (b - a) := (List.take_append_drop _ _).symm
    rw [← htext, List.drop_drop, show a + (b - a) = b by omega] at h1
    rw [h1]; simp
  have hdrop : src.drop (a + 1 + sg.length + ns.length) = nm ++ src.drop b := by
    have : src.drop (a + 1 + sg.length + ns.length) = (src.drop a).drop (36 :: (sg ++ ns)).length := by
      rw [List.drop_drop]; congr 1; simp only [List.length_cons, List.length_append]; omega
    rw [this, hsrc, List.drop_left]
  have hlen : sg.length + ns.length + nm.length + 1 = b - a := by
    have := congrArg List.length htext
    rwa [List.length_take_of_le (by rw [List.length_drop]; omega), List.length_cons, List.length_append,
      List.length_append] at this
  refine ⟨by omega, ?_, ?_⟩
  · rw [hdrop, show b - (a + 1 + sg.length + ns.length) = nm.length by omega, List.take_left]
  · rw [hsrc, hdrop]; simp

theorem finish_items {fixed : Bool} {env : Env} {ctx : Ctx} {g : Gen} {it : Item}
    (h : it ∈ (finish fixed env ctx g).items) :
    ∃ raw, raw ∈ (match g with | .items l => l | .err => []) ∧ ctx.seed.isPrefixOf raw.stem = true ∧
      it = cook env.isPrint (styleOf fixed ctx.quote) raw := by
  unfold finish at h
  simp only at h
  have h1 := (dedup_sublist _).subset h
  obtain ⟨raw, hraw, hit⟩ := List.mem_map.mp h1
  have h2 := mem_sortRaw.mp hraw
  unfold filterPrefix at h2
  obtain ⟨h3, h4⟩ := List.mem_filter.mp h2
  exact ⟨raw, h3, h4, hit.symm⟩

theorem styleOf_fixed (q : Int) :
    styleOf true q = Bareword ∨ styleOf true q = SingleQuoted ∨ styleOf true q = DoubleQuoted := by
  unfold styleOf
  simp only [if_true]
  split
  · rename_i h
    simp only [Bool.or_eq_true, beq_iff_eq] at h
    rcases h with h | h
    · right; left; exact h
    · right; right; exact h
  · left; rfl

end C43
