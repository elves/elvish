/-
A word produced by `QuoteAs` parses back, in situ, to one compound with one
primary whose value is the quoted string.
-/
import ElvModel.C43.Spec
import ElvProofs.C43.QuoteC03
import ElvProofs.C43.Step
namespace C43
open Go C01
open Gen.C01Chars

/-- the node `parse(ps, &Primary{ExprCtx: ctx})` returns for a primary without
children: type `ty`, value `val`, over the text `w` at `frm` -/
def quotedNode (ctx : Int) (ty : Int) (frm : Nat) (w val : Bytes) : Node :=
  .mk .primary frm (frm + w.length) w { ctx := ctx, ptype := ty, value := val } []

/-- the tree `Compound[Indexing[Primary ty val]]` over the text `w` at `frm` -/
def wordNode (ctx : Int) (frm : Nat) (w : Bytes) (ty : Int) (val : Bytes) : Node :=
  .mk .compound frm (frm + w.length) w { ctx := ctx }
    [.mk .indexing frm (frm + w.length) w { ctx := ctx } [quotedNode ctx ty frm w val]]

/-- body of `quoteSingle` over the runes -/
def sqBody (rs : List Nat) : Bytes := rs.flatMap fun r => encodeRune r ++ (if r == 39 then [39] else [])

theorem needsDouble_false {isPrint : Int → Bool} {s : Bytes} (h : needsDouble isPrint s = false) :
    validUtf8 s = true ∧ ∀ r ∈ toRunes s, r ≠ RuneError ∧ isPrint (r : Int) = true := by
  unfold needsDouble at h
  have h' : ∀ r ∈ toRunes s, r ≠ RuneError ∧ isPrint (r : Int) = true := by
    intro r hr
    have := List.any_eq_false.mp h r hr
    simpa using this
  exact ⟨C03.AllRunes.validUtf8 fun x hx => (h' x.2.1 (List.mem_map_of_mem hx)).1, h'⟩

theorem QuoteAs_double (isPrint : Int → Bool) (stem : Bytes) :
    QuoteAs isPrint stem DoubleQuoted = (quoteDouble isPrint stem, DoubleQuoted) := rfl

theorem QuoteAs_nil (isPrint : Int → Bool) {q : Int} (hq : q ≠ DoubleQuoted) :
    QuoteAs isPrint [] q = (quoteSingle [], SingleQuoted) := by
  have hq' : ¬ (q == DoubleQuoted) = true := by simpa using hq
  unfold QuoteAs quoteAs
  rw [if_neg hq']
  rfl

theorem QuoteAs_cons (isPrint : Int → Bool) {stem : Bytes} {q : Int} (hq : q ≠ DoubleQuoted) (hne : stem ≠ []) :
    QuoteAs isPrint stem q =
      if needsDouble isPrint stem then (quoteDouble isPrint stem, DoubleQuoted)
      else if q == Bareword && isBare isPrint stem strictExpr then (stem, Bareword)
      else (quoteSingle stem, SingleQuoted) := by
  have hq' : ¬ (q == DoubleQuoted) = true := by simpa using hq
  have hem : ¬ stem.isEmpty = true := fun h => hne (List.isEmpty_iff.mp h)
  unfold QuoteAs quoteAs
  rw [if_neg hq', if_neg hem]

/-- `QuoteAs` writes a double-quoted string, a single-quoted string (only for
valid UTF-8), or the string itself (only if it is not empty, printable, does not
start with `~` and is made of runes that are bareword runes in every context). -/
theorem QuoteAs_cases (isPrint : Int → Bool) (stem : Bytes) (q : Int) :
    QuoteAs isPrint stem q = (quoteDouble isPrint stem, DoubleQuoted) ∨
    (QuoteAs isPrint stem q = (quoteSingle stem, SingleQuoted) ∧ validUtf8 stem = true) ∨
    (QuoteAs isPrint stem q = (stem, Bareword) ∧ stem ≠ [] ∧ needsDouble isPrint stem = false ∧
      isBare isPrint stem strictExpr = true) := by
  by_cases hq : q = DoubleQuoted
  · subst hq; exact Or.inl (QuoteAs_double isPrint stem)
  by_cases hne : stem = []
  · subst hne; exact Or.inr (Or.inl ⟨QuoteAs_nil isPrint hq, rfl⟩)
  rw [QuoteAs_cons isPrint hq hne]
  by_cases hnd : needsDouble isPrint stem = true
  · rw [if_pos hnd]; exact Or.inl rfl
  have hnd' : needsDouble isPrint stem = false := by simpa using hnd
  rw [if_neg hnd]
  by_cases hb : (q == Bareword && isBare isPrint stem strictExpr) = true
  · rw [if_pos hb]
    exact Or.inr (Or.inr ⟨rfl, hne, hnd', (Bool.and_eq_true_iff.mp hb).2⟩)
  · rw [if_neg hb]
    exact Or.inr (Or.inl ⟨rfl, (needsDouble_false hnd').1⟩)

theorem quoteAs_type (isPrint : Int → Bool) (stem : Bytes) (q : Int) :
    (QuoteAs isPrint stem q).2 = Bareword ∨ (QuoteAs isPrint stem q).2 = SingleQuoted ∨
      (QuoteAs isPrint stem q).2 = DoubleQuoted := by
  rcases QuoteAs_cases isPrint stem q with h | ⟨h, _⟩ | ⟨h, _⟩ <;> rw [h]
  · exact Or.inr (Or.inr rfl)
  · exact Or.inr (Or.inl rfl)
  · exact Or.inl rfl

theorem bare_runes {isPrint : Int → Bool} {w : Bytes} (hne : w ≠ []) (hnd : needsDouble isPrint w = false)
    (hbare : isBare isPrint w strictExpr = true) :
    ∃ r0 rs, w = encodeRunes (r0 :: rs) ∧ r0 ≠ 126 ∧
      ∀ r ∈ r0 :: rs, validRune r = true ∧ allowedInBareword isPrint (r : Int) strictExpr = true := by
  have hw : encodeRunes (toRunes w) = w := encodeRunes_toRunes (needsDouble_false hnd).1
  unfold isBare at hbare
  simp only [Bool.and_eq_true, bne_iff_ne, ne_eq, List.all_eq_true] at hbare
  cases hrs : toRunes w with
  | nil =>
    rw [hrs] at hw
    exact absurd hw.symm hne
  | cons r0 rs =>
    rw [hrs] at hw
    refine ⟨r0, rs, hw.symm, ?_, fun r hr => ⟨toRunes_validRune w r (hrs ▸ hr), hbare.2 r (hrs ▸ hr)⟩⟩
    intro h126
    apply hbare.1
    rw [← hw, h126]
    rfl

theorem stops_nil (isPrint : Int → Bool) (ctx : Int) : startsIndexing isPrint (peekOf []) ctx = false :=
  C03.startsIndexing_eof isPrint ctx

theorem stops_space (isPrint : Int → Bool) (ctx : Int) (t : Bytes) :
    startsIndexing isPrint (peekOf (32 :: t)) ctx = false := by
  rw [peekOf_byte 32 32]
  simp [startsIndexing, startsPrimary, allowedInBareword, allowedInVariableName]

theorem sqBody_eq (s : Bytes) : quoteSingleBody s = sqBody (toRunes s) := rfl

/-- the statement of `C43_quote_roundtrip`, at any state and nesting fuel -/
theorem quoteAs_word_at {e : C01.Env} {s : St} (stem : Bytes) (q ctx : Int) (rest : Bytes) (fuel : Nat)
    (hstop : startsIndexing e.isPrint (peekOf rest) ctx = false)
    (hat : At e s ((QuoteAs e.isPrint stem q).1 ++ rest)) :
    parseNT (fuel + 3) (.compound ctx) e s =
      .ok (wordNode ctx s.pos (QuoteAs e.isPrint stem q).1 (QuoteAs e.isPrint stem q).2 stem)
        (adv s (QuoteAs e.isPrint stem q).1.length) := by
  obtain ⟨w, ty, hq, hl, hnt⟩ := C03.quoteAs_lit e.isPrint stem q strictExpr ctx (C03.CtxLe.strict _ _)
  have : QuoteAs e.isPrint stem q = (w, ty) := C03.QRes.ok.inj ((QuoteAs_eq e.isPrint stem q).symm.trans hq)
  rw [this] at hat ⊢
  exact hl.word_at fuel hat (hnt rest) hstop

theorem quoteAs_word_rt (isPrint : Int → Bool) (stem : Bytes) (q ctx : Int) (pre rest : Bytes)
    (k : Nat) (errs : List PErr)
    (hstop : startsIndexing isPrint (peekOf rest) ctx = false) :
    parseCompound isPrint (pre ++ (QuoteAs isPrint stem q).1 ++ rest) ctx
        { pos := pre.length, overEOF := k, errors := errs } =
      .ok (wordNode ctx pre.length (QuoteAs isPrint stem q).1 (QuoteAs isPrint stem q).2 stem)
        { pos := pre.length + (QuoteAs isPrint stem q).1.length, overEOF := k, errors := errs } := by
  have hfuel : defaultFuel (pre ++ (QuoteAs isPrint stem q).1 ++ rest) =
      (7 * (pre ++ (QuoteAs isPrint stem q).1 ++ rest).length + 5) + 3 := by unfold defaultFuel; omega
  unfold parseCompound runNT
  rw [hfuel]
  exact quoteAs_word_at (e := { isPrint := isPrint, src := pre ++ (QuoteAs isPrint stem q).1 ++ rest }) stem q ctx rest _
    hstop ⟨by simp, by simp⟩

theorem wordNode_value (isPrint : Int → Bool) (ctx : Int) (frm : Nat) (w : Bytes) (ty : Int) (stem : Bytes)
    (hty : ty = Bareword ∨ ty = SingleQuoted ∨ ty = DoubleQuoted) :
    purelyEvalPartialCompound (literalEnv isPrint) (wordNode ctx frm w ty stem) (-1) = .ok (some stem) := by
  rcases hty with rfl | rfl | rfl <;>
    simp [purelyEvalPartialCompound, wordNode, quotedNode, Node.childrenOf, Node.children, pepcLoop, headOf,
      Node.kind, Node.ptype, Node.fields, Node.value, Bareword, SingleQuoted, DoubleQuoted, Tilde]

end C43
