/-
The run of `(*Form).parse` over a simple command line `w₀ ␣ w₁ ␣ … ␣ wₖ₋₁ ␣ X` (words as `QuoteAs` writes them,
each followed by one space): `formLoop` arrives at `X` with a builder that gained only nodes ending at or before
`X`.  Here `X` is the inserted word; `Reach.lean`, `Nest.lean` and `Redir.lean` use other `X`.
-/
import ElvProofs.C43.Words
import ElvProofs.C43.Ext
namespace C43
open Go C01
open Gen.C01Chars

/-- the first rune of the text after a blank: no further blank, no `#`, no `^` -/
structure NextStart (r : Int) : Prop where
  nb : IsInlineWhitespace r = false
  n35 : (r == 35) = false
  n94 : (r == 94) = false

/-- what a word of these lines can start with: a quote or a rune that is a
bareword rune in every context (the text `QuoteAs` writes), or the `(` / `{` of a
nested command -/
def WordStart (isPrint : Int → Bool) (r : Int) : Prop :=
  r = 34 ∨ r = 39 ∨ allowedInBareword isPrint r strictExpr = true ∨ r = 40 ∨ r = 123

theorem quoteAs_peek (isPrint : Int → Bool) (stem : Bytes) (q : Int) (t : Bytes) :
    WordStart isPrint (peekOf ((QuoteAs isPrint stem q).1 ++ t)) := by
  rcases QuoteAs_cases isPrint stem q with h | ⟨h, _⟩ | ⟨h, hne, hnd, hb⟩ <;> rw [h]
  · exact Or.inl (peekOf_byte 34 34 _)
  · exact Or.inr (Or.inl (peekOf_byte 39 39 _))
  · obtain ⟨r0, rs, rfl, _, hall⟩ := bare_runes hne hnd hb
    have h0 := hall r0 List.mem_cons_self
    refine Or.inr (Or.inr (Or.inl ?_))
    show allowedInBareword isPrint (peekOf (encodeRunes (r0 :: rs) ++ t)) strictExpr = true
    rw [peekOf_runes h0.1]
    exact h0.2

/-- the runes the loops of `Form`, `Pipeline` and `Chunk` and the blank skipper test for: space, tab, CR,
LF, `;`, `#`, `^`, `&`, `<`, `>`, `|` and the end of the text.  A `WordStart` rune is none of them
(`WordStart.ne`), which is all that `WordStart.facts` uses. -/
def wordEnds : List Int := [32, 9, 13, 10, 59, 35, 94, 38, 60, 62, 124, eof]

theorem wordEnds_spec : ∀ x ∈ wordEnds,
    x < 128 ∧ x ≠ 34 ∧ x ≠ 39 ∧ x ≠ 40 ∧ x ≠ 123 ∧ allowedInBareword (fun _ => false) x strictExpr = false := by
  decide

theorem WordStart.ne {isPrint : Int → Bool} {r : Int} (h : WordStart isPrint r) : ∀ x ∈ wordEnds, r ≠ x := by
  intro x hx hrx
  subst hrx
  obtain ⟨h0, h1, h2, h3, h4, h5⟩ := wordEnds_spec r hx
  rcases h with h | h | h | h | h
  · exact h1 h
  · exact h2 h
  · rw [C03.allowedInBareword_ascii isPrint h0, h5] at h; cases h
  · exact h3 h
  · exact h4 h

structure WordStart.Facts (isPrint : Int → Bool) (r : Int) : Prop where
  next : NextStart r
  nws : IsWhitespace r = false
  nsep : isPipelineSep r = false
  n38 : (r == 38) = false
  npipe : r ≠ 124
  nredir : isRedirSign r = false
  compound : ∀ ctx, startsCompound isPrint r ctx = true
  pipeline : startsPipeline isPrint r = true

theorem WordStart.facts {isPrint : Int → Bool} {r : Int} (h : WordStart isPrint r) : WordStart.Facts isPrint r := by
  have hne : ∀ x ∈ wordEnds, (r == x) = false := fun x hx => by simpa using h.ne x hx
  have h32 := hne 32 (by decide)
  have h9 := hne 9 (by decide)
  have h13 := hne 13 (by decide)
  have h10 := hne 10 (by decide)
  have hb : ∀ ctx, startsCompound isPrint r ctx = true := by
    intro ctx
    rcases h with rfl | rfl | h | rfl | rfl <;>
      simp [startsCompound, startsIndexing, startsPrimary, C03.strict_any ctx, *]
  exact {
    next := ⟨by simp [IsInlineWhitespace, h32, h9], hne 35 (by decide), hne 94 (by decide)⟩
    nws := by simp [IsWhitespace, IsInlineWhitespace, h32, h9, h13, h10]
    nsep := by simp [isPipelineSep, h13, h10, hne 59 (by decide)]
    n38 := hne 38 (by decide)
    npipe := h.ne 124 (by decide)
    nredir := by simp [isRedirSign, hne 60 (by decide), hne 62 (by decide)]
    compound := hb
    pipeline := by simp only [startsPipeline, startsForm, hb CmdExpr, Bool.or_true] }

theorem WordStart.next {isPrint : Int → Bool} {r : Int} (h : WordStart isPrint r) : NextStart r := h.facts.next

theorem WordStart.ne_nil {isPrint : Int → Bool} {t : Bytes} (h : WordStart isPrint (peekOf t)) : t ≠ [] := by
  intro h0
  subst h0
  exact h.ne eof (by decide) rfl

theorem quoteAs_ne_nil (isPrint : Int → Bool) (stem : Bytes) (q : Int) : (QuoteAs isPrint stem q).1 ≠ [] := by
  have := (quoteAs_peek isPrint stem q []).ne_nil
  simpa using this

theorem peekOf_space (t : Bytes) : peekOf (32 :: t) = 32 := peekOf_byte 32 32 t

theorem lineText_cons (isPrint : Int → Bool) (w : Bytes × Int) (ws : List (Bytes × Int)) (X : Bytes) :
    lineText isPrint (w :: ws) ++ X = (QuoteAs isPrint w.1 w.2).1 ++ 32 :: (lineText isPrint ws ++ X) := by
  simp [lineText]

theorem lineText_start (isPrint : Int → Bool) (ws : List (Bytes × Int)) (X : Bytes)
    (h : ws = [] → WordStart isPrint (peekOf X)) : WordStart isPrint (peekOf (lineText isPrint ws ++ X)) := by
  cases ws with
  | nil => simpa [lineText] using h rfl
  | cons w ws => rw [lineText_cons]; exact quoteAs_peek isPrint w.1 w.2 _

theorem lineText_next (isPrint : Int → Bool) (X : Bytes) (hX : NextStart (peekOf X)) (ws : List (Bytes × Int)) :
    NextStart (peekOf (lineText isPrint ws ++ X)) := by
  cases ws with
  | nil => simpa [lineText] using hX
  | cons w ws => exact (lineText_start isPrint (w :: ws) X (fun h => by cases h)).next

theorem lineText_length (isPrint : Int → Bool) : ∀ ws : List (Bytes × Int), ws.length ≤ (lineText isPrint ws).length
  | [] => Nat.le_refl _
  | w :: ws => by
    have := lineText_length isPrint ws
    simp only [lineText, List.length_cons, List.length_append]
    omega

theorem spacesLoop_one {e : C01.Env} {s : St} {rest : Bytes} (nl : Bool) (k : Nat) (hat : At e s (32 :: rest))
    (h1 : NextStart (peekOf rest)) (hws : nl = true → IsWhitespace (peekOf rest) = false) :
    spacesLoop nl (k + 2) e s = .ok () (adv s 1) := by
  obtain ⟨hnx, hat1⟩ := next_byte 32 32 hat
  have hnl : (nl && IsWhitespace (peekOf rest)) = false := by
    cases nl
    · rfl
    · simpa using hws rfl
  unfold spacesLoop
  rw [bind_of_eq (peek_at hat), peekOf_space]
  simp only [show IsInlineWhitespace 32 = true by decide, if_true]
  rw [bind_of_eq hnx]
  unfold spacesLoop
  rw [bind_of_eq (peek_at hat1)]
  simp only [h1.nb, h1.n35, h1.n94, hnl, Bool.false_eq_true, if_false]
  rfl

theorem parseSpacesInner_one {e : C01.Env} {s s' : St} {rest : Bytes} {nb nb' : NB} (nl : Bool)
    (hat : At e s (32 :: rest)) (h1 : NextStart (peekOf rest)) (hws : nl = true → IsWhitespace (peekOf rest) = false)
    (h : parseSpacesInner nb nl e s = .ok nb' s') :
    s' = adv s 1 ∧ ExtTo (s.pos + 1) nb nb' := by
  unfold parseSpacesInner at h
  rw [bind_of_eq (loopFuel_eq e s), bind_of_eq (spacesLoop_one nl _ hat h1 hws)] at h
  obtain ⟨hs, hnb⟩ := addSep_facts h
  refine ⟨hs, ?_⟩
  rcases hnb with rfl | ⟨b, t, rfl⟩
  · exact ExtTo.refl _ _
  · exact ExtTo.add _ (Nat.le_of_eq rfl)

theorem parseSpaces_one {e : C01.Env} {s s' : St} {rest : Bytes} {nb nb' : NB} (hat : At e s (32 :: rest))
    (h1 : NextStart (peekOf rest)) (h : parseSpaces nb e s = .ok nb' s') :
    s' = adv s 1 ∧ ExtTo (s.pos + 1) nb nb' :=
  parseSpacesInner_one false hat h1 (fun h => by cases h) h

theorem parseSpaces_zero {e : C01.Env} {s s' : St} {t : Bytes} {nb nb' : NB} (hat : At e s t)
    (h1 : NextStart (peekOf t)) (h : parseSpaces nb e s = .ok nb' s') : s' = s ∧ Ext nb nb' := by
  have hext := parseSpaces_ext.ext h
  unfold parseSpaces parseSpacesInner at h
  have hloop : spacesLoop false (e.src.length + 2) e s = .ok () s := by
    show spacesLoop false ((e.src.length + 1) + 1) e s = _
    unfold spacesLoop
    rw [bind_of_eq (peek_at hat)]
    simp only [h1.nb, h1.n35, h1.n94, Bool.false_and, Bool.false_eq_true, if_false]
    rfl
  rw [bind_of_eq (loopFuel_eq e s), bind_of_eq hloop] at h
  exact ⟨(addSep_facts h).1, hext⟩

theorem not_redir_of_stops {isPrint : Int → Bool} {r : Int}
    (h : startsIndexing isPrint r CmdExpr = false) : isRedirSign r = false := by
  cases hr : isRedirSign r
  · rfl
  · exfalso
    simp only [isRedirSign, Bool.or_eq_true, beq_iff_eq] at hr
    rcases hr with rfl | rfl <;>
      simp [startsIndexing, startsPrimary, allowedInBareword, CmdExpr] at h

-- `k` is the rest of the run after the word and its blank.
theorem word_blank {e : C01.Env} {α} (ctx : Int) (w : Bytes × Int) (Y : Bytes) (hY : NextStart (peekOf Y))
    (k : NB → M α) (nb : NB) (s sR : St) (r : α)
    (hat : At e s ((QuoteAs e.isPrint w.1 w.2).1 ++ 32 :: Y))
    (h : (parseSpaces (nb.add (wordNode ctx s.pos (QuoteAs e.isPrint w.1 w.2).1 (QuoteAs e.isPrint w.1 w.2).2 w.1))
        >>= k) e (adv s (QuoteAs e.isPrint w.1 w.2).1.length) = .ok r sR) :
    ∃ nb1, ExtTo (s.pos + ((QuoteAs e.isPrint w.1 w.2).1.length + 1)) nb nb1 ∧
      At e (adv s ((QuoteAs e.isPrint w.1 w.2).1.length + 1)) Y ∧
      k nb1 e (adv s ((QuoteAs e.isPrint w.1 w.2).1.length + 1)) = .ok r sR := by
  obtain ⟨nb1, s1, hsp, h⟩ := C02.bind_ok.1 h
  obtain ⟨hs1, hext⟩ := parseSpaces_one hat.adv hY hsp
  subst hs1
  rw [adv_adv] at h
  refine ⟨nb1, ?_, by simpa [adv_adv] using hat.adv.adv1, h⟩
  have h0 := ExtTo.add nb (Nat.le_refl
    (wordNode ctx s.pos (QuoteAs e.isPrint w.1 w.2).1 (QuoteAs e.isPrint w.1 w.2).2 w.1).to)
  exact (h0.trans hext (by simp [adv, wordNode, Node.to])).mono (by simp [adv, Nat.add_assoc])

theorem lineText_cons_length (isPrint : Int → Bool) (w : Bytes × Int) (ws : List (Bytes × Int)) :
    (lineText isPrint (w :: ws)).length = (QuoteAs isPrint w.1 w.2).1.length + 1 + (lineText isPrint ws).length := by
  simp only [lineText, List.length_append, List.length_cons]; omega

theorem formLoop_walk {e : C01.Env} (f : Nat) (X : Bytes) (hX : NextStart (peekOf X)) :
    ∀ (ws : List (Bytes × Int)) (N : Nat) (nb nbR : NB) (s sR : St), ws.length < N →
      At e s (lineText e.isPrint ws ++ X) →
      formLoop (fun nt' => parseNT (f + 3) nt') N nb e s = .ok nbR sR →
      ∃ nb', ExtTo (s.pos + (lineText e.isPrint ws).length) nb nb' ∧
        formLoop (fun nt' => parseNT (f + 3) nt') (N - ws.length) nb' e (adv s (lineText e.isPrint ws).length) =
          .ok nbR sR := by
  intro ws
  induction ws with
  | nil =>
    intro N nb nbR s sR _ _ h
    exact ⟨nb, ExtTo.refl _ _, by simpa [lineText, adv_zero] using h⟩
  | cons w ws ih =>
    intro N nb nbR s sR hN hat h
    obtain ⟨N, rfl⟩ : ∃ N', N = N' + 1 := ⟨N - 1, by omega⟩
    rw [lineText_cons] at hat
    have hw := (quoteAs_peek e.isPrint w.1 w.2 (32 :: (lineText e.isPrint ws ++ X))).facts
    unfold formLoop at h
    rw [bind_of_eq (getEnv_eq e s), bind_of_eq (peek_at hat)] at h
    simp only [hw.n38, hw.compound NormalExpr, Bool.false_eq_true, if_false, if_true] at h
    rw [bind_of_eq (quoteAs_word_at w.1 w.2 NormalExpr _ f (stops_space e.isPrint NormalExpr _) hat),
      bind_of_eq (peek_at hat.adv), peekOf_space] at h
    simp only [show isRedirSign 32 = false by decide, Bool.false_eq_true, if_false] at h
    obtain ⟨nb1, hext, hat3, h⟩ := word_blank NormalExpr w _ (lineText_next e.isPrint X hX ws) _ nb s sR nbR hat h
    obtain ⟨nb', hext', h'⟩ := ih N nb1 nbR _ sR (by simp only [List.length_cons] at hN; omega) hat3 h
    rw [lineText_cons_length]
    refine ⟨nb', (hext.trans hext' (by simp [adv])).mono (by simp [adv, Nat.add_assoc]), ?_⟩
    simpa [adv_adv] using h'

theorem formLoop_end {e : C01.Env} (rec : NT → M Node) {s : St} {t : Bytes} (N : Nat) (nb : NB) (hat : At e s t)
    (h38 : (peekOf t == 38) = false) (hsc : startsCompound e.isPrint (peekOf t) NormalExpr = false)
    (hrd : isRedirSign (peekOf t) = false) : formLoop rec (N + 1) nb e s = .ok nb s := by
  unfold formLoop
  rw [bind_of_eq (getEnv_eq e s), bind_of_eq (peek_at hat)]
  simp only [h38, hsc, hrd, Bool.false_eq_true, if_false]
  rfl

/-- `(*Form).parse` on `w₀ ␣ … wₖ ␣ X`: after head and arguments, `formLoop` runs
at `X` on a builder whose children end at or before `X` -/
theorem formBody_walk {e : C01.Env} (f : Nat) (X : Bytes) (hX : NextStart (peekOf X)) (w : Bytes × Int)
    (ws : List (Bytes × Int)) (nb nbR : NB) (s sR : St)
    (hat : At e s (lineText e.isPrint (w :: ws) ++ X))
    (h : formBody (fun nt' => parseNT (f + 3) nt') nb e s = .ok nbR sR) :
    ∃ nb' M, ExtTo (s.pos + (lineText e.isPrint (w :: ws)).length) nb nb' ∧
      formLoop (fun nt' => parseNT (f + 3) nt') (M + 1) nb' e (adv s (lineText e.isPrint (w :: ws)).length) =
        .ok nbR sR := by
  rw [lineText_cons] at hat
  unfold formBody at h
  rw [bind_of_eq (quoteAs_word_at w.1 w.2 CmdExpr _ f (stops_space e.isPrint CmdExpr _) hat)] at h
  obtain ⟨nb1, hext, hat3, h⟩ := word_blank CmdExpr w _ (lineText_next e.isPrint X hX ws) _ nb s sR nbR hat h
  rw [bind_of_eq (loopFuel_eq e _)] at h
  have hfuel : ws.length < e.src.length + 2 := by
    have := lineText_length e.isPrint ws
    have hlen := hat3.len
    simp only [List.length_append] at hlen
    omega
  obtain ⟨nb', hext', h'⟩ := formLoop_walk f X hX ws _ nb1 nbR _ sR hfuel hat3 h
  rw [lineText_cons_length]
  refine ⟨nb', e.src.length + 1 - ws.length, (hext.trans hext' (by simp [adv])).mono (by simp [adv, Nat.add_assoc]), ?_⟩
  rw [show e.src.length + 1 - ws.length + 1 = e.src.length + 2 - ws.length by omega]
  simpa [adv_adv] using h'

theorem formLoop_word {e : C01.Env} (f : Nat) (stem : Bytes) (q : Int) (tail : Bytes)
    (hstop : ∀ ctx, startsIndexing e.isPrint (peekOf tail) ctx = false) (M : Nat) (nb nbR : NB) (s sR : St)
    (hat : At e s ((QuoteAs e.isPrint stem q).1 ++ tail))
    (h : formLoop (fun nt' => parseNT (f + 3) nt') (M + 1) nb e s = .ok nbR sR) :
    ∃ l, nbR.children = nb.children ++
      wordNode NormalExpr s.pos (QuoteAs e.isPrint stem q).1 (QuoteAs e.isPrint stem q).2 stem :: l := by
  have hw := (quoteAs_peek e.isPrint stem q tail).facts
  unfold formLoop at h
  rw [bind_of_eq (getEnv_eq e s), bind_of_eq (peek_at hat)] at h
  simp only [hw.n38, hw.compound NormalExpr, Bool.false_eq_true, if_false, if_true] at h
  rw [bind_of_eq (quoteAs_word_at stem q NormalExpr tail f (hstop NormalExpr) hat), bind_of_eq (peek_at hat.adv)] at h
  simp only [not_redir_of_stops (hstop CmdExpr), Bool.false_eq_true, if_false] at h
  obtain ⟨nb1, s1, hsp, h⟩ := C02.bind_ok.1 h
  obtain ⟨_, l, hl⟩ := (parseSpaces_ext.ext hsp).trans ((formLoop_ext _ _ _).ext h)
  exact ⟨l, by simpa [NB.add] using hl⟩

/-- the `Form` node of `w₀ ␣ … ␣ wₖ₋₁ ␣ Q tail`: its children are nodes that
end at or before `Q`, then the word `Q`, then whatever `tail` adds -/
theorem form_line {e : C01.Env} (f : Nat) (stem : Bytes) (q : Int) (tail : Bytes)
    (hstop : ∀ ctx, startsIndexing e.isPrint (peekOf tail) ctx = false)
    (ws : List (Bytes × Int)) (s sR : St) (F : Node)
    (hat : At e s (lineText e.isPrint ws ++ ((QuoteAs e.isPrint stem q).1 ++ tail)))
    (h : parseNT (f + 4) .form e s = .ok F sR) :
    F.kind = .form ∧ ∃ ctx pre l, F.children = pre ++
        wordNode ctx (s.pos + (lineText e.isPrint ws).length) (QuoteAs e.isPrint stem q).1
          (QuoteAs e.isPrint stem q).2 stem :: l ∧
      ∀ x ∈ pre, x.to ≤ s.pos + (lineText e.isPrint ws).length := by
  rw [parseNT_succ] at h
  obtain ⟨nbR, text, hb, rfl⟩ := wrap_ok' h
  refine ⟨rfl, ?_⟩
  simp only [body] at hb
  cases ws with
  | nil =>
    simp only [lineText, List.nil_append] at hat
    unfold formBody at hb
    rw [bind_of_eq (quoteAs_word_at stem q CmdExpr tail f (hstop CmdExpr) hat)] at hb
    obtain ⟨nb1, s1, hsp, hb⟩ := C02.bind_ok.1 hb
    obtain ⟨k, s2, _, hb⟩ := C02.bind_ok.1 hb
    obtain ⟨_, l, hl⟩ := (parseSpaces_ext.ext hsp).trans ((formLoop_ext _ _ _).ext hb)
    exact ⟨CmdExpr, [], l, by simpa [NB.add, lineText, Node.children] using hl, by simp⟩
  | cons w ws =>
    obtain ⟨nb', M, hch, h'⟩ := formBody_walk f _ (quoteAs_peek e.isPrint stem q tail).next w ws _ nbR s sR hat hb
    obtain ⟨l, hl⟩ := formLoop_word f stem q tail hstop M nb' nbR _ sR hat.adv h'
    refine ⟨NormalExpr, nb'.children, l, hl, fun x hx => ?_⟩
    rcases hch.2 x hx with hx | hx
    · cases hx
    · exact hx

theorem compoundAtL_skip (n : Nat) : ∀ (pre : List Node) (c : Node) (more : List Node),
    (∀ x ∈ pre, x.to ≤ n) → c.frm ≤ n → n < c.to → compoundAtL n (pre ++ c :: more) = compoundAtN n c
  | [], c, more, _, h1, h2 => by simp [compoundAtL, h1, h2]
  | x :: pre, c, more, hp, h1, h2 => by
    have hx := hp x List.mem_cons_self
    have hnot : ¬ (n < x.to) := by omega
    simp only [List.cons_append, compoundAtL, hnot, decide_false, Bool.and_false, Bool.false_eq_true, if_false]
    exact compoundAtL_skip n pre c more (fun y hy => hp y (List.mem_cons_of_mem _ hy)) h1 h2

theorem form_line_search {e : C01.Env} (f : Nat) (stem : Bytes) (q : Int) (tail : Bytes)
    (hstop : ∀ ctx, startsIndexing e.isPrint (peekOf tail) ctx = false)
    (ws : List (Bytes × Int)) (s sR : St) (F : Node)
    (hat : At e s (lineText e.isPrint ws ++ ((QuoteAs e.isPrint stem q).1 ++ tail)))
    (h : parseNT (f + 4) .form e s = .ok F sR) :
    ∃ ctx, compoundAtN (s.pos + (lineText e.isPrint ws).length) F =
      some (wordNode ctx (s.pos + (lineText e.isPrint ws).length) (QuoteAs e.isPrint stem q).1
        (QuoteAs e.isPrint stem q).2 stem) := by
  obtain ⟨hk, ctx, pre, l, hc, hpre⟩ := form_line f stem q tail hstop ws s sR F hat h
  refine ⟨ctx, ?_⟩
  cases F with
  | mk k a b t fl cs =>
    simp only [Node.kind] at hk
    simp only [Node.children] at hc
    subst hk hc
    have hlen : 0 < (QuoteAs e.isPrint stem q).1.length := List.length_pos_iff.mpr (quoteAs_ne_nil e.isPrint stem q)
    simp only [compoundAtN, show (Kind.form == Kind.compound) = false from rfl, Bool.false_and,
      Bool.false_eq_true, if_false]
    rw [compoundAtL_skip _ pre _ l hpre (by simp [wordNode, Node.frm]) (by simp only [wordNode, Node.to]; omega)]
    simp [wordNode, compoundAtN, hlen]

end C43
