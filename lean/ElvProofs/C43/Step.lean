/-
Running the parser of C01 at a given position of a buffer `pre ++ body ++ rest`, equationally.  Only
`peek`, `next`, `sliceSrc` occur on the paths that parse a quoted word, so all that is needed of the state
is the text from `pos` on (`At`, which is `C03.Cur` at the state's position); `overEOF` and the errors
recorded so far are carried along untouched (`C03.adv`).  The walk over one word is C03's.
-/
import ElvProofs.C01
import ElvProofs.C03
namespace C43
open Go C01
open Gen.C01Chars

/-- what `peek` answers when the text from the position on is `t` -/
def peekOf (t : Bytes) : Int := if t = [] then eof else ((decodeRune t).1 : Nat)

theorem peekOf_eq (t : Bytes) : peekOf t = C03.firstRune t := rfl

theorem peekOf_nil : peekOf [] = eof := rfl

export C03 (adv adv_adv adv_zero length_le_encodeRunes tilde_no parseSep_no)

def At (e : C01.Env) (s : St) (t : Bytes) : Prop := C03.Cur e s.pos t

theorem At.len {e : C01.Env} {s : St} {t : Bytes} (h : At e s t) : s.pos + t.length = e.src.length :=
  C03.Cur.len h

theorem At.adv {e : C01.Env} {s : St} {a b : Bytes} (h : At e s (a ++ b)) : At e (adv s a.length) b :=
  C03.Cur.adv h

theorem At.adv1 {e : C01.Env} {s : St} {b : UInt8} {t : Bytes} (h : At e s (b :: t)) : At e (C43.adv s 1) t :=
  At.adv (a := [b]) h

theorem At.of_pos {e : C01.Env} {s s' : St} {t : Bytes} (h : At e s t) (hp : s'.pos = s.pos) : At e s' t := by
  unfold At at *
  rw [hp]; exact h

theorem peek_at {e : C01.Env} {s : St} {t : Bytes} (h : At e s t) : peek e s = .ok (peekOf t) s :=
  C03.peek_at h

theorem peekOf_runes {r : Nat} (hv : validRune r = true) (rs : List Nat) (t : Bytes) :
    peekOf (encodeRunes (r :: rs) ++ t) = (r : Int) :=
  C03.firstRune_runes hv rs t

theorem encodeRune_ascii' {b : Nat} (h : b < 128) : encodeRune b = [UInt8.ofNat b] := encodeRune_one h

/-- `b` and `r` are given as numerals so that the side condition is closed by `decide` -/
theorem peekOf_byte (b : UInt8) (r : Int) (t : Bytes) (h : b.toNat < 128 ∧ (b.toNat : Int) = r := by decide) :
    peekOf (b :: t) = r :=
  h.2 ▸ C03.firstRune_byte b t h.1

theorem next_byte (b : UInt8) (r : Int) {e : C01.Env} {s : St} {t : Bytes} (hat : At e s (b :: t))
    (h : b.toNat < 128 ∧ (b.toNat : Int) = r := by decide) :
    next e s = .ok r (adv s 1) ∧ At e (adv s 1) t :=
  ⟨h.2 ▸ C03.next_at_byte hat h.1, hat.adv1⟩

end C43
