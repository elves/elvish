/-
A script of simple commands before the current one, `cd d ; cat f | sort ; ls -l X` (earlier pipelines end with
`; `, earlier commands of a pipeline with `| `).  Only the end states of the runs over the earlier commands are
computed; a node is located in the final tree along a spine `Chunk ∋ Pipeline ∋ Form ∋ …`: the earlier siblings
need not be described, the tiling of the tree (C01) puts them before the spine child.
-/
import ElvProofs.C43.Line
namespace C43
open Go C01
open Gen.C01Chars

/-- `W` is reached from `X` by going down through children that start at or before
`n`; no node on the way is a compound starting at `n` (the search for the outermost
compound at `n` would stop there) -/
inductive Spine (n : Nat) (W : Node) : Node → Prop
  | here : Spine n W W
  | down {X c : Node} : c ∈ X.children → c.frm ≤ n → (X.kind ≠ .compound ∨ X.frm ≠ n) → Spine n W c → Spine n W X

theorem tiled_child {src : Bytes} : ∀ (a : Nat) (pre : List Node) (c : Node) (more : List Node),
    WFs src (pre ++ c :: more) → Consec a (pre ++ c :: more) →
    WF src c ∧ a ≤ c.frm ∧ (∀ x ∈ pre, x.to ≤ c.frm) ∧ c.to ≤ endOf a (pre ++ c :: more)
  | _, [], _, _, hw, hc => ⟨hw.1, Nat.le_of_eq hc.1.symm, fun _ hx => (nomatch hx), le_endOf hw.2 hc.2⟩
  | a, y :: pre, c, more, hw, hc => by
    obtain ⟨h1, h2, h3, h4⟩ := tiled_child y.to pre c more hw.2 hc.2
    have hy := WF_range hw.1
    have hya : y.frm = a := hc.1
    refine ⟨h1, by omega, fun x hx => ?_, h4⟩
    rcases List.mem_cons.1 hx with rfl | hx
    · exact h2
    · exact h3 x hx

theorem spine_search {src : Bytes} {n : Nat} {W : Node} (hWk : W.kind = .compound) (hWf : W.frm = n) (hWt : n < W.to) :
    ∀ {X : Node}, Spine n W X → WF src X → compoundAtN n X = some W ∧ W.to ≤ X.to := by
  intro X hs
  induction hs with
  | here =>
    intro _
    refine ⟨?_, Nat.le_refl _⟩
    cases W with
    | mk k a b t f cs =>
      simp only [Node.kind] at hWk
      simp only [Node.frm] at hWf
      simp only [Node.to] at hWt
      subst hWk hWf
      simp [compoundAtN, hWt]
  | @down X c hmem hfrm hk _ ih =>
    intro hwf
    obtain ⟨pre, more, hsplit⟩ := List.append_of_mem hmem
    cases X with
    | mk k a b t f cs =>
      simp only [Node.children] at hsplit
      subst hsplit
      simp only [WF] at hwf
      obtain ⟨_, _, _, htile, hws⟩ := hwf
      obtain ⟨hcon, hend⟩ : Consec a (pre ++ c :: more) ∧ endOf a (pre ++ c :: more) = b := by
        rcases htile with h0 | h1
        · simp at h0
        · exact h1
      obtain ⟨hwc, _, hpre, hcto⟩ := tiled_child a pre c more hws hcon
      obtain ⟨hsearch, hWc⟩ := ih hwc
      rw [hend] at hcto
      refine ⟨?_, Nat.le_trans hWc hcto⟩
      have hcond : (k == Kind.compound && a == n && decide (n < b)) = false := by
        simp only [Node.kind, Node.frm] at hk
        rcases hk with hk | hk
        · have : (k == Kind.compound) = false := by simpa using hk
          simp [this]
        · have : (a == n) = false := by simpa using hk
          simp [this]
      simp only [compoundAtN, hcond, Bool.false_eq_true, if_false]
      rw [compoundAtL_skip n pre c more (fun x hx => Nat.le_trans (hpre x hx) hfrm) hfrm (by omega)]
      exact hsearch

/-- wherever `C ++ T` stands in the source: a run of `parse[nt]` in front of it that returns, returns a node of
kind `nt.kind` that starts there and has, among its children, what a run of `parse[nt']` in front of `T` returned -/
def Down (e : C01.Env) (fuel : Nat) (nt : NT) (C : Bytes) (fuel' : Nat) (nt' : NT) (T : Bytes) : Prop :=
  ∀ (s s' : St) (node : Node), At e s (C ++ T) → parseNT fuel nt e s = .ok node s' →
    node.kind = nt.kind ∧ node.frm = s.pos ∧
      ∃ c s₁ sc, c ∈ node.children ∧ At e s₁ T ∧ parseNT fuel' nt' e s₁ = .ok c sc

/-- a byte that ends a command: `|`, `;` or a newline -/
def FormEnd (c : UInt8) : Prop := c = 124 ∨ c = 59 ∨ c = 10

theorem FormEnd.facts {c : UInt8} (h : FormEnd c) (isPrint : Int → Bool) (t : Bytes) :
    NextStart (peekOf (c :: t)) ∧ (peekOf (c :: t) == 38) = false ∧
      startsCompound isPrint (peekOf (c :: t)) NormalExpr = false ∧ isRedirSign (peekOf (c :: t)) = false := by
  have hr : peekOf (c :: t) = 124 ∨ peekOf (c :: t) = 59 ∨ peekOf (c :: t) = 10 := by
    rcases h with rfl | rfl | rfl
    · exact Or.inl (peekOf_byte 124 124 t)
    · exact Or.inr (Or.inl (peekOf_byte 59 59 t))
    · exact Or.inr (Or.inr (peekOf_byte 10 10 t))
  generalize peekOf (c :: t) = r at hr
  rcases hr with rfl | rfl | rfl <;>
    exact ⟨⟨by decide, by decide, by decide⟩, by decide,
      by simp [startsCompound, startsIndexing, startsPrimary, allowedInBareword, allowedInVariableName], by decide⟩

theorem form_done {e : C01.Env} (f : Nat) (w : Bytes × Int) (ws : List (Bytes × Int)) {c : UInt8} (hc : FormEnd c)
    (rest : Bytes) (s sR : St) (F : Node)
    (hat : At e s (lineText e.isPrint (w :: ws) ++ c :: rest))
    (h : parseNT (f + 4) .form e s = .ok F sR) :
    sR = adv s (lineText e.isPrint (w :: ws)).length := by
  obtain ⟨hX, h38, hsc, hrd⟩ := hc.facts e.isPrint rest
  rw [parseNT_succ] at h
  obtain ⟨nbR, text, hb, _⟩ := wrap_ok' h
  simp only [body] at hb
  obtain ⟨nb', M, _, h'⟩ := formBody_walk f _ hX w ws _ nbR s sR hat hb
  rw [formLoop_end _ M nb' hat.adv h38 hsc hrd] at h'
  exact (Out.ok.inj h').2.symm

theorem parseSep_yes (b : UInt8) (r : Int) {e : C01.Env} {s s' : St} {rest : Bytes} {nb : NB} {x : Bool × NB}
    (hat : At e s (b :: rest)) (h : parseSep nb r e s = .ok x s')
    (hb : b.toNat < 128 ∧ (b.toNat : Int) = r := by decide) : x.1 = true ∧ s' = adv s 1 ∧ Ext nb x.2 := by
  have hext := parseSep_ext.ext h
  unfold parseSep at h
  rw [bind_of_eq (peek_at hat), peekOf_byte b r rest hb] at h
  simp only [beq_self_eq_true, if_true] at h
  rw [bind_of_eq (next_byte b r hat hb).1] at h
  obtain ⟨nb1, s1, h1, h⟩ := C02.bind_ok.1 h
  obtain ⟨h2, h3⟩ := ok_pure_inv h
  rw [← h2, ← h3]
  exact ⟨rfl, (addSep_facts h1).1, by rw [← h2] at hext; exact hext⟩

theorem pipeText_cons (isPrint : Int → Bool) (ws : List (Bytes × Int)) (fs : List (List (Bytes × Int))) :
    pipeText isPrint (ws :: fs) = lineText isPrint ws ++ (124 :: 32 :: pipeText isPrint fs) := by
  simp [pipeText]

theorem pipeText_start (isPrint : Int → Bool) (fs : List (List (Bytes × Int))) (hfs : ∀ ws ∈ fs, ws ≠ []) (Y : Bytes)
    (hY : WordStart isPrint (peekOf Y)) : WordStart isPrint (peekOf (pipeText isPrint fs ++ Y)) := by
  cases fs with
  | nil => simpa [pipeText] using hY
  | cons ws fs' =>
    rw [pipeText_cons, List.append_assoc]
    exact lineText_start isPrint ws _ (fun h => absurd h (hfs ws List.mem_cons_self))

theorem pipeText_length (isPrint : Int → Bool) : ∀ fs : List (List (Bytes × Int)), fs.length ≤ (pipeText isPrint fs).length
  | [] => Nat.le_refl _
  | ws :: fs => by
    have := pipeText_length isPrint fs
    rw [pipeText_cons]
    simp only [List.length_cons, List.length_append]
    omega

theorem pipelineLoop_step {e : C01.Env} (rec : NT → M Node) {s sR : St} {Y : Bytes} (N : Nat) (nb : NB)
    (r : Bool × NB) (hat : At e s (124 :: 32 :: Y)) (hY : WordStart e.isPrint (peekOf Y))
    (h : pipelineLoop rec (N + 1) nb e s = .ok r sR) :
    ∃ nb2, Ext nb nb2 ∧ (rec .form >>= fun f => pipelineLoop rec N (nb2.add f)) e (adv s 2) = .ok r sR := by
  unfold pipelineLoop at h
  rw [bind_of_eq (getEnv_eq e s)] at h
  obtain ⟨x, s1, hx, h⟩ := C02.bind_ok.1 h
  obtain ⟨hx1, hs1, hext1⟩ := parseSep_yes 124 124 hat hx
  obtain ⟨ok, nb1⟩ := x
  simp only at hx1 hext1 h
  subst hx1 hs1
  simp only [if_true] at h
  obtain ⟨nb2, s2, h2, h⟩ := C02.bind_ok.1 h
  obtain ⟨hs2, hext2⟩ := parseSpacesInner_one true hat.adv1 hY.next (fun _ => hY.facts.nws) h2
  subst hs2
  rw [bind_of_eq (peek_at hat.adv1.adv1)] at h
  have hsf : startsForm e.isPrint (peekOf Y) = true := hY.facts.pipeline
  simp only [hsf, Bool.not_true, Bool.false_eq_true, if_false] at h
  refine ⟨nb2, hext1.trans hext2.1, ?_⟩
  rw [adv_adv] at h
  exact h

theorem pipe_walk {e : C01.Env} (f : Nat) (Y : Bytes) (hY : WordStart e.isPrint (peekOf Y)) :
    ∀ (fs : List (List (Bytes × Int))), (∀ ws ∈ fs, ws ≠ []) → ∀ (N : Nat) (nb : NB) (s sR : St) (r : Bool × NB),
      fs.length < N → At e s (pipeText e.isPrint fs ++ Y) →
      ((fun nt' => parseNT (f + 4) nt') .form >>= fun fm => pipelineLoop (fun nt' => parseNT (f + 4) nt') N (nb.add fm)) e s =
        .ok r sR →
      ∃ nb', Ext nb nb' ∧
        ((fun nt' => parseNT (f + 4) nt') .form >>= fun fm =>
            pipelineLoop (fun nt' => parseNT (f + 4) nt') (N - fs.length) (nb'.add fm)) e
          (adv s (pipeText e.isPrint fs).length) = .ok r sR := by
  intro fs
  induction fs with
  | nil =>
    intro _ N nb s sR r _ _ h
    exact ⟨nb, Ext.refl _, by simpa [pipeText, adv_zero] using h⟩
  | cons ws fs ih =>
    intro hfs N nb s sR r hN hat h
    obtain ⟨N, rfl⟩ : ∃ N', N = N' + 1 := ⟨N - 1, by omega⟩
    have hws : ws ≠ [] := hfs ws List.mem_cons_self
    have hfs' : ∀ ws' ∈ fs, ws' ≠ [] := fun ws' h' => hfs ws' (List.mem_cons_of_mem _ h')
    obtain ⟨w, ws', rfl⟩ := List.exists_cons_of_ne_nil hws
    rw [pipeText_cons, List.append_assoc] at hat
    obtain ⟨F1, s1, hF1, h⟩ := C02.bind_ok.1 h
    have hs1 := form_done f w ws' (Or.inl rfl) _ s s1 F1 hat hF1
    subst hs1
    obtain ⟨nb2, hext2, h⟩ := pipelineLoop_step _ N (nb.add F1) r hat.adv (pipeText_start e.isPrint fs hfs' Y hY) h
    obtain ⟨nb', hext', h'⟩ := ih hfs' N nb2 _ sR r (by simp only [List.length_cons] at hN; omega)
      hat.adv.adv1.adv1 h
    refine ⟨nb', (Ext.add nb F1).trans (hext2.trans hext'), ?_⟩
    have e2 : (pipeText e.isPrint ((w :: ws') :: fs)).length =
        (lineText e.isPrint (w :: ws')).length + 1 + 1 + (pipeText e.isPrint fs).length := by
      rw [pipeText_cons]
      simp only [List.length_append, List.length_cons]
      omega
    rw [e2]
    simpa [adv_adv, Nat.add_assoc] using h'

/-- `(*Pipeline).parse` after the `|` loop: the optional `&` and the blanks around it -/
def pipelineTail : Bool × NB → M NB
  | (returned, nb) =>
    if returned then pure nb
    else do
      let nb ← parseSpaces nb
      let r ← peek
      if r == 38 then
        let _ ← next
        let nb ← addSep nb
        let nb := { nb with f := { nb.f with flag := true } }
        parseSpaces nb
      else pure nb

theorem pipelineBody_eq (rec : NT → M Node) (nb : NB) :
    pipelineBody rec nb =
      rec .form >>= fun f => loopFuel >>= fun k => pipelineLoop rec k (nb.add f) >>= pipelineTail := rfl

theorem pipelineTail_ext {x : Bool × NB} : Keeps id x.2 (pipelineTail x) := by
  obtain ⟨returned, nb⟩ := x
  simp only [pipelineTail]
  split
  · exact .pure (Ext.refl _)
  · refine .seq parseSpaces_ext fun nb2 => .bind fun r => ?_
    split
    · exact .bind fun _ => .seq addSep_ext fun nb3 =>
        parseSpaces_ext.mono (nb1 := { nb3 with f := { nb3.f with flag := true } }) (Ext.of_eq rfl rfl)
    · exact .pure (Ext.refl _)

theorem pipelineBody_walk {e : C01.Env} (f : Nat) (fs : List (List (Bytes × Int))) (hfs : ∀ ws ∈ fs, ws ≠ [])
    (Y : Bytes) (hY : WordStart e.isPrint (peekOf Y)) (nb nbR : NB) (s sR : St)
    (hat : At e s (pipeText e.isPrint fs ++ Y))
    (h : pipelineBody (fun nt' => parseNT (f + 4) nt') nb e s = .ok nbR sR) :
    ∃ nb' F sF M, Ext nb nb' ∧ parseNT (f + 4) .form e (adv s (pipeText e.isPrint fs).length) = .ok F sF ∧
      (pipelineLoop (fun nt' => parseNT (f + 4) nt') (M + 1) (nb'.add F) >>= pipelineTail) e sF = .ok nbR sR := by
  rw [pipelineBody_eq] at h
  obtain ⟨F1, s1, hF1, h⟩ := C02.bind_ok.1 h
  rw [bind_of_eq (loopFuel_eq e s1)] at h
  obtain ⟨x, s3, hx, ht⟩ := C02.bind_ok.1 h
  have hfuel : fs.length < e.src.length + 2 := by
    have := pipeText_length e.isPrint fs
    have hlen := hat.len
    simp only [List.length_append] at hlen
    omega
  obtain ⟨nb', hext', h'⟩ := pipe_walk f Y hY fs hfs _ nb s s3 x hfuel hat (C02.bind_ok.2 ⟨F1, s1, hF1, hx⟩)
  obtain ⟨F, sF, hF, h'⟩ := C02.bind_ok.1 h'
  refine ⟨nb', F, sF, e.src.length + 1 - fs.length, hext', hF, C02.bind_ok.2 ⟨x, s3, ?_, ht⟩⟩
  rw [show e.src.length + 1 - fs.length + 1 = e.src.length + 2 - fs.length by omega]
  exact h'

/-- the `Pipeline` node has, among its children, the `Form` parsed at the start of the current command -/
theorem pipeline_target {e : C01.Env} (f : Nat) (fs : List (List (Bytes × Int))) (hfs : ∀ ws ∈ fs, ws ≠ [])
    (Y : Bytes) (hY : WordStart e.isPrint (peekOf Y)) :
    Down e (f + 5) .pipeline (pipeText e.isPrint fs) (f + 4) .form Y := by
  intro s sp p hat h
  rw [parseNT_succ] at h
  obtain ⟨nb, text, hb, rfl⟩ := wrap_ok' h
  simp only [body] at hb
  obtain ⟨nb', F, sF, M, hext', hF, h'⟩ := pipelineBody_walk f fs hfs Y hY _ nb s sp hat hb
  obtain ⟨x, s3, hx, ht⟩ := C02.bind_ok.1 h'
  have hall : Ext (nb'.add F) nb := ((pipelineLoop_ext _ _ _).ext hx).trans (pipelineTail_ext.ext ht)
  exact ⟨rfl, hall.1.trans hext'.1, F, _, sF, hall.mem_of_add, hat.adv, hF⟩

theorem pipeline_done {e : C01.Env} (f : Nat) (fs : List (List (Bytes × Int))) (hfs : ∀ ws ∈ fs, ws ≠ [])
    (w : Bytes × Int) (ws : List (Bytes × Int)) {c : UInt8} (hc : c = 59 ∨ c = 10) (rest : Bytes) (s sp : St) (p : Node)
    (hat : At e s (pipeText e.isPrint fs ++ (lineText e.isPrint (w :: ws) ++ c :: rest)))
    (h : parseNT (f + 5) .pipeline e s = .ok p sp) :
    sp = adv s ((pipeText e.isPrint fs).length + (lineText e.isPrint (w :: ws)).length) := by
  have hce : FormEnd c := Or.inr hc
  obtain ⟨hX, h38, _, _⟩ := hce.facts e.isPrint rest
  have hno : peekOf (c :: rest) ≠ 124 := by
    rcases hc with rfl | rfl
    · rw [peekOf_byte 59 59]; decide
    · rw [peekOf_byte 10 10]; decide
  rw [parseNT_succ] at h
  obtain ⟨nb, text, hb, _⟩ := wrap_ok' h
  simp only [body] at hb
  obtain ⟨nb', F, sF, M, _, hF, h'⟩ := pipelineBody_walk f fs hfs _
    (lineText_start e.isPrint (w :: ws) _ (fun h => by cases h)) _ nb s sp hat hb
  have hsF := form_done f w ws hce rest _ sF F hat.adv hF
  subst hsF
  have hat2 := hat.adv.adv
  obtain ⟨x, s3, hx, ht⟩ := C02.bind_ok.1 h'
  -- the loop sees `c`, not `|`; neither a blank nor `&` follows
  unfold pipelineLoop at hx
  rw [bind_of_eq (getEnv_eq e _), bind_of_eq (parseSep_no _ 124 hat2 hno)] at hx
  simp only [Bool.false_eq_true, if_false] at hx
  obtain ⟨hx', hs3⟩ := ok_pure_inv hx
  subst hs3
  rw [← hx'] at ht
  simp only [pipelineTail, Bool.false_eq_true, if_false] at ht
  obtain ⟨nb2, s4, h4, ht⟩ := C02.bind_ok.1 ht
  obtain ⟨hs4, _⟩ := parseSpaces_zero hat2 hX h4
  subst hs4
  rw [bind_of_eq (peek_at hat2)] at ht
  simp only [h38, Bool.false_eq_true, if_false] at ht
  rw [← (ok_pure_inv ht).2, adv_adv]

theorem parseSeps_none {e : C01.Env} {s : St} {t : Bytes} (nb : NB) (hat : At e s t)
    (hw : WordStart e.isPrint (peekOf t)) : parseSeps nb e s = .ok (0, nb) s := by
  unfold parseSeps
  rw [bind_of_eq (loopFuel_eq e s)]
  unfold parseSepsLoop
  rw [bind_of_eq (peek_at hat)]
  simp only [hw.facts.nsep, hw.next.nb, hw.next.n35, Bool.false_eq_true, if_false, Bool.or_self]
  rfl

theorem chunkText_cons (isPrint : Int → Bool) (p : List (List (Bytes × Int)) × List (Bytes × Int))
    (ps : List (List (List (Bytes × Int)) × List (Bytes × Int))) :
    chunkText isPrint (p :: ps) =
      pipeText isPrint p.1 ++ (lineText isPrint p.2 ++ (59 :: 32 :: chunkText isPrint ps)) := by
  simp [chunkText]

theorem chunkText_start (isPrint : Int → Bool) (ps : List (List (List (Bytes × Int)) × List (Bytes × Int)))
    (hps : ScriptOk ps) (Y : Bytes) (hY : WordStart isPrint (peekOf Y)) :
    WordStart isPrint (peekOf (chunkText isPrint ps ++ Y)) := by
  cases ps with
  | nil => simpa [chunkText] using hY
  | cons p ps' =>
    obtain ⟨h2, h1⟩ := hps p List.mem_cons_self
    rw [chunkText_cons, List.append_assoc, List.append_assoc]
    exact pipeText_start isPrint p.1 h1 _ (lineText_start isPrint p.2 _ (fun h => absurd h h2))

theorem chunkText_length (isPrint : Int → Bool) :
    ∀ ps : List (List (List (Bytes × Int)) × List (Bytes × Int)), ps.length ≤ (chunkText isPrint ps).length
  | [] => Nat.le_refl _
  | p :: ps => by
    have := chunkText_length isPrint ps
    rw [chunkText_cons]
    simp only [List.length_cons, List.length_append]
    omega

theorem parseSeps_semi {e : C01.Env} {s s' : St} {Y : Bytes} {nb : NB} {x : Nat × NB}
    (hat : At e s (59 :: 32 :: Y)) (hY : WordStart e.isPrint (peekOf Y))
    (h : parseSeps nb e s = .ok x s') : x.1 = 1 ∧ s' = adv s 2 ∧ Ext nb x.2 := by
  have hext := parseSeps_ext.ext h
  obtain ⟨k, hk⟩ : ∃ k, e.src.length + 2 = k + 3 := ⟨e.src.length - 1, by
    have hlen := hat.len
    simp only [List.length_cons] at hlen
    omega⟩
  unfold parseSeps at h
  rw [bind_of_eq (loopFuel_eq e s), hk] at h
  unfold parseSepsLoop at h
  rw [bind_of_eq (peek_at hat), peekOf_byte 59 59] at h
  simp only [show isPipelineSep 59 = true by decide, if_true] at h
  obtain ⟨x1, s1, hx1, h⟩ := C02.bind_ok.1 h
  obtain ⟨_, hs1, _⟩ := parseSep_yes 59 59 hat hx1
  subst hs1
  obtain ⟨ok1, nb1⟩ := x1
  simp only at h
  unfold parseSepsLoop at h
  rw [bind_of_eq (peek_at hat.adv1), peekOf_space] at h
  simp only [show isPipelineSep 32 = false by decide, show IsInlineWhitespace 32 = true by decide,
    Bool.false_eq_true, if_false, Bool.true_or, if_true] at h
  obtain ⟨nb2, s2, h2, h⟩ := C02.bind_ok.1 h
  obtain ⟨hs2, _⟩ := parseSpaces_one hat.adv1 hY.next h2
  subst hs2
  unfold parseSepsLoop at h
  rw [bind_of_eq (peek_at hat.adv1.adv1)] at h
  simp only [hY.facts.nsep, hY.next.nb, hY.next.n35, Bool.false_eq_true, if_false, Bool.or_self] at h
  obtain ⟨hx, hs'⟩ := ok_pure_inv h
  rw [← hx] at hext ⊢
  exact ⟨rfl, by rw [← hs', adv_adv], hext⟩

theorem chunk_walk {e : C01.Env} (f : Nat) (Y : Bytes) (hY : WordStart e.isPrint (peekOf Y)) :
    ∀ (ps : List (List (List (Bytes × Int)) × List (Bytes × Int))), ScriptOk ps →
      ∀ (N : Nat) (nb nbR : NB) (s sR : St), ps.length < N → At e s (chunkText e.isPrint ps ++ Y) →
      chunkLoop (fun nt' => parseNT (f + 5) nt') N nb e s = .ok nbR sR →
      ∃ nb', Ext nb nb' ∧
        chunkLoop (fun nt' => parseNT (f + 5) nt') (N - ps.length) nb' e (adv s (chunkText e.isPrint ps).length) =
          .ok nbR sR := by
  intro ps
  induction ps with
  | nil =>
    intro _ N nb nbR s sR _ _ h
    exact ⟨nb, Ext.refl _, by simpa [chunkText, adv_zero] using h⟩
  | cons p ps ih =>
    intro hps N nb nbR s sR hN hat h
    obtain ⟨N, rfl⟩ : ∃ N', N = N' + 1 := ⟨N - 1, by omega⟩
    obtain ⟨hp2, hp1⟩ := hps p List.mem_cons_self
    have hps' : ScriptOk ps := fun q hq => hps q (List.mem_cons_of_mem _ hq)
    obtain ⟨fs, ws⟩ := p
    simp only at hp1 hp2
    obtain ⟨w, ws', rfl⟩ := List.exists_cons_of_ne_nil hp2
    have hstart := chunkText_start e.isPrint ((fs, w :: ws') :: ps) hps Y hY
    rw [chunkText_cons, List.append_assoc, List.append_assoc] at hat hstart
    simp only at hat hstart
    unfold chunkLoop at h
    rw [bind_of_eq (getEnv_eq e s), bind_of_eq (peek_at hat)] at h
    simp only [hstart.facts.pipeline, if_true] at h
    obtain ⟨P1, s1, hP1, h⟩ := C02.bind_ok.1 h
    have hs1 := pipeline_done f fs hp1 w ws' (Or.inl rfl) _ s s1 P1 hat hP1
    subst hs1
    obtain ⟨x, s2, hx, h⟩ := C02.bind_ok.1 h
    have hat1 : At e (adv s ((pipeText e.isPrint fs).length + (lineText e.isPrint (w :: ws')).length))
        (59 :: 32 :: (chunkText e.isPrint ps ++ Y)) := by
      have := hat.adv.adv
      rwa [adv_adv] at this
    obtain ⟨hx1, hs2, hext2⟩ := parseSeps_semi hat1 (chunkText_start e.isPrint ps hps' Y hY) hx
    subst hs2
    obtain ⟨k, nb2⟩ := x
    simp only at hx1 hext2 h
    subst hx1
    simp only [show ((1 : Nat) == 0) = false from rfl, Bool.false_eq_true, if_false] at h
    obtain ⟨nb', hext', h'⟩ := ih hps' N nb2 nbR _ sR (by simp only [List.length_cons] at hN; omega) hat1.adv1.adv1 h
    refine ⟨nb', (Ext.add nb P1).trans (hext2.trans hext'), ?_⟩
    have e2 : (chunkText e.isPrint ((fs, w :: ws') :: ps)).length =
        (pipeText e.isPrint fs).length + (lineText e.isPrint (w :: ws')).length + 1 + 1 +
          (chunkText e.isPrint ps).length := by
      rw [chunkText_cons]
      simp only [List.length_append, List.length_cons]
      omega
    rw [e2]
    simpa [adv_adv, Nat.add_assoc] using h'

/-- the `Chunk` node has, among its children, the `Pipeline` parsed at the start of the current pipeline -/
theorem chunk_target {e : C01.Env} (f : Nat) (ps : List (List (List (Bytes × Int)) × List (Bytes × Int)))
    (hps : ScriptOk ps) (Y : Bytes) (hY : WordStart e.isPrint (peekOf Y)) :
    Down e (f + 6) .chunk (chunkText e.isPrint ps) (f + 5) .pipeline Y := by
  intro s sc c hat h
  rw [parseNT_succ] at h
  obtain ⟨nb, text, hb, rfl⟩ := wrap_ok' h
  simp only [body] at hb
  unfold chunkBody at hb
  rw [bind_of_eq (parseSeps_none _ hat (chunkText_start e.isPrint ps hps Y hY))] at hb
  simp only at hb
  rw [bind_of_eq (loopFuel_eq e s)] at hb
  have hfuel : ps.length < e.src.length + 2 := by
    have := chunkText_length e.isPrint ps
    have hlen := hat.len
    simp only [List.length_append] at hlen
    omega
  obtain ⟨nb', hext', h'⟩ := chunk_walk f Y hY ps hps _ _ nb s sc hfuel hat hb
  rw [show e.src.length + 2 - ps.length = (e.src.length + 1 - ps.length) + 1 by omega] at h'
  unfold chunkLoop at h'
  rw [bind_of_eq (getEnv_eq e _), bind_of_eq (peek_at hat.adv)] at h'
  simp only [hY.facts.pipeline, if_true] at h'
  obtain ⟨p, sp, hp, h'⟩ := C02.bind_ok.1 h'
  obtain ⟨x, s2, hx, h'⟩ := C02.bind_ok.1 h'
  have hextx := parseSeps_ext.ext hx
  obtain ⟨k, nb1⟩ := x
  simp only at h' hextx
  have hfin : Ext nb1 nb := by
    split at h'
    · rw [← (ok_pure_inv h').1]; exact Ext.refl _
    · exact (chunkLoop_ext _ _ _).ext h'
  have hall : Ext (nb'.add p) nb := hextx.trans hfin
  exact ⟨rfl, hall.1.trans hext'.1, p, _, sp, hall.mem_of_add, hat.adv, hp⟩

end C43
