/-
What the rest of a run keeps.  The text after the inserted word is arbitrary, so
the part of the parser's run behind it is only known to return (C01: `Parse` is
total); every grammar function keeps `From` and the children it had already
added (`Ext`), which is enough to find the word in the final tree.
-/
import ElvProofs.C02.Framework
namespace C43
open Go C01
open Gen.C01Chars

def Ext (nb nb' : NB) : Prop := nb'.frm = nb.frm ∧ ∃ l, nb'.children = nb.children ++ l

theorem Ext.refl (nb : NB) : Ext nb nb := ⟨rfl, [], by simp⟩

theorem Ext.trans {a b c : NB} (h1 : Ext a b) (h2 : Ext b c) : Ext a c := by
  obtain ⟨f1, l1, e1⟩ := h1
  obtain ⟨f2, l2, e2⟩ := h2
  exact ⟨f2.trans f1, l1 ++ l2, by rw [e2, e1, List.append_assoc]⟩

theorem Ext.add (nb : NB) (x : Node) : Ext nb (nb.add x) := ⟨rfl, [x], rfl⟩

theorem Ext.mem_of_add {nb nb' : NB} {x : Node} (h : Ext (nb.add x) nb') : x ∈ nb'.children := by
  obtain ⟨_, l, hl⟩ := h
  rw [hl]
  simp [NB.add]

theorem Ext.of_eq {a b : NB} (hf : b.frm = a.frm) (hc : b.children = a.children) : Ext a b :=
  ⟨hf, [], by simp [hc]⟩

def ExtTo (n : Nat) (nb nb' : NB) : Prop := Ext nb nb' ∧ ∀ x ∈ nb'.children, x ∈ nb.children ∨ x.to ≤ n

theorem ExtTo.refl (n : Nat) (nb : NB) : ExtTo n nb nb := ⟨Ext.refl nb, fun _ hx => Or.inl hx⟩

theorem ExtTo.mono {n m : Nat} {a b : NB} (h : ExtTo n a b) (hnm : n ≤ m) : ExtTo m a b :=
  ⟨h.1, fun x hx => (h.2 x hx).imp_right fun hx => Nat.le_trans hx hnm⟩

theorem ExtTo.trans {n m : Nat} {a b c : NB} (h1 : ExtTo n a b) (h2 : ExtTo m b c) (hnm : n ≤ m) : ExtTo m a c := by
  refine ⟨h1.1.trans h2.1, fun x hx => ?_⟩
  rcases h2.2 x hx with hx | hx
  · rcases h1.2 x hx with hx | hx
    · exact Or.inl hx
    · exact Or.inr (Nat.le_trans hx hnm)
  · exact Or.inr hx

theorem ExtTo.add {n : Nat} (nb : NB) {x : Node} (hx : x.to ≤ n) : ExtTo n nb (nb.add x) := by
  refine ⟨Ext.add nb x, fun y hy => ?_⟩
  simp only [NB.add, List.mem_append, List.mem_singleton] at hy
  rcases hy with hy | rfl
  · exact Or.inl hy
  · exact Or.inr hx

theorem ok_pure_inv {α} {a b : α} {e : C01.Env} {s s' : St} (h : (pure a : M α) e s = .ok b s') : a = b ∧ s = s' := by
  simp only [pure_apply, Out.ok.injEq] at h
  exact h

theorem addSep_facts {nb nb' : NB} {e : C01.Env} {s s' : St} (h : addSep nb e s = .ok nb' s') :
    s' = s ∧ (nb' = nb ∨ ∃ b t, nb' = nb.add (.mk .sep b s.pos t {} [])) := by
  unfold addSep at h
  rw [bind_of_eq (getPos_eq e s)] at h
  split at h
  · obtain ⟨t, s1, h1, h2⟩ := C02.bind_ok.1 h
    have hs1 := C02.Pure.sliceSrc _ _ e s t s1 h1
    obtain ⟨h3, h4⟩ := ok_pure_inv h2
    subst hs1
    exact ⟨h4.symm, Or.inr ⟨_, t, h3.symm⟩⟩
  · obtain ⟨h3, h4⟩ := ok_pure_inv h
    exact ⟨h4.symm, Or.inl h3.symm⟩

/-- every run of `m` that returns, returns a builder (the `π`-part of its
result) that extends `nb` -/
structure Keeps {α} (π : α → NB) (nb : NB) (m : M α) : Prop where
  ext : ∀ {e : C01.Env} {s : St} {a : α} {s' : St}, m e s = .ok a s' → Ext nb (π a)

theorem Keeps.pure {α} {π : α → NB} {nb : NB} {a : α} (h : Ext nb (π a)) : Keeps π nb (pure a : M α) :=
  ⟨fun hr => by rw [← (ok_pure_inv hr).1]; exact h⟩

theorem Keeps.fuel {α} {π : α → NB} {nb : NB} : Keeps π nb (outOfFuel : M α) :=
  ⟨fun hr => by cases hr⟩

theorem Keeps.bind {α β} {π : β → NB} {nb : NB} {m : M α} {f : α → M β} (h : ∀ a, Keeps π nb (f a)) :
    Keeps π nb (m >>= f) := by
  refine ⟨fun hr => ?_⟩
  obtain ⟨a, s1, _, h2⟩ := C02.bind_ok.1 hr
  exact (h a).ext h2

theorem Keeps.seq {α β} {π : α → NB} {ρ : β → NB} {nb : NB} {m : M α} {f : α → M β} (hm : Keeps π nb m)
    (hf : ∀ a, Keeps ρ (π a) (f a)) : Keeps ρ nb (m >>= f) := by
  refine ⟨fun hr => ?_⟩
  obtain ⟨a, s1, h1, h2⟩ := C02.bind_ok.1 hr
  exact (hm.ext h1).trans ((hf a).ext h2)

theorem Keeps.mono {α} {π : α → NB} {nb nb1 : NB} {m : M α} (h01 : Ext nb nb1) (h : Keeps π nb1 m) : Keeps π nb m :=
  ⟨fun hr => h01.trans (h.ext hr)⟩

theorem addSep_ext {nb : NB} : Keeps id nb (addSep nb) := by
  refine ⟨fun {e s nb' s'} h => ?_⟩
  rcases (addSep_facts h).2 with rfl | ⟨b, t, rfl⟩
  · exact Ext.refl _
  · exact Ext.add _ _

theorem parseSep_ext {nb : NB} {sep : Int} : Keeps Prod.snd nb (parseSep nb sep) := by
  unfold parseSep
  refine .bind fun r => ?_
  split
  · exact .bind fun _ => .seq addSep_ext fun nb1 => .pure (Ext.refl _)
  · exact .pure (Ext.refl _)

theorem parseSpacesInner_ext {nb : NB} {nl : Bool} : Keeps id nb (parseSpacesInner nb nl) :=
  .bind fun _ => .bind fun _ => addSep_ext

theorem parseSpaces_ext {nb : NB} : Keeps id nb (parseSpaces nb) := parseSpacesInner_ext

theorem formLoop_ext (rec : NT → M Node) : ∀ (n : Nat) (nb : NB), Keeps id nb (formLoop rec n nb)
  | 0, _ => .fuel
  | n + 1, nb => by
    -- every branch that goes on adds a node, skips blanks and loops
    have step : ∀ x : Node, Keeps id nb (parseSpaces (nb.add x) >>= fun nb => formLoop rec n nb) := fun x =>
      (Keeps.seq parseSpaces_ext fun nb1 => formLoop_ext rec n nb1).mono (Ext.add nb x)
    unfold formLoop
    refine .bind fun env => .bind fun r => ?_
    split
    · refine .bind fun _ => .bind fun r2 => .bind fun _ => ?_
      split
      · exact .pure (Ext.refl _)
      · exact .bind fun mp => step mp
    · split
      · refine .bind fun cn => .bind fun r' => ?_
        split
        · exact .bind fun rd => step rd
        · exact step cn
      · split
        · exact .bind fun rd => step rd
        · exact .pure (Ext.refl _)

theorem formBody_ext {rec : NT → M Node} {nb : NB} : Keeps id nb (formBody rec nb) :=
  .bind fun hd => (Keeps.seq parseSpaces_ext fun nb1 => .bind fun k => formLoop_ext rec k nb1).mono (Ext.add nb hd)

theorem pipelineLoop_ext (rec : NT → M Node) : ∀ (n : Nat) (nb : NB), Keeps Prod.snd nb (pipelineLoop rec n nb)
  | 0, _ => .fuel
  | n + 1, nb => by
    unfold pipelineLoop
    refine .bind fun env => .seq parseSep_ext fun x => ?_
    obtain ⟨ok, nb1⟩ := x
    simp only
    split
    · refine .seq parseSpacesInner_ext fun nb2 => .bind fun r => ?_
      split
      · exact .bind fun _ => .pure (Ext.refl _)
      · exact .bind fun f => (pipelineLoop_ext rec n _).mono (Ext.add _ f)
    · exact .pure (Ext.refl _)

theorem parseSepsLoop_ext : ∀ (n k : Nat) (nb : NB), Keeps Prod.snd nb (parseSepsLoop n k nb)
  | 0, _, _ => .fuel
  | n + 1, k, nb => by
    unfold parseSepsLoop
    refine .bind fun c => ?_
    split
    · refine .seq parseSep_ext fun x => ?_
      obtain ⟨ok, nb1⟩ := x
      exact parseSepsLoop_ext n _ nb1
    · split
      · exact .seq parseSpaces_ext fun nb1 => parseSepsLoop_ext n k nb1
      · exact .pure (Ext.refl _)

theorem parseSeps_ext {nb : NB} : Keeps Prod.snd nb (parseSeps nb) :=
  .bind fun k => parseSepsLoop_ext k 0 nb

theorem chunkLoop_ext (rec : NT → M Node) : ∀ (n : Nat) (nb : NB), Keeps id nb (chunkLoop rec n nb)
  | 0, _ => .fuel
  | n + 1, nb => by
    unfold chunkLoop
    refine .bind fun env => .bind fun r => ?_
    split
    · refine .bind fun p => (Keeps.seq parseSeps_ext fun x => ?_).mono (Ext.add nb p)
      obtain ⟨k, nb1⟩ := x
      simp only
      split
      · exact .pure (Ext.refl _)
      · exact chunkLoop_ext rec n nb1
    · exact .pure (Ext.refl _)

theorem compoundLoop_ext (rec : NT → M Node) (ctx : Int) : ∀ (n : Nat) (nb : NB), Keeps id nb (compoundLoop rec ctx n nb)
  | 0, _ => .fuel
  | n + 1, nb => by
    unfold compoundLoop
    refine .bind fun env => .bind fun r => ?_
    split
    · exact .bind fun i => (compoundLoop_ext rec ctx n _).mono (Ext.add nb i)
    · exact .pure (Ext.refl _)

theorem indexingLoop_ext (rec : NT → M Node) : ∀ (n : Nat) (nb : NB), Keeps id nb (indexingLoop rec n nb)
  | 0, _ => .fuel
  | n + 1, nb => by
    unfold indexingLoop
    refine .bind fun env => .seq parseSep_ext fun x => ?_
    obtain ⟨ok, nb1⟩ := x
    simp only
    split
    · refine .bind fun r => .bind fun _ => .bind fun a => (Keeps.seq parseSep_ext fun y => ?_).mono (Ext.add nb1 a)
      obtain ⟨ok2, nb2⟩ := y
      simp only
      split
      · exact .bind fun _ => .pure (Ext.refl _)
      · exact indexingLoop_ext rec n nb2
    · exact .pure (Ext.refl _)

theorem setMode_ext {nb : NB} {sign : Bytes} : Keeps id nb (setMode nb sign) := by
  unfold setMode
  split
  · exact .pure (Ext.of_eq rfl rfl)
  · exact .bind fun _ => .pure (Ext.refl _)

theorem redirRest_ext {rec : NT → M Node} {nb : NB} : Keeps id nb (redirRest rec nb) := by
  unfold redirRest
  refine .bind fun b => .bind fun k => .bind fun _ => .bind fun pos => .bind fun sign => .seq setMode_ext fun nb1 =>
    .seq addSep_ext fun nb2 => .seq parseSpaces_ext fun nb3 => .seq parseSep_ext fun x => ?_
  obtain ⟨isFd, nb4⟩ := x
  simp only
  have hfd : Ext nb4 (if isFd = true then { nb4 with f := { nb4.f with flag := true } } else nb4) := by
    split
    · exact Ext.of_eq rfl rfl
    · exact Ext.refl _
  refine .bind fun right => ?_
  split
  · exact .bind fun _ => .pure (hfd.trans (Ext.add _ right))
  · exact .pure (hfd.trans (Ext.add _ right))

/-- inversion of the generic wrapper `parse[N]` -/
theorem wrap_ok' {rec : NT → M Node} {nt : NT} {e : C01.Env} {s s' : St} {node : Node}
    (h : wrap rec nt e s = .ok node s') :
    ∃ nb text, body rec nt { frm := s.pos, f := nt.init, children := [] } e s = .ok nb s' ∧
      node = .mk nt.kind nb.frm s'.pos text nb.f nb.children := by
  unfold wrap at h
  rw [bind_of_eq (getPos_eq e s)] at h
  obtain ⟨nb, s1, h1, h⟩ := C02.bind_ok.1 h
  rw [bind_of_eq (getPos_eq e s1)] at h
  obtain ⟨text, s2, h2, h⟩ := C02.bind_ok.1 h
  have e2 := C02.Pure.sliceSrc _ _ e s1 text s2 h2
  obtain ⟨h3, h4⟩ := ok_pure_inv h
  subst e2
  subst h4
  exact ⟨nb, text, h1, h3.symm⟩

theorem parseNT_succ (n : Nat) (nt : NT) : parseNT (n + 1) nt = wrap (fun nt' => parseNT n nt') nt := rfl

theorem form_frm {e : C01.Env} {f : Nat} {s sR : St} {F : Node} (h : parseNT (f + 1) .form e s = .ok F sR) :
    F.frm = s.pos := by
  rw [parseNT_succ] at h
  obtain ⟨nb, text, hb, rfl⟩ := wrap_ok' h
  simp only [body] at hb
  exact (formBody_ext.ext hb).1

theorem redir_left {e : C01.Env} {f : Nat} {s s' : St} {cn rd : Node}
    (h : parseNT (f + 1) (.redir (some cn)) e s = .ok rd s') :
    rd.kind = .redir ∧ rd.frm = cn.frm ∧ cn ∈ rd.children := by
  rw [parseNT_succ] at h
  obtain ⟨nb, text, hb, rfl⟩ := wrap_ok' h
  simp only [body, redirBody, attachLeft] at hb
  have hall : Ext (NB.add { frm := cn.frm, f := (NT.redir (some cn)).init, children := [] } cn) nb :=
    redirRest_ext.ext hb
  exact ⟨rfl, hall.1, hall.mem_of_add⟩

end C43
