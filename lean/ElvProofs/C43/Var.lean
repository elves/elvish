/-
Variable-name candidates.  They are inserted verbatim (`noQuoteItem`) after `$`,
the sigil and the namespace; this file runs `(*Primary).variable` of the C01
parser in place on `$` followed by a name made of variable-name runes.
-/
import ElvProofs.C43.Step
namespace C43
open Go C01
open Gen.C01Chars

/-- the node `parse(ps, &Primary{ExprCtx: ctx})` returns for `$name` -/
def varNode (ctx : Int) (frm : Nat) (name : Bytes) : Node :=
  .mk .primary frm (frm + (1 + name.length)) (36 :: name) { ctx := ctx, ptype := Variable, value := name } []

def PlainVarName (isPrint : Int → Bool) (name : Bytes) : Prop :=
  validUtf8 name = true ∧ ∃ r0 rs, toRunes name = r0 :: rs ∧
    (allowedInVariableName isPrint (r0 : Int) = true ∨ r0 = 64) ∧
    ∀ r ∈ rs, allowedInVariableName isPrint (r : Int) = true

theorem variable_rt (isPrint : Int → Bool) (name : Bytes) (ctx : Int) (pre rest : Bytes) (k : Nat) (errs : List PErr)
    (hname : PlainVarName isPrint name) (hstop : allowedInVariableName isPrint (peekOf rest) = false) :
    parsePrimary isPrint (pre ++ (36 :: name) ++ rest) ctx { pos := pre.length, overEOF := k, errors := errs } =
      .ok (varNode ctx pre.length name) { pos := pre.length + (1 + name.length), overEOF := k, errors := errs } := by
  obtain ⟨hvalid, r0, rs, hrs, h0, hall⟩ := hname
  have hw : encodeRunes (r0 :: rs) = name := by rw [← hrs]; exact encodeRunes_toRunes hvalid
  have hv : ∀ r ∈ r0 :: rs, validRune r = true := fun r hr => toRunes_validRune name r (by rw [hrs]; exact hr)
  have hfuel : defaultFuel (pre ++ (36 :: name) ++ rest) = (7 * (pre ++ (36 :: name) ++ rest).length + 7) + 1 := by
    unfold defaultFuel; omega
  unfold parsePrimary runNT varNode
  rw [hfuel, ← hw, Nat.add_comm 1]
  exact C03.primary_variable_at (rest := rest) ctx _ (hv r0 List.mem_cons_self) h0
    (fun r hr => ⟨hv r (List.mem_cons_of_mem _ hr), hall r hr⟩) hstop ⟨by simp, by simp⟩

end C43
