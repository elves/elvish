/-
C31 — Terminal input decoding is total and lossless for plain text.

Model: `ElvModel/C31/Model.lean` (`readRune`, `readEvent`, `ReadRawEvent`, the
reader loop `events`) over a source of bytes and pauses; vocabulary of the
statements: `ElvModel/C31/Spec.lean`.
Every theorem holds for every content of the key tables (`T : Tables`).
-/
import ElvProofs.C31.Call
open Go C31

/-- The property at full strength, over the model.  For every key table and
every finite stream of bytes and pauses:
* the reader loop never stalls, every call ends in an event or an error (no
  panic, no exhausted loop), consumes at least one item, performs exactly one
  untimed read — its first — and only reads with a finite timeout after it,
  and the calls together consume exactly the stream;
* a stream of plain characters (scalar values ≥ 0x20 other than DEL), each
  preceded by any number of pauses, decodes to exactly one unmodified key
  event per character, in order. -/
def C31_full : Prop :=
  ∀ T : Tables,
    (∀ items : List Item,
      (∀ e ∈ events (readEvent T) items, ∃ c, e = some c ∧ c.ok) ∧
        consumedSum (events (readEvent T) items) = items.length) ∧
    (∀ cs : List (Nat × Nat), (∀ gc ∈ cs, plain gc.2) →
      outcomes (events (readEvent T) (gapTextItems cs)) = cs.map fun gc => keyOf gc.2)

/-- No slice access of `readEvent`/`parseCSI` (`nums[cur]`, `nums[0..2]`) can
panic, whatever the input and however the CSI numbers wrap around. -/
theorem C31_no_panic (T : Tables) (s : Src) (w : String) : ((readEvent T).run s).1 ≠ .panic w := by
  intro h
  have := (readEvent_callSpec T s).1
  rw [h] at this
  exact this

/-- The fuel given to the `CSISeq` loop (items left + 2) is always enough:
every iteration but the last consumes an item. -/
theorem C31_fuel_sufficient (T : Tables) (s : Src) : ((readEvent T).run s).1 ≠ .fuel := by
  intro h
  have := (readEvent_callSpec T s).1
  rw [h] at this
  exact this

/-- One `ReadEvent` call on a non-empty stream: it returns an event or an
error, consumes at least one and at most all items (the rest is the stream
minus what was consumed), and its reads are one untimed read followed by
reads with a finite timeout only. -/
theorem C31_call_total (T : Tables) (items : List Item) (hne : items ≠ []) :
    (call (readEvent T) items).1.ok ∧
      (call (readEvent T) items).1.consumed ≤ items.length ∧
      (call (readEvent T) items).2 = items.drop (call (readEvent T) items).1.consumed :=
  call_spec (readEvent_callSpec T) items hne

example : ([Item.byte 0x1b, Item.byte 0x5b, Item.gap] : List Item) ≠ [] := by simp

/-- On an exhausted stream the call reports the source's error. -/
theorem C31_call_empty (T : Tables) : (call (readEvent T) []).1.out = .err (.read .eof) := rfl

/-- The reader loop never stalls and consumes exactly the stream. -/
theorem C31_loop_total (T : Tables) (items : List Item) :
    (∀ e ∈ events (readEvent T) items, ∃ c, e = some c ∧ c.ok) ∧
      consumedSum (events (readEvent T) items) = items.length :=
  eventsFuel_total (readEvent_callSpec T) items.length items (Nat.le_refl _)

/-- The same for the raw reader (`ReadRawEvent`). -/
theorem C31_raw_loop_total (items : List Item) :
    (∀ e ∈ events readRawEvent items, ∃ c, e = some c ∧ c.ok) ∧
      consumedSum (events readRawEvent items) = items.length :=
  eventsFuel_total readRawEvent_callSpec items.length items (Nat.le_refl _)

/-- Plain text with pauses between characters: one unmodified key event per
character, in order, nothing else. -/
theorem C31_lossless_with_pauses (T : Tables) (cs : List (Nat × Nat)) (hp : ∀ gc ∈ cs, plain gc.2) :
    outcomes (events (readEvent T) (gapTextItems cs)) = cs.map fun gc => keyOf gc.2 :=
  eventsFuel_gapText _ (readEvent_decodesPlain T) cs hp _ (length_le_gapTextItems cs)

example : ∀ gc ∈ [(0, 0x61), (2, 0xe9), (0, 0x4f60), (1, 0x1f600), (0, 0x20), (0, 0x7e), (3, 0x10ffff)], plain gc.2 := by
  decide

/-- Plain text arriving without pauses. -/
theorem C31_lossless (T : Tables) (cs : List Nat) (hp : ∀ c ∈ cs, plain c) :
    outcomes (events (readEvent T) (textItems cs)) = cs.map keyOf := by
  rw [textItems_eq_gapTextItems]
  have := C31_lossless_with_pauses T (cs.map fun c => (0, c)) (by
    intro gc h
    obtain ⟨c, hc, rfl⟩ := List.mem_map.mp h
    exact hp c hc)
  rw [this, List.map_map]
  rfl

example : ∀ c ∈ [0x61, 0xe9, 0x4f60, 0x1f600, 0x5b, 0x4f], plain c := by decide

/-- The raw reader is lossless on plain text as well. -/
theorem C31_raw_lossless (cs : List (Nat × Nat)) (hp : ∀ gc ∈ cs, plain gc.2) :
    outcomes (events readRawEvent (gapTextItems cs)) = cs.map fun gc => keyOf gc.2 :=
  eventsFuel_gapText _ readRawEvent_decodesPlain cs hp _ (length_le_gapTextItems cs)

/-- The property at full strength. -/
theorem C31_full_holds : C31_full :=
  fun T => ⟨C31_loop_total T, C31_lossless_with_pauses T⟩

/-- Sharpness of the hypothesis "pauses only between characters": a pause
longer than the per-byte timeout inside a character does lose it (the
timeouts are the documented behaviour, so this is outside the property). -/
theorem C31_pause_inside_character (T : Tables) :
    outcomes (events (readEvent T) [.byte 0xc3, .gap, .byte 0xa9]) =
      [some (.err (.read .timeout)), some (.event (.key (K 96 ctrl)))] := by
  rfl
