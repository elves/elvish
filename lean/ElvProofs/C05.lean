/-
C05 — typed numbers survive to-string/num; every documented literal parses;
non-numbers are rejected.  ElvModel/C05/Model.lean models `vals.ParseNum`/`ToString` and the
math/big and strconv scanners under them; the literal grammars are ElvModel/C05/Spec.lean
(documented syntaxes) and Grammar.lean (everything the library scanners take).
-/
import ElvProofs.C05.Print
import ElvProofs.C05.Format
import ElvProofs.C05.Flank
import ElvProofs.C05.Classes
open Go C05

/-- (1) Exact numbers survive to-string/num with the same representation:
for every canonical int / big int / rational `x`, `ParseNum (ToString x) = x`.
Unbounded in the size of the number. -/
theorem C05_exact_roundtrip (L : Strconv) (x : Num) (h : x.CanonicalExact) :
    parseNum (C05.toString L x) = some x := by
  cases x with
  | int i => simp only [C05.toString, parseNum_intToDec, normalizeBigInt]; simp [Num.CanonicalExact] at h; simp [h]
  | big i => simp only [C05.toString, parseNum_intToDec, normalizeBigInt]; simp [Num.CanonicalExact] at h; simp [h]
  | rat q => simp only [C05.toString, parseNum_ratToString, normalizeBigRat]; simp [Num.CanonicalExact] at h; simp [h]
  | float f => exact absurd h (by simp [Num.CanonicalExact])

-- non-vacuity: 2^63 (a big int), and -7/3
example : (Num.big 9223372036854775808).CanonicalExact := by simp [Num.CanonicalExact, fitsInt]
example : (Num.rat (mkRat (-7) 3)).CanonicalExact := by
  show (mkRat (-7) 3).den ≠ 1
  decide

/-- (1b) The boundary of the machine-int representation: `NormalizeBigInt`
(hence ParseNum, which ends in it) gives a Go `int` exactly on
[MinInt64, MaxInt64] and a `*big.Int` exactly outside — so `-2^63` itself is an
`int` (the seeded change `C05-minint-not-normalised` keeps it big). -/
theorem C05_normalize_int_range (z : Int) :
    (normalizeBigInt z = .int z ↔ (-9223372036854775808 ≤ z ∧ z ≤ 9223372036854775807)) ∧
    (normalizeBigInt z = .big z ↔ (z < -9223372036854775808 ∨ 9223372036854775807 < z)) := by
  unfold normalizeBigInt fitsInt
  by_cases h : (-9223372036854775808 ≤ z ∧ z ≤ 9223372036854775807)
  · simp [h]
  · have : (decide (-9223372036854775808 ≤ z) && decide (z ≤ 9223372036854775807)) = false := by simpa using h
    simp [this]; omega

/-- the same for rationals: an integral `*big.Rat` is an `int` exactly on the machine range -/
theorem C05_normalize_rat_int_range (z : Int) :
    normalizeBigRat (mkRat z 1) = normalizeBigInt z := by
  have h1 : (mkRat z 1).den = 1 := by simp [Rat.mkRat_one]
  have h2 : (mkRat z 1).num = z := by simp [Rat.mkRat_one]
  simp [normalizeBigRat, h1, h2]

-- both boundary values, and their neighbours outside
example : normalizeBigInt (-9223372036854775808) = .int (-9223372036854775808) := by decide
example : normalizeBigInt 9223372036854775807 = .int 9223372036854775807 := by decide
example : normalizeBigInt (-9223372036854775809) = .big (-9223372036854775809) := by decide
example : normalizeBigInt 9223372036854775808 = .big 9223372036854775808 := by decide
-- through ParseNum: "-9223372036854775808", "-0x8000000000000000", "-9223372036854775808/1", "9223372036854775807"
example : parseNum [0x2D,0x39,0x32,0x32,0x33,0x33,0x37,0x32,0x30,0x33,0x36,0x38,0x35,0x34,0x37,0x37,0x35,0x38,0x30,0x38]
    = some (.int (-9223372036854775808)) := by decide +kernel
example : parseNum [0x2D,0x30,0x78,0x38,0x30,0x30,0x30,0x30,0x30,0x30,0x30,0x30,0x30,0x30,0x30,0x30,0x30,0x30,0x30]
    = some (.int (-9223372036854775808)) := by decide +kernel
example : parseNum [0x2D,0x39,0x32,0x32,0x33,0x33,0x37,0x32,0x30,0x33,0x36,0x38,0x35,0x34,0x37,0x37,0x35,0x38,0x30,0x38,0x2F,0x31]
    = some (.int (-9223372036854775808)) := by decide +kernel
example : parseNum [0x39,0x32,0x32,0x33,0x33,0x37,0x32,0x30,0x33,0x36,0x38,0x35,0x34,0x37,0x37,0x35,0x38,0x30,0x37]
    = some (.int 9223372036854775807) := by decide +kernel
example : parseNum [0x2D,0x39,0x32,0x32,0x33,0x33,0x37,0x32,0x30,0x33,0x36,0x38,0x35,0x34,0x37,0x37,0x35,0x38,0x30,0x39]
    = some (.big (-9223372036854775809)) := by decide +kernel

/-- (2) Floats survive to-string/num as *floats*, bit for bit (NaN ↦ NaN), for
every bit pattern `f` for which strconv behaves as assumed (`strconvOKAt`:
its `'f'`/`'e'` shortest outputs have the shapes `-?d+(.d+)?` / `-?d(.d+)?e[+-]dd+`,
`NaN`, `±Inf`, and parse back to `f`).  What is proved is elvish's own part:
the `'f'`/`'e'` switch and the `.0` suffix never produce a string that the
rational or the integer grammar takes, and `.0` does not change the value. -/
theorem C05_float_roundtrip (L : Strconv) (f : Nat) (hf : f < 2 ^ 64) (hL : strconvOKAt L f = true) :
    parseNum (C05.toString L (.float f)) = some (.float (if isNaN f then nanBits else f)) := by
  unfold strconvOKAt at hL
  simp only [C05.toString, formatFloat64]
  by_cases hn : isNaN f = true
  · simp only [hn, if_true, beq_iff_eq] at hL ⊢
    rw [hL, wrapper_nan _ _ hn]; decide
  · simp only [hn, Bool.false_eq_true, if_false] at hL ⊢
    by_cases h1 : f = infBits
    · simp only [h1, if_true, beq_iff_eq] at hL ⊢
      rw [hL, wrapper_pinf]; decide
    · simp only [h1, if_false] at hL
      by_cases h2 : f = signBit + infBits
      · simp only [h2, if_true, beq_iff_eq] at hL ⊢
        rw [hL, wrapper_ninf]; decide
      · simp only [h2, if_false, Bool.and_eq_true, beq_iff_eq] at hL
        obtain ⟨⟨⟨hF, hE⟩, pF⟩, pE⟩ := hL
        have hi : isInf f = false := by
          cases h : isInf f with
          | false => rfl
          | true => rcases (isInf_iff hf).mp h with e | e; exact absurd e h1; exact absurd e h2
        have hn' : isNaN f = false := by simpa using hn
        rw [wrapper_finite _ _ _ hn' hi]
        split
        · -- 'e' format
          obtain ⟨c, cs, e, hsg⟩ := eshape_inner_sign hE
          refine parseNum_float ?_ pE
          rw [e]; exact intSetString_none_of_inner_sign hsg
        · split
          · -- no point: ".0" is appended
            rename_i hp
            have hnd : (0x2E : UInt8) ∉ L.fmtF f := by
              intro hm; simp [hm] at hp
            refine parseNum_float (intSetString_none_of_dot (by simp)) ?_
            rw [parseFloat_dot0 _ (fshape_no_dot hF hnd), pF]
          · rename_i hp
            have hd : (0x2E : UInt8) ∈ L.fmtF f := by
              simpa [List.contains_iff_mem] using hp
            exact parseNum_float (intSetString_none_of_dot hd) pF

-- non-vacuity: the hypothesis holds for 1e15 = 0x430c6bf526340000 with Go's
-- outputs "1000000000000000" and "1e+15" (the 'e' switch), and for 3.0
example : strconvOKAt ⟨fun _ => [0x31,0x30,0x30,0x30,0x30,0x30,0x30,0x30,0x30,0x30,0x30,0x30,0x30,0x30,0x30,0x30],
    fun _ => [0x31, 0x65, 0x2B, 0x31, 0x35]⟩ 0x430c6bf526340000 = true := by decide +kernel
example : strconvOKAt ⟨fun _ => [0x33], fun _ => [0x33, 0x65, 0x2B, 0x30, 0x30]⟩ 0x4008000000000000 = true := by
  decide +kernel

/-- (3a) Every integer literal of a documented syntax — optional sign; decimal
without leading zero, `0x`/`0o`/`0b` in either case; digits in either case;
single underscores between digits (and after a base prefix) — is accepted with
exactly its value, in canonical form (`int` when it fits 64 bits, else big). -/
theorem C05_int_literal (l : IntLit) (h : l.wf = true) :
    parseNum l.render = some (normalizeBigInt l.value) :=
  parseNum_gint ⟨l.sign, .lit l.mag⟩ h

-- non-vacuity: "-0X_fF_0"
example : (⟨.minus, ⟨.hex, true, true, ⟨⟨15, false⟩, [(false, ⟨15, true⟩), (true, ⟨0, false⟩)]⟩⟩⟩ : IntLit).wf = true ∧
    (⟨.minus, ⟨.hex, true, true, ⟨⟨15, false⟩, [(false, ⟨15, true⟩), (true, ⟨0, false⟩)]⟩⟩⟩ : IntLit).render =
      [0x2D, 0x30, 0x58, 0x5F, 0x66, 0x46, 0x5F, 0x30] := by decide

/-- (3b) Every rational literal `a/b` (`a` an integer literal, `b` an unsigned
integer literal ≠ 0, each in any documented integer syntax) is accepted with
exactly the value `a/b`, reduced and canonical (an integer when `b ∣ a`). -/
theorem C05_rat_literal (l : RatLit) (h : l.wf = true) :
    parseNum l.render = some (normalizeBigRat l.value) :=
  parseNum_grat ⟨⟨l.num.sign, .lit l.num.mag⟩, .lit l.den⟩ h

/-- (3c) `Inf` (with or without sign), `Infinity` and `NaN` in every letter case. -/
theorem C05_special_literals :
    (∀ a b c : Bool, parseNum [if a then 0x4E else 0x6E, if b then 0x41 else 0x61, if c then 0x4E else 0x6E]
        = some (.float nanBits)) ∧
    (∀ a b c : Bool, parseNum [if a then 0x49 else 0x69, if b then 0x4E else 0x6E, if c then 0x46 else 0x66]
        = some (.float infBits)) ∧
    (∀ a b c : Bool, parseNum [0x2B, if a then 0x49 else 0x69, if b then 0x4E else 0x6E, if c then 0x46 else 0x66]
        = some (.float infBits)) ∧
    (∀ a b c : Bool, parseNum [0x2D, if a then 0x49 else 0x69, if b then 0x4E else 0x6E, if c then 0x46 else 0x66]
        = some (.float (signBit + infBits))) := by
  refine ⟨?_, ?_, ?_, ?_⟩ <;> intro a b c <;> apply parseNum_special <;> revert a b c <;> decide

/-- (3d) at full strength: every decimal / scientific float literal (optional
sign; digits with single underscores between digits; optional fraction;
optional `e`/`E` exponent with optional sign, at most 4 exponent digits; at
least a point or an exponent) is accepted as a float with the IEEE 754
round-to-nearest-even value of the number it denotes — overflow giving ±Inf. -/
def C05_full_float_literals : Prop :=
  ∀ l : DecFloatLit, l.wf = true → parseNum l.render = some (.float l.lit.ieeeBits)

/-- the literal `1e999` -/
def C05_witness_1e999 : DecFloatLit :=
  ⟨.none, ⟨⟨1, false⟩, []⟩, none, some (false, .none, ⟨⟨9, false⟩, [(false, ⟨9, false⟩), (false, ⟨9, false⟩)]⟩)⟩

/-- The unchanged code violates (3d): `num 1e999` is rejected (ParseNum keeps
strconv.ParseFloat's result only when `err == nil`; overflow is `ErrRange`).
Witness replayed on the real code from harness/corpus/C05.txt. -/
theorem C05_counterexample : ¬ C05_full_float_literals := by
  intro h
  have h1 := h C05_witness_1e999 (by decide)
  have h2 : parseNum C05_witness_1e999.render = none := by decide +kernel
  rw [h2] at h1
  exact absurd h1 (by simp)

/-- (3d) for every literal whose rounded value is finite — exactly the
complement of the finding `literal-float-overflow`. -/
theorem C05_float_literal_partial (l : DecFloatLit) (h : l.wf = true) (hfin : l.lit.overflows = false) :
    parseNum l.render = some (.float l.lit.ieeeBits) := by
  rw [parseNum_decFloatLit l h, bits_of_not_overflows hfin]; rfl

/-- what the code does on the excluded class: the literal is rejected -/
theorem C05_float_literal_overflow (l : DecFloatLit) (h : l.wf = true) (hov : l.lit.overflows = true) :
    parseNum l.render = none := by
  rw [parseNum_decFloatLit l h, bits_of_overflows hov]; rfl

-- non-vacuity: "-1_0.2_5E+0_3" is well-formed and finite; it renders as expected
example : (⟨.minus, ⟨⟨1, false⟩, [(true, ⟨0, false⟩)]⟩, some ⟨⟨2, false⟩, [(true, ⟨5, false⟩)]⟩,
    some (true, .plus, ⟨⟨0, false⟩, [(true, ⟨3, false⟩)]⟩)⟩ : DecFloatLit).wf = true := by decide
example : (⟨.minus, ⟨⟨1, false⟩, [(true, ⟨0, false⟩)]⟩, some ⟨⟨2, false⟩, [(true, ⟨5, false⟩)]⟩,
    some (true, .plus, ⟨⟨0, false⟩, [(true, ⟨3, false⟩)]⟩)⟩ : DecFloatLit).render =
    [0x2D, 0x31, 0x5F, 0x30, 0x2E, 0x32, 0x5F, 0x35, 0x45, 0x2B, 0x30, 0x5F, 0x33] := by decide
example : (⟨.minus, ⟨⟨1, false⟩, [(true, ⟨0, false⟩)]⟩, some ⟨⟨2, false⟩, [(true, ⟨5, false⟩)]⟩,
    some (true, .plus, ⟨⟨0, false⟩, [(true, ⟨3, false⟩)]⟩)⟩ : DecFloatLit).lit.overflows = false := by decide +kernel
example : C05_witness_1e999.lit.overflows = true := by decide +kernel

/-- (3a') Every integer syntax `Int.SetString(s, 0)` takes — the documented ones
and Go's legacy octal `0 (_? d)+` (`010`, `0_7`) — parses to its value, canonical. -/
theorem C05_gint_literal (l : GInt) (h : l.wf = true) :
    parseNum l.render = some (normalizeBigInt l.value) :=
  parseNum_gint l h

-- non-vacuity: "-0_17" is the legacy octal -15
example : (⟨.minus, .oct0 [(true, ⟨1, false⟩), (false, ⟨7, false⟩)]⟩ : GInt).wf = true ∧
    (⟨.minus, .oct0 [(true, ⟨1, false⟩), (false, ⟨7, false⟩)]⟩ : GInt).render = [0x2D, 0x30, 0x5F, 0x31, 0x37] ∧
    (⟨.minus, .oct0 [(true, ⟨1, false⟩), (false, ⟨7, false⟩)]⟩ : GInt).value = -15 := by decide

/-- (3b') the same for `a/b` with `a`, `b` in any integer syntax -/
theorem C05_grat_literal (l : GRat) (h : l.wf = true) :
    parseNum l.render = some (normalizeBigRat l.value) :=
  parseNum_grat l h

example : (⟨⟨.none, .oct0 [(false, ⟨1, false⟩), (false, ⟨0, false⟩)]⟩, .lit ⟨.hex, false, false, ⟨⟨10, true⟩, []⟩⟩⟩ : GRat).wf = true ∧
    (⟨⟨.none, .oct0 [(false, ⟨1, false⟩), (false, ⟨0, false⟩)]⟩, .lit ⟨.hex, false, false, ⟨⟨10, true⟩, []⟩⟩⟩ : GRat).render =
      [0x30, 0x31, 0x30, 0x2F, 0x30, 0x78, 0x41] := by decide

/-- (3d') Float literals in full generality — decimal or hexadecimal (`0x1.8p3`),
with or without integer part / fraction digits (`.5`, `5.`), single underscores
between digits and after `0x`, exponent digits of ANY number — that carry a
point or an exponent and whose rounded value is finite are accepted as the
float with the IEEE round-to-nearest-even value of `mant · b^(exp − frac)`,
where `exp` is the exponent AS GO READS IT (`capExp`: digits are dropped once
the exponent has reached 10000). -/
theorem C05_float_literal_general (l : GFloatLit) (h : l.wf = true) (hm : l.marked = true)
    (hfin : l.lit.overflows = false) : parseNum l.render = some (.float l.lit.ieeeBits) := by
  rw [parseNum_gfloat l h hm, bits_of_not_overflows hfin]; rfl

/-- on the overflow class (the known finding) the general literal is rejected -/
theorem C05_float_literal_general_overflow (l : GFloatLit) (h : l.wf = true) (hm : l.marked = true)
    (hov : l.lit.overflows = true) : parseNum l.render = none := by
  rw [parseNum_gfloat l h hm, bits_of_overflows hov]; rfl

/-- Go's exponent cap is inert whenever the written exponent is below 100000
(any number of digits — leading zeros are free): then the value read is the true
value of the literal. -/
theorem C05_float_exponent_cap_inert (l : GFloatLit) (hs : l.expSmall = true) : l.lit = l.trueLit := by
  unfold GFloatLit.trueLit
  cases hx : l.exp with
  | none => simp [GFloatLit.lit, hx]
  | some x =>
    obtain ⟨up, sg, e⟩ := x
    simp only [GFloatLit.expSmall, hx, decide_eq_true_eq] at hs
    simp [GFloatLit.lit, hx, capExp_eq e hs]

/-- (3d') at full strength, with the TRUE value of the exponent digits.  False for
the unchanged code for two reasons: the overflow finding (`C05_counterexample_general`,
`1e999` again), and — only for exponents ≥ 100000 combined with mantissas of
thousands of digits — Go's exponent cap (`0x1` + 2500 zeros + `p-100000` is 2^-90000,
which rounds to 0, but strconv reads the exponent as -10000 and returns 1.0;
replayed on the real code from the corpus; too large for a kernel computation
within the time limit, so no Lean witness). -/
def C05_full_float_literals_general : Prop :=
  ∀ l : GFloatLit, l.wf = true → l.marked = true → parseNum l.render = some (.float l.trueLit.ieeeBits)

/-- `1e999` as a general literal -/
def C05_witness_1e999_general : GFloatLit :=
  ⟨.none, none, some ⟨⟨1, false⟩, []⟩, false, none,
   some (false, .none, ⟨⟨9, false⟩, [(false, ⟨9, false⟩), (false, ⟨9, false⟩)]⟩)⟩

theorem C05_counterexample_general : ¬ C05_full_float_literals_general := by
  intro h
  have h1 := h C05_witness_1e999_general (by decide) (by decide)
  have h2 : parseNum C05_witness_1e999_general.render = none := by decide +kernel
  rw [h2] at h1
  exact absurd h1 (by simp)

/-- the proved part of `C05_full_float_literals_general`: finite rounded value and
written exponent below 100000 -/
theorem C05_float_literal_general_partial (l : GFloatLit) (h : l.wf = true) (hm : l.marked = true)
    (hs : l.expSmall = true) (hfin : l.trueLit.overflows = false) :
    parseNum l.render = some (.float l.trueLit.ieeeBits) := by
  rw [← C05_float_exponent_cap_inert l hs] at hfin ⊢
  exact C05_float_literal_general l h hm hfin

/-- the hex float `0x1.8p3` = 12.0 -/
def C05_example_hexfloat : GFloatLit :=
  ⟨.none, some (false, false), some ⟨⟨1, false⟩, []⟩, true, some ⟨⟨8, false⟩, []⟩, some (false, .none, ⟨⟨3, false⟩, []⟩)⟩

/-- `-0X_a.8_0P+0_00000004` (underscore after the prefix and in the digits, an 8-digit exponent) -/
def C05_example_hexfloat2 : GFloatLit :=
  ⟨.minus, some (true, true), some ⟨⟨10, false⟩, []⟩, true, some ⟨⟨8, false⟩, [(true, ⟨0, false⟩)]⟩,
   some (true, .plus, ⟨⟨0, false⟩, [(true, ⟨0, false⟩), (false, ⟨0, false⟩), (false, ⟨0, false⟩), (false, ⟨0, false⟩),
     (false, ⟨0, false⟩), (false, ⟨0, false⟩), (false, ⟨4, false⟩)]⟩)⟩

-- non-vacuity
example : C05_example_hexfloat.wf = true ∧ C05_example_hexfloat.marked = true ∧ C05_example_hexfloat.expSmall = true ∧
    C05_example_hexfloat.render = [0x30, 0x78, 0x31, 0x2E, 0x38, 0x70, 0x33] := by decide
example : C05_example_hexfloat.trueLit.overflows = false := by decide +kernel
example : C05_example_hexfloat.trueLit.ieeeBits = 0x4028000000000000 := by decide +kernel
example : C05_example_hexfloat2.wf = true ∧ C05_example_hexfloat2.marked = true ∧ C05_example_hexfloat2.expSmall = true ∧
    C05_example_hexfloat2.render = [0x2D, 0x30, 0x58, 0x5F, 0x61, 0x2E, 0x38, 0x5F, 0x30, 0x50, 0x2B, 0x30, 0x5F, 0x30,
      0x30, 0x30, 0x30, 0x30, 0x30, 0x34] := by decide
example : C05_example_hexfloat2.trueLit.overflows = false := by decide +kernel
example : C05_example_hexfloat2.trueLit.ieeeBits = 0xC065000000000000 := by decide +kernel  -- -168.0
example : C05_witness_1e999_general.lit.overflows = true := by decide +kernel
example : C05_witness_1e999_general.wf = true ∧ C05_witness_1e999_general.marked = true := by decide
example : C05_example_hexfloat.lit.overflows = false := by decide +kernel
example : parseNum [0x30, 0x78, 0x31, 0x2E, 0x38, 0x70, 0x33] = some (.float 0x4028000000000000) := by decide +kernel

/-- (3c') `inf`, `infinity` (optionally signed) and `nan` in every letter case,
and nothing else, are the special spellings. -/
theorem C05_special_spellings (s : Bytes) (b : Nat) (h : specialValue s = some b) :
    parseNum s = some (.float b) :=
  parseNum_special h

-- non-vacuity: "-InFiNiTy"
example : specialValue [0x2D, 0x49, 0x6E, 0x46, 0x69, 0x4E, 0x69, 0x54, 0x79] = some (signBit + infBits) := by decide

/-- (4) at full strength, for a reading `isNumber` of "a number in some syntax". -/
def C05_reject_full (isNumber : Bytes → Prop) : Prop :=
  ∀ s, ¬ isNumber s → parseNum s = none

/-- (4) proved for `C05.IsNumber`: the union of the integer grammar (`GInt`), the
rational grammar (`GRat`, unsigned non-zero denominator), the float grammar
(`GFloatLit`, rounded value finite) and the inf/nan spellings.  Everything that is
not the rendering of one of these structured literals is rejected. -/
theorem C05_reject : C05_reject_full C05.IsNumber :=
  fun _ h => parseNum_none_of_not_isNumber h

/-- … and the grammar is tight: ParseNum accepts exactly the numbers
(`C05_gint_literal`, `C05_grat_literal`, `C05_float_literal_general`,
`C05_special_spellings` give the value in each case). -/
theorem C05_accepts_iff (s : Bytes) : (parseNum s).isSome = true ↔ C05.IsNumber s :=
  parseNum_isSome_iff s

-- non-vacuity: "1__0" is not a number, "1_0" is one
example : ¬ C05.IsNumber [0x31, 0x5F, 0x5F, 0x30] := by
  intro h; have := (C05_accepts_iff _).mpr h; revert this; decide
example : C05.IsNumber [0x31, 0x5F, 0x30] := (C05_accepts_iff _).mp (by decide)

/-- (4a) A string containing any byte outside the number alphabet
`[0-9A-Za-z_+-./]` — white space, control characters, commas, any non-ASCII
byte (so every non-ASCII digit) — is rejected, wherever the byte stands. -/
theorem C05_reject_foreign_byte (s : Bytes) (c : UInt8) (hc : c ∈ s) (hbad : isNumByte c = false) :
    parseNum s = none := by
  cases h : parseNum s with
  | none => rfl
  | some v =>
    have := numByte_isNumByte c (parseNum_all h c hc)
    rw [hbad] at this
    exact absurd this (by simp)

-- non-vacuity: " 1" (leading space), "1 " (trailing space); a space is outside the alphabet
example : parseNum [0x20, 0x31] = none := C05_reject_foreign_byte _ 0x20 (by simp) (by decide)
example : parseNum [0x31, 0x20] = none := C05_reject_foreign_byte _ 0x20 (by simp) (by decide)

/-- (4b) The empty string is rejected. -/
theorem C05_reject_empty : parseNum [] = none := by decide

/-- (4c) `a/b` with a zero denominator (in any integer syntax) is rejected. -/
theorem C05_reject_zero_denominator (a : IntLit) (b : NatLit) (ha : a.wf = true) (hb : b.wf = true)
    (hz : b.value = 0) : parseNum (a.render ++ 0x2F :: b.render) = none :=
  parseNum_zero_den ⟨a.sign, .lit a.mag⟩ (.lit b) ha hb hz

/-- (4c') … in the complete integer grammars (`1/00`, `010/0_0`) -/
theorem C05_reject_zero_denominator_general (a : GInt) (b : GNat) (ha : a.wf = true) (hb : b.wf = true)
    (hz : b.value = 0) : parseNum (a.render ++ 0x2F :: b.render) = none :=
  parseNum_zero_den a b ha hb hz

-- non-vacuity: "1/00" (legacy octal zero)
example : (⟨.none, .lit ⟨.dec, false, false, ⟨⟨1, false⟩, []⟩⟩⟩ : GInt).wf = true ∧
    (GNat.oct0 [(false, ⟨0, false⟩)]).wf = true ∧ (GNat.oct0 [(false, ⟨0, false⟩)]).value = 0 ∧
    (⟨.none, .lit ⟨.dec, false, false, ⟨⟨1, false⟩, []⟩⟩⟩ : GInt).render ++ 0x2F :: (GNat.oct0 [(false, ⟨0, false⟩)]).render =
      [0x31, 0x2F, 0x30, 0x30] := by decide

/-- (4d) Misplaced underscores: a string in which some underscore does not stand
between two alphanumeric bytes is rejected (`_1`, `1_`, `1__0`, `1_.5`, `1._5`,
`-_1`, `1_/2`, `1/_2`, `0x1p_3` …). -/
theorem C05_reject_unflanked_underscore (s : Bytes) (h : flank false s = false) : parseNum s = none := by
  cases hp : parseNum s with
  | none => rfl
  | some v =>
    have := flank_of_isNumber (isNumber_of_parseNum hp)
    rw [h] at this; exact absurd this (by simp)

/-- in particular: a leading underscore, -/
theorem C05_reject_leading_underscore (x : Bytes) : parseNum (0x5F :: x) = none :=
  C05_reject_unflanked_underscore _ (by simp [flank])

/-- a trailing underscore, -/
theorem C05_reject_trailing_underscore (x : Bytes) : parseNum (x ++ [0x5F]) = none :=
  C05_reject_unflanked_underscore _ (flank_trailing x false)

/-- two underscores in a row, anywhere. -/
theorem C05_reject_double_underscore (x y : Bytes) : parseNum (x ++ 0x5F :: 0x5F :: y) = none :=
  C05_reject_unflanked_underscore _ (flank_double x y false)

-- non-vacuity: "1_.5" has an unflanked underscore; "1_5" has none
example : flank false [0x31, 0x5F, 0x2E, 0x35] = false := by decide
example : flank false [0x31, 0x5F, 0x35] = true := by decide

/-- (4e) Sign errors: two signs in front (`+-1`, `--1`, `-+1`, `++1`, whatever follows), -/
theorem C05_reject_double_sign (a b : UInt8) (ha : a = 0x2B ∨ a = 0x2D) (hb : b = 0x2B ∨ b = 0x2D)
    (x : Bytes) : parseNum (a :: b :: x) = none :=
  parseNum_double_sign a b ha hb x

/-- a signed denominator (`1` slash `-2`, `1` slash `+2`). -/
theorem C05_reject_signed_denominator (a : Bytes) (ha : (0x2F : UInt8) ∉ a) (sg : UInt8)
    (hs : sg = 0x2B ∨ sg = 0x2D) (x : Bytes) : parseNum (a ++ 0x2F :: sg :: x) = none :=
  parseNum_signed_den a ha sg hs x

/-- (4f) Malformed fractions: an empty denominator (`1/`), an empty numerator (`/1`),
a second slash (`1/2/3`, `1//2`). -/
theorem C05_reject_empty_denominator (a : Bytes) (ha : (0x2F : UInt8) ∉ a) : parseNum (a ++ [0x2F]) = none :=
  parseNum_empty_den a ha

theorem C05_reject_empty_numerator (b : Bytes) : parseNum (0x2F :: b) = none :=
  parseNum_empty_num b

theorem C05_reject_second_slash (a b : Bytes) (ha : (0x2F : UInt8) ∉ a) (hb : (0x2F : UInt8) ∈ b) :
    parseNum (a ++ 0x2F :: b) = none :=
  parseNum_second_slash a b ha hb

-- non-vacuity: "+-1", "1/-2", "1/", "1/2/3"
example : parseNum [0x2B, 0x2D, 0x31] = none := C05_reject_double_sign _ _ (Or.inl rfl) (Or.inr rfl) _
example : parseNum [0x31, 0x2F, 0x2D, 0x32] = none := C05_reject_signed_denominator [0x31] (by decide) _ (Or.inr rfl) _
example : parseNum [0x31, 0x2F] = none := C05_reject_empty_denominator [0x31] (by decide)
example : parseNum [0x31, 0x2F, 0x32, 0x2F, 0x33] = none := C05_reject_second_slash [0x31] [0x32, 0x2F, 0x33] (by decide) (by decide)

/-- (4f') Bare prefixes: an optional sign, `0x`/`0X`/`0o`/`0O`/`0b`/`0B` and possibly an
underscore, with no digit after it. -/
theorem C05_reject_bare_prefix (sg : Sign) (base : Base) (up us : Bool) (hb : base ≠ .dec) :
    parseNum (sg.bytes ++ base.pfx up ++ (if us then [0x5F] else [])) = none := by
  cases sg <;> cases base <;> cases up <;> cases us <;> first | exact absurd rfl hb | decide

-- non-vacuity: "-0X_"
example : Sign.minus.bytes ++ Base.hex.pfx true ++ (if true then [0x5F] else []) = [0x2D, 0x30, 0x58, 0x5F] := by decide

/-- (4g) Near-miss strings, each by kernel computation: `1__0 _1 1_ +-1 --1 0x 0b 0o 0x_ 1e 1e+ . +. - 1/0 1/ 1_e5 1e_5 0x1p 0x1.8 1p3 e1`. -/
theorem C05_reject_near_misses :
    parseNum [0x31, 0x5F, 0x5F, 0x30] = none ∧ parseNum [0x5F, 0x31] = none ∧ parseNum [0x31, 0x5F] = none ∧
    parseNum [0x2B, 0x2D, 0x31] = none ∧ parseNum [0x2D, 0x2D, 0x31] = none ∧
    parseNum [0x30, 0x78] = none ∧ parseNum [0x30, 0x62] = none ∧ parseNum [0x30, 0x6F] = none ∧
    parseNum [0x30, 0x78, 0x5F] = none ∧
    parseNum [0x31, 0x65] = none ∧ parseNum [0x31, 0x65, 0x2B] = none ∧
    parseNum [0x2E] = none ∧ parseNum [0x2B, 0x2E] = none ∧ parseNum [0x2D] = none ∧
    parseNum [0x31, 0x2F, 0x30] = none ∧ parseNum [0x31, 0x2F] = none ∧
    parseNum [0x31, 0x5F, 0x65, 0x35] = none ∧ parseNum [0x31, 0x65, 0x5F, 0x35] = none ∧
    parseNum [0x30, 0x78, 0x31, 0x70] = none ∧ parseNum [0x30, 0x78, 0x31, 0x2E, 0x38] = none ∧
    parseNum [0x31, 0x70, 0x33] = none ∧ parseNum [0x65, 0x31] = none := by
  decide

/-- The property at full strength, for a given reading `isNumber` of "a number
in some syntax".  Proved: clauses 1–4 (`C05_exact_roundtrip`,
`C05_float_roundtrip` under the strconv hypotheses, `C05_int_literal`,
`C05_rat_literal`) and `C05_special_literals`; clause 5 is false for the
unchanged code (`C05_counterexample`) and proved outside the overflow class
(`C05_float_literal_partial`; for the complete grammar `C05_float_literal_general`);
clause 6 is proved for `isNumber := C05.IsNumber` (`C05_reject`, with the
converse `C05_accepts_iff`). -/
def C05_full (isNumber : Bytes → Prop) : Prop :=
  (∀ L x, Num.CanonicalExact x → parseNum (C05.toString L x) = some x) ∧
  (∀ L f, f < 2 ^ 64 → strconvOKAt L f = true →
    parseNum (C05.toString L (.float f)) = some (.float (if isNaN f then nanBits else f))) ∧
  (∀ l : IntLit, l.wf = true → parseNum l.render = some (normalizeBigInt l.value)) ∧
  (∀ l : RatLit, l.wf = true → parseNum l.render = some (normalizeBigRat l.value)) ∧
  C05_full_float_literals ∧
  C05_reject_full isNumber

/-- everything of `C05_full` except the float-literal clause (false: the finding) -/
theorem C05_full_but_overflow :
    (∀ L x, Num.CanonicalExact x → parseNum (C05.toString L x) = some x) ∧
    (∀ L f, f < 2 ^ 64 → strconvOKAt L f = true →
      parseNum (C05.toString L (.float f)) = some (.float (if isNaN f then nanBits else f))) ∧
    (∀ l : IntLit, l.wf = true → parseNum l.render = some (normalizeBigInt l.value)) ∧
    (∀ l : RatLit, l.wf = true → parseNum l.render = some (normalizeBigRat l.value)) ∧
    (∀ l : DecFloatLit, l.wf = true → l.lit.overflows = false → parseNum l.render = some (.float l.lit.ieeeBits)) ∧
    C05_reject_full C05.IsNumber :=
  ⟨C05_exact_roundtrip, C05_float_roundtrip, C05_int_literal, C05_rat_literal, C05_float_literal_partial, C05_reject⟩
