/-
C44, the server: no handler of the fixed tree panics (a raw message is answered
on the spot or routed to a typed handler, `handle_raw`), and the invariant `Inv`
behind "the last diagnostics on the wire are current".
-/
import ElvModel.C44.Server
import ElvProofs.C44.Position
import ElvProofs.C44.Hover
import ElvProofs.Lemmas.Res
import ElvProofs.Lemmas.List
namespace C44
open Go

/-- `complete.Complete` is a total function; the model only sees a table, which
must then have an entry at every boundary offset. -/
def Text.wf (t : Text) : Prop := ∀ b ∈ boundaries t.code, (t.comp.lookup b).isSome = true

def Doc.wf (d : Doc) : Prop := ∀ b ∈ boundaries d.code, (d.comp.lookup b).isSome = true

def Doc.Parsed (lib : Lib) (d : Doc) : Prop := C01.parse lib.isPrint d.code = .ok d.tree d.errs

def Server.wf (lib : Lib) (s : Server) : Prop := ∀ e ∈ s.docs, e.2.wf ∧ e.2.Parsed lib

def Req.wf : Req → Prop
  | .didOpen _ t => t.wf
  | .didChange _ cs => ∀ t ∈ cs, t.wf
  | _ => True

/-- The diagnostic the property asks for one parse error. -/
def specDiag (code : Bytes) (e : C01.PErr) : DiagItem :=
  ((specPos code e.frm, specPos code e.to), e.msg)

def specDiags (d : Doc) : List DiagItem := d.errs.map (specDiag d.code)

theorem parseText_ok (lib : Lib) (t : Text) :
    ∃ d, parseText lib t = .ok d ∧ d.code = t.code ∧ d.comp = t.comp ∧ d.Parsed lib := by
  obtain ⟨tree, errs, h, _⟩ := C01_total_lossless lib.isPrint t.code
  refine ⟨⟨t.code, tree, errs, t.comp⟩, ?_, rfl, rfl, h⟩
  simp only [parseText, h]

theorem parseText_inv {lib : Lib} {t : Text} {d : Doc} (h : parseText lib t = .ok d) :
    d.code = t.code ∧ d.comp = t.comp ∧ d.Parsed lib := by
  obtain ⟨d', hd', hp⟩ := parseText_ok lib t
  rw [hd'] at h
  cases h
  exact hp

theorem lookup_filter_ne {β : Type} (k u : Bytes) (hku : k ≠ u) : ∀ (l : List (Bytes × β)),
    (l.filter fun e => e.1 != u).lookup k = l.lookup k
  | [] => rfl
  | (k', v') :: l => by
    have ih := lookup_filter_ne k u hku l
    by_cases h : k' = u
    · subst h
      have h2 : (k == k') = false := by simpa using hku
      simpa [List.filter_cons, List.lookup_cons, h2] using ih
    · simp [List.lookup_cons, h, ih]

theorem updateDocument_wf (lib : Lib) (s : Server) (uri : Bytes) (d : Doc) (hs : s.wf lib)
    (hd : d.wf ∧ d.Parsed lib) : (updateDocument .fixed s uri d).1.wf lib := by
  intro e he
  rcases List.mem_cons.mp he with rfl | he
  · exact hd
  · exact hs e (List.mem_filter.mp he).1

theorem updateDocument_find_self (v : Variant) (s : Server) (uri : Bytes) (d : Doc) :
    (updateDocument v s uri d).1.find uri = some d :=
  List.lookup_cons_self

theorem updateDocument_find_ne (v : Variant) (s : Server) (uri k : Bytes) (d : Doc) (h : k ≠ uri) :
    (updateDocument v s uri d).1.find k = s.find k := by
  have h2 : (k == uri) = false := by simpa using h
  show List.lookup k ((uri, d) :: _) = _
  rw [List.lookup_cons, h2]
  exact lookup_filter_ne k uri h s.docs

theorem updateDocument_diag (s : Server) (uri : Bytes) (d : Doc) :
    (updateDocument .fixed s uri d).2 = (uri, specDiags d) := by
  simp [updateDocument, specDiags, specDiag, rangeOfVisits_spec]

theorem updateText_eq (lib : Lib) (s : Server) (uri : Bytes) (t : Text) :
    ∃ d, parseText lib t = .ok d ∧
      updateText .fixed lib s uri t =
        .ok ⟨(updateDocument .fixed s uri d).1, .null, some (updateDocument .fixed s uri d).2⟩ := by
  obtain ⟨d, hd, _⟩ := parseText_ok lib t
  exact ⟨d, hd, by simp only [updateText, hd, bind, Res.bind, pure]⟩

theorem updateText_spec (lib : Lib) (s : Server) (uri : Bytes) (t : Text) :
    ∃ o d, updateText .fixed lib s uri t = .ok o ∧ d.code = t.code ∧
      C01.parse lib.isPrint t.code = .ok d.tree d.errs ∧
      o.diag = some (uri, d.errs.map (specDiag t.code)) ∧ o.srv.find uri = some d := by
  obtain ⟨d, hd, he⟩ := updateText_eq lib s uri t
  obtain ⟨hc, _, hp⟩ := parseText_inv hd
  refine ⟨_, d, he, hc, hc ▸ hp, ?_, updateDocument_find_self .fixed s uri d⟩
  show some (updateDocument .fixed s uri d).2 = _
  rw [updateDocument_diag, specDiags, hc]

theorem updateText_ok (lib : Lib) (s : Server) (uri : Bytes) (t : Text) (hs : s.wf lib) (ht : t.wf) :
    ∃ o, updateText .fixed lib s uri t = .ok o ∧ o.srv.wf lib := by
  obtain ⟨d, hd, he⟩ := updateText_eq lib s uri t
  obtain ⟨hc, hm, hp⟩ := parseText_inv hd
  refine ⟨_, he, updateDocument_wf lib s uri d hs ⟨?_, hp⟩⟩
  intro b hb
  rw [hm]; rw [hc] at hb
  exact ht b hb

theorem didChange_ok (lib : Lib) (s : Server) (uri : Bytes) (cs : List Text) (hs : s.wf lib)
    (hd : ∀ t ∈ cs, t.wf) : ∃ o, didChange .fixed lib s uri cs = .ok o ∧ o.srv.wf lib := by
  unfold didChange
  cases h : cs.getLast? with
  | none => exact ⟨_, rfl, hs⟩
  | some t => exact updateText_ok lib s uri t hs (hd t (List.mem_of_getLast? h))

theorem hover_ok (lib : Lib) (s : Server) (uri : Bytes) (l c : Int) (hs : s.wf lib)
    (hh : ParserHeads lib.isPrint) : ∃ o, hover .fixed lib s uri l c = .ok o ∧ o.srv.wf lib := by
  unfold hover
  cases hf : s.find uri with
  | none => exact ⟨_, rfl, hs⟩
  | some d =>
    have hp : d.Parsed lib := (hs _ (List.mem_of_lookup_eq_some hf)).2
    obtain ⟨c', hc⟩ := hoverContent_ok lib d.tree (toIdxV .fixed d.code l c) (hh _ _ _ hp)
    exact ⟨⟨s, .hover c', none⟩, by simp only [hc, bind, Res.bind, pure], hs⟩

theorem completion_ok (lib : Lib) (s : Server) (uri : Bytes) (l c : Int) (hs : s.wf lib) :
    ∃ o, completion .fixed s uri l c = .ok o ∧ o.srv.wf lib := by
  unfold completion
  split
  · exact ⟨_, rfl, hs⟩
  · rename_i d hf
    -- the dot is a boundary offset, so the completer table has an entry for it
    have hl := (hs _ (List.mem_of_lookup_eq_some hf)).1 _ (toIdx_boundary d.code l c)
    simp only
    split
    · rename_i hn; rw [hn] at hl; cases hl
    · exact ⟨_, rfl, hs⟩
    · split <;> exact ⟨_, rfl, hs⟩

def IsUpdate (lib : Lib) (s : Server) (o : HOut) : Prop :=
  ∃ uri d, d.Parsed lib ∧
    o.srv = (updateDocument .fixed s uri d).1 ∧ o.diag = some (updateDocument .fixed s uri d).2

theorem updateText_shape {lib : Lib} {s : Server} {uri : Bytes} {t : Text} {o : HOut}
    (h : updateText .fixed lib s uri t = .ok o) : IsUpdate lib s o := by
  obtain ⟨d, hd, he⟩ := updateText_eq lib s uri t
  rw [he] at h
  cases h
  exact ⟨uri, d, (parseText_inv hd).2.2, rfl, rfl⟩

theorem didChange_shape {lib : Lib} {s : Server} {uri : Bytes} {cs : List Text} {o : HOut}
    (h : didChange .fixed lib s uri cs = .ok o) :
    (o.srv = s ∧ o.diag = none) ∨ IsUpdate lib s o := by
  unfold didChange at h
  cases hl : cs.getLast? with
  | none => rw [hl] at h; cases h; exact .inl ⟨rfl, rfl⟩
  | some t => rw [hl] at h; exact .inr (updateText_shape h)

theorem hover_quiet {lib : Lib} {s : Server} {uri : Bytes} {l c : Int} {o : HOut}
    (h : hover .fixed lib s uri l c = .ok o) : o.srv = s ∧ o.diag = none := by
  unfold hover at h
  cases hf : s.find uri with
  | none => rw [hf] at h; cases h; exact ⟨rfl, rfl⟩
  | some d =>
    rw [hf] at h
    obtain ⟨_, _, h⟩ := Res.bind_eq_ok.1 h
    cases h
    exact ⟨rfl, rfl⟩

theorem completion_quiet {s : Server} {uri : Bytes} {l c : Int} {o : HOut}
    (h : completion .fixed s uri l c = .ok o) : o.srv = s ∧ o.diag = none := by
  unfold completion at h
  split at h
  · cases h; exact ⟨rfl, rfl⟩
  · simp only at h
    split at h
    · cases h
    · cases h; exact ⟨rfl, rfl⟩
    · split at h <;> cases h <;> exact ⟨rfl, rfl⟩

/-- `routingHandler` on a message whose `params` are not those of a typed
request: answered on the spot (unknown method, `initialize`, the methods without
effect, `params` that do not unmarshal), or handled as the typed request with
zero-valued parameters. -/
theorem handle_raw (lib : Lib) (empty : Text) (s : Server) (m : String) (pk : PK) :
    (∃ res, handle .fixed lib empty s (.raw m pk) = .ok ⟨s, res, none⟩) ∨
    handle .fixed lib empty s (.raw m pk) = didOpen .fixed lib s [] empty ∨
    handle .fixed lib empty s (.raw m pk) = didChange .fixed lib s [] [] ∨
    (m = "textDocument/hover" ∧ handle .fixed lib empty s (.raw m pk) = hover .fixed lib s [] 0 0) ∨
    handle .fixed lib empty s (.raw m pk) = completion .fixed s [] 0 0 := by
  simp only [handle]
  by_cases h1 : (!(methodTable.contains m)) = true
  · rw [if_pos h1]; exact .inl ⟨_, rfl⟩
  rw [if_neg h1, if_neg (by simp)]
  by_cases h2 : m = "initialize"
  · rw [if_pos h2]; exact .inl ⟨_, rfl⟩
  rw [if_neg h2]
  by_cases h3 : (m = "textDocument/didClose" || m = "initialized" || m = "workspace/didChangeWatchedFiles") = true
  · rw [if_pos h3]; exact .inl ⟨_, rfl⟩
  rw [if_neg h3]
  by_cases h4 : (!(unmarshalsToZero pk)) = true
  · rw [if_pos h4]; exact .inl ⟨_, rfl⟩
  rw [if_neg h4]
  by_cases h5 : m = "textDocument/didOpen"
  · rw [if_pos h5]; exact .inr (.inl rfl)
  rw [if_neg h5]
  by_cases h6 : m = "textDocument/didChange"
  · rw [if_pos h6]; exact .inr (.inr (.inl rfl))
  rw [if_neg h6]
  by_cases h7 : m = "textDocument/hover"
  · rw [if_pos h7]; exact .inr (.inr (.inr (.inl ⟨h7, rfl⟩)))
  rw [if_neg h7]
  exact .inr (.inr (.inr (.inr rfl)))

theorem handle_total (lib : Lib) (empty : Text) (s : Server) (r : Req) (he : empty.wf) (hs : s.wf lib)
    (hr : r.wf)
    (hh : ParserHeads lib.isPrint ∨
      ((∀ uri l c, r ≠ .hover uri l c) ∧ ∀ pk, r ≠ .raw "textDocument/hover" pk)) :
    ∃ o, handle .fixed lib empty s r = .ok o ∧ o.srv.wf lib := by
  cases r with
  | didOpen uri d => exact updateText_ok lib s uri d hs hr
  | didChange uri cs => exact didChange_ok lib s uri cs hs hr
  | hover uri l c => exact hover_ok lib s uri l c hs (hh.resolve_right fun h => h.1 uri l c rfl)
  | completion uri l c => exact completion_ok lib s uri l c hs
  | raw m pk =>
    rcases handle_raw lib empty s m pk with ⟨res, h⟩ | h | h | ⟨hm, h⟩ | h <;> rw [h]
    · exact ⟨_, rfl, hs⟩
    · exact updateText_ok lib s [] empty hs he
    · exact didChange_ok lib s [] [] hs nofun
    · exact hover_ok lib s [] 0 0 hs (hh.resolve_right fun h => h.2 pk (by rw [hm]))
    · exact completion_ok lib s [] 0 0 hs

theorem serve_inv {v : Variant} {lib : Lib} {empty : Text} {s : Server} {hasId : Bool} {r : Req} {o : Out}
    (h : serve v lib empty s hasId r = .ok o) :
    ∃ ho, handle v lib empty s r = .ok ho ∧ o = ⟨ho.srv, if hasId then .res ho.res else .none, ho.diag⟩ := by
  obtain ⟨ho, hh, h⟩ := Res.bind_eq_ok.1 h
  cases h
  exact ⟨ho, hh, rfl⟩

theorem serve_of_handle {v : Variant} {lib : Lib} {empty : Text} {s : Server} {r : Req} {ho : HOut}
    (hasId : Bool) (h : handle v lib empty s r = .ok ho) :
    serve v lib empty s hasId r = .ok ⟨ho.srv, if hasId then .res ho.res else .none, ho.diag⟩ := by
  simp only [serve, h, bind, Res.bind, pure]

theorem serve_total (lib : Lib) (empty : Text) (s : Server) (hasId : Bool) (r : Req) (he : empty.wf)
    (hs : s.wf lib) (hr : r.wf)
    (hh : ParserHeads lib.isPrint ∨
      ((∀ uri l c, r ≠ .hover uri l c) ∧ ∀ pk, r ≠ .raw "textDocument/hover" pk)) :
    ∃ o, serve .fixed lib empty s hasId r = .ok o ∧ o.srv.wf lib ∧ (o.reply = .none ↔ hasId = false) := by
  obtain ⟨o, ho, hw⟩ := handle_total lib empty s r he hs hr hh
  refine ⟨_, serve_of_handle hasId ho, hw, ?_⟩
  cases hasId <;> simp

/-- What a client shows for `uri`: the last `publishDiagnostics` it received for it. -/
def lastFor (uri : Bytes) (sent : List Diag) : Option (List DiagItem) :=
  (sent.reverse.find? fun d => d.1 == uri).map (·.2)

def Inv (s : Server) (sent : List Diag) : Prop :=
  ∀ uri, lastFor uri sent = (s.find uri).map specDiags

theorem lastFor_snoc (uri u : Bytes) (r : List DiagItem) (sent : List Diag) :
    lastFor uri (sent ++ [(u, r)]) = if u = uri then some r else lastFor uri sent := by
  unfold lastFor
  by_cases h : u = uri <;> simp [List.reverse_append, h]

theorem handle_shape (lib : Lib) (empty : Text) (s : Server) (r : Req) (o : HOut)
    (h : handle .fixed lib empty s r = .ok o) :
    (o.srv = s ∧ o.diag = none) ∨ IsUpdate lib s o := by
  cases r with
  | didOpen uri t => exact .inr (updateText_shape h)
  | didChange uri cs => exact didChange_shape h
  | hover uri l c => exact .inl (hover_quiet h)
  | completion uri l c => exact .inl (completion_quiet h)
  | raw m pk =>
    rcases handle_raw lib empty s m pk with ⟨res, e⟩ | e | e | ⟨_, e⟩ | e <;> rw [e] at h
    · cases h; exact .inl ⟨rfl, rfl⟩
    · exact .inr (updateText_shape h)
    · exact didChange_shape h
    · exact .inl (hover_quiet h)
    · exact .inl (completion_quiet h)

theorem Inv_step (lib : Lib) (empty : Text) (s : Server) (r : Req) (o : HOut) (sent : List Diag)
    (h : handle .fixed lib empty s r = .ok o) (hi : Inv s sent) : Inv o.srv (sent ++ o.diag.toList) := by
  rcases handle_shape lib empty s r o h with ⟨h1, h2⟩ | ⟨uri, d, _, h1, h2⟩
  · rw [h1, h2]; simpa using hi
  · rw [h1, h2, updateDocument_diag]
    intro k
    simp only [Option.toList_some, lastFor_snoc]
    by_cases hk : uri = k
    · subst hk; simp [updateDocument_find_self]
    · have hk' : k ≠ uri := fun e => hk e.symm
      simp [hk, updateDocument_find_ne _ _ _ _ _ hk', hi k]

theorem published_cons (o : Out) (os : List Out) : published (o :: os) = o.diag.toList ++ published os := by
  cases hd : o.diag <;> simp [published, hd]

theorem Inv_serveAll (lib : Lib) (empty : Text) : ∀ (reqs : List (Bool × Req)) (s : Server) (sent : List Diag)
    (s' : Server) (os : List Out), serveAll .fixed lib empty s reqs = .ok (s', os) → Inv s sent →
    Inv s' (sent ++ published os)
  | [], s, sent, s', os, h, hi => by
    cases h
    simpa [published] using hi
  | (hasId, r) :: reqs, s, sent, s', os, h, hi => by
    rw [serveAll] at h
    obtain ⟨o, ho, h⟩ := Res.bind_eq_ok.1 h
    obtain ⟨⟨s2, os2⟩, hr, h⟩ := Res.bind_eq_ok.1 h
    cases h
    obtain ⟨ho', hh, rfl⟩ := serve_inv ho
    rw [published_cons, ← List.append_assoc]
    exact Inv_serveAll lib empty reqs _ _ _ _ hr (Inv_step lib empty s r ho' sent hh hi)

end C44
