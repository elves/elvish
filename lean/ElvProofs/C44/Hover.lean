/-
C44, hover: `np.Find` (the C43 model's `findN`) on the trees the C01 parser
returns, `hover` does not panic, and which documentation it shows.
-/
import ElvModel.C44.Hover
import ElvProofs.C01
import ElvProofs.C43.Range
namespace C44
open Go C01
open Gen.C01Chars

def AllOk (src : Bytes) (n : Node) : Prop := ∀ m, C01_Desc n m → C01_NodeOk src m

theorem AllOk.child {src : Bytes} {n c : Node} (h : AllOk src n) (hc : c ∈ n.children) : AllOk src c :=
  fun m hm => h m (.child hc hm)

def Inside (p : Int) (n : Node) : Prop := (n.frm : Int) ≤ p ∧ p < (n.to : Int)

mutual
/-- The children tile the node's range (`C01_NodeOk`), so the `descend:` loop of
`np.Find` never falls through to `return nil`. -/
theorem findN_some (src : Bytes) (p : Int) : ∀ (n : Node) (i : Nat), AllOk src n →
    (n.children = [] ∨ Inside p n) → ∃ path, C43.findN p false i n = some path
  | .mk k a b t f cs, i, hok, hin => by
    cases cs with
    | nil => exact ⟨_, rfl⟩
    | cons c cs' =>
      have hn := hok _ (.self _)
      rcases hin with hin | hin
      · simp [Node.children] at hin
      · rcases hn.2.2.2 with hnil | ⟨hcon, hend⟩
        · simp [Node.children] at hnil
        · simp only [Node.children, Node.frm, Node.to] at hcon hend
          have hch : ∀ c0 ∈ c :: cs', AllOk src c0 := fun c0 hc0 => hok.child (by simpa [Node.children] using hc0)
          obtain ⟨pth, hp⟩ := findL_some src p (c :: cs') 0 a hch hcon
            (by simpa [Inside, Node.frm] using hin.1) (by rw [hend]; simpa [Inside, Node.to] using hin.2)
          exact ⟨pth ++ [(.mk k a b t f (c :: cs'), i)], by simp only [C43.findN, hp]⟩
theorem findL_some (src : Bytes) (p : Int) : ∀ (cs : List Node) (i a : Nat), (∀ c ∈ cs, AllOk src c) →
    Consec a cs → (a : Int) ≤ p → p < (endOf a cs : Nat) → ∃ path, C43.findL p false i cs = some path
  | [], _, a, _, _, h1, h2 => by simp only [endOf] at h2; omega
  | c :: rest, i, a, hok, hcon, h1, h2 => by
    simp only [Consec] at hcon
    simp only [endOf] at h2
    simp only [C43.findL]
    by_cases hc : p < (c.to : Int)
    · have hcond : (((c.frm : Int) ≤ p && p < (c.to : Int)) || (false && p == (c.to : Int))) = true := by
        simp [hcon.1, h1, hc]
      rw [if_pos hcond]
      exact findN_some src p c i (hok c List.mem_cons_self) (.inr ⟨by rw [hcon.1]; exact h1, hc⟩)
    · have hcond : ¬ (((c.frm : Int) ≤ p && p < (c.to : Int)) || (false && p == (c.to : Int))) = true := by
        simp [hc]
      rw [if_neg hcond]
      exact findL_some src p rest (i + 1) c.to (fun c0 hc0 => hok c0 (List.mem_cons_of_mem _ hc0)) hcon.2
        (by omega) h2
end

theorem Inside.of_enters {p : Int} {c : Node} (h : C43.Enters p false c) : Inside p c :=
  h.resolve_right fun h => nomatch h.1

theorem findN_path (p : Int) (n : Node) (i : Nat) (path : C43.Path) (h : C43.findN p false i n = some path) :
    ∃ pre, path = pre ++ [(n, i)] ∧ (∀ x ∈ pre, Inside p x.1) ∧
      ∃ leaf, path.head? = some leaf ∧ leaf.1.children = [] := by
  obtain ⟨_, pre, hp, hall, hleaf⟩ := (C43.findN_found p false n i path h).facts
  exact ⟨pre, hp, fun x hx => .of_enters (hall x hx), hleaf⟩

theorem findL_path (p : Int) : ∀ (cs : List Node) (i : Nat) (path : C43.Path),
    C43.findL p false i cs = some path →
    (∀ x ∈ path, Inside p x.1) ∧ ∃ leaf, path.head? = some leaf ∧ leaf.1.children = [] := by
  intro cs i path h
  obtain ⟨c, j, _, hc, hf⟩ := C43.findL_found p false cs i path h
  obtain ⟨_, pre, hp, hall, hleaf⟩ := hf.facts
  refine ⟨fun x hx => ?_, hleaf⟩
  rw [hp] at hx
  rcases List.mem_append.mp hx with hx | hx
  · exact .of_enters (hall x hx)
  · rw [List.mem_singleton.mp hx]; exact .of_enters hc

theorem desc_child {a b c : Node} (h : C01_Desc a b) (hc : c ∈ b.children) : C01_Desc a c := by
  induction h with
  | self n => exact .child hc (.self _)
  | child hc' _ ih => exact .child hc' (ih hc)

def HeadsOk (t : Node) : Prop := ∀ m, C01_Desc t m → m.kind = .indexing → (C43.headOf m).isSome = true

/-- What `hover` needs of the parser beyond C01's theorems: `(*Indexing).parse`
always sets `Head` (the model adds the parsed `Primary` as the first child). -/
def ParserHeads (isPrint : Int → Bool) : Prop :=
  ∀ (src : Bytes) (t : Node) (errs : List PErr), parse isPrint src = .ok t errs → HeadsOk t

theorem ok_ite {α : Type} {c : Prop} [Decidable c] {a b : Res α} (ha : ∃ r, a = .ok r) (hb : ∃ r, b = .ok r) :
    ∃ r, (if c then a else b) = .ok r := by
  split <;> assumption

theorem pepcLoop_ok (env : C43.Env) (upto : Int) : ∀ (l : List Node) (t : Bool) (h : Bytes),
    (∀ inn ∈ l, (C43.headOf inn).isSome = true) → ∃ r, C43.pepcLoop env upto l t h = .ok r
  | [], t, h, _ => ⟨_, rfl⟩
  | inn :: rest, t, h, hl => by
    have hr := fun t h => pepcLoop_ok env upto rest t h (fun x hx => hl x (List.mem_cons_of_mem _ hx))
    obtain ⟨hd, hh⟩ := Option.isSome_iff_exists.mp (hl inn List.mem_cons_self)
    unfold C43.pepcLoop
    rw [hh]
    refine ok_ite ⟨_, rfl⟩ (ok_ite ⟨_, rfl⟩ (ok_ite (hr _ _) (ok_ite (hr _ _) (ok_ite ?_ ⟨_, rfl⟩))))
    split
    · exact hr _ _
    · exact ⟨_, rfl⟩

theorem pepc_ok (env : C43.Env) (cn : Node) (upto : Int)
    (h : ∀ inn ∈ cn.childrenOf .indexing, (C43.headOf inn).isSome = true) :
    ∃ r, C43.purelyEvalPartialCompound env cn upto = .ok r := by
  obtain ⟨r, hr⟩ := pepcLoop_ok env upto (cn.childrenOf .indexing) false [] h
  unfold C43.purelyEvalPartialCompound
  rw [hr]
  cases r with
  | none => exact ⟨_, rfl⟩
  | some th =>
    obtain ⟨tl, hd⟩ := th
    simp only
    split
    · split <;> exact ⟨_, rfl⟩
    · exact ⟨_, rfl⟩

theorem matchSimpleExpr_ok (env : C43.Env) (root : Node) (p : C43.Path) (hh : HeadsOk root)
    (hd : ∀ x ∈ p, C01_Desc root x.1) : ∃ r, C43.matchSimpleExpr env p = .ok r := by
  match p, hd with
  | (pn, _) :: (inn, _) :: (cn, ci) :: rest, hd =>
    simp only [C43.matchSimpleExpr]
    split
    · rename_i hk
      have hcn : C01_Desc root cn := hd (cn, ci) (by simp)
      have : ∀ inn' ∈ cn.childrenOf .indexing, (C43.headOf inn').isSome = true := by
        intro inn' hi
        simp only [Node.childrenOf, List.mem_filter, beq_iff_eq] at hi
        exact hh inn' (desc_child hcn hi.1) hi.2
      obtain ⟨r, hr⟩ := pepc_ok env cn (inn.to : Int) this
      rw [hr]
      cases r <;> exact ⟨_, rfl⟩
    · exact ⟨_, rfl⟩
  | [], _ => exact ⟨_, rfl⟩
  | [_], _ => exact ⟨_, rfl⟩
  | [_, _], _ => exact ⟨_, rfl⟩

theorem npFind_desc (root : Node) (pos : Int) : ∀ x ∈ npFind root pos, C01_Desc root x.1 := by
  unfold npFind
  cases h : C43.findN pos false 0 root with
  | none => simp
  | some p => exact C43.findN_desc pos false root 0 p h

theorem hoverCommand_ok (lib : Lib) (tree : Node) (pos : Int) (hh : HeadsOk tree) :
    ∃ q, hoverCommand lib (npFind tree pos) = .ok q := by
  obtain ⟨r, hr⟩ := matchSimpleExpr_ok (nilEvalerEnv lib) tree (npFind tree pos) hh (npFind_desc tree pos)
  unfold hoverCommand
  rw [hr]
  cases r with
  | none => exact ⟨_, rfl⟩
  | some er =>
    obtain ⟨expr, rest⟩ := er
    simp only
    cases C43.matchKind .form rest with
    | none => exact ⟨_, rfl⟩
    | some fr =>
      simp only
      split <;> exact ⟨_, rfl⟩

theorem hoverContent_ok (lib : Lib) (tree : Node) (pos : Int) (hh : HeadsOk tree) :
    ∃ c, hoverContent lib tree pos = .ok c := by
  obtain ⟨q, hq⟩ := hoverCommand_ok lib tree pos hh
  unfold hoverContent
  simp only [hq]
  cases hoverVariable (npFind tree pos) with
  | none => cases q <;> exact ⟨_, rfl⟩
  | some v =>
    simp only
    cases docSource lib.docs v with
    | none => cases q <;> exact ⟨_, rfl⟩
    | some md => exact ⟨_, rfl⟩

theorem hoverVariable_some {p : C43.Path} {q : Bytes} (h : hoverVariable p = some q) :
    ∃ leaf rest, p = leaf :: rest ∧ leaf.1.kind = .primary ∧ leaf.1.ptype = Variable ∧
      q = 36 :: leaf.1.value := by
  unfold hoverVariable at h
  cases hm : C43.matchKind .primary p with
  | none => simp [hm] at h
  | some nr =>
    obtain ⟨n, r⟩ := nr
    simp only [hm] at h
    obtain ⟨i, hp, hk⟩ := C43.matchKind_inv hm
    split at h
    · rename_i hv
      simp only [Option.some.injEq] at h
      exact ⟨(n, i), r, hp, hk, by simpa using hv, h.symm⟩
    · cases h

theorem hoverCommand_some {lib : Lib} {p : C43.Path} {q : Bytes} (h : hoverCommand lib p = .ok (some q)) :
    ∃ pn inn cn form rest, p = pn :: inn :: (cn, 0) :: form :: rest ∧
      pn.1.kind = .primary ∧ inn.1.kind = .indexing ∧ cn.kind = .compound ∧ form.1.kind = .form ∧
      C43.purelyEvalPartialCompound (nilEvalerEnv lib) cn (inn.1.to : Int) = .ok (some q) := by
  unfold hoverCommand at h
  cases hm0 : C43.matchSimpleExpr (nilEvalerEnv lib) p with
  | ok r =>
    cases r with
    | none => simp [hm0] at h
    | some er =>
      obtain ⟨expr, rest⟩ := er
      simp only [hm0] at h
      obtain ⟨pn, inn, hp, h1, h2, h3, h4⟩ := C43.matchSimpleExpr_inv hm0
      cases hm : C43.matchKind .form rest with
      | none => simp [hm] at h
      | some fr =>
        obtain ⟨form, rest'⟩ := fr
        simp only [hm] at h
        obtain ⟨fi, hrest, hfk⟩ := C43.matchKind_inv hm
        split at h
        · rename_i hc
          simp only [Bool.and_eq_true, beq_iff_eq] at hc
          simp only [Res.ok.injEq, Option.some.injEq] at h
          refine ⟨pn, inn, expr.compound, (form, fi), rest', ?_, h1, h2, h3, hfk, ?_⟩
          · rw [hp, hc.2, hrest]
          · rw [h4, h]
        · simp at h
  | exc e => simp [hm0] at h
  | panic w => simp [hm0] at h

theorem hoverContent_cases {lib : Lib} {tree : Node} {pos : Int} {md : String}
    (h : hoverContent lib tree pos = .ok (some md)) :
    (∃ q, hoverVariable (npFind tree pos) = some q ∧ docSource lib.docs q = some md) ∨
    ∃ q, hoverCommand lib (npFind tree pos) = .ok (some q) ∧ docSource lib.docs q = some md := by
  unfold hoverContent at h
  simp only at h
  split at h
  · rename_i md' hv
    cases h
    cases hq : hoverVariable (npFind tree pos) with
    | none => rw [hq] at hv; cases hv
    | some q => rw [hq] at hv; exact .inl ⟨q, rfl, hv⟩
  · split at h
    · rename_i q hq
      exact .inr ⟨q, hq, Res.ok.inj h⟩
    all_goals cases h

theorem hoverContent_some (lib : Lib) (tree : Node) (pos : Int) (md : String)
    (h : hoverContent lib tree pos = .ok (some md)) :
    ∃ leaf rest, npFind tree pos = leaf :: rest ∧ leaf.1.kind = .primary ∧
      ((leaf.1.ptype = Variable ∧ docSource lib.docs (36 :: leaf.1.value) = some md) ∨
       (∃ inn cn form rest' v, rest = inn :: (cn, 0) :: form :: rest' ∧
          inn.1.kind = .indexing ∧ cn.kind = .compound ∧ form.1.kind = .form ∧
          C43.purelyEvalPartialCompound (nilEvalerEnv lib) cn (inn.1.to : Int) = .ok (some v) ∧
          docSource lib.docs v = some md)) := by
  rcases hoverContent_cases h with ⟨q, hv, hd⟩ | ⟨q, hq, hd⟩
  · obtain ⟨leaf, rest, hp, hk, hty, rfl⟩ := hoverVariable_some hv
    exact ⟨leaf, rest, hp, hk, .inl ⟨hty, hd⟩⟩
  · obtain ⟨pn, inn, cn, form, rest, hp, h1, h2, h3, h4, h5⟩ := hoverCommand_some hq
    exact ⟨pn, _, hp, h1, .inr ⟨inn, cn, form, rest, q, rfl, h2, h3, h4, h5, hd⟩⟩

end C44
