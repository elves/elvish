/-
C44, positions.  One step of the fixed `walkString` appends one character to the
prefix the specification counts over (`step_spec`), so the walk offers every
boundary offset with its specified position; positions strictly increase along it.
-/
import ElvModel.C44.Spec
import ElvProofs.Lemmas.Utf8.Basic
namespace C44
open Go

theorem charsFrom_bounds (fuel : Nat) : ∀ (off : Nat) (s : Bytes),
    (∀ c ∈ charsFrom fuel off s, off ≤ c.off ∧ c.off < off + s.length) ∧
    (charsFrom fuel off s).Pairwise (fun a b => a.off < b.off) := by
  induction fuel with
  | zero => intro off s; simp [charsFrom]
  | succ fuel ih =>
    intro off s
    cases s with
    | nil => simp [charsFrom]
    | cons b t =>
      have hs : 1 ≤ (decodeRune (b :: t)).2 ∧ (decodeRune (b :: t)).2 ≤ (b :: t).length :=
        ⟨decodeRune_size_pos (s := b :: t) (by simp), decodeRune_size_le (b :: t)⟩
      obtain ⟨ih1, ih2⟩ := ih (off + (decodeRune (b :: t)).2) ((b :: t).drop (decodeRune (b :: t)).2)
      have hlen : ((b :: t).drop (decodeRune (b :: t)).2).length = (b :: t).length - (decodeRune (b :: t)).2 :=
        List.length_drop
      simp only [charsFrom]
      constructor
      · intro c hc
        rcases List.mem_cons.mp hc with rfl | hc
        · simp
        · have := ih1 c hc
          rw [hlen] at this
          simp only [List.length_cons] at this hs ⊢
          omega
      · rw [List.pairwise_cons]
        refine ⟨?_, ih2⟩
        intro c hc
        have := ih1 c hc
        simp only
        omega

theorem chars_sorted (s : Bytes) : (chars s).Pairwise (fun a b => a.off < b.off) :=
  (charsFrom_bounds s.length 0 s).2

theorem chars_off_lt (s : Bytes) : ∀ c ∈ chars s, c.off < s.length := by
  intro c hc
  have := (charsFrom_bounds s.length 0 s).1 c hc
  omega

theorem charsFrom_runesFrom (fuel : Nat) : ∀ (off : Nat) (s : Bytes),
    (charsFrom fuel off s).map (fun c => (c.off, c.r)) = (runesFrom fuel off s).map (fun t => (t.1, t.2.1)) := by
  induction fuel with
  | zero => intro off s; simp [charsFrom, runesFrom]
  | succ fuel ih =>
    intro off s
    cases s with
    | nil => simp [charsFrom, runesFrom]
    | cons b t => simp [charsFrom, runesFrom, ih]

theorem specOfPrefix_snoc (pre : List Ch) (c : Ch) :
    specOfPrefix (pre ++ [c]) =
      if c.endsLine then ⟨(specOfPrefix pre).line + 1, 0⟩
      else ⟨(specOfPrefix pre).line, (specOfPrefix pre).char + c.units⟩ := by
  unfold specOfPrefix
  cases h : c.endsLine <;>
    simp [List.countP_append, List.reverse_append, h, Nat.add_comm]

theorem step_fixed (p : Pos) (b : Bool) (c : Ch) :
    step .fixed p b c =
      if c.endsLine then ⟨p.line + 1, 0⟩ else ⟨p.line, p.char + c.units⟩ := by
  unfold step Ch.endsLine Ch.units
  by_cases h13 : c.r = 13
  · cases c.nextLF <;> simp [h13]
  · by_cases h10 : c.r = 10
    · simp [h10]
    · by_cases hu : c.r ≤ 0xFFFF <;> simp [h13, h10, hu]

theorem step_spec (pre : List Ch) (b : Bool) (c : Ch) :
    step .fixed (specOfPrefix pre) b c = specOfPrefix (pre ++ [c]) := by
  rw [specOfPrefix_snoc, step_fixed]

theorem fromIdx_visitsFrom (n : Nat) (idx : Int) (cs : List Ch) :
    ∀ (pre : List Ch) (b : Bool) (st : Pos),
      runCb (fun _ i p => (p, decide ((i : Int) < idx))) (visitsFrom .fixed n cs (specOfPrefix pre) b) st
        = specOfPrefix (pre ++ cs.takeWhile fun c => decide ((c.off : Int) < idx)) := by
  induction cs with
  | nil => intro pre b st; simp [visitsFrom, runCb]
  | cons c cs ih =>
    intro pre b st
    simp only [visitsFrom, runCb, List.takeWhile_cons]
    by_cases h : (c.off : Int) < idx
    · simp only [h, decide_true, if_true]
      rw [step_spec, ih]
      simp
    · simp [h]

theorem takeWhile_eq_filter_of_sorted (idx : Int) (cs : List Ch)
    (h : cs.Pairwise fun a b => a.off < b.off) :
    (cs.takeWhile fun c => decide ((c.off : Int) < idx)) = cs.filter fun c => decide ((c.off : Int) < idx) := by
  induction cs with
  | nil => rfl
  | cons c cs ih =>
    rw [List.pairwise_cons] at h
    by_cases hc : (c.off : Int) < idx
    · simp [hc, ih h.2]
    · simp only [List.takeWhile_cons, List.filter_cons, hc, decide_false]
      simp only [Bool.false_eq_true, if_false]
      symm
      rw [List.filter_eq_nil_iff]
      intro a ha
      have := h.1 a ha
      simp; omega

theorem step_lt (p : Pos) (b : Bool) (c : Ch) : Pos.lt p (step .fixed p b c) := by
  rw [step_fixed]
  unfold Pos.lt Ch.units
  split
  · exact .inl (Nat.lt_succ_self _)
  · refine .inr ⟨rfl, ?_⟩
    show p.char < p.char + _
    split <;> omega

theorem Pos.lt_trans {p q r : Pos} (h1 : Pos.lt p q) (h2 : Pos.lt q r) : Pos.lt p r := by
  unfold Pos.lt at *; omega

theorem Pos.lt_irrefl (p : Pos) : ¬ Pos.lt p p := by
  unfold Pos.lt; omega

theorem posLt_eq (p q : Pos) : posLt p q.line q.char = decide (Pos.lt p q) := by
  unfold posLt Pos.lt
  by_cases h1 : p.line < q.line <;> by_cases h2 : p.line = q.line <;> by_cases h3 : p.char < q.char <;>
    simp [h1, h2, h3] <;> omega

theorem visitsFrom_lt (n : Nat) : ∀ (cs : List Ch) (p : Pos) (b : Bool) (c : Ch) (b' : Bool),
    ∀ x ∈ visitsFrom .fixed n cs (step .fixed p b c) b', Pos.lt p x.2
  | [], p, b, c, _, x, hx => by
    rw [List.mem_singleton.mp hx]
    exact step_lt p b c
  | c' :: cs, p, b, c, _, x, hx => by
    rcases List.mem_cons.mp hx with rfl | hx
    · exact step_lt p b c
    · exact Pos.lt_trans (step_lt p b c) (visitsFrom_lt n cs _ _ c' _ x hx)

/-- The callback of `lspPositionToIdx` stops at the pair `x` itself: positions
strictly increase along the walk, so every earlier pair is below `x.2`. -/
theorem toIdx_visitsFrom (n : Nat) (cs : List Ch) :
    ∀ (p : Pos) (b : Bool) (st : Nat) (x : Nat × Pos), x ∈ visitsFrom .fixed n cs p b →
      runCb (fun _ i p => (i, posLt p x.2.line x.2.char)) (visitsFrom .fixed n cs p b) st = x.1 := by
  induction cs with
  | nil =>
    intro p b st x hx
    simp [visitsFrom] at hx
    subst hx
    simp [visitsFrom, runCb]
  | cons c cs ih =>
    intro p b st x hx
    simp only [visitsFrom] at hx ⊢
    rcases List.mem_cons.mp hx with rfl | hx
    · have h : posLt p p.line p.char = false := by rw [posLt_eq]; simp [Pos.lt_irrefl]
      simp [runCb, h]
    · have hpx : Pos.lt p x.2 := visitsFrom_lt n cs p b c _ x hx
      have h : posLt p x.2.line x.2.char = true := by rw [posLt_eq]; simp [hpx]
      simp only [runCb, h, if_true]
      exact ih _ _ _ x hx

theorem toIdx_mem (v : Variant) (n : Nat) (line char : Int) (cs : List Ch) :
    ∀ (p : Pos) (b : Bool) (st : Nat),
      runCb (fun _ i p => (i, posLt p line char)) (visitsFrom v n cs p b) st
        ∈ (visitsFrom v n cs p b).map (·.1) := by
  induction cs with
  | nil => intro p b st; simp [visitsFrom, runCb]
  | cons c cs ih =>
    intro p b st
    simp only [visitsFrom, runCb, List.map_cons]
    by_cases h : posLt p line char = true
    · simp only [h, if_true]
      exact List.mem_cons_of_mem _ (ih _ _ _)
    · simp [h]

theorem visitsFrom_offsets (v : Variant) (n : Nat) (cs : List Ch) :
    ∀ (p : Pos) (b : Bool), (visitsFrom v n cs p b).map (·.1) = cs.map (·.off) ++ [n] := by
  induction cs with
  | nil => intro p b; rfl
  | cons c cs ih => intro p b; simp [visitsFrom, ih]

theorem mem_visitsFrom_of_boundary (n : Nat) (cs : List Ch) :
    cs.Pairwise (fun a b => a.off < b.off) → (∀ c ∈ cs, c.off < n) →
    ∀ (pre : List Ch) (b : Bool) (i : Nat), i ∈ cs.map (·.off) ++ [n] →
      (i, specOfPrefix (pre ++ cs.filter fun c => decide ((c.off : Int) < (i : Int))))
        ∈ visitsFrom .fixed n cs (specOfPrefix pre) b := by
  induction cs with
  | nil =>
    intro _ _ pre b i hi
    simp at hi
    subst hi
    simp [visitsFrom]
  | cons c cs ih =>
    intro hs hn pre b i hi
    rw [List.pairwise_cons] at hs
    have hn' : ∀ c ∈ cs, c.off < n := fun c hc => hn c (List.mem_cons_of_mem _ hc)
    simp only [List.map_cons, List.cons_append, List.mem_cons] at hi
    simp only [visitsFrom]
    rcases hi with rfl | hi
    · -- the first character's offset: nothing starts before it
      have : (List.filter (fun d : Ch => decide ((d.off : Int) < (c.off : Int))) (c :: cs)) = [] := by
        rw [List.filter_eq_nil_iff]
        intro a ha
        rcases List.mem_cons.mp ha with rfl | ha
        · simp
        · have := hs.1 a ha
          simp; omega
      rw [this]
      simp
    · -- a later boundary: the first character starts before it
      have hlt : c.off < i := by
        rcases List.mem_append.mp hi with h | h
        · obtain ⟨a, ha, rfl⟩ := List.mem_map.mp h
          exact hs.1 a ha
        · simp at h; subst h; exact hn c (List.mem_cons_self ..)
      have hc : decide ((c.off : Int) < (i : Int)) = true := by simp; omega
      rw [List.filter_cons, if_pos hc, step_spec]
      have := ih hs.2 hn' (pre ++ [c]) (c.r == 13) i hi
      rw [List.append_assoc] at this
      exact List.mem_cons_of_mem _ this

theorem specPos_eq_takeWhile (s : Bytes) (i : Int) :
    specPos s i = specOfPrefix ((chars s).takeWhile fun c => decide ((c.off : Int) < i)) := by
  unfold specPos
  rw [takeWhile_eq_filter_of_sorted _ _ (chars_sorted s)]

theorem fromIdxOfVisits_spec (s : Bytes) (idx : Int) :
    fromIdxOfVisits (visits .fixed s) idx = specPos s idx := by
  rw [specPos_eq_takeWhile]
  exact fromIdx_visitsFrom s.length idx (chars s) [] false ⟨0, 0⟩

theorem rangeOfVisits_spec (s : Bytes) (f t : Int) :
    rangeOfVisits (visits .fixed s) f t = (specPos s f, specPos s t) := by
  rw [rangeOfVisits, fromIdxOfVisits_spec, fromIdxOfVisits_spec]

theorem toIdx_boundary (s : Bytes) (line char : Int) : toIdxV .fixed s line char ∈ boundaries s := by
  have := toIdx_mem .fixed s.length line char (chars s) ⟨0, 0⟩ false 0
  rw [visitsFrom_offsets] at this
  exact this

theorem mem_visits_of_boundary (s : Bytes) (i : Nat) (h : i ∈ boundaries s) :
    (i, specPos s i) ∈ visits .fixed s :=
  mem_visitsFrom_of_boundary s.length (chars s) (chars_sorted s) (chars_off_lt s) [] false i h

theorem toIdx_of_mem_visits (s : Bytes) (x : Nat × Pos) (h : x ∈ visits .fixed s) :
    toIdxV .fixed s x.2.line x.2.char = x.1 :=
  toIdx_visitsFrom s.length (chars s) ⟨0, 0⟩ false 0 x h

def Pos.le (p q : Pos) : Prop := p = q ∨ Pos.lt p q

theorem Pos.le_trans {p q r : Pos} (h1 : Pos.le p q) (h2 : Pos.le q r) : Pos.le p r := by
  rcases h1 with rfl | h1
  · exact h2
  · rcases h2 with rfl | h2
    · exact .inr h1
    · exact .inr (Pos.lt_trans h1 h2)

theorem specOfPrefix_le_append : ∀ (suf pre : List Ch), Pos.le (specOfPrefix pre) (specOfPrefix (pre ++ suf))
  | [], pre => by rw [List.append_nil]; exact .inl rfl
  | c :: rest, pre => by
    have h1 : Pos.le (specOfPrefix pre) (specOfPrefix (pre ++ [c])) := by
      rw [← step_spec pre false c]
      exact .inr (step_lt _ _ _)
    have h2 := specOfPrefix_le_append rest (pre ++ [c])
    rw [List.append_assoc] at h2
    exact Pos.le_trans h1 h2

theorem takeWhile_prefix (i j : Int) (h : i ≤ j) : ∀ (cs : List Ch),
    ∃ suf, (cs.takeWhile fun c => decide ((c.off : Int) < j)) = (cs.takeWhile fun c => decide ((c.off : Int) < i)) ++ suf
  | [] => ⟨[], rfl⟩
  | c :: cs => by
    by_cases hc : (c.off : Int) < i
    · have hj : (c.off : Int) < j := by omega
      obtain ⟨suf, hs⟩ := takeWhile_prefix i j h cs
      exact ⟨suf, by simp [hc, hj, hs]⟩
    · refine ⟨(c :: cs).takeWhile fun c => decide ((c.off : Int) < j), ?_⟩
      simp [List.takeWhile_cons, hc]

theorem specPos_mono (s : Bytes) (i j : Int) (h : i ≤ j) : Pos.le (specPos s i) (specPos s j) := by
  rw [specPos_eq_takeWhile, specPos_eq_takeWhile]
  obtain ⟨suf, hs⟩ := takeWhile_prefix i j h (chars s)
  rw [hs]
  exact specOfPrefix_le_append suf _

end C44
