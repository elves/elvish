/-
C04 — the text printed by repr evaluates back to an eq value; map entries
print in an order that depends only on the contents of the map.

`C04.repr L fixed v indent` = `vals.Repr(v, indent)` (`indent = C04.minInt` is
`ReprPlain`; `fixed = true` is the tree with fixes/C04-repr-map-tiebreak.patch),
`C04.evalLit isPrint text` = the value `put <text>` outputs (parser of C01),
`C04.canon L v` = `v` with NaN payloads normalised and every map re-built in
printed order.  `L : Lib` = `unicode.IsPrint`, strconv's two shortest float
formats, the address order of the type descriptors.
-/
import ElvProofs.C04.Main
open Go C08 C09 C04

/-- The values C04 quantifies over: any byte string, exact numbers in elvish's
own representation, floats under the library hypothesis of `C05_float_roundtrip`;
no field maps, no identity kinds. -/
def C04_Frag (L : Lib) : Val → Prop
  | .nil | .bool _ | .str _ => True
  | .int i => C05.fitsInt i = true
  | .bigint i => C05.fitsInt i = false
  | .rat q => q.den ≠ 1
  | .float b => C05.strconvOKAt L.fmt b.toNat = true
  | .list xs => ∀ x ∈ xs, C04_Frag L x
  | .map false kvs => ∀ p ∈ kvs, C04_Frag L p.1 ∧ C04_Frag L p.2
  | .map true _ | .ref _ _ => False
decreasing_by
  all_goals simp_wf
  · have := List.sizeOf_lt_of_mem ‹x ∈ xs›; omega
  · have := List.sizeOf_lt_of_mem ‹p ∈ kvs›
    have : sizeOf p.1 < sizeOf p := by cases p; simp; omega
    omega
  · have := List.sizeOf_lt_of_mem ‹p ∈ kvs›
    have : sizeOf p.2 < sizeOf p := by cases p; simp; omega
    omega

/-- The conclusions of C04 for one value: (1) the text of `v` at every indent
(plain and pretty) evaluates to `canon v`; (2) `canon v` is eq to `v` when `v`
holds no NaN; (3) a map prints the same text whatever the order of its entries. -/
def C04_Holds (L : Lib) (v : Val) : Prop :=
  (∀ indent : Int, evalLit L.isPrint (C04.repr L true v indent) = some (canon L v)) ∧
  (NaNFree v → Equal v (canon L v) = true) ∧
  (∀ kvs kvs' indent, v = .map false kvs → (∀ p ∈ kvs, NaNFree p.1) → kvs'.Perm kvs →
    C04.repr L true (.map false kvs') indent = C04.repr L true (.map false kvs) indent)

/-- `rank` injective: distinct type descriptors have distinct addresses. -/
def C04_full : Prop :=
  ∀ (L : Lib), (∀ s t, L.rank s = L.rank t → s = t) → ∀ v : Val, C04_Frag L v → WF v → C04_Holds L v

/-- C04's model of `parse.Quote` (`C04.quote`, what `repr` prints for a string)
is C03's model `C03.Quote`: C03 and C04 speak about the same function. -/
theorem C04_quote_is_C03 (isPrint : Int → Bool) (s : Bytes) :
    C03.Quote isPrint s = .ok (C04.quote isPrint s) :=
  quote_eq_C03 isPrint s

-- `\xff`, newline, `'` ↦ `"\xff\n'"` on both models
example : C04.quote C03_asciiPrint [255, 10, 39] = [34, 92, 120, 102, 102, 92, 110, 39, 34] ∧
    C03.Quote C03_asciiPrint [255, 10, 39] = .ok [34, 92, 120, 102, 102, 92, 110, 39, 34] := by decide

/-- The string leaf, for every byte string: wherever `parse.Quote s` stands in a
source — as a list element / map value (`NormalExpr`) or as a map key
(`LHSExpr`), in front of any text that cannot continue a primary — the parser
reads exactly that text as one primary whose value is `s`, from any parser
state satisfying the C01 invariant. -/
theorem C04_string_leaf (e : C01.Env) (s : Bytes) : StrOK e s := strOK_all s

-- the hypotheses of `PrimOK` are satisfiable: source `"\xff"]`, parser at its beginning;
-- `]` cannot continue a primary
example : At { isPrint := fun _ => true, src := [34, 92, 120, 102, 102, 34, 93] }
      { pos := 0, overEOF := 0, errors := [] } (C04.quote (fun _ => true) [255] ++ [93]) ∧
    Stop (fun _ => true) Gen.C01Chars.NormalExpr [93] :=
  ⟨⟨C01.inv_init _, by decide⟩, ⟨by decide⟩⟩

/-- The float hypothesis the driver evaluates on Go's actual outputs
(`floatHypOK`, which also asks that `formatFloat64`'s text is made of number
bytes) is just C05's `strconvOKAt`. -/
theorem C04_float_hypothesis_is_C05 (L : Lib) (b : UInt64) :
    floatHypOK L b = C05.strconvOKAt L.fmt b.toNat :=
  floatHypOK_eq_strconv L b

-- a library for which `0.0` satisfies the hypothesis (`0` / `0e+00`)
example : C05.strconvOKAt (⟨fun _ => [48], fun _ => [48, 101, 43, 48, 48]⟩ : C05.Strconv) (0 : UInt64).toNat = true := by
  decide +kernel

theorem C04_frag_like (L : Lib) : FragLike L (C04_Frag L) where
  int i h := by simpa [C04_Frag] using h
  bigint i h := by simpa [C04_Frag] using h
  rat q h := by simpa [C04_Frag] using h
  float b h := by simpa [C04_Frag] using h
  list xs h := by simpa [C04_Frag] using h
  map kvs h := by
    intro p hp
    rw [C04_Frag] at h
    exact h p hp
  fmap kvs h := by simp [C04_Frag] at h
  ref a b h := by simp [C04_Frag] at h

/-- The conclusions of C04 with the leaf conditions as hypotheses (`GoodAll`);
`C04_roundtrip` discharges them on the fragment. -/
theorem C04_roundtrip_partial (L : Lib) (hinj : ∀ s t, L.rank s = L.rank t → s = t) (v : Val)
    (hg : GoodAll L v) (hwf : WF v) : C04_Holds L v := by
  refine ⟨fun indent => evalLit_repr L v hg indent, fun hnf => (canonOK L v hwf hnf).eq, ?_⟩
  intro kvs kvs' indent hv hnf hperm
  subst hv
  exact repr_map_perm_good L hinj kvs kvs' indent hg hwf hnf hperm

/-- C04: for every library `L` (rank injective) and every well-formed value `v`
of the fragment (no hypothesis on the strings), (1) at every indent,
`put <repr v>` parses without error and evaluates to `canon v`; (2) `canon v`
is eq to `v` when `v` holds no NaN; (3) a map prints the same text for every
order of its entries. -/
theorem C04_roundtrip : C04_full := by
  intro L hinj v hf hwf
  exact C04_roundtrip_partial L hinj v (goodAll_of_frag (C04_frag_like L) v hf) hwf

-- `[&"\xff\n"=['é' '' "\ufffd" 'a b' (num 1)] &(num 1/2)=[&]]` is in the fragment
example (L : Lib) : C04_Frag L (.map false [(.str [255, 10], .list [.str [0xC3, 0xA9], .str [],
    .str [0xEF, 0xBF, 0xBD], .str [97, 32, 98], .int 1]), (.rat (mkRat 1 2), .map false [])]) := by
  simp only [C04_Frag, List.mem_cons, List.not_mem_nil, or_false, forall_eq_or_imp, forall_eq]
  refine ⟨by decide, ?_, fun _ h => h.elim⟩
  show (mkRat 1 2).den ≠ 1
  decide

/-- C04 for values whose strings are printable ASCII (barewords and
single-quoted strings); `hp` is not used. -/
theorem C04_roundtrip_ascii (L : Lib) (hinj : ∀ s t, L.rank s = L.rank t → s = t)
    (hp : IsPrintAscii L.isPrint) (v : Val) (hf : AsciiFrag L v) (hwf : WF v) : C04_Holds L v :=
  C04_roundtrip_partial L hinj v (goodAll_of_frag (asciiFrag_fragLike L) v hf) hwf

-- `[&a=[x 'b c' (num 1)] &(num 0)=$nil &(num 1/2)=[&]]` is in the ASCII fragment
example (L : Lib) : AsciiFrag L (.map false [(.str [97], .list [.str [120], .str [98, 32, 99], .int 1]),
    (.int 0, .nil), (.rat (mkRat 1 2), .map false [])]) := by
  simp only [AsciiFrag, AsciiFragEntries, AsciiFragList, PrintableAscii, and_true, true_and]
  refine ⟨by decide, ⟨by decide, by decide, by decide⟩, by decide, ?_⟩
  show (mkRat 1 2).den ≠ 1
  decide

/-- Clause (2) beyond the fragment: `canon v` is eq to `v` for every well-formed
value without NaN (field maps and identity kinds included). -/
theorem C04_readback_eq (L : Lib) (v : Val) (hwf : WF v) (hnf : NaNFree v) : Equal v (canon L v) = true :=
  (canonOK L v hwf hnf).eq

/-- Every number keeps its representation (int / big int / rational /
float64), NaN reads back as NaN, any other float bit for bit (−0.0 included). -/
theorem C04_number_kind (L : Lib) (v : Val) :
    numType (canon L v) = numType v ∧
    ∀ b, v = .float b → ∃ b', canon L v = .float b' ∧ F64.isNaN b' = F64.isNaN b ∧
      (F64.isNaN b = false → b' = b) := by
  constructor
  · cases v with
    | map f kvs => cases f <;> simp [canon, numType]
    | _ => simp [canon, numType]
  · intro b hb
    subst hb
    refine ⟨canonFloat b, by simp [canon], ?_, ?_⟩
    · unfold canonFloat
      split
      · next h => rw [h]; decide
      · rfl
    · intro h; simp [canonFloat, h]

/-- `canon` goes through lists elementwise and through maps entry by entry, in
printed order. -/
theorem C04_canon_structure (L : Lib) :
    (∀ xs, canon L (.list xs) = .list (xs.map (canon L))) ∧
    (∀ kvs, canon L (.map false kvs) =
      .map false (assocAll ((isort (pairLess L) kvs).map fun p => (canon L p.1, canon L p.2)) [])) :=
  ⟨fun xs => by rw [canon, canonList_eq_map], fun kvs => canon_map_sorted L kvs⟩

/-- Clause (3) for any correct sort: a permutation of the collected pairs that
is sorted by the comparator of `reprMap` is the one the model prints, as long
as the comparator tells any two keys apart (`KeysSeparated`: by `CmpTotal`, or
else by plain text). -/
theorem C04_any_sorted_permutation (L : Lib) (hinj : ∀ s t, L.rank s = L.rank t → s = t)
    (kvs : List (Val × Val)) (indent : Int) (hwf : ∀ p ∈ kvs, WF p.1) (hsep : KeysSeparated L kvs)
    (p : List Entry) (hperm : p.Perm (kvs.map (entryOf L true indent)))
    (hsorted : p.Pairwise (fun a b => entryLess L.rank true b a = false)) :
    p = isort (entryLess L.rank true) (kvs.map (entryOf L true indent)) :=
  sorted_entries_unique L hinj kvs indent hwf hsep p hperm hsorted

/-- Clause (3) with the separation of the keys as the only hypothesis on them:
the text of a map is the same for every order of its entries. -/
theorem C04_order_partial (L : Lib) (hinj : ∀ s t, L.rank s = L.rank t → s = t)
    (kvs kvs' : List (Val × Val)) (indent : Int) (hwf : ∀ p ∈ kvs, WF p.1) (hsep : KeysSeparated L kvs)
    (hperm : kvs'.Perm kvs) :
    C04.repr L true (.map false kvs') indent = C04.repr L true (.map false kvs) indent :=
  repr_map_perm L hinj kvs kvs' indent hwf hsep hperm

/-- Why (3) speaks about permutations of the entries and not about eq maps:
`[&(num 0.0)=a]` and `[&(num -0.0)=a]` are eq (`0.0` and `-0.0` are the same
key) and print differently — as they must, both texts read back bit for bit. -/
theorem C04_eq_maps_print_differently :
    Equal (.map false [(.float 0, .str [97])]) (.map false [(.float 0x8000000000000000, .str [97])]) = true ∧
    C04.repr { isPrint := fun _ => true, fmt := ⟨fun b => if b = 0 then [48] else [45, 48], fun _ => []⟩, rank := id }
        true (.map false [(.float 0, .str [97])]) minInt ≠
      C04.repr { isPrint := fun _ => true, fmt := ⟨fun b => if b = 0 then [48] else [45, 48], fun _ => []⟩, rank := id }
        true (.map false [(.float 0x8000000000000000, .str [97])]) minInt := by
  constructor
  · simp [Equal, entriesEq, lookupEq]
    decide
  · decide +kernel

/-- ASCII `IsPrint`, `0.0` formats as `0` / `0e+00` -/
def C04_L0 : Lib :=
  { isPrint := fun r => decide (32 ≤ r ∧ r ≤ 126), fmt := ⟨fun _ => [48], fun _ => [48, 101, 43, 48, 48]⟩, rank := id }

/-- The unchanged tree (`fixed = false`: ties of `CmpTotal` stay in iteration
order) violates (3): `[&(num 0)=x &(num 0.0)=y]` prints differently when the
two entries arrive in the other order — `(num 0)` and `(num 0.0)` are not eq,
but `CmpTotal` calls them equal.  Witness replayed on the real code by
harness/corpus/C04.txt. -/
theorem C04_counterexample :
    C04.repr C04_L0 false (.map false [(.int 0, .str [120]), (.float 0, .str [121])]) minInt ≠
    C04.repr C04_L0 false (.map false [(.float 0, .str [121]), (.int 0, .str [120])]) minInt := by
  decide +kernel

/-- The fixed tree prints both orders of that witness the same way. -/
theorem C04_counterexample_fixed :
    C04.repr C04_L0 true (.map false [(.int 0, .str [120]), (.float 0, .str [121])]) minInt =
    C04.repr C04_L0 true (.map false [(.float 0, .str [121]), (.int 0, .str [120])]) minInt := by
  decide +kernel

-- the two keys of the witness tie in `CmpTotal` and are separated by text
example : KeysSeparated C04_L0 [(.int 0, .str [120]), (.float 0, .str [121])] := by
  unfold KeysSeparated
  refine List.Pairwise.cons ?_ (List.Pairwise.cons (by intro _ h; cases h) List.Pairwise.nil)
  intro q hq
  have : q = (.float 0, .str [121]) := by simpa using hq
  subst this
  exact Or.inr (by decide +kernel)
