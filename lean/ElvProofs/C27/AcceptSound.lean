/-
Soundness of the trace acceptor: every candidate state it ever holds is a `Reachable` state of the
model, so an accepted log of real processes is a model execution.
-/
import ElvModel.C27.Accept
namespace C27

theorem range_map_get {α : Type} (n : Nat) (f : Nat → α) (j : Nat) (x : α)
    (h : ((Array.range n).map f)[j]? = some x) : x = f j := by
  simp [Array.getElem?_map] at h
  obtain ⟨a, ha, hx⟩ := h
  by_cases hj : j < n
  · simp [hj] at ha
    subst ha
    exact hx.symm
  · simp [hj] at ha

theorem State.rebuild_eq (n : Nat) (s : State) : s.rebuild n = s := by
  cases s with
  | mk sock db sh dm foreign liveRm =>
    simp only [State.rebuild]
    congr 1
    · funext j
      split
      · rename_i x hx
        exact range_map_get n sh j x hx
      · rfl
    · funext j
      split
      · rename_i x hx
        exact range_map_get n dm j x hx
      · rfl

@[simp] theorem Cand.make_s (n : Nat) (s : State) (run : List PId) (toks : List Tok) :
    (Cand.make n s run toks).s = s := by
  simp [Cand.make, State.rebuild_eq]

def AllReach (cs : List Cand) : Prop := ∀ c ∈ cs, Reachable c.s

theorem stepBy_reach {n : Nat} {c c' : Cand} {l : Label} (h : Reachable c.s) (hs : c.stepBy n l = some c') :
    Reachable c'.s := by
  simp only [Cand.stepBy] at hs
  split at hs
  · rename_i s' hstep
    simp at hs
    subst hs
    simpa using Reachable.step h hstep
  · simp at hs

theorem fire_reach {n : Nat} {c c' : Cand} {t : Tok} (h : Reachable c.s) (hs : c.fire n t = some c') :
    Reachable c'.s := by
  simp only [Cand.fire] at hs
  split at hs
  · rename_i c1 h1
    simp at hs
    subst hs
    exact stepBy_reach (c' := c1) h h1
  · simp at hs

theorem succs_reach {n : Nat} {c : Cand} (h : Reachable c.s) : AllReach (c.succs n) := by
  intro c' hc'
  simp only [Cand.succs, List.mem_append, List.mem_flatMap, List.mem_filterMap] at hc'
  rcases hc' with ⟨p, _, l, _, hl⟩ | ⟨t, _, ht⟩
  · exact stepBy_reach h hl
  · exact fire_reach h ht

theorem AllReach.cons {c : Cand} {cs : List Cand} (hc : Reachable c.s) (h : AllReach cs) : AllReach (c :: cs) :=
  fun _ hx => (List.mem_cons.1 hx).elim (· ▸ hc) (h _)

theorem addNew_reach (seen : Std.HashSet CKey) (acc fresh new : List Cand)
    (ha : AllReach acc) (hf : AllReach fresh) (hn : AllReach new) :
    AllReach (addNew seen acc fresh new).2.1 ∧ AllReach (addNew seen acc fresh new).2.2 := by
  induction new generalizing seen acc fresh with
  | nil => exact ⟨ha, hf⟩
  | cons c rest ih =>
    simp only [addNew]
    have hc : Reachable c.s := hn c (by simp)
    have hrest : AllReach rest := fun x hx => hn x (by simp [hx])
    split
    · exact ih seen acc fresh ha hf hrest
    · exact ih _ _ _ (ha.cons hc) (hf.cons hc) hrest

theorem closure_reach (n fuel : Nat) (seen : Std.HashSet CKey) (frontier acc : List Cand)
    (hf : AllReach frontier) (ha : AllReach acc) : AllReach (closure n fuel seen frontier acc) := by
  induction fuel generalizing seen frontier acc with
  | zero => exact ha
  | succ fuel ih =>
    simp only [closure]
    have hnew : AllReach (frontier.flatMap (Cand.succs n)) := by
      intro c hc
      obtain ⟨c0, hc0, hc⟩ := List.mem_flatMap.1 hc
      exact succs_reach (hf c0 hc0) c hc
    have h := addNew_reach seen acc [] _ ha (by intro x hx; simp at hx) hnew
    generalize hr : addNew seen acc [] (frontier.flatMap (Cand.succs n)) = r at h
    obtain ⟨seen', acc', fresh'⟩ := r
    simp only at h ⊢
    cases fresh' with
    | nil => exact h.1
    | cons c cs => exact ih _ _ _ h.2 h.1

theorem closeAll_reach (n : Nat) (cs : List Cand) (h : AllReach cs) : AllReach (closeAll n cs) :=
  closure_reach n _ _ cs cs h h

theorem process_reach (n : Nat) (cs : List Cand) (e : Entry) (h : AllReach cs) : AllReach (process n cs e) := by
  intro c hc
  cases e <;> simp only [process] at hc
  case env | rel =>
    obtain ⟨c0, hc0, rfl⟩ := List.mem_map.1 hc
    exact h c0 hc0
  all_goals exact closeAll_reach n cs h c (List.mem_filter.1 hc).1

theorem init_reach (n : Nat) : AllReach [Cand.init n] := by
  intro c hc
  simp at hc
  subst hc
  simpa [Cand.init] using Reachable.init

end C27
