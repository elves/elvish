/-
The counterexample: concurrent activation over a stale socket.  The harness replays the same
schedule against real processes (scenario `stale-race` of harness/c27/scen.go).
-/
import ElvModel.C27.Spec
namespace C27

/-- Shell 0 brings daemon 0 up; daemon 0 is SIGKILLed (stale socket); shell 0 leaves. -/
def cexPrelude : List Label :=
  [.sh 0 .start, .sh 0 .begin, .sh 0 .lstat, .sh 0 .branch, .sh 0 .spawn,
   .dm 0 .bind, .dm 0 .listen, .dm 0 .openOk, .dm 0 .enter,
   .sh 0 .poll, .sh 0 .lstat, .sh 0 .dial, .dm 0 (.accept 0), .sh 0 .branch,
   .dm 0 .crash, .sh 0 .exit]

/-- Shells 1 and 2 both get "connection refused" from the stale socket. -/
def cexBothRefused : List Label :=
  [.sh 1 .start, .sh 1 .begin, .sh 1 .lstat, .sh 1 .dial,
   .sh 2 .start, .sh 2 .begin, .sh 2 .lstat, .sh 2 .dial]

/-- Shell 1 removes the stale socket, spawns daemon 1 and is connected to it. -/
def cexFirst : List Label :=
  [.sh 1 .branch, .sh 1 .remove, .sh 1 .spawn,
   .dm 1 .bind, .dm 1 .listen, .dm 1 .openOk, .dm 1 .enter,
   .sh 1 .poll, .sh 1 .lstat, .sh 1 .dial, .dm 1 (.accept 1), .sh 1 .branch]

/-- Shell 2 removes daemon 1's FRESH socket and spawns daemon 2, which binds a new file. -/
def cexSecond : List Label :=
  [.sh 2 .branch, .sh 2 .remove, .sh 2 .spawn, .dm 2 .bind, .dm 2 .listen]

/-- Daemon 2 cannot get the database lock (daemon 1 holds it), serves anyway; shell 2 connects. -/
def cexNoDb : List Label :=
  [.dm 2 .openFail, .dm 2 .enter, .sh 2 .poll, .sh 2 .lstat, .sh 2 .dial, .dm 2 (.accept 2), .sh 2 .branch]

/-- Shell 1 leaves; daemon 1 exits and removes daemon 2's socket by path. -/
def cexExit : List Label :=
  [.sh 1 .exit, .dm 1 (.connDone 1), .dm 1 .removeSock]

def cexA : List Label := cexPrelude ++ cexBothRefused ++ cexFirst ++ cexSecond
def cexB : List Label := cexA ++ cexNoDb
def cexC : List Label := cexB ++ cexExit

/-- What the counterexample needs to know about a state, as data, so that `decide` compares one record. -/
structure Facts where
  sock : Option Nat
  db : Option Nat
  pc1 : DPc
  pc2 : DPc
  db2 : Bool
  killed2 : Bool
  sh2 : SPc
  foreign : Bool
  liveRm : Bool
  deriving DecidableEq, Repr

def factsOf (s : State) : Facts :=
  { sock := s.sock, db := s.db, pc1 := (s.dm 1).pc, pc2 := (s.dm 2).pc, db2 := (s.dm 2).hasDB,
    killed2 := (s.dm 2).killed, sh2 := s.sh 2, foreign := s.foreign, liveRm := s.liveRm }

theorem cexA_facts : (run init cexA).map factsOf =
    some { sock := some 2, db := some 1, pc1 := .serving, pc2 := .listened, db2 := false, killed2 := false,
           sh2 := .pollTop, foreign := false, liveRm := true } := by decide

theorem cexB_facts : (run init cexB).map factsOf =
    some { sock := some 2, db := some 1, pc1 := .serving, pc2 := .serving, db2 := false, killed2 := false,
           sh2 := .done (.ok 2), foreign := false, liveRm := true } := by decide

theorem cexC_facts : (run init cexC).map factsOf =
    some { sock := none, db := some 1, pc1 := .removed, pc2 := .serving, db2 := false, killed2 := false,
           sh2 := .done (.ok 2), foreign := true, liveRm := true } := by decide

/-- One shell alone over the stale socket (inside the hypothesis of the safety theorems). -/
def seqTrace : List Label :=
  cexPrelude ++ [.sh 1 .start, .sh 1 .begin, .sh 1 .lstat, .sh 1 .dial] ++ cexFirst

theorem seqTrace_facts : (run init seqTrace).map
    (fun s => (s.liveRm, s.sh 1, (s.dm 0).pc, (s.dm 1).hasDB)) =
    some (false, .done (.ok 1), .dead .crashed, true) := by decide

theorem run_eq {α : Type} {f : State → α} {ls : List Label} {x : α} (h : (run init ls).map f = some x) :
    ∃ s, Reachable s ∧ run init ls = some s ∧ f s = x := by
  cases r : run init ls with
  | none => simp [r] at h
  | some s => exact ⟨s, reachable_run .init r, rfl, by simpa [r] using h⟩

end C27
