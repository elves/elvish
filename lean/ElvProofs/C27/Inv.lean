/-
The inductive invariant `Inv` behind the safety theorems; it strengthens `Safe` and is preserved by
every step that satisfies `AtomicRemoval`.  Apart from the ghost flag and `L` it says one thing of
each daemon separately (`DInv`), and a step rewrites one daemon's record: `Inv.update` reduces
every step to a check on that one record.
-/
import ElvModel.C27.Spec
namespace C27

/-- The hypothesis under which the property holds: when a shell executes `os.Remove(sockpath)`, the
file at the path (if any) was created by a daemon that is no longer alive.  (False in general, see
`C27_counterexample`: the check `connectionRefused` and the removal are two steps.) -/
def AtomicRemoval (s : State) (l : Label) : Prop :=
  ∀ k, l = .sh k .remove → ∀ d, s.sock = some d → (s.dm d).pc.isAlive = false

/-- What holds of daemon `k` at each point of its life.  Of the shared state it reads only `mine`, whether the
file at the socket path is the one `k` created, and `lock`, whether `k` holds the database lock. -/
def DInv (mine lock : Prop) (D : Daemon) : Prop :=
  (D.hasDB = true ↔ lock) ∧ (D.pc ≠ .serving → D.killed = false → D.conns = []) ∧
  match D.pc with
  | .unborn => ¬mine ∧ D.hasDB = false ∧ D.killed = false
  | .start | .failed => ¬mine ∧ D.hasDB = false
  | .bound | .listened => mine ∧ D.hasDB = false
  | .opened | .serving => mine ∧ D.hasDB = true
  | .exiting => mine
  | .removed => True
  | .closing | .dead _ => D.hasDB = false

structure Inv (s : State) : Prop where
  dm : ∀ d, DInv (s.sock = some d) (s.db = some d) (s.dm d)
  i4 : s.foreign = false
  l : L s

@[simp] theorem setSh_sh (s : State) (k : Nat) (pc : SPc) (j : Nat) :
    (s.setSh k pc).sh j = if j = k then pc else s.sh j := rfl
@[simp] theorem setSh_dm (s : State) (k : Nat) (pc : SPc) : (s.setSh k pc).dm = s.dm := rfl
@[simp] theorem setSh_sock (s : State) (k : Nat) (pc : SPc) : (s.setSh k pc).sock = s.sock := rfl
@[simp] theorem setSh_db (s : State) (k : Nat) (pc : SPc) : (s.setSh k pc).db = s.db := rfl
@[simp] theorem setSh_foreign (s : State) (k : Nat) (pc : SPc) : (s.setSh k pc).foreign = s.foreign := rfl
@[simp] theorem setDm_dm (s : State) (k : Nat) (d : Daemon) (j : Nat) :
    (s.setDm k d).dm j = if j = k then d else s.dm j := rfl
@[simp] theorem setDm_sh (s : State) (k : Nat) (d : Daemon) : (s.setDm k d).sh = s.sh := rfl
@[simp] theorem setDm_sock (s : State) (k : Nat) (d : Daemon) : (s.setDm k d).sock = s.sock := rfl
@[simp] theorem setDm_db (s : State) (k : Nat) (d : Daemon) : (s.setDm k d).db = s.db := rfl
@[simp] theorem setDm_foreign (s : State) (k : Nat) (d : Daemon) : (s.setDm k d).foreign = s.foreign := rfl

/-- Case analysis of one model step: afterwards `s'` is replaced by the
concrete successor state in every remaining goal. -/
macro "step_cases" hs:ident : tactic =>
  `(tactic| (
    simp only [step, stepSh, stepDm] at $hs:ident
    repeat' split at $hs:ident
    all_goals (try simp only [Option.some.injEq, reduceCtorEq] at $hs:ident)
    all_goals (try subst $hs:ident)
    all_goals (try simp only [setSh_sh, setSh_dm, setSh_sock, setSh_db, setSh_foreign,
      setDm_dm, setDm_sh, setDm_sock, setDm_db, setDm_foreign] at *)))


theorem DInv.clauses {mine lock : Prop} {D : Daemon} (h : DInv mine lock D) :
    (D.pc.ownsPath = true → mine) ∧ (mine → D.pc ≠ .unborn ∧ D.pc ≠ .start ∧ D.pc ≠ .failed) ∧
    (D.pc.answers = true → D.hasDB = true) ∧ (D.hasDB = true → D.pc ≠ .removed → mine) := by
  obtain ⟨-, -, h⟩ := h
  cases hpc : D.pc <;> simp_all [DPc.ownsPath, DPc.answers]

theorem inv_init : Inv init :=
  ⟨fun d => by simp [DInv, init], rfl, by simp [init, L, connectedTo]⟩

/-- Locality.  When daemon `k` alone is rewritten, and the socket file and the lock change in a way no other
daemon can tell from the old state, the invariant needs checking for `k` only. -/
theorem Inv.update {s : State} (h : Inv s) {k : Nat} {sock' db' : Option Nat} {D' : Daemon} {f' r' : Bool}
    (hsock : ∀ d, d ≠ k → (sock' = some d ↔ s.sock = some d))
    (hdb : ∀ d, d ≠ k → (db' = some d ↔ s.db = some d))
    (hf : f' = false) (hk : DInv (sock' = some k) (db' = some k) D')
    (hg : ∀ j, connectedTo s j k → goodDaemon s j k →
      D'.killed = true ∨ (D'.pc = .serving ∧ j ∈ D'.conns ∧ D'.hasDB = true)) :
    Inv ⟨sock', db', s.sh, fun d => if d = k then D' else s.dm d, f', r'⟩ where
  dm d := by
    by_cases hd : d = k
    · simpa only [hd, if_true] using hk
    · simpa only [if_neg hd, hsock d hd, hdb d hd] using h.dm d
  i4 := hf
  l j d hjd := by
    have hg' := h.l j d hjd
    by_cases hd : d = k
    · subst hd
      simpa only [goodDaemon, if_true] using hg j hjd hg'
    · simpa only [goodDaemon, if_neg hd] using hg'

theorem Inv.setDm {s : State} (h : Inv s) {k : Nat} {D' : Daemon} (hk : DInv (s.sock = some k) (s.db = some k) D')
    (hg : ∀ j, connectedTo s j k → goodDaemon s j k →
      D'.killed = true ∨ (D'.pc = .serving ∧ j ∈ D'.conns ∧ D'.hasDB = true)) :
    Inv (s.setDm k D') :=
  h.update (fun _ _ => .rfl) (fun _ _ => .rfl) h.i4 hk hg

theorem Inv.setSh {s : State} (h : Inv s) {k : Nat} {pc : SPc}
    (hc : ∀ d, (pc = .done (.ok d) ∨ ∃ p, pc = .detected p .ok d) → goodDaemon s k d) : Inv (s.setSh k pc) where
  dm := h.dm
  i4 := h.i4
  l j d hjd := by
    show goodDaemon s j d
    by_cases hj : j = k
    · exact hj ▸ hc d (by simpa only [connectedTo, setSh_sh, hj, if_true] using hjd)
    · exact h.l j d (by simpa only [connectedTo, setSh_sh, if_neg hj] using hjd)

theorem goodDaemon.killed {s : State} {j k : Nat} (h : goodDaemon s j k) (hpc : (s.dm k).pc ≠ .serving) :
    (s.dm k).killed = true :=
  h.elim id fun h' => absurd h'.1 hpc

/-- Releasing the lock if one holds it: nobody else can tell, and afterwards one does not hold it. -/
theorem release_lock {db : Option Nat} {k : Nat} {b : Bool} (h : b = true ↔ db = some k) :
    (∀ d, d ≠ k → ((if b = true then none else db) = some d ↔ db = some d)) ∧
      ¬ (if b = true then none else db) = some k := by
  cases b <;> grind

theorem inv_stepDm {s s' : State} {k : Nat} {a : DAct} (h : Inv s) (hs : stepDm s k a = some s') : Inv s' := by
  have hk := h.dm k
  have hf := h.i4
  cases a <;> simp only [stepDm] at hs
  case listen | enter | closeListener | abort =>
    -- only `pc` moves, to a point with the same `DInv` clause (`failed` to `dead`: `hasDB = false` is kept)
    split at hs <;> cases hs
    rename_i hpc
    refine h.setDm ?_ fun j _ hg => .inl (hg.killed (by simp [hpc]))
    simp only [DInv, hpc] at hk ⊢
    grind
  case bind =>
    -- path free: `k` becomes the owner, and no other daemon was; path taken: `failed` has the clause of `start`
    repeat' split at hs
    all_goals cases hs
    · rename_i _ hpc _ hsock
      simp only [DInv, hpc, hsock] at hk
      refine h.update ?_ (fun _ _ => .rfl) hf ?_ fun j _ hg => .inl (hg.killed (by simp [hpc]))
      · simp [hsock]; grind
      · simp only [DInv]; grind
    · rename_i _ hpc _ d hsock
      refine h.setDm ?_ fun j _ hg => .inl (hg.killed (by simp [hpc]))
      simp only [DInv, hpc] at hk ⊢
      grind
  case openOk =>
    -- the lock was free: `k` takes it, `lock` and `hasDB` become true together
    repeat' split at hs
    all_goals cases hs
    rename_i _ hpc _ hdb
    simp only [DInv, hpc, hdb] at hk
    refine h.update (fun _ _ => .rfl) ?_ hf ?_ fun j _ hg => .inl (hg.killed (by simp [hpc]))
    · simp [hdb]; grind
    · simp only [DInv]; grind
  case openFail =>
    -- impossible: the lock's holder `o`, not yet `removed`, owns the socket file; so does `k`; but `k` has no lock
    repeat' split at hs
    all_goals cases hs
    rename_i _ hpc _ o hdb ho
    have hoo := (h.dm o).clauses.2.2.2 ((h.dm o).1.2 hdb) ho
    simp only [DInv, hpc] at hk
    grind
  case signal =>
    -- `exiting` asks only for `mine`, which `serving` had; `killed` makes every connection good
    split at hs <;> cases hs
    rename_i hpc
    refine h.setDm ?_ fun _ _ _ => .inl rfl
    simp only [DInv, hpc] at hk ⊢
    grind
  case removeSock =>
    -- `exiting` gives `mine`: the file removed is `k`'s own, so `foreign` stays false and no other owner is lost
    split at hs <;> cases hs
    rename_i hpc
    simp only [DInv, hpc] at hk
    refine h.update ?_ (fun _ _ => .rfl) ?_ ?_ fun j _ hg => .inl (hg.killed (by simp [hpc]))
    · simp [hk.2.2]; grind
    · simp [hf, hk.2.2]
    · simp only [DInv]; grind
  case closeStore =>
    -- `closing` asks for `hasDB = false`; the lock goes with it (`release_lock`)
    split at hs <;> cases hs
    rename_i hpc
    simp only [DInv, hpc] at hk
    have hr := release_lock hk.1
    refine h.update (fun _ _ => .rfl) hr.1 hf ?_ fun j _ hg => .inl (hg.killed (by simp [hpc]))
    simp only [DInv]; grind
  case crash =>
    split at hs <;> cases hs
    have hr := release_lock hk.1
    refine h.update (fun _ _ => .rfl) hr.1 hf ?_ fun _ _ _ => .inl rfl
    simp only [DInv]; grind
  case connDone j =>
    repeat' split at hs
    all_goals cases hs
    all_goals rename_i _ hpc hj _
    all_goals simp only [DInv, hpc] at hk
    all_goals
      -- a shell that is still connected is not the one whose connection ended
      have hmem : ∀ i, connectedTo s i k → i ∈ (s.dm k).conns → i ∈ (s.dm k).conns.erase j := fun i hc hi =>
        (List.mem_erase_of_ne (by rintro rfl; simp [connectedTo, hj.2] at hc)).2 hi
      refine h.setDm (by simp only [DInv]; grind) fun i hc hg => hg.imp id fun hg => ?_
      have := hmem i hc hg.2.1
      grind
  case accept j =>
    repeat' split at hs
    all_goals cases hs
    all_goals
      have hpc : (s.dm k).pc = .serving := by assumption
      simp only [DInv, hpc] at hk
      have h1 : Inv (s.setDm k { s.dm k with pending := (s.dm k).pending.erase j, conns := j :: (s.dm k).conns }) :=
        h.setDm (by simp only [DInv, hpc]; grind) fun i _ hg => hg.imp id fun hg => ⟨hg.1, .tail _ hg.2.1, hg.2.2⟩
    · refine h1.setSh fun d hd => ?_
      obtain rfl : k = d := by simpa using hd
      simp [goodDaemon, hpc, hk.2.2.2]
    all_goals exact h1

theorem DInv.unlink {mine lock : Prop} {D : Daemon} (h : DInv mine lock D) (hd : D.pc.isAlive = false) :
    DInv False lock D := by
  obtain ⟨h1, h2, h3⟩ := h
  refine ⟨h1, h2, ?_⟩
  cases hpc : D.pc <;> simp_all [DPc.isAlive]

theorem inv_stepSh {s s' : State} {k : Nat} {a : SAct} (h : Inv s) (g : AtomicRemoval s (.sh k a))
    (hs : stepSh s k a = some s') : Inv s' := by
  cases a <;> simp only [stepSh] at hs
  case dial =>
    repeat' split at hs
    all_goals cases hs
    case h_2.isTrue.refl d _ _ =>
      exact (h.setDm (D' := { s.dm d with pending := k :: (s.dm d).pending }) (h.dm d) fun _ _ hg => hg).setSh
        fun d hd => by simp at hd
    all_goals exact h.setSh fun d hd => by simp at hd
  case remove =>
    repeat' split at hs
    all_goals cases hs
    · exact h.setSh fun d hd => by simp at hd
    · rename_i d hsock
      have hd := g k rfl d hsock
      have h1 : Inv { s with sock := none, liveRm := s.liveRm || (s.dm d).pc.isAlive } := by
        refine ⟨fun j => ?_, h.i4, h.l⟩
        have hj := h.dm j
        by_cases hjd : j = d
        · subst hjd
          simpa only [reduceCtorEq] using hj.unlink hd
        · simpa only [hsock, Option.some.injEq, reduceCtorEq, Ne.symm hjd] using hj
      exact h1.setSh fun d hd => by simp at hd
  case spawn =>
    repeat' split at hs
    all_goals cases hs
    rename_i _ _ _ hpc
    have hk := h.dm k
    simp only [DInv, hpc] at hk
    refine (h.setDm ?_ fun j _ hg => ?_).setSh fun d hd => by simp at hd
    · simp only [DInv]; grind
    · have := hg.killed (by simp [hpc]); grind
  case branch =>
    repeat' split at hs
    all_goals cases hs
    · rename_i p d hpc
      exact h.setSh fun d' hd => by
        obtain rfl : d = d' := by simpa using hd
        exact h.l k d (.inr ⟨p, hpc⟩)
    all_goals exact h.setSh fun d hd => by simp at hd
  all_goals
    repeat' split at hs
    all_goals cases hs
    all_goals exact h.setSh fun d hd => by simp at hd

theorem inv_step {s s' : State} {l : Label} (h : Inv s) (g : AtomicRemoval s l) (hs : step s l = some s') :
    Inv s' := by
  cases l with
  | sh k a => exact inv_stepSh h g hs
  | dm k a => exact inv_stepDm h hs

theorem inv_of_reachableG {s : State} (h : ReachableG AtomicRemoval s) : Inv s := by
  induction h with
  | init => exact inv_init
  | step _ g hs ih => exact inv_step ih g hs

theorem Inv.own {s : State} (h : Inv s) (d : Nat) (hd : (s.dm d).pc.ownsPath = true) : s.sock = some d :=
  (h.dm d).clauses.1 hd

theorem safe_of_inv {s : State} (h : Inv s) : Safe s := by
  refine ⟨?_, h.own, ?_, fun d => (h.dm d).clauses.2.2.1, ?_, h.i4, h.l⟩
  · intro d d' hd hd'
    exact Option.some.inj ((h.own d hd).symm.trans (h.own d' hd'))
  · intro d d' hd hd'
    exact Option.some.inj (((h.dm d).1.1 hd).symm.trans ((h.dm d').1.1 hd'))
  · intro d hk hl
    refine (h.dm d).2.1 (fun hpc => ?_) hk
    simp [hpc, DPc.leftLoop] at hl

theorem stepSh_frame {s s' : State} {k : Nat} {a : SAct} (hs : stepSh s k a = some s') :
    (∀ j, j ≠ k → s'.sh j = s.sh j) ∧ (∀ d, (s'.dm d).pc = (s.dm d).pc ∨ (s.dm d).pc = .unborn) ∧
      (a ≠ .remove → s'.sock = s.sock ∧ s'.liveRm = s.liveRm) := by
  cases a <;> simp only [stepSh] at hs <;> (repeat' split at hs) <;> cases hs <;>
    refine ⟨fun j hj => if_neg hj, fun d => ?_, ?_⟩
  all_goals first | exact .inl rfl | exact fun _ => ⟨rfl, rfl⟩ | exact fun h => absurd rfl h | skip
  all_goals simp only [setSh_dm, setDm_dm]; split <;> simp [*]

theorem stepDm_frame {s s' : State} {k : Nat} {a : DAct} (hs : stepDm s k a = some s') :
    s'.liveRm = s.liveRm ∧ (s.dm k).pc.isAlive = true ∧ (∀ d, d ≠ k → s'.dm d = s.dm d) ∧
    (s'.sock = s.sock ∨ s.sock = none ∨ (s.dm k).pc = .exiting) ∧
    (∀ j, s'.sh j = s.sh j ∨ ∃ p, s.sh j = .await p k ∧ s'.sh j = .detected p .ok k) := by
  cases a <;> simp only [stepDm] at hs <;> (repeat' split at hs) <;> cases hs <;>
    refine ⟨rfl, by first | assumption | simp [*, DPc.isAlive], fun d hd => if_neg hd, by simp [*], fun j => ?_⟩
  all_goals first | exact .inl rfl | (simp only [setSh_sh]; split <;> simp [*])

/-- `liveRm` is never reset, so a step into a state where it is unset removed no live daemon's socket file. -/
theorem liveRm_step {s s' : State} {l : Label} (hs : step s l = some s') (h : s'.liveRm = false) :
    s.liveRm = false ∧ AtomicRemoval s l := by
  cases l with
  | dm k a => exact ⟨(stepDm_frame hs).1 ▸ h, nofun⟩
  | sh k a =>
    by_cases ha : a = .remove
    · subst ha
      simp only [step, stepSh] at hs
      repeat' split at hs
      all_goals cases hs
      · exact ⟨h, fun _ _ d hd => by simp_all⟩
      · rename_i d hsock
        obtain ⟨h1, h2⟩ := Bool.or_eq_false_iff.1 (show (s.liveRm || (s.dm d).pc.isAlive) = false from h)
        exact ⟨h1, fun _ _ d' hd' => Option.some.inj (hsock.symm.trans hd') ▸ h2⟩
    · exact ⟨((stepSh_frame hs).2.2 ha).2 ▸ h, fun _ hl => absurd (Label.sh.inj hl).2 ha⟩

end C27
