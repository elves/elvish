/-
Schedules under which `AtomicRemoval` holds automatically.  `Exclusive`: the window between a
shell's "connection refused" and its `os.Remove(sockpath)` is not interleaved with any other
shell's activation, and no shell dials inside a starting daemon's bind→listen window.
`Sequential`: one shell activates at a time; exits, kills and daemon steps happen at any time.
-/
import ElvProofs.C27.Inv
namespace C27

/-- Inside `Activate` (between its first statement and its return). -/
def SPc.active : SPc → Bool
  | .idle | .done _ | .gone => false
  | _ => true

/-- Between "connection refused" from the first detectDaemon and `os.Remove`. -/
def SPc.inWindow : SPc → Bool
  | .detected false .refused _ | .remove => true
  | _ => false

/-- The next `dial` of shell `k` will be refused. -/
def entersWindow (s : State) (k : Nat) : Prop :=
  s.sh k = .dial false ∧ ∃ d, s.sock = some d ∧ (s.dm d).pc.listenerOpen = false

/-- No shell dials a socket file whose daemon is between bind(2) and listen(2). -/
def NoDialInBindWindow (s : State) (l : Label) : Prop :=
  ∀ k, l = .sh k .dial → ∀ d, s.sock = some d → (s.dm d).pc ≠ .bound

def Exclusive (s : State) (l : Label) : Prop :=
  (∀ k a, l = .sh k a → a ≠ .exit → a ≠ .crash → ∀ j, j ≠ k → (s.sh j).inWindow = false) ∧
  (∀ k, l = .sh k .dial → entersWindow s k → ∀ j, j ≠ k → (s.sh j).active = false) ∧
  NoDialInBindWindow s l

def Sequential (s : State) (l : Label) : Prop :=
  (∀ k, l = .sh k .start → ∀ j, (s.sh j).active = false) ∧ NoDialInBindWindow s l

theorem stepSh_pc {s s' : State} {k : Nat} {a : SAct} (hs : stepSh s k a = some s') :
    ((s'.sh k).active = true → (s.sh k).active = true ∨ a = .start) ∧
    (a ≠ .start → a ≠ .exit → a ≠ .crash → (s.sh k).active = true) ∧
    ((s'.sh k).inWindow = true → (a = .branch ∧ (s.sh k).inWindow = true) ∨ (a = .dial ∧ entersWindow s k)) := by
  cases a <;> simp only [stepSh] at hs <;> (repeat' split at hs) <;> cases hs <;>
    simp_all [SPc.active, SPc.inWindow, entersWindow]
  rename_i p _ _ _ _ _
  cases p <;> simp

structure InvX (s : State) : Prop extends Inv s where
  win : ∀ k, (s.sh k).inWindow = true → ∃ d, s.sock = some d ∧ (s.dm d).pc.isAlive = false

theorem atomic_of_invX {s : State} {l : Label} (h : InvX s) {s' : State} (hs : step s l = some s') :
    AtomicRemoval s l := by
  intro k hl d hd
  subst hl
  have hw := h.win k
  simp only [step, stepSh] at hs
  split at hs
  · rename_i hpc
    simp [hpc, SPc.inWindow] at hw
    grind
  · simp at hs

theorem not_alive_of {pc : DPc} (h1 : pc.listenerOpen = false) (h2 : pc ≠ .unborn) (h3 : pc ≠ .start)
    (h4 : pc ≠ .failed) (h5 : pc ≠ .bound) : pc.isAlive = false := by
  cases pc <;> simp_all [DPc.listenerOpen, DPc.isAlive]

theorem win_step {s s' : State} {l : Label} (h : InvX s)
    (g1 : ∀ k a, l = .sh k a → a ≠ .exit → a ≠ .crash → ∀ j, j ≠ k → (s.sh j).inWindow = false)
    (g3 : NoDialInBindWindow s l) (hs : step s l = some s') :
    ∀ k, (s'.sh k).inWindow = true → ∃ d, s'.sock = some d ∧ (s'.dm d).pc.isAlive = false := by
  intro j hj
  cases l with
  | sh k a =>
    obtain ⟨hsh, hdm, hsock⟩ := stepSh_frame hs
    -- a stale socket file stays, and stale, unless this very step removes it
    have keep : a ≠ .remove → (∃ d, s.sock = some d ∧ (s.dm d).pc.isAlive = false) →
        ∃ d, s'.sock = some d ∧ (s'.dm d).pc.isAlive = false := fun ha ⟨d, hd, hdead⟩ =>
      ⟨d, (hsock ha).1 ▸ hd, (hdm d).elim (· ▸ hdead) fun hu => absurd hu ((h.dm d).clauses.2.1 hd).1⟩
    by_cases hjk : j = k
    · subst hjk
      rcases (stepSh_pc hs).2.2 hj with ⟨rfl, hw⟩ | ⟨rfl, -, d, hd, hlo⟩
      · exact keep (by decide) (h.win j hw)
      · have hb := (h.dm d).clauses.2.1 hd
        exact keep (by decide) ⟨d, hd, not_alive_of hlo hb.1 hb.2.1 hb.2.2 (g3 j rfl d hd)⟩
    · have hw : (s.sh j).inWindow = true := hsh j hjk ▸ hj
      refine keep (fun ha => ?_) (h.win j hw)
      have := g1 k a rfl (by simp [ha]) (by simp [ha]) j hjk
      simp [hw] at this
  | dm k a =>
    obtain ⟨-, hal, hdm, hsock, hsh⟩ := stepDm_frame hs
    have hw : (s.sh j).inWindow = true := by
      rcases hsh j with e | ⟨p, -, e⟩
      · exact e ▸ hj
      · simp [e, SPc.inWindow] at hj
    obtain ⟨d, hd, hdead⟩ := h.win j hw
    have hdk : d ≠ k := fun e => by simp [e, hal] at hdead
    refine ⟨d, ?_, hdm d hdk ▸ hdead⟩
    rcases hsock with e | e | e
    · exact e ▸ hd
    · simp [e] at hd
    · have := h.own k (by simp [e, DPc.ownsPath])
      simp [hd, hdk] at this

theorem invX_init : InvX init :=
  { inv_init with win := by simp [init, SPc.inWindow] }

/-- Of `Exclusive` only the first and the last clause are used, hence the statement for any `G` that grants these two.
By `atomic_of_invX` every step of such a schedule satisfies `AtomicRemoval`, which is what `inv_step` asks for. -/
theorem invX_of_window {G : State → Label → Prop} {s : State}
    (hG : ∀ s l, G s l → (∀ k a, l = .sh k a → a ≠ .exit → a ≠ .crash → ∀ j, j ≠ k → (s.sh j).inWindow = false) ∧
      NoDialInBindWindow s l)
    (h : ReachableG G s) : InvX s := by
  induction h with
  | init => exact invX_init
  | step _ g hs ih =>
    exact { inv_step ih.toInv (atomic_of_invX ih hs) hs with win := win_step ih (hG _ _ g).1 (hG _ _ g).2 hs }

def OneActive (s : State) : Prop := ∀ j k, (s.sh j).active = true → (s.sh k).active = true → j = k

theorem inWindow_active {pc : SPc} (h : pc.inWindow = true) : pc.active = true := by
  cases pc <;> simp_all [SPc.inWindow, SPc.active]

theorem step_active {s s' : State} {l : Label} (hs : step s l = some s') (j : Nat)
    (hj : (s'.sh j).active = true) : (s.sh j).active = true ∨ l = .sh j .start := by
  cases l with
  | sh k a =>
    by_cases hjk : j = k
    · subst hjk
      exact ((stepSh_pc hs).1 hj).imp id (congrArg _)
    · exact .inl ((stepSh_frame hs).1 j hjk ▸ hj)
  | dm k a =>
    rcases (stepDm_frame hs).2.2.2.2 j with e | ⟨p, e, -⟩
    · exact .inl (e ▸ hj)
    · exact .inl (by simp [e, SPc.active])

theorem oneActive_step {s s' : State} {l : Label} (h : OneActive s) (g : Sequential s l)
    (hs : step s l = some s') : OneActive s' := by
  intro i j hi hj
  rcases step_active hs i hi with hi | rfl <;> rcases step_active hs j hj with hj | hl
  · exact h i j hi hj
  · simp [g.1 j hl i] at hi
  · simp [g.1 i rfl j] at hj
  · exact (Label.sh.inj hl).1

theorem exclusive_of_sequential {s s' : State} {l : Label} (h : OneActive s) (g : Sequential s l)
    (hs : step s l = some s') : Exclusive s l := by
  -- while shell `k` takes a step of `Activate`, no other shell is inside `Activate`
  have alone : ∀ k a, l = .sh k a → a ≠ .exit → a ≠ .crash → ∀ j, j ≠ k → (s.sh j).active = false := by
    intro k a hl h1 h2 j hjk
    subst hl
    cases hw : (s.sh j).active with
    | false => rfl
    | true =>
      by_cases ha : a = .start
      · simp [g.1 k (ha ▸ rfl) j] at hw
      · exact absurd (h j k hw ((stepSh_pc hs).2.1 ha h1 h2)) hjk
  refine ⟨fun k a hl h1 h2 j hjk => ?_, fun k hl _ => alone k _ hl (by decide) (by decide), g.2⟩
  cases hw : (s.sh j).inWindow with
  | false => rfl
  | true => exact absurd (inWindow_active hw) (by simp [alone k a hl h1 h2 j hjk])

theorem exclusive_of_reachable_sequential {s : State} (h : ReachableG Sequential s) :
    ReachableG Exclusive s ∧ OneActive s := by
  induction h with
  | init => exact ⟨.init, by simp [OneActive, init, SPc.active]⟩
  | step _ g hs ih => exact ⟨.step ih.1 (exclusive_of_sequential ih.2 g hs) hs, oneActive_step ih.2 g hs⟩

end C27
