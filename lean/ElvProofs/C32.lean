import ElvProofs.C32.Inv
import ElvProofs.C32.Progress
import ElvProofs.C32.AcceptSound
import ElvProofs.C32.Liveness
import ElvProofs.C32.FairExample
open C32

/-! C32 — the editor event loop (pkg/cli/loop.go) handles events serially and
never loses a redraw.  All theorems quantify over `Reachable` states of the
protocol model, i.e. over every interleaving of the loop with any number of
`Redraw` / `Input` / `Return` calls and every resolution of `select`. -/

/-- Events are handled in arrival order: what `inputCh` accepted is exactly
what has been handled, then the event taken but not yet handled, then the
buffer; in particular the handled events are a prefix of the arrivals, and the
buffer never exceeds `inputChSize`. -/
theorem C32_arrival_order (s : State) (h : Reachable s) :
    arrived s.log = handled s.log ++ cur s.pc ++ s.inputCh ∧
    handled s.log <+: arrived s.log ∧ s.inputCh.length ≤ inputCap := by
  have hi := (Inv_of_reachable h).arrival
  refine ⟨hi.1, ?_, hi.2⟩
  rw [hi.1, List.append_assoc]
  exact List.prefix_append _ _

example : ∃ s, Reachable s ∧ handled s.log = [7] ∧ arrived s.log = [7, 8] :=
  ⟨_, reachable_run (ls := [.inp 7, .inp 8, .extract false, .drawStart, .drawEnd, .selIn 7, .hStart]) .init rfl,
    by decide, by decide⟩

/-- One at a time: callback begins and ends alternate in the log, and a
callback is open exactly when the loop's pc is inside one. -/
theorem C32_callbacks_serial (s : State) (h : Reachable s) :
    Serial s.log ∧ cbOpen s.log = inCallback s.pc :=
  ⟨(Inv_of_reachable h).serial.2, (Inv_of_reachable h).serial.1⟩

/-- No lost redraw, safety form: if a request has been issued since the last
extraction of the flag, then the token is in `redrawCh`, or the loop is at a
pc from which it reaches the top of `Run` without blocking, or it has taken a
result out of `returnCh`. -/
theorem C32_no_lost_redraw (s : State) (h : Reachable s) (hp : pending s.log = true) :
    s.token = true ∨ nonBlockingPc s.pc = true ∨ returningPc s.pc = true :=
  (Inv_of_reachable h).pend hp

example : ∃ s, Reachable s ∧ pending s.log = true ∧ s.pc = .sel :=
  ⟨_, reachable_run (ls := [.extract false, .drawStart, .drawEnd, .r1 true, .r2 true]) .init rfl,
    by decide, by decide⟩

/-- While a request is pending the loop goroutine is never stuck: it has an
enabled step, or the mutex it waits for is held by a `Redraw` call whose
remaining step is enabled and frees it. -/
theorem C32_pending_redraw_not_blocked (s : State) (h : Reachable s) (hp : pending s.log = true)
    (hd : ∀ r, s.pc ≠ .done r) :
    (∃ l, l.isLoop = true ∧ (step s l).isSome = true) ∨
    (∃ full s', s.mu = some full ∧ step s (.r2 (!s.token)) = some s' ∧ s'.mu = none) := by
  cases hm : s.mu with
  | some full =>
    obtain ⟨s', h1, h2⟩ := mutex_released s full hm
    exact .inr ⟨full, s', rfl, h1, h2⟩
  | none =>
    refine .inl (loop_enabled s (fun _ => hm) ?_ hd)
    intro hsel
    rcases C32_no_lost_redraw s h hp with ht | hn | hr
    · exact .inr (.inr ht)
    · rw [hsel] at hn; cases hn
    · rw [hsel] at hr; cases hr

/-- Bounded progress: an execution in which the loop takes more than
`rank s + 4·(number of Input steps)` steps contains the start of a redraw
callback.  (`rank s ≤ 4·|inputCh| + 6`.) -/
theorem C32_redraw_within_bound (s s' : State) (ls : List Label) (hrun : run s ls = some s')
    (hmany : rank s + 4 * ls.countP Label.isInput < ls.countP Label.isLoop) :
    ∃ l ∈ ls, l.isRedrawStart = true := by
  apply Classical.byContradiction
  intro hne
  have := run_bound hrun fun l hl => eq_false_of_ne_true fun hb => hne ⟨l, hl, hb⟩
  omega

/-- Every redraw request is followed by a redraw that starts after it, unless
the loop has returned — over infinite executions, under the fairness
assumptions spelled out in `FairExec` (the loop goroutine keeps being
scheduled and is not starved of the mutex; the environment stops sending
input events eventually, because `Run` deliberately consumes all queued events
before redrawing). -/
theorem C32_redraw_eventually (σ : Nat → State) (lab : Nat → Label) (hf : FairExec σ lab)
    (i : Nat) (hp : pending (σ i).log = true) :
    ∃ j, i ≤ j ∧ ((lab j).isRedrawStart = true ∨ ∃ r, (σ j).pc = .done r) :=
  redraw_eventually σ lab hf i (.inl hp)

/-- No downgrade: in the log, every extraction of the flag that follows a
`Redraw(true)` request yields `true` and every ordinary redraw carries exactly
the flag extracted for it; and as long as a full request has not been
extracted the flag stays set (also when the loop returns instead). -/
theorem C32_no_downgrade (s : State) (h : Reachable s) :
    NoDowngrade s.log ∧ (pendingFull s.log = true → s.flag = true) :=
  ⟨(Inv_of_reachable h).noDowngrade, (Inv_of_reachable h).full⟩

/-- A requested full redraw is served by a *full* redraw: under the same
fairness assumptions, after a `Redraw(true)` request an ordinary redraw with
the full flag starts, unless the final redraw starts or `Run` has returned.
(An ordinary non-full redraw whose flag was extracted before the request may
start in between; the request stays pending across it.) -/
theorem C32_full_redraw_eventually (σ : Nat → State) (lab : Nat → Label) (hf : FairExec σ lab)
    (i : Nat) (hp : pendingFull (σ i).log = true) :
    ∃ j, i ≤ j ∧ ((lab j = .drawStart ∧ (σ j).pc = .draw true) ∨ lab j = .fStart ∨ ∃ r, (σ j).pc = .done r) :=
  full_redraw_eventually σ lab hf i hp

/-- The liveness hypotheses are satisfiable: a concrete infinite fair execution
with a full request pending at index 2. -/
example : FairExec demoState demoLab ∧ pendingFull (demoState 2).log = true ∧ pending (demoState 2).log = true :=
  ⟨demo_fair, demo_pending, pending_of_pendingFull demo_pending⟩

example : ∃ s, Reachable s ∧ s.log.head? = some (.drawStart true) :=
  ⟨_, reachable_run (ls := [.extract false, .r1 true, .drawStart, .r2 true, .drawEnd, .selTok, .extract true, .drawStart])
    .init rfl, by decide⟩

/-- The loop returns the first committed result: the result the loop has
taken out of `returnCh` is the oldest one that `returnCh` ever accepted. -/
theorem C32_first_return (s : State) (h : Reachable s) (r : Ret) (hr : r ∈ retOf s.pc) :
    (commits s.log).head? = some r := by
  rw [(Inv_of_reachable h).ret, retOf_of_mem hr]
  rfl

/-- Exactly one final redraw, as the last callback: when `Run` has returned,
one final redraw was started, and the newest two callback observations are its
begin and end. Before the loop takes a result there is none. -/
theorem C32_one_final_redraw (s : State) (h : Reachable s) :
    (∀ r, s.pc = .done r → finals s.log = 1 ∧ ∃ rest, callbacks s.log = .finalEnd :: .finalStart :: rest) ∧
    (returningPc s.pc = false → finals s.log = 0) := by
  have hi := (Inv_of_reachable h).final
  obtain ⟨pc, ch, tok, rc, fl, mu, log⟩ := s
  constructor
  · rintro r ⟨⟩; exact hi
  · intro hn; cases pc <;> first | exact hi | cases hn

example : ∃ s, Reachable s ∧ s.pc = .done 5 ∧ commits s.log = [5, 6] :=
  ⟨_, reachable_run (ls := [.inp 7, .extract false, .drawStart, .drawEnd, .selIn 7, .hStart, .ret 5 true, .ret 9 false,
      .hEnd, .pollRet (some 5), .ret 6 true, .fStart, .fEnd, .retn 5]) .init rfl, by decide, by decide⟩

/-- The trace acceptor used by the driver only holds reachable model states:
whatever entries it is fed, every surviving candidate was produced from the
initial state by `step`.  So an accepted recorded trace is an execution of the
model and all the theorems above apply to it. -/
theorem C32_acceptor_sound (es : List Entry) : ∀ c ∈ es.foldl accept [Cand.init], Reachable c.s :=
  acceptAll_ok es
