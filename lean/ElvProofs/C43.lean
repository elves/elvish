/-
C43 — Completion inserts text that evaluates to the chosen candidate.

Model: `ElvModel/C43/Model.lean` + `Quote.lean` (the completion algorithm of
pkg/edit/complete after fixes/C43-*.patch, over the C01 parse tree).
-/
import ElvProofs.C43.Files
import ElvProofs.C43.Range
import ElvProofs.C43.Redir
import ElvProofs.C43.Var
open Go C01 C43
open Gen.C01Chars

/-- C43, range: the replaced range lies within the buffer, `from ≤ to ≤ |buf|`, for
every buffer (arbitrary bytes), cursor position (any integer) and environment. -/
theorem C43_range (env : C43.Env) (src : Bytes) (dot : Int) (r : Result)
    (h : complete env src dot = .result r) : r.frm ≤ r.to ∧ r.to ≤ src.length := by
  obtain ⟨tree, errs, x, _, _, ⟨hle, hlen, htext, _⟩, hcase⟩ := complete_range h
  rcases hcase with ⟨h1, h2⟩ | ⟨_, h1, h2, _⟩ | ⟨htxt, h2, h1⟩
  · rw [h1, h2]; exact ⟨Nat.le_refl _, hlen⟩
  · rw [h1, h2]; exact ⟨hle, hlen⟩
  · rw [htxt, value_split x.value] at htext
    rw [h1, h2]
    exact ⟨(var_slice hle hlen htext).1, hlen⟩

/-- C43, range is the seed word.  When completion answers, the replaced range is one of:
* (new word) empty, at the end of the separator (or empty chunk) the cursor is
  in, and the seed is empty;
* (word) the whole range of a `Compound` node that contains the cursor;
* (variable) the part of a variable written bare after `$`, the sigil and the
  namespace: the text of the range is exactly the name seed. -/
theorem C43_range_is_seed_word (env : C43.Env) (src : Bytes) (dot : Int) (r : Result)
    (h : complete env src dot = .result r) :
    ∃ tree errs, parse env.isPrint src = .ok tree errs ∧
      ((∃ leaf, C01_Desc tree leaf ∧ r.frm = leaf.to ∧ r.to = leaf.to) ∨
       (∃ c, C01_Desc tree c ∧ c.kind = .compound ∧ r.frm = c.frm ∧ r.to = c.to ∧
          (c.frm : Int) ≤ dot ∧ dot ≤ (c.to : Int)) ∨
       (∃ v, C01_Desc tree v ∧ v.text = 36 :: v.value ∧ r.to = v.to ∧
          (src.drop r.frm).take (r.to - r.frm) = (splitIncompleteQNameNs (splitSigil v.value).2).2 ∧
          src.drop v.frm = 36 :: (splitSigil v.value).1 ++ (splitIncompleteQNameNs (splitSigil v.value).2).1 ++
            src.drop r.frm)) := by
  obtain ⟨tree, errs, x, hp, hd, ⟨hle, hlen, htext, _⟩, hcase⟩ := complete_range h
  refine ⟨tree, errs, hp, ?_⟩
  rcases hcase with ⟨h1, h2⟩ | ⟨hk, h1, h2, hh⟩ | ⟨htx, h2, h1⟩
  · exact Or.inl ⟨x, hd, h1, h2⟩
  · refine Or.inr (Or.inl ⟨x, hd, hk, h1, h2, ?_⟩)
    rcases hh with hh | hh
    · exact ⟨hh.1, Int.le_of_lt hh.2⟩
    · rw [hh]
      exact ⟨by exact_mod_cast hle, Int.le_refl _⟩
  · refine Or.inr (Or.inr ⟨x, hd, htx, h2, ?_⟩)
    rw [htx, value_split x.value] at htext
    rw [h1, h2]
    exact (var_slice hle hlen htext).2

/-- printable ASCII; the directory `.` holds `fo o` and `b` -/
def C43_env0 : C43.Env :=
  { isPrint := fun r => decide (32 ≤ r ∧ r < 127)
    varVal := fun _ => none
    home := fun _ => none
    readDir := fun d => if d == [46] then some [{ name := [102, 111, 32, 111] }, { name := [98] }] else none
    argGen := none
    names := [] }

-- Boolean, so that facts about a concrete `complete …` can be closed by `decide +kernel`.
def C43_resultIs (o : Outcome) (f : Result → Bool) : Bool :=
  match o with
  | .result r => f r
  | _ => false

theorem C43_resultIs_iff {o : Outcome} {f : Result → Bool} (h : C43_resultIs o f = true) :
    ∃ r, o = .result r ∧ f r = true := by
  cases o <;> simp [C43_resultIs] at h
  exact ⟨_, rfl, h⟩

-- `ls fo` + Tab: the range is `fo`, the one candidate is inserted as `'fo o' `.
example : ∃ r, complete C43_env0 [108, 115, 32, 102, 111] 5 = .result r ∧ r.frm = 3 ∧ r.to = 5 ∧
    r.items.map (·.toInsert) = [[39, 102, 111, 32, 111, 39, 32]] := by
  obtain ⟨r, h1, h2⟩ := C43_resultIs_iff (o := complete C43_env0 [108, 115, 32, 102, 111] 5)
    (f := fun r => r.frm == 3 && r.to == 5 && r.items.map (·.toInsert) == [[39, 102, 111, 32, 111, 39, 32]]) (by decide +kernel)
  simp only [Bool.and_eq_true, beq_iff_eq] at h2
  exact ⟨r, h1, h2.1.1, h2.1.2, h2.2⟩

/-- C43, quoting round trip in place (arbitrary bytes, every `unicode.IsPrint`, every
expression context).  After any text `pre` and before any `rest` that does not
continue a word, `(*Compound).parse` reads `QuoteAs(stem, q)` as exactly one word
(`wordNode`: `Compound[Indexing[Primary]]` spanning the inserted text) whose
primary has the quoting `QuoteAs` reports and the value `stem`; it stops right
after the text and records no error. -/
theorem C43_quote_roundtrip (isPrint : Int → Bool) (stem : Bytes) (q ctx : Int) (pre rest : Bytes)
    (k : Nat) (errs : List PErr)
    (hstop : startsIndexing isPrint (peekOf rest) ctx = false) :
    parseCompound isPrint (pre ++ (QuoteAs isPrint stem q).1 ++ rest) ctx
        { pos := pre.length, overEOF := k, errors := errs } =
      .ok (wordNode ctx pre.length (QuoteAs isPrint stem q).1 (QuoteAs isPrint stem q).2 stem)
        { pos := pre.length + (QuoteAs isPrint stem q).1.length, overEOF := k, errors := errs } :=
  quoteAs_word_rt isPrint stem q ctx pre rest k errs hstop

-- non-vacuity: `fo o` is quoted as `'fo o'`, and a following space stops the word
example : (QuoteAs C43_env0.isPrint [102, 111, 32, 111] Bareword).1 = [39, 102, 111, 32, 111, 39] ∧
    startsIndexing C43_env0.isPrint (peekOf [32]) NormalExpr = false := by decide +kernel

/-- C43: the word the round trip yields evaluates, by the static evaluator
(`PurelyEvalPartialCompound`), to `stem`. -/
theorem C43_word_value (isPrint : Int → Bool) (ctx : Int) (frm : Nat) (w : Bytes) (ty : Int) (stem : Bytes)
    (hty : ty = Bareword ∨ ty = SingleQuoted ∨ ty = DoubleQuoted) :
    purelyEvalPartialCompound (literalEnv isPrint) (wordNode ctx frm w ty stem) (-1) = .ok (some stem) :=
  wordNode_value isPrint ctx frm w ty stem hty

theorem C43_quoteAs_type (isPrint : Int → Bool) (stem : Bytes) (q : Int) :
    (QuoteAs isPrint stem q).2 = Bareword ∨ (QuoteAs isPrint stem q).2 = SingleQuoted ∨
      (QuoteAs isPrint stem q).2 = DoubleQuoted :=
  quoteAs_type isPrint stem q

/-- C43: the quoting functions of this model (`quote.go` without outcomes) are
those of the C03 model (Go's partial operations explicit): C03's return — no
panic, enough fuel — exactly what C43's compute, so the C03 theorems speak about
the text `Complete` inserts. -/
theorem C43_quote_is_C03 (isPrint : Int → Bool) (s : Bytes) (q ctx : Int) :
    C03.quoteAs isPrint s q ctx = .ok (quoteAs isPrint s q ctx) ∧
    C03.QuoteAs isPrint s q = .ok (QuoteAs isPrint s q) ∧
    C03.quoteDouble isPrint s = .ok (quoteDouble isPrint s) ∧
    C03.quoteSingle s = quoteSingle s :=
  ⟨quoteAs_eq isPrint s q ctx, QuoteAs_eq isPrint s q, quoteDouble_eq isPrint s, (quoteSingle_eq s).symm⟩

example : C03.QuoteAs C43_env0.isPrint [102, 111, 32, 111] Bareword = .ok ([39, 102, 111, 32, 111, 39], SingleQuoted) ∧
    QuoteAs C43_env0.isPrint [102, 111, 32, 111] Bareword = ([39, 102, 111, 32, 111, 39], SingleQuoted) := by
  decide +kernel

/-- C43, whole-string round trip, from `C03_roundtrip`: the quoted candidate,
parsed on its own with `ParseAs` as a compound in argument, map-key,
braced-element or command context, is one word (`C03_IsWord`) whose literal
value is the candidate. -/
theorem C43_quote_roundtrip_C03 (isPrint : Int → Bool) (stem : Bytes) (q : Int) (ctx : Int)
    (hctx : ctx = NormalExpr ∨ ctx = LHSExpr ∨ ctx = BracedElemExpr ∨ ctx = CmdExpr) :
    C03_IsWord (parseAs isPrint (.compound ctx) (QuoteAs isPrint stem q).1) ctx (QuoteAs isPrint stem q).1 stem := by
  obtain ⟨text, ty, hq, _, hw⟩ := (C03_roundtrip isPrint stem).1 q
  rw [(C43_quote_is_C03 isPrint stem q ctx).2.1] at hq
  have hte : QuoteAs isPrint stem q = (text, ty) := C03.QRes.ok.inj hq
  have h1 : (QuoteAs isPrint stem q).1 = text := by rw [hte]
  rw [h1]
  exact hw ctx hctx

example : ∃ t, parseAs C43_env0.isPrint (.compound NormalExpr) (QuoteAs C43_env0.isPrint [102, 111, 32, 111] Bareword).1 = .ok t [] ∧
    C03.evalLit t = some [102, 111, 32, 111] := by
  obtain ⟨tree, _, _, hr, rest⟩ := C43_quote_roundtrip_C03 C43_env0.isPrint [102, 111, 32, 111] Bareword NormalExpr (Or.inl rfl)
  exact ⟨tree, hr, rest.2.2.2.2.2.2.2.2.2.2.2.2.2.2.2.2.2⟩

/-- C43, every candidate is inserted as one word with the candidate's value.  Every
item of a result shows the stem of some raw candidate; a `noQuoteItem` (variable
names) is inserted as is; every other item is inserted as
`QuoteAs(stem, style) ++ suffix`, and in `buf[:from] ++ toInsert ++ buf[to:]`
`(*Compound).parse` run at `from` — in any expression context, provided
`suffix ++ buf[to:]` does not continue a word — reads exactly the quoted stem
as one word whose static value is the stem. -/
theorem C43_candidate_evaluates_partial (env : C43.Env) (src : Bytes) (dot : Int) (r : Result)
    (h : complete env src dot = .result r) (it : Item) (hit : it ∈ r.items) :
    ∃ (raw : Raw) (q : Int), it.toShow = raw.stem ∧
      (q = Bareword ∨ q = SingleQuoted ∨ q = DoubleQuoted) ∧
      (raw.noQuote = true → it.toInsert = raw.stem) ∧
      (raw.noQuote = false →
        it.toInsert = (QuoteAs env.isPrint raw.stem q).1 ++ raw.suffix ∧
        ∀ (ctx : Int) (k : Nat) (errs : List PErr),
          startsIndexing env.isPrint (peekOf (raw.suffix ++ src.drop r.to)) ctx = false →
          ∃ word, parseCompound env.isPrint (applyItem src r it) ctx { pos := r.frm, overEOF := k, errors := errs } =
              .ok word { pos := r.frm + (QuoteAs env.isPrint raw.stem q).1.length, overEOF := k, errors := errs } ∧
            word.frm = r.frm ∧ word.to = r.frm + (QuoteAs env.isPrint raw.stem q).1.length ∧
            purelyEvalPartialCompound (literalEnv env.isPrint) word (-1) = .ok (some raw.stem)) := by
  have hrange := C43_range env src dot r h
  obtain ⟨tree, errs0, path, ctx, g, hp, hf, hr, hres, _⟩ := completeG_result h
  subst hres
  obtain ⟨raw, _, _, hcook⟩ := finish_items hit
  refine ⟨raw, styleOf true ctx.quote, ?_, styleOf_fixed ctx.quote, ?_, ?_⟩
  · rw [hcook]; unfold cook; split <;> rfl
  · intro hnq; rw [hcook]; unfold cook; simp [hnq]
  · intro hnq
    have hins : it.toInsert = (QuoteAs env.isPrint raw.stem (styleOf true ctx.quote)).1 ++ raw.suffix := by
      rw [hcook]; unfold cook; simp [hnq]
    refine ⟨hins, ?_⟩
    intro cx k errs hstop
    have hlen : (src.take (finish true env ctx g).frm).length = (finish true env ctx g).frm := by
      rw [List.length_take]; omega
    have happ : applyItem src (finish true env ctx g) it =
        src.take (finish true env ctx g).frm ++ (QuoteAs env.isPrint raw.stem (styleOf true ctx.quote)).1 ++
          (raw.suffix ++ src.drop (finish true env ctx g).to) := by
      unfold applyItem; rw [hins]; simp
    have hrt := quoteAs_word_rt env.isPrint raw.stem (styleOf true ctx.quote) cx
      (src.take (finish true env ctx g).frm) (raw.suffix ++ src.drop (finish true env ctx g).to) k errs hstop
    rw [hlen] at hrt
    rw [happ]
    refine ⟨_, hrt, rfl, rfl, ?_⟩
    exact C43_word_value _ _ _ _ _ _ (C43_quoteAs_type _ _ _)

/-- C43, quoting style: the quoting of an inserted candidate, as a function of the
style `q` the user had started (the type of the primary under the cursor; bareword
for a new word, after a `~` and after a variable) and of the stem:
* double-quoted start → double-quoted;
* otherwise a stem with a rune that is not printable, invalid UTF-8 or U+FFFD
  → double-quoted (the only way to write it);
* single-quoted start → single-quoted (also for the empty string);
* bareword start → bareword if the stem is a bareword in every expression
  context (non-empty, no leading `~`), else single-quoted. -/
theorem C43_quote_style (isPrint : Int → Bool) (stem : Bytes) (q : Int) :
    (q = DoubleQuoted → QuoteAs isPrint stem q = (quoteDouble isPrint stem, DoubleQuoted)) ∧
    (q ≠ DoubleQuoted → stem ≠ [] → needsDouble isPrint stem = true →
        QuoteAs isPrint stem q = (quoteDouble isPrint stem, DoubleQuoted)) ∧
    (q = SingleQuoted → (stem = [] ∨ needsDouble isPrint stem = false) →
        QuoteAs isPrint stem q = (quoteSingle stem, SingleQuoted)) ∧
    (q = Bareword → stem ≠ [] → needsDouble isPrint stem = false → isBare isPrint stem strictExpr = true →
        QuoteAs isPrint stem q = (stem, Bareword)) ∧
    (q = Bareword → (stem = [] ∨ (needsDouble isPrint stem = false ∧ isBare isPrint stem strictExpr = false)) →
        QuoteAs isPrint stem q = (quoteSingle stem, SingleQuoted)) := by
  have hS : SingleQuoted ≠ DoubleQuoted := by decide
  have hB : Bareword ≠ DoubleQuoted := by decide
  refine ⟨?_, ?_, ?_, ?_, ?_⟩
  · intro hq; subst hq; exact QuoteAs_double isPrint stem
  · intro hq hne hnd
    rw [QuoteAs_cons isPrint hq hne, if_pos hnd]
  · intro hq hcase; subst hq
    by_cases hne : stem = []
    · subst hne; exact QuoteAs_nil isPrint hS
    · have hnd : needsDouble isPrint stem = false := hcase.resolve_left hne
      have hSB : (SingleQuoted == Bareword) = false := by decide
      rw [QuoteAs_cons isPrint hS hne, if_neg (by simp [hnd]), if_neg (by simp [hSB])]
  · intro hq hne hnd hb; subst hq
    rw [QuoteAs_cons isPrint hB hne, if_neg (by simp [hnd]), if_pos (by simp [hb])]
  · intro hq hcase; subst hq
    by_cases hne : stem = []
    · subst hne; exact QuoteAs_nil isPrint hB
    · obtain ⟨hnd, hb⟩ := hcase.resolve_left hne
      rw [QuoteAs_cons isPrint hB hne, if_neg (by simp [hnd]), if_neg (by simp [hb])]

example : styleOf true Tilde = Bareword ∧ styleOf true Variable = Bareword ∧
    styleOf true SingleQuoted = SingleQuoted ∧ styleOf true DoubleQuoted = DoubleQuoted ∧
    styleOf true Bareword = Bareword := by decide

/-- C43, file names: for a seed `dir ++ prefix` (split at the last `/`) and the
listing of `dir` (`.` if empty) — entry names distinct and without `/` — the
candidates `Complete` shows are a permutation of `fileStems` (the entries whose
name starts with `prefix`, with the same hiddenness as `prefix`, `/` appended for
directories; in command position only executables and directories), without
repetition, in ascending byte order. -/
theorem C43_filenames_exact (env : C43.Env) (ctx : Ctx) (execOrDir : Bool) (listing : List Entry)
    (hread : env.readDir (if (splitPath ctx.seed).1.isEmpty then [46] else (splitPath ctx.seed).1) = some listing)
    (hnames : (listing.map (·.name)).Nodup) (hslash : ∀ e ∈ listing, (47 : UInt8) ∉ e.name) :
    let shown := (finish true env ctx (Gen.ofOpt (generateFileNames env ctx.seed execOrDir))).items.map (·.toShow)
    shown.Perm (fileStems listing (splitPath ctx.seed).1 (splitPath ctx.seed).2 execOrDir) ∧ shown.Nodup ∧
      shown.Pairwise (fun a b => bytesLe a b = true) := by
  have hgen : generateFileNames env ctx.seed execOrDir =
      some (listing.filterMap (fileItem (splitPath ctx.seed).1 (splitPath ctx.seed).2 execOrDir)) := by
    unfold generateFileNames
    simp only [hread]
  rw [hgen, fileStems_eq]
  generalize hL : (listing.filter fun e => e.infoOk && (dotfile (splitPath ctx.seed).2 == dotfile e.name) &&
    (!execOrDir || e.exec || e.isDir) && (splitPath ctx.seed).2.isPrefixOf e.name) = kept
  have hkept : kept.Sublist listing := by rw [← hL]; exact List.filter_sublist
  refine finish_shown env ctx _ _ (by rw [filtered_eq, hL]) ?_ ?_
  · intro x hx
    obtain ⟨e, _, rfl⟩ := List.mem_map.mp hx
    exact ⟨entryRaw_noQuote _ e, entryRaw_suffix _ e⟩
  -- distinct names without `/` give distinct stems
  · rw [List.map_map]
    have hk : (kept.map (·.name)).Nodup := List.Nodup.sublist (hkept.map _) hnames
    rw [List.nodup_iff_pairwise_ne, List.pairwise_map] at hk ⊢
    refine List.Pairwise.imp_of_mem ?_ hk
    intro a b ha hb hne hst
    exact hne (stem_inj _ a b (hslash a (hkept.subset ha)) (hslash b (hkept.subset hb)) hst)

/-- C43 at full strength, for candidates whose value is a string (not variable
names).  For every buffer, cursor position inside it and environment whose
generators produce ordinary candidates: when completion answers, then for every
candidate the buffer `buf[:from] ++ toInsert ++ buf[to:]`, parsed as a whole, has
a word starting at `from` that ends within the inserted text and evaluates to
the candidate. -/
def C43_full : Prop :=
  ∀ (env : C43.Env) (src : Bytes) (dot : Int) (r : Result),
    (∀ x ∈ env.names, x.noQuote = false ∧ x.suffix = []) →
    (∀ l, env.argGen = some l → ∀ x ∈ l, x.noQuote = false ∧ (x.suffix = [] ∨ x.suffix = [32])) →
    0 ≤ dot → dot ≤ src.length →
    complete env src dot = .result r → r.name ≠ "variable" →
    ∀ it ∈ r.items, ∃ e, wordValueAt env.isPrint (applyItem src r it) r.frm = some (it.toShow, e) ∧
      e ≤ r.frm + it.toInsert.length

def C43_asciiPrint : Int → Bool := fun r => decide (32 ≤ r ∧ r < 127)

/-- the command `echo`; `.` holds `foo`, `/` holds the directory `h`; `~` is `/h` -/
def C43_env1 : C43.Env :=
  { isPrint := C43_asciiPrint
    varVal := fun _ => none
    home := fun u => if u == [] then some [47, 104] else none
    readDir := fun d => if d == [46] then some [{ name := [102, 111, 111] }]
      else if d == [47] then some [{ name := [104], isDir := true }] else none
    argGen := none
    names := [{ stem := [101, 99, 104, 111] }] }

/-- C43 does not hold at full strength (finding
`new-word-glued-to-following-text`): in `;x` with the cursor after `;` a new
command is completed directly before `x`; accepting `echo` gives `;echox`,
whose word at 1 is `echox`. -/
theorem C43_counterexample : ¬ C43_full := by
  intro H
  obtain ⟨r, hr, hf⟩ := C43_resultIs_iff (o := complete C43_env1 [59, 120] 1)
    (f := fun r => r.frm == 1 && r.to == 1 && r.name == "command" &&
      r.items == [{ toInsert := [101, 99, 104, 111], toShow := [101, 99, 104, 111] }]) (by decide +kernel)
  simp only [Bool.and_eq_true, beq_iff_eq] at hf
  obtain ⟨⟨⟨hfrm, hto⟩, hname⟩, hitems⟩ := hf
  have hmem : ({ toInsert := [101, 99, 104, 111], toShow := [101, 99, 104, 111] } : Item) ∈ r.items := by
    rw [hitems]; exact List.mem_cons_self
  obtain ⟨e, hv, _⟩ := H C43_env1 [59, 120] 1 r (by decide) (by intro l hl; cases hl) (by decide) (by decide) hr
    (by rw [hname]; decide) _ hmem
  have happ : applyItem [59, 120] r { toInsert := [101, 99, 104, 111], toShow := [101, 99, 104, 111] } =
      [59, 101, 99, 104, 111, 120] := by
    unfold applyItem; rw [hfrm, hto]; rfl
  rw [happ, hfrm] at hv
  have hreal : wordValueAt C43_asciiPrint [59, 101, 99, 104, 111, 120] 1 = some ([101, 99, 104, 111, 120], 6) := by
    decide +kernel
  rw [show C43_env1.isPrint = C43_asciiPrint from rfl, hreal] at hv
  simp at hv

/-! `completeUnfixed` is the algorithm of /repo without fixes/C43-*.patch; the inputs
below are also in harness/corpus/C43.txt and are replayed on the real code. -/

/-- C43, unfixed, insertion into a comment: `ls #` + Tab offers `foo`, giving
`ls #foo ` — a comment; with the fix there is no completion. -/
theorem C43_unfixed_comment_counterexample :
    C43_resultIs (completeUnfixed C43_env1 [108, 115, 32, 35] 4)
      (fun r => r.frm == 4 && r.to == 4 && r.items.map (·.toInsert) == [[102, 111, 111, 32]]) = true ∧
    wordValueAt C43_asciiPrint [108, 115, 32, 35, 102, 111, 111, 32] 4 = none ∧
    C43_resultIs (complete C43_env1 [108, 115, 32, 35] 4) (fun _ => true) = false := by
  decide +kernel

/-- C43, unfixed, quoting style after a `~`: `ls ~` + Tab quotes `/h/` although the user had
typed no quote; with the fix it is inserted bare. -/
theorem C43_unfixed_style_counterexample :
    C43_resultIs (completeUnfixed C43_env1 [108, 115, 32, 126] 4)
      (fun r => r.items.map (·.toInsert) == [[39, 47, 104, 47, 39]]) = true ∧
    C43_resultIs (complete C43_env1 [108, 115, 32, 126] 4)
      (fun r => r.items.map (·.toInsert) == [[47, 104, 47]]) = true := by
  decide +kernel

/-- C43, unfixed, range of a variable written quoted: for `put $'\xff\xff:` the
unfixed algorithm answers the range `[12, 9)` in a buffer of 9 bytes — outside
the buffer, and `from > to`; with the fix it is not treated as a bare variable. -/
theorem C43_unfixed_range_counterexample :
    C43_resultIs (completeUnfixed C43_env1 [112, 117, 116, 32, 36, 39, 255, 255, 58] 9)
      (fun r => r.frm == 12 && r.to == 9) = true ∧
    C43_resultIs (complete C43_env1 [112, 117, 116, 32, 36, 39, 255, 255, 58] 9)
      (fun r => r.name == "variable") = false := by
  decide +kernel

/-- C43, unfixed, a closing parenthesis taken for an opening one: `(a)` + Tab completes a
command after `)`, giving `(a)echo`, where no word starts at 3; with the fix
there is no completion. -/
theorem C43_unfixed_closing_counterexample :
    C43_resultIs (completeUnfixed C43_env1 [40, 97, 41] 3)
      (fun r => r.frm == 3 && r.to == 3 && r.items.map (·.toInsert) == [[101, 99, 104, 111]]) = true ∧
    wordValueAt C43_asciiPrint [40, 97, 41, 101, 99, 104, 111] 3 = none ∧
    C43_resultIs (complete C43_env1 [40, 97, 41] 3) (fun _ => true) = false := by
  decide +kernel

-- `ls fo` + Tab → `ls foo `, whose word at 3 is `foo`
example : C43_resultIs (complete C43_env1 [108, 115, 32, 102, 111] 5)
      (fun r => r.frm == 3 && r.to == 5 && r.items.map (·.toInsert) == [[102, 111, 111, 32]]) = true ∧
    wordValueAt C43_asciiPrint [108, 115, 32, 102, 111, 111, 32] 3 = some ([102, 111, 111], 6) := by
  decide +kernel

/-- C43: a candidate inserted with a trailing space (every file that is not a
directory) meets the hypothesis of `C43_candidate_evaluates_partial` whatever
follows in the buffer. -/
theorem C43_space_suffix_stops (isPrint : Int → Bool) (ctx : Int) (tail : Bytes) :
    startsIndexing isPrint (peekOf ([32] ++ tail)) ctx = false :=
  stops_space isPrint ctx tail

/-- C43: … and so does a candidate without suffix (a directory) completed at the
end of the buffer. -/
theorem C43_end_of_buffer_stops (isPrint : Int → Bool) (ctx : Int) :
    startsIndexing isPrint (peekOf ([] ++ [])) ctx = false :=
  stops_nil isPrint ctx

/-- the text cannot continue a word: it is empty, or its first rune starts no
primary in any expression context (`<`, `>`, `*`, `^`, `,`, `=` do in some context) -/
def C43_Stops (isPrint : Int → Bool) (t : Bytes) : Prop :=
  ∀ ctx, startsIndexing isPrint (peekOf t) ctx = false

/-- C43, full parse of a completed simple command line.  For earlier words `ws`
(`lineText` writes them the way `QuoteAs` does, one space after each), every
candidate `stem`, style `q` and `tail` that does not continue a word: in the tree
`Parse` returns for `w₀ ␣ … ␣ wₖ₋₁ ␣ QuoteAs(stem,q) tail`, the outermost compound
starting where the quoted candidate starts (`wordValueAt`) has the static value
`stem` and ends where the quoted candidate ends.  `tail` is otherwise arbitrary:
C01 (`Parse` is total, its tree tiles the source) covers what follows the candidate. -/
theorem C43_whole_buffer_simple_command (isPrint : Int → Bool) (ws : List (Bytes × Int)) (stem : Bytes) (q : Int)
    (tail : Bytes) (hstop : C43_Stops isPrint tail) :
    wordValueAt isPrint (lineText isPrint ws ++ ((QuoteAs isPrint stem q).1 ++ tail)) (lineText isPrint ws).length =
      some (stem, (lineText isPrint ws).length + (QuoteAs isPrint stem q).1.length) := by
  have h := nest_wordValueAt isPrint [] (fun _ h => nomatch h) ([], [], ws) (by simp [FrameOk, ScriptOk])
    stem q tail hstop
  simpa [nestText, frameText, chunkText, pipeText] using h

/-- C43, `(*Form).parse` in place.  Wherever in a buffer the parser starts a
command, with any parser state and any nesting fuel ≥ 4: if the text from there
on is `lineText ws ++ QuoteAs(stem,q)` followed by text that does not continue a
word, the `Form` node it returns contains, as the outermost compound at the
candidate's position, exactly the candidate's word. -/
theorem C43_form_in_place (isPrint : Int → Bool) (ws : List (Bytes × Int)) (stem : Bytes) (q : Int)
    (pre tail : Bytes) (hstop : C43_Stops isPrint tail) (fuel k : Nat) (errs : List PErr) (F : Node) (sR : St)
    (h : parseNT (fuel + 4) .form
        { isPrint := isPrint, src := pre ++ (lineText isPrint ws ++ ((QuoteAs isPrint stem q).1 ++ tail)) }
        { pos := pre.length, overEOF := k, errors := errs } = .ok F sR) :
    ∃ ctx, compoundAtN (pre.length + (lineText isPrint ws).length) F =
      some (wordNode ctx (pre.length + (lineText isPrint ws).length) (QuoteAs isPrint stem q).1
        (QuoteAs isPrint stem q).2 stem) :=
  form_line_search (e := { isPrint := isPrint, src := pre ++ (lineText isPrint ws ++ ((QuoteAs isPrint stem q).1 ++ tail)) })
    fuel stem q tail hstop ws { pos := pre.length, overEOF := k, errors := errs } sR F
    ⟨by simp, by simp⟩ h

-- non-vacuity: `cp 'a b' ` is such a line (words `cp` and `a b`), `;x` stops a word
example : lineText C43_env0.isPrint [([99, 112], Bareword), ([97, 32, 98], Bareword)] =
      [99, 112, 32, 39, 97, 32, 98, 39, 32] ∧
    C43_Stops C43_env0.isPrint [59, 120] := by
  refine ⟨by decide +kernel, ?_⟩
  intro ctx
  rw [peekOf_byte 59 59]
  simp [startsIndexing, startsPrimary, allowedInBareword, allowedInVariableName]

-- `cp 'a b' 'fo o';x`
example : wordValueAt C43_env0.isPrint
      [99, 112, 32, 39, 97, 32, 98, 39, 32, 39, 102, 111, 32, 111, 39, 59, 120] 9 =
    some ([102, 111, 32, 111], 15) := by decide +kernel

/-- C43, full parse of a completed script of simple commands.  As
`C43_whole_buffer_simple_command`, with any number of complete simple commands
before the current one: earlier pipelines `ps` (each: commands joined by `| `,
then `; `), earlier commands `fs` of the current pipeline (each followed by
`| `), the words `ws` of the current command —
`cd d ; cat f | sort ; grep -r x | head QuoteAs(stem,q) tail`. -/
theorem C43_whole_buffer_script (isPrint : Int → Bool)
    (ps : List (List (List (Bytes × Int)) × List (Bytes × Int))) (hps : ScriptOk ps)
    (fs : List (List (Bytes × Int))) (hfs : ∀ ws ∈ fs, ws ≠ []) (ws : List (Bytes × Int))
    (stem : Bytes) (q : Int) (tail : Bytes) (hstop : C43_Stops isPrint tail) :
    wordValueAt isPrint (chunkText isPrint ps ++ (pipeText isPrint fs ++
        (lineText isPrint ws ++ ((QuoteAs isPrint stem q).1 ++ tail))))
      ((chunkText isPrint ps).length + (pipeText isPrint fs).length + (lineText isPrint ws).length) =
      some (stem, (chunkText isPrint ps).length + (pipeText isPrint fs).length + (lineText isPrint ws).length +
        (QuoteAs isPrint stem q).1.length) := by
  have h := nest_wordValueAt isPrint [] (fun _ h => nomatch h) (ps, fs, ws) ⟨hps, hfs⟩ stem q tail hstop
  simpa [nestText, frameText, Nat.add_assoc] using h

-- non-vacuity: `cd d ; cat f | sort 'fo o'` (one earlier pipeline `cd d`, one
-- earlier command `cat f` of the current pipeline)
example : ScriptOk [(([] : List (List (Bytes × Int))), [([99, 100], Bareword), ([100], Bareword)])] ∧
    chunkText C43_env0.isPrint [([], [([99, 100], Bareword), ([100], Bareword)])] ++
      (pipeText C43_env0.isPrint [[([99, 97, 116], Bareword), ([102], Bareword)]] ++
        lineText C43_env0.isPrint [([115, 111, 114, 116], Bareword)]) =
      [99, 100, 32, 100, 32, 59, 32, 99, 97, 116, 32, 102, 32, 124, 32, 115, 111, 114, 116, 32] ∧
    wordValueAt C43_env0.isPrint
      [99, 100, 32, 100, 32, 59, 32, 99, 97, 116, 32, 102, 32, 124, 32, 115, 111, 114, 116, 32,
        39, 102, 111, 32, 111, 39] 20 = some ([102, 111, 32, 111], 26) := by
  refine ⟨?_, by decide +kernel, by decide +kernel⟩
  intro p hp
  simp only [List.mem_singleton] at hp
  subst hp
  exact ⟨by simp, by intro ws h; cases h⟩

/-- C43, full parse of a completed buffer with nested commands.  As
`C43_whole_buffer_script`, with the current command nested to any depth in
output captures and lambdas: every outer level is a script of simple commands
followed by `(` or by `{ ` (flag `true`), the innermost level `inner` is such a
script — `if $c { echo (cat f | head (ls QuoteAs(stem,q) tail`. -/
theorem C43_whole_buffer_nested (isPrint : Int → Bool) (outer : List (Frame × Bool)) (hout : ∀ p ∈ outer, FrameOk p.1)
    (inner : Frame) (hin : FrameOk inner) (stem : Bytes) (q : Int) (tail : Bytes) (hstop : C43_Stops isPrint tail) :
    wordValueAt isPrint (nestText isPrint outer inner ++ ((QuoteAs isPrint stem q).1 ++ tail))
        (nestText isPrint outer inner).length =
      some (stem, (nestText isPrint outer inner).length + (QuoteAs isPrint stem q).1.length) :=
  nest_wordValueAt isPrint outer hout inner hin stem q tail hstop

-- non-vacuity: `e { cat f | head (ls 'fo o'` (outer levels `e ` + `{ ` and
-- `cat f | head ` + `(`, inner level `ls `)
example : nestText C43_env0.isPrint
      [(([], [], [([101], Bareword)]), true),
       (([], [[([99, 97, 116], Bareword), ([102], Bareword)]], [([104, 101, 97, 100], Bareword)]), false)]
      ([], [], [([108, 115], Bareword)]) =
      [101, 32, 123, 32, 99, 97, 116, 32, 102, 32, 124, 32, 104, 101, 97, 100, 32, 40, 108, 115, 32] ∧
    wordValueAt C43_env0.isPrint
      [101, 32, 123, 32, 99, 97, 116, 32, 102, 32, 124, 32, 104, 101, 97, 100, 32, 40, 108, 115, 32,
        39, 102, 111, 32, 111, 39] 21 = some ([102, 111, 32, 111], 27) := by
  exact ⟨by decide +kernel, by decide +kernel⟩

/-- transfers a `wordValueAt` fact about `pre ++ QuoteAs(stem,q) ++ suffix ++ buf[to:]`
with `pre = buf[:from]` to the completed buffer -/
theorem C43.candidate_in_buffer (env : C43.Env) (src : Bytes) (dot : Int) (r : Result)
    (h : complete env src dot = .result r) (it : Item) (hit : it ∈ r.items) :
    ∃ (raw : Raw) (q : Int), it.toShow = raw.stem ∧
      (raw.noQuote = false →
        it.toInsert = (QuoteAs env.isPrint raw.stem q).1 ++ raw.suffix ∧
        ∀ pre : Bytes, src.take r.frm = pre →
          wordValueAt env.isPrint (pre ++ ((QuoteAs env.isPrint raw.stem q).1 ++ (raw.suffix ++ src.drop r.to)))
              pre.length = some (raw.stem, pre.length + (QuoteAs env.isPrint raw.stem q).1.length) →
          ∃ e, wordValueAt env.isPrint (applyItem src r it) r.frm = some (it.toShow, e) ∧
            e = r.frm + (QuoteAs env.isPrint raw.stem q).1.length ∧ e ≤ r.frm + it.toInsert.length) := by
  have hrange := C43_range env src dot r h
  obtain ⟨raw, q, hshow, _, _, hq⟩ := C43_candidate_evaluates_partial env src dot r h it hit
  refine ⟨raw, q, hshow, fun hnq => ⟨(hq hnq).1, ?_⟩⟩
  intro pre hpre hword
  have hins := (hq hnq).1
  have hlen : pre.length = r.frm := by rw [← hpre, List.length_take]; omega
  have happ : applyItem src r it = pre ++ ((QuoteAs env.isPrint raw.stem q).1 ++ (raw.suffix ++ src.drop r.to)) := by
    unfold applyItem; rw [hins, hpre]; simp
  rw [hlen] at hword
  exact ⟨_, by rw [happ, hshow]; exact hword, rfl, by rw [hins]; simp⟩

/-- C43, candidates evaluate to the candidate in the full parse: the conclusion of
`C43_full` when `buf[:from]` is made of simple commands (`nestText outer inner`:
sequenced with `; `, piped with `| `, nested with `(` or `{ `), for every offered
item that is quoted (all but variable names) and whose quoted stem is followed
in the completed buffer by text that does not continue a word
(`suffix ++ buf[to:]`). -/
theorem C43_candidate_whole_buffer_partial (env : C43.Env) (src : Bytes) (dot : Int) (r : Result)
    (h : complete env src dot = .result r) (it : Item) (hit : it ∈ r.items) :
    ∃ (raw : Raw) (q : Int), it.toShow = raw.stem ∧
      (raw.noQuote = false →
        it.toInsert = (QuoteAs env.isPrint raw.stem q).1 ++ raw.suffix ∧
        ∀ (outer : List (Frame × Bool)) (inner : Frame), (∀ p ∈ outer, FrameOk p.1) → FrameOk inner →
          src.take r.frm = nestText env.isPrint outer inner →
          C43_Stops env.isPrint (raw.suffix ++ src.drop r.to) →
          ∃ e, wordValueAt env.isPrint (applyItem src r it) r.frm = some (it.toShow, e) ∧
            e = r.frm + (QuoteAs env.isPrint raw.stem q).1.length ∧ e ≤ r.frm + it.toInsert.length) := by
  obtain ⟨raw, q, hshow, hq⟩ := C43.candidate_in_buffer env src dot r h it hit
  refine ⟨raw, q, hshow, fun hnq => ⟨(hq hnq).1, ?_⟩⟩
  intro outer inner hout hin hws hstop
  exact (hq hnq).2 _ hws
    (C43_whole_buffer_nested env.isPrint outer hout inner hin raw.stem q (raw.suffix ++ src.drop r.to) hstop)

/-- C43, full parse of a completed redirection target.  As
`C43_whole_buffer_nested`, when the innermost command (at least one word) ends
with a redirection sign — one or more of `<`, `>` — and an optional blank before
the candidate: `sort < QuoteAs(stem,q)`, `e (ls -l >>QuoteAs(stem,q) tail`.
The word is the right operand of the `Redir` node; an invalid sign such as `><`
only adds an error, positions are unaffected (`ElvProofs/C43/Redir.lean`). -/
theorem C43_whole_buffer_redir (isPrint : Int → Bool) (outer : List (Frame × Bool)) (hout : ∀ p ∈ outer, FrameOk p.1)
    (inner : Frame) (hin : FrameOk inner) (hws : inner.2.2 ≠ []) (rs : List Nat) (hs : SignRunes rs) (sp : Bool)
    (stem : Bytes) (q : Int) (tail : Bytes) (hstop : C43_Stops isPrint tail) :
    wordValueAt isPrint (nestText isPrint outer inner ++ (redirText rs sp ++ ((QuoteAs isPrint stem q).1 ++ tail)))
        ((nestText isPrint outer inner).length + (redirText rs sp).length) =
      some (stem, (nestText isPrint outer inner).length + (redirText rs sp).length +
        (QuoteAs isPrint stem q).1.length) :=
  nest_redir_wordValueAt isPrint outer hout inner hin hws rs hs sp stem q tail hstop

-- non-vacuity: `sort < 'fo o'|x`
example : nestText C43_env0.isPrint [] ([], [], [([115, 111, 114, 116], Bareword)]) ++ redirText [60] true =
      [115, 111, 114, 116, 32, 60, 32] ∧ SignRunes [60] ∧
    wordValueAt C43_env0.isPrint [115, 111, 114, 116, 32, 60, 32, 39, 102, 111, 32, 111, 39, 124, 120] 7 =
      some ([102, 111, 32, 111], 13) := by
  refine ⟨by decide +kernel, ⟨by simp, fun r hr => ?_⟩, by decide +kernel⟩
  simp only [List.mem_singleton] at hr
  exact Or.inl hr

/-- C43, redirection targets: the
statement of `C43_candidate_whole_buffer_partial` when the text before the
replaced range ends with a redirection sign (and an optional blank). -/
theorem C43_candidate_whole_buffer_redir_partial (env : C43.Env) (src : Bytes) (dot : Int) (r : Result)
    (h : complete env src dot = .result r) (it : Item) (hit : it ∈ r.items) :
    ∃ (raw : Raw) (q : Int), it.toShow = raw.stem ∧
      (raw.noQuote = false →
        it.toInsert = (QuoteAs env.isPrint raw.stem q).1 ++ raw.suffix ∧
        ∀ (outer : List (Frame × Bool)) (inner : Frame) (rs : List Nat) (sp : Bool), (∀ p ∈ outer, FrameOk p.1) →
          FrameOk inner → inner.2.2 ≠ [] → SignRunes rs →
          src.take r.frm = nestText env.isPrint outer inner ++ redirText rs sp →
          C43_Stops env.isPrint (raw.suffix ++ src.drop r.to) →
          ∃ e, wordValueAt env.isPrint (applyItem src r it) r.frm = some (it.toShow, e) ∧
            e = r.frm + (QuoteAs env.isPrint raw.stem q).1.length ∧ e ≤ r.frm + it.toInsert.length) := by
  obtain ⟨raw, q, hshow, hq⟩ := C43.candidate_in_buffer env src dot r h it hit
  refine ⟨raw, q, hshow, fun hnq => ⟨(hq hnq).1, ?_⟩⟩
  intro outer inner rs sp hout hin hne hs hws hstop
  refine (hq hnq).2 _ hws ?_
  simpa [List.append_assoc] using
    C43_whole_buffer_redir env.isPrint outer hout inner hin hne rs hs sp raw.stem q (raw.suffix ++ src.drop r.to) hstop

-- non-vacuity of the hypotheses: `ls fo` + Tab (range `[3,5)`, `buf[:3]` = `ls `),
-- candidate `fo o` inserted as `'fo o' `
example : [108, 115, 32, 102, 111].take 3 = nestText C43_env0.isPrint [] ([], [], [([108, 115], Bareword)]) ∧
    FrameOk ([], [], [([108, 115], Bareword)]) ∧
    C43_Stops C43_env0.isPrint ([32] ++ ([108, 115, 32, 102, 111] : Bytes).drop 5) ∧
    wordValueAt C43_env0.isPrint [108, 115, 32, 39, 102, 111, 32, 111, 39, 32] 3 = some ([102, 111, 32, 111], 9) := by
  refine ⟨by decide +kernel, ⟨fun p hp => (by simp at hp), fun ws hw => (by simp at hw)⟩,
    fun ctx => stops_space _ ctx _, by decide +kernel⟩

/-- C43, whole buffer, excluding the three finding classes in which `C43_full`
fails (stated only; proved when the text before the range is made of simple
commands, sequenced, piped and nested: `C43_candidate_whole_buffer_partial`).
Excluding —
* `new-word-glued-to-following-text`: the inserted text ends with a space, or
  `buf[to:]` does not continue a word (`C43_Stops`);
* `variable-quoted-candidate-after-prefix`: the completion is not a variable name;
* `word-glued-to-preceding-text-after-syntax-error`: no parse error of the
  buffer starts before `from` —
the full parse of the completed buffer has at `from` a word that evaluates to
the candidate and ends within the inserted text.

Not proved in this generality: missing is that the run of `Parse` on the
completed buffer arrives at `from` about to call `(*Compound).parse`.
`ElvProofs/C43/Line.lean`, `Reach.lean` and `Nest.lean` get this by computing the
run, which needs the text before `from` to be explicit.  The harness evaluates
this statement with the real parser on every generated candidate. -/
def C43_whole_buffer_full : Prop :=
  ∀ (env : C43.Env) (src : Bytes) (dot : Int) (r : Result),
    (∀ x ∈ env.names, x.noQuote = false ∧ x.suffix = []) →
    (∀ l, env.argGen = some l → ∀ x ∈ l, x.noQuote = false ∧ (x.suffix = [] ∨ x.suffix = [32])) →
    0 ≤ dot → dot ≤ src.length →
    complete env src dot = .result r → r.name ≠ "variable" →
    (∀ tree errs, parse env.isPrint src = .ok tree errs → ∀ x ∈ errs, r.frm ≤ x.frm) →
    ∀ it ∈ r.items, (it.toInsert.getLast? = some 32 ∨ C43_Stops env.isPrint (src.drop r.to)) →
      ∃ e, wordValueAt env.isPrint (applyItem src r it) r.frm = some (it.toShow, e) ∧
        e ≤ r.frm + it.toInsert.length

-- the witness of `C43_counterexample` (`;x`, cursor 1, `echo`) fails the last
-- hypothesis of `C43_whole_buffer_full`
example : ¬ (([101, 99, 104, 111] : Bytes).getLast? = some 32 ∨ C43_Stops C43_asciiPrint (([59, 120] : Bytes).drop 1)) := by
  intro h
  rcases h with h | h
  · revert h; decide
  · have := h NormalExpr
    revert this
    decide +kernel

/-- C43, a completed variable use, in place.  For a plain name (`PlainVarName`:
valid UTF-8, first rune a variable-name rune or `@`, all other runes
variable-name runes) the text `$name`, after any text `pre` and before any `rest`
that does not start with a variable-name rune, is read by `(*Primary).parse`, in
every expression context, as exactly one `Variable` primary whose `Value` is
`name`, spanning exactly `$name`, with no error.  (The excluded names are the
finding `variable-quoted-candidate-after-prefix`.) -/
theorem C43_variable_roundtrip (isPrint : Int → Bool) (name : Bytes) (ctx : Int) (pre rest : Bytes)
    (k : Nat) (errs : List PErr) (hname : PlainVarName isPrint name)
    (hstop : allowedInVariableName isPrint (peekOf rest) = false) :
    parsePrimary isPrint (pre ++ (36 :: name) ++ rest) ctx { pos := pre.length, overEOF := k, errors := errs } =
      .ok (varNode ctx pre.length name) { pos := pre.length + (1 + name.length), overEOF := k, errors := errs } :=
  variable_rt isPrint name ctx pre rest k errs hname hstop

-- non-vacuity: `e:HOME` is a plain variable name (namespace and all), `)` ends it
example : PlainVarName C43_asciiPrint [101, 58, 72, 79, 77, 69] ∧
    allowedInVariableName C43_asciiPrint (peekOf [41]) = false := by
  refine ⟨⟨by decide +kernel, 101, [58, 72, 79, 77, 69], by decide +kernel, Or.inl (by decide +kernel), ?_⟩, by decide +kernel⟩
  intro r hr
  simp only [List.mem_cons, List.mem_nil_iff, or_false] at hr
  rcases hr with rfl | rfl | rfl | rfl | rfl <;> decide +kernel

/-- C43, a variable-name candidate completes the variable use it was offered in.
In the variable case of `C43_range_is_seed_word`
(`buf[v.from:] = "$" ++ sigil ++ ns ++ buf[from:]`), every item inserted verbatim
has `toInsert = toShow = stem`, and in the completed buffer `(*Primary).parse` at
`v.from` reads `$ sigil ns stem` as one `Variable` primary named
`sigil ++ ns ++ stem` that ends where the insertion ends, provided that name is
plain and `buf[to:]` does not start with a variable-name rune. -/
theorem C43_variable_candidate_partial (env : C43.Env) (src : Bytes) (dot : Int) (r : Result)
    (h : complete env src dot = .result r) (v : Node)
    (hv : src.drop v.frm = 36 :: (splitSigil v.value).1 ++ (splitIncompleteQNameNs (splitSigil v.value).2).1 ++
      src.drop r.frm)
    (it : Item) (hit : it ∈ r.items) :
    ∃ raw : Raw, it.toShow = raw.stem ∧
      (raw.noQuote = true → it.toInsert = raw.stem ∧
        ∀ (ctx : Int) (k : Nat) (errs : List PErr),
          PlainVarName env.isPrint
            ((splitSigil v.value).1 ++ (splitIncompleteQNameNs (splitSigil v.value).2).1 ++ raw.stem) →
          allowedInVariableName env.isPrint (peekOf (src.drop r.to)) = false →
          parsePrimary env.isPrint (applyItem src r it) ctx { pos := v.frm, overEOF := k, errors := errs } =
            .ok (varNode ctx v.frm
                ((splitSigil v.value).1 ++ (splitIncompleteQNameNs (splitSigil v.value).2).1 ++ raw.stem))
              { pos := r.frm + it.toInsert.length, overEOF := k, errors := errs }) := by
  have hrange := C43_range env src dot r h
  obtain ⟨raw, q, hshow, _, hnq, _⟩ := C43_candidate_evaluates_partial env src dot r h it hit
  refine ⟨raw, hshow, ?_⟩
  intro hn
  have hins := hnq hn
  refine ⟨hins, ?_⟩
  intro ctx k errs hname hstop
  generalize hsg : (splitSigil v.value).1 = sg at *
  generalize hns : (splitIncompleteQNameNs (splitSigil v.value).2).1 = ns at *
  have hvle : v.frm ≤ src.length := by
    rcases Nat.le_total v.frm src.length with h1 | h1
    · exact h1
    · rw [List.drop_eq_nil_of_le h1] at hv; simp at hv
  have hlen := congrArg List.length hv
  simp only [List.length_drop, List.length_cons, List.length_append] at hlen
  have hfrm : r.frm = v.frm + (1 + sg.length + ns.length) := by omega
  have htake : src.take r.frm = src.take v.frm ++ (36 :: sg ++ ns) := by
    have hsplit : src = src.take v.frm ++ ((36 :: sg ++ ns) ++ src.drop r.frm) := by
      conv => lhs; rw [← List.take_append_drop v.frm src, hv]
    conv => lhs; rw [hsplit, ← List.append_assoc]
    rw [List.take_left']
    simp only [List.length_append, List.length_take, List.length_cons]
    omega
  have happ : applyItem src r it = src.take v.frm ++ (36 :: (sg ++ ns ++ raw.stem)) ++ src.drop r.to := by
    unfold applyItem; rw [hins, htake]; simp
  have hpl : (src.take v.frm).length = v.frm := by rw [List.length_take]; omega
  have := C43_variable_roundtrip env.isPrint (sg ++ ns ++ raw.stem) ctx (src.take v.frm) (src.drop r.to) k errs hname hstop
  rw [hpl] at this
  rw [happ, this, hins, hfrm]
  simp only [List.length_append]
  congr 2
  omega
