/-
C24 — the history store behaves like a sequential log with unique sequence numbers.  Model: ElvModel/C24 (bbolt
bucket = sorted association list; cmd.go and dir.go function by function).  Spec: ElvModel/C24/Spec.lean (a log of
(number, text) with a counter).  `S l d` is the store whose `cmd` bucket holds log `l` (`conc l`: 8-byte big-endian
keys) and whose `dir` bucket is `d`.  The hypothesis `counter + (number of operations) < 2^63` says bbolt's uint64
sequence does not leave the range of Go's `int`.  The directory theorems hold for every instance `ScoreOps` of the
float64 / strconv operations.
-/
import ElvProofs.C24.Log
import ElvProofs.C24.DirOps
open Go C24 C24.Spec

/-- `marshalSeq` is monotone (big-endian key order = numeric order) and `unmarshalSeq` inverts it. -/
theorem C24_key_order (a b : Nat) (ha : a < two64) (hb : b < two64) :
    bytesLt (marshalSeq a) (marshalSeq b) = decide (a < b) ∧ unmarshalSeq (marshalSeq a) = .ok a :=
  ⟨bytesLt_marshalSeq a b ha hb, unmarshalSeq_marshalSeq a ha⟩

example : bytesLt (marshalSeq 255) (marshalSeq 256) = true ∧ bytesLt (marshalSeq 256) (marshalSeq 255) = false := by
  decide

/-- Every command-history operation, run on the store that holds a well-formed
log, returns what the log operation returns and leaves the store that holds the
updated log (for every argument, negative ones included: `toU64`). -/
theorem C24_step_refines (l : Log) (d : Bucket) (op : Op) (h : l.WF) (hc : l.counter + 1 < two63) :
    C24.step (S l d) op = (S (Spec.step l op).1 d, (Spec.step l op).2) := by
  have hc' : l.counter < two63 := by omega
  cases op with
  | add t => simp only [C24.step, Spec.step, addCmd_conc l d t h hc]
  | del n => simp only [C24.step, Spec.step, delCmd_conc l d n h hc']
  | get n => simp only [C24.step, Spec.step, cmd_conc l d n h hc']
  | list f u => simp only [C24.step, Spec.step, cmdsWithSeq_conc l d f u h hc']
  | next f p => simp only [C24.step, Spec.step, nextCmd_conc l d f p h hc']
  | prev u p => simp only [C24.step, Spec.step, prevCmd_conc l d u p h hc']
  | nseq => simp only [C24.step, Spec.step, nextCmdSeq_conc l d hc]

/-- …and so does every history. -/
theorem C24_history_refines : ∀ (ops : List Op) (l : Log) (d : Bucket), l.WF → l.counter + ops.length < two63 →
    C24.run (S l d) ops = (S (Spec.run l ops).1 d, (Spec.run l ops).2)
  | [], _, _, _, _ => rfl
  | op :: ops, l, d, h, hc => by
    have hs := Log.counter_step l op
    simp only [List.length_cons] at hc
    simp only [C24.run, Spec.run, C24_step_refines l d op h (by omega)]
    rw [C24_history_refines ops _ d (Log.WF_step h op) (by omega)]

/-- On a fresh database: results of any history = results of the sequential log,
and the bucket left behind is the representation of the final log; the
abstraction function reads that log back. -/
theorem C24_fresh_history (ops : List Op) (hlen : ops.length < two63) :
    (C24.run Store.fresh ops).2 = (Spec.run Log.empty ops).2 ∧
    (C24.run Store.fresh ops).1.cmd = conc (Spec.run Log.empty ops).1 ∧
    absLog (C24.run Store.fresh ops).1.cmd = (Spec.run Log.empty ops).1 ∧
    (Spec.run Log.empty ops).1.WF := by
  have href := C24_history_refines ops Log.empty Bucket.empty Log.WF_empty (by simpa [Log.empty] using hlen)
  have hfresh : Store.fresh = S Log.empty Bucket.empty := rfl
  rw [hfresh, href]
  have hwf := Log.WF_run ops Log.WF_empty
  have hcnt := (Log.counter_run ops Log.empty).2
  refine ⟨rfl, rfl, ?_, hwf⟩
  apply absLog_conc
  apply wf_bound hwf
  have : Log.empty.counter = 0 := rfl
  omega

set_option maxRecDepth 4000 in
example : (C24.run Store.fresh [.add [1], .add [1, 2], .del 1, .add [], .prev (-1) [1], .list 0 (-1), .nseq]).2 =
    [.seq (.ok 1), .seq (.ok 2), .unit, .seq (.ok 3), .cmd (.ok ⟨[1, 2], 2⟩),
     .cmds (.ok [⟨[1, 2], 2⟩, ⟨[], 3⟩]), .nseq 4] := by decide +kernel

/-- The numbers returned by the `add`s of any history — with any deletions,
searches and listings in between — strictly increase, all lie above the counter
the history started from (hence above every number in the initial log, deleted
or not), and the next one to be issued lies above all of them: never reused. -/
theorem C24_seq_strictly_increasing_never_reused (ops : List Op) (l : Log) (d : Bucket) (h : l.WF)
    (hc : l.counter + ops.length + 1 < two63) :
    let outs := (C24.run (S l d) ops).2
    (issued outs).Pairwise (· < ·) ∧
    (∀ n ∈ issued outs, (∀ e ∈ l.entries, (e.1 : Int) < n) ∧ (l.counter : Int) < n ∧
      n < nextCmdSeq (C24.run (S l d) ops).1) := by
  have hcr := Log.counter_run ops l
  simp only [C24_history_refines ops l d h (by omega)]
  rw [nextCmdSeq_conc _ d (by omega)]
  obtain ⟨h1, h2⟩ := issued_run ops l
  refine ⟨h1, ?_⟩
  intro n hn
  obtain ⟨h3, h4⟩ := h2 n hn
  refine ⟨?_, h3, ?_⟩
  · intro e he
    have := (h.2 e he).2
    omega
  · simp only [Log.nextSeq]; omega

set_option maxRecDepth 4000 in
example : issued (C24.run Store.fresh [.add [1], .del 1, .add [2], .del 2, .del 1, .nseq, .add [3]]).2 = [1, 2, 3] := by
  decide +kernel

/-- `CmdsWithSeq(from, upto)` returns exactly the entries with `from ≤ seq < upto`
(bounds read through `uint64`), in strictly ascending sequence order. -/
theorem C24_listing (l : Log) (d : Bucket) (f u : Int) (h : l.WF) (hc : l.counter < two63) :
    ∃ r : List Entry, cmdsWithSeq (S l d) f u = .ok (r.map toCmd) ∧
      r.Pairwise (fun a b => a.1 < b.1) ∧
      ∀ e, e ∈ r ↔ e ∈ l.entries ∧ toU64 f ≤ e.1 ∧ e.1 < toU64 u := by
  refine ⟨l.list (toU64 f) (toU64 u), cmdsWithSeq_conc l d f u h hc, ?_, ?_⟩
  · exact List.Pairwise.sublist List.filter_sublist h.1
  · intro e
    simp [Log.list, List.mem_filter]

set_option maxRecDepth 4000 in
example : cmdsWithSeq (S ⟨[(1, [7]), (3, [8]), (4, [])], 5⟩ Bucket.empty) 2 4 = .ok [⟨[8], 3⟩] := by decide +kernel

/-- `NextCmd(from, p)` returns the matching entry with the least number ≥ `from`;
`ErrNoMatchingCmd` exactly when there is none. -/
theorem C24_nextCmd (l : Log) (d : Bucket) (f : Int) (p : Bytes) (h : l.WF) (hc : l.counter < two63) :
    (∃ e, nextCmd (S l d) f p = .ok (toCmd e) ∧ e ∈ l.entries ∧ toU64 f ≤ e.1 ∧ hasPrefix e.2 p = true ∧
        ∀ e' ∈ l.entries, toU64 f ≤ e'.1 → hasPrefix e'.2 p = true → e.1 ≤ e'.1) ∨
    (nextCmd (S l d) f p = .exc errNoMatchingCmd ∧
        ∀ e' ∈ l.entries, toU64 f ≤ e'.1 → hasPrefix e'.2 p = false) := by
  rw [nextCmd_conc l d f p h hc]
  exact found_cases (fun _ => Iff.rfl) (fun e => toU64 f ≤ e.1) p (· ≤ ·)
    fun e hn e' he' hq => (find_first h.1 _ e hn).2.2 e' he' hq

/-- `PrevCmd(upto, p)` returns the matching entry with the greatest number < `upto`;
`ErrNoMatchingCmd` exactly when there is none. -/
theorem C24_prevCmd (l : Log) (d : Bucket) (u : Int) (p : Bytes) (h : l.WF) (hc : l.counter < two63) :
    (∃ e, prevCmd (S l d) u p = .ok (toCmd e) ∧ e ∈ l.entries ∧ e.1 < toU64 u ∧ hasPrefix e.2 p = true ∧
        ∀ e' ∈ l.entries, e'.1 < toU64 u → hasPrefix e'.2 p = true → e'.1 ≤ e.1) ∨
    (prevCmd (S l d) u p = .exc errNoMatchingCmd ∧
        ∀ e' ∈ l.entries, e'.1 < toU64 u → hasPrefix e'.2 p = false) := by
  rw [prevCmd_conc l d u p h hc]
  exact found_cases (fun _ => List.mem_reverse) (fun e => e.1 < toU64 u) p (fun a b => b ≤ a)
    fun e hn e' he' hq => (find_last h.1 _ e hn).2.2 e' he' hq

set_option maxRecDepth 4000 in
example : nextCmd (S ⟨[(1, [7]), (3, [8, 1]), (4, [8])], 5⟩ Bucket.empty) 2 [8] = .ok ⟨[8, 1], 3⟩ ∧
    prevCmd (S ⟨[(1, [7]), (3, [8, 1]), (4, [8])], 5⟩ Bucket.empty) 4 [8] = .ok ⟨[8, 1], 3⟩ ∧
    prevCmd (S ⟨[(1, [7]), (3, [8, 1]), (4, [8])], 5⟩ Bucket.empty) 9 [8] = .ok ⟨[8], 4⟩ ∧
    prevCmd (S ⟨[(1, [7]), (3, [8, 1]), (4, [8])], 5⟩ Bucket.empty) 3 [8] = .exc errNoMatchingCmd := by decide +kernel

/-- For arguments in `[0, 2^63)` the `uint64` conversion is the identity, so the
bounds in the theorems above are the arguments themselves. -/
theorem C24_nonneg_argument (i : Int) (h0 : 0 ≤ i) : toU64 i = i.toNat ∨ (two64 : Int) ≤ i := by
  by_cases h : i < (two64 : Int)
  · exact Or.inl (toU64_of_nonneg i h0 h)
  · exact Or.inr (by omega)

/-- CLASSIFICATION of negative arguments (`PrevCmd(-1)`, `CmdsWithSeq(-1, 10)` …):
a negative `int` becomes a number ≥ 2^63, above every sequence number.  As an
upper bound it therefore means "no bound" — which is what store.d.elv documents
for `store:cmds` ("use -1 for $upto to not set an upper bound") — and as a lower
bound or an exact number it matches nothing.  Consistent with the sequential
log under the unsigned reading; not a defect. -/
theorem C24_negative_argument (l : Log) (d : Bucket) (n : Int) (hneg : n < 0) (hmin : -(two63 : Int) ≤ n)
    (f : Int) (p : Bytes) (h : l.WF) (hc : l.counter < two63) :
    -- as an upper bound: unbounded
    cmdsWithSeq (S l d) f n = .ok ((l.entries.filter (fun e => toU64 f ≤ e.1)).map toCmd) ∧
    prevCmd (S l d) n p = found (l.entries.reverse.find? (fun e => hasPrefix e.2 p)) ∧
    -- as a lower bound or a sequence number: matches nothing
    cmdsWithSeq (S l d) n f = .ok [] ∧
    nextCmd (S l d) n p = .exc errNoMatchingCmd ∧
    C24.cmd (S l d) n = .exc errNoMatchingCmd ∧
    delCmd (S l d) n = S l d := by
  have hbig := toU64_of_neg n hneg hmin
  obtain ⟨a1, a2, a3, a4, a5, a6⟩ := Log.above l (toU64 n) (fun e he => by have := (h.2 e he).2; omega) (toU64 f) p
  exact ⟨by rw [cmdsWithSeq_conc l d f n h hc, a1], by rw [prevCmd_conc l d n p h hc, a2],
    by rw [cmdsWithSeq_conc l d n f h hc, a3]; rfl, by rw [nextCmd_conc l d n p h hc, a4]; rfl,
    by rw [cmd_conc l d n h hc, a5]; rfl, by rw [delCmd_conc l d n h hc, a6]⟩

set_option maxRecDepth 4000 in
example : prevCmd (S ⟨[(1, [7]), (3, [8])], 3⟩ Bucket.empty) (-1) [] = .ok ⟨[8], 3⟩ ∧
    cmdsWithSeq (S ⟨[(1, [7]), (3, [8])], 3⟩ Bucket.empty) (-1) 10 = .ok [] ∧
    cmdsWithSeq (S ⟨[(1, [7]), (3, [8])], 3⟩ Bucket.empty) 0 (-1) = .ok [⟨[7], 1⟩, ⟨[8], 3⟩] := by decide +kernel

/-- A visit `AddDir d f` with an acceptable path: every other stored score `v`
becomes `marshal(unmarshal(v) · decay)`; the visited directory gets
`marshal(unmarshal(marshal(unmarshal(v) · decay)) + increment · f)` (`0 + increment · f`
when it was absent); nothing else appears; the command history is untouched and
the bucket invariant (sorted valid keys) is kept. -/
theorem C24_addDir (o : ScoreOps) (s : Store) (d : Bytes) (f : o.F) (h : DirWF s.dir)
    (h0 : 0 < d.length) (h1 : d.length ≤ maxKeySize) :
    (addDir o s d f).2 = none ∧ (addDir o s d f).1.cmd = s.cmd ∧ DirWF (addDir o s d f).1.dir ∧
    ∀ p, (addDir o s d f).1.dir.get p =
      if p = d then some (visitedScore o (s.dir.get d) f) else (s.dir.get p).map (decayed o) := by
  have hloop := decayLoop_eq o s.dir.sequence s.dir.kvs [] h
  have hb1 := dirWF_map s.dir (decayed o) h
  have hget := fun p => get_map_values (decayed o) p s.dir.kvs s.dir.sequence h.1
  simp only [List.nil_append] at hloop
  simp only [addDir, Bucket.first, hloop, hget, put_kvs _ d _ hb1.1 h0 h1]
  refine ⟨trivial, trivial, dirWF_put _ d _ hb1 h0 h1, fun p => ?_⟩
  rw [get_put _ d _ p hb1.1, hget]
  cases s.dir.get d <;> rfl

/-- A visit to the empty path (or one longer than bbolt's key limit) fails and,
the transaction being rolled back, changes nothing — no decay either. -/
theorem C24_addDir_rejected (o : ScoreOps) (s : Store) (d : Bytes) (f : o.F)
    (hbad : d.length = 0 ∨ maxKeySize < d.length) :
    (addDir o s d f).1 = s ∧ (addDir o s d f).2 ≠ none := by
  simp only [addDir, Bucket.put]
  rcases hbad with h | h
  · simp [h]
  · have : ¬ d.length = 0 := by simp [maxKeySize] at h; omega
    simp [this, h]

/-- `AddDirRaw` and `DelDir` change exactly one entry. -/
theorem C24_addDirRaw_delDir (o : ScoreOps) (s : Store) (d : Bytes) (x : o.F) (h : DirWF s.dir)
    (h0 : 0 < d.length) (h1 : d.length ≤ maxKeySize) :
    ((addDirRaw o s d x).2 = none ∧ DirWF (addDirRaw o s d x).1.dir ∧
      ∀ p, (addDirRaw o s d x).1.dir.get p = if p = d then some (o.format x) else s.dir.get p) ∧
    (DirWF (delDir s d).dir ∧ ∀ p, (delDir s d).dir.get p = if p = d then none else s.dir.get p) := by
  simp only [addDirRaw, put_kvs s.dir d _ h.1 h0 h1]
  exact ⟨⟨trivial, dirWF_put _ d _ h h0 h1, fun p => get_put s.dir d _ p h.1⟩,
    dirWF_delete _ d h, fun p => get_delete s.dir d p h.1⟩

/-- `Dirs(blacklist)` is a rearrangement of the stored entries whose path is not
blacklisted, with their parsed scores, in descending score order (no entry is
followed by one with a larger score) — for any `<` that is a total preorder on
the scores present (true of float64 `<` away from NaN). -/
theorem C24_dirs (o : ScoreOps) (s : Store) (bl : List Bytes)
    (htrans : ∀ a b c : o.F, o.lt a b = false → o.lt b c = false → o.lt a c = false)
    (htot : ∀ a b : o.F, o.lt a b = false ∨ o.lt b a = false) :
    (dirs o s bl).Perm ((s.dir.kvs.filter (fun kv => !bl.contains kv.1)).map (fun kv => (kv.1, o.parse kv.2))) ∧
    (dirs o s bl).Pairwise (fun a b => o.lt a.2 b.2 = false) := by
  refine ⟨List.mergeSort_perm _ _, ?_⟩
  have := @List.pairwise_mergeSort (Bytes × o.F) (fun a b => !o.lt a.2 b.2)
    (by intro a b c; simp only [Bool.not_eq_true']; exact htrans a.2 b.2 c.2)
    (by intro a b; simp only [Bool.or_eq_true, Bool.not_eq_true']; exact htot a.2 b.2)
    ((s.dir.kvs.filter (fun kv => !bl.contains kv.1)).map (fun kv => (kv.1, o.parse kv.2)))
  simp only [Bool.not_eq_true'] at this
  exact this

/- non-vacuity of the directory theorems: the toy instance `C24_toyOps` (ElvProofs/C24/DirOps.lean:
   scores are natural numbers written as one byte) and a concrete run -/
example : DirWF (⟨[([1], [20]), ([2], [30])], 0⟩ : Bucket) := by
  constructor
  · simp [SortedKV, Sorted.Sorted]; decide
  · intro kv hkv; simp at hkv; rcases hkv with rfl | rfl <;> decide

example : (addDir C24_toyOps ⟨Bucket.empty, ⟨[([1], [20]), ([2], [30])], 0⟩⟩ [2] (1 : Nat)).1.dir.kvs = [([1], [18]), ([2], [28])] := by
  decide +kernel

example : dirs C24_toyOps ⟨Bucket.empty, ⟨[([1], [18]), ([2], [37]), ([3], [50])], 0⟩⟩ [[3]] = [([2], (37 : Nat)), ([1], (18 : Nat))] := by
  simp [dirs, Bucket.first, List.mergeSort, C24_toyOps]

example : (∀ a b c : C24_toyOps.F, C24_toyOps.lt a b = false → C24_toyOps.lt b c = false → C24_toyOps.lt a c = false) ∧
    (∀ a b : C24_toyOps.F, C24_toyOps.lt a b = false ∨ C24_toyOps.lt b a = false) := by
  constructor
  · intro a b c; simp [C24_toyOps]; omega
  · intro a b; simp [C24_toyOps]; omega
