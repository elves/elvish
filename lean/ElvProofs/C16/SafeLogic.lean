/-
C16, total-correctness logic for the compiler monad: "from every state with a
non-empty scope and pragma stack the computation RETURNS (no panic, no fuel
exhaustion), leaves both stacks at the same depth, and reports none of the
three error kinds that are claimed to be dead code".
-/
import ElvProofs.C16.PrimaryOp
namespace C16
open Go
open Gen.C01Chars

/-- the error kinds that can be reported on a parser-produced tree -/
def Live (k : EK) : Prop := k ≠ .exactlyOneLvalue ∧ k ≠ .tildeBug ∧ k ≠ .badPrimary
instance : DecidablePred Live := fun k => by unfold Live; exact inferInstance

def Clean (l : List CErr) : Prop := ∀ x ∈ l, Live x.kind

theorem Clean.nil : Clean [] := fun _ h => by cases h

/-- `cp.scopes` and `cp.pragmas` are not empty -/
structure Inv (s : CSt) : Prop where
  sc : 0 < s.scopes.length
  pr : 0 < s.pragmas.length

structure Keep (s s' : CSt) : Prop where
  sc : s'.scopes.length = s.scopes.length
  pr : s'.pragmas.length = s.pragmas.length
  cl : Clean s.errors → Clean s'.errors

theorem Keep.refl (s : CSt) : Keep s s := ⟨rfl, rfl, id⟩
theorem Keep.trans {s s1 s2 : CSt} (h1 : Keep s s1) (h2 : Keep s1 s2) : Keep s s2 :=
  ⟨h2.sc.trans h1.sc, h2.pr.trans h1.pr, fun h => h2.cl (h1.cl h)⟩
theorem Inv.keep {s s' : CSt} (hi : Inv s) (hk : Keep s s') : Inv s' :=
  ⟨by rw [hk.sc]; exact hi.sc, by rw [hk.pr]; exact hi.pr⟩

structure Safe {α : Type} (m : M α) (Q : α → Prop) : Prop where
  prf : ∀ e s, Inv s → ∃ a s', m e s = .ok a s' ∧ Keep s s' ∧ Q a

abbrev T {α : Type} : α → Prop := fun _ => True

theorem Safe.pure {α : Type} {Q : α → Prop} (a : α) (h : Q a) : Safe (pure a : M α) Q :=
  ⟨fun _ s _ => ⟨a, s, rfl, Keep.refl s, h⟩⟩

theorem Safe.bind {α β : Type} {m : M α} {f : α → M β} {P : α → Prop} {Q : β → Prop}
    (hm : Safe m P) (hf : ∀ a, P a → Safe (f a) Q) : Safe (m >>= f) Q := by
  constructor; intro e s hi
  obtain ⟨a, s1, h1, k1, pa⟩ := hm.prf e s hi
  obtain ⟨b, s2, h2, k2, qb⟩ := (hf a pa).prf e s1 (hi.keep k1)
  refine ⟨b, s2, ?_, k1.trans k2, qb⟩
  show M.bind m f e s = _
  unfold M.bind; rw [h1]; exact h2

theorem Safe.bindT {α β : Type} {m : M α} {f : α → M β} {Q : β → Prop}
    (hm : Safe m T) (hf : ∀ a, Safe (f a) Q) : Safe (m >>= f) Q :=
  Safe.bind hm (fun a _ => hf a)

theorem Safe.mono {α : Type} {m : M α} {P Q : α → Prop} (hm : Safe m P) (h : ∀ a, P a → Q a) : Safe m Q := by
  constructor; intro e s hi
  obtain ⟨a, s1, h1, k1, pa⟩ := hm.prf e s hi
  exact ⟨a, s1, h1, k1, h a pa⟩

theorem Safe.toT {α : Type} {m : M α} {P : α → Prop} (hm : Safe m P) : Safe m T := hm.mono (fun _ _ => trivial)

theorem Safe.forEach {α : Type} (l : List α) (f : α → M Unit) (hf : ∀ x ∈ l, Safe (f x) T) :
    Safe (forEach l f) T := by
  induction l with
  | nil => exact Safe.pure _ trivial
  | cons x xs ih =>
    exact Safe.bindT (hf x (List.mem_cons_self)) (fun _ => ih (fun y hy => hf y (List.mem_cons_of_mem _ hy)))

theorem Safe.getEnv : Safe getEnv T := ⟨fun e s _ => ⟨e, s, rfl, Keep.refl s, trivial⟩⟩
theorem Safe.scopeDepth : Safe scopeDepth T := ⟨fun _ s _ => ⟨_, s, rfl, Keep.refl s, trivial⟩⟩

theorem Safe.err (k : EK) (hk : Live k) (a b : Nat) : Safe (err k a b) T := by
  constructor; intro e s _
  refine ⟨(), _, rfl, ⟨rfl, rfl, ?_⟩, trivial⟩
  intro hc x hx
  simp only [List.mem_append, List.mem_singleton] at hx
  rcases hx with hx | hx
  · exact hc x hx
  · subst hx; exact hk
theorem Safe.errAt (k : EK) (hk : Live k) (n : Node) : Safe (errAt k n) T := Safe.err k hk _ _
theorem Safe.errPoint (k : EK) (hk : Live k) (p : Nat) : Safe (errPoint k p) T := Safe.err k hk _ _

theorem Safe.autofix (q : Bytes) : Safe (autofix q) T :=
  ⟨fun _ s _ => ⟨(), _, rfl, ⟨rfl, rfl, id⟩, trivial⟩⟩

theorem Inv.top {s : CSt} (hi : Inv s) : ∃ sc rest, s.scopes = sc :: rest := by
  have := hi.sc
  cases h : s.scopes with
  | nil => rw [h] at this; cases this
  | cons sc rest => exact ⟨sc, rest, rfl⟩

theorem thisScope_cons (e : Env) {s : CSt} {sc : StaticNs} {rest : List StaticNs} (hs : s.scopes = sc :: rest) :
    thisScope e s = .ok sc s := by
  unfold C16.thisScope; simp only [hs]

theorem Safe.thisScope : Safe thisScope T := by
  constructor; intro e s hi
  obtain ⟨sc, rest, hs⟩ := hi.top
  exact ⟨sc, s, thisScope_cons e hs, Keep.refl s, trivial⟩

theorem Safe.setThisScope (sc : StaticNs) : Safe (setThisScope sc) T := by
  constructor; intro e s hi
  obtain ⟨scopes, pragmas, errors, fixes⟩ := s
  cases scopes with
  | nil => exact absurd hi.sc (Nat.lt_irrefl 0)
  | cons sc0 rest => exact ⟨(), _, rfl, ⟨rfl, rfl, id⟩, trivial⟩

theorem Safe.currentPragma : Safe currentPragma T := by
  constructor; intro e s hi
  obtain ⟨scopes, pragmas, errors, fixes⟩ := s
  cases pragmas with
  | nil => exact absurd hi.pr (Nat.lt_irrefl 0)
  | cons p rest => exact ⟨p, _, rfl, Keep.refl _, trivial⟩

theorem Safe.setCurrentPragma (b : Bool) : Safe (setCurrentPragma b) T := by
  constructor; intro e s hi
  obtain ⟨scopes, pragmas, errors, fixes⟩ := s
  cases pragmas with
  | nil => exact absurd hi.pr (Nat.lt_irrefl 0)
  | cons p rest => exact ⟨(), _, rfl, ⟨rfl, rfl, id⟩, trivial⟩

theorem Safe.addName (k : Bytes) : Safe (addName k) T := by
  unfold C16.addName
  exact Safe.bindT Safe.thisScope (fun _ => Safe.bindT (Safe.setThisScope _) (fun _ => Safe.pure _ trivial))

theorem Safe.deref {α : Type} (o : Option α) (w : String) (h : o.isSome = true) :
    Safe (deref o w) (fun a => o = some a) := by
  cases o with
  | none => cases h
  | some a => exact Safe.pure a rfl

theorem lookupFrom_lt : ∀ (xs : List Info) (i : Nat) (key : Bytes) (x : Info) (j : Nat),
    StaticNs.lookupFrom i xs key = some (x, j) → j < i + xs.length
  | [], _, _, _, _, h => by cases h
  | y :: ys, i, key, x, j, h => by
    unfold StaticNs.lookupFrom at h
    split at h
    · simp only [Option.some.injEq, Prod.mk.injEq] at h
      simp only [List.length_cons]; omega
    · have := lookupFrom_lt ys (i + 1) key x j h
      simp only [List.length_cons]; omega

theorem resolveIn_cons (b this : StaticNs) (outer : List StaticNs) (q : Bytes) :
    ∃ r, resolveIn b (this :: outer) q = some r ∧ ∀ x, r = some x → x.scope = .local → x.index < this.length := by
  unfold resolveIn
  split
  · exact ⟨none, rfl, nofun⟩
  dsimp only
  cases hl : this.lookup (splitQName q).1 with
  | some p =>
    refine ⟨_, rfl, fun x hx _ => ?_⟩
    cases hx
    simpa using lookupFrom_lt _ _ _ _ _ hl
  | none =>
    dsimp only
    cases searchCapture outer (splitQName q).1 with
    | some p => exact ⟨_, rfl, fun x hx hs => by cases hx; cases hs⟩
    | none =>
      dsimp only
      split
      · exact ⟨_, rfl, fun x hx hs => by cases hx; cases hs⟩
      split
      · exact ⟨_, rfl, fun x hx hs => by cases hx; cases hs⟩
      cases b.lookup (splitQName q).1 with
      | some p => exact ⟨_, rfl, fun x hx hs => by cases hx; cases hs⟩
      | none => exact ⟨none, rfl, nofun⟩

/-- `resolveVarRef` leaves the state alone, and a local index it returns lies in the current scope -/
theorem resolveVarRef_cons (e : Env) {s : CSt} {sc : StaticNs} {rest : List StaticNs} (hs : s.scopes = sc :: rest)
    (q : Bytes) : ∃ r, resolveVarRef q e s = .ok r s ∧
      ∀ x, r = some x → x.scope = .local → x.index < sc.length := by
  obtain ⟨r, hr, hlt⟩ := resolveIn_cons e.builtin sc rest q
  exact ⟨r, by unfold C16.resolveVarRef; simp only [hs, hr], hlt⟩

theorem Safe.resolveVarRef (q : Bytes) : Safe (resolveVarRef q) T := by
  constructor; intro e s hi
  obtain ⟨sc, rest, hs⟩ := hi.top
  obtain ⟨r, hr, _⟩ := resolveVarRef_cons e hs q
  exact ⟨r, s, hr, Keep.refl s, trivial⟩

theorem Safe.resolveCmdHead (h : Bytes) : Safe (resolveCmdHead h) T := by
  unfold C16.resolveCmdHead; dsimp only; split
  · exact Safe.pure _ trivial
  · exact Safe.resolveVarRef _

/-! `Safe` speaks of every state with non-empty stacks.  Where more is known of the state at hand (inside
`pushScope … popScope` the stacks are one deeper; after `resolveVarRef` a local index lies in the current scope)
the argument is made at that state, with `Tot`. -/

/-- the outcome is a result, and `Q` holds of it (`Safe m Q` says `Tot (m e s) (fun a s' => Keep s s' ∧ Q a)`
of every `s` with `Inv s`) -/
def Tot {α : Type} (o : Out α) (Q : α → CSt → Prop) : Prop := ∃ a s', o = .ok a s' ∧ Q a s'

theorem Tot.bind {α β : Type} {m : M α} {f : α → M β} {e : Env} {s : CSt} {P : α → CSt → Prop}
    {Q : β → CSt → Prop} (hm : Tot (m e s) P) (hf : ∀ a s1, P a s1 → Tot (f a e s1) Q) :
    Tot ((m >>= f) e s) Q := by
  obtain ⟨a, s1, h1, pa⟩ := hm
  obtain ⟨b, s2, h2, qb⟩ := hf a s1 pa
  refine ⟨b, s2, ?_, qb⟩
  show M.bind m f e s = _
  unfold M.bind; rw [h1]; exact h2

/-- a step whose result at this state is known -/
theorem Tot.bind_eq {α β : Type} {m : M α} {f : α → M β} {e : Env} {s s1 : CSt} {a : α} {Q : β → CSt → Prop}
    (h : m e s = .ok a s1) (hf : Tot (f a e s1) Q) : Tot ((m >>= f) e s) Q := by
  refine Tot.bind (P := fun a' s' => a = a' ∧ s1 = s') ⟨a, s1, h, rfl, rfl⟩ ?_
  rintro _ _ ⟨rfl, rfl⟩
  exact hf

/-- `s` is one scope and one pragma deeper than `s0` (between a `pushScope` and its `popScope`) -/
structure Up (s0 s : CSt) : Prop where
  sc : s.scopes.length = s0.scopes.length + 1
  pr : s.pragmas.length = s0.pragmas.length + 1
  cl : Clean s0.errors → Clean s.errors

theorem Up.inv {s0 s : CSt} (h : Up s0 s) : Inv s := ⟨by rw [h.sc]; omega, by rw [h.pr]; omega⟩

theorem Up.keep {s0 s s' : CSt} (h : Up s0 s) (k : Keep s s') : Up s0 s' :=
  ⟨k.sc.trans h.sc, k.pr.trans h.pr, fun c => k.cl (h.cl c)⟩

theorem Safe.up {α : Type} {m : M α} {Q : α → Prop} (h : Safe m Q) (e : Env) {s0 s : CSt} (u : Up s0 s) :
    Tot (m e s) (fun a s' => Up s0 s' ∧ Q a) := by
  obtain ⟨a, s', h1, k1, qa⟩ := h.prf e s u.inv
  exact ⟨a, s', h1, u.keep k1, qa⟩

theorem pushScope_tot (e : Env) {s : CSt} (hi : Inv s) : Tot (pushScope e s) (fun _ s' => Up s s') := by
  obtain ⟨scopes, pragmas, errors, fixes⟩ := s
  cases pragmas with
  | nil => exact absurd hi.pr (Nat.lt_irrefl 0)
  | cons p ps => exact ⟨(), _, rfl, rfl, rfl, id⟩

theorem popScope_tot (e : Env) {s0 s : CSt} (h : Up s0 s) :
    Tot (popScope e s) (fun a s' => Keep s0 s' ∧ T a) := by
  obtain ⟨scopes, pragmas, errors, fixes⟩ := s
  have h1 := h.sc
  have h2 := h.pr
  cases scopes with
  | nil => exact absurd h1.symm (Nat.succ_ne_zero _)
  | cons sc rest =>
    cases pragmas with
    | nil => exact absurd h2.symm (Nat.succ_ne_zero _)
    | cons p ps => exact ⟨(), _, rfl, ⟨Nat.succ.inj h1, Nat.succ.inj h2, h.cl⟩, trivial⟩

/-! A tactic for the parts whose postcondition does not matter. -/

theorem Safe.ite {α : Type} {c : Prop} [Decidable c] {a b : M α} {Q : α → Prop} (ha : Safe a Q) (hb : Safe b Q) :
    Safe (if c then a else b) Q := by
  split
  · exact ha
  · exact hb

syntax "safe_prim" : tactic
macro_rules | `(tactic| safe_prim) => `(tactic| with_reducible first
  | assumption
  | exact Safe.pure _ trivial | exact Safe.getEnv | exact Safe.scopeDepth
  | exact Safe.err _ (by decide) _ _ | exact Safe.errAt _ (by decide) _ | exact Safe.errPoint _ (by decide) _
  | exact Safe.autofix _ | exact Safe.thisScope | exact Safe.setThisScope _
  | exact Safe.currentPragma | exact Safe.setCurrentPragma _ | exact Safe.addName _
  | exact Safe.resolveVarRef _ | exact Safe.resolveCmdHead _
  | apply_assumption (transparency := .reducible) (exfalso := false))

macro "safe" : tactic => `(tactic| repeat' (first
  | (with_reducible apply Safe.bindT)
  | (with_reducible apply Safe.ite)
  | (intro _)
  | extract_lets
  | split
  | safe_prim))

end C16
