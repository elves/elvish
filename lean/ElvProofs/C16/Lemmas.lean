/-
C16: `compile` reads the module names for the autofixes only, and what that gives for `Check` against `Eval`.
-/
import ElvProofs.C16.EvalCfg
namespace C16
open Go

def CompileAgree : COut → COut → Prop
  | .ok a, .ok b => a.template = b.template ∧ a.errors = b.errors
  | .panic v, .panic w => v = w
  | .fuel, .fuel => True
  | _, _ => False

theorem compile_cases (env : Env) (fuel : Nat) (g : StaticNs) (tree : Node) :
    (∃ w, ∀ m, compile env fuel g m tree = .panic w) ∨ (∀ m, compile env fuel g m tree = .fuel) ∨
    ∃ t fixes errs, ∀ m, compile env fuel g m tree =
      .ok { template := t, autofixes := autofixes m fixes, errors := errs } := by
  unfold compile
  cases compileCore env fuel g tree with
  | ok u s =>
    dsimp only
    cases s.scopes.getLast? with
    | none => exact Or.inl ⟨_, fun _ => rfl⟩
    | some t => exact Or.inr (Or.inr ⟨t, s.fixes, s.errors, fun _ => rfl⟩)
  | panic w => exact Or.inl ⟨w, fun _ => rfl⟩
  | fuel => exact Or.inr (Or.inl fun _ => rfl)

theorem compile_modules (env : Env) (fuel : Nat) (g : StaticNs) (m₁ m₂ : List Bytes) (tree : Node) :
    CompileAgree (compile env fuel g m₁ tree) (compile env fuel g m₂ tree) := by
  rcases compile_cases env fuel g tree with ⟨w, h⟩ | h | ⟨t, fixes, errs, h⟩ <;> rw [h m₁, h m₂]
  · rfl
  · trivial
  · exact ⟨rfl, rfl⟩

section
variable {W Eff Exc : Type} (R : Runtime W Eff Exc) (ev : Evaler W) (src : Bytes)

theorem eval_static_error (h : (eval R ev src).2.2.isStaticError = true) :
    (eval R ev src).2.1 = [] ∧ (eval R ev src).1 = ev := by
  rw [eval_eq_evalIn] at h ⊢
  exact evalIn_static_error R _ ev ev.global src h

theorem eval_crashed (w : String) (h : (eval R ev src).2.2 = .crashed w) :
    (eval R ev src).2.1 = [] ∧ (eval R ev src).1 = ev := by
  rw [eval_eq_evalIn] at h ⊢
  exact evalIn_crashed R _ ev ev.global src w h

theorem eval_ran (exc : Option Exc) (h : (eval R ev src).2.2 = .ran exc) :
    ∃ tree c, R.parse src = .ok tree [] ∧
      compile { builtin := ev.builtin, isPrint := R.isPrint } (R.fuel src) ev.global [] tree = .ok c ∧
      c.errors = [] ∧
      eval R ev src =
        ((R.exec tree { ev with global := c.template }).1,
         (R.exec tree { ev with global := c.template }).2.1,
         .ran (R.exec tree { ev with global := c.template }).2.2) := by
  rw [eval_eq_evalIn] at h ⊢
  exact evalIn_ran R _ ev ev.global src exc h

theorem check_of_compiled {tree : Node} {perrs : List C01.PErr} {c : Compiled} (hp : R.parse src = .ok tree perrs)
    (hc : compile { builtin := ev.builtin, isPrint := R.isPrint } (R.fuel src) ev.global (R.modules ev.rt) tree = .ok c) :
    check R ev src = .ok { parseErrors := perrs, autofixes := c.autofixes, compileErrors := c.errors } := by
  unfold check
  simp only [hp, hc]

theorem check_ok_inv {r : CheckResult} (h : check R ev src = .ok r) :
    ∃ tree t fixes, R.parse src = .ok tree r.parseErrors ∧
      ∀ m, compile { builtin := ev.builtin, isPrint := R.isPrint } (R.fuel src) ev.global m tree =
        .ok { template := t, autofixes := autofixes m fixes, errors := r.compileErrors } := by
  unfold check at h
  cases hp : R.parse src with
  | panic w => rw [hp] at h; cases h
  | fuel => rw [hp] at h; cases h
  | ok tree perrs =>
    rw [hp] at h
    dsimp only at h
    rcases compile_cases { builtin := ev.builtin, isPrint := R.isPrint } (R.fuel src) ev.global tree with
      ⟨w, hc⟩ | hc | ⟨t, fixes, errs, hc⟩ <;> rw [hc] at h <;> cases h
    exact ⟨tree, t, fixes, rfl, hc⟩

theorem check_iff_eval (r : CheckResult) (h : check R ev src = .ok r) :
    ((CheckOut.ok r).reportsError = true ↔ (eval R ev src).2.2.isStaticError = true) := by
  obtain ⟨tree, t, fixes, hp, hc⟩ := check_ok_inv R ev src h
  rw [eval_eq_evalIn, evalIn_of_compiled R _ ev ev.global src hp (hc [])]
  obtain ⟨pe, af, ce⟩ := r
  cases pe <;> cases ce <;> exact Iff.rfl

theorem check_same_errors (r : CheckResult) (h : check R ev src = .ok r) :
    (∀ pe, (eval R ev src).2.2 = .parseError pe → r.parseErrors = pe) ∧
    (∀ ce, (eval R ev src).2.2 = .compileError ce → r.parseErrors = [] ∧ r.compileErrors = ce) ∧
    (∀ exc, (eval R ev src).2.2 = .ran exc → r.parseErrors = [] ∧ r.compileErrors = []) := by
  obtain ⟨tree, t, fixes, hp, hc⟩ := check_ok_inv R ev src h
  rw [eval_eq_evalIn, evalIn_of_compiled R _ ev ev.global src hp (hc [])]
  obtain ⟨pe, af, ce⟩ := r
  cases pe <;> cases ce <;> simp

theorem check_crash_iff (tree : Node) (hp : R.parse src = .ok tree []) :
    (∃ w, check R ev src = .crashed w) ↔ (∃ w, (eval R ev src).2.2 = .crashed w) := by
  rw [eval_eq_evalIn]
  unfold check evalIn
  simp only [hp]
  rcases compile_cases { builtin := ev.builtin, isPrint := R.isPrint } (R.fuel src) ev.global tree with
    ⟨w, hc⟩ | hc | ⟨t, fixes, errs, hc⟩ <;> rw [hc, hc]
  · exact ⟨fun _ => ⟨w, rfl⟩, fun _ => ⟨w, rfl⟩⟩
  · exact ⟨fun _ => ⟨_, rfl⟩, fun _ => ⟨_, rfl⟩⟩
  · cases errs <;> simp

end
end C16
