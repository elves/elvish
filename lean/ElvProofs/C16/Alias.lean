/-
C16: frame property of the reference semantics of `staticNs` — operations on a
COPIED clone never write the array of the live namespace.
-/
import ElvModel.C16.Alias
namespace C16.Alias
open Go

theorem updArr_length (h : Heap) (n : Nat) (f : List Info → List Info) : (updArr h n f).length = h.length := by
  induction h generalizing n with
  | nil => rfl
  | cons x xs ih => cases n <;> simp [updArr, ih]

theorem updArr_other (h : Heap) (n m : Nat) (f : List Info → List Info) (hne : m ≠ n) :
    (updArr h n f)[m]? = h[m]? := by
  induction h generalizing n m with
  | nil => rfl
  | cons x xs ih =>
    cases n with
    | zero =>
      cases m with
      | zero => exact absurd rfl hne
      | succ m => simp [updArr]
    | succ n =>
      cases m with
      | zero => simp [updArr]
      | succ m => simp only [updArr, List.getElem?_cons_succ]; exact ih n m (by omega)

structure Apart (a0 : Nat) (h : Heap) (r : Ref) : Prop where
  ne : a0 ≠ r.arr
  live : a0 < h.length
  mine : r.arr < h.length

theorem del_frame {a0 : Nat} {h : Heap} {r : Ref} (k : Bytes) (ha : Apart a0 h r) :
    (del h r k)[a0]? = h[a0]? ∧ Apart a0 (del h r k) r := by
  unfold del
  split
  · split
    · exact ⟨updArr_other _ _ _ _ ha.ne, ha.ne, (by rw [updArr_length]; exact ha.live),
        (by rw [updArr_length]; exact ha.mine)⟩
    · exact ⟨rfl, ha⟩
  · exact ⟨rfl, ha⟩

theorem append_frame {a0 : Nat} {h : Heap} {r : Ref} (x : Info) (ha : Apart a0 h r) :
    (append h r x).1[a0]? = h[a0]? ∧ Apart a0 (append h r x).1 (append h r x).2 := by
  unfold append
  split
  · split
    · exact ⟨updArr_other _ _ _ _ ha.ne, ha.ne, (by simp only [updArr_length]; exact ha.live),
        (by simp only [updArr_length]; exact ha.mine)⟩
    · refine ⟨?_, ?_, ?_, ?_⟩
      · simp only []
        rw [List.getElem?_append_left ha.live]
      · simp only []; have := ha.live; omega
      · simp only [List.length_append, List.length_cons, List.length_nil]; have := ha.live; omega
      · simp only [List.length_append, List.length_cons, List.length_nil]; omega
  · exact ⟨rfl, ha⟩

theorem step_frame {a0 : Nat} {h : Heap} {r : Ref} (op : NsOp) (ha : Apart a0 h r) :
    (step h r op).1[a0]? = h[a0]? ∧ Apart a0 (step h r op).1 (step h r op).2 := by
  cases op with
  | mark i =>
    by_cases hi : i < r.len
    · simp only [step, hi, if_true]
      exact ⟨updArr_other _ _ _ _ ha.ne, ha.ne, (by simp only [updArr_length]; exact ha.live),
        (by simp only [updArr_length]; exact ha.mine)⟩
    · simp only [step, hi, if_false]
      exact ⟨trivial, ha⟩
  | del k =>
    simp only [step]
    exact del_frame k ha
  | add k =>
    simp only [step]
    obtain ⟨h1, a1⟩ := del_frame k ha
    obtain ⟨h2, a2⟩ := append_frame { name := k } a1
    exact ⟨h2.trans h1, a2⟩

theorem run_frame {a0 : Nat} : ∀ (ops : List NsOp) {h : Heap} {r : Ref}, Apart a0 h r →
    (run h r ops).1[a0]? = h[a0]?
  | [], _, _, _ => rfl
  | op :: ops, h, r, ha => by
    obtain ⟨h1, a1⟩ := step_frame op ha
    simp only [run]
    rw [run_frame ops a1, h1]

theorem liveAfter_cloneCopy (h : Heap) (live : Ref) (ops : List NsOp) (hlt : live.arr < h.length) :
    liveAfter cloneCopy h live ops = read h live := by
  unfold liveAfter cloneCopy read
  rw [List.getElem?_eq_getElem hlt]
  simp only []
  have hap : Apart live.arr (h ++ [(h[live.arr]).take live.len]) { arr := h.length, len := live.len, cap := live.len } :=
    ⟨by simp only []; omega, by simp only [List.length_append, List.length_cons, List.length_nil]; omega,
      by simp only [List.length_append, List.length_cons, List.length_nil]; omega⟩
  rw [run_frame ops hap, List.getElem?_append_left hlt, List.getElem?_eq_getElem hlt]

end C16.Alias
