/-
C16: every tree the C01 parser model builds has the `shape` the compiler
relies on, and nests no deeper than the parser's fuel — part 1: the logic
(partial correctness, no state invariant needed), the builder primitives and
the loops of the grammar functions.

The two facts that depend on the parser STATE are carried as preconditions on
the state a grammar function starts in: a `Primary` is only ever parsed where
`startsPrimary` holds of the next rune (so its type is never `BadPrimary`), and
a `Compound` parsed where `startsCompound` holds has at least one `Indexing`.
-/
import ElvProofs.C01
import ElvModel.C16.Shape
namespace C16P
open Go
open Gen.C01Chars
open C01

def Ret {α : Type} (o : Out α) (Q : α → St → Prop) : Prop :=
  match o with
  | .ok a s => Q a s
  | .panic _ => True
  | .fuel => True

theorem Ret_triv {α : Type} {o : Out α} : Ret o (fun _ _ => True) := by cases o <;> trivial

theorem Ret.mono {α : Type} {o : Out α} {Q Q' : α → St → Prop} (h : Ret o Q) (hq : ∀ a s, Q a s → Q' a s) :
    Ret o Q' := by
  cases o with
  | ok a s => exact hq a s h
  | panic w => trivial
  | fuel => trivial

theorem Ret_bind {α β : Type} {m : M α} {f : α → M β} {e : Env} {s : St} {P : α → St → Prop}
    {Q : β → St → Prop} (hm : Ret (m e s) P) (hf : ∀ a s', P a s' → Ret (f a e s') Q) :
    Ret ((m >>= f) e s) Q := by
  rw [bind_apply]
  cases h : m e s with
  | ok a s' => rw [h] at hm; exact hf a s' hm
  | panic w => trivial
  | fuel => trivial

theorem Ret_bindT {α β : Type} {m : M α} {f : α → M β} {e : Env} {s : St}
    {Q : β → St → Prop} (hf : ∀ a s', Ret (f a e s') Q) : Ret ((m >>= f) e s) Q :=
  Ret_bind Ret_triv (fun a s' _ => hf a s')

theorem Ret_pure {α : Type} {a : α} {e : Env} {s : St} {Q : α → St → Prop} (h : Q a s) :
    Ret ((pure a : M α) e s) Q := h

theorem Ret_ite {α : Type} {c : Prop} [Decidable c] {a b : M α} {e : Env} {s : St} {Q : α → St → Prop}
    (ha : c → Ret (a e s) Q) (hb : ¬c → Ret (b e s) Q) : Ret ((if c then a else b) e s) Q := by
  split
  · next h => exact ha h
  · next h => exact hb h

theorem Ret_fuel {α : Type} {e : Env} {s : St} {Q : α → St → Prop} : Ret ((outOfFuel : M α) e s) Q := trivial

theorem peek_ok_or_panic (e : Env) (s : St) : (∃ r, peek e s = .ok r s) ∨ ∃ w, peek e s = .panic w := by
  unfold peek
  split
  · exact Or.inl ⟨_, rfl⟩
  · split
    · exact Or.inl ⟨_, rfl⟩
    · exact Or.inr ⟨_, rfl⟩

theorem peek_ret (e : Env) (s : St) : Ret (peek e s) (fun r s' => s' = s ∧ peek e s = .ok r s) := by
  rcases peek_ok_or_panic e s with ⟨r, h⟩ | ⟨w, h⟩ <;> rw [h]
  · exact ⟨rfl, rfl⟩
  · trivial

/-- the next rune can start a `Primary` in context `c` (what `startsIndexing` and `startsCompound` also say) -/
def Starts (e : Env) (s : St) (c : Int) : Prop := ∀ r, peek e s = .ok r s → startsPrimary e.isPrint r c = true

def Pc (f : Nat) (c : Node) : Prop := C16.shape c = true ∧ C16.nest c ≤ f

theorem Pc.le {f g : Nat} {c : Node} (h : Pc f c) (hle : f ≤ g) : Pc g c := ⟨h.1, Nat.le_trans h.2 hle⟩

def AllP (g : Nat) (nb : NB) : Prop := ∀ c ∈ nb.children, Pc g c

def nbNode (K : Kind) (nb : NB) : Node := .mk K 0 0 [] nb.f nb.children

def NOk (K : Kind) (nb : NB) : Prop := C16.nodeOk (nbNode K nb) = true

theorem AllP.nil {g : Nat} {nb : NB} (h : nb.children = []) : AllP g nb := fun c hc => by rw [h] at hc; cases hc

theorem AllP.add {g : Nat} {nb : NB} {c : Node} (h : AllP g nb) (hc : Pc g c) : AllP g (nb.add c) := by
  intro x hx
  simp only [NB.add, List.mem_append, List.mem_singleton] at hx
  rcases hx with hx | hx
  · exact h x hx
  · subst hx; exact hc

theorem sep_Pc (g : Nat) (a b : Nat) (t : Bytes) (f : Fields) : Pc g (.mk .sep a b t f []) := by
  constructor
  · simp [C16.shape, C16.shapeL, C16.nodeOk, Node.kind]
  · simp [C16.nest, C16.nestL]

structure GrowSep (nb nb' : NB) : Prop where
  f : nb'.f = nb.f
  ch : ∃ l, nb'.children = nb.children ++ l ∧ ∀ c ∈ l, ∃ a b t f, c = Node.mk .sep a b t f []

theorem GrowSep.refl (nb : NB) : GrowSep nb nb := ⟨rfl, [], by simp, fun _ h => by cases h⟩

theorem GrowSep.trans {a b c : NB} (h1 : GrowSep a b) (h2 : GrowSep b c) : GrowSep a c := by
  obtain ⟨l1, e1, p1⟩ := h1.ch
  obtain ⟨l2, e2, p2⟩ := h2.ch
  refine ⟨h2.f.trans h1.f, l1 ++ l2, by rw [e2, e1, List.append_assoc], fun x hx => ?_⟩
  rcases List.mem_append.mp hx with hx | hx
  · exact p1 x hx
  · exact p2 x hx

theorem GrowSep.addSep (nb : NB) (a b : Nat) (t : Bytes) (f : Fields) : GrowSep nb (nb.add (.mk .sep a b t f [])) :=
  ⟨rfl, [_], rfl, fun x hx => by rw [List.mem_singleton] at hx; exact ⟨a, b, t, f, hx⟩⟩

theorem GrowSep.allP {g : Nat} {nb nb' : NB} (h : GrowSep nb nb') (ha : AllP g nb) : AllP g nb' := by
  obtain ⟨l, e1, p1⟩ := h.ch
  intro x hx
  rw [e1] at hx
  rcases List.mem_append.mp hx with hx | hx
  · exact ha x hx
  · obtain ⟨a, b, t, f, rfl⟩ := p1 x hx
    exact sep_Pc g a b t f

theorem filter_sep_nil {l : List Node} (hl : ∀ c ∈ l, ∃ a b t f, c = Node.mk .sep a b t f []) (K' : Kind)
    (hK : K' ≠ .sep) : l.filter (fun x => x.kind == K') = [] := by
  rw [List.filter_eq_nil_iff]
  intro c hc
  obtain ⟨a, b, t, f, rfl⟩ := hl c hc
  simp only [Node.kind, beq_iff_eq]
  exact fun h => hK h.symm

theorem GrowSep.childrenOf {nb nb' : NB} (h : GrowSep nb nb') (K K' : Kind) (hK : K' ≠ .sep) :
    (nbNode K nb').childrenOf K' = (nbNode K nb).childrenOf K' := by
  obtain ⟨l, e1, p1⟩ := h.ch
  simp only [nbNode, Node.childrenOf, Node.children, e1, List.filter_append, filter_sep_nil p1 K' hK,
    List.append_nil]

theorem GrowSep.nok {K : Kind} {nb nb' : NB} (h : GrowSep nb nb') (hn : NOk K nb) : NOk K nb' := by
  have hc := fun K' hK => h.childrenOf K K' hK
  have hf : (nbNode K nb').fields = (nbNode K nb).fields := h.f
  unfold NOk at hn ⊢
  unfold C16.nodeOk at hn ⊢
  have hk : (nbNode K nb').kind = (nbNode K nb).kind := rfl
  rw [hk]
  simp only [C16.Form.head, C16.Form.args, C16.compounds, C16.Redir.right, C16.MapPair.key, C16.Indexing.head,
    C16.Primary.chunk, C16.Compound.indexings, Node.ptype, hf,
    hc .compound (by decide), hc .primary (by decide), hc .chunk (by decide), hc .indexing (by decide)] at hn ⊢
  exact hn

theorem addSep_sh (nb : NB) (e : Env) (s : St) : Ret (addSep nb e s) (fun nb' _ => GrowSep nb nb') := by
  unfold addSep
  rw [bind_of_eq (getPos_eq _ _)]
  split
  · exact Ret_bindT (fun t s1 => Ret_pure (GrowSep.addSep nb _ _ _ _))
  · exact Ret_pure (GrowSep.refl nb)

theorem parseSep_sh (nb : NB) (sep : Int) (e : Env) (s : St) :
    Ret (parseSep nb sep e s) (fun p _ => GrowSep nb p.2) := by
  unfold parseSep
  refine Ret_bindT (fun r s1 => ?_)
  split
  · refine Ret_bindT (fun _ s2 => ?_)
    exact Ret_bind (addSep_sh nb e s2) (fun nb' s3 h => Ret_pure h)
  · exact Ret_pure (GrowSep.refl nb)

theorem parseSpacesInner_sh (nb : NB) (nl : Bool) (e : Env) (s : St) :
    Ret (parseSpacesInner nb nl e s) (fun nb' _ => GrowSep nb nb') := by
  unfold parseSpacesInner
  rw [bind_of_eq (loopFuel_eq _ _)]
  exact Ret_bindT (fun _ s1 => addSep_sh nb e s1)

theorem parseSpaces_sh (nb : NB) (e : Env) (s : St) : Ret (parseSpaces nb e s) (fun nb' _ => GrowSep nb nb') :=
  parseSpacesInner_sh nb false e s

theorem parseSpacesAndNewlines_sh (nb : NB) (e : Env) (s : St) :
    Ret (parseSpacesAndNewlines nb e s) (fun nb' _ => GrowSep nb nb') :=
  parseSpacesInner_sh nb true e s

theorem parseSepsLoop_sh : ∀ (n k : Nat) (nb : NB) (e : Env) (s : St),
    Ret (parseSepsLoop n k nb e s) (fun p _ => GrowSep nb p.2)
  | 0, _, _, _, _ => Ret_fuel
  | n + 1, k, nb, e, s => by
    unfold parseSepsLoop
    refine Ret_bindT (fun r s1 => ?_)
    split
    · refine Ret_bind (parseSep_sh nb r e s1) (fun p s2 h => ?_)
      obtain ⟨b, nb1⟩ := p
      exact (parseSepsLoop_sh n _ nb1 e s2).mono (fun _ _ h2 => h.trans h2)
    split
    · refine Ret_bind (parseSpaces_sh nb e s1) (fun nb1 s2 h => ?_)
      exact (parseSepsLoop_sh n _ nb1 e s2).mono (fun _ _ h2 => h.trans h2)
    · exact Ret_pure (GrowSep.refl nb)

theorem parseSeps_sh (nb : NB) (e : Env) (s : St) : Ret (parseSeps nb e s) (fun p _ => GrowSep nb p.2) := by
  unfold parseSeps
  rw [bind_of_eq (loopFuel_eq _ _)]
  exact parseSepsLoop_sh _ _ nb e s

/-- precondition of `parse(ps, n)`, by node type -/
def Pre (f : Nat) (e : Env) (nt : NT) (s : St) : Prop :=
  match nt with
  | .primary c => Starts e s c
  | .indexing c => Starts e s c
  | .redir (some l) => l.kind = .compound ∧ Pc f l
  | _ => True

def Extra (e : Env) (nt : NT) (s : St) (n : Node) : Prop :=
  match nt with
  | .primary _ => n.ptype ≠ Tilde
  | .indexing _ => C16.properIndexing n = true
  | .compound c => Starts e s c → C16.Compound.indexings n ≠ []
  | _ => True

def Post (f : Nat) (e : Env) (nt : NT) (s : St) (n : Node) : Prop :=
  Pre f e nt s → n.kind = nt.kind ∧ Pc f n ∧ Extra e nt s n

def RecSh (f : Nat) (e : Env) (rec : NT → M Node) : Prop :=
  ∀ nt s, Ret (rec nt e s) (fun n _ => Post f e nt s n)

section
variable {e : Env} {rec : NT → M Node} {f : Nat}

theorem rec_ret (hrec : RecSh f e rec) (nt : NT) (s : St) (hpre : Pre f e nt s) :
    Ret (rec nt e s) (fun n _ => n.kind = nt.kind ∧ Pc f n ∧ Extra e nt s n) :=
  (hrec nt s).mono (fun _ _ h => h hpre)

/-! The loops, for any invariant `I` that survives separators and the additions the loop makes. -/

variable {I : NB → Prop}

theorem chunkLoop_sh (hrec : RecSh f e rec) (hsep : ∀ nb nb', GrowSep nb nb' → I nb → I nb')
    (hadd : ∀ nb c, I nb → Pc f c → I (nb.add c)) :
    ∀ (n : Nat) (nb : NB) (s : St), I nb → Ret (chunkLoop rec n nb e s) (fun nb' _ => I nb')
  | 0, _, _, _ => Ret_fuel
  | n + 1, nb, s, h => by
    unfold chunkLoop
    rw [bind_of_eq (getEnv_eq _ _)]
    refine Ret_bindT (fun r s1 => ?_)
    split
    · refine Ret_bind (rec_ret hrec .pipeline s1 trivial) (fun p s2 hp => ?_)
      refine Ret_bind (parseSeps_sh _ e s2) (fun q s3 hq => ?_)
      obtain ⟨k, nb2⟩ := q
      have h2 : I nb2 := hsep _ _ hq (hadd nb p h hp.2.1)
      dsimp only
      split
      · exact Ret_pure h2
      · exact chunkLoop_sh hrec hsep hadd n nb2 s3 h2
    · exact Ret_pure h

theorem pipelineLoop_sh (hrec : RecSh f e rec) (hsep : ∀ nb nb', GrowSep nb nb' → I nb → I nb')
    (hadd : ∀ nb c, I nb → Pc f c → I (nb.add c)) :
    ∀ (n : Nat) (nb : NB) (s : St), I nb → Ret (pipelineLoop rec n nb e s) (fun p _ => I p.2)
  | 0, _, _, _ => Ret_fuel
  | n + 1, nb, s, h => by
    unfold pipelineLoop
    rw [bind_of_eq (getEnv_eq _ _)]
    refine Ret_bind (parseSep_sh nb 124 e s) (fun q s1 hq => ?_)
    obtain ⟨ok, nb1⟩ := q
    have h1 : I nb1 := hsep _ _ hq h
    dsimp only
    split
    · refine Ret_bind (parseSpacesAndNewlines_sh nb1 e s1) (fun nb2 s2 hq2 => ?_)
      have h2 : I nb2 := hsep _ _ hq2 h1
      refine Ret_bindT (fun r s3 => ?_)
      split
      · exact Ret_bindT (fun _ s4 => Ret_pure h2)
      · refine Ret_bind (rec_ret hrec .form s3 trivial) (fun fm s4 hp => ?_)
        exact pipelineLoop_sh hrec hsep hadd n _ s4 (hadd nb2 fm h2 hp.2.1)
    · exact Ret_pure h1

theorem startsCompound_eq (ip : Int → Bool) (r c : Int) : startsCompound ip r c = startsPrimary ip r c := rfl
theorem startsIndexing_eq (ip : Int → Bool) (r c : Int) : startsIndexing ip r c = startsPrimary ip r c := rfl

theorem starts_of_peek {s : St} {r c : Int} (hpk : peek e s = .ok r s) (h : startsPrimary e.isPrint r c = true) :
    Starts e s c := by
  intro r' h'
  rw [hpk] at h'
  simp only [Out.ok.injEq, and_true] at h'
  subst h'
  exact h

theorem formLoop_sh (hrec : RecSh f e rec) (hsep : ∀ nb nb', GrowSep nb nb' → I nb → I nb')
    (hadd : ∀ nb c, I nb → Pc f c → (c.kind = .compound → C16.Compound.indexings c ≠ []) → I (nb.add c)) :
    ∀ (n : Nat) (nb : NB) (s : St), I nb → Ret (formLoop rec n nb e s) (fun nb' _ => I nb')
  | 0, _, _, _ => Ret_fuel
  | n + 1, nb, s, h => by
    unfold formLoop
    rw [bind_of_eq (getEnv_eq _ _)]
    refine Ret_bind (peek_ret e s) (fun r s1 hpk => ?_)
    obtain ⟨hs1, hpk⟩ := hpk
    subst hs1
    refine Ret_ite (fun _ => ?_) (fun _ => Ret_ite (fun hst => ?_) (fun _ => Ret_ite (fun _ => ?_) (fun _ => Ret_pure h)))
    · refine Ret_bindT (fun _ s2 => ?_)
      refine Ret_bindT (fun r2 s3 => ?_)
      refine Ret_bindT (fun _ s4 => ?_)
      refine Ret_ite (fun _ => Ret_pure h) (fun _ => ?_)
      refine Ret_bind (rec_ret hrec .mapPair s4 trivial) (fun mp s5 hp => ?_)
      refine Ret_bind (parseSpaces_sh _ e s5) (fun nb2 s6 hq => ?_)
      refine formLoop_sh hrec hsep hadd n nb2 s6 (hsep _ _ hq (hadd nb mp h hp.2.1 ?_))
      intro hk; rw [hp.1] at hk; cases hk
    · rw [startsCompound_eq] at hst
      refine Ret_bind (rec_ret hrec (.compound NormalExpr) s1 trivial) (fun cn s2 hp => ?_)
      have hne := hp.2.2 (starts_of_peek hpk hst)
      refine Ret_bindT (fun r2 s3 => ?_)
      refine Ret_ite (fun _ => ?_) (fun _ => ?_)
      · refine Ret_bind (rec_ret hrec (.redir (some cn)) s3 ⟨hp.1, hp.2.1⟩) (fun rd s4 hrd => ?_)
        refine Ret_bind (parseSpaces_sh _ e s4) (fun nb2 s5 hq => ?_)
        refine formLoop_sh hrec hsep hadd n nb2 s5 (hsep _ _ hq (hadd nb rd h hrd.2.1 ?_))
        intro hk; rw [hrd.1] at hk; cases hk
      · refine Ret_bind (parseSpaces_sh _ e s3) (fun nb2 s4 hq => ?_)
        exact formLoop_sh hrec hsep hadd n nb2 s4 (hsep _ _ hq (hadd nb cn h hp.2.1 (fun _ => hne)))
    · refine Ret_bind (rec_ret hrec (.redir none) s1 trivial) (fun rd s2 hrd => ?_)
      refine Ret_bind (parseSpaces_sh _ e s2) (fun nb2 s3 hq => ?_)
      refine formLoop_sh hrec hsep hadd n nb2 s3 (hsep _ _ hq (hadd nb rd h hrd.2.1 ?_))
      intro hk; rw [hrd.1] at hk; cases hk

theorem filterLoop_sh (hrec : RecSh f e rec) (hsep : ∀ nb nb', GrowSep nb nb' → I nb → I nb')
    (hadd : ∀ nb c, I nb → Pc f c → I (nb.add c)) :
    ∀ (n : Nat) (nb : NB) (s : St), I nb → Ret (filterLoop rec n nb e s) (fun nb' _ => I nb')
  | 0, _, _, _ => Ret_fuel
  | n + 1, nb, s, h => by
    unfold filterLoop
    rw [bind_of_eq (getEnv_eq _ _)]
    refine Ret_bindT (fun r s1 => ?_)
    split
    · refine Ret_bind (rec_ret hrec .mapPair s1 trivial) (fun mp s2 hp => ?_)
      refine Ret_bind (parseSpaces_sh _ e s2) (fun nb2 s3 hq => ?_)
      exact filterLoop_sh hrec hsep hadd n nb2 s3 (hsep _ _ hq (hadd nb mp h hp.2.1))
    split
    · refine Ret_bind (rec_ret hrec (.compound NormalExpr) s1 trivial) (fun c s2 hp => ?_)
      refine Ret_bind (parseSpaces_sh _ e s2) (fun nb2 s3 hq => ?_)
      exact filterLoop_sh hrec hsep hadd n nb2 s3 (hsep _ _ hq (hadd nb c h hp.2.1))
    · exact Ret_pure h

theorem arrayLoop_sh (hrec : RecSh f e rec) (hsep : ∀ nb nb', GrowSep nb nb' → I nb → I nb')
    (hadd : ∀ nb c, I nb → Pc f c → I (nb.add c)) :
    ∀ (n : Nat) (nb : NB) (s : St), I nb → Ret (arrayLoop rec n nb e s) (fun nb' _ => I nb')
  | 0, _, _, _ => Ret_fuel
  | n + 1, nb, s, h => by
    unfold arrayLoop
    rw [bind_of_eq (getEnv_eq _ _)]
    refine Ret_bindT (fun r s1 => ?_)
    split
    · refine Ret_bind (rec_ret hrec (.compound NormalExpr) s1 trivial) (fun c s2 hp => ?_)
      refine Ret_bind (parseSpacesAndNewlines_sh _ e s2) (fun nb2 s3 hq => ?_)
      exact arrayLoop_sh hrec hsep hadd n nb2 s3 (hsep _ _ hq (hadd nb c h hp.2.1))
    · exact Ret_pure h

theorem indexingLoop_sh (hrec : RecSh f e rec) (hsep : ∀ nb nb', GrowSep nb nb' → I nb → I nb')
    (hadd : ∀ nb c, I nb → Pc f c → c.kind = .array → I (nb.add c)) :
    ∀ (n : Nat) (nb : NB) (s : St), I nb → Ret (indexingLoop rec n nb e s) (fun nb' _ => I nb')
  | 0, _, _, _ => Ret_fuel
  | n + 1, nb, s, h => by
    unfold indexingLoop
    rw [bind_of_eq (getEnv_eq _ _)]
    refine Ret_bind (parseSep_sh nb 91 e s) (fun q s1 hq => ?_)
    obtain ⟨ok, nb1⟩ := q
    have h1 : I nb1 := hsep _ _ hq h
    dsimp only
    split
    · refine Ret_bindT (fun r s2 => ?_)
      refine Ret_bindT (fun _ s3 => ?_)
      refine Ret_bind (rec_ret hrec .array s3 trivial) (fun a s4 hp => ?_)
      refine Ret_bind (parseSep_sh _ 93 e s4) (fun q2 s5 hq2 => ?_)
      obtain ⟨ok2, nb4⟩ := q2
      have h4 : I nb4 := hsep _ _ hq2 (hadd nb1 a h1 hp.2.1 hp.1)
      dsimp only
      split
      · exact Ret_bindT (fun _ s6 => Ret_pure h4)
      · exact indexingLoop_sh hrec hsep hadd n nb4 s5 h4
    · exact Ret_pure h1

/-- the `Compound` loop: every indexing it adds is a proper one; if the loop starts where an
indexing can start, or there is one already, there is one afterwards -/
theorem compoundLoop_sh (hrec : RecSh f e rec) (ctx : Int)
    (hadd : ∀ (nb : NB) (c : Node), I nb → Pc f c → c.kind = Kind.indexing → C16.properIndexing c = true → I (nb.add c))
    (J : NB → Prop) (hJ : ∀ (nb : NB) (c : Node), c.kind = Kind.indexing → J (nb.add c)) :
    ∀ (n : Nat) (nb : NB) (s : St), I nb →
      Ret (compoundLoop rec ctx n nb e s) (fun nb' _ => I nb' ∧ ((Starts e s ctx ∨ J nb) → J nb'))
  | 0, _, _, _ => Ret_fuel
  | n + 1, nb, s, h => by
    unfold compoundLoop
    rw [bind_of_eq (getEnv_eq _ _)]
    refine Ret_bind (peek_ret e s) (fun r s1 hpk => ?_)
    obtain ⟨hs1, hpk⟩ := hpk
    subst hs1
    split
    · next hst =>
      rw [startsIndexing_eq] at hst
      refine Ret_bind (rec_ret hrec (.indexing ctx) s1 (starts_of_peek hpk hst)) (fun i s2 hp => ?_)
      refine (compoundLoop_sh hrec ctx hadd J hJ n _ s2 (hadd nb i h hp.2.1 hp.1 hp.2.2)).mono ?_
      intro nb' _ h2
      exact ⟨h2.1, fun _ => h2.2 (Or.inr (hJ nb i hp.1))⟩
    · next hst =>
      rw [startsIndexing_eq] at hst
      refine Ret_pure ⟨h, fun hor => ?_⟩
      rcases hor with hor | hor
      · exact absurd (hor r hpk) hst
      · exact hor

theorem lbracketLoop_sh (hrec : RecSh f e rec) (hsep : ∀ nb nb', GrowSep nb nb' → I nb → I nb')
    (hadd : ∀ nb c, I nb → Pc f c → I (nb.add c)) (hf : ∀ nb f', I nb → I { nb with f := f' }) :
    ∀ (n : Nat) (nb : NB) (s : St), I nb → Ret (lbracketLoop rec n nb e s) (fun nb' _ => I nb')
  | 0, _, _, _ => Ret_fuel
  | n + 1, nb, s, h => by
    unfold lbracketLoop
    rw [bind_of_eq (getEnv_eq _ _)]
    refine Ret_bindT (fun r s1 => ?_)
    split
    · refine Ret_bindT (fun _ s2 => ?_)
      refine Ret_bindT (fun r2 s3 => ?_)
      dsimp only
      split
      · refine Ret_bind (addSep_sh _ e s3) (fun nb1 s4 hq => ?_)
        have h1 : I nb1 := hsep _ _ hq (hf nb _ h)
        exact (parseSpacesAndNewlines_sh nb1 e s4).mono (fun nb2 _ hq2 => hsep _ _ hq2 h1)
      · refine Ret_bindT (fun _ s4 => ?_)
        refine Ret_bind (rec_ret hrec .mapPair s4 trivial) (fun mp s5 hp => ?_)
        refine Ret_bind (parseSpacesAndNewlines_sh _ e s5) (fun nb2 s6 hq => ?_)
        exact lbracketLoop_sh hrec hsep hadd hf n nb2 s6 (hsep _ _ hq (hadd nb mp h hp.2.1))
    split
    · refine Ret_bind (rec_ret hrec (.compound NormalExpr) s1 trivial) (fun c s2 hp => ?_)
      refine Ret_bind (parseSpacesAndNewlines_sh _ e s2) (fun nb2 s3 hq => ?_)
      exact lbracketLoop_sh hrec hsep hadd hf n nb2 s3 (hsep _ _ hq (hadd nb c h hp.2.1))
    · exact Ret_pure h

theorem lambdaLoop_sh (hrec : RecSh f e rec) (hsep : ∀ nb nb', GrowSep nb nb' → I nb → I nb')
    (hadd : ∀ nb c, I nb → Pc f c → I (nb.add c)) :
    ∀ (n : Nat) (nb : NB) (s : St), I nb → Ret (lambdaLoop rec n nb e s) (fun nb' _ => I nb')
  | 0, _, _, _ => Ret_fuel
  | n + 1, nb, s, h => by
    unfold lambdaLoop
    rw [bind_of_eq (getEnv_eq _ _)]
    refine Ret_bindT (fun r s1 => ?_)
    split
    · refine Ret_bind (rec_ret hrec .mapPair s1 trivial) (fun mp s2 hp => ?_)
      refine Ret_bind (parseSpacesAndNewlines_sh _ e s2) (fun nb2 s3 hq => ?_)
      exact lambdaLoop_sh hrec hsep hadd n nb2 s3 (hsep _ _ hq (hadd nb mp h hp.2.1))
    split
    · refine Ret_bind (rec_ret hrec (.compound NormalExpr) s1 trivial) (fun c s2 hp => ?_)
      refine Ret_bind (parseSpacesAndNewlines_sh _ e s2) (fun nb2 s3 hq => ?_)
      exact lambdaLoop_sh hrec hsep hadd n nb2 s3 (hsep _ _ hq (hadd nb c h hp.2.1))
    · exact Ret_pure h

theorem bracedLoop_sh (hrec : RecSh f e rec) (hsep : ∀ nb nb', GrowSep nb nb' → I nb → I nb')
    (hadd : ∀ nb c, I nb → Pc f c → I (nb.add c)) :
    ∀ (n : Nat) (nb : NB) (s : St), I nb → Ret (bracedLoop rec n nb e s) (fun nb' _ => I nb')
  | 0, _, _, _ => Ret_fuel
  | n + 1, nb, s, h => by
    unfold bracedLoop
    refine Ret_bindT (fun r s1 => ?_)
    split
    · refine Ret_bind (parseSpacesAndNewlines_sh nb e s1) (fun nb1 s2 hq1 => ?_)
      refine Ret_bind (parseSep_sh nb1 44 e s2) (fun q s3 hq2 => ?_)
      obtain ⟨ok, nb2⟩ := q
      dsimp only
      refine Ret_bind (parseSpacesAndNewlines_sh nb2 e s3) (fun nb3 s4 hq3 => ?_)
      refine Ret_bind (rec_ret hrec (.compound BracedElemExpr) s4 trivial) (fun c s5 hp => ?_)
      exact bracedLoop_sh hrec hsep hadd n _ s5
        (hadd nb3 c (hsep _ _ hq3 (hsep _ _ hq2 (hsep _ _ hq1 h))) hp.2.1)
    · exact Ret_pure h

end
end C16P
