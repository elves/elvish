/-
C16: no compiler function of the model panics or runs out of fuel on a tree
that has the `shape` the parser guarantees, and none of them reports
`exactly-one-lvalue`, `tilde-bug` or `bad-primary` (the judgment `Safe` of
`SafeLogic.lean` pushed through every function of `ElvModel/C16/Model.lean`).
-/
import ElvProofs.C16.SafeNodes
namespace C16
open Go
open Gen.C01Chars

theorem Safe.stringLiteralOrError (n : Node) : Safe (stringLiteralOrError n) T := by
  unfold C16.stringLiteralOrError; safe

theorem Safe.lambdaArgs (l : List Node) (seen : List Bytes) (hr : Bool) (names : List Bytes) :
    Safe (lambdaArgs l seen hr names) T := by
  induction l generalizing seen hr names with
  | nil => unfold C16.lambdaArgs; safe
  | cons a rest ih =>
    unfold C16.lambdaArgs
    have h1 := Safe.stringLiteralOrError a
    safe

theorem Safe.compileUse (fn : Node) : Safe (compileUse fn) T := by
  unfold C16.compileUse
  have h1 := fun ag i => (Safe.AG_get (AG.Knows.triv ag) i).toT
  have h2 := fun ag n => (Safe.AG_stringLit (AG.Knows.triv ag) n).toT
  have h3 := fun ag => (Safe.AG_finish (AG.Knows.triv ag)).toT
  safe

theorem Safe.compilePragma (fn : Node) : Safe (compilePragma fn) T := by
  unfold C16.compilePragma
  refine Safe.bind₂ (Safe.AG_get (AG.Knows.triv _) 0) (fun ag1 a0 ⟨k1, _⟩ => ?_)
  refine Safe.bind₂ (Safe.AG_stringLit k1 a0) (fun ag2 name k2 => ?_)
  refine Safe.bind₂ (Safe.AG_get k2 1) (fun ag3 a1 ⟨k3, e3⟩ => ?_)
  refine Safe.bind₂ (Safe.AG_stringLit k3 a1) (fun ag4 eq k4 => ?_)
  refine Safe.bind (P := fun ag5 => AG.Knows fn ag5 (a0.isSome = true)) ?_ (fun ag5 k5 => ?_)
  · split
    · next hcond =>
      have hlt : 1 < (Form.args fn).length := by
        simp only [Bool.and_eq_true, AG.has, k4.fn, decide_eq_true_eq] at hcond
        exact hcond.1
      cases a1 with
      | none => rw [List.getElem?_eq_getElem hlt] at e3; cases e3
      | some a => exact (Safe.AG_err k4 _ (by decide) _ _).mono (fun _ h => h _)
    · exact Safe.pure _ (k4.mono fun h => h.1.2)
  refine Safe.bind₂ (Safe.AG_get k5 2) (fun ag6 valueNode ⟨k6, _⟩ => ?_)
  refine Safe.bind (Safe.AG_finish k6) (fun ok hok => ?_)
  split
  · exact Safe.pure _ trivial
  · next hnot =>
    obtain ⟨h0, hv⟩ := hok (by simpa using hnot)
    split
    · refine Safe.bind (Safe.deref valueNode _ hv) (fun vn _ => ?_)
      have h1 := Safe.stringLiteralOrError vn
      safe
    · refine Safe.bind (Safe.deref a0 _ h0) (fun a _ => ?_)
      safe

def AllSome (l : List (Option Node)) : Prop := ∀ o ∈ l, o.isSome = true

def CondsIn (fn : Node) (cs : List (Option Node)) : Prop := ∀ o ∈ cs, ∀ a, o = some a → a ∈ Form.args fn

def BodiesIn (fn : Node) (bs : List (Option Node)) : Prop := ∀ o ∈ bs, FromArg fn o

theorem forall_mem_snoc {α : Type} {P : α → Prop} {l : List α} {x : α} (h : ∀ y ∈ l, P y) (hx : P x) :
    ∀ y ∈ l ++ [x], P y :=
  List.forall_mem_append.mpr ⟨h, List.forall_mem_singleton.mpr hx⟩

theorem Safe.ifLoop {fn : Node} : ∀ (fuel : Nat) (ag : AG) (i : Nat) (cs bs : List (Option Node)),
    AG.Knows fn ag (AllSome cs ∧ AllSome bs) → i ≤ (Form.args fn).length → (Form.args fn).length + 1 ≤ fuel + i →
    CondsIn fn cs → BodiesIn fn bs →
    Safe (ifLoop fuel ag i cs bs) (fun r =>
      AG.Knows fn r.1 (AllSome r.2.2.1 ∧ AllSome r.2.2.2) ∧ CondsIn fn r.2.2.1 ∧ BodiesIn fn r.2.2.2)
  | 0, _, _, _, _, _, h1, h2, _, _ => by omega
  | fuel + 1, ag, i, cs, bs, k, hle, hfuel, hcs, hbs => by
    unfold C16.ifLoop
    refine Safe.bind₂ (Safe.AG_get k i) (fun ag1 c ⟨k1, e1⟩ => ?_)
    refine Safe.bind₂ (Safe.AG_get k1 (i + 1)) (fun ag2 b0 ⟨k2, e2⟩ => ?_)
    refine Safe.bind₂ (Safe.AG_thunk k2 b0) (fun ag3 b hb => ?_)
    dsimp only
    have k3 : AG.Knows fn ag3 (AllSome (cs ++ [c]) ∧ AllSome (bs ++ [b])) :=
      hb.1.mono fun ⟨⟨⟨⟨hc, hb⟩, hc1⟩, hb0⟩, hl⟩ => ⟨forall_mem_snoc hc hc1, forall_mem_snoc hb (hl hb0)⟩
    have hcs' : CondsIn fn (cs ++ [c]) :=
      forall_mem_snoc hcs (fun a ha => List.mem_of_getElem? (e1 ▸ ha))
    have hbs' : BodiesIn fn (bs ++ [b]) := forall_mem_snoc hbs (hb.fromArg e2)
    split
    · exact Safe.pure _ ⟨k3, hcs', hbs'⟩
    · next hkw =>
      have hlt := hasKeyword_lt (by simpa using hkw : ag3.hasKeyword (i + 2) sElif = true)
      rw [k3.fn] at hlt
      exact Safe.ifLoop fuel ag3 (i + 2 + 1) _ _ k3 (by omega) (by omega) hcs' hbs'

/-- what `compileIndexingLValue` returns: exactly one lvalue; the rest index, if any, is 0 -/
def LV1 (g : LVGroup) : Prop := g.lvalues.length = 1 ∧ (g.rest = none ∨ g.rest = some 0)

theorem LV1.dummy : LV1 dummyLVGroup := ⟨rfl, Or.inl rfl⟩

theorem singleIndexing_mem {n ix : Node} (h : singleIndexing n = some ix) : ix ∈ Compound.indexings n := by
  unfold singleIndexing at h
  split at h
  · next ix' heq =>
    simp only [Option.some.injEq] at h; subst h
    rw [heq]; exact List.mem_cons_self
  · cases h

section Open
variable {compoundOp : Node → M Unit} {chunkOp : Node → M Unit} {k : Nat}
variable (hc : ∀ n, D k n → n.kind = .compound → Safe (compoundOp n) T)
variable (hk : ∀ n, D k n → n.kind = .chunk → Safe (chunkOp n) T)
include hc

theorem Safe.compoundOps (ns : List Node) (h : ∀ x ∈ ns, D k x ∧ x.kind = .compound) :
    Safe (compoundOps compoundOp ns) T := by
  unfold C16.compoundOps
  exact Safe.forEach _ _ (fun x hx => hc x (h x hx).1 (h x hx).2)

theorem Safe.arrayOps (ns : List Node) (h : ∀ a ∈ ns, D k a) : Safe (arrayOps compoundOp ns) T := by
  unfold C16.arrayOps
  exact Safe.forEach _ _ (fun a ha => Safe.compoundOps hc _ (fun x hx => (h a ha).of hx))

theorem Safe.mapPairs (ps : List Node) (h : ∀ p ∈ ps, D k p ∧ p.kind = .mapPair) :
    Safe (mapPairs compoundOp ps) T := by
  unfold C16.mapPairs
  refine Safe.forEach _ _ (fun p hp => ?_)
  obtain ⟨hd, hkind⟩ := h p hp
  refine Safe.bind (Safe.deref _ _ ((nodeOk_mapPair hkind).mp (shape_nodeOk hd.1))) (fun key hkey => ?_)
  have hkD := hd.of (K := .compound) (List.mem_of_head? hkey)
  refine Safe.bindT (hc key hkD.1 hkD.2) (fun _ => ?_)
  split
  · next v hv =>
    have hvD := hd.of (K := .compound) (List.mem_of_mem_drop (List.mem_of_head? hv))
    exact hc v hvD.1 hvD.2
  · exact Safe.pure _ trivial

theorem Safe.lambdaOpts (l : List Node) (names : List Bytes) (h : ∀ p ∈ l, D k p ∧ p.kind = .mapPair) :
    Safe (lambdaOpts compoundOp l names) T := by
  induction l generalizing names with
  | nil => unfold C16.lambdaOpts; exact Safe.pure _ trivial
  | cons opt rest ih =>
    unfold C16.lambdaOpts
    obtain ⟨hd, hkind⟩ := h opt List.mem_cons_self
    refine Safe.bind (Safe.deref _ _ ((nodeOk_mapPair hkind).mp (shape_nodeOk hd.1))) (fun key hkey => ?_)
    refine Safe.bindT (Safe.stringLiteralOrError key) (fun qname => ?_)
    dsimp only
    refine Safe.bindT (by safe) (fun _ => ?_)
    refine Safe.bindT (by safe) (fun _ => ?_)
    refine Safe.bindT ?_ (fun _ => ih _ (fun p hp => h p (List.mem_cons_of_mem _ hp)))
    split
    · safe
    · next v hv =>
      have hvD := hd.of (K := .compound) (List.mem_of_mem_drop (List.mem_of_head? hv))
      exact hc v hvD.1 hvD.2

include hk

theorem Safe.lambda (n : Node) (hn : D k n) (hkind : n.kind = .primary) (hl : n.ptype = Lambda) :
    Safe (lambda compoundOp chunkOp n) T := by
  have hok := (nodeOk_primary hkind).mp (shape_nodeOk hn.1)
  have hch : (Primary.chunk n).isSome = true := hok.2 (by rw [hl]; decide)
  unfold C16.lambda
  refine Safe.bindT (Safe.lambdaArgs _ _ _ _) (fun argNames => ?_)
  refine Safe.bindT (Safe.lambdaOpts hc _ _ (fun p hp => hn.of hp)) (fun optNames => ⟨fun e s hi => ?_⟩)
  have names : ∀ l : List Bytes, Safe (C16.forEach l fun a => do let _ ← C16.addName a; Pure.pure ()) T :=
    fun l => Safe.forEach _ _ (fun a _ => Safe.bindT (Safe.addName a) (fun _ => Safe.pure _ trivial))
  -- from `pushScope` to `popScope` the stacks are one deeper than in `s`
  show Tot _ _
  refine Tot.bind (pushScope_tot e hi) fun _ s1 u1 =>
    Tot.bind ((names argNames).up e u1) fun _ s2 u2 =>
    Tot.bind ((names optNames).up e u2.1) fun _ s3 u3 =>
    Tot.bind ((Safe.deref _ _ hch).up e u3.1) fun c s4 u4 => ?_
  have hcD := hn.of (K := .chunk) (List.mem_of_head? u4.2)
  exact Tot.bind ((hk c hcD.1 hcD.2).up e u4.1) fun _ s5 u5 => popScope_tot e u5.1

theorem Safe.primaryOp (n : Node) (hn : D k n) (hkind : n.kind = .primary) (hnt : n.ptype ≠ Tilde) :
    Safe (primaryOp compoundOp chunkOp n) T := by
  have hok := (nodeOk_primary hkind).mp (shape_nodeOk hn.1)
  refine primaryOp_cases (P := fun m => Safe m T) n ?_ ?_ ?_ ?_ ?_ ?_ ?_ ?_ ?_ ?_
  · exact Safe.pure _ trivial
  · safe
  · safe
  · exact fun h => absurd h hnt
  · intro h
    have hch : (Primary.chunk n).isSome = true := hok.2 (by rw [h, Bool.true_or])
    refine Safe.bind (Safe.deref _ _ hch) (fun c hcc => ?_)
    have hcD := hn.of (K := .chunk) (List.mem_of_head? hcc)
    exact hk c hcD.1 hcD.2
  · exact Safe.compoundOps hc _ (fun x hx => hn.of (elements_sub hx))
  · exact fun h => Safe.lambda hc hk n hn hkind h
  · exact Safe.mapPairs hc _ (fun p hp => hn.of hp)
  · exact Safe.compoundOps hc _ (fun x hx => hn.of (braced_sub hx))
  · exact fun h => absurd hok.1 (by rw [h]; decide)

theorem Safe.indexingOp (n : Node) (hn : D k n) (hp : properIndexing n = true) :
    Safe (indexingOp compoundOp chunkOp n) T := by
  obtain ⟨hd, hhd, hnt⟩ := properIndexing_head hp
  unfold C16.indexingOp
  refine Safe.bind (Safe.deref _ _ (by rw [hhd]; rfl)) (fun h hh => ?_)
  rw [hhd] at hh
  simp only [Option.some.injEq] at hh
  subst hh
  have hD := hn.of (K := .primary) (List.mem_of_head? hhd)
  refine Safe.bindT (Safe.primaryOp hc hk hd hD.1 hD.2 hnt) (fun _ => ?_)
  exact Safe.arrayOps hc _ (fun a ha => (hn.of ha).1)

theorem Safe.compoundBody (n : Node) (hs : nodeOk n = true) (hkind : n.kind = .compound)
    (hch : ∀ c ∈ n.children, D k c) : Safe (compoundBody compoundOp chunkOp n) T := by
  unfold C16.compoundBody
  split
  · exact Safe.pure _ trivial
  · next ix0 rest heq =>
    have hmem : ∀ ix ∈ ix0 :: rest, D k ix ∧ ix.kind = .indexing := fun ix h =>
      childrenOf_D hch (by show ix ∈ Compound.indexings n; rw [heq]; exact h)
    have hrest : ∀ ix ∈ rest, properIndexing ix = true := fun ix h =>
      (nodeOk_compound hkind).mp hs ix (by rw [heq]; exact h)
    obtain ⟨hd0, hhd0, _⟩ := (nodeOk_indexing (hmem ix0 List.mem_cons_self).2).mp
      (shape_nodeOk (hmem ix0 List.mem_cons_self).1.1)
    refine Safe.bind (Safe.deref _ _ (by rw [hhd0]; rfl)) (fun h0 hh0 => ?_)
    rw [hhd0] at hh0
    simp only [Option.some.injEq] at hh0
    subst hh0
    split
    · split
      · exact Safe.pure _ trivial
      · exact Safe.forEach _ _ (fun ix hix =>
          Safe.indexingOp hc hk ix (hmem ix (List.mem_cons_of_mem _ hix)).1 (hrest ix hix))
    · next hnt =>
      refine Safe.forEach _ _ (fun ix hix => Safe.indexingOp hc hk ix (hmem ix hix).1 ?_)
      rcases List.mem_cons.mp hix with rfl | hix'
      · unfold properIndexing; rw [hhd0]; simpa using hnt
      · exact hrest ix hix'

omit hk

theorem Safe.lvalueResult (n : Node) (r : Bool) (hn : D k n) : Safe (lvalueResult compoundOp n r) LV1 := by
  unfold C16.lvalueResult
  refine Safe.bindT (Safe.arrayOps hc _ (fun a ha => (hn.of ha).1)) (fun _ => Safe.pure _ ⟨rfl, ?_⟩)
  cases r
  · exact Or.inl rfl
  · exact Or.inr rfl

theorem Safe.createLValue (n : Node) (q : Bytes) (r : Bool) (hn : D k n) :
    Safe (createLValue compoundOp n q r) LV1 := by
  unfold C16.createLValue
  split
  · exact Safe.bindT (Safe.errAt _ (by decide) _) (fun _ => Safe.pure _ LV1.dummy)
  · split
    · exact Safe.bindT (Safe.addName _) (fun _ => Safe.lvalueResult hc n r hn)
    · exact Safe.bindT (Safe.errAt _ (by decide) _) (fun _ => Safe.pure _ LV1.dummy)

theorem Safe.resolveLValue (n : Node) (f : LVFlag) (q : Bytes) (r : Bool) (hn : D k n) :
    Safe (resolveLValue compoundOp n f q r) LV1 := by
  unfold C16.resolveLValue
  refine Safe.bindT (by safe) (fun ref => ?_)
  split
  · split
    · exact Safe.bindT (Safe.errAt _ (by decide) _) (fun _ => Safe.pure _ LV1.dummy)
    · exact Safe.lvalueResult hc n r hn
  · split
    · exact Safe.bindT (Safe.autofix _) (fun _ =>
        Safe.bindT (Safe.errAt _ (by decide) _) (fun _ => Safe.pure _ LV1.dummy))
    · exact Safe.createLValue hc n q r hn

theorem Safe.compileIndexingLValue (n : Node) (f : LVFlag) (hn : D k n) (hkind : n.kind = .indexing) :
    Safe (compileIndexingLValue compoundOp n f) LV1 := by
  obtain ⟨hd, hhd, _⟩ := (nodeOk_indexing hkind).mp (shape_nodeOk hn.1)
  unfold C16.compileIndexingLValue
  refine Safe.bindT Safe.getEnv (fun env => ?_)
  refine Safe.bind (Safe.deref _ _ (by rw [hhd]; rfl)) (fun head _ => ?_)
  split
  · exact Safe.bindT (Safe.errAt _ (by decide) _) (fun _ => Safe.pure _ LV1.dummy)
  · split
    · exact Safe.bindT (Safe.errAt _ (by decide) _) (fun _ => Safe.pure _ LV1.dummy)
    · exact Safe.resolveLValue hc n f _ _ hn

theorem Safe.compileCompoundLValues (l : List Node) (f : LVFlag) (g : LVGroup)
    (h : ∀ x ∈ l, D k x ∧ x.kind = .compound) : Safe (compileCompoundLValues compoundOp l f g) T := by
  induction l generalizing g with
  | nil => unfold C16.compileCompoundLValues; exact Safe.pure _ trivial
  | cons a rest ih =>
    have hrest : ∀ x ∈ rest, D k x ∧ x.kind = .compound := fun x hx => h x (List.mem_cons_of_mem _ hx)
    unfold C16.compileCompoundLValues
    split
    · next ix hix =>
      have hixD := (h a List.mem_cons_self).1.of (K := .indexing) (singleIndexing_mem hix)
      refine Safe.bindT (Safe.compileIndexingLValue hc ix f hixD.1 hixD.2).toT (fun more => ?_)
      split
      · exact ih _ hrest
      · split
        · exact Safe.bindT (Safe.errAt _ (by decide) _) (fun _ => ih _ hrest)
        · exact ih _ hrest
    · exact Safe.bindT (Safe.errAt _ (by decide) _) (fun _ => Safe.pure _ trivial)

theorem Safe.compileOneLValue (n : Node) (f : LVFlag) (hn : D k n) (hne : Compound.indexings n ≠ []) :
    Safe (compileOneLValue compoundOp n f) T := by
  unfold C16.compileOneLValue
  dsimp only
  refine Safe.bindT (by safe) (fun _ => ?_)
  cases hix : Compound.indexings n with
  | nil => exact absurd hix hne
  | cons ix0 rest =>
    dsimp only
    have hixD := hn.of (K := .indexing) (x := ix0) (by
      show ix0 ∈ Compound.indexings n
      rw [hix]; exact List.mem_cons_self)
    refine Safe.bind (P := fun x => x = ix0) (Safe.pure ix0 rfl) (fun ix0' h0 => ?_)
    subst h0
    refine Safe.bind (Safe.compileIndexingLValue hc _ f hixD.1 hixD.2) (fun g hg => ?_)
    obtain ⟨lvs, rst⟩ := g
    obtain ⟨hlen, hrst⟩ := hg
    dsimp only at hlen hrst ⊢
    match lvs, hlen with
    | [ab], _ =>
      refine Safe.bindT ?_ (fun _ => ?_)
      · rcases hrst with h | h <;> subst h
        · exact Safe.pure _ trivial
        · exact Safe.err _ (by decide) _ _
      · exact Safe.bindT (Safe.pure _ trivial) (fun _ => Safe.pure _ trivial)

theorem Safe.compileLHSOptionalRHS (args : List Node) (f : LVFlag) (h : ∀ x ∈ args, D k x ∧ x.kind = .compound) :
    Safe (compileLHSOptionalRHS compoundOp args f) T := by
  unfold C16.compileLHSOptionalRHS
  split
  · next i _ =>
    refine Safe.bindT (Safe.compoundOps hc _ (fun x hx => h x (List.mem_of_mem_drop hx))) (fun _ => ?_)
    refine Safe.bindT (Safe.compileCompoundLValues hc _ f _ (fun x hx => h x (List.mem_of_mem_take hx)))
      (fun _ => Safe.pure _ trivial)
  · exact Safe.bindT (Safe.compileCompoundLValues hc _ f _ h) (fun _ => Safe.pure _ trivial)

theorem Safe.compileLHSRHS (args : List Node) (e : Nat) (f : LVFlag) (h : ∀ x ∈ args, D k x ∧ x.kind = .compound) :
    Safe (compileLHSRHS compoundOp args e f) T := by
  unfold C16.compileLHSRHS
  refine Safe.bindT (Safe.compileLHSOptionalRHS hc args f h) (fun found => ?_)
  safe

theorem Safe.compileVar (fn : Node) (hfn : D k fn) : Safe (compileVar compoundOp fn) T := by
  unfold C16.compileVar
  exact Safe.bindT (Safe.compileLHSOptionalRHS hc _ _ (fun x hx => hfn.arg hx)) (fun _ => Safe.pure _ trivial)

theorem Safe.compileSet (fn : Node) (hfn : D k fn) : Safe (compileSet compoundOp fn) T := by
  unfold C16.compileSet
  exact Safe.compileLHSRHS hc _ _ _ (fun x hx => hfn.arg hx)

theorem Safe.compileTmp (fn : Node) (hfn : D k fn) : Safe (compileTmp compoundOp fn) T := by
  unfold C16.compileTmp
  refine Safe.bindT Safe.scopeDepth (fun d => ?_)
  refine Safe.bindT (by safe) (fun _ => ?_)
  exact Safe.compileLHSRHS hc _ _ _ (fun x hx => hfn.arg hx)

end Open
end C16
