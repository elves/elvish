/-
C16: every tree the C01 parser model builds has the `shape` the compiler
relies on — part 3: `body`, `wrap`, `parseNT` (induction on the fuel), `Parse`.
-/
import ElvProofs.C16.ParserShape2
namespace C16P
open Go
open Gen.C01Chars
open C01

/-- `Chunk` and `Compound` count for the nesting; the children of the others may be as deep as the node -/
def gOf (nt : NT) (f : Nat) : Nat :=
  match nt with
  | .chunk => f
  | .compound _ => f
  | _ => f + 1

theorem le_gOf (nt : NT) (f : Nat) : f ≤ gOf nt f := by
  unfold gOf; split <;> omega

/-- the node `wrap` makes of a finished builder -/
def fin (nt : NT) (pos : Nat) (text : Bytes) (nb : NB) : Node := .mk nt.kind nb.frm pos text nb.f nb.children

theorem fin_Pc {nt : NT} {f : Nat} {pos : Nat} {text : Bytes} {nb : NB} (ha : AllP (gOf nt f) nb)
    (hok : C16.nodeOk (fin nt pos text nb) = true) : Pc (f + 1) (fin nt pos text nb) := by
  constructor
  · simp only [fin, C16.shape, Bool.and_eq_true]
    exact ⟨hok, shapeL_of (fun c hc => (ha c hc).1)⟩
  · have hn := nestL_le (g := gOf nt f) (fun c hc => (ha c hc).2)
    simp only [fin, C16.nest]
    cases nt <;> simp only [NT.kind, gOf] at hn ⊢ <;> simp <;> omega

theorem nodeOk_fin_co {nt : NT} {pos : Nat} {text : Bytes} {nb : NB} :
    C16.compounds (fin nt pos text nb) = co .compound nb ∧
    C16.Compound.indexings (fin nt pos text nb) = co .indexing nb ∧
    (fin nt pos text nb).childrenOf .primary = co .primary nb ∧
    (fin nt pos text nb).childrenOf .chunk = co .chunk nb := ⟨rfl, rfl, rfl, rfl⟩

section
variable {e : Env} {rec : NT → M Node} {f : Nat}

theorem body_sh (hrec : RecSh f e rec) (nt : NT) (s : St) (hpre : Pre (f + 1) e nt s) :
    Ret (body rec nt { frm := s.pos, f := nt.init, children := [] } e s)
      (fun nb' _ => ∀ pos text, Pc (f + 1) (fin nt pos text nb') ∧ Extra e nt s (fin nt pos text nb')) := by
  have hnil : ({ frm := s.pos, f := nt.init, children := [] } : NB).children = [] := rfl
  cases nt with
  | chunk =>
    exact (chunkBody_sh hrec (Nat.le_refl f) _ s (AllP.nil hnil)).mono (fun nb' _ h pos text => ⟨fin_Pc h rfl, trivial⟩)
  | pipeline =>
    exact (pipelineBody_sh hrec (Nat.le_succ f) _ s (AllP.nil hnil)).mono
      (fun nb' _ h pos text => ⟨fin_Pc h rfl, trivial⟩)
  | filter =>
    exact (filterBody_sh hrec (Nat.le_succ f) _ s (AllP.nil hnil)).mono
      (fun nb' _ h pos text => ⟨fin_Pc h rfl, trivial⟩)
  | array =>
    exact (arrayBody_sh hrec (Nat.le_succ f) _ s (AllP.nil hnil)).mono
      (fun nb' _ h pos text => ⟨fin_Pc h rfl, trivial⟩)
  | form =>
    refine (formBody_sh hrec (Nat.le_succ f) _ s hnil).mono (fun nb' _ h pos text => ⟨fin_Pc h.1 ?_, trivial⟩)
    obtain ⟨hd, tl, hco, htl⟩ := h.2
    have hc : C16.compounds (fin .form pos text nb') = hd :: tl := hco
    refine (C16.nodeOk_form rfl).mpr ⟨?_, ?_⟩
    · rw [C16.Form.head, hc]; rfl
    · rw [C16.Form.args, hc]; exact htl
  | redir left =>
    have hl : ∀ l, left = some l → l.kind = .compound ∧ Pc (f + 1) l := fun l hl => by subst hl; exact hpre
    refine (redirBody_sh hrec (Nat.le_succ f) left _ s hnil rfl hl).mono
      (fun nb' _ h pos text => ⟨fin_Pc h.1 ?_, trivial⟩)
    obtain ⟨r, hco, hh⟩ := h.2
    have hc : C16.compounds (fin (.redir left) pos text nb') = left.toList ++ [r] := hco
    have hh' : (fin (.redir left) pos text nb').fields.hasLeft = left.isSome := hh
    refine (C16.nodeOk_redir rfl).mpr ?_
    rw [C16.Redir.right, hc, hh']
    cases left <;> rfl
  | mapPair =>
    refine (mapPairBody_sh hrec (Nat.le_succ f) _ s (AllP.nil hnil)).mono
      (fun nb' _ h pos text => ⟨fin_Pc h.1 ?_, trivial⟩)
    refine (C16.nodeOk_mapPair rfl).mpr ?_
    show (co .compound nb').head?.isSome = true
    cases hco : co .compound nb' with
    | nil => exact absurd hco h.2
    | cons a t => rfl
  | compound c =>
    exact (compoundBody_sh hrec (Nat.le_refl f) _ s hnil).mono
      (fun nb' _ h pos text => ⟨fin_Pc h.1.1 ((C16.nodeOk_compound rfl).mpr h.1.2), h.2⟩)
  | indexing c =>
    refine (indexingBody_sh hrec (Nat.le_succ f) _ s hnil hpre).mono (fun nb' _ h pos text => ?_)
    obtain ⟨ha, hd, hh, hg, hn⟩ := h
    have hhd : C16.Indexing.head (fin (.indexing c) pos text nb') = some hd := hh
    refine ⟨fin_Pc ha ((C16.nodeOk_indexing rfl).mpr ⟨hd, hhd, hg⟩), ?_⟩
    show C16.properIndexing (fin (.indexing c) pos text nb') = true
    rw [C16.properIndexing, hhd]
    simpa using hn
  | primary c =>
    refine (primaryBody_sh hrec (Nat.le_succ f) _ s (AllP.nil hnil) hpre).mono (fun nb' _ h pos text => ?_)
    obtain ⟨ha, hg, hn, hch⟩ := h
    refine ⟨fin_Pc ha ((C16.nodeOk_primary rfl).mpr ⟨hg, fun hcap => ?_⟩), hn⟩
    show (co .chunk nb').head?.isSome = true
    cases hco : co .chunk nb' with
    | nil => exact absurd hco (hch hcap)
    | cons a t => rfl

theorem wrap_sh (hrec : RecSh f e rec) : RecSh (f + 1) e (wrap rec) := by
  intro nt s
  unfold wrap
  rw [bind_of_eq (getPos_eq _ _)]
  by_cases hpre : Pre (f + 1) e nt s
  · refine Ret_bind (body_sh hrec nt s hpre) (fun nb' s1 h => ?_)
    rw [bind_of_eq (getPos_eq _ _)]
    refine Ret_bindT (fun text s2 => Ret_pure ?_)
    intro _
    exact ⟨rfl, (h s1.pos text).1, (h s1.pos text).2⟩
  · refine Ret_bindT (fun nb' s1 => ?_)
    rw [bind_of_eq (getPos_eq _ _)]
    exact Ret_bindT (fun text s2 => Ret_pure (fun h => absurd h hpre))

theorem parseNT_sh : ∀ (F : Nat), RecSh F e (parseNT F)
  | 0 => fun _ _ => Ret_fuel
  | F + 1 => by
    have ih : RecSh F e (fun nt' => parseNT F nt') := parseNT_sh F
    intro nt s
    unfold parseNT
    exact wrap_sh ih nt s

end

theorem parse_shape (isPrint : Int → Bool) (src : Bytes) (t : Node) (errs : List PErr)
    (h : parse isPrint src = .ok t errs) :
    C16.shape t = true ∧ t.kind = .chunk ∧ C16.nest t ≤ defaultFuel src := by
  unfold parse parseAs at h
  rw [parseAsFuel_eq] at h
  have hsh := parseNT_sh (e := { isPrint := isPrint, src := src }) (defaultFuel src) .chunk
    { pos := 0, overEOF := 0, errors := [] }
  rw [bind_apply] at h
  cases hr : parseNT (defaultFuel src) .chunk { isPrint := isPrint, src := src }
      { pos := 0, overEOF := 0, errors := [] } with
  | panic w => rw [hr] at h; cases h
  | fuel => rw [hr] at h; cases h
  | ok n s1 =>
    rw [hr] at h hsh
    obtain ⟨hk, hp, _⟩ := hsh trivial
    dsimp only at h
    rw [bind_apply] at h
    cases hd : done { isPrint := isPrint, src := src } s1 with
    | panic w => rw [hd] at h; cases h
    | fuel => rw [hd] at h; cases h
    | ok u s2 =>
      rw [hd] at h
      simp only [toResult, pure_apply, ParseResult.ok.injEq] at h
      obtain ⟨hn, _⟩ := h
      subst hn
      exact ⟨hp.1, hk, hp.2⟩

end C16P
