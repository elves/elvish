/-
C16: the dispatch of `cp.primaryOp` on `Primary.Type`, analysed once.
-/
import ElvModel.C16.Shape
namespace C16
open Go
open Gen.C01Chars

/-- `P` holds of `primaryOp … n` if it holds of the branch that `n.ptype` selects.  The branches that the
shape of a parsed tree restricts or rules out come with the condition under which they are taken. -/
theorem primaryOp_cases {compoundOp chunkOp : Node → M Unit} {P : M Unit → Prop} (n : Node)
    (lit : P (pure ()))
    (var : P (do
      let ref ← resolveVarRef (splitSigil n.value).2
      if ref.isNone then do
        autofix (splitSigil n.value).2
        errAt .varNotFound n
      else pure ()))
    (wild : P (if n.text == [42] || n.text == [42, 42] || n.text == [63] then pure () else errAt .badWildcard n))
    (tilde : n.ptype = Tilde → P (errAt .tildeBug n))
    (capture : (n.ptype == ExceptionCapture || n.ptype == OutputCapture) = true → P (do
      let c ← deref (Primary.chunk n) "Primary.Chunk"
      chunkOp c))
    (list : P (compoundOps compoundOp (Primary.elements n)))
    (lam : n.ptype = Lambda → P (lambda compoundOp chunkOp n))
    (map : P (mapPairs compoundOp (Primary.mapPairs n)))
    (braced : P (compoundOps compoundOp (Primary.braced n)))
    (bad : goodPType n.ptype = false → P (errAt .badPrimary n)) :
    P (primaryOp compoundOp chunkOp n) := by
  unfold primaryOp
  dsimp only
  -- `split` is very slow on this chain of conditionals
  by_cases h1 : (n.ptype == Bareword || n.ptype == SingleQuoted || n.ptype == DoubleQuoted) = true
  · rw [if_pos h1]; exact lit
  rw [if_neg h1]
  by_cases h2 : (n.ptype == Variable) = true
  · rw [if_pos h2]; exact var
  rw [if_neg h2]
  by_cases h3 : (n.ptype == Wildcard) = true
  · rw [if_pos h3]; exact wild
  rw [if_neg h3]
  by_cases h4 : (n.ptype == Tilde) = true
  · rw [if_pos h4]; exact tilde (beq_iff_eq.mp h4)
  rw [if_neg h4]
  by_cases h5 : (n.ptype == ExceptionCapture || n.ptype == OutputCapture) = true
  · rw [if_pos h5]; exact capture h5
  rw [if_neg h5]
  by_cases h6 : (n.ptype == ListPrimary) = true
  · rw [if_pos h6]; exact list
  rw [if_neg h6]
  by_cases h7 : (n.ptype == Lambda) = true
  · rw [if_pos h7]; exact lam (beq_iff_eq.mp h7)
  rw [if_neg h7]
  by_cases h8 : (n.ptype == MapPrimary) = true
  · rw [if_pos h8]; exact map
  rw [if_neg h8]
  by_cases h9 : (n.ptype == Braced) = true
  · rw [if_pos h9]; exact braced
  rw [if_neg h9]
  refine bad ?_
  simp only [Bool.or_eq_true, not_or, Bool.not_eq_true] at h1 h5
  simp only [Bool.not_eq_true] at h2 h3 h4 h6 h7 h8 h9
  simp only [goodPType, h1, h2, h3, h4, h5, h6, h7, h8, h9, Bool.or_self]

end C16
