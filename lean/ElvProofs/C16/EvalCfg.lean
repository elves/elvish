/-
C16: the phase structure of `evalIn` (explicit `cfg.Global`, `Frame.Eval`, file modules), of which `eval` is
the instance that compiles against the evaler's own global namespace and installs the template.
-/
import ElvModel.C16.EvalCfg
namespace C16
open Go

section
variable {W Eff Exc : Type} (R : Runtime W Eff Exc)
  (execIn : Node → StaticNs → Evaler W → Evaler W × List Eff × Option Exc)
  (ev : Evaler W) (g : StaticNs) (src : Bytes)

theorem eval_eq_evalIn :
    eval R ev src = evalIn R (fun tree t ev => R.exec tree { ev with global := t }) ev ev.global src := rfl

theorem evalIn_cases {motive : Evaler W × List Eff × Outcome Exc → Prop}
    (stopped : ∀ o : Outcome Exc, (∀ exc, o ≠ .ran exc) → motive (ev, [], o))
    (ran : ∀ tree c, R.parse src = .ok tree [] →
      compile { builtin := ev.builtin, isPrint := R.isPrint } (R.fuel src) g [] tree = .ok c → c.errors = [] →
      motive ((execIn tree c.template ev).1, (execIn tree c.template ev).2.1, .ran (execIn tree c.template ev).2.2)) :
    motive (evalIn R execIn ev g src) := by
  unfold evalIn
  cases hp : R.parse src with
  | panic w => exact stopped _ (fun _ h => by cases h)
  | fuel => exact stopped _ (fun _ h => by cases h)
  | ok tree perrs =>
    cases perrs with
    | cons a l => exact stopped (.parseError (a :: l)) (fun _ h => by cases h)
    | nil =>
      show motive (match compile { builtin := ev.builtin, isPrint := R.isPrint } (R.fuel src) g [] tree with
        | .panic w => (ev, [], .crashed w)
        | .fuel => (ev, [], .crashed "FUEL")
        | .ok c => if !c.errors.isEmpty then (ev, [], .compileError c.errors) else _)
      cases hc : compile { builtin := ev.builtin, isPrint := R.isPrint } (R.fuel src) g [] tree with
      | panic w => exact stopped _ (fun _ h => by cases h)
      | fuel => exact stopped _ (fun _ h => by cases h)
      | ok c =>
        dsimp only
        cases hce : c.errors with
        | cons a l => exact stopped (.compileError (a :: l)) (fun _ h => by cases h)
        | nil => exact ran tree c hp hc hce

theorem evalIn_no_effect (h : ∀ exc, (evalIn R execIn ev g src).2.2 ≠ .ran exc) :
    (evalIn R execIn ev g src).2.1 = [] ∧ (evalIn R execIn ev g src).1 = ev := by
  revert h
  exact evalIn_cases R execIn ev g src (motive := fun r => (∀ exc, r.2.2 ≠ .ran exc) → r.2.1 = [] ∧ r.1 = ev)
    (fun _ _ _ => ⟨rfl, rfl⟩) (fun _ _ _ _ _ h => absurd rfl (h _))

theorem evalIn_static_error (h : (evalIn R execIn ev g src).2.2.isStaticError = true) :
    (evalIn R execIn ev g src).2.1 = [] ∧ (evalIn R execIn ev g src).1 = ev :=
  evalIn_no_effect R execIn ev g src (fun exc he => by rw [he] at h; cases h)

theorem evalIn_crashed (w : String) (h : (evalIn R execIn ev g src).2.2 = .crashed w) :
    (evalIn R execIn ev g src).2.1 = [] ∧ (evalIn R execIn ev g src).1 = ev :=
  evalIn_no_effect R execIn ev g src (fun exc he => by rw [he] at h; cases h)

theorem evalIn_ran (exc : Option Exc) (h : (evalIn R execIn ev g src).2.2 = .ran exc) :
    ∃ tree c, R.parse src = .ok tree [] ∧
      compile { builtin := ev.builtin, isPrint := R.isPrint } (R.fuel src) g [] tree = .ok c ∧
      c.errors = [] ∧
      evalIn R execIn ev g src =
        ((execIn tree c.template ev).1, (execIn tree c.template ev).2.1, .ran (execIn tree c.template ev).2.2) := by
  revert h
  exact evalIn_cases R execIn ev g src
    (motive := fun r => r.2.2 = .ran exc → ∃ tree c, R.parse src = .ok tree [] ∧
      compile { builtin := ev.builtin, isPrint := R.isPrint } (R.fuel src) g [] tree = .ok c ∧ c.errors = [] ∧
      r = ((execIn tree c.template ev).1, (execIn tree c.template ev).2.1, .ran (execIn tree c.template ev).2.2))
    (fun o ho h => absurd h (ho exc)) (fun tree c hp hc hce _ => ⟨tree, c, hp, hc, hce, rfl⟩)

theorem evalIn_of_compiled {tree : Node} {perrs : List C01.PErr} {c : Compiled} (hp : R.parse src = .ok tree perrs)
    (hc : compile { builtin := ev.builtin, isPrint := R.isPrint } (R.fuel src) g [] tree = .ok c) :
    evalIn R execIn ev g src =
      if !perrs.isEmpty then (ev, [], .parseError perrs)
      else if !c.errors.isEmpty then (ev, [], .compileError c.errors)
      else ((execIn tree c.template ev).1, (execIn tree c.template ev).2.1, .ran (execIn tree c.template ev).2.2) := by
  unfold evalIn
  simp only [hp, hc]

theorem evalIn_static_congr (execIn' : Node → StaticNs → Evaler W → Evaler W × List Eff × Option Exc)
    (ev' : Evaler W) (hb : ev'.builtin = ev.builtin) :
    (evalIn R execIn ev g src).2.2.isStaticError = (evalIn R execIn' ev' g src).2.2.isStaticError := by
  unfold evalIn
  rw [hb]
  cases R.parse src with
  | panic w => rfl
  | fuel => rfl
  | ok tree perrs =>
    dsimp only
    split
    · rfl
    · cases compile { builtin := ev.builtin, isPrint := R.isPrint } (R.fuel src) g [] tree with
      | panic w => rfl
      | fuel => rfl
      | ok c =>
        dsimp only
        split <;> rfl

theorem evalIn_static_eq_eval :
    (evalIn R execIn ev g src).2.2.isStaticError = (eval R { ev with global := g } src).2.2.isStaticError := by
  rw [eval_eq_evalIn]
  exact evalIn_static_congr R execIn ev g src _ _ rfl

end
end C16
