/-
C16: what `shape` gives about the nodes the compiler reaches through the
field accessors, and the specifications of `argsGetter`.
-/
import ElvProofs.C16.SafeLogic
namespace C16
open Go
open Gen.C01Chars

theorem shapeL_mem : ∀ {cs : List Node} {c : Node}, shapeL cs = true → c ∈ cs → shape c = true
  | [], _, _, h => by cases h
  | d :: ds, c, hs, h => by
    simp only [shapeL, Bool.and_eq_true] at hs
    rcases List.mem_cons.mp h with rfl | h'
    · exact hs.1
    · exact shapeL_mem hs.2 h'

theorem nestL_mem : ∀ {cs : List Node} {c : Node}, c ∈ cs → nest c ≤ nestL cs
  | [], _, h => by cases h
  | d :: ds, c, h => by
    simp only [nestL]
    rcases List.mem_cons.mp h with rfl | h'
    · exact Nat.le_max_left _ _
    · exact Nat.le_trans (nestL_mem h') (Nat.le_max_right _ _)

theorem shape_nodeOk {n : Node} (h : shape n = true) : nodeOk n = true := by
  cases n; simp only [shape, Bool.and_eq_true] at h; exact h.1

theorem shape_children {n : Node} (h : shape n = true) : shapeL n.children = true := by
  cases n; simp only [shape, Bool.and_eq_true] at h; exact h.2

theorem nest_children (n : Node) : nestL n.children ≤ nest n := by
  cases n; simp only [nest, C01.Node.children]; omega

theorem nest_children_lt (n : Node) (h : n.kind = .chunk ∨ n.kind = .compound) : nestL n.children + 1 ≤ nest n := by
  cases n with
  | mk k a b t f cs =>
    simp only [C01.Node.kind] at h
    simp only [nest, C01.Node.children]
    rcases h with h | h <;> subst h <;> simp <;> omega

def D (k : Nat) (n : Node) : Prop := shape n = true ∧ nest n ≤ k

theorem D.child {k : Nat} {n c : Node} (h : D k n) (hc : c ∈ n.children) : D k c :=
  ⟨shapeL_mem (shape_children h.1) hc, Nat.le_trans (nestL_mem hc) (Nat.le_trans (nest_children n) h.2)⟩

theorem childrenOf_D {k : Nat} {n x : Node} {K : C01.Kind} (hch : ∀ c ∈ n.children, D k c)
    (hx : x ∈ n.childrenOf K) : D k x ∧ x.kind = K := by
  unfold C01.Node.childrenOf at hx
  obtain ⟨h1, h2⟩ := List.mem_filter.mp hx
  exact ⟨hch x h1, by simpa using h2⟩

theorem D.of {k : Nat} {n x : Node} {K : C01.Kind} (h : D k n) (hx : x ∈ n.childrenOf K) : D k x ∧ x.kind = K :=
  childrenOf_D (fun _ hc => h.child hc) hx

theorem D.arg {k : Nat} {fn x : Node} (h : D k fn) (hx : x ∈ Form.args fn) : D k x ∧ x.kind = .compound :=
  h.of (List.mem_of_mem_drop hx)

theorem elements_sub {n x : Node} (h : x ∈ Primary.elements n) : x ∈ compounds n := by
  unfold Primary.elements at h
  split at h
  · cases h
  · exact h

theorem braced_sub {n x : Node} (h : x ∈ Primary.braced n) : x ∈ compounds n := by
  unfold Primary.braced at h
  split at h
  · exact h
  · cases h

theorem nodeOk_form {n : Node} (hk : n.kind = .form) :
    nodeOk n = true ↔ (Form.head n).isSome = true ∧ ∀ c ∈ Form.args n, Compound.indexings c ≠ [] := by
  unfold nodeOk
  rw [hk]
  simp only [Bool.and_eq_true, List.all_eq_true, Bool.not_eq_true', List.isEmpty_eq_false_iff]

theorem nodeOk_redir {n : Node} (hk : n.kind = .redir) : nodeOk n = true ↔ (Redir.right n).isSome = true := by
  unfold nodeOk; rw [hk]

theorem nodeOk_mapPair {n : Node} (hk : n.kind = .mapPair) : nodeOk n = true ↔ (MapPair.key n).isSome = true := by
  unfold nodeOk; rw [hk]

theorem nodeOk_indexing {n : Node} (hk : n.kind = .indexing) :
    nodeOk n = true ↔ ∃ hd, Indexing.head n = some hd ∧ goodPType hd.ptype = true := by
  unfold nodeOk
  rw [hk]
  cases Indexing.head n with
  | none => exact ⟨nofun, fun ⟨_, h, _⟩ => nomatch h⟩
  | some hd => exact ⟨fun h => ⟨hd, rfl, h⟩, fun ⟨_, h, hg⟩ => by cases h; exact hg⟩

theorem nodeOk_primary {n : Node} (hk : n.kind = .primary) :
    nodeOk n = true ↔ goodPType n.ptype = true ∧
      ((n.ptype == ExceptionCapture || n.ptype == OutputCapture || n.ptype == Lambda) = true →
        (Primary.chunk n).isSome = true) := by
  unfold nodeOk
  rw [hk]
  simp only [Bool.and_eq_true]
  refine and_congr_right fun _ => ?_
  cases (n.ptype == ExceptionCapture || n.ptype == OutputCapture || n.ptype == Lambda) <;> simp

theorem nodeOk_compound {n : Node} (hk : n.kind = .compound) :
    nodeOk n = true ↔ ∀ ix ∈ (Compound.indexings n).drop 1, properIndexing ix = true := by
  unfold nodeOk
  rw [hk]
  exact List.all_eq_true

theorem properIndexing_head {ix : Node} (h : properIndexing ix = true) :
    ∃ hd, Indexing.head ix = some hd ∧ hd.ptype ≠ Tilde := by
  unfold properIndexing at h
  cases hh : Indexing.head ix with
  | none => rw [hh] at h; cases h
  | some hd => rw [hh] at h; exact ⟨hd, rfl, by simpa using h⟩

theorem primaryOf_D {k : Nat} {x p : Node} (h : D k x) (hp : primaryOf x = some p) :
    D k p ∧ p.kind = .primary ∧ Compound.indexings x ≠ [] := by
  unfold primaryOf at hp
  split at hp
  · next ix heq =>
    split at hp
    · have hix := h.of (K := .indexing) (x := ix) (by
        show ix ∈ Compound.indexings x
        rw [heq]; exact List.mem_cons_self)
      have hpp := hix.1.of (K := .primary) (x := p) (List.mem_of_head? hp)
      exact ⟨hpp.1, hpp.2, by rw [heq]; simp⟩
    · cases hp
  · cases hp

theorem lambdaOf_D {k : Nat} {x l : Node} (h : D k x) (hl : lambdaOf x = some l) :
    D k l ∧ l.kind = .primary ∧ l.ptype = Lambda := by
  unfold lambdaOf at hl
  split at hl
  · next p hp =>
    split at hl
    · next hlam =>
      simp only [Option.some.injEq] at hl; subst hl
      have := primaryOf_D h hp
      exact ⟨this.1, this.2.1, by simpa using hlam⟩
    · cases hl
  · cases hl

theorem stringLiteral_indexings {x : Node} {s : Bytes} (hs : stringLiteral x = some s) :
    Compound.indexings x ≠ [] := by
  unfold stringLiteral at hs
  split at hs
  · next p hp =>
    unfold primaryOf at hp
    split at hp
    · next ix heq => rw [heq]; simp
    · cases hp
  · cases hs

/-! A getter only ever goes from OK to not-OK, and what a special form does with the nodes it got happens
after `finish()` returned true.  So the facts about those nodes are collected under the hypothesis that
the getter is still OK. -/

/-- the getter works on form `fn`, and `A` holds if it is still OK -/
structure AG.Knows (fn : Node) (ag : AG) (A : Prop) : Prop where
  fn : ag.fn = fn
  ok : ag.ok = true → A

theorem AG.Knows.triv (ag : AG) : AG.Knows ag.fn ag True := ⟨rfl, fun _ => trivial⟩

theorem AG.Knows.mono {fn : Node} {ag : AG} {A B : Prop} (k : AG.Knows fn ag A) (h : A → B) : AG.Knows fn ag B :=
  ⟨k.fn, fun hok => h (k.ok hok)⟩

def On₂ {α β : Type} (P : α → β → Prop) (r : α × β) : Prop := P r.1 r.2

theorem Safe.bind₂ {α β γ : Type} {m : M (α × β)} {f : α × β → M γ} {P : α → β → Prop} {Q : γ → Prop}
    (hm : Safe m (On₂ P)) (hf : ∀ a b, P a b → Safe (f (a, b)) Q) : Safe (m >>= f) Q :=
  Safe.bind hm (fun r hr => hf r.1 r.2 hr)

def FromArg (fn : Node) (o : Option Node) : Prop :=
  ∀ l, o = some l → ∃ x ∈ Form.args fn, lambdaOf x = some l

def LamPost (fn : Node) (A : Prop) (node : Option Node) (ag' : AG) (l : Option Node) : Prop :=
  AG.Knows fn ag' (A ∧ (node.isSome = true → l.isSome = true)) ∧
    ∀ x, l = some x → ∃ y, node = some y ∧ lambdaOf y = some x

section
variable {fn : Node} {ag : AG} {A : Prop}

/-- after an error the getter is not OK, so it knows everything -/
theorem Safe.AG_err (k : AG.Knows fn ag A) (ek : EK) (hk : Live ek) (a b : Nat) :
    Safe (ag.err ek a b) (fun ag' => ∀ B, AG.Knows fn ag' B) := by
  unfold AG.err
  split
  · exact Safe.bindT (Safe.err ek hk a b) (fun _ => Safe.pure _ fun _ => ⟨k.fn, fun h => by cases h⟩)
  · next h => exact Safe.pure _ fun _ => ⟨k.fn, fun h' => absurd h' h⟩

theorem Safe.AG_get (k : AG.Knows fn ag A) (i : Nat) :
    Safe (ag.get i) (On₂ fun ag' o => AG.Knows fn ag' (A ∧ o.isSome = true) ∧ o = (Form.args fn)[i]?) := by
  unfold AG.get
  extract_lets ag1
  have k1 : AG.Knows fn ag1 A := by
    simp only [ag1]; split <;> exact ⟨k.fn, k.ok⟩
  rw [k1.fn]
  split
  · next a ha => exact Safe.pure _ ⟨k1.mono fun h => ⟨h, rfl⟩, ha.symm⟩
  · next ha => exact Safe.bind (Safe.AG_err k1 _ (by decide) _ _) (fun ag2 k2 => Safe.pure _ ⟨k2 _, ha.symm⟩)

theorem Safe.AG_stringLit (k : AG.Knows fn ag A) (node : Option Node) :
    Safe (ag.stringLit node) (On₂ fun ag' _ => AG.Knows fn ag' A) := by
  unfold AG.stringLit
  split
  · exact Safe.pure _ k
  · split
    · exact Safe.pure _ k
    · exact Safe.bind (Safe.AG_err k _ (by decide) _ _) (fun ag2 k2 => Safe.pure _ (k2 _))

theorem LamPost.failed {ag' : AG} {node : Option Node} (k : AG.Knows fn ag' (A ∧ (node.isSome = true → False))) :
    LamPost fn A node ag' none :=
  ⟨k.mono fun h => ⟨h.1, fun hn => (h.2 hn).elim⟩, fun x h => by cases h⟩

theorem Safe.AG_lambda (k : AG.Knows fn ag A) (node : Option Node) :
    Safe (ag.lambda node) (On₂ (LamPost fn A node)) := by
  unfold AG.lambda
  split
  · exact Safe.pure _ (LamPost.failed (k.mono fun h => ⟨h, fun hn => by cases hn⟩))
  · next n =>
    split
    · next l hl =>
      refine Safe.pure _ ⟨k.mono fun h => ⟨h, fun _ => rfl⟩, fun x h => ?_⟩
      cases h
      exact ⟨n, rfl, hl⟩
    · exact Safe.bind (Safe.AG_err k _ (by decide) _ _) (fun ag2 k2 => Safe.pure _ (LamPost.failed (k2 _)))

theorem Safe.AG_thunk (k : AG.Knows fn ag A) (node : Option Node) :
    Safe (ag.thunk node) (On₂ (LamPost fn A node)) := by
  unfold AG.thunk
  refine Safe.bind₂ (Safe.AG_lambda k node) (fun ag1 l hl => ?_)
  dsimp only
  split
  · exact Safe.pure _ hl
  · next l' =>
    split
    · exact Safe.bind (Safe.AG_err hl.1 _ (by decide) _ _) (fun ag2 k2 => Safe.pure _ (LamPost.failed (k2 _)))
    · split
      · exact Safe.bind (Safe.AG_err hl.1 _ (by decide) _ _) (fun ag2 k2 => Safe.pure _ (LamPost.failed (k2 _)))
      · exact Safe.pure _ hl

theorem LamPost.fromArg {node : Option Node} {ag' : AG} {l : Option Node} {i : Nat}
    (h : LamPost fn A node ag' l) (hn : node = (Form.args fn)[i]?) : FromArg fn l := by
  intro x hx
  obtain ⟨y, hy, hxy⟩ := h.2 x hx
  exact ⟨y, List.mem_of_getElem? (hn ▸ hy), hxy⟩

theorem Safe.AG_optionalKeywordBody (k : AG.Knows fn ag A) (i : Nat) (kw : Bytes) :
    Safe (ag.optionalKeywordBody i kw) (On₂ fun ag' o => AG.Knows fn ag' A ∧ FromArg fn o) := by
  unfold AG.optionalKeywordBody
  split
  · refine Safe.bind₂ (Safe.AG_get k (i + 1)) (fun ag1 n ⟨k1, e1⟩ => ?_)
    exact (Safe.AG_thunk k1 n).mono (fun r hr => ⟨hr.1.mono fun h => h.1.1, hr.fromArg e1⟩)
  · exact Safe.pure _ ⟨k, fun l h => by cases h⟩

theorem Safe.AG_finish (k : AG.Knows fn ag A) : Safe ag.finish (fun b => b = true → A) := by
  unfold AG.finish
  split
  · exact Safe.bind (Safe.AG_err k _ (by decide) _ _) (fun ag2 k2 => Safe.pure _ (k2 A).ok)
  · exact Safe.pure _ k.ok

end

theorem hasKeyword_lt {ag : AG} {i : Nat} {kw : Bytes} (h : ag.hasKeyword i kw = true) :
    i < (Form.args ag.fn).length := by
  unfold AG.hasKeyword at h
  split at h
  · next a ha => exact (List.getElem?_eq_some_iff.mp ha).1
  · cases h

end C16
