/-
The compiler only ever APPENDS errors: a small partial-correctness logic over
the compiler monad with the invariant "the errors before are a prefix of the
errors after", proved for every primitive and pushed through every compiler
function of `ElvModel/C16/Model.lean`.
-/
import ElvProofs.C16.PrimaryOp
namespace C16
open Go

structure Mono {α : Type} (m : M α) : Prop where
  prf : ∀ e s a s', m e s = .ok a s' → s.errors <+: s'.errors

theorem Mono.pure {α : Type} (a : α) : Mono (pure a : M α) := by
  constructor; intro e s a' s' h
  simp only [Pure.pure, M.pure, Out.ok.injEq] at h
  rw [← h.2]
  exact List.prefix_refl _

theorem Mono.bind {α β : Type} {m : M α} {f : α → M β} (hm : Mono m) (hf : ∀ a, Mono (f a)) :
    Mono (m >>= f) := by
  constructor; intro e s b s' h
  simp only [Bind.bind, M.bind] at h
  cases hms : m e s with
  | ok a s1 =>
    rw [hms] at h
    exact List.IsPrefix.trans (hm.prf e s a s1 hms) ((hf a).prf e s1 b s' h)
  | panic w => rw [hms] at h; cases h
  | fuel => rw [hms] at h; cases h

theorem Mono.of_errors_eq {α : Type} {m : M α} (h : ∀ e s a s', m e s = .ok a s' → s'.errors = s.errors) : Mono m := by
  constructor; intro e s a s' hm
  rw [h e s a s' hm]
  exact List.prefix_refl _

theorem Mono.panic {α : Type} (w : String) : Mono (panic w : M α) := by
  constructor; intro e s a s' h; cases h
theorem Mono.outOfFuel {α : Type} : Mono (outOfFuel : M α) := by
  constructor; intro e s a s' h; cases h
theorem Mono.getEnv : Mono getEnv := Mono.of_errors_eq (by intro e s a s' h; cases h; rfl)
theorem Mono.err (k : EK) (a b : Nat) : Mono (err k a b) := by
  constructor; intro e s u s' h
  simp only [C16.err, Out.ok.injEq] at h
  rw [← h.2]
  exact List.prefix_append _ _
theorem Mono.errAt (k : EK) (n : Node) : Mono (errAt k n) := Mono.err _ _ _
theorem Mono.errPoint (k : EK) (p : Nat) : Mono (errPoint k p) := Mono.err _ _ _
theorem Mono.autofix (q : Bytes) : Mono (autofix q) :=
  Mono.of_errors_eq (by intro e s a s' h; simp only [C16.autofix, Out.ok.injEq] at h; rw [← h.2])
theorem Mono.thisScope : Mono thisScope :=
  Mono.of_errors_eq (by
    intro e s a s' h; unfold C16.thisScope at h
    split at h
    · simp only [Out.ok.injEq] at h; rw [← h.2]
    · cases h)
theorem Mono.setThisScope (sc : StaticNs) : Mono (setThisScope sc) :=
  Mono.of_errors_eq (by
    intro e s a s' h; unfold C16.setThisScope at h
    split at h
    · simp only [Out.ok.injEq] at h; rw [← h.2]
    · cases h)
theorem Mono.currentPragma : Mono currentPragma :=
  Mono.of_errors_eq (by
    intro e s a s' h; unfold C16.currentPragma at h
    split at h
    · simp only [Out.ok.injEq] at h; rw [← h.2]
    · cases h)
theorem Mono.setCurrentPragma (b : Bool) : Mono (setCurrentPragma b) :=
  Mono.of_errors_eq (by
    intro e s a s' h; unfold C16.setCurrentPragma at h
    split at h
    · simp only [Out.ok.injEq] at h; rw [← h.2]
    · cases h)
theorem Mono.popScope : Mono popScope :=
  Mono.of_errors_eq (by
    intro e s a s' h; unfold C16.popScope at h
    split at h
    · simp only [Out.ok.injEq] at h; rw [← h.2]
    · cases h)
theorem Mono.scopeDepth : Mono scopeDepth :=
  Mono.of_errors_eq (by intro e s a s' h; simp only [C16.scopeDepth, Out.ok.injEq] at h; rw [← h.2])
theorem Mono.pushScope : Mono pushScope := by
  unfold C16.pushScope
  refine Mono.bind Mono.currentPragma (fun p => Mono.of_errors_eq ?_)
  intro e s a s' h; simp only [modifySt, Out.ok.injEq] at h; rw [← h.2]
theorem Mono.addName (k : Bytes) : Mono (addName k) := by
  unfold C16.addName
  exact Mono.bind Mono.thisScope (fun sc => Mono.bind (Mono.setThisScope _) (fun _ => Mono.pure _))
theorem Mono.deref {α : Type} (o : Option α) (w : String) : Mono (deref o w) := by
  unfold C16.deref; cases o with
  | none => exact Mono.panic _
  | some a => exact Mono.pure _
theorem Mono.resolveVarRef (q : Bytes) : Mono (resolveVarRef q) :=
  Mono.of_errors_eq (by
    intro e s a s' h; unfold C16.resolveVarRef at h
    split at h
    · simp only [Out.ok.injEq] at h; rw [← h.2]
    · cases h)
theorem Mono.resolveCmdHead (h : Bytes) : Mono (resolveCmdHead h) := by
  unfold C16.resolveCmdHead; dsimp only; split
  · exact Mono.pure _
  · exact Mono.resolveVarRef _

theorem Mono.forEach {α : Type} (l : List α) (f : α → M Unit) (hf : ∀ x, Mono (f x)) : Mono (forEach l f) := by
  induction l with
  | nil => exact Mono.pure _
  | cons x xs ih => exact Mono.bind (hf x) (fun _ => ih)

theorem Mono.ite {α : Type} {c : Prop} [Decidable c] {a b : M α} (ha : Mono a) (hb : Mono b) :
    Mono (if c then a else b) := by
  split
  · exact ha
  · exact hb

/-- one step of the syntax-directed proof; extended with `macro_rules` below as lemmas become available -/
syntax "mono_prim" : tactic
macro_rules | `(tactic| mono_prim) => `(tactic| with_reducible first
  | assumption
  | exact Mono.pure _ | exact Mono.errAt _ _
  | apply_assumption (transparency := .reducible) (exfalso := false)
  | exact Mono.panic _ | exact Mono.outOfFuel | exact Mono.getEnv
  | exact Mono.err _ _ _ | exact Mono.errPoint _ _ | exact Mono.autofix _
  | exact Mono.thisScope | exact Mono.setThisScope _ | exact Mono.currentPragma | exact Mono.setCurrentPragma _
  | exact Mono.popScope | exact Mono.scopeDepth | exact Mono.pushScope | exact Mono.addName _
  | exact Mono.deref _ _ | exact Mono.resolveVarRef _ | exact Mono.resolveCmdHead _)

macro "mono" : tactic => `(tactic| repeat' (first
  | (with_reducible apply Mono.bind)
  | (with_reducible apply Mono.forEach)
  | (with_reducible apply Mono.ite)
  | (intro _)
  | extract_lets
  | split
  | mono_prim))

theorem Mono.stringLiteralOrError (n : Node) : Mono (stringLiteralOrError n) := by
  unfold C16.stringLiteralOrError; mono

theorem Mono.lambdaArgs (l : List Node) (seen : List Bytes) (hr : Bool) (names : List Bytes) :
    Mono (lambdaArgs l seen hr names) := by
  induction l generalizing seen hr names with
  | nil => unfold C16.lambdaArgs; mono
  | cons a rest ih =>
    unfold C16.lambdaArgs
    have h1 := Mono.stringLiteralOrError a
    mono

theorem Mono.AG_err (ag : AG) (k : EK) (a b : Nat) : Mono (ag.err k a b) := by
  unfold AG.err; mono
theorem Mono.AG_get (ag : AG) (i : Nat) : Mono (ag.get i) := by
  unfold AG.get
  have h1 := Mono.AG_err
  mono
theorem Mono.AG_stringLit (ag : AG) (n : Option Node) : Mono (ag.stringLit n) := by
  unfold AG.stringLit
  have h1 := Mono.AG_err
  mono
theorem Mono.AG_lambda (ag : AG) (n : Option Node) : Mono (ag.lambda n) := by
  unfold AG.lambda
  have h1 := Mono.AG_err
  mono
theorem Mono.AG_thunk (ag : AG) (n : Option Node) : Mono (ag.thunk n) := by
  unfold AG.thunk
  have h1 := Mono.AG_err
  have h2 := Mono.AG_lambda
  mono
theorem Mono.AG_optionalKeywordBody (ag : AG) (i : Nat) (kw : Bytes) : Mono (ag.optionalKeywordBody i kw) := by
  unfold AG.optionalKeywordBody
  have h1 := Mono.AG_get
  have h2 := Mono.AG_thunk
  mono
theorem Mono.AG_finish (ag : AG) : Mono ag.finish := by
  unfold AG.finish
  have h1 := Mono.AG_err
  mono

theorem Mono.compileUse (fn : Node) : Mono (compileUse fn) := by
  unfold C16.compileUse
  have h1 := Mono.AG_get
  have h2 := Mono.AG_stringLit
  have h3 := Mono.AG_finish
  mono

theorem Mono.compilePragma (fn : Node) : Mono (compilePragma fn) := by
  unfold C16.compilePragma
  have h1 := Mono.AG_get
  have h2 := Mono.AG_stringLit
  have h3 := Mono.AG_finish
  have h4 := Mono.AG_err
  have h5 := Mono.stringLiteralOrError
  mono

theorem Mono.ifLoop (fuel : Nat) (ag : AG) (i : Nat) (cs bs : List (Option Node)) : Mono (ifLoop fuel ag i cs bs) := by
  induction fuel generalizing ag i cs bs with
  | zero => unfold C16.ifLoop; mono
  | succ k ih =>
    unfold C16.ifLoop
    have h1 := Mono.AG_get
    have h2 := Mono.AG_thunk
    mono

section Open
variable {compoundOp : Node → M Unit} {chunkOp : Node → M Unit}
variable (hc : ∀ n, Mono (compoundOp n)) (hk : ∀ n, Mono (chunkOp n))
include hc

theorem Mono.compoundOps (ns : List Node) : Mono (compoundOps compoundOp ns) := by
  unfold C16.compoundOps; mono
macro_rules | `(tactic| mono_prim) => `(tactic| ((with_reducible apply Mono.compoundOps) <;> assumption))

theorem Mono.arrayOps (ns : List Node) : Mono (arrayOps compoundOp ns) := by
  unfold C16.arrayOps; mono
macro_rules | `(tactic| mono_prim) => `(tactic| ((with_reducible apply Mono.arrayOps) <;> assumption))

theorem Mono.mapPairs (ns : List Node) : Mono (mapPairs compoundOp ns) := by
  unfold C16.mapPairs; mono
macro_rules | `(tactic| mono_prim) => `(tactic| ((with_reducible apply Mono.mapPairs) <;> assumption))

theorem Mono.lambdaOpts (l : List Node) (names : List Bytes) : Mono (lambdaOpts compoundOp l names) := by
  induction l generalizing names with
  | nil => unfold C16.lambdaOpts; mono
  | cons a rest ih =>
    unfold C16.lambdaOpts
    have h1 := Mono.stringLiteralOrError
    mono

include hk

theorem Mono.lambda (n : Node) : Mono (lambda compoundOp chunkOp n) := by
  unfold C16.lambda
  have h1 := Mono.lambdaArgs
  have h2 := Mono.lambdaOpts hc
  mono

theorem Mono.primaryOp (n : Node) : Mono (primaryOp compoundOp chunkOp n) := by
  have h1 := Mono.lambda hc hk
  refine primaryOp_cases (P := Mono) n ?_ ?_ ?_ ?_ ?_ ?_ ?_ ?_ ?_ ?_ <;> mono

theorem Mono.indexingOp (n : Node) : Mono (indexingOp compoundOp chunkOp n) := by
  unfold C16.indexingOp
  have h1 := Mono.primaryOp hc hk
  mono

theorem Mono.compoundBody (n : Node) : Mono (compoundBody compoundOp chunkOp n) := by
  unfold C16.compoundBody
  have h1 := Mono.indexingOp hc hk
  mono

omit hk

theorem Mono.lvalueResult (n : Node) (r : Bool) : Mono (lvalueResult compoundOp n r) := by
  unfold C16.lvalueResult
  mono

theorem Mono.createLValue (n : Node) (q : Bytes) (r : Bool) : Mono (createLValue compoundOp n q r) := by
  unfold C16.createLValue
  have h1 := Mono.lvalueResult hc
  mono

theorem Mono.resolveLValue (n : Node) (f : LVFlag) (q : Bytes) (r : Bool) : Mono (resolveLValue compoundOp n f q r) := by
  unfold C16.resolveLValue
  have h1 := Mono.lvalueResult hc
  have h2 := Mono.createLValue hc
  mono

theorem Mono.compileIndexingLValue (n : Node) (f : LVFlag) : Mono (compileIndexingLValue compoundOp n f) := by
  unfold C16.compileIndexingLValue
  have h2 := Mono.resolveLValue hc
  mono

theorem Mono.compileCompoundLValues (l : List Node) (f : LVFlag) (g : LVGroup) :
    Mono (compileCompoundLValues compoundOp l f g) := by
  induction l generalizing g with
  | nil => unfold C16.compileCompoundLValues; mono
  | cons a rest ih =>
    unfold C16.compileCompoundLValues
    have h1 := Mono.compileIndexingLValue hc
    mono

theorem Mono.compileOneLValue (n : Node) (f : LVFlag) : Mono (compileOneLValue compoundOp n f) := by
  unfold C16.compileOneLValue
  have h1 := Mono.compileIndexingLValue hc
  mono

theorem Mono.compileLHSOptionalRHS (args : List Node) (f : LVFlag) : Mono (compileLHSOptionalRHS compoundOp args f) := by
  unfold C16.compileLHSOptionalRHS
  have h1 := Mono.compileCompoundLValues hc
  mono

theorem Mono.compileLHSRHS (args : List Node) (e : Nat) (f : LVFlag) : Mono (compileLHSRHS compoundOp args e f) := by
  unfold C16.compileLHSRHS
  have h1 := Mono.compileLHSOptionalRHS hc
  mono

theorem Mono.compileVar (fn : Node) : Mono (compileVar compoundOp fn) := by
  unfold C16.compileVar
  have h1 := Mono.compileLHSOptionalRHS hc
  mono

theorem Mono.compileSet (fn : Node) : Mono (compileSet compoundOp fn) := by
  unfold C16.compileSet
  exact Mono.compileLHSRHS hc _ _ _

theorem Mono.compileTmp (fn : Node) : Mono (compileTmp compoundOp fn) := by
  unfold C16.compileTmp
  have h1 := Mono.compileLHSRHS hc
  mono

theorem Mono.compileDel (fn : Node) : Mono (compileDel compoundOp fn) := by
  unfold C16.compileDel
  mono

include hk

theorem Mono.compileWith (fn : Node) : Mono (compileWith compoundOp chunkOp fn) := by
  unfold C16.compileWith
  have h1 := Mono.compileLHSRHS hc
  have h2 := Mono.primaryOp hc hk
  mono

theorem Mono.compileFn (fn : Node) : Mono (compileFn compoundOp chunkOp fn) := by
  unfold C16.compileFn
  have h1 := Mono.AG_get
  have h2 := Mono.AG_stringLit
  have h3 := Mono.AG_finish
  have h4 := Mono.AG_lambda
  have h5 := Mono.lambda hc hk
  mono

theorem Mono.primaryOpNN (n : Option Node) (w : String) : Mono (primaryOpNN compoundOp chunkOp n w) := by
  unfold C16.primaryOpNN
  have h2 := Mono.primaryOp hc hk
  mono

theorem Mono.optPrimaryOp (n : Option Node) : Mono (optPrimaryOp compoundOp chunkOp n) := by
  unfold C16.optPrimaryOp
  have h2 := Mono.primaryOp hc hk
  mono

theorem Mono.compileIf (fn : Node) : Mono (compileIf compoundOp chunkOp fn) := by
  unfold C16.compileIf
  have h1 := Mono.ifLoop
  have h2 := Mono.AG_optionalKeywordBody
  have h3 := Mono.AG_finish
  have h4 := Mono.primaryOpNN hc hk
  have h5 := Mono.optPrimaryOp hc hk
  mono

theorem Mono.compileWhile (fn : Node) : Mono (compileWhile compoundOp chunkOp fn) := by
  unfold C16.compileWhile
  have h1 := Mono.AG_get
  have h2 := Mono.AG_optionalKeywordBody
  have h3 := Mono.AG_finish
  have h4 := Mono.primaryOpNN hc hk
  have h5 := Mono.optPrimaryOp hc hk
  have h6 := Mono.AG_thunk
  mono

theorem Mono.compileFor (fn : Node) : Mono (compileFor compoundOp chunkOp fn) := by
  unfold C16.compileFor
  have h1 := Mono.AG_get
  have h2 := Mono.AG_optionalKeywordBody
  have h3 := Mono.AG_finish
  have h4 := Mono.primaryOpNN hc hk
  have h5 := Mono.optPrimaryOp hc hk
  have h6 := Mono.AG_thunk
  have h7 := Mono.compileOneLValue hc
  mono

theorem Mono.compileTry (fn : Node) : Mono (compileTry compoundOp chunkOp fn) := by
  unfold C16.compileTry
  have h1 := Mono.AG_get
  have h2 := Mono.AG_optionalKeywordBody
  have h3 := Mono.AG_finish
  have h4 := Mono.primaryOpNN hc hk
  have h5 := Mono.optPrimaryOp hc hk
  have h6 := Mono.AG_thunk
  have h7 := Mono.compileOneLValue hc
  mono

theorem Mono.compileSpecial (sp : Special) (fn : Node) : Mono (compileSpecial compoundOp chunkOp sp fn) := by
  unfold C16.compileSpecial
  cases sp
  · exact Mono.compileVar hc fn
  · exact Mono.compileSet hc fn
  · exact Mono.compileTmp hc fn
  · exact Mono.compileWith hc hk fn
  · exact Mono.compileDel hc fn
  · exact Mono.compileFn hc hk fn
  · exact Mono.compileUse fn
  · exact Mono.compoundOps hc _
  · exact Mono.compoundOps hc _
  · exact Mono.compoundOps hc _
  · exact Mono.compileIf hc hk fn
  · exact Mono.compileWhile hc hk fn
  · exact Mono.compileFor hc hk fn
  · exact Mono.compileTry hc hk fn
  · exact Mono.compilePragma fn

omit hk in
theorem Mono.redirOp (n : Node) : Mono (redirOp compoundOp n) := by
  unfold C16.redirOp
  mono

theorem Mono.formBody (n : Node) : Mono (formBody compoundOp chunkOp n) := by
  unfold C16.formBody
  have h1 := Mono.compileSpecial hc hk
  mono

theorem Mono.formOp (n : Node) : Mono (formOp compoundOp chunkOp n) := by
  unfold C16.formOp
  have h1 := Mono.redirOp hc
  have h2 := Mono.formBody hc hk
  mono

theorem Mono.pipelineOp (n : Node) : Mono (pipelineOp compoundOp chunkOp n) := by
  unfold C16.pipelineOp
  have h2 := Mono.formOp hc hk
  mono

theorem Mono.chunkBody (n : Node) : Mono (chunkBody compoundOp chunkOp n) := by
  unfold C16.chunkBody
  have h2 := Mono.pipelineOp hc hk
  mono

end Open

theorem Mono.compileNT (fuel : Nat) : ∀ nt n, Mono (compileNT fuel nt n) := by
  induction fuel with
  | zero => intro nt n; unfold C16.compileNT; exact Mono.outOfFuel
  | succ k ih =>
    intro nt n
    cases nt with
    | chunk => unfold C16.compileNT; exact Mono.chunkBody (ih .compound) (ih .chunk) n
    | compound => unfold C16.compileNT; exact Mono.compoundBody (ih .compound) (ih .chunk) n

theorem compileNT_mono (fuel : Nat) (nt : NT) (n : Node) (env : Env) (s s' : CSt)
    (h : compileNT fuel nt n env s = .ok () s') : s.errors <+: s'.errors :=
  (Mono.compileNT fuel nt n).prf env s () s' h

end C16
