/-
C16: every tree the C01 parser model builds has the `shape` the compiler
relies on — part 2: the grammar functions.
-/
import ElvProofs.C16.ParserShape1
import ElvProofs.C01.PrimaryCases
import ElvProofs.C16.SafeNodes
namespace C16P
open Go
open Gen.C01Chars
open C01

/-- the children of kind `K'` added so far (`Form.Args`+head, `Compound.Indexings`, …) -/
def co (K' : Kind) (nb : NB) : List Node := nb.children.filter (fun x => x.kind == K')

theorem co_nil {K' : Kind} {nb : NB} (h : nb.children = []) : co K' nb = [] := by
  unfold co; rw [h]; rfl

theorem co_add (K' : Kind) (nb : NB) (c : Node) :
    co K' (nb.add c) = co K' nb ++ (if c.kind = K' then [c] else []) := by
  unfold co NB.add
  simp only [List.filter_append, List.filter_cons, List.filter_nil, beq_iff_eq]

theorem co_add_same {K' : Kind} (nb : NB) {c : Node} (h : c.kind = K') : co K' (nb.add c) = co K' nb ++ [c] := by
  rw [co_add, if_pos h]

theorem co_add_other {K' : Kind} (nb : NB) {c : Node} (h : c.kind ≠ K') : co K' (nb.add c) = co K' nb := by
  rw [co_add, if_neg h, List.append_nil]

theorem GrowSep.co {nb nb' : NB} (h : GrowSep nb nb') (K' : Kind) (hK : K' ≠ .sep) : co K' nb' = co K' nb :=
  h.childrenOf .chunk K' hK

theorem shapeL_of : ∀ {cs : List Node}, (∀ c ∈ cs, C16.shape c = true) → C16.shapeL cs = true
  | [], _ => rfl
  | c :: cs, h => by
    simp only [C16.shapeL, Bool.and_eq_true]
    exact ⟨h c List.mem_cons_self, shapeL_of (fun x hx => h x (List.mem_cons_of_mem _ hx))⟩

theorem nestL_le : ∀ {cs : List Node} {g : Nat}, (∀ c ∈ cs, C16.nest c ≤ g) → C16.nestL cs ≤ g
  | [], _, _ => Nat.zero_le _
  | c :: cs, g, h => by
    simp only [C16.nestL]
    exact Nat.max_le.mpr ⟨h c List.mem_cons_self, nestL_le (fun x hx => h x (List.mem_cons_of_mem _ hx))⟩

theorem mem_drop_snoc {α : Type} {l : List α} {c x : α} (h : x ∈ (l ++ [c]).drop 1) : x ∈ l.drop 1 ∨ x = c := by
  cases l with
  | nil => simp at h
  | cons a t =>
    simp only [List.cons_append, List.drop_succ_cons, List.drop_zero, List.mem_append, List.mem_singleton] at h ⊢
    exact h

section
variable {e : Env} {rec : NT → M Node} {f g : Nat}

theorem allP_sep : ∀ nb nb', GrowSep nb nb' → AllP g nb → AllP g nb' := fun _ _ h ha => h.allP ha

theorem allP_add (hle : f ≤ g) : ∀ (nb : NB) (c : Node), AllP g nb → Pc f c → AllP g (nb.add c) :=
  fun _ _ h hc => h.add (hc.le hle)

theorem chunkBody_sh (hrec : RecSh f e rec) (hle : f ≤ g) (nb : NB) (s : St) (h : AllP g nb) :
    Ret (chunkBody rec nb e s) (fun nb' _ => AllP g nb') := by
  unfold chunkBody
  refine Ret_bind (parseSeps_sh nb e s) (fun q s1 hq => ?_)
  obtain ⟨k, nb1⟩ := q
  dsimp only
  rw [bind_of_eq (loopFuel_eq _ _)]
  exact chunkLoop_sh hrec allP_sep (allP_add hle) _ nb1 s1 (hq.allP h)

theorem pipelineBody_sh (hrec : RecSh f e rec) (hle : f ≤ g) (nb : NB) (s : St) (h : AllP g nb) :
    Ret (pipelineBody rec nb e s) (fun nb' _ => AllP g nb') := by
  unfold pipelineBody
  refine Ret_bind (rec_ret hrec .form s trivial) (fun fm s1 hp => ?_)
  rw [bind_of_eq (loopFuel_eq _ _)]
  refine Ret_bind (pipelineLoop_sh hrec allP_sep (allP_add hle) _ _ s1 (allP_add hle nb fm h hp.2.1))
    (fun q s2 h2 => ?_)
  obtain ⟨returned, nb2⟩ := q
  dsimp only at h2 ⊢
  split
  · exact Ret_pure h2
  · refine Ret_bind (parseSpaces_sh nb2 e s2) (fun nb3 s3 hq3 => ?_)
    have h3 := hq3.allP h2
    refine Ret_bindT (fun r s4 => ?_)
    split
    · refine Ret_bindT (fun _ s5 => ?_)
      refine Ret_bind (addSep_sh nb3 e s5) (fun nb4 s6 hq4 => ?_)
      have h4 : AllP g nb4 := hq4.allP h3
      exact (parseSpaces_sh _ e s6).mono (fun nb5 _ hq5 => hq5.allP (fun c hc => h4 c hc))
    · exact Ret_pure h3

theorem filterBody_sh (hrec : RecSh f e rec) (hle : f ≤ g) (nb : NB) (s : St) (h : AllP g nb) :
    Ret (filterBody rec nb e s) (fun nb' _ => AllP g nb') := by
  unfold filterBody
  refine Ret_bind (parseSpaces_sh nb e s) (fun nb1 s1 hq => ?_)
  rw [bind_of_eq (loopFuel_eq _ _)]
  exact filterLoop_sh hrec allP_sep (allP_add hle) _ nb1 s1 (hq.allP h)

theorem arrayBody_sh (hrec : RecSh f e rec) (hle : f ≤ g) (nb : NB) (s : St) (h : AllP g nb) :
    Ret (arrayBody rec nb e s) (fun nb' _ => AllP g nb') := by
  unfold arrayBody
  refine Ret_bind (parseSpacesAndNewlines_sh nb e s) (fun nb1 s1 hq => ?_)
  rw [bind_of_eq (loopFuel_eq _ _)]
  exact arrayLoop_sh hrec allP_sep (allP_add hle) _ nb1 s1 (hq.allP h)

def FormI (g : Nat) (nb : NB) : Prop :=
  AllP g nb ∧ ∃ hd tl, co .compound nb = hd :: tl ∧ ∀ c ∈ tl, C16.Compound.indexings c ≠ []

theorem formBody_sh (hrec : RecSh f e rec) (hle : f ≤ g) (nb : NB) (s : St) (hnil : nb.children = []) :
    Ret (formBody rec nb e s) (fun nb' _ => FormI g nb') := by
  have hsep : ∀ nb nb', GrowSep nb nb' → FormI g nb → FormI g nb' := by
    intro nb nb' hq ⟨ha, hd, tl, hco, htl⟩
    exact ⟨hq.allP ha, hd, tl, (by rw [hq.co .compound (by decide), hco]), htl⟩
  have hadd : ∀ nb c, FormI g nb → Pc f c → (c.kind = .compound → C16.Compound.indexings c ≠ []) →
      FormI g (nb.add c) := by
    intro nb c ⟨ha, hd, tl, hco, htl⟩ hc hne
    refine ⟨ha.add (hc.le hle), ?_⟩
    by_cases hk : c.kind = .compound
    · refine ⟨hd, tl ++ [c], (by rw [co_add_same nb hk, hco]; rfl), fun x hx => ?_⟩
      rcases List.mem_append.mp hx with hx | hx
      · exact htl x hx
      · rw [List.mem_singleton] at hx; subst hx; exact hne hk
    · exact ⟨hd, tl, (by rw [co_add_other nb hk, hco]), htl⟩
  unfold formBody
  refine Ret_bind (rec_ret hrec (.compound CmdExpr) s trivial) (fun head s1 hp => ?_)
  have h1 : FormI g (nb.add head) := by
    refine ⟨(AllP.nil hnil).add (hp.2.1.le hle), head, [], ?_, nofun⟩
    rw [co_add_same (K' := .compound) nb hp.1, co_nil hnil]; rfl
  refine Ret_bind (parseSpaces_sh _ e s1) (fun nb2 s2 hq => ?_)
  rw [bind_of_eq (loopFuel_eq _ _)]
  exact formLoop_sh hrec hsep hadd _ nb2 s2 (hsep _ _ hq h1)

theorem setMode_sh (nb : NB) (sign : Bytes) (s : St) :
    Ret (setMode nb sign e s) (fun nb' _ => nb'.children = nb.children ∧ nb'.f.hasLeft = nb.f.hasLeft) := by
  unfold setMode
  cases redirMode sign with
  | some m => exact Ret_pure ⟨rfl, rfl⟩
  | none =>
    show Ret ((error Msg.badRedirSign >>= fun _ => pure nb) e s) _
    exact Ret_bindT (fun _ _ => Ret_pure ⟨rfl, rfl⟩)

def RedirI (g : Nat) (left : Option Node) (nb : NB) : Prop :=
  AllP g nb ∧ co .compound nb = left.toList ∧ nb.f.hasLeft = left.isSome

theorem redirBody_sh (hrec : RecSh f e rec) (hle : f ≤ g) (left : Option Node) (nb : NB) (s : St)
    (hnil : nb.children = []) (hf : nb.f = (NT.redir left).init)
    (hl : ∀ l, left = some l → l.kind = .compound ∧ Pc g l) :
    Ret (redirBody rec left nb e s)
      (fun nb' _ => AllP g nb' ∧ ∃ r, co .compound nb' = left.toList ++ [r] ∧ nb'.f.hasLeft = left.isSome) := by
  have hsep : ∀ nb nb', GrowSep nb nb' → RedirI g left nb → RedirI g left nb' := by
    intro nb nb' hq ⟨ha, hco, hh⟩
    exact ⟨hq.allP ha, (by rw [hq.co .compound (by decide), hco]), (by rw [hq.f, hh])⟩
  have h0 : RedirI g left (attachLeft left nb) := by
    cases left with
    | none =>
      exact ⟨AllP.nil hnil, co_nil hnil, (by show nb.f.hasLeft = _; rw [hf]; rfl)⟩
    | some l =>
      obtain ⟨hlk, hlp⟩ := hl l rfl
      refine ⟨(AllP.nil hnil).add hlp, ?_, (by show nb.f.hasLeft = _; rw [hf]; rfl)⟩
      show co .compound (nb.add l) = [l]
      rw [co_add_same nb hlk, co_nil hnil]; rfl
  unfold redirBody redirRest
  generalize attachLeft left nb = nb1 at h0
  rw [bind_of_eq (getPos_eq _ _), bind_of_eq (loopFuel_eq _ _)]
  refine Ret_bindT (fun _ s2 => ?_)
  rw [bind_of_eq (getPos_eq _ _)]
  refine Ret_bindT (fun sign s3 => ?_)
  refine Ret_bind (setMode_sh nb1 sign s3) (fun nb2 s4 hm => ?_)
  have h2 : RedirI g left nb2 := by
    obtain ⟨ha, hco, hh⟩ := h0
    exact ⟨fun c hc => ha c (by rw [← hm.1]; exact hc), (by unfold co; rw [hm.1]; exact hco), (by rw [hm.2, hh])⟩
  refine Ret_bind (addSep_sh nb2 e s4) (fun nb3 s5 hq3 => ?_)
  refine Ret_bind (parseSpaces_sh nb3 e s5) (fun nb4 s6 hq4 => ?_)
  refine Ret_bind (parseSep_sh nb4 38 e s6) (fun q s7 hq5 => ?_)
  obtain ⟨isFd, nb5⟩ := q
  have h5 : RedirI g left nb5 := hsep _ _ hq5 (hsep _ _ hq4 (hsep _ _ hq3 h2))
  dsimp only
  generalize hnb6 : (if isFd = true then ({ nb5 with f := { nb5.f with flag := true } } : NB) else nb5) = nb6
  have h6 : RedirI g left nb6 := by
    subst hnb6; split
    · exact ⟨fun c hc => h5.1 c hc, h5.2.1, h5.2.2⟩
    · exact h5
  refine Ret_bind (rec_ret hrec (.compound NormalExpr) s7 trivial) (fun right s8 hp => ?_)
  have hfin : AllP g (nb6.add right) ∧ ∃ r, co .compound (nb6.add right) = left.toList ++ [r] ∧
      (nb6.add right).f.hasLeft = left.isSome :=
    ⟨h6.1.add (hp.2.1.le hle), right, (by rw [co_add_same (K' := .compound) nb6 hp.1, h6.2.1]), h6.2.2⟩
  split
  · exact Ret_bindT (fun _ _ => Ret_pure hfin)
  · exact Ret_pure hfin

theorem mapPairBody_sh (hrec : RecSh f e rec) (hle : f ≤ g) (nb : NB) (s : St) (ha : AllP g nb) :
    Ret (mapPairBody rec nb e s) (fun nb' _ => AllP g nb' ∧ co .compound nb' ≠ []) := by
  unfold mapPairBody
  refine Ret_bind (parseSep_sh nb 38 e s) (fun q s1 hq => ?_)
  obtain ⟨ok0, nb1⟩ := q
  dsimp only at hq ⊢
  have h1 : AllP g nb1 := hq.allP ha
  refine Ret_bind (rec_ret hrec (.compound LHSExpr) s1 trivial) (fun key s2 hp => ?_)
  have h2 : AllP g (nb1.add key) ∧ co .compound (nb1.add key) ≠ [] :=
    ⟨h1.add (hp.2.1.le hle), (by rw [co_add_same (K' := .compound) nb1 hp.1]; simp)⟩
  refine Ret_bindT (fun _ s3 => ?_)
  refine Ret_bind (parseSep_sh _ 61 e s3) (fun q s4 hq4 => ?_)
  obtain ⟨ok, nb4⟩ := q
  dsimp only at hq4 ⊢
  have h4 : AllP g nb4 ∧ co .compound nb4 ≠ [] := ⟨hq4.allP h2.1, (by rw [hq4.co .compound (by decide)]; exact h2.2)⟩
  split
  · refine Ret_bind (parseSpacesAndNewlines_sh nb4 e s4) (fun nb5 s5 hq5 => ?_)
    refine Ret_bind (rec_ret hrec (.compound NormalExpr) s5 trivial) (fun v s6 hv => ?_)
    refine Ret_pure ⟨(hq5.allP h4.1).add (hv.2.1.le hle), ?_⟩
    rw [co_add_same (K' := .compound) nb5 hv.1, hq5.co .compound (by decide)]
    intro hh
    exact h4.2 (List.append_eq_nil_iff.mp hh).1
  · exact Ret_pure h4

def CompI (g : Nat) (nb : NB) : Prop :=
  AllP g nb ∧ ∀ ix ∈ (co .indexing nb).drop 1, C16.properIndexing ix = true

theorem tildeIx_Pc (a b : Nat) (g : Nat) :
    Pc g (Node.mk .indexing a b [126] {} [Node.mk .primary a b [126] { ptype := Tilde, value := [126] } []]) := by
  constructor
  · simp [C16.shape, C16.shapeL, C16.nodeOk, Node.kind, C16.Indexing.head, Node.childrenOf, Node.children,
      Node.ptype, Node.fields, C16.Primary.chunk]
    decide
  · simp [C16.nest, C16.nestL]

theorem tilde_sh (nb : NB) (s : St) :
    Ret (tilde nb e s) (fun nb' s' => (nb' = nb ∧ s' = s) ∨
      ∃ ix, nb' = nb.add ix ∧ ix.kind = .indexing ∧ Pc 0 ix) := by
  unfold tilde
  refine Ret_bind (peek_ret e s) (fun r s1 hpk => ?_)
  obtain ⟨hs1, _⟩ := hpk
  subst hs1
  split
  · refine Ret_bindT (fun _ s2 => ?_)
    rw [bind_of_eq (getPos_eq _ _)]
    split
    · exact Ret_pure (Or.inr ⟨_, rfl, rfl, tildeIx_Pc _ _ 0⟩)
    · trivial
  · exact Ret_pure (Or.inl ⟨rfl, rfl⟩)

theorem compoundBody_sh (hrec : RecSh f e rec) (hle : f ≤ g) (nb : NB) (s : St) (hnil : nb.children = []) :
    Ret (compoundBody rec nb e s) (fun nb' _ => CompI g nb' ∧ (Starts e s nb.f.ctx → co .indexing nb' ≠ [])) := by
  have hadd : ∀ (nb : NB) (c : Node), CompI g nb → Pc f c → c.kind = Kind.indexing →
      C16.properIndexing c = true → CompI g (nb.add c) := by
    intro nb c ⟨ha, hpr⟩ hc hk hp
    refine ⟨ha.add (hc.le hle), fun ix hix => ?_⟩
    rw [co_add_same nb hk] at hix
    rcases mem_drop_snoc hix with h | h
    · exact hpr ix h
    · subst h; exact hp
  have hJ : ∀ (nb : NB) (c : Node), c.kind = Kind.indexing → co .indexing (nb.add c) ≠ [] := by
    intro nb c hk; rw [co_add_same nb hk]; simp
  unfold compoundBody
  refine Ret_bind (tilde_sh nb s) (fun nb1 s1 ht => ?_)
  rw [bind_of_eq (loopFuel_eq _ _)]
  rcases ht with ⟨hnb, hs⟩ | ⟨ix, hnb, hk, hp⟩
  · subst hnb; subst hs
    refine (compoundLoop_sh hrec _ hadd (fun nb => co .indexing nb ≠ []) hJ _ nb1 s1
      ⟨AllP.nil hnil, fun ix hix => (by rw [co_nil hnil] at hix; cases hix)⟩).mono ?_
    intro nb' _ h2
    exact ⟨h2.1, fun hst => h2.2 (Or.inl hst)⟩
  · subst hnb
    refine (compoundLoop_sh hrec _ hadd (fun nb => co .indexing nb ≠ []) hJ _ _ s1
      ⟨(AllP.nil hnil).add (hp.le (Nat.zero_le _)), fun ix' hix => ?_⟩).mono ?_
    · rw [co_add_same nb hk, co_nil hnil] at hix; cases hix
    · intro nb' _ h2
      exact ⟨h2.1, fun _ => h2.2 (Or.inr (hJ nb ix hk))⟩

def IxI (g : Nat) (nb : NB) : Prop :=
  AllP g nb ∧ ∃ hd, (co .primary nb).head? = some hd ∧ C16.goodPType hd.ptype = true ∧ hd.ptype ≠ Tilde

theorem head?_append_of_some {α : Type} {l m : List α} {a : α} (h : l.head? = some a) : (l ++ m).head? = some a := by
  cases l with
  | nil => cases h
  | cons x xs => exact h

theorem indexingBody_sh (hrec : RecSh f e rec) (hle : f ≤ g) (nb : NB) (s : St) (hnil : nb.children = [])
    (hst : Starts e s nb.f.ctx) : Ret (indexingBody rec nb e s) (fun nb' _ => IxI g nb') := by
  have hsep : ∀ nb nb', GrowSep nb nb' → IxI g nb → IxI g nb' := by
    intro nb nb' hq ⟨ha, hd, hh, hg, hn⟩
    exact ⟨hq.allP ha, hd, (by rw [hq.co .primary (by decide)]; exact hh), hg, hn⟩
  have hadd : ∀ nb c, IxI g nb → Pc f c → c.kind = .array → IxI g (nb.add c) := by
    intro nb c ⟨ha, hd, hh, hg, hn⟩ hc hk
    exact ⟨ha.add (hc.le hle), hd, (by rw [co_add_other nb (by rw [hk]; decide)]; exact hh), hg, hn⟩
  unfold indexingBody
  refine Ret_bind (rec_ret hrec (.primary nb.f.ctx) s hst) (fun head s1 hp => ?_)
  rw [bind_of_eq (loopFuel_eq _ _)]
  refine indexingLoop_sh hrec hsep hadd _ _ s1 ⟨(AllP.nil hnil).add (hp.2.1.le hle), head, ?_, ?_, hp.2.2⟩
  · rw [co_add_same (K' := .primary) nb hp.1, co_nil hnil]; rfl
  · exact ((C16.nodeOk_primary hp.1).mp (C16.shape_nodeOk hp.2.1.1)).1

def PrimFin (nb : NB) : Prop :=
  C16.goodPType nb.f.ptype = true ∧ nb.f.ptype ≠ Tilde ∧
    ((nb.f.ptype == ExceptionCapture || nb.f.ptype == OutputCapture || nb.f.ptype == Lambda) = true →
      co .chunk nb ≠ [])

theorem PrimFin.plain {nb : NB} {t : Int} (hpt : nb.f.ptype = t) (hg : C16.goodPType t = true) (hn : t ≠ Tilde)
    (hc : (t == ExceptionCapture || t == OutputCapture || t == Lambda) = false) : PrimFin nb := by
  refine ⟨by rw [hpt]; exact hg, by rw [hpt]; exact hn, fun h => ?_⟩
  rw [hpt, hc] at h; cases h

theorem PrimFin.withChunk {nb : NB} {t : Int} (hpt : nb.f.ptype = t) (hg : C16.goodPType t = true) (hn : t ≠ Tilde)
    (hc : co .chunk nb ≠ []) : PrimFin nb :=
  ⟨by rw [hpt]; exact hg, by rw [hpt]; exact hn, fun _ => hc⟩

def LeafSh (t : Int) (nb : NB) (nb' : NB) : Prop := nb'.children = nb.children ∧ nb'.f.ptype = t

syntax "leaf_tac" : tactic
macro_rules | `(tactic| leaf_tac) => `(tactic| repeat' (first
  | exact Ret_pure ⟨rfl, rfl⟩
  | refine Ret_bindT (fun _ _ => ?_)
  | refine Ret_ite (fun _ => ?_) (fun _ => ?_)
  | split))

theorem bareword_sh (nb : NB) (s : St) : Ret (bareword nb e s) (fun nb' _ => LeafSh Bareword nb nb') := by
  unfold bareword; leaf_tac
theorem singleQuoted_sh (nb : NB) (s : St) : Ret (singleQuoted nb e s) (fun nb' _ => LeafSh SingleQuoted nb nb') := by
  unfold singleQuoted; leaf_tac
theorem doubleQuoted_sh (nb : NB) (s : St) : Ret (doubleQuoted nb e s) (fun nb' _ => LeafSh DoubleQuoted nb nb') := by
  unfold doubleQuoted; leaf_tac
theorem variableP_sh (nb : NB) (s : St) : Ret (variableP nb e s) (fun nb' _ => LeafSh Variable nb nb') := by
  unfold variableP; leaf_tac
theorem starWildcard_sh (nb : NB) (s : St) : Ret (starWildcard nb e s) (fun nb' _ => LeafSh Wildcard nb nb') := by
  unfold starWildcard; leaf_tac
theorem questionWildcard_sh (nb : NB) (s : St) :
    Ret (questionWildcard nb e s) (fun nb' _ => LeafSh Wildcard nb nb') := by
  unfold questionWildcard; leaf_tac

theorem LeafSh.fin {t : Int} {nb nb' : NB} (h : LeafSh t nb nb') (ha : AllP g nb)
    (hg : C16.goodPType t = true) (hn : t ≠ Tilde)
    (hc : (t == ExceptionCapture || t == OutputCapture || t == Lambda) = false) : AllP g nb' ∧ PrimFin nb' :=
  ⟨fun c hc' => ha c (h.1 ▸ hc'), PrimFin.plain h.2 hg hn hc⟩

/-- the closing `)`/`}` and the error if it is missing -/
theorem close_sh (nb : NB) (sep : Int) (m : Msg) (s : St) {Q : NB → Prop}
    (hQ : ∀ nb', GrowSep nb nb' → Q nb') :
    Ret ((do
      let (ok, nb) ← parseSep nb sep
      if !ok then
        error m
        pure nb
      else pure nb : M NB) e s) (fun nb' _ => Q nb') := by
  refine Ret_bind (parseSep_sh nb sep e s) (fun q s1 hq => ?_)
  obtain ⟨ok, nb1⟩ := q
  dsimp only at hq ⊢
  split
  · exact Ret_bindT (fun _ _ => Ret_pure (hQ _ hq))
  · exact Ret_pure (hQ _ hq)

theorem PrimFin.chunkAdded {nb nb' : NB} {c : Node} {t : Int} (hq : GrowSep (nb.add c) nb') (hk : c.kind = .chunk)
    (hpt : nb.f.ptype = t) (hg : C16.goodPType t = true) (hn : t ≠ Tilde) : PrimFin nb' := by
  refine PrimFin.withChunk (by rw [hq.f]; exact hpt) hg hn ?_
  rw [hq.co .chunk (by decide), co_add_same nb hk]
  exact List.append_ne_nil_of_right_ne_nil _ (List.cons_ne_nil _ _)

theorem exitusCapture_sh (hrec : RecSh f e rec) (hle : f ≤ g) (nb : NB) (s : St) (ha : AllP g nb) :
    Ret (exitusCapture rec nb e s) (fun nb' _ => AllP g nb' ∧ PrimFin nb') := by
  unfold exitusCapture
  refine Ret_bindT (fun _ s1 => ?_)
  refine Ret_bindT (fun _ s2 => ?_)
  refine Ret_bind (addSep_sh nb e s2) (fun nb1 s3 hq => ?_)
  refine Ret_bind (rec_ret hrec .chunk s3 trivial) (fun c s4 hp => ?_)
  refine close_sh _ 41 _ s4 (fun nb' hq' => ?_)
  exact ⟨hq'.allP (AllP.add (fun x hx => hq.allP ha x hx) (hp.2.1.le hle)),
    PrimFin.chunkAdded (t := ExceptionCapture) hq' hp.1 rfl (by decide) (by decide)⟩

theorem outputCapture_sh (hrec : RecSh f e rec) (hle : f ≤ g) (nb : NB) (s : St) (ha : AllP g nb) :
    Ret (outputCapture rec nb e s) (fun nb' _ => AllP g nb' ∧ PrimFin nb') := by
  unfold outputCapture
  refine Ret_bind (parseSep_sh _ 40 e s) (fun q s1 hq => ?_)
  obtain ⟨ok0, nb1⟩ := q
  dsimp only at hq ⊢
  refine Ret_bind (rec_ret hrec .chunk s1 trivial) (fun c s2 hp => ?_)
  refine close_sh _ 41 _ s2 (fun nb' hq' => ?_)
  exact ⟨hq'.allP ((hq.allP (fun x hx => ha x hx)).add (hp.2.1.le hle)),
    PrimFin.chunkAdded (t := OutputCapture) hq' hp.1 (by rw [hq.f]; rfl) (by decide) (by decide)⟩

theorem lbracket_sh (hrec : RecSh f e rec) (hle : f ≤ g) (nb : NB) (s : St) (ha : AllP g nb) :
    Ret (lbracket rec nb e s) (fun nb' _ => AllP g nb' ∧ PrimFin nb') := by
  unfold lbracket
  refine Ret_bind (parseSep_sh nb 91 e s) (fun q s1 hq => ?_)
  obtain ⟨ok0, nb1⟩ := q
  dsimp only at hq ⊢
  refine Ret_bind (parseSpacesAndNewlines_sh nb1 e s1) (fun nb2 s2 hq2 => ?_)
  rw [bind_of_eq (loopFuel_eq _ _)]
  refine Ret_bind (lbracketLoop_sh (I := AllP g) hrec allP_sep (allP_add hle) (fun nb f' h c hc => h c hc)
    _ nb2 s2 (hq2.allP (hq.allP ha))) (fun nb3 s3 h3 => ?_)
  refine Ret_bind (parseSep_sh nb3 93 e s3) (fun q s4 hq4 => ?_)
  obtain ⟨ok, nb4⟩ := q
  dsimp only at hq4 ⊢
  have h4 : AllP g nb4 := hq4.allP h3
  refine Ret_bindT (fun _ s5 => ?_)
  split
  · refine Ret_bindT (fun _ s6 => Ret_pure ⟨fun c hc => h4 c hc, ?_⟩)
    exact PrimFin.plain (t := MapPrimary) rfl (by decide) (by decide) (by decide)
  · refine Ret_pure ⟨fun c hc => h4 c hc, ?_⟩
    exact PrimFin.plain (t := ListPrimary) rfl (by decide) (by decide) (by decide)

def LamI (g : Nat) (t : Int) (nb : NB) : Prop := AllP g nb ∧ nb.f.ptype = t

theorem LamI.sep {t : Int} : ∀ nb nb', GrowSep nb nb' → LamI g t nb → LamI g t nb' :=
  fun _ _ hq h => ⟨hq.allP h.1, by rw [hq.f]; exact h.2⟩

theorem LamI.add {t : Int} (hle : f ≤ g) : ∀ (nb : NB) (c : Node), LamI g t nb → Pc f c → LamI g t (nb.add c) :=
  fun _ _ h hc => ⟨h.1.add (hc.le hle), h.2⟩

/-- `lambda` is entered with the `{` already added by `lbrace` -/
theorem lambda_allP (hrec : RecSh f e rec) (hle : f ≤ g) (nb : NB) (s : St) (ha : AllP g nb) :
    Ret (C01.lambda rec nb e s) (fun nb' _ => AllP g nb' ∧ PrimFin nb') := by
  unfold C01.lambda
  have h0 : LamI g Lambda (nb.setType Lambda) := ⟨fun c hc => ha c hc, rfl⟩
  refine Ret_bind (parseSpacesAndNewlines_sh _ e s) (fun nb1 s1 hq1 => ?_)
  have h1 := LamI.sep _ _ hq1 h0
  refine Ret_bind (parseSep_sh nb1 124 e s1) (fun q s2 hq2 => ?_)
  obtain ⟨ok, nb2⟩ := q
  dsimp only at hq2 ⊢
  have h2 := LamI.sep _ _ hq2 h1
  refine Ret_bind (P := fun nb3 _ => LamI g Lambda nb3) ?_ (fun nb3 s3 h3 => ?_)
  · split
    · refine Ret_bind (parseSpacesAndNewlines_sh nb2 e s2) (fun nb3 s3 hq3 => ?_)
      rw [bind_of_eq (loopFuel_eq _ _)]
      refine Ret_bind (lambdaLoop_sh hrec LamI.sep (LamI.add hle) _ nb3 s3 (LamI.sep _ _ hq3 h2))
        (fun nb4 s4 h4 => ?_)
      refine Ret_bind (parseSep_sh nb4 124 e s4) (fun q s5 hq5 => ?_)
      obtain ⟨ok2, nb5⟩ := q
      dsimp only at hq5 ⊢
      exact Ret_bindT (fun _ _ => Ret_pure (LamI.sep _ _ hq5 h4))
    · exact Ret_pure h2
  refine Ret_bind (rec_ret hrec .chunk s3 trivial) (fun c s4 hp => ?_)
  refine close_sh _ 125 _ s4 (fun nb' hq' => ?_)
  exact ⟨hq'.allP (h3.1.add (hp.2.1.le hle)), PrimFin.chunkAdded hq' hp.1 h3.2 (by decide) (by decide)⟩

theorem lambda_sh (hrec : RecSh f e rec) (hle : f ≤ g) (nb : NB) (s : St) (hnil : nb.children = []) :
    Ret (C01.lambda rec nb e s) (fun nb' _ => AllP g nb' ∧ PrimFin nb') :=
  lambda_allP hrec hle nb s (AllP.nil hnil)

theorem lbrace_sh (hrec : RecSh f e rec) (hle : f ≤ g) (nb : NB) (s : St) (ha : AllP g nb) :
    Ret (lbrace rec nb e s) (fun nb' _ => AllP g nb' ∧ PrimFin nb') := by
  unfold lbrace
  refine Ret_bind (parseSep_sh nb 123 e s) (fun q s1 hq => ?_)
  obtain ⟨ok0, nb1⟩ := q
  dsimp only at hq ⊢
  have h1 : AllP g nb1 := hq.allP ha
  refine Ret_bindT (fun r s2 => ?_)
  split
  · exact lambda_allP hrec hle nb1 s2 h1
  · have h0 : LamI g Braced (nb1.setType Braced) := ⟨fun c hc => h1 c hc, rfl⟩
    refine Ret_bind (rec_ret hrec (.compound BracedElemExpr) s2 trivial) (fun c s3 hp => ?_)
    rw [bind_of_eq (loopFuel_eq _ _)]
    refine Ret_bind (bracedLoop_sh hrec LamI.sep (LamI.add hle) _ _ s3 (LamI.add hle _ c h0 hp.2.1))
      (fun nb3 s4 h3 => ?_)
    refine close_sh _ 125 _ s4 (fun nb' hq' => ?_)
    exact ⟨hq'.allP h3.1, PrimFin.plain (t := Braced) (by rw [hq'.f]; exact h3.2) (by decide) (by decide)
      (by decide)⟩

theorem primaryBody_sh (hrec : RecSh f e rec) (hle : f ≤ g) (nb : NB) (s : St) (ha : AllP g nb)
    (hst : Starts e s nb.f.ctx) : Ret (primaryBody rec nb e s) (fun nb' _ => AllP g nb' ∧ PrimFin nb') := by
  have leaf : ∀ {t : Int} {o : Out NB}, Ret o (fun nb' _ => LeafSh t nb nb') → C16.goodPType t = true →
      t ≠ Tilde → (t == ExceptionCapture || t == OutputCapture || t == Lambda) = false →
      Ret o (fun nb' _ => AllP g nb' ∧ PrimFin nb') :=
    fun h hg hn hc => h.mono (fun _ _ h => h.fin ha hg hn hc)
  rcases peek_ok_or_panic e s with ⟨r, hpk⟩ | ⟨w, hpk⟩
  · refine primaryBody_cases (motive := fun o => Ret o (fun nb' _ => AllP g nb' ∧ PrimFin nb')) hpk
      (notPrimary := fun hno => absurd (hst r hpk) (by rw [hno]; decide))
      (bare := fun _ => leaf (bareword_sh nb s) (by decide) (by decide) (by decide))
      (single := fun _ => leaf (singleQuoted_sh nb s) (by decide) (by decide) (by decide))
      (double := fun _ => leaf (doubleQuoted_sh nb s) (by decide) (by decide) (by decide))
      (dollar := fun _ => leaf (variableP_sh nb s) (by decide) (by decide) (by decide))
      (star := fun _ => leaf (starWildcard_sh nb s) (by decide) (by decide) (by decide))
      (question := fun _ => Ret_bindT (fun cap s2 => ?_))
      (paren := fun _ => outputCapture_sh hrec hle nb s ha)
      (bracket := fun _ => lbracket_sh hrec hle nb s ha)
      (brace := fun _ => lbrace_sh hrec hle nb s ha)
    split
    · exact exitusCapture_sh hrec hle nb s2 ha
    · exact leaf (questionWildcard_sh nb s2) (by decide) (by decide) (by decide)
  · unfold primaryBody
    rw [bind_of_eq (getEnv_eq e s), bind_apply, hpk]
    trivial

end
end C16P
