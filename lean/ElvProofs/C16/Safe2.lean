/-
C16: `Safe` for the special forms, forms, pipelines, chunks, `compileNT`,
`compileCore` and `compile` (continuation of `Safe.lean`).
-/
import ElvProofs.C16.Safe
namespace C16
open Go
open Gen.C01Chars

/-! `del`: the index `resolveVarRef` returns for a local variable is inside the current scope. -/

theorem markDeleted_some : ∀ (sc : StaticNs) (i : Nat), i < sc.length → ∃ sc', sc.markDeleted i = some sc'
  | [], _, h => by cases h
  | x :: xs, 0, _ => ⟨_, rfl⟩
  | x :: xs, i + 1, h => by
    obtain ⟨sc', hsc'⟩ := markDeleted_some xs i (by simpa using h)
    exact ⟨x :: sc', by simp only [StaticNs.markDeleted, hsc', Option.map_some]⟩

theorem FromArg.good {k : Nat} {fn l : Node} {o : Option Node} (h : FromArg fn o) (ho : o = some l)
    (hfn : D k fn) : D k l ∧ l.kind = .primary ∧ l.ptype = Lambda := by
  obtain ⟨x, hx, hl⟩ := h l ho
  exact lambdaOf_D (hfn.arg hx).1 hl

theorem Lambda_ne_Tilde {t : Int} (h : t = Lambda) : t ≠ Tilde := by
  subst h; decide

theorem Redir.left_mem {n l : Node} (h : Redir.left n = some l) : l ∈ compounds n := by
  unfold Redir.left at h
  split at h
  · exact List.mem_of_head? h
  · cases h

theorem Redir.right_mem {n r : Node} (h : Redir.right n = some r) : r ∈ compounds n := by
  unfold Redir.right at h
  split at h
  · exact List.mem_of_mem_drop (List.mem_of_head? h)
  · exact List.mem_of_head? h

section Open
variable {compoundOp : Node → M Unit} {chunkOp : Node → M Unit} {k : Nat}
variable (hc : ∀ n, D k n → n.kind = .compound → Safe (compoundOp n) T)
variable (hk : ∀ n, D k n → n.kind = .chunk → Safe (chunkOp n) T)
include hc

theorem Safe.compileDel (fn : Node) (hfn : D k fn) : Safe (compileDel compoundOp fn) T := by
  unfold C16.compileDel
  refine Safe.forEach _ _ (fun cn hcn => ?_)
  have hcnD := hfn.arg hcn
  refine Safe.bindT Safe.getEnv (fun env => ?_)
  split
  · next ix heq =>
    have hixD := hcnD.1.of (K := .indexing) (x := ix) (by
      show ix ∈ Compound.indexings cn
      rw [heq]; exact List.mem_cons_self)
    obtain ⟨hd, hhd, _⟩ := (nodeOk_indexing hixD.2).mp (shape_nodeOk hixD.1.1)
    refine Safe.bind (Safe.deref _ _ (by rw [hhd]; rfl)) (fun head _ => ?_)
    refine Safe.ite (Safe.errAt _ (by decide) _) (Safe.ite (Safe.errAt _ (by decide) _) ⟨fun e s hi => ?_⟩)
    -- the state does not change up to `setThisScope`, so what `resolveVarRef` found there still holds at `thisScope`
    obtain ⟨sc, rest, hs⟩ := hi.top
    obtain ⟨r, hr, hlt⟩ := resolveVarRef_cons e hs head.value
    have here : ∀ {m : M Unit}, Safe m T → Tot (m e s) (fun a s' => Keep s s' ∧ T a) := fun h => h.prf e s hi
    refine Tot.bind_eq hr ?_
    cases r with
    | none => exact here (Safe.errAt _ (by decide) _)
    | some r =>
      dsimp only
      by_cases h1 : (Indexing.indices ix).isEmpty = true
      · rw [if_pos h1]
        by_cases h2 : (r.scope == Scope.env) = true
        · rw [if_pos h2]; exact here (Safe.pure _ trivial)
        rw [if_neg h2]
        by_cases hloc : (r.scope == Scope.local && !r.hasSub) = true
        · rw [if_pos hloc]
          simp only [Bool.and_eq_true, beq_iff_eq] at hloc
          obtain ⟨sc', hsc'⟩ := markDeleted_some sc r.index (hlt r rfl hloc.1)
          refine Tot.bind_eq (thisScope_cons e hs) ?_
          simp only [hsc']
          exact here (Safe.setThisScope sc')
        · rw [if_neg hloc]; exact here (Safe.errAt _ (by decide) _)
      · rw [if_neg h1]; exact here (Safe.arrayOps hc _ (fun a ha => (hixD.1.of ha).1))
  · safe

include hk

theorem Safe.primaryOpNN (fn : Node) (hfn : D k fn) (o : Option Node) (w : String) (hs : o.isSome = true)
    (hfa : FromArg fn o) : Safe (primaryOpNN compoundOp chunkOp o w) T := by
  unfold C16.primaryOpNN
  refine Safe.bind (Safe.deref _ _ hs) (fun p hp => ?_)
  obtain ⟨h1, h2, h3⟩ := hfa.good hp hfn
  exact Safe.primaryOp hc hk p h1 h2 (Lambda_ne_Tilde h3)

theorem Safe.optPrimaryOp (fn : Node) (hfn : D k fn) (o : Option Node) (hfa : FromArg fn o) :
    Safe (optPrimaryOp compoundOp chunkOp o) T := by
  unfold C16.optPrimaryOp
  split
  · next p =>
    obtain ⟨h1, h2, h3⟩ := hfa.good rfl hfn
    exact Safe.primaryOp hc hk p h1 h2 (Lambda_ne_Tilde h3)
  · exact Safe.pure _ trivial

theorem Safe.compileWith (fn : Node) (hfn : D k fn) : Safe (compileWith compoundOp chunkOp fn) T := by
  unfold C16.compileWith
  dsimp only
  split
  · safe
  · next hlen =>
    have hlen' : 2 ≤ (Form.args fn).length := by omega
    cases hgl : (Form.args fn).getLast? with
    | none =>
      have := List.getLast?_eq_none_iff.mp hgl
      rw [this] at hlen'; simp at hlen'
    | some lastArg =>
      dsimp only
      have hlastD := hfn.arg (List.mem_of_getLast? hgl)
      split
      · safe
      · next body hbody =>
        obtain ⟨hb1, hb2, hb3⟩ := lambdaOf_D hlastD.1 hbody
        have hne : (Form.args fn).dropLast ≠ [] := by
          intro h
          have := congrArg List.length h
          simp only [List.length_dropLast, List.length_nil] at this
          omega
        have hsub : ∀ x ∈ (Form.args fn).dropLast, D k x ∧ x.kind = .compound := fun x hx =>
          hfn.arg (List.mem_of_mem_take (by rw [← List.dropLast_eq_take]; exact hx))
        cases hfirst : (Form.args fn).dropLast.head? with
        | none => exact absurd (List.head?_eq_none_iff.mp hfirst) hne
        | some first =>
          cases hlast : (Form.args fn).dropLast.getLast? with
          | none => exact absurd (List.getLast?_eq_none_iff.mp hlast) hne
          | some lastAssign =>
            dsimp only
            have hfirstD := hsub first (List.mem_of_head? hfirst)
            split
            · safe
            · next fp hfp =>
              refine Safe.bindT ?_ (fun _ => Safe.primaryOp hc hk body hb1 hb2 (Lambda_ne_Tilde hb3))
              split
              · refine Safe.forEach _ _ (fun a ha => ?_)
                split
                · safe
                · next p hp =>
                  have hpD := primaryOf_D (hsub a ha).1 hp
                  split
                  · safe
                  · exact Safe.compileLHSRHS hc _ _ _ (fun x hx => hpD.1.of (elements_sub hx))
              · exact Safe.compileLHSRHS hc _ _ _ hsub

theorem Safe.compileFn (fn : Node) (hfn : D k fn) : Safe (compileFn compoundOp chunkOp fn) T := by
  unfold C16.compileFn
  refine Safe.bind₂ (Safe.AG_get (AG.Knows.triv _) 0) (fun ag1 a0 ⟨k1, _⟩ => ?_)
  refine Safe.bind₂ (Safe.AG_stringLit k1 a0) (fun ag2 name k2 => ?_)
  refine Safe.bind₂ (Safe.AG_get k2 1) (fun ag3 a1 ⟨k3, e3⟩ => ?_)
  refine Safe.bind₂ (Safe.AG_lambda k3 a1) (fun ag4 body hb => ?_)
  refine Safe.bind (Safe.AG_finish hb.1) (fun ok hok => ?_)
  split
  · exact Safe.pure _ trivial
  · next hnot =>
    obtain ⟨⟨-, h1⟩, hl⟩ := hok (by simpa using hnot)
    refine Safe.bindT (Safe.addName _) (fun _ => ?_)
    refine Safe.bind (Safe.deref body _ (hl h1)) (fun b hbody => ?_)
    obtain ⟨h1, h2, h3⟩ := (hb.fromArg e3).good hbody hfn
    exact Safe.lambda hc hk b h1 h2 h3

theorem Safe.compileIf (fn : Node) (hfn : D k fn) : Safe (compileIf compoundOp chunkOp fn) T := by
  unfold C16.compileIf
  refine Safe.bind (Safe.ifLoop (fn := fn) _ _ 0 [] [] ⟨rfl, fun _ => ⟨nofun, nofun⟩⟩
    (Nat.zero_le _) (by omega) nofun nofun) (fun r h => ?_)
  obtain ⟨ag1, i, conds, bodies⟩ := r
  obtain ⟨k1, hcs, hbs⟩ := h
  refine Safe.bind₂ (Safe.AG_optionalKeywordBody k1 i sElse) (fun ag2 elseBody ⟨k2, hfe⟩ => ?_)
  refine Safe.bind (Safe.AG_finish k2) (fun ok hok => ?_)
  split
  · exact Safe.pure _ trivial
  · next hnot =>
    obtain ⟨hcsome, hbsome⟩ := hok (by simpa using hnot)
    refine Safe.bindT (Safe.forEach _ _ (fun c hcm => ?_)) (fun _ => ?_)
    · refine Safe.bind (Safe.deref c _ (hcsome c hcm)) (fun c' hc' => ?_)
      have := hfn.arg (hcs c hcm c' hc')
      exact hc c' this.1 this.2
    refine Safe.bindT (Safe.forEach _ _ (fun b hbm => ?_)) (fun _ => ?_)
    · exact Safe.primaryOpNN hc hk fn hfn b _ (hbsome b hbm) (hbs b hbm)
    · exact Safe.optPrimaryOp hc hk fn hfn elseBody hfe

theorem Safe.compileWhile (fn : Node) (hfn : D k fn) : Safe (compileWhile compoundOp chunkOp fn) T := by
  unfold C16.compileWhile
  refine Safe.bind₂ (Safe.AG_get (AG.Knows.triv _) 0) (fun ag1 cond ⟨k1, e1⟩ => ?_)
  refine Safe.bind₂ (Safe.AG_get k1 1) (fun ag2 b0 ⟨k2, e2⟩ => ?_)
  refine Safe.bind₂ (Safe.AG_thunk k2 b0) (fun ag3 body hb => ?_)
  refine Safe.bind₂ (Safe.AG_optionalKeywordBody hb.1 2 sElse) (fun ag4 elseBody ⟨k4, hfe⟩ => ?_)
  refine Safe.bind (Safe.AG_finish k4) (fun ok hok => ?_)
  split
  · exact Safe.pure _ trivial
  · next hnot =>
    obtain ⟨⟨⟨-, hcond⟩, hb0⟩, hl⟩ := hok (by simpa using hnot)
    refine Safe.bind (Safe.deref cond _ hcond) (fun c hcd => ?_)
    have hcD := hfn.arg (List.mem_of_getElem? (e1 ▸ hcd))
    refine Safe.bindT (hc c hcD.1 hcD.2) (fun _ => ?_)
    refine Safe.bindT (Safe.primaryOpNN hc hk fn hfn body _ (hl hb0) (hb.fromArg e2)) (fun _ => ?_)
    exact Safe.optPrimaryOp hc hk fn hfn elseBody hfe

theorem Safe.compileFor (fn : Node) (hfn : D k fn) (hkind : fn.kind = .form) :
    Safe (compileFor compoundOp chunkOp fn) T := by
  have hform := (nodeOk_form hkind).mp (shape_nodeOk hfn.1)
  unfold C16.compileFor
  refine Safe.bind₂ (Safe.AG_get (AG.Knows.triv _) 0) (fun ag1 varNode ⟨k1, e1⟩ => ?_)
  refine Safe.bind₂ (Safe.AG_get k1 1) (fun ag2 iterNode ⟨k2, e2⟩ => ?_)
  refine Safe.bind₂ (Safe.AG_get k2 2) (fun ag3 b0 ⟨k3, e3⟩ => ?_)
  refine Safe.bind₂ (Safe.AG_thunk k3 b0) (fun ag4 body hb => ?_)
  refine Safe.bind₂ (Safe.AG_optionalKeywordBody hb.1 3 sElse) (fun ag5 elseBody ⟨k5, hfe⟩ => ?_)
  refine Safe.bind (Safe.AG_finish k5) (fun ok hok => ?_)
  split
  · exact Safe.pure _ trivial
  · next hnot =>
    obtain ⟨⟨⟨⟨-, hvar⟩, hiter⟩, hb0⟩, hl⟩ := hok (by simpa using hnot)
    refine Safe.bind (Safe.deref varNode _ hvar) (fun v hv => ?_)
    have hvm : v ∈ Form.args fn := List.mem_of_getElem? (e1 ▸ hv)
    refine Safe.bindT (Safe.compileOneLValue hc v _ (hfn.arg hvm).1 (hform.2 v hvm)) (fun _ => ?_)
    refine Safe.bind (Safe.deref iterNode _ hiter) (fun it hit => ?_)
    have hitD := hfn.arg (List.mem_of_getElem? (e2 ▸ hit))
    refine Safe.bindT (hc it hitD.1 hitD.2) (fun _ => ?_)
    refine Safe.bindT (Safe.primaryOpNN hc hk fn hfn body _ (hl hb0) (hb.fromArg e3)) (fun _ => ?_)
    exact Safe.optPrimaryOp hc hk fn hfn elseBody hfe

def CatchPost (fn : Node) (A : Prop) (r : AG × Nat × Option Node × Option Node) : Prop :=
  AG.Knows fn r.1 A ∧ (∀ v, r.2.2.1 = some v → v ∈ Form.args fn ∧ Compound.indexings v ≠ []) ∧ FromArg fn r.2.2.2

theorem Safe.compileTry (fn : Node) (hfn : D k fn) : Safe (compileTry compoundOp chunkOp fn) T := by
  unfold C16.compileTry
  refine Safe.bind₂ (Safe.AG_get (AG.Knows.triv _) 0) (fun ag1 b0 ⟨k1, e1⟩ => ?_)
  refine Safe.bind₂ (Safe.AG_thunk k1 b0) (fun ag2 body hb => ?_)
  have hbody : (True ∧ b0.isSome = true) ∧ (b0.isSome = true → body.isSome = true) → body.isSome = true :=
    fun h => h.2 h.1.2
  refine Safe.bind (P := CatchPost fn (body.isSome = true)) ?_ (fun r h => ?_)
  · split
    · refine Safe.bind₂ (Safe.AG_get hb.1 2) (fun ag3 n ⟨k3, e3⟩ => ?_)
      refine Safe.bind₂ (Safe.AG_get k3 _) (fun ag4 c0 ⟨k4, e4⟩ => ?_)
      refine Safe.bind₂ (Safe.AG_thunk k4 c0) (fun ag5 c hcl => ?_)
      refine Safe.pure _ ⟨hcl.1.mono fun h => hbody h.1.1.1, fun v hv => ?_, hcl.fromArg e4⟩
      cases n with
      | none => simp at hv
      | some nn =>
        dsimp only at hv
        split at hv
        · next hlit =>
          cases hv
          cases hsl : stringLiteral v with
          | none => rw [hsl] at hlit; cases hlit
          | some s => exact ⟨List.mem_of_getElem? e3.symm, stringLiteral_indexings hsl⟩
        · cases hv
    · exact Safe.pure _ ⟨hb.1.mono hbody, nofun, nofun⟩
  obtain ⟨ag3, i, catchVar, catchNode⟩ := r
  obtain ⟨k3, hcv, hfc⟩ := h
  refine Safe.bind₂ (Safe.AG_optionalKeywordBody k3 i sElse) (fun ag4 elseNode ⟨k4, hfe⟩ => ?_)
  refine Safe.bind₂ (Safe.AG_optionalKeywordBody k4 _ sFinally) (fun ag5 finallyNode ⟨k5, hff⟩ => ?_)
  refine Safe.bind (Safe.AG_finish k5) (fun ok hok => ?_)
  split
  · exact Safe.pure _ trivial
  · next hnot =>
    refine Safe.bindT (by safe) (fun _ => ?_)
    refine Safe.bindT (Safe.primaryOpNN hc hk fn hfn body _ (hok (by simpa using hnot)) (hb.fromArg e1))
      (fun _ => ?_)
    refine Safe.bindT ?_ (fun _ => ?_)
    · split
      · next v =>
        obtain ⟨hvm, hvne⟩ := hcv v rfl
        exact Safe.compileOneLValue hc v _ (hfn.arg hvm).1 hvne
      · exact Safe.pure _ trivial
    refine Safe.bindT (Safe.optPrimaryOp hc hk fn hfn catchNode hfc) (fun _ => ?_)
    refine Safe.bindT (Safe.optPrimaryOp hc hk fn hfn elseNode hfe) (fun _ => ?_)
    exact Safe.optPrimaryOp hc hk fn hfn finallyNode hff

theorem Safe.compileSpecial (sp : Special) (fn : Node) (hfn : D k fn) (hkind : fn.kind = .form) :
    Safe (compileSpecial compoundOp chunkOp sp fn) T := by
  unfold C16.compileSpecial
  cases sp
  · exact Safe.compileVar hc fn hfn
  · exact Safe.compileSet hc fn hfn
  · exact Safe.compileTmp hc fn hfn
  · exact Safe.compileWith hc hk fn hfn
  · exact Safe.compileDel hc fn hfn
  · exact Safe.compileFn hc hk fn hfn
  · exact Safe.compileUse fn
  · exact Safe.compoundOps hc _ (fun x hx => hfn.arg hx)
  · exact Safe.compoundOps hc _ (fun x hx => hfn.arg hx)
  · exact Safe.compoundOps hc _ (fun x hx => hfn.arg hx)
  · exact Safe.compileIf hc hk fn hfn
  · exact Safe.compileWhile hc hk fn hfn
  · exact Safe.compileFor hc hk fn hfn hkind
  · exact Safe.compileTry hc hk fn hfn
  · exact Safe.compilePragma fn

omit hk in
theorem Safe.redirOp (n : Node) (hn : D k n) (hkind : n.kind = .redir) : Safe (redirOp compoundOp n) T := by
  unfold C16.redirOp
  refine Safe.bindT ?_ (fun _ => ?_)
  · split
    · next l hl =>
      have := hn.of (K := .compound) (Redir.left_mem hl)
      exact hc l this.1 this.2
    · exact Safe.pure _ trivial
  refine Safe.bindT (by safe) (fun _ => ?_)
  refine Safe.bind (Safe.deref _ _ ((nodeOk_redir hkind).mp (shape_nodeOk hn.1))) (fun r hr => ?_)
  have := hn.of (K := .compound) (Redir.right_mem hr)
  exact hc r this.1 this.2

theorem Safe.formBody (n : Node) (hn : D k n) (hkind : n.kind = .form) :
    Safe (formBody compoundOp chunkOp n) T := by
  have hform := (nodeOk_form hkind).mp (shape_nodeOk hn.1)
  have hargs := Safe.compoundOps hc (Form.args n) (fun x hx => hn.arg hx)
  have hopts := Safe.mapPairs hc (Form.opts n) (fun p hp => hn.of hp)
  unfold C16.formBody
  refine Safe.bind (Safe.deref _ _ hform.1) (fun head hhead => ?_)
  have hheadD := hn.of (K := .compound) (List.mem_of_head? hhead)
  split
  · next h _ =>
    split
    · next sp _ => exact Safe.compileSpecial hc hk sp n hn hkind
    · refine Safe.bindT (Safe.resolveCmdHead h) (fun ref => ?_)
      refine Safe.bindT (by safe) (fun _ => ?_)
      exact Safe.bindT hargs (fun _ => hopts)
  · exact Safe.bindT (hc head hheadD.1 hheadD.2) (fun _ => Safe.bindT hargs (fun _ => hopts))

theorem Safe.formOp (n : Node) (hn : D k n) (hkind : n.kind = .form) : Safe (formOp compoundOp chunkOp n) T := by
  unfold C16.formOp
  refine Safe.bindT (Safe.forEach _ _ (fun r hr => ?_)) (fun _ => Safe.formBody hc hk n hn hkind)
  have := hn.of hr
  exact Safe.redirOp hc r this.1 this.2

theorem Safe.pipelineOp (n : Node) (hn : D k n) : Safe (pipelineOp compoundOp chunkOp n) T := by
  unfold C16.pipelineOp
  refine Safe.forEach _ _ (fun f hf => ?_)
  have := hn.of hf
  exact Safe.formOp hc hk f this.1 this.2

theorem Safe.chunkBody (n : Node) (hch : ∀ c ∈ n.children, D k c) : Safe (chunkBody compoundOp chunkOp n) T := by
  unfold C16.chunkBody
  refine Safe.forEach _ _ (fun p hp => ?_)
  exact Safe.pipelineOp hc hk p (childrenOf_D hch hp).1

end Open

def ntKind : NT → C01.Kind
  | .chunk => .chunk
  | .compound => .compound

theorem D.children_lt {k : Nat} {n : Node} (h : D (k + 1) n) (hkind : n.kind = .chunk ∨ n.kind = .compound) :
    ∀ c ∈ n.children, D k c := by
  intro c hc
  refine ⟨shapeL_mem (shape_children h.1) hc, ?_⟩
  have h1 := nestL_mem hc
  have h2 := nest_children_lt n hkind
  have h3 := h.2
  omega

theorem Safe.compileNT : ∀ (k : Nat) (nt : NT) (n : Node), D k n → n.kind = ntKind nt → Safe (compileNT k nt n) T
  | 0, nt, n, hd, hkind => by
    -- a `Chunk` or `Compound` nests at least 1 deep, so none satisfies `D 0`
    have := nest_children_lt n (by cases nt <;> simp only [ntKind] at hkind <;> simp [hkind])
    have := hd.2
    omega
  | k + 1, .chunk, n, hd, hkind => by
    unfold C16.compileNT
    exact Safe.chunkBody (fun m hm hmk => Safe.compileNT k .compound m hm hmk)
      (fun m hm hmk => Safe.compileNT k .chunk m hm hmk) n (hd.children_lt (Or.inl hkind))
  | k + 1, .compound, n, hd, hkind => by
    unfold C16.compileNT
    exact Safe.compoundBody (fun m hm hmk => Safe.compileNT k .compound m hm hmk)
      (fun m hm hmk => Safe.compileNT k .chunk m hm hmk) n (shape_nodeOk hd.1) hkind
      (hd.children_lt (Or.inr hkind))

theorem compileCore_ok (env : Env) (fuel : Nat) (g : StaticNs) (tree : Node)
    (hs : shape tree = true) (hkind : tree.kind = .chunk) (hf : nest tree ≤ fuel) :
    ∃ s', compileCore env fuel g tree = .ok () s' ∧ s'.scopes.length = 1 ∧ Clean s'.errors := by
  obtain ⟨a, s', h1, hk, _⟩ := (Safe.compileNT fuel .chunk tree ⟨hs, hf⟩ hkind).prf env
    { scopes := [g], pragmas := [true], errors := [], fixes := [] } ⟨by simp, by simp⟩
  exact ⟨s', h1, hk.sc, hk.cl Clean.nil⟩

theorem compile_ok (env : Env) (fuel : Nat) (g : StaticNs) (modules : List Bytes) (tree : Node)
    (hs : shape tree = true) (hkind : tree.kind = .chunk) (hf : nest tree ≤ fuel) :
    ∃ c, compile env fuel g modules tree = .ok c ∧ Clean c.errors := by
  obtain ⟨s', h1, hlen, hcl⟩ := compileCore_ok env fuel g tree hs hkind hf
  unfold compile
  rw [h1]
  dsimp only
  match hsc : s'.scopes, hlen with
  | [t], _ => exact ⟨_, rfl, hcl⟩

end C16
