/- C29: what it means for a cursor implementation to simulate an index into a view, and basic facts about views. -/
import ElvModel.C29.Spec
namespace C29
open Go C24 C29.Spec

/-- `ops` on states related by `R` to an index into `V` behave like the index:
`Prev ↦ min (i+1) |V|`, `Next ↦ max (i-1) (-1)`, `Get` = `V[i]` or end of history. -/
structure Sim {σ : Type} (ops : CursorOps σ) (V : List Cmd) (R : σ → Int → Prop) : Prop where
  range : ∀ s k, R s k → -1 ≤ k ∧ k ≤ V.length
  prev : ∀ s k, R s k → ∃ s', ops.prev s = .ok s' ∧ R s' (walkPrev V k)
  next : ∀ s k, R s k → ∃ s', ops.next s = .ok s' ∧ R s' (walkNext k)
  get : ∀ s k, R s k → ops.get s = walkGet V k

theorem walkGet_of_lt (V : List Cmd) {k : Int} (h0 : 0 ≤ k) (h : k < V.length) :
    walkGet V k = .ok (V[k.toNat]'(by omega)) := by
  simp [walkGet, h0, List.getElem?_eq_getElem (show k.toNat < V.length by omega)]

theorem walkGet_of_not (V : List Cmd) {k : Int} (h : k < 0 ∨ V.length ≤ k) :
    walkGet V k = .exc errEndOfHistory := by
  unfold walkGet
  split
  · rw [List.getElem?_eq_none (by omega)]
  · rfl

theorem walkGet_not_panic (V : List Cmd) (k : Int) : ∀ w, walkGet V k ≠ .panic w := by
  intro w
  unfold walkGet
  split
  · split <;> simp
  · simp

theorem walkGet_append_left (A B : List Cmd) (k : Int) (h : k < A.length) : walkGet (A ++ B) k = walkGet A k := by
  unfold walkGet
  split
  · rw [List.getElem?_append_left (by omega)]
  · rfl

theorem walkGet_append_right (A B : List Cmd) (k : Int) (h : 0 ≤ k) :
    walkGet (A ++ B) ((A.length : Int) + k) = walkGet B k := by
  unfold walkGet
  have e : ((A.length : Int) + k).toNat = A.length + k.toNat := by omega
  rw [if_pos h, if_pos (by omega), e, List.getElem?_append_right (by omega), Nat.add_sub_cancel_left]

end C29
