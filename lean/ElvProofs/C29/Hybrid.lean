/-
C29: the hybrid cursor over any two simulating cursors simulates an index into the concatenated view (session part
first — it is newer).
-/
import ElvProofs.C29.Sim
namespace C29
open Go C24 C29.Spec

def Rhyb {σd σs : Type} (Vs : List Cmd) (Rs : σs → Int → Prop) (Rd : σd → Int → Prop)
    (c : Hybrid σd σs) (k : Int) : Prop :=
  (c.useShared = false ∧ Rd c.shared (-1) ∧ Rs c.session k ∧ k < Vs.length) ∨
  (c.useShared = true ∧ Rs c.session Vs.length ∧ ∃ kd, Rd c.shared kd ∧ 0 ≤ kd ∧ k = Vs.length + kd)

theorem hybrid_sim {σd σs : Type} (sh : CursorOps σd) (se : CursorOps σs) (Vs Vd : List Cmd)
    (Rs : σs → Int → Prop) (Rd : σd → Int → Prop) (hs : Sim se Vs Rs) (hd : Sim sh Vd Rd) :
    Sim (hybridOps sh se) (Vs ++ Vd) (Rhyb Vs Rs Rd) where
  range := by
    intro c k h
    simp only [List.length_append]
    rcases h with ⟨_, _, h, hk⟩ | ⟨_, _, kd, h, h0, hk⟩
    · have := hs.range _ _ h; omega
    · have := hd.range _ _ h; omega
  prev := by
    intro c k h
    obtain ⟨cd, cs, cu⟩ := c
    simp only [hybridOps, hybridPrev, walkPrev, List.length_append]
    rcases h with ⟨hu, hrd, hrs, hk⟩ | ⟨hu, hrs, kd, hrd, h0, hk⟩
    · simp only at hu hrd hrs
      subst hu
      obtain ⟨s', e1, r1⟩ := hs.prev _ _ hrs
      have hr := hs.range _ _ hrs
      have hk' : walkPrev Vs k = k + 1 := by simp only [walkPrev]; omega
      rw [hk'] at r1
      simp only [Bool.false_eq_true, if_false, e1, hs.get _ _ r1]
      by_cases hend : k + 1 = Vs.length
      · -- the session part is exhausted: hand over to the shared cursor
        obtain ⟨d', e2, r2⟩ := hd.prev _ _ hrd
        have hrange := hd.range _ _ r2
        simp only [walkPrev] at r2 hrange
        simp only [walkGet_of_not Vs (.inr (Int.le_of_eq hend.symm)), isEOH, decide_true, if_true, e2]
        exact ⟨_, rfl, .inr ⟨rfl, hend ▸ r1, _, r2, by omega, by omega⟩⟩
      · simp only [walkGet_of_lt Vs (show 0 ≤ k + 1 by omega) (by omega), isEOH, Bool.false_eq_true, if_false]
        refine ⟨_, rfl, .inl ⟨rfl, hrd, ?_, by show min (k + 1) _ < _; omega⟩⟩
        rw [show min (k + 1) ((Vs.length + Vd.length : Nat) : Int) = k + 1 by omega]
        exact r1
    · simp only at hu hrd hrs
      subst hu
      obtain ⟨d', e2, r2⟩ := hd.prev _ _ hrd
      have hrange := hd.range _ _ hrd
      simp only [walkPrev] at r2
      simp only [if_true, e2]
      exact ⟨_, rfl, .inr ⟨rfl, hrs, _, r2, by omega, by omega⟩⟩
  next := by
    intro c k h
    obtain ⟨cd, cs, cu⟩ := c
    simp only [hybridOps, hybridNext, walkNext]
    rcases h with ⟨hu, hrd, hrs, hk⟩ | ⟨hu, hrs, kd, hrd, h0, hk⟩
    · simp only at hu hrd hrs
      subst hu
      obtain ⟨s', e1, r1⟩ := hs.next _ _ hrs
      have hr := hs.range _ _ hrs
      simp only [Bool.not_false, if_true, e1]
      exact ⟨_, rfl, .inl ⟨rfl, hrd, r1, by show max (k - 1) (-1) < _; omega⟩⟩
    · simp only at hu hrd hrs
      subst hu
      obtain ⟨d', e2, r2⟩ := hd.next _ _ hrd
      have hrange := hd.range _ _ hrd
      have hk' : walkNext kd = kd - 1 := by simp only [walkNext]; omega
      rw [hk'] at r2
      simp only [Bool.not_true, Bool.false_eq_true, if_false, e2, hd.get _ _ r2]
      by_cases hend : kd = 0
      · -- back in front of the newest shared entry: hand over to the session cursor
        obtain ⟨s', e1, r1⟩ := hs.next _ _ hrs
        simp only [walkNext] at r1
        simp only [walkGet_of_not Vd (.inl (show kd - 1 < 0 by omega)), isEOH, decide_true, if_true, e1]
        refine ⟨_, rfl, .inl ⟨rfl, by rw [hend] at r2; exact r2, ?_, by omega⟩⟩
        rw [show max (k - 1) (-1) = max ((Vs.length : Int) - 1) (-1) by omega]
        exact r1
      · simp only [walkGet_of_lt Vd (show 0 ≤ kd - 1 by omega) (by omega), isEOH, Bool.false_eq_true, if_false]
        exact ⟨_, rfl, .inr ⟨rfl, hrs, _, r2, by omega, by omega⟩⟩
  get := by
    intro c k h
    obtain ⟨cd, cs, cu⟩ := c
    simp only [hybridOps, hybridGet]
    rcases h with ⟨hu, hrd, hrs, hk⟩ | ⟨hu, hrs, kd, hrd, h0, hk⟩
    · simp only at hu hrd hrs
      subst hu
      simp only [Bool.false_eq_true, if_false]
      rw [hs.get _ _ hrs, walkGet_append_left Vs Vd k hk]
    · simp only at hu hrd hrs
      subst hu
      simp only [if_true]
      rw [hd.get _ _ hrd, hk, walkGet_append_right Vs Vd kd h0]

end C29
