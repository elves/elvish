/-
C29: cursors that remember their place by a key.  `memStoreCursor` keeps a position in the slice, `dbStoreCursor` a
sequence number; both move by searching for the nearest matching entry with a smaller / larger key.  Any such cursor
simulates an index into the view (`keyed_sim`).
-/
import ElvProofs.C29.Sim
namespace C29
open Go C24 C29.Spec

/-- A view with the key of every entry: newest first, so the keys strictly
descend; all lie in `[0, hi)`. -/
structure Keyed (VK : List (Int × Cmd)) (hi : Int) : Prop where
  desc : VK.Pairwise (fun a b => b.1 < a.1)
  bound : ∀ a ∈ VK, 0 ≤ a.1 ∧ a.1 < hi
  hi_nonneg : 0 ≤ hi

/-- the key a cursor at view index `k` holds: `hi` in front of the newest
entry, `-1` past the oldest -/
def keyAt (VK : List (Int × Cmd)) (hi k : Int) : Int :=
  if k < 0 then hi else
    match VK[k.toNat]? with
    | some x => x.1
    | none => -1

variable {VK : List (Int × Cmd)} {hi : Int}

theorem Keyed.tail {x : Int × Cmd} (h : Keyed (x :: VK) hi) : Keyed VK x.1 :=
  ⟨(List.pairwise_cons.1 h.desc).2,
   fun a ha => ⟨(h.bound a (by simp [ha])).1, (List.pairwise_cons.1 h.desc).1 a ha⟩,
   (h.bound x (by simp)).1⟩

theorem keyAt_cons (x : Int × Cmd) (VK : List (Int × Cmd)) (hi : Int) {k : Int} (hk : 0 ≤ k) :
    keyAt (x :: VK) hi k = keyAt VK x.1 (k - 1) := by
  unfold keyAt
  by_cases h0 : k = 0
  · simp [h0]
  · have e : k.toNat = (k - 1).toNat + 1 := by omega
    have h1 : ¬ k < 0 := by omega
    have h2 : ¬ k - 1 < 0 := by omega
    simp only [h1, h2, if_false, e, List.getElem?_cons_succ]

theorem Keyed.keyAt_le (h : Keyed VK hi) (k : Int) : keyAt VK hi k ≤ hi := by
  have := h.hi_nonneg
  unfold keyAt
  split
  · omega
  · split
    · rename_i x hx
      have := h.bound x (List.mem_of_getElem? hx)
      omega
    · omega

theorem Keyed.keyAt_lt (h : Keyed VK hi) {k : Int} (hk : 0 ≤ k) : keyAt VK hi k < hi := by
  have := h.hi_nonneg
  unfold keyAt
  rw [if_neg (by omega)]
  split
  · rename_i x hx
    exact (h.bound x (List.mem_of_getElem? hx)).2
  · omega

theorem Keyed.find?_eq_none (h : Keyed VK hi) (P : Int → Bool) (hP : ∀ k, 0 ≤ k → k < hi → P k = false) :
    VK.find? (fun x => P x.1) = none ∧ VK.reverse.find? (fun x => P x.1) = none := by
  have : ∀ x ∈ VK, ¬ P x.1 = true := fun x hx => by simp [hP x.1 (h.bound x hx).1 (h.bound x hx).2]
  exact ⟨List.find?_eq_none.2 this, List.find?_eq_none.2 fun x hx => this x (List.mem_reverse.1 hx)⟩

theorem Keyed.find_older (h : Keyed VK hi) (k : Int) :
    VK.find? (fun x => x.1 < keyAt VK hi k) = VK[(k + 1).toNat]? := by
  induction VK generalizing hi k with
  | nil => rfl
  | cons x VK ih =>
    by_cases hk : k < 0
    · have e : (k + 1).toNat = 0 := by omega
      simp [keyAt, hk, e, (h.bound x (by simp)).2]
    · have hle := h.tail.keyAt_le (k - 1)
      have e : (k + 1).toNat = (k - 1 + 1).toNat + 1 := by omega
      rw [keyAt_cons x VK hi (by omega), List.find?_cons_of_neg (by simp; omega), ih h.tail, e,
        List.getElem?_cons_succ]

theorem Keyed.find_newer (h : Keyed VK hi) (k : Int) (hk : k ≤ VK.length) :
    VK.reverse.find? (fun x => keyAt VK hi k < x.1) = if 0 < k then VK[(k - 1).toNat]? else none := by
  induction VK generalizing hi k with
  | nil => simp
  | cons x VK ih =>
    rw [List.reverse_cons, List.find?_append]
    by_cases hk0 : k < 0
    · have hnone := (h.tail.find?_eq_none (fun j => decide (hi < j)) fun j _ hj => decide_eq_false (by
        have := (h.bound x (by simp)).2; omega)).2
      have := (h.bound x (by simp)).2
      simp [keyAt, hk0, hnone, show ¬ 0 < k by omega]; omega
    · simp only [List.length_cons] at hk
      rw [keyAt_cons x VK hi (by omega), ih h.tail (k - 1) (by omega)]
      by_cases hk1 : 0 < k - 1
      · have e : (k - 1).toNat = (k - 1 - 1).toNat + 1 := by omega
        have hlt : (k - 1 - 1).toNat < VK.length := by omega
        rw [if_pos hk1, if_pos (by omega), e, List.getElem?_cons_succ, List.getElem?_eq_getElem hlt]
        rfl
      · by_cases hk2 : k = 0
        · subst hk2
          simp [keyAt]
        · have hk3 : k = 1 := by omega
          subst hk3
          simp [h.tail.keyAt_lt (Int.le_refl 0)]

theorem Keyed.find?_eq_some (h : Keyed VK hi) (P : Int → Bool) {x : Int × Cmd} (hx : x ∈ VK) (hP : P x.1 = true)
    (hmax : ∀ y ∈ VK, x.1 < y.1 → P y.1 = false) : VK.find? (fun y => P y.1) = some x := by
  obtain ⟨as, bs, rfl⟩ := List.append_of_mem hx
  refine List.find?_eq_some_iff_append.2 ⟨hP, as, bs, rfl, fun a ha => ?_⟩
  rw [hmax a (by simp [ha]) ((List.pairwise_append.1 h.desc).2.2 a ha x (by simp))]
  rfl

theorem Keyed.find?_reverse_eq_some (h : Keyed VK hi) (P : Int → Bool) {x : Int × Cmd} (hx : x ∈ VK)
    (hP : P x.1 = true) (hmin : ∀ y ∈ VK, y.1 < x.1 → P y.1 = false) :
    VK.reverse.find? (fun y => P y.1) = some x := by
  obtain ⟨as, bs, rfl⟩ := List.append_of_mem hx
  rw [List.reverse_append, List.reverse_cons, List.append_assoc]
  refine List.find?_eq_some_iff_append.2 ⟨hP, bs.reverse, _, rfl, fun b hb => ?_⟩
  have hb' : b ∈ bs := List.mem_reverse.1 hb
  rw [hmin b (by simp [hb']) ((List.pairwise_cons.1 (List.pairwise_append.1 h.desc).2.1).1 b hb')]
  rfl

theorem Keyed.eq_of_key_eq (h : Keyed VK hi) {x y : Int × Cmd} (hx : x ∈ VK) (hy : y ∈ VK) (e : x.1 = y.1) :
    x = y := by
  have hne : ∀ z ∈ VK, x.1 < z.1 → decide (z.1 = x.1) = false := fun z _ hz => decide_eq_false (by omega)
  have h1 := h.find?_eq_some (fun k => decide (k = x.1)) hx (decide_eq_true rfl) hne
  have h2 := h.find?_eq_some (fun k => decide (k = x.1)) hy (decide_eq_true e.symm) (e ▸ hne)
  exact Option.some.inj (h1.symm.trans h2)

theorem keyAt_eq_getD (VK : List (Int × Cmd)) (hi : Int) {k : Int} (hk : 0 ≤ k) :
    keyAt VK hi k = ((VK[k.toNat]?).map (·.1)).getD (-1) := by
  unfold keyAt
  rw [if_neg (by omega)]
  cases VK[k.toNat]? <;> rfl

def onView (VK : List (Int × Cmd)) (hi s : Int) : Prop := s = hi ∨ s = -1 ∨ ∃ x ∈ VK, x.1 = s

theorem keyAt_onView (VK : List (Int × Cmd)) (hi k : Int) : onView VK hi (keyAt VK hi k) := by
  unfold keyAt
  split
  · exact .inl rfl
  · split
    · rename_i x hx
      exact .inr (.inr ⟨x, List.mem_of_getElem? hx, rfl⟩)
    · exact .inr (.inl rfl)

theorem Keyed.onView_range (h : Keyed VK hi) {s : Int} (hv : onView VK hi s) : -1 ≤ s ∧ s ≤ hi := by
  have := h.hi_nonneg
  rcases hv with rfl | rfl | ⟨x, hx, rfl⟩
  · omega
  · omega
  · have := h.bound x hx; omega

/-- What a cursor that keeps a key has to do: `Prev` moves to the greatest key
of the view below its own (`-1` if there is none), `Next` to the least key
above (`hi` if there is none), `Get` returns the entry with its key (end of
history if there is none). -/
structure KeyedOps {σ : Type} (ops : CursorOps σ) (VK : List (Int × Cmd)) (hi : Int)
    (key : σ → Int) (Inv : σ → Prop) : Prop where
  prev : ∀ s, Inv s → onView VK hi (key s) → ∃ s', ops.prev s = .ok s' ∧ Inv s' ∧
    key s' = ((VK.find? (fun x => x.1 < key s)).map (·.1)).getD (-1)
  next : ∀ s, Inv s → onView VK hi (key s) → ∃ s', ops.next s = .ok s' ∧ Inv s' ∧
    key s' = ((VK.reverse.find? (fun x => key s < x.1)).map (·.1)).getD hi
  get : ∀ s, Inv s → (∀ x ∈ VK, x.1 = key s → ops.get s = .ok x.2) ∧
    ((key s = hi ∨ key s = -1) → ops.get s = .exc errEndOfHistory)

def KeyedR {σ : Type} (VK : List (Int × Cmd)) (hi : Int) (key : σ → Int) (Inv : σ → Prop) (s : σ) (k : Int) : Prop :=
  Inv s ∧ -1 ≤ k ∧ k ≤ VK.length ∧ key s = keyAt VK hi k

theorem KeyedR.init {σ : Type} {key : σ → Int} {Inv : σ → Prop} {s : σ} (h : Inv s) (hkey : key s = hi) :
    KeyedR VK hi key Inv s (-1) :=
  ⟨h, Int.le_refl _, by omega, hkey⟩

theorem keyed_sim {σ : Type} {ops : CursorOps σ} {key : σ → Int} {Inv : σ → Prop}
    (hk : Keyed VK hi) (ho : KeyedOps ops VK hi key Inv) :
    Sim ops (VK.map (·.2)) (KeyedR VK hi key Inv) where
  range := fun s k ⟨_, h1, h2, _⟩ => ⟨h1, by simpa using h2⟩
  prev := by
    intro s k ⟨hi0, h1, h2, he⟩
    obtain ⟨s', e, hi', hkey⟩ := ho.prev s hi0 (he ▸ keyAt_onView VK hi k)
    rw [he, hk.find_older] at hkey
    refine ⟨s', e, hi', ?_⟩
    simp only [walkPrev, List.length_map]
    refine ⟨by omega, by omega, ?_⟩
    rw [hkey, keyAt_eq_getD VK hi (by omega)]
    by_cases hlt : k + 1 ≤ VK.length
    · rw [show min (k + 1) (VK.length : Int) = k + 1 by omega]
    · rw [List.getElem?_eq_none (by omega), List.getElem?_eq_none (by omega)]
  next := by
    intro s k ⟨hi0, h1, h2, he⟩
    obtain ⟨s', e, hi', hkey⟩ := ho.next s hi0 (he ▸ keyAt_onView VK hi k)
    rw [he, hk.find_newer k h2] at hkey
    refine ⟨s', e, hi', ?_⟩
    simp only [walkNext]
    refine ⟨by omega, by omega, ?_⟩
    rw [hkey]
    by_cases h0 : 0 < k
    · rw [if_pos h0, show max (k - 1) (-1) = k - 1 by omega, keyAt_eq_getD VK hi (by omega)]
      have hlt : (k - 1).toNat < VK.length := by omega
      rw [List.getElem?_eq_getElem hlt]
      rfl
    · rw [if_neg h0, show max (k - 1) (-1) = -1 by omega]
      rfl
  get := by
    intro s k ⟨hi0, h1, h2, he⟩
    obtain ⟨hok, heoh⟩ := ho.get s hi0
    unfold keyAt at he
    unfold walkGet
    by_cases h0 : 0 ≤ k
    · rw [if_neg (by omega)] at he
      rw [if_pos h0, List.getElem?_map]
      cases hx : VK[k.toNat]? with
      | none => rw [hx] at he; exact heoh (.inr he)
      | some x => rw [hx] at he; exact hok x (List.mem_of_getElem? hx) he.symm
    · rw [if_pos (by omega)] at he
      rw [if_neg h0]
      exact heoh (.inl he)

end C29
