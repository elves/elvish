/- C29: facts about the first-occurrence filter `dedupFrom`. -/
import ElvModel.C29.Spec
namespace C29
open Go C24 C29.Spec

def texts (l : List Cmd) : List Bytes := l.map (·.text)

theorem mem_texts_dedupFrom (t : Bytes) (A : List Cmd) : ∀ (seen : List Bytes),
    t ∈ texts (dedupFrom seen A) ↔ t ∈ texts A ∧ t ∉ seen := by
  induction A with
  | nil => intro seen; simp [dedupFrom, texts]
  | cons c r ih =>
    intro seen
    simp only [dedupFrom, texts, List.contains_iff_mem] at ih ⊢
    split
    · rename_i hc
      rw [ih, List.map_cons, List.mem_cons]
      by_cases e : t = c.text
      · simp [e, hc]
      · simp [e]
    · rename_i hc
      simp only [List.map_cons, List.mem_cons, ih, not_or]
      by_cases e : t = c.text
      · simp [e, hc]
      · simp [e]

theorem dedupFrom_sublist (A : List Cmd) : ∀ (seen : List Bytes), (dedupFrom seen A).Sublist A := by
  induction A with
  | nil => intro _; exact List.Sublist.refl _
  | cons c r ih =>
    intro seen
    simp only [dedupFrom]
    split
    · exact List.Sublist.cons _ (ih seen)
    · exact List.Sublist.cons_cons _ (ih _)

theorem dedupFrom_nodup (A : List Cmd) : ∀ (seen : List Bytes), (texts (dedupFrom seen A)).Nodup := by
  induction A with
  | nil => intro _; simp [dedupFrom, texts]
  | cons c r ih =>
    intro seen
    simp only [dedupFrom]
    split
    · exact ih seen
    · simp only [texts, List.map_cons, List.nodup_cons]
      exact ⟨fun hmem => ((mem_texts_dedupFrom c.text r (c.text :: seen)).1 hmem).2 (by simp), ih _⟩

theorem dedupFrom_first (c : Cmd) (A : List Cmd) : ∀ (seen : List Bytes), c ∈ dedupFrom seen A →
    ∃ X Y, A = X ++ c :: Y ∧ c.text ∉ texts X ∧ c.text ∉ seen := by
  induction A with
  | nil => intro _ h; simp [dedupFrom] at h
  | cons h r ih =>
    intro seen hc
    simp only [dedupFrom, List.contains_iff_mem] at hc
    split at hc
    · rename_i hs
      obtain ⟨X, Y, e, h1, h2⟩ := ih seen hc
      refine ⟨h :: X, Y, by rw [e]; rfl, ?_, h2⟩
      rw [texts, List.map_cons, List.mem_cons, not_or]
      exact ⟨fun e' => h2 (e' ▸ hs), h1⟩
    · rename_i hs
      rcases List.mem_cons.1 hc with rfl | hc
      · exact ⟨[], r, rfl, by simp [texts], hs⟩
      · obtain ⟨X, Y, e, h1, h2⟩ := ih _ hc
        simp only [List.mem_cons, not_or] at h2
        refine ⟨h :: X, Y, by rw [e]; rfl, ?_, h2.2⟩
        rw [texts, List.map_cons, List.mem_cons, not_or]
        exact ⟨h2.1, h1⟩

end C29
