/- C29: the memStore cursor simulates an index into its view.  Its key is the position in the slice. -/
import ElvProofs.C29.Keyed
import ElvProofs.C24.Sorted
namespace C29
open Go C24 C29.Spec

def memKeyed (p : Bytes) (cmds : List Cmd) : List (Int × Cmd) :=
  ((cmds.zipIdx.filter (fun x => isMatch p x.1)).map (fun x => ((x.2 : Int), x.1))).reverse

theorem memKeyed_view (p : Bytes) (cmds : List Cmd) :
    (memKeyed p cmds).map (·.2) = (cmds.filter (isMatch p)).reverse := by
  rw [memKeyed, List.map_reverse, List.map_map]
  show ((cmds.zipIdx.filter (isMatch p ∘ Prod.fst)).map Prod.fst).reverse = _
  rw [← List.filter_map, List.zipIdx_map_fst]

theorem mem_memKeyed {p : Bytes} {cmds : List Cmd} {x : Int × Cmd} :
    x ∈ memKeyed p cmds ↔ 0 ≤ x.1 ∧ cmds[x.1.toNat]? = some x.2 ∧ isMatch p x.2 = true := by
  obtain ⟨i, c⟩ := x
  simp only [memKeyed, List.mem_reverse, List.mem_map, List.mem_filter, List.mem_zipIdx_iff_getElem?, Prod.mk.injEq]
  constructor
  · rintro ⟨⟨c', j⟩, ⟨hj, hm⟩, rfl, rfl⟩
    exact ⟨by omega, by simpa using hj, hm⟩
  · rintro ⟨h0, hc, hm⟩
    exact ⟨(c, i.toNat), ⟨hc, hm⟩, by simp only; omega, rfl⟩

theorem zipIdx_pairwise {α : Type} : ∀ (l : List α) (k : Nat), (l.zipIdx k).Pairwise (fun a b => a.2 < b.2)
  | [], _ => List.Pairwise.nil
  | _ :: l, k =>
    List.pairwise_cons.2 ⟨fun _ hb => List.le_snd_of_mem_zipIdx hb, zipIdx_pairwise l (k + 1)⟩

theorem memKeyed_keyed (p : Bytes) (cmds : List Cmd) : Keyed (memKeyed p cmds) cmds.length where
  desc := by
    rw [memKeyed, List.pairwise_reverse, List.pairwise_map]
    refine ((zipIdx_pairwise cmds 0).sublist List.filter_sublist).imp ?_
    intro a b h
    simp only; omega
  bound := by
    intro x hx
    obtain ⟨h0, hc, _⟩ := mem_memKeyed.1 hx
    have := (List.getElem?_eq_some_iff.1 hc).1
    omega
  hi_nonneg := by omega

theorem memKeyed_key_ne {p : Bytes} {cmds : List Cmd} {n : Nat} {c : Cmd} (hc : cmds[n]? = some c)
    (hm : ¬ isMatch p c = true) : ∀ y ∈ memKeyed p cmds, y.1 ≠ (n : Int) := by
  intro y hy e
  obtain ⟨_, hy1, hy2⟩ := mem_memKeyed.1 hy
  rw [e, Int.toNat_natCast, hc] at hy1
  exact hm (Option.some.inj hy1 ▸ hy2)

theorem memPrevLoop_eq (cmds : List Cmd) (p : Bytes) : ∀ (n : Nat), n ≤ cmds.length →
    memPrevLoop cmds p n = .ok ((((memKeyed p cmds).find? (fun x => x.1 < (n : Int))).map (·.1)).getD (-1))
  | 0, _ => by
    rw [((memKeyed_keyed p cmds).find?_eq_none (fun k => decide (k < ((0 : Nat) : Int)))
      fun k h0 _ => decide_eq_false (by omega)).1]
    rfl
  | n + 1, hn => by
    have hlt : n < cmds.length := by omega
    have hc : cmds[n]? = some cmds[n] := List.getElem?_eq_getElem hlt
    have hidx : Go.index cmds (n : Int) = .ok cmds[n] := by simp [Go.index, hc]
    simp only [memPrevLoop, hidx]
    by_cases hm : hasPrefix cmds[n].text p = true
    · have : (memKeyed p cmds).find? (fun x => decide (x.1 < ((n + 1 : Nat) : Int))) = some ((n : Int), cmds[n]) :=
        (memKeyed_keyed p cmds).find?_eq_some (fun k => decide (k < ((n + 1 : Nat) : Int)))
          (mem_memKeyed.2 ⟨by simp, by simp [hc], hm⟩) (decide_eq_true (by omega))
          (fun y _ hy => decide_eq_false (by simp only at hy; omega))
      rw [if_pos hm, this]; rfl
    · have : (memKeyed p cmds).find? (fun x => decide (x.1 < ((n + 1 : Nat) : Int))) =
          (memKeyed p cmds).find? (fun x => decide (x.1 < (n : Int))) :=
        Sorted.find?_congr' _ fun y hy => by
          have := memKeyed_key_ne hc hm y hy
          simp only [decide_eq_decide]; omega
      rw [if_neg hm, memPrevLoop_eq cmds p n (by omega), this]

theorem memNextLoop_eq (cmds : List Cmd) (p : Bytes) : ∀ (rest : List Cmd) (i : Nat), rest = cmds.drop i →
    i ≤ cmds.length →
    memNextLoop p rest (i : Int) =
      (((memKeyed p cmds).reverse.find? (fun x => (i : Int) ≤ x.1)).map (·.1)).getD (cmds.length : Int)
  | [], i, hr, hi => by
    have hlen : cmds.length ≤ i := List.drop_eq_nil_iff.1 hr.symm
    rw [((memKeyed_keyed p cmds).find?_eq_none (fun k => decide ((i : Int) ≤ k))
      fun k _ hk => decide_eq_false (by omega)).2]
    show (i : Int) = cmds.length
    omega
  | c :: r, i, hr, hi => by
    have hlt : i < cmds.length := by
      have := congrArg List.length hr
      simp at this; omega
    have hc : cmds[i]? = some cmds[i] := List.getElem?_eq_getElem hlt
    obtain ⟨rfl, hr'⟩ := List.cons.inj (hr.trans (List.drop_eq_getElem_cons hlt))
    simp only [memNextLoop]
    by_cases hm : hasPrefix cmds[i].text p = true
    · have : (memKeyed p cmds).reverse.find? (fun x => decide ((i : Int) ≤ x.1)) = some ((i : Int), cmds[i]) :=
        (memKeyed_keyed p cmds).find?_reverse_eq_some (fun k => decide ((i : Int) ≤ k))
          (mem_memKeyed.2 ⟨by simp, by simp [hc], hm⟩) (decide_eq_true (Int.le_refl _))
          (fun y _ hy => decide_eq_false (by simp only at hy; omega))
      rw [if_pos hm, this]; rfl
    · have : (memKeyed p cmds).reverse.find? (fun x => decide ((i : Int) ≤ x.1)) =
          (memKeyed p cmds).reverse.find? (fun x => decide (((i + 1 : Nat) : Int) ≤ x.1)) :=
        Sorted.find?_congr' _ fun y hy => by
          have := memKeyed_key_ne hc hm y (List.mem_reverse.1 hy)
          simp only [decide_eq_decide]; omega
      rw [if_neg hm, this]
      exact memNextLoop_eq cmds p r (i + 1) hr' (by omega)

def MemInv (cmds : List Cmd) (p : Bytes) (c : MemCursor) : Prop := c.cmds = cmds ∧ c.pfx = p

theorem mem_keyedOps (cmds : List Cmd) (p : Bytes) :
    KeyedOps memOps (memKeyed p cmds) cmds.length (·.index) (MemInv cmds p) where
  prev := by
    intro c ⟨h1, h2⟩ hv
    have hr := (memKeyed_keyed p cmds).onView_range hv
    simp only [memOps, memPrev, h1, h2] at hr ⊢
    by_cases hneg : c.index < 0
    · have := ((memKeyed_keyed p cmds).find?_eq_none (fun k => decide (k < c.index))
        fun k h0 _ => decide_eq_false (by omega)).1
      exact ⟨c, if_pos hneg, ⟨h1, h2⟩, by rw [this]; show c.index = -1; omega⟩
    · rw [if_neg hneg, memPrevLoop_eq cmds p c.index.toNat (by omega), Int.toNat_of_nonneg (by omega)]
      exact ⟨_, rfl, ⟨rfl, rfl⟩, rfl⟩
  next := by
    intro c ⟨h1, h2⟩ hv
    have hr := (memKeyed_keyed p cmds).onView_range hv
    simp only [memOps, memNext, h1, h2] at hr ⊢
    by_cases hge : c.index ≥ cmds.length
    · have := ((memKeyed_keyed p cmds).find?_eq_none (fun k => decide (c.index < k))
        fun k _ hk => decide_eq_false (by omega)).2
      exact ⟨c, if_pos hge, ⟨h1, h2⟩, by rw [this]; show c.index = cmds.length; omega⟩
    · rw [if_neg hge, if_neg (by omega)]
      have := memNextLoop_eq cmds p _ (c.index + 1).toNat rfl (by omega)
      rw [Int.toNat_of_nonneg (by omega)] at this
      exact ⟨_, rfl, ⟨rfl, rfl⟩, this⟩
  get := by
    intro c ⟨h1, h2⟩
    simp only [memOps, memGet, h1]
    constructor
    · intro x hx e
      obtain ⟨h0, hc, _⟩ := mem_memKeyed.1 hx
      have := ((memKeyed_keyed p cmds).bound x hx).2
      rw [if_neg (by omega), ← e]
      simp [Go.index, h0, hc]
    · intro h
      rw [if_pos (by omega)]

def Rmem (cmds : List Cmd) (p : Bytes) : MemCursor → Int → Prop :=
  KeyedR (memKeyed p cmds) cmds.length (·.index) (MemInv cmds p)

theorem mem_sim (cmds : List Cmd) (p : Bytes) : Sim memOps ((cmds.filter (isMatch p)).reverse) (Rmem cmds p) :=
  memKeyed_view p cmds ▸ keyed_sim (memKeyed_keyed p cmds) (mem_keyedOps cmds p)

theorem mem_init (s : MemStore) (p : Bytes) : Rmem s.cmds p (s.cursor p) (-1) :=
  KeyedR.init ⟨rfl, rfl⟩ rfl

end C29
