/-
C29: the dbStore cursor, run against any database that agrees with the snapshot `base` on the numbers below
`upper`, simulates an index into the view of `base`.  Its key is the sequence number of the command it holds.  The
snapshot taken at session start is such a `base`, and additions keep it so.
-/
import ElvProofs.C29.Keyed
import ElvProofs.C24.Log
namespace C29
open Go C24 C24.Spec C29.Spec

def mE (p : Bytes) (e : Entry) : Bool := hasPrefix e.2 p

structure Snapshot (base : List Entry) (upper : Nat) : Prop where
  sorted : base.Pairwise (fun a b => a.1 < b.1)
  below : ∀ e ∈ base, e.1 < upper
  upper_pos : 1 ≤ upper
  upper_lt : upper < two63

/-- a database state the session may see: it holds a well-formed log whose
entries numbered below `upper` are exactly the snapshot, and whose counter has
reached `upper - 1` (so every later addition is numbered `upper` or more) -/
def Frozen (base : List Entry) (upper : Nat) (db : Store) : Prop :=
  ∃ l d, db = S l d ∧ l.WF ∧ l.counter < two63 ∧ l.entries.filter (fun e => decide (e.1 < upper)) = base ∧
    upper ≤ l.counter + 1

def keyed (e : Entry) : Int × Cmd := ((e.1 : Int), toCmd e)

def dbKeyed (p : Bytes) (base : List Entry) : List (Int × Cmd) := ((base.filter (mE p)).map keyed).reverse

theorem dbKeyed_view (p : Bytes) (base : List Entry) :
    (dbKeyed p base).map (·.2) = ((base.map toCmd).filter (isMatch p)).reverse := by
  rw [dbKeyed, List.map_reverse, List.map_map]
  show ((base.filter (isMatch p ∘ toCmd)).map toCmd).reverse = _
  rw [← List.filter_map]

theorem dbKeyed_keyed (p : Bytes) {base : List Entry} {upper : Nat} (hs : Snapshot base upper) :
    Keyed (dbKeyed p base) upper where
  desc := by
    rw [dbKeyed, List.pairwise_reverse, List.pairwise_map]
    refine (hs.sorted.sublist List.filter_sublist).imp ?_
    intro a b h
    simp only [keyed]; omega
  bound := by
    intro x hx
    obtain ⟨e, he, rfl⟩ := List.mem_map.1 (List.mem_reverse.1 hx)
    have := hs.below e (List.mem_filter.1 he).1
    simp only [keyed]; omega
  hi_nonneg := by omega

theorem dbKeyed_find? (p : Bytes) (base : List Entry) (P : Int × Cmd → Bool) :
    (dbKeyed p base).find? P = (base.reverse.find? (fun e => decide (mE p e = true ∧ P (keyed e) = true))).map keyed := by
  rw [dbKeyed, ← List.map_reverse, ← List.filter_reverse, List.find?_map, List.find?_filter]
  rfl

theorem dbKeyed_reverse_find? (p : Bytes) (base : List Entry) (P : Int × Cmd → Bool) :
    (dbKeyed p base).reverse.find? P = (base.find? (fun e => decide (mE p e = true ∧ P (keyed e) = true))).map keyed := by
  rw [dbKeyed, List.reverse_reverse, List.find?_map, List.find?_filter]
  rfl

theorem toU64_nat (s : Nat) (h : s < two63) : toU64 (s : Int) = s := by
  have := two63_lt_two64
  rw [toU64_of_nonneg _ (by omega) (by omega)]
  simp

theorem prevCmd_frozen (p : Bytes) {base : List Entry} {upper : Nat} {db : Store}
    (hf : Frozen base upper db) (s : Nat) (hsu : s ≤ upper) (hu : upper < two63) :
    ∃ r, prevCmd db (s : Int) p = found r ∧ r.map keyed = (dbKeyed p base).find? (fun x => x.1 < (s : Int)) := by
  obtain ⟨l, d, rfl, hwf, hc, rfl, _⟩ := hf
  refine ⟨_, prevCmd_conc l d _ p hwf hc, ?_⟩
  rw [toU64_nat s (by omega), dbKeyed_find?, ← List.filter_reverse, List.find?_filter, Log.prev]
  congr 1
  apply Sorted.find?_congr'
  intro e _
  by_cases hm : hasPrefix e.2 p = true <;> simp [mE, keyed, hm] <;> omega

theorem find?_filter_lt {es : List Entry} (hs : es.Pairwise (fun a b => a.1 < b.1)) (u : Nat) (Q : Entry → Bool) :
    (es.filter (fun e => decide (e.1 < u))).find? Q = (es.find? Q).filter (fun e => decide (e.1 < u)) := by
  induction es with
  | nil => rfl
  | cons h t ih =>
    obtain ⟨hh, ht⟩ := List.pairwise_cons.1 hs
    by_cases hu : h.1 < u
    · by_cases hq : Q h = true
      · simp [hu, hq, Option.filter_some]
      · simp [hu, hq, ih ht]
    · have : (t.find? Q).filter (fun e => decide (e.1 < u)) = none := by
        cases hf : t.find? Q with
        | none => rfl
        | some x =>
          have := hh x (List.mem_of_find?_eq_some hf)
          simp [Option.filter_some]; omega
      by_cases hq : Q h = true
      · simp [hu, hq, ih ht, this, Option.filter_some]
      · simp [hu, hq, ih ht]

/-- The filter: `NextCmd` may return an entry another session added since. -/
theorem nextCmd_frozen (p : Bytes) {base : List Entry} {upper : Nat} {db : Store}
    (hf : Frozen base upper db) (s : Int) (h0 : -1 ≤ s) (hsu : s < upper) (hu : upper < two63) :
    ∃ r, nextCmd db (s + 1) p = found r ∧
      (r.filter (fun e => decide (e.1 < upper))).map keyed = (dbKeyed p base).reverse.find? (fun x => s < x.1) := by
  obtain ⟨l, d, rfl, hwf, hc, rfl, _⟩ := hf
  have ht : toU64 (s + 1) = (s + 1).toNat := by
    have := two63_lt_two64
    exact toU64_of_nonneg _ (by omega) (by omega)
  refine ⟨_, nextCmd_conc l d _ p hwf hc, ?_⟩
  rw [ht, dbKeyed_reverse_find?, find?_filter_lt hwf.1, Log.next]
  congr 2
  apply Sorted.find?_congr'
  intro e _
  by_cases hm : hasPrefix e.2 p = true <;> simp [mE, keyed, hm]
  exact decide_eq_decide.2 (by omega)

theorem errNoMatching_ne_eoh : errNoMatchingCmd ≠ errEndOfHistory := by decide

theorem set_found (c : DbCursor) (r : Option Entry) (n : Int) :
    c.set (found r) n = .ok (match r with
      | some e => { c with cmd := toCmd e, err := none }
      | none => { c with cmd := ⟨[], n⟩, err := some errEndOfHistory }) := by
  cases r <;> simp [found, DbCursor.set]

theorem dbNextWith_found (c : DbCursor) (r : Option Entry) (u : Nat) (hu : c.upper = (u : Int)) (hpos : 1 ≤ u) :
    dbNextWith c (found r) = .ok (match r.filter (fun e => decide (e.1 < u)) with
      | some e => { c with cmd := toCmd e, err := none }
      | none => { c with cmd := ⟨[], u⟩, err := some errEndOfHistory }) := by
  cases r with
  | none =>
    have h1 : 0 < u := by omega
    have h2 : ¬ u = 0 := by omega
    simp [dbNextWith, found, resSeq, hu, h1, h2, DbCursor.set]
  | some e =>
    by_cases hlt : e.1 < u
    · have h1 : (e.1 : Int) < u := by omega
      have h2 : ¬ (e.1 : Int) ≥ u := by omega
      simp [dbNextWith, found, resSeq, toCmd, hu, hlt, h1, h2, DbCursor.set, Option.filter_some]
    · have h1 : ¬ (e.1 : Int) < u := by omega
      have h2 : (e.1 : Int) ≥ u := by omega
      simp [dbNextWith, found, resSeq, toCmd, hu, hlt, h1, h2, Option.filter_some]

/-- what holds of a dbStore cursor for prefix `p` between calls: it holds an entry
of the view, or reports the end of history with `Seq` at `-1` (past the oldest
entry) or at `upper` (in front of the newest) -/
def DbInv (p : Bytes) (base : List Entry) (upper : Nat) (c : DbCursor) : Prop :=
  c.pfx = p ∧ c.upper = (upper : Int) ∧
  ((c.err = none ∧ (c.cmd.seq, c.cmd) ∈ dbKeyed p base) ∨
   (c.err = some errEndOfHistory ∧ (c.cmd.seq = -1 ∨ c.cmd.seq = (upper : Int))))

theorem db_keyedOps (p : Bytes) {base : List Entry} {upper : Nat} (hs : Snapshot base upper) {db : Store}
    (hf : Frozen base upper db) :
    KeyedOps (dbOps db) (dbKeyed p base) upper (·.cmd.seq) (DbInv p base upper) where
  prev := by
    intro c ⟨h1, h2, h⟩ hv
    have hk := dbKeyed_keyed p hs
    have hr := hk.onView_range hv
    simp only [dbOps, dbPrev, h1] at hr ⊢
    -- the guard matters: `PrevCmd(-1, p)` reads `-1` as 2^64-1 and would return the newest command
    by_cases hneg : c.cmd.seq < 0
    · have := (hk.find?_eq_none (fun k => decide (k < c.cmd.seq)) fun k h0 _ => decide_eq_false (by omega)).1
      exact ⟨c, if_pos hneg, ⟨h1, h2, h⟩, by rw [this]; show c.cmd.seq = -1; omega⟩
    · obtain ⟨r, hr, hfind⟩ := prevCmd_frozen p hf c.cmd.seq.toNat (by omega) hs.upper_lt
      rw [Int.toNat_of_nonneg (by omega)] at hr hfind
      rw [if_neg hneg, hr, set_found, ← hfind]
      cases r with
      | none => exact ⟨_, rfl, ⟨h1, h2, .inr ⟨rfl, .inl rfl⟩⟩, rfl⟩
      | some e => exact ⟨_, rfl, ⟨h1, h2, .inl ⟨rfl, List.mem_of_find?_eq_some hfind.symm⟩⟩, rfl⟩
  next := by
    intro c ⟨h1, h2, h⟩ hv
    have hk := dbKeyed_keyed p hs
    have hr := hk.onView_range hv
    simp only [dbOps, dbNext, h1, h2] at hr ⊢
    by_cases hge : c.cmd.seq ≥ upper
    · have := (hk.find?_eq_none (fun k => decide (c.cmd.seq < k)) fun k _ hk => decide_eq_false (by omega)).2
      exact ⟨c, if_pos hge, ⟨h1, h2, h⟩, by rw [this]; show c.cmd.seq = upper; omega⟩
    · obtain ⟨r, hr, hfind⟩ := nextCmd_frozen p hf c.cmd.seq (by omega) (by omega) hs.upper_lt
      rw [if_neg hge, hr, dbNextWith_found c r upper h2 hs.upper_pos, ← hfind]
      cases hflt : r.filter (fun e => decide (e.1 < upper)) with
      | none => exact ⟨_, rfl, ⟨h1, h2, .inr ⟨rfl, .inr rfl⟩⟩, rfl⟩
      | some e =>
        rw [hflt] at hfind
        exact ⟨_, rfl, ⟨h1, h2, .inl ⟨rfl, List.mem_reverse.1 (List.mem_of_find?_eq_some hfind.symm)⟩⟩, rfl⟩
  get := by
    intro c ⟨_, _, h⟩
    have hk := dbKeyed_keyed p hs
    simp only [dbOps, dbGet]
    constructor
    · intro x hx e
      rcases h with ⟨herr, hm⟩ | ⟨herr, hseq⟩
      · rw [herr, hk.eq_of_key_eq hx hm e]
      · have := hk.bound x hx; omega
    · intro hkey
      rcases h with ⟨_, hm⟩ | ⟨herr, _⟩
      · have := hk.bound _ hm; omega
      · rw [herr]

def Rdb (p : Bytes) (base : List Entry) (upper : Nat) : DbCursor → Int → Prop :=
  KeyedR (dbKeyed p base) upper (·.cmd.seq) (DbInv p base upper)

theorem db_sim (p : Bytes) (base : List Entry) (upper : Nat) (hs : Snapshot base upper) (db : Store)
    (hf : Frozen base upper db) :
    Sim (dbOps db) (((base.map toCmd).filter (isMatch p)).reverse) (Rdb p base upper) :=
  dbKeyed_view p base ▸ keyed_sim (dbKeyed_keyed p hs) (db_keyedOps p hs hf)

theorem db_init (p : Bytes) (base : List Entry) (upper : Nat) :
    Rdb p base upper ((⟨(upper : Int)⟩ : DbStore).cursor p) (-1) :=
  KeyedR.init ⟨rfl, rfl, .inr ⟨rfl, .inr rfl⟩⟩ rfl

theorem session_start (l : Log) (d : Bucket) (hwf : l.WF) (hc : l.counter + 1 < two63) :
    newDBStore (S l d) = ⟨((l.counter + 1 : Nat) : Int)⟩ ∧
    Snapshot l.entries (l.counter + 1) ∧ Frozen l.entries (l.counter + 1) (S l d) := by
  refine ⟨?_, ⟨hwf.1, ?_, by omega, hc⟩, l, d, rfl, hwf, by omega, ?_, Nat.le_refl _⟩
  · simp only [newDBStore, nextCmdSeq_conc l d hc, Log.nextSeq]
  · intro e he; have := (hwf.2 e he).2; omega
  · apply List.filter_eq_self.2
    intro e he
    have := (hwf.2 e he).2
    simp; omega

theorem frozen_add (base : List Entry) (upper : Nat) (db : Store) (t : Bytes) (hf : Frozen base upper db)
    (hc : db.cmd.sequence + 1 < two63) : Frozen base upper (addCmd db t).1 ∧ ∃ n, (addCmd db t).2 = .ok n := by
  obtain ⟨l, d, rfl, hwf, _, hbase, hup⟩ := hf
  have hc' : l.counter + 1 < two63 := hc
  rw [addCmd_conc l d t hwf hc']
  refine ⟨⟨(l.add t).1, d, rfl, Log.WF_add hwf t, by simp [Log.add]; omega, ?_, by simp [Log.add]; omega⟩, _, rfl⟩
  simp only [Log.add, List.filter_append, hbase]
  have : ¬ (l.counter + 1 < upper) := by omega
  simp [List.filter, this]

end C29
