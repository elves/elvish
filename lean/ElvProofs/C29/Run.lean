/-
C29: walks (sequences of Prev/Next, each executed with the cursor operations in force at that moment), the
composed simulation, and the shape of the index walk.
-/
import ElvProofs.C29.Mem
import ElvProofs.C29.Db
import ElvProofs.C29.Hybrid
import ElvProofs.C29.Dedup
namespace C29
open Go C24 C24.Spec C29.Spec

def applyMove {σ : Type} (ops : CursorOps σ) (s : σ) : Move → Res σ
  | .prev => ops.prev s
  | .next => ops.next s

/-- run a walk: each step names the move and the cursor operations at that time
(they depend on the database, which other sessions change); the result is the
list of `Get` results after each move, or the first failure of a move -/
def runWalk {σ : Type} : σ → List (Move × CursorOps σ) → Res (List (Res Cmd))
  | _, [] => .ok []
  | s, (m, ops) :: rest =>
    match applyMove ops s m with
    | .ok s' =>
      match runWalk s' rest with
      | .ok l => .ok (ops.get s' :: l)
      | .exc e => .exc e
      | .panic w => .panic w
    | .exc e => .exc e
    | .panic w => .panic w

theorem Sim.move {σ : Type} {ops : CursorOps σ} {V : List Cmd} {R : σ → Int → Prop} (h : Sim ops V R)
    (m : Move) {s : σ} {k : Int} (hr : R s k) : ∃ s', applyMove ops s m = .ok s' ∧ R s' (walkMove V k m) := by
  cases m
  · exact h.prev s k hr
  · exact h.next s k hr

/-- `a` is whatever determines the operations in force at a step (the database at that moment). -/
theorem sim_walk {σ α : Type} (V : List Cmd) (R : σ → Int → Prop) (mv : α → Move) (ops : α → CursorOps σ) :
    ∀ (steps : List α) (s : σ) (k : Int), (∀ a ∈ steps, Sim (ops a) V R) → R s k →
      runWalk s (steps.map fun a => (mv a, ops a)) = .ok (walkGets V k (steps.map mv))
  | [], _, _, _, _ => rfl
  | a :: rest, s, k, hall, hr => by
    have hsim := hall a (by simp)
    obtain ⟨s', e, r⟩ := hsim.move (mv a) hr
    simp only [List.map_cons, runWalk, walkGets, e, hsim.get s' _ r,
      sim_walk V R mv ops rest s' _ (fun b h => hall b (by simp [h])) r]

theorem view_split (stored session : List Cmd) (p : Bytes) :
    view stored session p = (session.filter (isMatch p)).reverse ++ (stored.filter (isMatch p)).reverse := by
  simp [view, List.filter_append, List.reverse_append]

def hybOps (db : Store) : CursorOps (Hybrid DbCursor MemCursor) := hybridOps (dbOps db) memOps

def RhybC (p : Bytes) (base : List Entry) (upper : Nat) (sess : List Cmd) :=
  Rhyb (σd := DbCursor) (σs := MemCursor) ((sess.filter (isMatch p)).reverse) (Rmem sess p) (Rdb p base upper)

theorem hyb_sim (p : Bytes) (base : List Entry) (upper : Nat) (hs : Snapshot base upper) (sess : List Cmd)
    (db : Store) (hf : Frozen base upper db) :
    Sim (hybOps db) (view (base.map toCmd) sess p) (RhybC p base upper sess) := by
  rw [view_split]
  exact hybrid_sim (dbOps db) memOps _ _ _ _ (mem_sim sess p) (db_sim p base upper hs db hf)

theorem hyb_init (p : Bytes) (base : List Entry) (upper : Nat) (sess : List Cmd) :
    RhybC p base upper sess ((⟨⟨(upper : Int)⟩, ⟨sess⟩⟩ : HybridStore).cursor p) (-1) := by
  refine Or.inl ⟨rfl, db_init p base upper, mem_init ⟨sess⟩ p, ?_⟩
  have : (0 : Int) ≤ ((sess.filter (isMatch p)).reverse.length : Int) := by omega
  omega

theorem walk_prevs (v : List Cmd) : ∀ (n : Nat) (i : Int), i ≤ v.length →
    walkIdx v i (List.replicate n Move.prev) = min (i + n) v.length
  | 0, i, h => by simp only [List.replicate_zero, walkIdx]; omega
  | n + 1, i, h => by
    have ih := walk_prevs v n (walkPrev v i) (by simp only [walkPrev]; omega)
    simp only [List.replicate_succ, walkIdx, walkMove]
    rw [ih]
    simp only [walkPrev]
    omega

theorem walk_nexts (v : List Cmd) : ∀ (n : Nat) (i : Int), -1 ≤ i →
    walkIdx v i (List.replicate n Move.next) = max (i - n) (-1)
  | 0, i, h => by simp only [List.replicate_zero, walkIdx]; omega
  | n + 1, i, h => by
    have ih := walk_nexts v n (walkNext i) (by simp only [walkNext]; omega)
    simp only [List.replicate_succ, walkIdx, walkMove]
    rw [ih]
    simp only [walkNext]
    omega

theorem walkGets_append (v : List Cmd) : ∀ (a b : List Move) (i : Int),
    walkGets v i (a ++ b) = walkGets v i a ++ walkGets v (walkIdx v i a) b
  | [], _, _ => rfl
  | m :: a, b, i => by simp only [List.cons_append, walkGets, walkIdx, walkGets_append v a b]

theorem walkIdx_append (v : List Cmd) : ∀ (a b : List Move) (i : Int),
    walkIdx v i (a ++ b) = walkIdx v (walkIdx v i a) b
  | [], _, _ => rfl
  | m :: a, b, i => by simp only [List.cons_append, walkIdx, walkIdx_append v a b]

theorem walkGets_last (v : List Cmd) (ms : List Move) (m : Move) (i : Int) :
    (walkGets v i (ms ++ [m])).getLast? = some (walkGet v (walkIdx v i (ms ++ [m]))) := by
  rw [walkGets_append, walkIdx_append]
  simp [walkGets, walkIdx]

end C29
