/-
C29: the dedup cursor over any simulating cursor simulates an index into the first-occurrence filter of the inner
view.
-/
import ElvProofs.C29.Sim
import ElvProofs.C29.DedupView
namespace C29
open Go C24 C29.Spec

theorem drop_step (V : List Cmd) {j : Int} (h0 : -1 ≤ j) (h : j + 1 < V.length) :
    V.drop (j + 1).toNat = V[(j + 1).toNat]'(by omega) :: V.drop (j + 1 + 1).toNat := by
  rw [show (j + 1 + 1).toNat = (j + 1).toNat + 1 by omega]
  exact List.drop_eq_getElem_cons (by omega)

theorem pending_nil (V : List Cmd) (occ : List Bytes) {j : Int} (h : (V.length : Int) ≤ j + 1) :
    dedupFrom occ (V.drop (j + 1).toNat) = [] := by
  rw [List.drop_of_length_le (by omega)]; rfl

/-- The dedup cursor `d` stands at index `k`.  `dedupFrom` carries the texts seen as `dedupLoop` carries `occ`, so
with the inner cursor at index `j` the entries still to come are `dedupFrom d.occ` of the inner view behind `j`:
the stack is what has been delivered of `dedupView V`.  `current` is `k` — it reaches the stack height only once the
inner view is exhausted —, except that a fresh cursor has `current = 0` on an empty stack and stands at `-1`. -/
def Rdd {σ : Type} (V : List Cmd) (R : σ → Int → Prop) (d : Dedup σ) (k : Int) : Prop :=
  ∃ j : Int, R d.c j ∧ dedupView V = d.stack ++ dedupFrom d.occ (V.drop (j + 1).toNat) ∧
    ((-1 ≤ d.current ∧ d.current ≤ d.stack.length ∧ (d.current = d.stack.length → j = V.length) ∧ k = d.current) ∨
     (j = -1 ∧ d.current = 0 ∧ d.stack = [] ∧ k = -1))

theorem dedupLoop_spec {σ : Type} (inner : CursorOps σ) (V : List Cmd) (R : σ → Int → Prop) (hs : Sim inner V R) :
    ∀ (fuel : Nat) (d : Dedup σ) (j : Int), R d.c j → -1 ≤ j → j < V.length →
      dedupView V = d.stack ++ dedupFrom d.occ (V.drop (j + 1).toNat) → (V.length : Int) - j ≤ fuel →
      ∃ d', dedupLoop inner fuel d = .ok d' ∧ Rdd V R d' (d.stack.length : Int)
  | 0, _, _, _, _, _, _, hf => by omega
  | fuel + 1, d, j, hr, h0, hlt, hinv, hf => by
    obtain ⟨c', e1, r1⟩ := hs.prev _ _ hr
    rw [show walkPrev V j = j + 1 by simp only [walkPrev]; omega] at r1
    simp only [dedupLoop, e1, hs.get _ _ r1]
    by_cases hend : j + 1 < V.length
    · -- the next inner entry: `dedupFrom` and the loop take the same decision on it
      rw [drop_step V h0 hend, dedupFrom] at hinv
      simp only [walkGet_of_lt V (show 0 ≤ j + 1 by omega) hend]
      by_cases hseen : d.occ.contains (V[(j + 1).toNat]'(by omega)).text = true
      · rw [if_pos hseen] at hinv
        simp only [hseen, Bool.not_true, Bool.false_eq_true, if_false]
        exact dedupLoop_spec inner V R hs fuel { d with c := c' } (j + 1) r1 (by omega) hend hinv (by omega)
      · rw [if_neg hseen] at hinv
        simp only [hseen, Bool.not_false, if_true]
        refine ⟨_, rfl, j + 1, r1, by rw [hinv, List.append_assoc]; rfl, .inl ⟨by dsimp only; omega, ?_, ?_, rfl⟩⟩
        · simp only [List.length_append, List.length_singleton]; omega
        · simp only [List.length_append, List.length_singleton]; omega
    · -- the inner cursor is past its oldest entry
      simp only [walkGet_of_not V (.inr (show (V.length : Int) ≤ j + 1 by omega))]
      refine ⟨_, rfl, j + 1, r1, ?_, .inl ⟨by dsimp only; omega, Int.le_refl _, fun _ => by omega, rfl⟩⟩
      rw [pending_nil V _ (by omega)] at hinv ⊢
      exact hinv

theorem dedup_sim {σ : Type} (inner : CursorOps σ) (V : List Cmd) (R : σ → Int → Prop) (hs : Sim inner V R)
    (fuel : Nat) (hfuel : V.length + 1 ≤ fuel) :
    Sim (dedupOps inner fuel) (dedupView V) (Rdd V R) where
  range := by
    intro d k ⟨j, _, hinv, h⟩
    have hle := congrArg List.length hinv
    rw [List.length_append] at hle
    rcases h with ⟨_, _, _, hk⟩ | ⟨_, _, _, hk⟩ <;> omega
  prev := by
    intro d k ⟨j, hr, hinv, h⟩
    have hle := congrArg List.length hinv
    rw [List.length_append] at hle
    have hrange := hs.range _ _ hr
    simp only [dedupOps, dedupPrev, walkPrev]
    by_cases hin : d.current < (d.stack.length : Int) - 1
    · -- inside the stack: just move
      rw [if_pos hin]
      refine ⟨_, rfl, j, hr, hinv, .inl ?_⟩
      rcases h with ⟨h1, h2, _, hk⟩ | ⟨_, hc, hst, _⟩
      · dsimp only
        exact ⟨by omega, by omega, fun _ => by omega, by omega⟩
      · rw [hst] at hin; simp at hin; omega
    · rw [if_neg hin]
      by_cases hjend : j = V.length
      · -- the inner cursor is already past its oldest entry: one more futile step
        obtain ⟨fuel', rfl⟩ : ∃ f, fuel = f + 1 := ⟨fuel - 1, by omega⟩
        obtain ⟨c', e1, r1⟩ := hs.prev _ _ hr
        rw [show walkPrev V j = V.length by simp only [walkPrev]; omega] at r1
        simp only [dedupLoop, e1, hs.get _ _ r1, walkGet_of_not V (.inr (Int.le_refl _))]
        rw [pending_nil V _ (by omega), List.append_nil] at hinv
        refine ⟨_, rfl, V.length, r1, ?_, .inl ⟨by dsimp only; omega, Int.le_refl _, fun _ => rfl, ?_⟩⟩
        · rw [pending_nil V _ (by omega), List.append_nil]; exact hinv
        · simp only [hinv]
          rcases h with ⟨_, _, _, hk⟩ | ⟨hj, _⟩ <;> omega
      · obtain ⟨d', e, r⟩ := dedupLoop_spec inner V R hs fuel d j hr hrange.1 (by omega) hinv (by omega)
        have hk1 : min (k + 1) ((dedupView V).length : Int) = d.stack.length := by
          rcases h with ⟨_, _, hj, hk⟩ | ⟨hj, hc, hst, hk⟩
          · have : d.current ≠ d.stack.length := fun hc => hjend (hj hc)
            omega
          · rw [hst] at hle ⊢; simp at hle ⊢; omega
        rw [hk1]
        exact ⟨d', e, r⟩
  next := by
    intro d k ⟨j, hr, hinv, h⟩
    simp only [dedupOps, dedupNext, walkNext]
    by_cases hc : d.current ≥ 0
    · rw [if_pos hc]
      refine ⟨_, rfl, j, hr, hinv, .inl ?_⟩
      dsimp only
      rcases h with ⟨h1, h2, _, hk⟩ | ⟨_, hcur, _, hk⟩ <;> exact ⟨by omega, by omega, fun _ => by omega, by omega⟩
    · rw [if_neg hc]
      refine ⟨_, rfl, j, hr, hinv, ?_⟩
      rcases h with ⟨h1, h2, h3, hk⟩ | ⟨_, _, _, _⟩
      · exact .inl ⟨h1, h2, h3, by omega⟩
      · omega
  get := by
    intro d k ⟨j, hr, hinv, h⟩
    simp only [dedupOps, dedupGet]
    by_cases hneg : d.current < 0
    · rw [if_pos hneg, walkGet_of_not _ (.inl _)]
      rcases h with ⟨_, _, _, hk⟩ | ⟨_, _, _, _⟩ <;> omega
    · rw [if_neg hneg]
      by_cases hin : d.current < d.stack.length
      · have hk : k = d.current := by
          rcases h with ⟨_, _, _, hk⟩ | ⟨_, _, hst, _⟩
          · exact hk
          · rw [hst] at hin; simp at hin; omega
        have hlt : d.current.toNat < d.stack.length := by omega
        have hidx : Go.index d.stack d.current = .ok (d.stack[d.current.toNat]'hlt) := by
          simp [Go.index, show 0 ≤ d.current by omega, List.getElem?_eq_getElem hlt]
        rw [if_pos hin, hidx, hk, hinv, walkGet_append_left _ _ _ hin, walkGet_of_lt _ (by omega) hin]
      · rw [if_neg hin, hs.get _ _ hr]
        rcases h with ⟨_, h2, hj, hk⟩ | ⟨hj, _, hst, hk⟩
        · -- past the oldest entry
          have hcur : d.current = d.stack.length := by omega
          rw [hj hcur, pending_nil V _ (by omega), List.append_nil] at hinv
          rw [hj hcur, walkGet_of_not V (.inr (Int.le_refl _)), walkGet_of_not _ (.inr _)]
          rw [hk, hcur, hinv]
          exact Int.le_refl _
        · rw [hj, hk, walkGet_of_not V (.inl (by omega)), walkGet_of_not _ (.inl (by omega))]

theorem dedup_init {σ : Type} (V : List Cmd) (R : σ → Int → Prop) (c : σ) (h : R c (-1)) :
    Rdd V R (newDedup c) (-1) :=
  ⟨-1, h, rfl, .inr ⟨rfl, rfl, rfl, rfl⟩⟩

end C29
