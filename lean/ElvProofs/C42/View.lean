/-
One redirection of the fixed code, opened up once: the ways the source can end (`SrcView`), the frame
after the source read through `lookup` and `fopAt` (`Installed`), the three ways `releaseReplacedPort`
can end (`release_cases`).  Everything else that is proved of a redirection is proved against these
descriptions, not against the slices.
-/
import ElvProofs.C42.World
namespace C42
open Go

def RefusesValues (p : Port) : Prop := p.chan = .closed ∨ (p.chan = .nil ∧ p.stop = true)

theorem fileRedirPort_refuses (pid : Nat) (m : Mode) (h : Nat) : RefusesValues (fileRedirPort pid m h) := by
  unfold fileRedirPort RefusesValues
  split
  · exact Or.inl rfl
  · exact Or.inr ⟨rfl, rfl⟩

theorem closedPort_refuses (pid : Nat) : RefusesValues (closedPort pid) := Or.inr ⟨rfl, rfl⟩

theorem fileRedirPort_pid (pid : Nat) (m : Mode) (h : Nat) : (fileRedirPort pid m h).pid = pid := by
  unfold fileRedirPort; split <;> rfl

theorem fileRedirPort_file (pid : Nat) (m : Mode) (h : Nat) : (fileRedirPort pid m h).file = some h := by
  unfold fileRedirPort; split <;> rfl


/-- The ways `installSrc` ends in the fixed code.  `spec` is what the
specification makes of the same source in the same table. -/
inductive SrcView (st : St) (d : Nat) (mode : Mode) : Src → Res St → Prop
  | exc {src e} (spec : specSrc st.abs mode src = .error e) : SrcView st d mode src (.exc e)
  /-- `>&s`: the very port that is at `s` -/
  | dup {v s p} (hv : evalForFd Cfg.fixed v true = .ok s) (hs : s ≠ -1)
      (hp : lookup st.ports s.toNat = some p)
      (spec : specSrc st.abs mode (.fd v) = .ok (p, st.abs)) :
      SrcView st d mode (.fd v) (.ok { st with ports := st.ports.set d (some p) })
  /-- `>&-`, a file object, a field of a map: a port that did not exist, on nothing the form owns -/
  | fresh {src p} (pid : p.pid = st.nextPid) (refuses : RefusesValues p)
      (spec : specSrc st.abs mode src = .ok (p, { st.abs with nextPid := st.nextPid + 1 }))
      (noName : ∀ path, src ≠ .name path) :
      SrcView st d mode src
        (.ok { st with ports := st.ports.set d (some p), nextPid := st.nextPid + 1 })
  /-- a file name: a port that did not exist, on a file opened now, which the form owns -/
  | opened {path fs hd} (ho : openFile st.w.fs path (makeFlag mode) = .ok (fs, hd))
      (spec : specSrc st.abs mode (.name path) = .ok (fileRedirPort st.nextPid mode st.w.hs.length,
        { st.abs with fs := fs, nh := st.w.hs.length + 1, nextPid := st.nextPid + 1 })) :
      SrcView st d mode (.name path)
        (.ok { ports := st.ports.set d (some (fileRedirPort st.nextPid mode st.w.hs.length)),
               fops := st.fops.set d ⟨true, false⟩,
               w := { st.w with fs := fs, hs := st.w.hs ++ [hd] },
               nextPid := st.nextPid + 1 })

theorem installSrc_view (st : St) (d : Nat) (mode : Mode) (src : Src) :
    SrcView st d mode src (installSrc Cfg.fixed st d mode src) := by
  cases src with
  | fd v =>
    unfold installSrc
    dsimp only
    cases hv : evalForFd Cfg.fixed v true with
    | panic m => exact absurd hv (evalForFd_noPanic _ _ _ m)
    | exc e => exact .exc (by simp only [specSrc, hv])
    | ok s =>
      rw [Res.ok_bind]
      by_cases hs : s = -1
      · rw [if_pos hs]
        exact .fresh rfl (closedPort_refuses _) (by simp only [specSrc, hv, hs, if_true]; rfl) nofun
      · rw [if_neg hs]
        have h0 : 0 ≤ s := by
          rcases evalForFd_fixed_range hv with h | ⟨h, _⟩
          · exact h.1
          · exact absurd h hs
        have hspec : specSrc st.abs mode (.fd v) = match lookup st.ports s.toNat with
            | some p => .ok (p, st.abs)
            | none => .error (eInvalidFd s) := by
          simp only [specSrc, hv, hs, if_false]; rfl
        by_cases hge : s ≥ st.ports.length
        · rw [if_pos hge]
          have : lookup st.ports s.toNat = none := by
            unfold lookup; rw [List.getElem?_eq_none_iff.mpr (by omega)]; rfl
          exact .exc (by rw [hspec, this])
        · rw [if_neg hge, index_ports h0 (by omega), Res.ok_bind]
          cases hp : lookup st.ports s.toNat with
          | none => exact .exc (by rw [hspec, hp])
          | some p => exact .dup hv hs hp (by rw [hspec, hp])
  | name path =>
    have hspec : specSrc st.abs mode (.name path) = match openFile st.w.fs path (makeFlag mode) with
        | .error e => .error e.cls
        | .ok (fs, _) => .ok (fileRedirPort st.nextPid mode st.w.hs.length,
            { st.abs with fs := fs, nh := st.w.hs.length + 1, nextPid := st.nextPid + 1 }) := rfl
    unfold installSrc
    dsimp only
    cases ho : openFile st.w.fs path (makeFlag mode) with
    | error e => exact .exc (by rw [hspec, ho])
    | ok r =>
      obtain ⟨fs, hd⟩ := r
      exact .opened ho (by rw [hspec, ho])
  | fileObj h => exact .fresh (fileRedirPort_pid _ _ _) (fileRedirPort_refuses _ _ _) rfl nofun
  | map r w =>
    cases mode <;> cases r <;> cases w <;>
      first
        | exact .exc rfl
        | exact .fresh (fileRedirPort_pid _ _ _) (fileRedirPort_refuses _ _ _) rfl nofun
  | other => exact .exc rfl
  | many k => exact .exc rfl
  | fail => exact .exc rfl

theorem installSrc_noPanic_fixed (st : St) (d : Nat) (mode : Mode) (src : Src) :
    NoPanic (installSrc Cfg.fixed st d mode src) := by
  intro m h
  have hv := installSrc_view st d mode src
  rw [h] at hv
  cases hv

/-- The frame in which the source is evaluated: both slices grown, ownership of `d` reset. -/
def midSt (st : St) (d : Nat) : St :=
  { ports := grown st.ports d none,
    fops := (grown st.fops d Fop.unowned).set d Fop.unowned,
    w := st.w, nextPid := st.nextPid }

theorem midSt_ports_lt (st : St) (d : Nat) : d < (midSt st d).ports.length := grown_length_gt _ _ _

theorem midSt_lookup_set (st : St) (d : Nat) (p : Option Port) (n : Nat) :
    lookup ((midSt st d).ports.set d p) n = if n = d then p else lookup st.ports n := by
  rw [lookup_set _ _ _ _ (midSt_ports_lt st d)]
  exact congrArg _ (lookup_grown _ _ _)

theorem midSt_fopAt (st : St) (d n : Nat) :
    fopAt (midSt st d).fops n = if n = d then Fop.unowned else fopAt st.fops n := by
  show fopAt ((grown st.fops d Fop.unowned).set d Fop.unowned) n = _
  rw [fopAt_set _ _ _ _ (grown_length_gt _ _ _), fopAt_grown]

theorem midSt_fopAt_set (st : St) (d : Nat) (f : Fop) (n : Nat) :
    fopAt ((midSt st d).fops.set d f) n = if n = d then f else fopAt st.fops n := by
  have hlt : d < (midSt st d).fops.length := by
    show d < ((grown st.fops d Fop.unowned).set d Fop.unowned).length
    rw [List.length_set]; exact grown_length_gt _ _ _
  rw [fopAt_set _ _ _ _ hlt, midSt_fopAt]
  split <;> rfl

/-- The frame `st2` after the source of a redirection to `d` has been dealt
with, relative to the frame `st` before the redirection: table and ownership
differ at `d` only. -/
structure Installed (st : St) (d : Nat) (st2 : St) : Prop where
  tbl : ∀ n, n ≠ d → lookup st2.ports n = lookup st.ports n
  own : ∀ n, n ≠ d → fopAt st2.fops n = fopAt st.fops n
  closedChans : st2.w.closedChans = st.w.closedChans
  /-- the new entry is an entry of the old table (`>&s`; a failed source keeps
  the old entry: `s = d`), or a port that did not exist -/
  port : (∃ s, lookup st2.ports d = lookup st.ports s ∧ st2.nextPid = st.nextPid) ∨
    (∃ p, lookup st2.ports d = some p ∧ p.pid = st.nextPid ∧ st2.nextPid = st.nextPid + 1)
  /-- the ownership of `d` has been reset and no file opened, or the new entry
  is a port on a file just opened, which it owns -/
  file : (fopAt st2.fops d = Fop.unowned ∧ st2.w = st.w) ∨
    (∃ p hd, lookup st2.ports d = some p ∧ fopAt st2.fops d = ⟨true, false⟩ ∧
      p.file = some st.w.hs.length ∧ st2.w.hs = st.w.hs ++ [hd] ∧ hd.isOpen = true)

theorem Installed.chan_d {st st2 : St} {d : Nat} (h : Installed st d st2) : (fopAt st2.fops d).chan = false := by
  rcases h.file with ⟨e, _⟩ | ⟨_, _, _, e, _⟩ <;> rw [e] <;> rfl

/-- A failed source leaves the old entry where it was. -/
theorem Installed.mid (st : St) (d : Nat) : Installed st d (midSt st d) where
  tbl n _ := lookup_grown _ _ _
  own n hn := by rw [midSt_fopAt, if_neg hn]
  closedChans := rfl
  port := Or.inl ⟨d, lookup_grown _ _ _, rfl⟩
  file := Or.inl ⟨by rw [midSt_fopAt, if_pos rfl], rfl⟩

theorem Installed.of_installSrc {st st2 : St} {d : Nat} {mode : Mode} {src : Src}
    (h : installSrc Cfg.fixed (midSt st d) d mode src = .ok st2) : Installed st d st2 := by
  have hv := installSrc_view (midSt st d) d mode src
  rw [h] at hv
  have hd : ∀ (p : Option Port), lookup ((midSt st d).ports.set d p) d = p := fun p => by
    rw [midSt_lookup_set, if_pos rfl]
  have hn : ∀ (p : Option Port) n, n ≠ d → lookup ((midSt st d).ports.set d p) n = lookup st.ports n :=
    fun p n hn => by rw [midSt_lookup_set, if_neg hn]
  cases hv with
  | dup hv hs hp =>
    exact ⟨hn _, fun n hn => by rw [midSt_fopAt, if_neg hn], rfl,
      Or.inl ⟨_, (hd _).trans (hp.symm.trans (lookup_grown _ _ _)), rfl⟩,
      Or.inl ⟨by rw [midSt_fopAt, if_pos rfl], rfl⟩⟩
  | fresh pid =>
    exact ⟨hn _, fun n hn => by rw [midSt_fopAt, if_neg hn], rfl,
      Or.inr ⟨_, hd _, pid, rfl⟩, Or.inl ⟨by rw [midSt_fopAt, if_pos rfl], rfl⟩⟩
  | opened ho =>
    exact ⟨hn _, fun n hn => by rw [midSt_fopAt_set, if_neg hn], rfl,
      Or.inr ⟨_, hd _, fileRedirPort_pid _ _ _, rfl⟩,
      Or.inr ⟨_, _, hd _, by rw [midSt_fopAt_set, if_pos rfl], fileRedirPort_file _ _ _, rfl,
        openFile_isOpen ho⟩⟩


/-- The three ways `release` can end: nothing was replaced; the replaced port
is still in the table, and the first entry that uses it takes the ownership
over; it is not, and what the form owned of it is closed. -/
theorem release_cases (st : St) (old : Option Port) (oldFop : Fop) :
    (old = none ∧ release st old oldFop = .ok st) ∨
    (∃ o i q st3, old = some o ∧ lookup st.ports i = some q ∧ q.pid = o.pid ∧
       release st old oldFop = .ok st3 ∧ st3.ports = st.ports ∧ st3.w = st.w ∧ st3.nextPid = st.nextPid ∧
       ∀ n, fopAt st3.fops n = if n = i then
         ⟨(fopAt st.fops i).file || oldFop.file, (fopAt st.fops i).chan || oldFop.chan⟩ else fopAt st.fops n) ∨
    (∃ o, old = some o ∧ (∀ i q, lookup st.ports i = some q → q.pid ≠ o.pid) ∧
       release st old oldFop = (oldFop.close (some o) st.w >>= fun w => .ok { st with w := w })) := by
  cases old with
  | none => exact Or.inl ⟨rfl, rfl⟩
  | some o =>
    refine Or.inr ?_
    unfold release
    dsimp only
    cases hf : st.ports.findIdx? (fun p => p.any (·.pid == o.pid)) with
    | some i =>
      refine Or.inl ?_
      obtain ⟨hlt, hp, _⟩ := List.findIdx?_eq_some_iff_getElem.mp hf
      cases hq : st.ports[i] with
      | none => rw [hq] at hp; cases hp
      | some q =>
        rw [hq] at hp
        have hl : lookup st.ports i = some q :=
          lookup_of_getElem? ((List.getElem?_eq_getElem hlt).trans (congrArg some hq))
        refine ⟨o, i, q, _, rfl, hl, by simpa using hp, rfl, rfl, rfl, rfl, fun n => ?_⟩
        show fopAt ((grown st.fops i Fop.unowned).modify i _) n = _
        rw [fopAt_modify _ _ _ _ (grown_length_gt _ _ _), fopAt_grown, fopAt_grown]
    | none =>
      refine Or.inr ⟨o, rfl, fun i q hl hpid => ?_, rfl⟩
      have := List.findIdx?_eq_none_iff.mp hf _ (List.mem_of_getElem? (getElem?_of_lookup hl))
      simp [hpid] at this

theorem release_shape {st st' : St} {old : Option Port} {f : Fop} (h : release st old f = .ok st') :
    st'.ports = st.ports ∧ st'.nextPid = st.nextPid ∧ st'.w.fs = st.w.fs
      ∧ st'.w.hs.length = st.w.hs.length := by
  rcases release_cases st old f with ⟨_, hr⟩ | ⟨_, _, _, st3, _, _, _, hr, e1, e2, e3, _⟩ | ⟨o, _, _, hr⟩
  · rw [hr] at h; cases h; exact ⟨rfl, rfl, rfl, rfl⟩
  · rw [hr] at h; cases h; exact ⟨e1, e3, by rw [e2], by rw [e2]⟩
  · rw [hr] at h
    obtain ⟨w, hw, hst⟩ := Res.bind_eq_ok.1 h
    cases hst
    obtain ⟨e1, e2, _⟩ := Fop.close_files hw
    exact ⟨rfl, rfl, e1, e2⟩

theorem release_other {st st' : St} {old : Option Port} {f : Fop} {hi : Nat}
    (h : release st old f = .ok st') (hne : ∀ o, old = some o → o.file ≠ some hi) :
    st'.w.hs[hi]? = st.w.hs[hi]? := by
  rcases release_cases st old f with ⟨_, hr⟩ | ⟨_, _, _, st3, _, _, _, hr, _, e2, _⟩ | ⟨o, ho, _, hr⟩
  · rw [hr] at h; cases h; rfl
  · rw [hr] at h; cases h; rw [e2]
  · rw [hr] at h
    obtain ⟨w, hw, hst⟩ := Res.bind_eq_ok.1 h
    cases hst
    rw [(Fop.close_files hw).2.2 hi, if_neg]
    rintro ⟨_, q, ⟨⟩, hq⟩
    exact hne o ho hq

theorem release_noPanic (st : St) (old : Option Port) (f : Fop) (h : f.chan = false) :
    NoPanic (release st old f) := by
  rcases release_cases st old f with ⟨_, hr⟩ | ⟨_, _, _, _, _, _, _, hr, _⟩ | ⟨o, _, _, hr⟩
  · rw [hr]; exact NoPanic.ok _
  · rw [hr]; exact NoPanic.ok _
  · obtain ⟨w', hw, _⟩ := Fop.close_ok f o st.w (fun hc => by rw [h] at hc; cases hc)
    rw [hr, hw]
    exact NoPanic.ok _

/-- One redirection of the fixed code: either the destination raises, or the destination is an fd
`d` in range, the source is dealt with in `midSt st d` (with an exception or without) and the
replaced port is released. -/
theorem execRedir_fixed_cases (st : St) (r : Redir) :
    (∃ e, evalDst Cfg.fixed r = .exc e ∧ execRedir Cfg.fixed st r = .ok ⟨st, some e⟩) ∨
    (∃ (d : Nat) (st2 : St) (exc : Option String), evalDst Cfg.fixed r = .ok (d : Int) ∧
      ((installSrc Cfg.fixed (midSt st d) d r.mode r.src = .ok st2 ∧ exc = none) ∨
       (∃ e, installSrc Cfg.fixed (midSt st d) d r.mode r.src = .exc e ∧ st2 = midSt st d ∧ exc = some e)) ∧
      Installed st d st2 ∧
      execRedir Cfg.fixed st r =
        (release st2 (lookup st.ports d) (fopAt st.fops d) >>= fun st3 => .ok ⟨st3, exc⟩)) := by
  cases hd : evalDst Cfg.fixed r with
  | panic m => exact absurd hd (evalDst_noPanic _ _ m)
  | exc e => exact Or.inl ⟨e, rfl, by unfold execRedir; rw [hd]⟩
  | ok dst =>
    obtain ⟨h0, h1⟩ := evalDst_fixed_range hd
    obtain ⟨d, rfl⟩ := Int.eq_ofNat_of_zero_le h0
    have he : execRedir Cfg.fixed st r = match installSrc Cfg.fixed (midSt st d) d r.mode r.src with
        | .panic m => .panic m
        | .exc e => release (midSt st d) (lookup st.ports d) (fopAt st.fops d) >>= fun st3 => .ok ⟨st3, some e⟩
        | .ok st2 => release st2 (lookup st.ports d) (fopAt st.fops d) >>= fun st3 => .ok ⟨st3, none⟩ := by
      unfold execRedir
      rw [hd]
      dsimp only
      rw [prepDst_fixed st h0 h1]
      rfl
    refine Or.inr ?_
    cases hi : installSrc Cfg.fixed (midSt st d) d r.mode r.src with
    | panic m => exact absurd hi (installSrc_noPanic_fixed _ _ _ _ m)
    | exc e =>
      rw [hi] at he
      exact ⟨d, _, some e, rfl, Or.inr ⟨e, hi, rfl, rfl⟩, Installed.mid st d, he⟩
    | ok st2 =>
      rw [hi] at he
      exact ⟨d, st2, none, rfl, Or.inl ⟨hi, rfl⟩, Installed.of_installSrc hi, he⟩

theorem execRedirs_keeps {cfg : Cfg} {I : St → Prop}
    (step : ∀ st r s, I st → execRedir cfg st r = .ok s → I s.st) :
    ∀ (rs : List Redir) {st : St} {s : Step}, I st → execRedirs cfg st rs = .ok s → I s.st := by
  intro rs
  induction rs with
  | nil => intro st s hI h; cases h; exact hI
  | cons r rs ih =>
    intro st s hI h
    unfold execRedirs at h
    obtain ⟨s1, h1, h2⟩ := Res.bind_eq_ok.1 h
    have hI1 := step st r s1 hI h1
    cases he : s1.exc with
    | some e => rw [he] at h2; cases h2; exact hI1
    | none => rw [he] at h2; exact ih hI1 h2

theorem execRedirs_returns {cfg : Cfg} {I : St → Prop}
    (step : ∀ st r, I st → ∃ s, execRedir cfg st r = .ok s ∧ I s.st) :
    ∀ (rs : List Redir) (st : St), I st → ∃ s, execRedirs cfg st rs = .ok s ∧ I s.st := by
  intro rs
  induction rs with
  | nil => intro st hI; exact ⟨_, rfl, hI⟩
  | cons r rs ih =>
    intro st hI
    unfold execRedirs
    obtain ⟨s, hs, hI'⟩ := step st r hI
    rw [hs, Res.ok_bind]
    cases s.exc with
    | some e => exact ⟨_, rfl, hI'⟩
    | none => exact ih s.st hI'

end C42
