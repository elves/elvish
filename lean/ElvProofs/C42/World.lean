/-
The world of files, open handles and value channels: what opening, writing, reading and closing do to it.
-/
import ElvProofs.C42.Basic
namespace C42
open Go


theorem FS.get_cons (q : String) (m : Node) (rest : FS) (p : String) :
    FS.get ((q, m) :: rest) p = if q = p then some m else FS.get rest p := by
  unfold FS.get
  by_cases h : q = p
  · simp [List.find?, h]
  · have : (q == p) = false := by simpa using h
    simp [List.find?, this, h]

theorem FS.put_cons (q : String) (m : Node) (rest : FS) (p : String) (n : Node) :
    FS.put ((q, m) :: rest) p n = if q = p then (q, n) :: rest else (q, m) :: FS.put rest p n := by
  by_cases h : q = p
  · simp [FS.put, h]
  · have : (q == p) = false := by simpa using h
    simp [FS.put, this, h]

theorem FS.get_put_same (fs : FS) (p : String) (n : Node) : (FS.put fs p n).get p = some n := by
  induction fs with
  | nil => simp [FS.put, FS.get]
  | cons e rest ih =>
    obtain ⟨q, m⟩ := e
    rw [FS.put_cons]
    by_cases h : q = p
    · simp [h, FS.get_cons]
    · simp [h, FS.get_cons, ih]

theorem FS.get_put_other (fs : FS) (p q : String) (n : Node) (hne : q ≠ p) :
    (FS.put fs p n).get q = fs.get q := by
  have hpq : ¬ p = q := fun e => hne e.symm
  induction fs with
  | nil => simp [FS.put, FS.get_cons, hpq]
  | cons e rest ih =>
    obtain ⟨r, m⟩ := e
    rw [FS.put_cons]
    by_cases h : r = p
    · simp [h, FS.get_cons, hpq]
    · simp [h, FS.get_cons, ih]


theorem openFile_isOpen {fs fs' : FS} {path : String} {fl : OpenFlag} {hd : Handle}
    (h : openFile fs path fl = .ok (fs', hd)) : hd.isOpen = true := by
  unfold openFile at h
  dsimp only at h
  split at h
  · cases h
  · split at h
    · cases h
    · cases h; rfl
  · cases h; rfl
  · split at h
    · cases h; rfl
    · cases h

/-- The content of a regular file, `[]` when it does not exist yet. -/
def contentOr (old : Option Bytes) : Bytes := old.elim [] id

theorem openFile_regular {fs fs' : FS} {path : String} {mode : Mode} {old : Option Bytes} {hd : Handle}
    (hfile : fs.get path = old.map Node.file)
    (h : openFile fs path (makeFlag mode) = .ok (fs', hd)) :
    hd = ⟨path, 0, (makeFlag mode).rd, (makeFlag mode).wr, (makeFlag mode).app, true⟩ ∧
    (∀ q, q ≠ path → fs'.get q = fs.get q) ∧
    (match mode with
      | .read => ∃ data, old = some data ∧ fs'.get path = some (.file data)
      | .write => fs'.get path = some (.file [])
      | .append => fs'.get path = some (.file (contentOr old))
      | .readWrite => fs'.get path = some (.file (contentOr old))) := by
  unfold openFile at h
  rw [hfile] at h
  cases old with
  | none =>
    cases mode <;> simp [makeFlag] at h <;> obtain ⟨h1, h2⟩ := h <;> subst h1 <;> subst h2 <;>
      refine ⟨rfl, fun q hq => FS.get_put_other _ _ _ _ hq, ?_⟩ <;>
      simp [FS.get_put_same, contentOr]
  | some data =>
    cases mode <;> simp [makeFlag] at h <;> obtain ⟨h1, h2⟩ := h <;> subst h1 <;> subst h2
    · exact ⟨rfl, fun q hq => rfl, data, rfl, hfile⟩
    · exact ⟨rfl, fun q hq => FS.get_put_other _ _ _ _ hq, FS.get_put_same _ _ _⟩
    · exact ⟨rfl, fun q hq => rfl, hfile⟩
    · exact ⟨rfl, fun q hq => rfl, hfile⟩


theorem writeAt_zero (old d : Bytes) : writeAt old 0 d = d ++ old.drop d.length := by
  simp [writeAt]

theorem writeHandle_ok {w : World} {hi : Nat} {hd : Handle} {data : Bytes} (d : Bytes)
    (hh : w.hs[hi]? = some hd) (ho : hd.isOpen = true) (hw : hd.wr = true)
    (hf : w.fs.get hd.path = some (.file data)) :
    ∃ w', writeHandle w (some hi) d = .ok w' ∧
      w'.fs.get hd.path = some (.file (if hd.app then data ++ d else writeAt data hd.pos d)) ∧
      ∀ q, q ≠ hd.path → w'.fs.get q = w.fs.get q := by
  unfold writeHandle
  simp only [hh, ho, hw, hf, Bool.not_true, Bool.false_eq_true, if_false]
  cases ha : hd.app
  · exact ⟨_, rfl, by simp [FS.get_put_same], fun q hq => FS.get_put_other _ _ _ _ hq⟩
  · exact ⟨_, rfl, by simp [FS.get_put_same], fun q hq => FS.get_put_other _ _ _ _ hq⟩

theorem writeHandle_readonly {w : World} {hi : Nat} {hd : Handle} (d : Bytes)
    (hh : w.hs[hi]? = some hd) (ho : hd.isOpen = true) (hw : hd.wr = false) :
    writeHandle w (some hi) d = .error "w-ebadf" := by
  unfold writeHandle
  simp [hh, ho, hw]

theorem readHandle_ok {w : World} {hi : Nat} {hd : Handle} {data : Bytes}
    (hh : w.hs[hi]? = some hd) (ho : hd.isOpen = true) (hr : hd.rd = true)
    (hf : w.fs.get hd.path = some (.file data)) :
    ∃ w', readHandle w (some hi) = .ok (w', data.drop hd.pos) := by
  unfold readHandle
  simp [hh, ho, hr, hf]

def OpenEq (w w' : World) : Prop :=
  ∀ k : Nat, (w'.hs[k]?).map Handle.isOpen = (w.hs[k]?).map Handle.isOpen

theorem OpenEq.refl (w : World) : OpenEq w w := fun _ => rfl

theorem OpenEq.trans {a b c : World} (h1 : OpenEq a b) (h2 : OpenEq b c) : OpenEq a c :=
  fun k => (h2 k).trans (h1 k)

theorem OpenEq.of_hs {w w' : World} (h : w'.hs = w.hs) : OpenEq w w' := by
  intro k; rw [h]

theorem OpenEq.set_pos {w w' : World} {hi : Nat} {hd : Handle} (hh : w.hs[hi]? = some hd) (p : Nat)
    (h : w'.hs = w.hs.set hi { hd with pos := p }) : OpenEq w w' := by
  intro k
  rw [h, List.getElem?_set]
  by_cases e : hi = k
  · subst e
    rw [if_pos rfl, if_pos (List.getElem?_eq_some_iff.mp hh).1, hh]
    rfl
  · rw [if_neg e]

theorem writeHandle_openEq {w w' : World} {fo : Option Nat} {d : Bytes}
    (h : writeHandle w fo d = .ok w') : OpenEq w w' := by
  unfold writeHandle at h
  cases fo with
  | none => cases h
  | some hi =>
    dsimp only at h
    cases hh : w.hs[hi]? with
    | none => rw [hh] at h; cases h
    | some hd =>
      rw [hh] at h
      dsimp only at h
      split at h
      · cases h
      · split at h
        · cases h
        · split at h
          · split at h
            · cases h; exact OpenEq.of_hs rfl
            · cases h; exact OpenEq.set_pos hh _ rfl
          · cases h

theorem readHandle_openEq {w w' : World} {fo : Option Nat} {d : Bytes}
    (h : readHandle w fo = .ok (w', d)) : OpenEq w w' := by
  unfold readHandle at h
  cases fo with
  | none => cases h
  | some hi =>
    dsimp only at h
    cases hh : w.hs[hi]? with
    | none => rw [hh] at h; cases h
    | some hd =>
      rw [hh] at h
      dsimp only at h
      split at h
      · cases h
      · split at h
        · cases h
        · split at h
          · cases h; exact OpenEq.set_pos hh _ rfl
          · cases h
          · cases h


/-- `Frame.ValueOutput` and `Put` once port 1 is known. -/
theorem valueOutput_port {cfg : Cfg} {st : St} {p : Port} (v : Bytes) (hp : st.ports[1]? = some (some p)) :
    valueOutput cfg st v =
      if cfg.readEndVO && p.pipeReadEnd then .ok (st, some eNoValueOutput)
      else match p.chan with
      | .closed => if cfg.inputPortVO then .ok (st, some eNoValueOutput) else .panic "send on closed channel"
      | .nil => if p.stop then .ok (st, some eNoValueOutput) else .exc "BLOCK"
      | .live id =>
        if st.w.closedChans.contains id then .panic "send on closed channel"
        else .ok ({ st with w := { st.w with sent := st.w.sent ++ [(id, v)] } }, none) := by
  unfold valueOutput
  rw [index_eq_ok_iff.mpr ⟨by omega, hp⟩, Res.ok_bind]
  rfl

theorem valueOutput_keeps {cfg : Cfg} {s s' : St} {v : Bytes} {e : Option String}
    (h : valueOutput cfg s v = .ok (s', e)) : s'.fops = s.fops ∧ OpenEq s.w s'.w := by
  unfold valueOutput at h
  obtain ⟨p, hp, h⟩ := Res.bind_eq_ok.1 h
  cases p with
  | none => cases h
  | some p =>
    dsimp only at h
    split at h
    · cases h; exact ⟨rfl, OpenEq.refl _⟩
    · split at h
      · split at h
        · cases h; exact ⟨rfl, OpenEq.refl _⟩
        · cases h
      · split at h
        · cases h; exact ⟨rfl, OpenEq.refl _⟩
        · cases h
      · split at h
        · cases h
        · cases h; exact ⟨rfl, OpenEq.of_hs rfl⟩

theorem byteOutput_keeps {s s' : St} {d : Bytes} {e : Option String}
    (h : byteOutput s d = .ok (s', e)) : s'.fops = s.fops ∧ OpenEq s.w s'.w := by
  unfold byteOutput at h
  obtain ⟨p, _, h⟩ := Res.bind_eq_ok.1 h
  cases p with
  | none => cases h
  | some p =>
    dsimp only at h
    cases hw : writeHandle s.w p.file d with
    | error e' => rw [hw] at h; cases h; exact ⟨rfl, OpenEq.refl _⟩
    | ok w' => rw [hw] at h; cases h; exact ⟨rfl, writeHandle_openEq hw⟩

theorem closeHandle_get (w : World) (fo : Option Nat) (h : Nat) :
    (closeHandle w fo).hs[h]? =
      if fo = some h then (w.hs[h]?).map (fun hd => { hd with isOpen := false }) else w.hs[h]? := by
  unfold closeHandle
  cases fo with
  | none => simp
  | some k =>
    dsimp only
    cases hk : w.hs[k]? with
    | none =>
      dsimp only
      by_cases e : k = h
      · subst e; simp [hk]
      · simp [e]
    | some hd =>
      simp only [List.getElem?_set]
      by_cases e : k = h
      · subst e
        rw [if_pos rfl, if_pos (List.getElem?_eq_some_iff.mp hk).1, if_pos rfl, hk]
        rfl
      · simp [e]

theorem closeHandle_rest (w : World) (fo : Option Nat) :
    (closeHandle w fo).fs = w.fs ∧ (closeHandle w fo).closedChans = w.closedChans
      ∧ (closeHandle w fo).hs.length = w.hs.length := by
  unfold closeHandle
  cases fo with
  | none => exact ⟨rfl, rfl, rfl⟩
  | some hi =>
    dsimp only
    cases w.hs[hi]? with
    | none => exact ⟨rfl, rfl, rfl⟩
    | some hd => exact ⟨rfl, rfl, List.length_set⟩

theorem closed_of_map {x : Option Handle} {hd : Handle}
    (h : x.map (fun hd => { hd with isOpen := false }) = some hd) : hd.isOpen = false := by
  cases x with
  | none => cases h
  | some y => cases h; rfl

theorem closeChan_eq_ok {w w' : World} {c : Chan} :
    closeChan w c = .ok w' ↔
      ∃ id, c = .live id ∧ id ∉ w.closedChans ∧ w' = { w with closedChans := id :: w.closedChans } := by
  unfold closeChan
  cases c with
  | nil => simp
  | closed => simp
  | live id =>
    dsimp only
    cases hc : w.closedChans.contains id
    · have : id ∉ w.closedChans := fun hm => by rw [List.contains_iff_mem.mpr hm] at hc; cases hc
      simp [this, eq_comm]
    · have : id ∈ w.closedChans := List.contains_iff_mem.mp hc
      simp [this]

/-- The file part of `formOwnedPort.close`. -/
def Fop.closeFile (f : Fop) (p : Port) (w : World) : World :=
  if f.file then closeHandle w p.file else w

theorem Fop.close_unowned (p : Option Port) (w : World) : Fop.unowned.close p w = .ok w := rfl

theorem Fop.close_some (f : Fop) (p : Port) (w : World) :
    f.close (some p) w =
      if f.chan then closeChan (f.closeFile p w) p.chan else .ok (f.closeFile p w) := by
  obtain ⟨file, chan⟩ := f
  cases file <;> cases chan <;> rfl

theorem Fop.closeFile_rest (f : Fop) (p : Port) (w : World) :
    (f.closeFile p w).fs = w.fs ∧ (f.closeFile p w).closedChans = w.closedChans
      ∧ (f.closeFile p w).hs.length = w.hs.length := by
  unfold Fop.closeFile
  split
  · exact closeHandle_rest _ _
  · exact ⟨rfl, rfl, rfl⟩

theorem Fop.close_files {f : Fop} {p : Option Port} {w w' : World} (h : f.close p w = .ok w') :
    w'.fs = w.fs ∧ w'.hs.length = w.hs.length ∧
    ∀ k, w'.hs[k]? = if f.file = true ∧ ∃ q, p = some q ∧ q.file = some k
      then (w.hs[k]?).map (fun hd => { hd with isOpen := false }) else w.hs[k]? := by
  cases p with
  | none =>
    unfold Fop.close at h
    split at h
    · cases h
      exact ⟨rfl, rfl, fun k => by rw [if_neg (fun hc => nomatch hc.2)]⟩
    · cases h
  | some q =>
    obtain ⟨h1, _, h2⟩ := Fop.closeFile_rest f q w
    have h3 : ∀ k, (f.closeFile q w).hs[k]? = if f.file = true ∧ ∃ q', some q = some q' ∧ q'.file = some k
        then (w.hs[k]?).map (fun hd => { hd with isOpen := false }) else w.hs[k]? := by
      intro k
      unfold Fop.closeFile
      by_cases hf : f.file = true
      · rw [if_pos hf, closeHandle_get]
        simp [hf]
      · rw [if_neg hf, if_neg (fun hc => hf hc.1)]
    rw [Fop.close_some] at h
    split at h
    · obtain ⟨id, _, _, e⟩ := closeChan_eq_ok.mp h
      subst e
      exact ⟨h1, h2, h3⟩
    · cases h
      exact ⟨h1, h2, h3⟩

theorem Fop.close_ok (f : Fop) (p : Port) (w : World)
    (h : f.chan = true → ∃ id, p.chan = .live id ∧ id ∉ w.closedChans) :
    ∃ w', f.close (some p) w = .ok w' ∧
      ∀ id, id ∈ w'.closedChans ↔ (id ∈ w.closedChans ∨ (f.chan = true ∧ p.chan = .live id)) := by
  obtain ⟨_, hcc, _⟩ := Fop.closeFile_rest f p w
  rw [Fop.close_some]
  by_cases hf : f.chan = true
  · obtain ⟨id, hid, hnc⟩ := h hf
    rw [if_pos hf]
    refine ⟨_, closeChan_eq_ok.mpr ⟨id, hid, by rw [hcc]; exact hnc, rfl⟩, fun id' => ?_⟩
    simp only [List.mem_cons, hcc, hid, hf, Chan.live.injEq, true_and]
    constructor
    · rintro (e | e)
      · exact Or.inr e.symm
      · exact Or.inl e
    · rintro (e | e)
      · exact Or.inr e
      · exact Or.inl e.symm
  · rw [if_neg hf]
    exact ⟨_, rfl, fun id => by rw [hcc]; simp [hf]⟩

end C42
