/-
The ownership invariants of a form's frame across one redirection of the fixed code: `PidInv` (`pid`
is the identity of a `*Port`) and `FileInv T` for a set `T` of tracked files (those the form owned
when it started, and every file opened later); files outside `T` are never touched.
-/
import ElvProofs.C42.View
namespace C42
open Go


structure PidInv (st : St) : Prop where
  lt : ∀ i p, lookup st.ports i = some p → p.pid < st.nextPid
  inj : ∀ i j p q, lookup st.ports i = some p → lookup st.ports j = some q → p.pid = q.pid → p = q

theorem Installed.same_port {st st2 : St} {d : Nat} (h : Installed st d st2) (hp : PidInv st)
    {o q : Port} {k i : Nat} (ho : lookup st.ports k = some o) (hq : lookup st2.ports i = some q)
    (e : q.pid = o.pid) : q = o := by
  by_cases hi : i = d
  · subst hi
    rcases h.port with ⟨s, hs, _⟩ | ⟨p', hp', hpid, _⟩
    · rw [hs] at hq
      exact hp.inj s k q o hq ho e
    · rw [hp'] at hq; cases hq
      have := hp.lt k o ho
      omega
  · rw [h.tbl i hi] at hq
    exact hp.inj i k q o hq ho e

theorem Installed.pidInv {st st2 : St} {d : Nat} (h : Installed st d st2) (hp : PidInv st) : PidInv st2 := by
  constructor
  · intro i p hl
    by_cases hi : i = d
    · subst hi
      rcases h.port with ⟨s, hs, hn⟩ | ⟨p', hp', hpid, hn⟩
      · rw [hs] at hl; rw [hn]; exact hp.lt s p hl
      · rw [hp'] at hl; cases hl; omega
    · rw [h.tbl i hi] at hl
      have := hp.lt i p hl
      rcases h.port with ⟨_, _, hn⟩ | ⟨_, _, _, hn⟩ <;> omega
  · intro i j p q hi hj e
    by_cases hjd : j = d
    · by_cases hid : i = d
      · rw [hid, ← hjd, hj] at hi; cases hi; rfl
      · rw [h.tbl i hid] at hi
        exact (h.same_port hp hi hj e.symm).symm
    · rw [h.tbl j hjd] at hj
      exact h.same_port hp hj hi e

theorem release_pidInv {st st' : St} {old : Option Port} {f : Fop} (h : release st old f = .ok st')
    (hp : PidInv st) : PidInv st' := by
  obtain ⟨e1, e2, _, _⟩ := release_shape h
  exact ⟨by rw [e1, e2]; exact hp.lt, by rw [e1]; exact hp.inj⟩

theorem execRedir_pidInv {st : St} {r : Redir} {s : Step} (h : execRedir Cfg.fixed st r = .ok s)
    (hp : PidInv st) : PidInv s.st := by
  rcases execRedir_fixed_cases st r with ⟨e, _, he⟩ | ⟨d, st2, exc, _, _, hin, he⟩
  · rw [he] at h; cases h; exact hp
  · rw [he] at h
    obtain ⟨st3, hr, h3⟩ := Res.bind_eq_ok.1 h
    cases h3
    exact release_pidInv hr (hin.pidInv hp)

theorem execRedirs_pidInv (rs : List Redir) : ∀ {st : St} {s : Step}, execRedirs Cfg.fixed st rs = .ok s →
    PidInv st → PidInv s.st :=
  fun h hp => execRedirs_keeps (fun _ _ _ hp h => execRedir_pidInv h hp) rs hp h

def OwnsFile (st : St) (h : Nat) : Prop :=
  ∃ i p, (fopAt st.fops i).file = true ∧ lookup st.ports i = some p ∧ p.file = some h

structure FileInv (T : Nat → Prop) (st : St) : Prop where
  /-- every file opened from now on is tracked -/
  fresh : ∀ h, st.w.hs.length ≤ h → T h
  /-- a `File` flag is set only where there is a port, and its file is tracked -/
  owner : ∀ i, (fopAt st.fops i).file = true → ∃ p, lookup st.ports i = some p ∧ ∀ h, p.file = some h → T h
  /-- a tracked file that is open is owned by an entry of the table -/
  openOwned : ∀ h hd, T h → st.w.hs[h]? = some hd → hd.isOpen = true → OwnsFile st h

/-- The invariant while the replaced port is in limbo (taken out of the table,
not yet released): an open tracked file may be owned by it. -/
theorem Installed.fileMid {T : Nat → Prop} {st st2 : St} {d : Nat} (hin : Installed st d st2)
    (hf : FileInv T st) :
    (∀ h, st2.w.hs.length ≤ h → T h) ∧
    (∀ i, (fopAt st2.fops i).file = true → ∃ p, lookup st2.ports i = some p ∧ ∀ h, p.file = some h → T h) ∧
    (∀ h hd, T h → st2.w.hs[h]? = some hd → hd.isOpen = true →
      OwnsFile st2 h ∨ ((fopAt st.fops d).file = true ∧ ∃ o, lookup st.ports d = some o ∧ o.file = some h)) ∧
    (∀ h, ¬ T h → st2.w.hs[h]? = st.w.hs[h]?) := by
  have keep : ∀ h, OwnsFile st h →
      OwnsFile st2 h ∨ ((fopAt st.fops d).file = true ∧ ∃ o, lookup st.ports d = some o ∧ o.file = some h) := by
    rintro h ⟨i, p, hfi, hl, hpf⟩
    by_cases hid : i = d
    · subst hid; exact Or.inr ⟨hfi, p, hl, hpf⟩
    · exact Or.inl ⟨i, p, by rw [hin.own i hid]; exact hfi, by rw [hin.tbl i hid]; exact hl, hpf⟩
  have others : ∀ i, i ≠ d → (fopAt st2.fops i).file = true →
      ∃ p, lookup st2.ports i = some p ∧ ∀ h, p.file = some h → T h := by
    intro i hid hi
    rw [hin.own i hid] at hi
    rw [hin.tbl i hid]
    exact hf.owner i hi
  rcases hin.file with ⟨hfn, hw⟩ | ⟨p, hd0, hld, hfn, hpf, hhs, hop⟩
  · -- nothing opened, nothing owned at `d`
    refine ⟨by rw [hw]; exact hf.fresh, fun i hi => ?_, fun h hd hT hh ho => ?_, by intro h _; rw [hw]⟩
    · by_cases hid : i = d
      · rw [hid, hfn] at hi; cases hi
      · exact others i hid hi
    · rw [hw] at hh
      exact keep h (hf.openOwned h hd hT hh ho)
  · -- `d` owns the file just opened, which is tracked because it is new
    have hlen : st2.w.hs.length = st.w.hs.length + 1 := by rw [hhs]; simp
    refine ⟨fun h hh => hf.fresh h (by omega), fun i hi => ?_, fun h hd hT hh ho => ?_, fun h hT => ?_⟩
    · by_cases hid : i = d
      · subst hid
        refine ⟨p, hld, fun h hh => ?_⟩
        rw [hpf] at hh; cases hh
        exact hf.fresh _ (Nat.le_refl _)
      · exact others i hid hi
    · by_cases hlt : h < st.w.hs.length
      · rw [hhs, List.getElem?_append_left hlt] at hh
        exact keep h (hf.openOwned h hd hT hh ho)
      · have hh' := (List.getElem?_eq_some_iff.mp hh).1
        have : h = st.w.hs.length := by omega
        subst this
        exact Or.inl ⟨d, p, by rw [hfn], hld, hpf⟩
    · have : h < st.w.hs.length := Nat.lt_of_not_le fun hle => hT (hf.fresh h hle)
      rw [hhs, List.getElem?_append_left this]

theorem execRedir_fileInv {T : Nat → Prop} {st : St} {r : Redir} {s : Step}
    (h : execRedir Cfg.fixed st r = .ok s) (hp : PidInv st) (hf : FileInv T st) :
    FileInv T s.st ∧ ∀ h, ¬ T h → s.st.w.hs[h]? = st.w.hs[h]? := by
  rcases execRedir_fixed_cases st r with ⟨e, _, he⟩ | ⟨d, st2, exc, _, _, hin, he⟩
  · rw [he] at h; cases h; exact ⟨hf, fun _ _ => rfl⟩
  · rw [he] at h
    obtain ⟨st3, hr, h3⟩ := Res.bind_eq_ok.1 h
    cases h3
    obtain ⟨m1, m2, m3, m4⟩ := hin.fileMid hf
    rcases release_cases st2 (lookup st.ports d) (fopAt st.fops d) with
      ⟨hnone, hrel⟩ | ⟨o, i, q, st3', hold, hq, hpid, hrel, hports3, hw3, _, hown3⟩ | ⟨o, hold, hnf, hrel⟩
    · -- nothing was replaced
      rw [hrel] at hr; cases hr
      refine ⟨⟨m1, m2, fun h hd hT hh ho => (m3 h hd hT hh ho).resolve_right ?_⟩, m4⟩
      rintro ⟨_, o, ho', _⟩
      rw [hnone] at ho'; cases ho'
    · -- entry `i` holds the replaced port and adds its ownership to its own
      rw [hrel] at hr; cases hr
      have hqo : q = o := hin.same_port hp hold hq hpid
      subst hqo
      have hfile : ∀ n, (fopAt st3.fops n).file =
          ((fopAt st2.fops n).file || (decide (n = i) && (fopAt st.fops d).file)) := by
        intro n
        rw [hown3 n]
        by_cases hni : n = i
        · subst hni; simp
        · simp [hni]
      refine ⟨⟨by rw [hw3]; exact m1, fun n hn => ?_, fun h hd hT hh ho => ?_⟩,
        by intro h hT; rw [hw3]; exact m4 h hT⟩
      · rw [hports3]
        rw [hfile n] at hn
        simp only [Bool.or_eq_true, Bool.and_eq_true, decide_eq_true_eq] at hn
        rcases hn with hn | ⟨hni, hn⟩
        · exact m2 n hn
        · obtain ⟨p, hl, ht⟩ := hf.owner d hn
          rw [hold] at hl; cases hl
          exact ⟨q, hni ▸ hq, ht⟩
      · rw [hw3] at hh
        rcases m3 h hd hT hh ho with ⟨j, p, hj, hl, hpf⟩ | ⟨hof, o', ho', hof'⟩
        · exact ⟨j, p, by rw [hfile j, hj]; rfl, by rw [hports3]; exact hl, hpf⟩
        · rw [hold] at ho'; cases ho'
          exact ⟨i, q, by rw [hfile i, hof]; simp, by rw [hports3]; exact hq, hof'⟩
    · -- the replaced port is not in the table any more: what the form owned of it is closed
      rw [hrel] at hr
      obtain ⟨w3, hc, h3⟩ := Res.bind_eq_ok.1 hr
      cases h3
      obtain ⟨_, hlen, hg⟩ := Fop.close_files hc
      refine ⟨⟨fun h hh => m1 h (by rw [← hlen]; exact hh), m2, fun h hd hT hh ho => ?_⟩, fun h hT => ?_⟩
      · rw [show ({ st2 with w := w3 } : St).w.hs[h]? = w3.hs[h]? from rfl, hg h] at hh
        split at hh
        · rw [closed_of_map hh] at ho; cases ho
        · rename_i hno
          refine (m3 h hd hT hh ho).resolve_right ?_
          rintro ⟨hof, o', ho', hof'⟩
          rw [hold] at ho'; cases ho'
          exact hno ⟨hof, o, rfl, hof'⟩
      · rw [show ({ st2 with w := w3 } : St).w.hs[h]? = w3.hs[h]? from rfl, hg h, if_neg, m4 h hT]
        rintro ⟨hyes, _, ⟨⟩, hoh⟩
        obtain ⟨p, hl, ht⟩ := hf.owner d hyes
        rw [hold] at hl; cases hl
        exact hT (ht h hoh)

theorem execRedirs_fileInv {T : Nat → Prop} (rs : List Redir) {st : St} {s : Step}
    (h : execRedirs Cfg.fixed st rs = .ok s) (hp : PidInv st) (hf : FileInv T st) :
    FileInv T s.st ∧ ∀ h, ¬ T h → s.st.w.hs[h]? = st.w.hs[h]? :=
  (execRedirs_keeps (I := fun st' => PidInv st' ∧ FileInv T st' ∧ ∀ h, ¬ T h → st'.w.hs[h]? = st.w.hs[h]?)
    (fun _ _ _ ⟨hp', hf', hu'⟩ h' =>
      have ⟨hf'', hu''⟩ := execRedir_fileInv h' hp' hf'
      ⟨execRedir_pidInv h' hp', hf'', fun h hT => (hu'' h hT).trans (hu' h hT)⟩)
    rs ⟨hp, hf, fun _ _ => rfl⟩ h).2

end C42
