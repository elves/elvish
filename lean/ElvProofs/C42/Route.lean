/-
What a single successful redirection leaves at its destination, and what writing values through that port does.
-/
import ElvProofs.C42.View
namespace C42
open Go

/-- Every file a port of the table refers to has been allocated. -/
def PortsInRange (st : St) : Prop :=
  ∀ (j : Nat) (q : Port) (h : Nat), lookup st.ports j = some q → q.file = some h → h < st.w.hs.length

theorem portsInRange_of_all {st : St}
    (h : st.ports.all (fun p => p.all fun q => q.file.all (· < st.w.hs.length)) = true) : PortsInRange st := by
  intro j q k hl hf
  have := List.all_eq_true.mp h _ (List.mem_of_getElem? (getElem?_of_lookup hl))
  simpa [hf] using this

theorem valueOutput_refused {st : St} {p : Port} (v : Bytes) (hp : st.ports[1]? = some (some p))
    (hr : RefusesValues p) : valueOutput Cfg.fixed st v = .ok (st, some eNoValueOutput) := by
  rw [valueOutput_port v hp]
  split
  · rfl
  · rcases hr with h | ⟨h1, h2⟩
    · rw [h]; rfl
    · rw [h1]; simp [h2]

/-- `put x >&0` in `a | form`: the channel is closed by the writing side, nothing else may send to it. -/
theorem valueOutput_readEnd {st : St} {p : Port} (v : Bytes) (hp : st.ports[1]? = some (some p))
    (hr : p.pipeReadEnd = true) : valueOutput Cfg.fixed st v = .ok (st, some eNoValueOutput) := by
  rw [valueOutput_port v hp, if_pos (by rw [hr]; rfl)]

def Src.isFileOrClose : Src → Bool
  | .name _ => true
  | .fileObj _ => true
  | .map _ _ => true
  | .fd (.str t none) => t == "-"
  | _ => false

theorem evalForFd_of_isClose {v : FdVal} (h : (Src.fd v).isFileOrClose = true) :
    evalForFd Cfg.fixed v true = .ok (-1) := by
  cases v with
  | str t pp =>
    cases pp with
    | some k => cases h
    | none =>
      have ht : t = "-" := by simpa [Src.isFileOrClose] using h
      subst ht
      simp [evalForFd]
  | int n => cases h
  | other => cases h
  | many k => cases h
  | fail => cases h

theorem installSrc_refuses {st st' : St} {d : Nat} {mode : Mode} {src : Src}
    (hsrc : src.isFileOrClose = true) (h : installSrc Cfg.fixed st d mode src = .ok st') :
    ∃ p, st'.ports = st.ports.set d (some p) ∧ RefusesValues p := by
  have hv := installSrc_view st d mode src
  rw [h] at hv
  cases hv with
  | dup hv hs =>
    rw [evalForFd_of_isClose hsrc] at hv
    cases hv
    exact absurd rfl hs
  | fresh _ hr => exact ⟨_, rfl, hr⟩
  | opened => exact ⟨_, rfl, fileRedirPort_refuses _ _ _⟩


theorem execRedir_fixed_ok_inv {st : St} {r : Redir} {st' : St}
    (h : execRedir Cfg.fixed st r = .ok ⟨st', none⟩) :
    ∃ (d : Nat) (st1 : St), evalDst Cfg.fixed r = .ok (d : Int) ∧
      installSrc Cfg.fixed (midSt st d) d r.mode r.src = .ok st1 ∧
      release st1 (lookup st.ports d) (fopAt st.fops d) = .ok st' := by
  rcases execRedir_fixed_cases st r with ⟨e, _, he⟩ | ⟨d, st2, exc, hd, hsrc, _, he⟩
  · rw [he] at h; cases h
  · rw [he] at h
    obtain ⟨st3, hr, h3⟩ := Res.bind_eq_ok.1 h
    cases h3
    rcases hsrc with ⟨hi, _⟩ | ⟨_, _, _, hexc⟩
    · exact ⟨d, st2, hd, hi, hr⟩
    · cases hexc

theorem lookup_after_release {st st1 st' : St} {d : Nat} {p : Port} {old : Option Port} {f : Fop}
    (hp : st1.ports = (midSt st d).ports.set d (some p)) (hr : release st1 old f = .ok st') :
    lookup st'.ports d = some p := by
  rw [(release_shape hr).1, hp, midSt_lookup_set, if_pos rfl]

theorem execRedir_name_inv {st st' : St} {dstv : Option FdVal} {mode : Mode} {path : String}
    (hwf : PortsInRange st)
    (h : execRedir Cfg.fixed st ⟨dstv, mode, .name path⟩ = .ok ⟨st', none⟩) :
    ∃ dst fs' hd, evalDst Cfg.fixed ⟨dstv, mode, .name path⟩ = .ok dst ∧
      openFile st.w.fs path (makeFlag mode) = .ok (fs', hd) ∧
      lookup st'.ports dst.toNat = some (fileRedirPort st.nextPid mode st.w.hs.length) ∧
      st'.w.hs[st.w.hs.length]? = some hd ∧ st'.w.fs = fs' := by
  obtain ⟨d, st1, hd, hi, hr⟩ := execRedir_fixed_ok_inv h
  have hv := installSrc_view (midSt st d) d mode (.name path)
  rw [hi] at hv
  cases hv with
  | fresh _ _ _ noName => exact absurd rfl (noName path)
  | opened ho =>
    refine ⟨d, _, _, hd, ho, lookup_after_release rfl hr, ?_, (release_shape hr).2.2.1⟩
    have hne : ∀ o, lookup st.ports d = some o → o.file ≠ some st.w.hs.length := by
      intro o ho' hf
      have := hwf _ _ _ ho' hf
      omega
    rw [release_other hr hne]
    exact List.getElem?_concat_length

end C42
