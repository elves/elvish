/-
The one place where a redirection of the fixed code could panic is `close(p.Chan)` when the replaced
port is released.  A form that owns no value channel never gets there; a form that owns the channel
of its output pipe closes it at most once, because every redirection keeps `ChanInv`.
-/
import ElvProofs.C42.Own
namespace C42
open Go

/-- While the replaced port is in limbo, the channel owners of the table are
the old ones except `d`. -/
theorem Installed.chanMid {st st2 : St} {d : Nat} (hin : Installed st d st2) (i : Nat)
    (hi : (fopAt st2.fops i).chan = true) :
    i ≠ d ∧ (fopAt st.fops i).chan = true ∧ lookup st2.ports i = lookup st.ports i := by
  by_cases hid : i = d
  · rw [hid, hin.chan_d] at hi; cases hi
  · exact ⟨hid, by rw [← hin.own i hid]; exact hi, hin.tbl i hid⟩

@[reducible] def NoChanOwned (fops : List Fop) : Prop :=
  ∀ (i : Nat) (f : Fop), fops[i]? = some f → f.chan = false

theorem NoChanOwned.nil : NoChanOwned [] := by intro i f h; simp at h

theorem noChanOwned_iff {fops : List Fop} : NoChanOwned fops ↔ ∀ i, (fopAt fops i).chan = false := by
  constructor
  · intro h i
    cases hc : (fopAt fops i).chan
    · rfl
    · rw [h i _ (getElem?_of_chan hc)] at hc; cases hc
  · intro h i f hf
    rw [← fopAt_of_getElem? hf]; exact h i

theorem execRedir_fixed_ok (st : St) (r : Redir) (hn : NoChanOwned st.fops) :
    ∃ s, execRedir Cfg.fixed st r = .ok s ∧ NoChanOwned s.st.fops := by
  simp only [noChanOwned_iff] at hn ⊢
  rcases execRedir_fixed_cases st r with ⟨e, _, he⟩ | ⟨d, st2, exc, _, _, hin, he⟩
  · exact ⟨_, he, hn⟩
  · rw [he]
    have hn2 : ∀ i, (fopAt st2.fops i).chan = false := fun i => by
      cases hc : (fopAt st2.fops i).chan
      · rfl
      · have := (hin.chanMid i hc).2.1
        rw [hn i] at this; cases this
    rcases release_cases st2 (lookup st.ports d) (fopAt st.fops d) with
      ⟨_, hrel⟩ | ⟨o, i, q, st3, _, _, _, hrel, _, _, _, hown3⟩ | ⟨o, _, _, hrel⟩
    · rw [hrel]; exact ⟨_, rfl, hn2⟩
    · rw [hrel]
      refine ⟨_, rfl, fun n => ?_⟩
      rw [hown3 n]
      split
      · show ((fopAt st2.fops i).chan || (fopAt st.fops d).chan) = false
        rw [hn2 i, hn d]; rfl
      · exact hn2 n
    · obtain ⟨w3, hclose, _⟩ :=
        Fop.close_ok (fopAt st.fops d) o st2.w (fun hc => by rw [hn d] at hc; cases hc)
      rw [hrel, hclose]
      exact ⟨_, rfl, hn2⟩

theorem execRedirs_fixed_ok (rs : List Redir) : ∀ (st : St), NoChanOwned st.fops →
    ∃ s, execRedirs Cfg.fixed st rs = .ok s ∧ NoChanOwned s.st.fops :=
  execRedirs_returns (I := fun st => NoChanOwned st.fops) execRedir_fixed_ok rs


structure ChanInv (st : St) : Prop where
  owner : ∀ i, (fopAt st.fops i).chan = true →
    ∃ p id, lookup st.ports i = some p ∧ p.chan = .live id ∧ id ∉ st.w.closedChans
  uniq : ∀ i j p q, i ≠ j → (fopAt st.fops i).chan = true → (fopAt st.fops j).chan = true →
    lookup st.ports i = some p → lookup st.ports j = some q → p.chan ≠ q.chan

theorem Installed.chanInv {st st2 : St} {d : Nat} (hin : Installed st d st2) (hc : ChanInv st) : ChanInv st2 := by
  constructor
  · intro i hi
    obtain ⟨_, h1, h2⟩ := hin.chanMid i hi
    rw [h2, hin.closedChans]
    exact hc.owner i h1
  · intro i j p q hij hi hj hp hq
    obtain ⟨_, i1, i2⟩ := hin.chanMid i hi
    obtain ⟨_, j1, j2⟩ := hin.chanMid j hj
    rw [i2] at hp; rw [j2] at hq
    exact hc.uniq i j p q hij i1 j1 hp hq

theorem execRedir_chanInv (st : St) (r : Redir) (hp : PidInv st) (hc : ChanInv st) :
    ∃ s, execRedir Cfg.fixed st r = .ok s ∧ ChanInv s.st := by
  rcases execRedir_fixed_cases st r with ⟨e, _, he⟩ | ⟨d, st2, exc, _, _, hin, he⟩
  · exact ⟨_, he, hc⟩
  · rw [he]
    have hmid := hin.chanMid
    have hcc := hin.closedChans
    have hc2 := hin.chanInv hc
    -- the channel of the replaced port differs from every channel owned elsewhere
    have hdiff : ∀ n p o, (fopAt st.fops d).chan = true → lookup st.ports d = some o →
        (fopAt st2.fops n).chan = true → lookup st2.ports n = some p → o.chan ≠ p.chan := by
      intro n p o hd hold hn hl
      obtain ⟨hnd, hn1, hn2⟩ := hmid n hn
      rw [hn2] at hl
      exact hc.uniq d n o p (fun e => hnd e.symm) hd hn1 hold hl
    rcases release_cases st2 (lookup st.ports d) (fopAt st.fops d) with
      ⟨_, hrel⟩ | ⟨o, i, q, st3, hold, hq, hpid, hrel, hports3, hw3, _, hown3⟩ | ⟨o, hold, hnf, hrel⟩
    · rw [hrel, Res.ok_bind]
      exact ⟨_, rfl, hc2⟩
    · -- entry `i` holds the replaced port and adds its ownership to its own
      rw [hrel, Res.ok_bind]
      refine ⟨_, rfl, ?_⟩
      have hqo : q = o := hin.same_port hp hold hq hpid
      subst hqo
      have hsplit : ∀ n, (fopAt st3.fops n).chan = true →
          (fopAt st2.fops n).chan = true ∨ (n = i ∧ (fopAt st.fops d).chan = true) := by
        intro n hn
        rw [hown3 n] at hn
        by_cases hni : n = i
        · rw [if_pos hni] at hn
          rcases Bool.or_eq_true_iff.mp hn with hn | hn
          · exact Or.inl (hni ▸ hn)
          · exact Or.inr ⟨hni, hn⟩
        · rw [if_neg hni] at hn; exact Or.inl hn
      constructor
      · intro n hn
        rw [hports3, hw3]
        rcases hsplit n hn with h2 | ⟨hni, hd⟩
        · exact hc2.owner n h2
        · subst hni
          obtain ⟨p, id, hl, hch, hnc⟩ := hc.owner d hd
          rw [hold] at hl; cases hl
          exact ⟨q, id, hq, hch, by rw [hcc]; exact hnc⟩
      · intro a b p p' hab ha hb hpa hpb
        rw [hports3] at hpa hpb
        rcases hsplit a ha with ha2 | ⟨hai, hda⟩ <;> rcases hsplit b hb with hb2 | ⟨hbi, hdb⟩
        · exact hc2.uniq a b p p' hab ha2 hb2 hpa hpb
        · subst hbi
          rw [hq] at hpb; cases hpb
          exact fun e => hdiff a p q hdb hold ha2 hpa e.symm
        · subst hai
          rw [hq] at hpa; cases hpa
          exact hdiff b p' q hda hold hb2 hpb
        · exact absurd (hai.trans hbi.symm) hab
    · -- the replaced port is not in the table any more: its channel, if owned, is closed, once
      have hpre : (fopAt st.fops d).chan = true → ∃ id, o.chan = .live id ∧ id ∉ st2.w.closedChans := by
        intro hd
        obtain ⟨p, id, hl, hch, hnc⟩ := hc.owner d hd
        rw [hold] at hl; cases hl
        exact ⟨id, hch, by rw [hcc]; exact hnc⟩
      obtain ⟨w3, hclose, hmem⟩ := Fop.close_ok (fopAt st.fops d) o st2.w hpre
      rw [hrel, hclose, Res.ok_bind, Res.ok_bind]
      refine ⟨_, rfl, fun n hn => ?_, hc2.uniq⟩
      obtain ⟨p, id, hl, hch, hnc⟩ := hc2.owner n hn
      refine ⟨p, id, hl, hch, fun hin3 => ?_⟩
      rcases (hmem id).mp hin3 with h1 | ⟨hd, hoc⟩
      · exact hnc h1
      · exact hdiff n p o hd hold hn hl (by rw [hoc, hch])

theorem execRedirs_chanInv (rs : List Redir) (st : St) (hp : PidInv st) (hc : ChanInv st) :
    ∃ s, execRedirs Cfg.fixed st rs = .ok s ∧ PidInv s.st ∧ ChanInv s.st :=
  execRedirs_returns (I := fun st => PidInv st ∧ ChanInv st)
    (fun st r ⟨hp, hc⟩ =>
      have ⟨s, hs, hc'⟩ := execRedir_chanInv st r hp hc
      ⟨s, hs, execRedir_pidInv hs hp, hc'⟩)
    rs st ⟨hp, hc⟩

end C42
