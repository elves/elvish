/-
The port table the fixed code builds is the table of the specification (`ElvModel/C42/Spec.lean`),
redirection by redirection, through the abstraction `St.abs`.
-/
import ElvProofs.C42.View
namespace C42
open Go

def SpecSt.setPort (s : SpecSt) (d : Nat) (p : Port) : SpecSt :=
  { s with tbl := fun n => if n = d then some p else s.tbl n }

theorem specStep_eq (s : SpecSt) (r : Redir) :
    specStep s r = match specDst r with
      | .error e => .error e
      | .ok dst => match specSrc s r.mode r.src with
        | .error e => .error e
        | .ok (p, s') => .ok (s'.setPort dst p) := rfl

theorem abs_eq_of {st st' : St} (h1 : st'.ports = st.ports) (h2 : st'.nextPid = st.nextPid)
    (h3 : st'.w.fs = st.w.fs) (h4 : st'.w.hs.length = st.w.hs.length) : st'.abs = st.abs := by
  unfold St.abs; rw [h1, h2, h3, h4]

theorem midSt_abs (st : St) (d : Nat) : (midSt st d).abs = st.abs := by
  unfold St.abs
  have : lookup (midSt st d).ports = lookup st.ports := funext (lookup_grown _ _)
  rw [this]
  rfl

theorem abs_mk_set (st : St) (d : Nat) (p : Port) (hd : d < st.ports.length) (fo : List Fop)
    (w : World) (np : Nat) :
    St.abs ⟨st.ports.set d (some p), fo, w, np⟩ =
      SpecSt.setPort ⟨lookup st.ports, w.fs, w.hs.length, np⟩ d p := by
  unfold St.abs SpecSt.setPort
  have : lookup (st.ports.set d (some p)) = fun n => if n = d then some p else lookup st.ports n :=
    funext fun n => lookup_set _ _ _ _ hd
  simp only [this]

theorem abs_setPort (st : St) (d : Nat) (p : Port) (hd : d < st.ports.length) (fo : List Fop) :
    St.abs { st with ports := st.ports.set d (some p), fops := fo } = st.abs.setPort d p :=
  abs_mk_set st d p hd fo st.w st.nextPid

theorem installSrc_refines_ok {st st' : St} {d : Nat} {mode : Mode} {src : Src} (hd : d < st.ports.length)
    (h : installSrc Cfg.fixed st d mode src = .ok st') :
    ∃ p s', specSrc st.abs mode src = .ok (p, s') ∧ st'.abs = s'.setPort d p := by
  have hv := installSrc_view st d mode src
  rw [h] at hv
  cases hv with
  | dup _ _ _ spec => exact ⟨_, _, spec, abs_mk_set st d _ hd _ _ _⟩
  | fresh _ _ spec => exact ⟨_, _, spec, abs_mk_set st d _ hd _ _ _⟩
  | opened _ spec =>
    refine ⟨_, _, spec, ?_⟩
    rw [abs_mk_set st d _ hd, List.length_append]
    rfl

theorem installSrc_refines_exc {st : St} {d : Nat} {mode : Mode} {src : Src} {e : String}
    (h : installSrc Cfg.fixed st d mode src = .exc e) :
    specSrc st.abs mode src = .error e := by
  have hv := installSrc_view st d mode src
  rw [h] at hv
  cases hv with
  | exc spec => exact spec

theorem execRedir_refines {st : St} {r : Redir} {s : Step} (h : execRedir Cfg.fixed st r = .ok s) :
    (∀ e, s.exc = some e → specStep st.abs r = .error e ∧ s.st.abs = st.abs) ∧
    (s.exc = none → specStep st.abs r = .ok s.st.abs) := by
  rw [specStep_eq]
  unfold specDst
  rcases execRedir_fixed_cases st r with ⟨e, hd, he⟩ | ⟨d, st2, exc, hd, hsrc, _, he⟩
  · rw [he] at h; cases h
    rw [hd]
    exact ⟨fun e' he' => by cases he'; exact ⟨rfl, rfl⟩, fun he' => by cases he'⟩
  · rw [he] at h
    obtain ⟨st3, hr, h3⟩ := Res.bind_eq_ok.1 h
    cases h3
    obtain ⟨e1, e2, e3, e4⟩ := release_shape hr
    have h32 : st3.abs = st2.abs := abs_eq_of e1 e2 e3 e4
    rw [hd]
    dsimp only [Int.toNat_natCast]
    rcases hsrc with ⟨hi, rfl⟩ | ⟨e, hi, rfl, rfl⟩
    · obtain ⟨p, s', hs, ha⟩ := installSrc_refines_ok (midSt_ports_lt st d) hi
      rw [midSt_abs] at hs
      rw [hs, h32, ha]
      exact ⟨fun e' he' => (by cases he'), fun _ => rfl⟩
    · have hs := installSrc_refines_exc hi
      rw [midSt_abs] at hs
      rw [hs, h32, midSt_abs]
      exact ⟨fun e' he' => by cases he'; exact ⟨rfl, rfl⟩, fun he' => by cases he'⟩

theorem execRedirs_refines (rs : List Redir) : ∀ {st : St} {s : Step},
    execRedirs Cfg.fixed st rs = .ok s → specRedirs st.abs rs = (s.st.abs, s.exc) := by
  induction rs with
  | nil =>
    intro st s h
    unfold execRedirs at h; cases h; rfl
  | cons r rs ih =>
    intro st s h
    unfold execRedirs at h
    obtain ⟨s1, h1, h2⟩ := Res.bind_eq_ok.1 h
    obtain ⟨hexc, hok⟩ := execRedir_refines h1
    unfold specRedirs
    cases he : s1.exc with
    | some e =>
      rw [he] at h2
      cases h2
      obtain ⟨hs, ha⟩ := hexc e he
      rw [hs]
      simp only [ha]
    | none =>
      rw [he] at h2
      rw [hok he]
      exact ih h2

end C42
