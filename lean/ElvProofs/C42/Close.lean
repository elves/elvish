/-
The body of the form and the stage end: the actions of the body (`echo >&n`, `put >&n`, direct
writes, reads) move offsets and data but never open or close a file of the form's frame, and
`closeOwned` closes exactly the files of the entries whose `File` flag is set.
-/
import ElvProofs.C42.Own
namespace C42
open Go


/-- Entry `j` of the owned list, which goes with entry `k + j` of the table, owns the file `h`. -/
def Owns (ports : List (Option Port)) (fops : List Fop) (k h : Nat) : Prop :=
  ∃ j p, (fopAt fops j).file = true ∧ lookup ports (k + j) = some p ∧ p.file = some h

theorem owns_zero {st : St} {h : Nat} : Owns st.ports st.fops 0 h ↔ OwnsFile st h := by
  simp only [Owns, OwnsFile, Nat.zero_add]

theorem Owns.cons {ports : List (Option Port)} {f : Fop} {fs : List Fop} {k h : Nat} :
    Owns ports (f :: fs) k h ↔
      ((f.file = true ∧ ∃ p, lookup ports k = some p ∧ p.file = some h) ∨ Owns ports fs (k + 1) h) := by
  constructor
  · rintro ⟨j, p, hg, hl, hp⟩
    cases j with
    | zero => exact Or.inl ⟨hg, p, hl, hp⟩
    | succ j => exact Or.inr ⟨j, p, hg, by rw [← hl]; congr 1; omega, hp⟩
  · rintro (⟨hg, p, hl, hp⟩ | ⟨j, p, hg, hl, hp⟩)
    · exact ⟨0, p, hg, hl, hp⟩
    · exact ⟨j + 1, p, hg, by rw [← hl]; congr 1; omega, hp⟩

theorem closeOwned_get {ports : List (Option Port)} : ∀ {fops : List Fop} {k : Nat} {w w' : World},
    closeOwned ports fops k w = .ok w' → ∀ h,
      (Owns ports fops k h → w'.hs[h]? = (w.hs[h]?).map (fun hd => { hd with isOpen := false })) ∧
      (¬ Owns ports fops k h → w'.hs[h]? = w.hs[h]?) := by
  intro fops
  induction fops with
  | nil =>
    intro k w w' hc h
    cases hc
    exact ⟨fun ⟨j, p, hj, _⟩ => (nomatch hj), fun _ => rfl⟩
  | cons f fs ih =>
    intro k w w' hc h
    unfold closeOwned at hc
    obtain ⟨p, hp, hc⟩ := Res.bind_eq_ok.1 hc
    obtain ⟨w1, h1, hc⟩ := Res.bind_eq_ok.1 hc
    obtain ⟨ihA, ihB⟩ := ih hc h
    have hpk : p = lookup ports k := by
      rw [lookup_of_getElem? (by simpa using (index_eq_ok_iff.mp hp).2)]
    have hstep := (Fop.close_files h1).2.2 h
    rw [hpk] at hstep
    rw [Owns.cons]
    -- closing a file twice is closing it once
    have hidem : ∀ x : Option Handle,
        (x.map (fun hd => { hd with isOpen := false })).map (fun hd => { hd with isOpen := false }) =
          x.map (fun hd : Handle => { hd with isOpen := false }) := by
      intro x; cases x <;> rfl
    by_cases hA : f.file = true ∧ ∃ q, lookup ports k = some q ∧ q.file = some h
    · rw [if_pos hA] at hstep
      refine ⟨fun _ => ?_, fun hn => absurd (Or.inl hA) hn⟩
      by_cases hB : Owns ports fs (k + 1) h
      · rw [ihA hB, hstep, hidem]
      · rw [ihB hB, hstep]
    · rw [if_neg hA] at hstep
      constructor
      · rintro (hx | hB)
        · exact absurd hx hA
        · rw [ihA hB, hstep]
      · intro hn
        rw [ihB (fun x => hn (Or.inr x)), hstep]

theorem release_unowned {st st' : St} {old : Option Port} (h : release st old Fop.unowned = .ok st') :
    st'.w = st.w ∧ ∀ n, fopAt st'.fops n = fopAt st.fops n := by
  rcases release_cases st old Fop.unowned with
    ⟨_, hrel⟩ | ⟨o, i, q, st3, _, _, _, hrel, _, hw3, _, hown3⟩ | ⟨o, _, _, hrel⟩
  · rw [hrel] at h; cases h; exact ⟨rfl, fun _ => rfl⟩
  · rw [hrel] at h; cases h
    refine ⟨hw3, fun n => ?_⟩
    rw [hown3 n]
    split
    · rename_i e; rw [e]; simp [Fop.unowned]
    · rfl
  · rw [hrel, Fop.close_unowned, Res.ok_bind] at h
    cases h
    exact ⟨rfl, fun _ => rfl⟩

theorem execRedir_fd_unowned {st : St} {r : Redir} {s : Step} (hsrc : ∃ v, r.src = .fd v)
    (hun : ∀ i, fopAt st.fops i = Fop.unowned) (h : execRedir Cfg.fixed st r = .ok s) :
    s.st.w = st.w ∧ ∀ i, fopAt s.st.fops i = Fop.unowned := by
  rcases execRedir_fixed_cases st r with ⟨e, _, he⟩ | ⟨d, st2, exc, _, hsrc2, _, he⟩
  · rw [he] at h; cases h; exact ⟨rfl, hun⟩
  · have hmid : ∀ i, fopAt (midSt st d).fops i = Fop.unowned := by
      intro i
      rw [midSt_fopAt]
      split
      · rfl
      · exact hun i
    have h2 : st2.w = st.w ∧ ∀ i, fopAt st2.fops i = Fop.unowned := by
      rcases hsrc2 with ⟨hi, _⟩ | ⟨_, _, e, _⟩
      · obtain ⟨v, hv⟩ := hsrc
        have hview := installSrc_view (midSt st d) d r.mode r.src
        rw [hi, hv] at hview
        cases hview with
        | dup => exact ⟨rfl, hmid⟩
        | fresh => exact ⟨rfl, hmid⟩
      · rw [e]; exact ⟨rfl, hmid⟩
    rw [he, hun d] at h
    obtain ⟨st3, hr, h3⟩ := Res.bind_eq_ok.1 h
    cases h3
    obtain ⟨e1, e2⟩ := release_unowned hr
    exact ⟨e1.trans h2.1, fun i => (e2 i).trans (h2.2 i)⟩

/-- `subForm` as a chain of binds: redirection, body, stage end. -/
theorem subForm_eq (cfg : Cfg) (st : St) (r : Option Redir) (body : St → Res (St × String)) :
    subForm cfg st r body =
      ((match r with
        | none => .ok ⟨{ st with fops := [] }, none⟩
        | some r => execRedir cfg { st with fops := [] } r) >>= fun s =>
       (match s.exc with
        | some e => .ok (s.st, e)
        | none => body s.st) >>= fun x =>
       closeOwned x.1.ports x.1.fops 0 x.1.w >>= fun w =>
       .ok ({ st with w := w, nextPid := x.1.nextPid }, x.2)) := by
  unfold subForm
  cases r with
  | none => rfl
  | some r' => exact congrArg (execRedir cfg _ r' >>= ·) (funext fun ⟨_, exc⟩ => by cases exc <;> rfl)

theorem subForm_keeps {st st' : St} {r : Option Redir} {body : St → Res (St × String)} {out : String}
    (hr : ∀ r', r = some r' → ∃ v, r'.src = .fd v)
    (hb : ∀ s0 s1 o, body s0 = .ok (s1, o) → s1.fops = s0.fops ∧ OpenEq s0.w s1.w)
    (h : subForm Cfg.fixed st r body = .ok (st', out)) :
    st'.ports = st.ports ∧ st'.fops = st.fops ∧ OpenEq st.w st'.w := by
  rw [subForm_eq] at h
  obtain ⟨s, hs, h⟩ := Res.bind_eq_ok.1 h
  obtain ⟨⟨sub, o⟩, hbody, h⟩ := Res.bind_eq_ok.1 h
  obtain ⟨w, hw, h⟩ := Res.bind_eq_ok.1 h
  cases h
  -- the sub-form starts owning nothing, and its redirection opens nothing
  have h1 : s.st.w = st.w ∧ ∀ i, fopAt s.st.fops i = Fop.unowned := by
    cases r with
    | none => cases hs; exact ⟨rfl, fopAt_nil⟩
    | some r' => exact execRedir_fd_unowned (st := { st with fops := [] }) (hr r' rfl) fopAt_nil hs
  have h2 : OpenEq st.w sub.w ∧ ∀ i, fopAt sub.fops i = Fop.unowned := by
    cases he : s.exc with
    | some e =>
      rw [he] at hbody; cases hbody
      exact ⟨OpenEq.of_hs (by rw [h1.1]), h1.2⟩
    | none =>
      rw [he] at hbody
      obtain ⟨e1, e2⟩ := hb _ _ _ hbody
      exact ⟨fun k => by rw [e2 k, h1.1], by rw [e1]; exact h1.2⟩
  -- so its stage end closes nothing
  refine ⟨rfl, rfl, fun k => ?_⟩
  have hno : ¬ Owns sub.ports sub.fops 0 k := by
    rintro ⟨j, _, hj, _⟩
    rw [h2.2 j] at hj; cases hj
  rw [← h2.1 k]
  exact congrArg _ ((closeOwned_get hw k).2 hno)

theorem dupTo_fd (m : Mode) (n : Option Nat) : ∀ r', dupTo m n = some r' → ∃ v, r'.src = .fd v := by
  intro r' h
  cases n with
  | none => cases h
  | some n => cases h; exact ⟨_, rfl⟩

theorem runAction_keeps {st st' : St} {a : Action} {out : String}
    (h : runAction Cfg.fixed st a = .ok (st', out)) :
    st'.ports = st.ports ∧ st'.fops = st.fops ∧ OpenEq st.w st'.w := by
  cases a with
  | echo n t =>
    simp only [runAction] at h
    refine subForm_keeps (dupTo_fd _ _) (fun s0 s1 o hb => ?_) h
    obtain ⟨⟨s, e⟩, hbo, hb⟩ := Res.bind_eq_ok.1 hb
    cases hb
    exact byteOutput_keeps hbo
  | put n t =>
    simp only [runAction] at h
    refine subForm_keeps (dupTo_fd _ _) (fun s0 s1 o hb => ?_) h
    obtain ⟨⟨s, e⟩, hvo, hb⟩ := Res.bind_eq_ok.1 hb
    cases hb
    exact valueOutput_keeps hvo
  | direct n t =>
    simp only [runAction] at h
    refine subForm_keeps (fun r' (hr' : (none : Option Redir) = some r') => by cases hr') ?_ h
    intro s0 s1 o hb
    split at hb
    · cases hb; exact ⟨rfl, OpenEq.refl _⟩
    · split at hb
      · cases hb; exact ⟨rfl, OpenEq.refl _⟩
      · rename_i hw
        cases hb; exact ⟨rfl, writeHandle_openEq hw⟩
  | read n =>
    simp only [runAction] at h
    refine subForm_keeps (dupTo_fd _ _) ?_ h
    intro s0 s1 o hb
    obtain ⟨p, _, hb⟩ := Res.bind_eq_ok.1 hb
    cases p with
    | none => cases hb
    | some p =>
      dsimp only at hb
      split at hb
      · cases hb; exact ⟨rfl, OpenEq.refl _⟩
      · rename_i hrd
        cases hb; exact ⟨rfl, readHandle_openEq hrd⟩

theorem runActions_keeps : ∀ {as : List Action} {st st' : St} {outs : List String},
    runActions Cfg.fixed st as = .ok (st', outs) →
    st'.ports = st.ports ∧ st'.fops = st.fops ∧ OpenEq st.w st'.w := by
  intro as
  induction as with
  | nil => intro st st' outs h; cases h; exact ⟨rfl, rfl, OpenEq.refl _⟩
  | cons a as ih =>
    intro st st' outs h
    unfold runActions at h
    obtain ⟨⟨st1, o⟩, h1, h⟩ := Res.bind_eq_ok.1 h
    dsimp only at h
    obtain ⟨⟨st2, os⟩, h2, h⟩ := Res.bind_eq_ok.1 h
    cases h
    obtain ⟨a1, a2, a3⟩ := runAction_keeps h1
    obtain ⟨b1, b2, b3⟩ := ih h2
    exact ⟨b1.trans a1, b2.trans a2, a3.trans b3⟩

theorem runForm_ok_inv {st : St} {inPipe : Option Port} {rs : List Redir} {as : List Action} {o : FormOut}
    (h : runForm Cfg.fixed st inPipe rs as = .ok o) :
    ∃ s st1 w, execRedirs Cfg.fixed st rs = .ok s ∧
      ((∃ e, s.exc = some e ∧ st1 = s.st) ∨ (∃ outs, s.exc = none ∧ runActions Cfg.fixed s.st as = .ok (st1, outs))) ∧
      closeOwned st1.ports st1.fops 0 st1.w = .ok w ∧ o.st = { st1 with w := w } := by
  unfold runForm at h
  obtain ⟨s, hs, h⟩ := Res.bind_eq_ok.1 h
  dsimp only at h
  have hpi : Cfg.fixed.pipeInput = true := rfl
  cases he : s.exc with
  | some e =>
    rw [he] at h
    simp only [Res.ok_bind] at h
    cases inPipe with
    | none =>
      obtain ⟨w, hw, h⟩ := Res.bind_eq_ok.1 h
      cases h
      exact ⟨s, s.st, w, hs, Or.inl ⟨e, he, rfl⟩, hw, rfl⟩
    | some ip =>
      simp only [hpi, if_true] at h
      split at h
      · obtain ⟨w, hw, h⟩ := Res.bind_eq_ok.1 h
        cases h
        exact ⟨s, s.st, w, hs, Or.inl ⟨e, he, rfl⟩, hw, rfl⟩
      · cases h
  | none =>
    rw [he] at h
    obtain ⟨⟨st1, outs⟩, hra, h⟩ := Res.bind_eq_ok.1 h
    simp only [Res.ok_bind] at h
    cases inPipe with
    | none =>
      obtain ⟨w, hw, h⟩ := Res.bind_eq_ok.1 h
      cases h
      exact ⟨s, st1, w, hs, Or.inr ⟨outs, he, hra⟩, hw, rfl⟩
    | some ip =>
      simp only [hpi, if_true] at h
      split at h
      · obtain ⟨w, hw, h⟩ := Res.bind_eq_ok.1 h
        cases h
        exact ⟨s, st1, w, hs, Or.inr ⟨outs, he, hra⟩, hw, rfl⟩
      · cases h

theorem runForm_files {T : Nat → Prop} {st : St} {inPipe : Option Port} {rs : List Redir}
    {as : List Action} {o : FormOut} (h : runForm Cfg.fixed st inPipe rs as = .ok o)
    (hp : PidInv st) (hf : FileInv T st) :
    (∀ h hd, T h → o.st.w.hs[h]? = some hd → hd.isOpen = false) ∧
    (∀ h, ¬ T h → (o.st.w.hs[h]?).map Handle.isOpen = (st.w.hs[h]?).map Handle.isOpen) := by
  obtain ⟨s, st1, w, hs, hbody, hw, hst⟩ := runForm_ok_inv h
  rw [hst]
  obtain ⟨hf1, hu1⟩ := execRedirs_fileInv rs hs hp hf
  -- the body leaves table, ownership and open state as the redirections left them
  obtain ⟨k1, k2, k3⟩ : st1.ports = s.st.ports ∧ st1.fops = s.st.fops ∧ OpenEq s.st.w st1.w := by
    rcases hbody with ⟨_, _, e1⟩ | ⟨outs, _, hra⟩
    · rw [e1]; exact ⟨rfl, rfl, OpenEq.refl _⟩
    · exact runActions_keeps hra
  have hg := closeOwned_get hw
  rw [k1, k2] at hg
  simp only [owns_zero] at hg
  constructor
  · intro h hd hT hh
    have hh' : w.hs[h]? = some hd := hh
    by_cases hO : OwnsFile s.st h
    · rw [(hg h).1 hO] at hh'
      exact closed_of_map hh'
    · -- a tracked file nobody owns was closed before the stage end
      rw [(hg h).2 hO] at hh'
      cases hop : hd.isOpen with
      | false => rfl
      | true =>
        have h3 := k3 h
        rw [hh'] at h3
        cases hx : s.st.w.hs[h]? with
        | none => rw [hx] at h3; cases h3
        | some x =>
          rw [hx] at h3
          simp only [Option.map_some, Option.some.injEq] at h3
          exact absurd (hf1.openOwned h x hT hx (by rw [← h3]; exact hop)) hO
  · intro h hT
    have hO : ¬ OwnsFile s.st h := by
      rintro ⟨i, p, hfi, hl, hpf⟩
      obtain ⟨p', hl', ht⟩ := hf1.owner i hfi
      rw [hl] at hl'; cases hl'
      exact hT (ht h hpf)
    show (w.hs[h]?).map Handle.isOpen = _
    rw [(hg h).2 hO, k3 h, hu1 h hT]

end C42
