/-
The two slices of a frame are read as total functions `fd ↦ port` (`lookup`) and `fd ↦ ownership`
(`fopAt`), under which `growAccess` is invisible; what `evalForFd` and `prepDst` can return.
-/
import ElvModel.C42.Spec
import ElvProofs.Lemmas.Res
namespace C42
open Go

def NoPanic {α} (r : Res α) : Prop := ∀ m, r ≠ .panic m

theorem NoPanic.ok {α} (a : α) : NoPanic (Res.ok a) := by intro m h; cases h
theorem NoPanic.exc {α} (e : String) : NoPanic (Res.exc e : Res α) := by intro m h; cases h

theorem NoPanic.bind {α β} {r : Res α} {f : α → Res β}
    (h1 : NoPanic r) (h2 : ∀ a, r = .ok a → NoPanic (f a)) : NoPanic (r >>= f) :=
  Res.bind_ne_panic h1 h2

theorem bind_exc {α β} (e : String) (f : α → Res β) : (Res.exc e >>= f) = .exc e := Res.exc_bind e f
theorem bind_panic {α β} (m : String) (f : α → Res β) : (Res.panic m >>= f) = .panic m := Res.panic_bind m f

theorem lookup_set (l : List (Option Port)) (d : Nat) (p : Option Port) (n : Nat) (h : d < l.length) :
    lookup (l.set d p) n = if n = d then p else lookup l n := by
  unfold lookup
  by_cases hn : n = d
  · subst hn; simp [h]
  · have : d ≠ n := fun e => hn e.symm
    simp [List.getElem?_set_ne this, hn]

theorem lookup_lt {l : List (Option Port)} {n : Nat} {p : Port} (h : lookup l n = some p) : n < l.length := by
  unfold lookup at h
  cases hg : l[n]? with
  | none => simp [hg] at h
  | some x => exact (List.getElem?_eq_some_iff.mp hg).1

theorem lookup_of_getElem? {l : List (Option Port)} {n : Nat} {p : Option Port} (h : l[n]? = some p) :
    lookup l n = p := by
  unfold lookup; rw [h]; rfl

theorem getElem?_of_lookup {l : List (Option Port)} {n : Nat} {p : Port} (h : lookup l n = some p) :
    l[n]? = some (some p) := by
  rw [List.getElem?_eq_getElem (lookup_lt h)]
  exact congrArg some ((lookup_of_getElem? (List.getElem?_eq_getElem (lookup_lt h))).symm.trans h)

theorem index_ports {l : List (Option Port)} {i : Int} (h0 : 0 ≤ i) (h1 : i.toNat < l.length) :
    index l i = .ok (lookup l i.toNat) := by
  have h := List.getElem?_eq_getElem h1
  rw [index_eq_ok_iff.mpr ⟨h0, h⟩, lookup_of_getElem? h]


/-- The slice `growAccess` leaves behind. -/
def grown {α} (s : List α) (i : Nat) (z : α) : List α :=
  if i < s.length then s else s ++ List.replicate (i + 1 - s.length) z

theorem grown_length_gt {α} (s : List α) (i : Nat) (z : α) : i < (grown s i z).length := by
  unfold grown; split
  · assumption
  · simp; omega

theorem grown_length_ge {α} (s : List α) (i : Nat) (z : α) : s.length ≤ (grown s i z).length := by
  unfold grown; split <;> simp

/-- The new elements are copies of `z`, so reading past the end as `z` sees no growth. -/
theorem getElem?_grown {α} (s : List α) (i n : Nat) (z : α) :
    ((grown s i z)[n]?).getD z = (s[n]?).getD z := by
  unfold grown; split
  · rfl
  · rw [List.getElem?_append]
    split
    · rfl
    · rename_i hn
      rw [List.getElem?_eq_none_iff.mpr (Nat.le_of_not_lt hn), List.getElem?_replicate]
      split <;> rfl

theorem lookup_eq_getD (l : List (Option Port)) (n : Nat) : lookup l n = (l[n]?).getD none := by
  unfold lookup; cases l[n]? <;> rfl

theorem lookup_grown (l : List (Option Port)) (i n : Nat) : lookup (grown l i none) n = lookup l n := by
  rw [lookup_eq_getD, lookup_eq_getD, getElem?_grown]

theorem growAccess_ok {α} (cfg : Cfg) (s : List α) (i : Int) (z : α)
    (h0 : 0 ≤ i) (h1 : i.toNat < cfg.memSlots) :
    growAccess cfg s i z = .ok (grown s i.toNat z) := by
  unfold growAccess grown
  rw [if_neg (by omega)]
  split
  · rfl
  · rw [if_neg (by omega)]

/-- `fops[i]`; entries past the end are not owned (the stage end only walks the slice). -/
def fopAt (fops : List Fop) (i : Nat) : Fop :=
  match fops[i]? with
  | some f => f
  | none => Fop.unowned

theorem fopAt_eq_getD (fops : List Fop) (i : Nat) : fopAt fops i = (fops[i]?).getD Fop.unowned := by
  unfold fopAt; cases fops[i]? <;> rfl

theorem fopAt_of_getElem? {fops : List Fop} {i : Nat} {f : Fop} (h : fops[i]? = some f) : fopAt fops i = f := by
  unfold fopAt; rw [h]

theorem fopAt_nil (i : Nat) : fopAt [] i = Fop.unowned := rfl

theorem fopAt_ge {fops : List Fop} {i : Nat} (h : fops.length ≤ i) : fopAt fops i = Fop.unowned := by
  unfold fopAt; rw [List.getElem?_eq_none_iff.mpr h]

theorem getElem?_of_fopAt_lt {fops : List Fop} {i : Nat} (h : i < fops.length) : fops[i]? = some (fopAt fops i) := by
  unfold fopAt
  rw [List.getElem?_eq_getElem h]

theorem getElem?_of_chan {fops : List Fop} {i : Nat} (h : (fopAt fops i).chan = true) :
    fops[i]? = some (fopAt fops i) := by
  by_cases hlt : i < fops.length
  · exact getElem?_of_fopAt_lt hlt
  · rw [fopAt_ge (Nat.le_of_not_lt hlt)] at h; cases h

theorem fopAt_grown (fops : List Fop) (d i : Nat) : fopAt (grown fops d Fop.unowned) i = fopAt fops i := by
  rw [fopAt_eq_getD, fopAt_eq_getD, getElem?_grown]

theorem fopAt_set (fops : List Fop) (d : Nat) (f : Fop) (i : Nat) (h : d < fops.length) :
    fopAt (fops.set d f) i = if i = d then f else fopAt fops i := by
  unfold fopAt
  rw [List.getElem?_set]
  by_cases hi : i = d
  · subst hi; simp [h]
  · have : ¬ d = i := fun e => hi e.symm
    simp [this, hi]

theorem fopAt_modify (fops : List Fop) (i : Nat) (g : Fop → Fop) (j : Nat) (h : i < fops.length) :
    fopAt (fops.modify i g) j = if j = i then g (fopAt fops i) else fopAt fops j := by
  unfold fopAt
  rw [List.getElem?_modify]
  by_cases hj : j = i
  · subst hj
    rw [List.getElem?_eq_getElem h]
    simp
  · have : ¬ i = j := fun e => hj e.symm
    cases fops[j]? <;> simp [this, hj]


theorem checkRange_fixed {n m : Int} (h : checkRange Cfg.fixed n = .ok m) : m = n ∧ 0 ≤ n ∧ n ≤ 1023 := by
  unfold checkRange at h
  by_cases h1 : n < 0
  · simp [Cfg.fixed, h1] at h
  · by_cases h2 : n > maxRedirFD
    · simp [Cfg.fixed, h2] at h
    · simp [Cfg.fixed, h1, h2] at h
      unfold maxRedirFD at h2
      omega

theorem checkRange_noPanic (cfg : Cfg) (n : Int) : NoPanic (checkRange cfg n) := by
  unfold checkRange; split
  · exact NoPanic.exc _
  · exact NoPanic.ok _

/-- The outcomes of `evalForFd`: an exception, a standard name, a number that has gone through
`checkRange`, or the close marker `-1` where it is allowed. -/
theorem evalForFd_cases (cfg : Cfg) (v : FdVal) (c : Bool) {P : Res Int → Prop}
    (exc : ∀ e, P (.exc e)) (std : ∀ n : Int, 0 ≤ n → n ≤ 2 → P (.ok n))
    (num : ∀ n, P (checkRange cfg n)) (close : c = true → P (.ok (-1))) :
    P (evalForFd cfg v c) := by
  unfold evalForFd
  cases v with
  | fail => exact exc _
  | many k => exact exc _
  | other => exact exc _
  | int k => exact num k
  | str t p =>
    dsimp only
    by_cases h0 : t = "stdin"
    · rw [if_pos h0]; exact std 0 (by omega) (by omega)
    rw [if_neg h0]
    by_cases h1 : t = "stdout"
    · rw [if_pos h1]; exact std 1 (by omega) (by omega)
    rw [if_neg h1]
    by_cases h2 : t = "stderr"
    · rw [if_pos h2]; exact std 2 (by omega) (by omega)
    rw [if_neg h2]
    cases p with
    | some k => exact num k
    | none =>
      dsimp only
      by_cases hc : (decide (t = "-") && c) = true
      · rw [if_pos hc]
        exact close (Bool.and_eq_true_iff.mp hc).2
      · rw [if_neg hc]; exact exc _

theorem evalForFd_fixed_range {v : FdVal} {c : Bool} {n : Int}
    (h : evalForFd Cfg.fixed v c = .ok n) : (0 ≤ n ∧ n ≤ 1023) ∨ (n = -1 ∧ c = true) := by
  revert h
  apply evalForFd_cases Cfg.fixed v c (P := fun r => r = .ok n → (0 ≤ n ∧ n ≤ 1023) ∨ (n = -1 ∧ c = true))
  · intro e h; cases h
  · intro k h0 h2 h; cases h; exact Or.inl (by omega)
  · intro k h; have := checkRange_fixed h; exact Or.inl (by omega)
  · intro hc h; cases h; exact Or.inr ⟨rfl, hc⟩

theorem evalForFd_noPanic (cfg : Cfg) (v : FdVal) (c : Bool) : NoPanic (evalForFd cfg v c) :=
  evalForFd_cases cfg v c NoPanic.exc (fun _ _ _ => NoPanic.ok _) (checkRange_noPanic cfg) (fun _ => NoPanic.ok _)

theorem evalDst_fixed_range {r : Redir} {n : Int} (h : evalDst Cfg.fixed r = .ok n) : 0 ≤ n ∧ n ≤ 1023 := by
  unfold evalDst at h
  cases hd : r.dst with
  | none =>
    rw [hd] at h; cases h
    unfold defaultDst; split <;> omega
  | some v =>
    rw [hd] at h
    rcases evalForFd_fixed_range h with h | ⟨_, h⟩
    · exact h
    · cases h

theorem evalDst_noPanic (cfg : Cfg) (r : Redir) : NoPanic (evalDst cfg r) := by
  unfold evalDst
  cases r.dst with
  | none => exact NoPanic.ok _
  | some v => exact evalForFd_noPanic _ _ _

theorem prepDst_fixed (st : St) {dst : Int} (h0 : 0 ≤ dst) (h1 : dst ≤ 1023) :
    prepDst Cfg.fixed st dst =
      .ok ({ st with ports := grown st.ports dst.toNat none, fops := grown st.fops dst.toNat Fop.unowned },
           lookup st.ports dst.toNat, fopAt st.fops dst.toNat) := by
  have hm : dst.toNat < Cfg.fixed.memSlots := by show dst.toNat < 2 ^ 33; omega
  have hf : index (grown st.fops dst.toNat Fop.unowned) dst = .ok (fopAt st.fops dst.toNat) := by
    rw [index_eq_ok_iff, ← fopAt_grown st.fops dst.toNat dst.toNat]
    exact ⟨h0, getElem?_of_fopAt_lt (grown_length_gt _ _ _)⟩
  unfold prepDst
  rw [growAccess_ok _ _ _ _ h0 hm, Res.ok_bind, growAccess_ok _ _ _ _ h0 hm, Res.ok_bind, hf, Res.ok_bind, lookup_grown]

end C42
