/-
C44: the language server (pkg/lsp/server.go) answers every request and maps
positions exactly.  `.fixed` is the tree after fixes/C44-*.patch, `.orig` the
unchanged code; the specification is ElvModel/C44/Spec.lean.  The parser is the
C01 model, `np.Find` and the `np` matchers are the C43 model's.
-/
import ElvProofs.C44.Position
import ElvProofs.C44.Hover
import ElvProofs.C44.Server
open Go C44

/-- `lspPositionFromIdx` computes the specified position (line breaks before the
offset with CRLF counted once, UTF-16 units since the last one), for every text,
valid UTF-8 or not, and every `idx`, in range or not. -/
theorem C44_fromIdx_eq_spec (s : Bytes) (idx : Int) : lspPositionFromIdx s idx = specPos s idx :=
  fromIdxOfVisits_spec s idx

example : lspPositionFromIdx [97, 13, 10, 240, 159, 152, 128, 98] 7 = ⟨1, 2⟩ := by decide

/-- Round trip: every character-boundary offset (including the one between `\r`
and `\n`) is recovered from its position. -/
theorem C44_roundtrip (s : Bytes) (i : Nat) (h : i ∈ boundaries s) :
    lspPositionToIdx s (lspPositionFromIdx s i).line (lspPositionFromIdx s i).char = i := by
  rw [C44_fromIdx_eq_spec]
  exact toIdx_of_mem_visits s (i, specPos s i) (mem_visits_of_boundary s i h)

example : (3 : Nat) ∈ boundaries [97, 13, 10, 98] := by decide

/-- Distinct boundary offsets have distinct positions. -/
theorem C44_position_injective (s : Bytes) (i j : Nat) (hi : i ∈ boundaries s) (hj : j ∈ boundaries s)
    (h : lspPositionFromIdx s i = lspPositionFromIdx s j) : i = j := by
  rw [← C44_roundtrip s i hi, ← C44_roundtrip s j hj, h]

/-- `lspPositionToIdx` returns a character-boundary offset for every position:
negative, past the end of a line or of the text, inside a surrogate pair. -/
theorem C44_toIdx_boundary (s : Bytes) (line char : Int) :
    lspPositionToIdx s line char ∈ boundaries s :=
  toIdx_boundary s line char

example : lspPositionToIdx [240, 159, 152, 128, 10, 98] 0 1 = 4 := by decide

/-- Boundary offsets are at most `len(s)`. -/
theorem C44_boundary_le (s : Bytes) (i : Nat) (h : i ∈ boundaries s) : i ≤ s.length := by
  rcases List.mem_append.mp h with h | h
  · obtain ⟨c, hc, rfl⟩ := List.mem_map.mp h
    exact Nat.le_of_lt (chars_off_lt s c hc)
  · simp at h; omega

/-- `lspRangeFromRange` converts both ends by the specification. -/
theorem C44_range_eq_spec (s : Bytes) (frm to : Int) :
    lspRangeFromRange s frm to = (specPos s frm, specPos s to) :=
  rangeOfVisits_spec s frm to

/-- The unchanged code does not round-trip after a CRLF: in `"a\r\nb"` offset 3
(start of the second line) has position (1,0), which maps back to offset 2 (the `\n`). -/
theorem C44_counterexample :
    ¬ ∀ (s : Bytes) (i : Nat), i ∈ boundaries s →
        toIdxV .orig s (fromIdxV .orig s i).line (fromIdxV .orig s i).char = i := by
  intro h
  have := h [97, 13, 10, 98] 3 (by decide)
  revert this
  decide

/-- The one fact about the parser that `hover` needs and C01 does not state:
every `Indexing` node has its `Head` (`(*Indexing).parse` starts by parsing a
`Primary` and adding it).  NOT PROVED: it is a hypothesis of
`C44_answers_every_request`/`C44_hover_no_panic`, sampled by the differential
run (the model's `hover` prints `PANIC` on a tree without such a head). -/
def C44_parser_heads_full : Prop := ∀ isPrint : Int → Bool, ParserHeads isPrint

/-- The fixed server answers every message: no handler panics, whatever the
state, the method, the shape of `params` (absent, null, `{}`, ill-typed), the
number of content changes, the text (the parser returns on every byte string,
`C01_total_lossless`), the URI or the position; a response is produced exactly
for messages that carry an id.  Hypotheses: the completer tables cover every
boundary offset (`wf`; the server computes no other dot, `C44_toIdx_boundary`),
and, for `hover` only, `ParserHeads` (see `C44_parser_heads_full`). -/
theorem C44_answers_every_request (lib : Lib) (empty : Text) (s : Server) (hasId : Bool) (r : Req)
    (he : empty.wf) (hs : s.wf lib) (hr : r.wf) (hh : ParserHeads lib.isPrint) :
    ∃ o, serve .fixed lib empty s hasId r = .ok o ∧ o.srv.wf lib ∧ (o.reply = .none ↔ hasId = false) :=
  serve_total lib empty s hasId r he hs hr (.inl hh)

/-- Every message except `hover` needs no hypothesis on the parser at all. -/
theorem C44_answers_every_request_but_hover (lib : Lib) (empty : Text) (s : Server) (hasId : Bool) (r : Req)
    (he : empty.wf) (hs : s.wf lib) (hr : r.wf)
    (hnh : (∀ uri l c, r ≠ .hover uri l c) ∧ ∀ pk, r ≠ .raw "textDocument/hover" pk) :
    ∃ o, serve .fixed lib empty s hasId r = .ok o ∧ o.srv.wf lib ∧ (o.reply = .none ↔ hasId = false) :=
  serve_total lib empty s hasId r he hs hr (.inr hnh)

def C44_lib0 : Lib := { isPrint := fun _ => false, home := fun _ => none, docs := [] }

example : (⟨[], [(0, .err)]⟩ : Text).wf := by
  intro b hb
  simp [boundaries, chars, charsFrom] at hb
  subst hb
  rfl

example : (match serve .fixed C44_lib0 ⟨[], [(0, .err)]⟩ Server.new true (.raw "textDocument/didChange" .absent) with
    | .ok o => decide (o.reply = .res (.error (-32602))) && o.diag.isNone
    | _ => false) = true := by decide +kernel

/-- `didOpen` parses the text, stores the document and publishes exactly its
parse errors: one diagnostic per error, in order, each with that error's range
converted by the specification and that error's message. -/
theorem C44_diagnostics_open (lib : Lib) (empty : Text) (s : Server) (hasId : Bool) (uri : Bytes) (t : Text) :
    ∃ o d, serve .fixed lib empty s hasId (.didOpen uri t) = .ok o ∧
      d.code = t.code ∧ C01.parse lib.isPrint t.code = .ok d.tree d.errs ∧
      o.diag = some (uri, d.errs.map (specDiag t.code)) ∧ o.srv.find uri = some d := by
  obtain ⟨o, d, ho, hd⟩ := updateText_spec lib s uri t
  exact ⟨_, d, serve_of_handle hasId ho, hd⟩

/-- `didChange` with a non-empty list of full-text changes: the document is the
last text, and the diagnostics are its parse errors. -/
theorem C44_diagnostics_change (lib : Lib) (empty : Text) (s : Server) (hasId : Bool) (uri : Bytes)
    (cs : List Text) (t : Text) (h : cs.getLast? = some t) :
    ∃ o d, serve .fixed lib empty s hasId (.didChange uri cs) = .ok o ∧
      d.code = t.code ∧ C01.parse lib.isPrint t.code = .ok d.tree d.errs ∧
      o.diag = some (uri, d.errs.map (specDiag t.code)) ∧ o.srv.find uri = some d := by
  obtain ⟨o, d, ho, hd⟩ := updateText_spec lib s uri t
  have hh : handle .fixed lib empty s (.didChange uri cs) = .ok o := by
    rw [← ho]
    simp only [handle, didChange, h]
  exact ⟨_, d, serve_of_handle hasId hh, hd⟩

example : ([⟨[36, 33], []⟩] : List Text).getLast? = some ⟨[36, 33], []⟩ := rfl

/-- Pointwise form (what the seeded change `seeded/C44-diagnostic-range-reused`
violates): there are as many diagnostics as errors, and the `i`-th has the
converted range and the message of the `i`-th error. -/
theorem C44_diagnostic_is_own_error (code : Bytes) (errs : List C01.PErr) :
    (errs.map (specDiag code)).length = errs.length ∧
    ∀ i : Nat, (errs.map (specDiag code))[i]? =
      errs[i]?.map fun e => ((specPos code e.frm, specPos code e.to), e.msg) := by
  refine ⟨List.length_map _, fun i => ?_⟩
  rw [List.getElem?_map]
  rfl

/-- The witness of the seeded change: `"\x\400"` has two errors with the same
start, `[1,2)` and `[1,5)`. -/
example : (([⟨1, 2, false, .invalidEscapeHex⟩, ⟨1, 5, false, .invalidEscapeOctOverflow⟩] : List C01.PErr).map
    (specDiag [34, 92, 120, 92, 52, 48, 48, 34])).map (·.1) = [(⟨0, 1⟩, ⟨0, 2⟩), (⟨0, 1⟩, ⟨0, 5⟩)] := by decide

/-- Every diagnostic of a parsed text comes from an error with `from ≤ to ≤ len`
(`C01_error_ranges`), so its LSP range is well ordered and ends no later than
the position of the end of the text. -/
theorem C44_diagnostics_in_bounds (isPrint : Int → Bool) (code : Bytes) (tree : C01.Node)
    (errs : List C01.PErr) (h : C01.parse isPrint code = .ok tree errs) :
    ∀ x ∈ errs.map (specDiag code), ∃ e ∈ errs, x = specDiag code e ∧
      e.frm ≤ e.to ∧ e.to ≤ code.length ∧
      Pos.le x.1.1 x.1.2 ∧ Pos.le x.1.2 (specPos code code.length) := by
  intro x hx
  obtain ⟨e, he, rfl⟩ := List.mem_map.mp hx
  obtain ⟨h1, h2⟩ := C01_error_ranges isPrint code tree errs h e he
  exact ⟨e, he, rfl, h1, h2, specPos_mono code _ _ (by omega), specPos_mono code _ _ (by omega)⟩

set_option maxRecDepth 100000 in
example : ∃ t errs, C01.parse (fun _ => false) [36, 33] = .ok t errs ∧ errs ≠ [] := by
  have hl : (match C01.parse (fun _ => false) [36, 33] with
      | .ok _ e => decide (e ≠ []) | _ => false) = true := by decide +kernel
  cases h : C01.parse (fun _ => false) [36, 33] with
  | ok t errs =>
    rw [h] at hl
    exact ⟨t, errs, rfl, of_decide_eq_true hl⟩
  | panic w => rw [h] at hl; cases hl
  | fuel => rw [h] at hl; cases hl

/-- After any sequence of messages to a fresh fixed server, the last diagnostics
on the wire for each URI are those of the document the server holds for it (and
there are none iff it holds none): diagnostics are never stale. -/
theorem C44_latest_diagnostics_current (lib : Lib) (empty : Text) (reqs : List (Bool × Req)) (s' : Server)
    (os : List Out) (h : serveAll .fixed lib empty Server.new reqs = .ok (s', os)) (uri : Bytes) :
    lastFor uri (published os) = (s'.find uri).map specDiags := by
  have hi : Inv Server.new [] := by intro k; simp [lastFor, Server.new, Server.find]
  simpa using Inv_serveAll lib empty reqs Server.new [] s' os h hi uri

/-- … and the stored documents are parsed: what `specDiags` converts are the
errors the parser returned for the stored text. -/
theorem C44_stored_documents_parsed (lib : Lib) (empty : Text) (s : Server) (hasId : Bool) (r : Req)
    (o : Out) (hs : ∀ e ∈ s.docs, e.2.Parsed lib) (h : serve .fixed lib empty s hasId r = .ok o) :
    ∀ e ∈ o.srv.docs, e.2.Parsed lib := by
  obtain ⟨ho, hh, rfl⟩ := serve_inv h
  rcases handle_shape lib empty s r ho hh with ⟨h1, _⟩ | ⟨uri, d, hd, h1, _⟩
  · simpa [h1] using hs
  · intro e he
    simp only [h1, updateDocument] at he
    rcases List.mem_cons.mp he with rfl | he
    · exact hd
    · exact hs e (List.mem_filter.mp he).1

example : ∃ s' os, serveAll .fixed C44_lib0 ⟨[], []⟩ Server.new
    [(false, .raw "initialized" .obj), (true, .hover [1] 0 0)] = .ok (s', os) :=
  ⟨_, _, rfl⟩

/-- `np.Find(root, pos)` on the tree the parser returns: when the position is
inside the root's range (or the root is a leaf) the `descend:` loop reaches a
leaf and never returns `nil`, because every node's children tile its range
(`C01_wf_nodes`).  The path goes from a leaf up to the root; every node on it is
a node of the tree with its range inside the text, and every node below the root
contains the position. -/
theorem C44_find_on_parsed_tree (isPrint : Int → Bool) (src : Bytes) (tree : C01.Node)
    (errs : List C01.PErr) (h : C01.parse isPrint src = .ok tree errs) (pos : Int)
    (hin : tree.children = [] ∨ ((tree.frm : Int) ≤ pos ∧ pos < (tree.to : Int))) :
    ∃ path pre leaf, C43.findN pos false 0 tree = some path ∧
      path = pre ++ [(tree, 0)] ∧ path.head? = some leaf ∧ leaf.1.children = [] ∧
      (∀ x ∈ pre, (x.1.frm : Int) ≤ pos ∧ pos < (x.1.to : Int)) ∧
      (∀ x ∈ path, C01_Desc tree x.1 ∧ x.1.frm ≤ x.1.to ∧ x.1.to ≤ src.length) := by
  have hok : AllOk src tree := (C01_lossless_partial isPrint src tree errs h).1
  obtain ⟨path, hp⟩ := findN_some src pos tree 0 hok hin
  obtain ⟨pre, hpre, hall, leaf, hhead, hleaf⟩ := findN_path pos tree 0 path hp
  refine ⟨path, pre, leaf, hp, hpre, hhead, hleaf, hall, ?_⟩
  intro x hx
  have hd := C43.findN_desc pos false tree 0 path hp x hx
  have hn := hok _ hd
  exact ⟨hd, hn.1, hn.2.1⟩

set_option maxRecDepth 100000 in
example : (match C01.parse (fun _ => false) [36, 97] with
    | .ok t _ => decide ((t.frm : Int) ≤ 1 ∧ (1 : Int) < t.to) | _ => false) = true := by decide +kernel

/-- `hover`'s choice of documentation returns (no nil dereference in
`np.Find`, the matchers or `PurelyEvalPartialCompound`) for every parsed text
and every offset.  Hypothesis: `ParserHeads` (see `C44_parser_heads_full`). -/
theorem C44_hover_no_panic (lib : Lib) (src : Bytes) (tree : C01.Node) (errs : List C01.PErr)
    (h : C01.parse lib.isPrint src = .ok tree errs) (hh : ParserHeads lib.isPrint) (pos : Int) :
    ∃ c, hoverContent lib tree pos = .ok c :=
  hoverContent_ok lib tree pos (hh src tree errs h)

/-- If `hover` shows a text, the leaf `np.Find` found at the position is a
`Primary`, and the text is
* the documentation of `$name`, the leaf being the variable use `$name`, or
* the documentation of the command `v`, where the leaf is a piece of the head
  word (`form.Head`, child 0 of the form) of a command and `v` is the static
  value of that word up to the end of the piece under the cursor. -/
theorem C44_hover_shows_symbol_at_position (lib : Lib) (tree : C01.Node) (pos : Int) (md : String)
    (h : hoverContent lib tree pos = .ok (some md)) :
    ∃ leaf rest, npFind tree pos = leaf :: rest ∧ leaf.1.kind = .primary ∧
      ((leaf.1.ptype = Gen.C01Chars.Variable ∧ docSource lib.docs (36 :: leaf.1.value) = some md) ∨
       (∃ inn cn form rest' v, rest = inn :: (cn, 0) :: form :: rest' ∧
          inn.1.kind = .indexing ∧ cn.kind = .compound ∧ form.1.kind = .form ∧
          C43.purelyEvalPartialCompound (nilEvalerEnv lib) cn (inn.1.to : Int) = .ok (some v) ∧
          docSource lib.docs v = some md)) :=
  hoverContent_some lib tree pos md h

/-- Outside every leaf (`np.Find` returns nil: e.g. the end of the text, or a
position after the parsed part) nothing is shown. -/
theorem C44_hover_nothing_outside (lib : Lib) (tree : C01.Node) (pos : Int)
    (h : C43.findN pos false 0 tree = none) : hoverContent lib tree pos = .ok none := by
  simp [hoverContent, npFind, h, hoverVariable, hoverCommand, C43.matchKind, C43.matchSimpleExpr]

def C44_docs1 : DocTable := [([], ⟨[(strBytes "echo", "doc-echo")], [(strBytes "$paths", "doc-paths")]⟩)]

set_option maxRecDepth 100000 in
example : (match C01.parse (fun _ => false) (strBytes "echo $paths") with
    | .ok t _ =>
      let lib : Lib := { C44_lib0 with docs := C44_docs1 }
      decide (hoverContent lib t 2 = .ok (some "doc-echo") ∧ hoverContent lib t 7 = .ok (some "doc-paths") ∧
        hoverContent lib t 11 = .ok none)
    | _ => false) = true := by decide +kernel

/-- Unchanged tree: a message for a known method without `params` kills the server. -/
theorem C44_counterexample_no_params :
    (serve .orig C44_lib0 ⟨[], []⟩ Server.new false (.raw "initialized" .absent)).isPanic = true := by decide +kernel

/-- Unchanged tree: `didChange` with an empty change list kills the server. -/
theorem C44_counterexample_empty_changes :
    (serve .orig C44_lib0 ⟨[], []⟩ Server.new false (.didChange [1] [])).isPanic = true := by decide

/-- Unchanged tree: of several full-text changes in one `didChange` the FIRST is kept. -/
theorem C44_counterexample_multi_change :
    ∃ o, serve .orig C44_lib0 ⟨[], []⟩ Server.new false (.didChange [1] [⟨[97], []⟩, ⟨[98], []⟩]) = .ok o ∧
      (o.srv.find [1]).map (·.code) ≠ some [98] := ⟨_, rfl, by decide +kernel⟩

/-- Unchanged tree: each `updateDocument` publishes from its own goroutine, so
the notifications of a run can reach the wire in any order; in the reversed
order of two changes the client is left with the diagnostics of the old text
(`$!` has a parse error, `a` has none). -/
theorem C44_counterexample_diagnostics_order :
    ∃ s' os wire, serveAll .orig C44_lib0 ⟨[], []⟩ Server.new
        [(false, .didChange [1] [⟨[36, 33], []⟩]), (false, .didChange [1] [⟨[97], []⟩])] = .ok (s', os) ∧
      wire.Perm (published os) ∧
      lastFor [1] wire ≠ (s'.find [1]).map fun d => d.errs.map fun e => (rangeV .orig d.code e.frm e.to, e.msg) := by
  -- the run is evaluated once, by the kernel, with its result named `x`;
  -- `rfl` with the result left to unification is far slower
  generalize h : serveAll .orig C44_lib0 _ _ _ = x
  have hl : (match x with
      | .ok (s', os) =>
        decide ([([1], []), ([1], [((⟨0, 1⟩, ⟨0, 2⟩), .shouldBeVariableName)])].Perm (published os) ∧
          lastFor [1] [([1], []), ([1], [((⟨0, 1⟩, ⟨0, 2⟩), C01.Msg.shouldBeVariableName)])] ≠
            (s'.find [1]).map fun d => d.errs.map fun e => (rangeV .orig d.code e.frm e.to, e.msg))
      | _ => false) = true := by subst h; decide +kernel
  cases x with
  | ok p => exact ⟨p.1, p.2, _, rfl, of_decide_eq_true hl⟩
  | exc e => cases hl
  | panic w => cases hl

/-- The main clauses of C44 together, over the model of the fixed tree. -/
def C44_full : Prop :=
  (∀ (s : Bytes) (idx : Int), lspPositionFromIdx s idx = specPos s idx) ∧
  (∀ (s : Bytes) (i : Nat), i ∈ boundaries s →
    lspPositionToIdx s (lspPositionFromIdx s i).line (lspPositionFromIdx s i).char = i) ∧
  (∀ (s : Bytes) (line char : Int), lspPositionToIdx s line char ∈ boundaries s ∧
    lspPositionToIdx s line char ≤ s.length) ∧
  (∀ (lib : Lib) (empty : Text) (s : Server) (hasId : Bool) (r : Req), empty.wf → s.wf lib → r.wf →
    ParserHeads lib.isPrint →
    ∃ o, serve .fixed lib empty s hasId r = .ok o ∧ o.srv.wf lib ∧ (o.reply = .none ↔ hasId = false)) ∧
  (∀ (lib : Lib) (empty : Text) (reqs : List (Bool × Req)) (s' : Server) (os : List Out),
    serveAll .fixed lib empty Server.new reqs = .ok (s', os) →
    ∀ uri, lastFor uri (published os) = (s'.find uri).map specDiags)

theorem C44_full_holds : C44_full :=
  ⟨C44_fromIdx_eq_spec, C44_roundtrip,
   fun s l c => ⟨C44_toIdx_boundary s l c, C44_boundary_le s _ (C44_toIdx_boundary s l c)⟩,
   C44_answers_every_request, C44_latest_diagnostics_current⟩

/-- The characters the model walks are the prelude's `for i, r := range s`
(`Go.runes`, tied to Go by C00): same offsets, same runes. -/
theorem C44_chars_are_range (s : Bytes) :
    (chars s).map (fun c => (c.off, c.r)) = (runes s).map (fun t => (t.1, t.2.1)) :=
  charsFrom_runesFrom s.length 0 s
