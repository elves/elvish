import ElvProofs.C40.Form
/-!
`releaseReplacedPort`: the descriptor taken from the redirected entry (in limbo) is handed to the
first entry still using the old port, or closed.
-/
namespace C40

/-- The frame in the middle of `redirOp.exec`: what entry `dst` held (`oldPort`, `oldFop`) is set
aside until `releaseReplacedPort` runs, and the descriptor it owned, if any, is in limbo.  No other
entry that holds `oldPort` owns its file. -/
structure Pending (w : World) (ports : Ports) (fops : Fops) (B : Nat → Prop)
    (oldPort : Option Port) (oldFop : Fop) : Prop where
  wf : WF w
  portsOK : PortsOK w ports
  flag : FlagOK ports fops
  own : OwnInv (ownerFd ports fops) (if oldFop.file then oldPort.bind (·.file) else none) w.openFds B
  old : oldFop.file = true → ∃ o fd, oldPort = some o ∧ o.file = some fd
  free : ∀ i o, oldFop.file = true → oldPort = some o → portAt ports i = some o →
    ownerFd ports fops i = none

theorem release_spec {w : World} {ports : Ports} {fops : Fops} {B : Nat → Prop}
    {oldPort : Option Port} {oldFop : Fop} (h : Pending w ports fops B oldPort oldFop) :
    FormInv (release w ports fops oldPort oldFop).1 ports (release w ports fops oldPort oldFop).2 B ∧
    Quiet w (release w ports fops oldPort oldFop).1 := by
  obtain ⟨hwf, hports, hflag, hown, hold, hfree⟩ := h
  generalize hlimbo : (if oldFop.file then oldPort.bind (·.file) else none) = limbo at hown
  replace hlimbo := hlimbo.symm
  cases hop : oldPort with
  | none =>
    -- nothing was there
    have hl : limbo = none := by
      rw [hlimbo, hop]; cases oldFop.file <;> rfl
    subst hl
    simp only [release]
    exact ⟨⟨hwf, hports, hflag, hown⟩, Quiet.refl w⟩
  | some o =>
    subst hop
    cases hfi : firstIdx o ports 0 with
    | some i =>
      have hpi : portAt ports i = some o := by
        obtain ⟨j, rfl, hp⟩ := firstIdx_some hfi
        rwa [Nat.zero_add]
      simp only [release, hfi]
      -- the new flags
      let nf : Fop := ⟨(fopAt fops i).file || oldFop.file, (fopAt fops i).chan || oldFop.chan⟩
      show FormInv w ports (setFop fops i nf) B ∧ Quiet w w
      refine ⟨⟨hwf, hports, ?_, ?_⟩, Quiet.refl w⟩
      · -- FlagOK
        intro j hj
        rw [fopAt_setFop] at hj
        by_cases hji : j = i
        · subst hji
          simp only [if_true, nf, Bool.or_eq_true] at hj
          rcases hj with hj | hj
          · exact hflag j hj
          · obtain ⟨o', fd, ho', hfd⟩ := hold hj
            have : o' = o := by simpa using ho'.symm
            subst this
            exact ⟨o', fd, hpi, hfd⟩
        · simp only [hji, if_false] at hj
          exact hflag j hj
      · by_cases hof : oldFop.file = true
        · -- the descriptor in limbo is taken over by entry i
          obtain ⟨o', fd0, ho', hfd0⟩ := hold hof
          have : o' = o := by simpa using ho'.symm
          subst this
          have hl : limbo = some fd0 := by rw [hlimbo]; simp [hof, hfd0]
          subst hl
          have hnone : ownerFd ports fops i = none := hfree i o' hof rfl hpi
          apply hown.reown i hnone
          intro j
          rw [ownerFd_setFop]
          by_cases hji : j = i
          · simp [hji, nf, hof, hpi, hfd0]
          · simp [hji]
        · have hof' : oldFop.file = false := by simpa using hof
          have hl : limbo = none := by rw [hlimbo]; simp [hof']
          subst hl
          apply hown.congr_own
          intro j
          rw [ownerFd_setFop]
          by_cases hji : j = i
          · subst hji
            simp [nf, hof', ownerFd]
          · simp [hji]
    | none =>
      simp only [release, hfi]
      by_cases hof : oldFop.file = true
      · obtain ⟨o', fd0, ho', hfd0⟩ := hold hof
        have : o' = o := by simpa using ho'.symm
        subst this
        have hl : limbo = some fd0 := by rw [hlimbo]; simp [hof, hfd0]
        subst hl
        have hmem : fd0 ∈ w.openFds := (hown.split fd0).2 (Or.inr (Or.inr rfl))
        rw [closeFop_owned oldFop hof hfd0]
        have hq : Quiet w (chanPart (closeFd w fd0) oldFop.chan) :=
          (closeFd_quiet hmem).trans (chanPart_quiet _ _)
        refine ⟨⟨chanPart_wf (closeFd_wf hwf hmem) _, ?_, hflag, ?_⟩, hq⟩
        · refine hports.mono hq.next fun x hx => Or.inl ?_
          rw [chanPart_open] at hx
          exact ((closeFd_mem hwf hmem x).1 hx).1
        · rw [chanPart_open, closeFd_open_of_mem hmem]
          exact hown.closeLimbo hwf.nodup
      · have hof' : oldFop.file = false := by simpa using hof
        have hl : limbo = none := by rw [hlimbo]; simp [hof']
        subst hl
        rw [closeFop_unowned _ oldFop hof']
        refine ⟨⟨chanPart_wf hwf _, ?_, hflag, ?_⟩, chanPart_quiet _ _⟩
        · exact hports.mono (chanPart_quiet _ _).next fun x hx => Or.inl (by rwa [chanPart_open] at hx)
        · rw [chanPart_open]; exact hown

end C40
