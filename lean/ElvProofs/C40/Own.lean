import ElvProofs.C40.Basic
/-!
The ownership invariant of a form's frame.  `ownerFd ports fops i` is the descriptor the form must
close for table entry `i`.  `OwnInv`: no descriptor is owned twice, and the open descriptors are
exactly those of the surroundings (`B`), the owned ones, and at most one "in limbo" (taken from an
entry that is being redirected and not yet released).
-/
namespace C40

def ownerFd (ports : Ports) (fops : Fops) (i : Nat) : Option Nat :=
  if (fopAt fops i).file then (portAt ports i).bind (·.file) else none

/-- Read ends of pipes in the table have their write ends closed (and those descriptor numbers will
not be handed out again). -/
def PortsOK (w : World) (ports : Ports) : Prop :=
  ∀ i p x, portAt ports i = some p → p.peer = some x → x ∉ w.openFds ∧ x < w.nextFd

theorem PortsOK.mono {w w' : World} {ports : Ports} (h : PortsOK w ports) (hn : w.nextFd ≤ w'.nextFd)
    (hs : ∀ x, x ∈ w'.openFds → x ∈ w.openFds ∨ w.nextFd ≤ x) : PortsOK w' ports := fun i p x hp hx => by
  obtain ⟨h1, h2⟩ := h i p x hp hx
  refine ⟨fun hm => ?_, Nat.lt_of_lt_of_le h2 hn⟩
  rcases hs x hm with hm' | hge
  · exact h1 hm'
  · omega

theorem PortsOK.of_bal {w w' : World} {ports : Ports} (h : PortsOK w ports) (hb : Bal w w') :
    PortsOK w' ports := h.mono hb.quiet.next fun x hm => Or.inl ((hb.mem x).1 hm)

theorem PortsOK.set {w : World} {ports : Ports} (h : PortsOK w ports) (d : Nat) {v : Option Port}
    (hv : ∀ p x, v = some p → p.peer = some x → x ∉ w.openFds ∧ x < w.nextFd) :
    PortsOK w (setPort ports d v) := fun i p x hp hx => by
  rw [portAt_setPort] at hp
  by_cases hi : i = d
  · rw [if_pos hi] at hp; exact hv p x hp hx
  · rw [if_neg hi] at hp; exact h i p x hp hx

def FlagOK (ports : Ports) (fops : Fops) : Prop :=
  ∀ i, (fopAt fops i).file = true → ∃ p fd, portAt ports i = some p ∧ p.file = some fd

structure OwnInv (own : Nat → Option Nat) (limbo : Option Nat) (opn : List Nat) (B : Nat → Prop) : Prop where
  inj : ∀ i j fd, own i = some fd → own j = some fd → i = j
  split : ∀ fd, fd ∈ opn ↔ (B fd ∨ (∃ i, own i = some fd) ∨ limbo = some fd)
  disjB : ∀ fd i, own i = some fd → ¬ B fd
  limboB : ∀ fd, limbo = some fd → ¬ B fd
  limboOwn : ∀ fd i, limbo = some fd → own i ≠ some fd

theorem OwnInv.nil {opn : List Nat} {B : Nat → Prop} (h : ∀ fd, fd ∈ opn ↔ B fd) :
    OwnInv (fun _ => none) none opn B :=
  ⟨nofun, fun fd => by simp [h fd], nofun, nofun, nofun⟩

/-! The moves below update `own` at one index; every field is checked by distinguishing that index
from the others. -/

/-- the entry `d` gives up what it owns: that descriptor is in limbo -/
theorem OwnInv.unown {own own' : Nat → Option Nat} {opn : List Nat} {B : Nat → Prop}
    (h : OwnInv own none opn B) (d : Nat) (hown : ∀ i, own' i = if i = d then none else own i) :
    OwnInv own' (own d) opn B := by
  refine ⟨?_, ?_, ?_, fun fd hl => h.disjB fd d hl, ?_⟩
  · grind [h.inj]
  · intro fd
    rw [h.split fd]
    grind
  · grind [h.disjB]
  · grind [h.inj]

/-- the descriptor in limbo is taken over by entry `i` (which owned nothing) -/
theorem OwnInv.reown {own own' : Nat → Option Nat} {opn : List Nat} {B : Nat → Prop} {fd0 : Nat}
    (h : OwnInv own (some fd0) opn B) (i0 : Nat) (hnone : own i0 = none)
    (hown : ∀ i, own' i = if i = i0 then some fd0 else own i) :
    OwnInv own' none opn B := by
  refine ⟨?_, ?_, ?_, nofun, nofun⟩
  · grind [h.inj, h.limboOwn]
  · intro fd
    rw [h.split fd]
    grind
  · grind [h.disjB, h.limboB]

theorem OwnInv.congr_own {own own' : Nat → Option Nat} {opn : List Nat} {B : Nat → Prop} {l : Option Nat}
    (h : OwnInv own l opn B) (hown : ∀ i, own' i = own i) : OwnInv own' l opn B :=
  (funext hown : own' = own) ▸ h

theorem OwnInv.closeLimbo {own : Nat → Option Nat} {opn : List Nat} {B : Nat → Prop} {fd0 : Nat}
    (h : OwnInv own (some fd0) opn B) (hnd : opn.Nodup) : OwnInv own none (opn.erase fd0) B := by
  refine ⟨h.inj, ?_, h.disjB, ?_, ?_⟩
  · intro fd
    rw [hnd.mem_erase_iff, h.split fd]
    constructor
    · rintro ⟨hne, hb | ho | hl⟩
      · exact Or.inl hb
      · exact Or.inr (Or.inl ho)
      · simp at hl; exact absurd hl.symm hne
    · rintro (hb | ⟨i, hi⟩ | hl)
      · exact ⟨fun he => h.limboB fd (by rw [he]) hb, Or.inl hb⟩
      · exact ⟨fun he => h.limboOwn fd i (by rw [he]) hi, Or.inr (Or.inl ⟨i, hi⟩)⟩
      · simp at hl
  · intro fd hl; simp at hl
  · intro fd i hl; simp at hl

theorem OwnInv.addFresh {own own' : Nat → Option Nat} {opn : List Nat} {B : Nat → Prop} {l : Option Nat}
    (h : OwnInv own l opn B) (d fdn : Nat) (hnone : own d = none) (hfresh : fdn ∉ opn)
    (hown : ∀ i, own' i = if i = d then some fdn else own i) :
    OwnInv own' l (fdn :: opn) B := by
  have hnB : ¬ B fdn := fun hb => hfresh ((h.split fdn).2 (Or.inl hb))
  have hnO : ∀ i, own i ≠ some fdn := fun i hi => hfresh ((h.split fdn).2 (Or.inr (Or.inl ⟨i, hi⟩)))
  have hnL : l ≠ some fdn := fun hl => hfresh ((h.split fdn).2 (Or.inr (Or.inr hl)))
  refine ⟨?_, ?_, ?_, h.limboB, ?_⟩
  · grind [h.inj]
  · intro fd
    rw [List.mem_cons, h.split fd]
    grind
  · grind [h.disjB]
  · grind [h.limboOwn]

theorem OwnInv.addSurrounding {own : Nat → Option Nat} {opn : List Nat} {B : Nat → Prop} {l : Option Nat}
    (h : OwnInv own l opn B) (fdn : Nat) (hfresh : fdn ∉ opn) :
    OwnInv own l (fdn :: opn) (fun fd => B fd ∨ fd = fdn) := by
  have hnO : ∀ i, own i ≠ some fdn := fun i hi => hfresh ((h.split fdn).2 (Or.inr (Or.inl ⟨i, hi⟩)))
  have hnL : l ≠ some fdn := fun hl => hfresh ((h.split fdn).2 (Or.inr (Or.inr hl)))
  refine ⟨h.inj, fun fd => ?_, ?_, ?_, h.limboOwn⟩
  · rw [List.mem_cons, h.split fd]
    grind
  · grind [h.disjB]
  · grind [h.limboB]

theorem OwnInv.congr_open {own : Nat → Option Nat} {opn opn' : List Nat} {B : Nat → Prop} {l : Option Nat}
    (h : OwnInv own l opn B) (hm : ∀ fd, fd ∈ opn' ↔ fd ∈ opn) : OwnInv own l opn' B :=
  ⟨h.inj, fun fd => (hm fd).trans (h.split fd), h.disjB, h.limboB, h.limboOwn⟩

end C40
