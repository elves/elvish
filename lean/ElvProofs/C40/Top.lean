import ElvProofs.C40.Induct
/-!
From `Res` to the counters; the concrete worlds and trees of the counterexample and the non-vacuity examples.
-/
namespace C40

theorem net_of_res {w w' : World} (hw : WF w) (h : Res w w') :
    netFds w w' = 0 ∧ netGo w w' = 0 ∧ (∀ fd, fd ∈ w'.openFds ↔ fd ∈ w.openFds) ∧ w'.openFds.Nodup ∧
    w'.badClose = w.badClose ∧ w'.panics = w.panics ∧ w'.hung = w.hung := by
  obtain ⟨hw', hb⟩ := h
  have hperm : w'.openFds.Perm w.openFds := (List.perm_ext_iff_of_nodup hw'.nodup hw.nodup).2 hb.mem
  have hlen := hperm.length_eq
  have c1 := hw.count
  have c2 := hw'.count
  have hl := hb.quiet.live
  unfold live at hl
  refine ⟨?_, ?_, hb.mem, hw'.nodup, hb.quiet.bad, hb.quiet.panics, hb.quiet.hung⟩
  · unfold netFds; omega
  · unfold netGo; omega

/-- `nop | nop | nop` where the `os.Pipe` call made for the second form fails (descriptor exhaustion). -/
def witness : Chunk :=
  .mk [.mk false (some 1) [.mk [] (.leaf .ok), .mk [] (.leaf .ok), .mk [] (.leaf .ok)]]

def w0 : World := World.init [0, 1, 2] 3

theorem w0_wf : WF w0 := ⟨by decide, by decide, by decide⟩

theorem topPorts_ok (w : World) : PortsOK w topPorts := by
  intro i p x hpi hx
  have : p.peer = none := by
    unfold topPorts portAt at hpi
    match i, hpi with
    | 0, hpi => simp at hpi; subst hpi; rfl
    | 1, hpi => simp at hpi; subst hpi; rfl
    | 2, hpi => simp at hpi; subst hpi; rfl
    | n + 3, hpi => simp at hpi
  rw [this] at hx; simp at hx

/-- `nop > f > nodir/x | each $nop~ | nop (fail x)`: a redirection that fails after an earlier one
of the same form opened a file, an input-iterating stage and a capture around a failing body. -/
def sample : Chunk :=
  .mk [.mk false none [
    .mk [.mk none .write (.file true), .mk none .write (.file false)] (.leaf .ok),
    .mk [] .drain,
    .mk [] (.capture true (.mk [.mk false none [.mk [] (.leaf .exc)]]))]]


end C40
