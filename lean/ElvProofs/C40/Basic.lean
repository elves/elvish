import ElvModel.C40.Resources
/-!
The accounting world: well-formedness, the "balanced" relation between two worlds, the effect of the
primitive events, and the fd-indexed slices read with their zero value as default.
-/
namespace C40

/-- live goroutines started by the evaluation -/
def live (w : World) : Int := (w.spawned : Int) - (w.finished : Int)

structure WF (w : World) : Prop where
  nodup : w.openFds.Nodup
  lt : ∀ fd ∈ w.openFds, fd < w.nextFd
  count : w.opened = w.closed + w.openFds.length

/-- Everything the property is about, except the open set itself, is unchanged (the allocation
counter may have moved forward). -/
structure Quiet (w w' : World) : Prop where
  next : w.nextFd ≤ w'.nextFd
  live : live w' = live w
  bad : w'.badClose = w.badClose
  panics : w'.panics = w.panics
  hung : w'.hung = w.hung

theorem Quiet.refl (w : World) : Quiet w w := ⟨Nat.le_refl _, rfl, rfl, rfl, rfl⟩

theorem Quiet.trans {a b c : World} (h1 : Quiet a b) (h2 : Quiet b c) : Quiet a c :=
  ⟨Nat.le_trans h1.next h2.next, h2.live.trans h1.live, h2.bad.trans h1.bad,
   h2.panics.trans h1.panics, h2.hung.trans h1.hung⟩

structure Bal (w w' : World) : Prop where
  mem : ∀ fd, fd ∈ w'.openFds ↔ fd ∈ w.openFds
  quiet : Quiet w w'

theorem Bal.refl (w : World) : Bal w w := ⟨fun _ => Iff.rfl, Quiet.refl w⟩

theorem Bal.trans {a b c : World} (h1 : Bal a b) (h2 : Bal b c) : Bal a c :=
  ⟨fun fd => (h2.mem fd).trans (h1.mem fd), h1.quiet.trans h2.quiet⟩

/-- From `w` the evaluation went quietly to `w'`, where exactly the descriptors in `B` are open. -/
def Leaves (B : Nat → Prop) (w w' : World) : Prop :=
  WF w' ∧ Quiet w w' ∧ ∀ fd, fd ∈ w'.openFds ↔ B fd

theorem Leaves.of_quiet {B : Nat → Prop} {a b c : World} (h1 : Quiet a b) (h2 : Leaves B b c) :
    Leaves B a c := ⟨h2.1, h1.trans h2.2.1, h2.2.2⟩


@[simp] theorem openFd_fd (w : World) : (openFd w).2 = w.nextFd := rfl
@[simp] theorem openFd_open (w : World) : (openFd w).1.openFds = w.nextFd :: w.openFds := rfl
@[simp] theorem openFd_next (w : World) : (openFd w).1.nextFd = w.nextFd + 1 := rfl

theorem openFd_wf {w : World} (h : WF w) : WF (openFd w).1 := by
  refine ⟨?_, ?_, ?_⟩
  · simp only [openFd_open, List.nodup_cons]
    exact ⟨fun hm => Nat.lt_irrefl _ (h.lt _ hm), h.nodup⟩
  · intro fd hfd
    simp only [openFd_open, List.mem_cons] at hfd
    simp only [openFd_next]
    rcases hfd with rfl | hfd
    · exact Nat.lt_succ_self _
    · exact Nat.lt_succ_of_lt (h.lt _ hfd)
  · have := h.count
    simp [openFd]; omega

theorem openFd_quiet (w : World) : Quiet w (openFd w).1 :=
  ⟨Nat.le_succ _, rfl, rfl, rfl, rfl⟩

theorem openFd_fresh {w : World} (h : WF w) : w.nextFd ∉ w.openFds :=
  fun hm => Nat.lt_irrefl _ (h.lt _ hm)

theorem closeFd_open_of_mem {w : World} {fd : Nat} (hm : fd ∈ w.openFds) :
    (closeFd w fd).openFds = w.openFds.erase fd := by
  simp [closeFd, hm]

theorem closeFd_mem {w : World} (h : WF w) {fd : Nat} (hm : fd ∈ w.openFds) (x : Nat) :
    x ∈ (closeFd w fd).openFds ↔ x ∈ w.openFds ∧ x ≠ fd := by
  rw [closeFd_open_of_mem hm, h.nodup.mem_erase_iff]
  exact And.comm

theorem closeFd_wf {w : World} (h : WF w) {fd : Nat} (hm : fd ∈ w.openFds) : WF (closeFd w fd) := by
  refine ⟨?_, ?_, ?_⟩
  · rw [closeFd_open_of_mem hm]; exact h.nodup.erase fd
  · intro x hx
    have := (closeFd_mem h hm x).1 hx
    have h2 : (closeFd w fd).nextFd = w.nextFd := by simp [closeFd, hm]
    rw [h2]; exact h.lt _ this.1
  · have hc := h.count
    have hl : (w.openFds.erase fd).length = w.openFds.length - 1 := List.length_erase_of_mem hm
    have hpos : 0 < w.openFds.length := List.length_pos_of_mem hm
    simp [closeFd, hm, hl]; omega

theorem closeFd_quiet {w : World} {fd : Nat} (hm : fd ∈ w.openFds) : Quiet w (closeFd w fd) := by
  refine ⟨?_, ?_, ?_, ?_, ?_⟩ <;> simp [closeFd, hm, live]

theorem closeFd_leaves {u : World} {fd : Nat} {S : Nat → Prop} (hu : WF u) (hfd : ¬ S fd)
    (hmem : ∀ x, x ∈ u.openFds ↔ (x = fd ∨ S x)) : Leaves S u (closeFd u fd) := by
  have hm : fd ∈ u.openFds := (hmem fd).2 (Or.inl rfl)
  refine ⟨closeFd_wf hu hm, closeFd_quiet hm, fun x => ?_⟩
  rw [closeFd_mem hu hm, hmem x]
  constructor
  · rintro ⟨he | hs, hne⟩
    · exact absurd he hne
    · exact hs
  · exact fun hs => ⟨Or.inr hs, fun he => hfd (he ▸ hs)⟩

@[simp] theorem spawn_open (w : World) (k : Nat) : (spawn w k).openFds = w.openFds := rfl
@[simp] theorem finish_open (w : World) (k : Nat) : (finish w k).openFds = w.openFds := rfl
@[simp] theorem spawn_next (w : World) (k : Nat) : (spawn w k).nextFd = w.nextFd := rfl
@[simp] theorem finish_next (w : World) (k : Nat) : (finish w k).nextFd = w.nextFd := rfl
theorem live_spawn (w : World) (k : Nat) : live (spawn w k) = live w + k := by
  simp [live, spawn]; omega
theorem live_finish (w : World) (k : Nat) : live (finish w k) = live w - k := by
  simp [live, finish]; omega

theorem spawn_wf {w : World} (h : WF w) (k : Nat) : WF (spawn w k) := ⟨h.nodup, h.lt, h.count⟩
theorem finish_wf {w : World} (h : WF w) (k : Nat) : WF (finish w k) := ⟨h.nodup, h.lt, h.count⟩

@[simp] theorem newPort_open (w : World) (f p : Option Nat) : (newPort w f p).1.openFds = w.openFds := rfl
@[simp] theorem newPort_next (w : World) (f p : Option Nat) : (newPort w f p).1.nextFd = w.nextFd := rfl
@[simp] theorem newPort_file (w : World) (f p : Option Nat) : (newPort w f p).2.file = f := rfl
@[simp] theorem newPort_peer (w : World) (f p : Option Nat) : (newPort w f p).2.peer = p := rfl
theorem newPort_wf {w : World} (h : WF w) (f p : Option Nat) : WF (newPort w f p).1 := ⟨h.nodup, h.lt, h.count⟩
theorem newPort_bal (w : World) (f p : Option Nat) : Bal w (newPort w f p).1 :=
  ⟨fun _ => Iff.rfl, ⟨Nat.le_refl _, rfl, rfl, rfl, rfl⟩⟩


theorem getElem?_growSet {α : Type} (l : List α) (i : Nat) (d v : α) (j : Nat) :
    (growSet l i d v)[j]? =
      if j = i then some v else if j < l.length then l[j]? else if j < i then some d else none := by
  unfold growSet
  by_cases hi : i < l.length
  · simp only [hi, if_true, List.getElem?_set]
    by_cases hji : j = i
    · subst hji; simp
    · have : ¬ i = j := fun h => hji h.symm
      simp only [this, hji, if_false]
      by_cases hj : j < l.length
      · simp [hj]
      · have hj' : l.length ≤ j := Nat.le_of_not_lt hj
        simp only [hj, if_false, List.getElem?_eq_none hj']
        have : ¬ j < i := by omega
        simp [this]
  · simp only [hi, if_false]
    have hi' : l.length ≤ i := Nat.le_of_not_lt hi
    by_cases hj : j < l.length
    · have hji : j ≠ i := by omega
      simp only [hji, if_false, hj, if_true]
      rw [List.append_assoc, List.getElem?_append_left hj]
    · have hj' : l.length ≤ j := Nat.le_of_not_lt hj
      rw [List.append_assoc, List.getElem?_append_right hj']
      simp only [hj, if_false]
      by_cases hji : j = i
      · subst hji
        simp only [if_true]
        rw [List.getElem?_append_right (by simp)]
        simp
      · simp only [hji, if_false]
        by_cases hlt : j < i
        · simp only [hlt, if_true]
          rw [List.getElem?_append_left (by simp; omega)]
          simp [List.getElem?_replicate]; omega
        · simp only [hlt, if_false]
          apply List.getElem?_eq_none
          simp; omega

/-- Read back with the zero value as default, which is how the Go code reads these slices. -/
theorem getD_growSet {α : Type} (l : List α) (i : Nat) (d v : α) (j : Nat) :
    (growSet l i d v)[j]?.getD d = if j = i then v else l[j]?.getD d := by
  rw [getElem?_growSet]
  by_cases hji : j = i
  · rw [if_pos hji, if_pos hji]; rfl
  · rw [if_neg hji, if_neg hji]
    by_cases hj : j < l.length
    · rw [if_pos hj]
    · rw [if_neg hj, List.getElem?_eq_none (Nat.le_of_not_lt hj)]
      split <;> rfl

theorem portAt_eq_getD (ports : Ports) (i : Nat) : portAt ports i = ports[i]?.getD none := by
  unfold portAt
  cases ports[i]? with
  | none => rfl
  | some q => cases q <;> rfl

theorem fopAt_eq_getD (fops : Fops) (i : Nat) : fopAt fops i = fops[i]?.getD Fop.none := by
  unfold fopAt
  cases fops[i]? <;> rfl

@[simp] theorem portAt_setPort (ports : Ports) (i : Nat) (v : Option Port) (j : Nat) :
    portAt (setPort ports i v) j = if j = i then v else portAt ports j := by
  simp only [portAt_eq_getD, setPort, getD_growSet]

@[simp] theorem fopAt_setFop (fops : Fops) (i : Nat) (f : Fop) (j : Nat) :
    fopAt (setFop fops i f) j = if j = i then f else fopAt fops j := by
  simp only [fopAt_eq_getD, setFop, getD_growSet]

@[simp] theorem fopAt_nil (j : Nat) : fopAt [] j = Fop.none := rfl
theorem fopAt_cons_zero (f : Fop) (rest : Fops) : fopAt (f :: rest) 0 = f := rfl
theorem fopAt_cons_succ (f : Fop) (rest : Fops) (j : Nat) : fopAt (f :: rest) (j + 1) = fopAt rest j := by
  simp only [fopAt, List.getElem?_cons_succ]

theorem portAt_cons_zero (q : Option Port) (rest : Ports) : portAt (q :: rest) 0 = q := by
  cases q <;> rfl
theorem portAt_cons_succ (q : Option Port) (rest : Ports) (j : Nat) :
    portAt (q :: rest) (j + 1) = portAt rest j := by
  simp only [portAt, List.getElem?_cons_succ]


theorem firstIdx_some {o : Port} : ∀ {ports : Ports} {k i : Nat},
    firstIdx o ports k = some i → ∃ j, i = k + j ∧ portAt ports j = some o
  | [], _, _, h => nomatch h
  | q :: rest, k, i, h => by
    rw [firstIdx] at h
    split at h
    next hq =>
      cases h
      exact ⟨0, rfl, (portAt_cons_zero q rest).trans hq⟩
    next =>
      obtain ⟨j, rfl, hp⟩ := firstIdx_some h
      exact ⟨j + 1, by omega, (portAt_cons_succ q rest j).trans hp⟩

theorem firstIdx_none {o : Port} : ∀ {ports : Ports} {k : Nat},
    firstIdx o ports k = none → ∀ j, portAt ports j ≠ some o
  | [], _, _, j => nofun
  | q :: rest, k, h, j => by
    rw [firstIdx] at h
    split at h
    next => cases h
    next hq =>
      cases j with
      | zero => rwa [portAt_cons_zero]
      | succ j => rw [portAt_cons_succ]; exact firstIdx_none h j

theorem firstIdx_isSome_of_portAt {o : Port} : ∀ {ports : Ports} (k : Nat) {j : Nat},
    portAt ports j = some o → ∃ i, firstIdx o ports k = some i := by
  intro ports k j hj
  cases h : firstIdx o ports k with
  | some i => exact ⟨i, rfl⟩
  | none => exact absurd hj (firstIdx_none h j)

/-- A section that starts `k` goroutines and joins them at its end. -/
theorem Quiet.bracket {u v : World} {k : Nat} (h : Quiet (spawn u k) v) : Quiet u (finish v k) := by
  refine ⟨h.next, ?_, h.bad, h.panics, h.hung⟩
  rw [live_finish, h.live, live_spawn]; omega

theorem Bal.bracket {u v : World} {k : Nat} (h : Bal (spawn u k) v) : Bal u (finish v k) :=
  ⟨h.mem, h.quiet.bracket⟩

theorem spawn_quiet_of {u v : World} {k : Nat} (h : Quiet u v) : Quiet (spawn u k) (spawn v k) := by
  refine ⟨h.next, ?_, h.bad, h.panics, h.hung⟩
  rw [live_spawn, live_spawn, h.live]

end C40
