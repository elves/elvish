import ElvProofs.C40.Exec
/-!
The frame of a pipeline stage that also owns the write end of the pipe to the next form, the
hand-over of the read end to that form, and the cleanup when `os.Pipe` fails.
-/
namespace C40

theorem FormInv.extendB {w w' : World} {ports : Ports} {fops : Fops} {B : Nat → Prop} {fdn : Nat}
    (h : FormInv w ports fops B) (hwf' : WF w') (hge : w.nextFd ≤ fdn) (hnext : w.nextFd ≤ w'.nextFd)
    (hmem : ∀ x, x ∈ w'.openFds ↔ (x = fdn ∨ x ∈ w.openFds)) :
    FormInv w' ports fops (fun fd => B fd ∨ fd = fdn) := by
  have hfresh : fdn ∉ w.openFds := fun hm => Nat.lt_irrefl _ (Nat.lt_of_lt_of_le (h.wf.lt _ hm) hge)
  refine ⟨hwf', h.portsOK.mono hnext fun x hx => ?_, h.flag,
    (h.own.addSurrounding fdn hfresh).congr_open fun x => by rw [hmem x, List.mem_cons]⟩
  rcases (hmem x).1 hx with he | hm
  · exact Or.inr (he ▸ hge)
  · exact Or.inl hm

theorem FormInv.addOwned {w w' : World} {ports : Ports} {fops : Fops} {B : Nat → Prop}
    (h : FormInv w ports fops B) (d : Nat) (hd : (fopAt fops d).file = false)
    (np : Port) (fdn : Nat) (hfile : np.file = some fdn) (hpeer : np.peer = none)
    (hwf' : WF w') (hge : w.nextFd ≤ fdn) (hnext : w.nextFd ≤ w'.nextFd)
    (hmem : ∀ x, x ∈ w'.openFds ↔ (x = fdn ∨ x ∈ w.openFds)) (f : Fop) (hf : f.file = true) :
    FormInv w' (setPort ports d (some np)) (setFop fops d f) B :=
  have hp : Pending w ports fops B none Fop.none :=
    ⟨h.wf, h.portsOK, h.flag, h.own, nofun, fun _ _ hf => nomatch hf⟩
  (release_spec (hp.installOpened d np fdn hd hfile hpeer hwf' hnext hge hmem f hf)).1

theorem FormInv.spawn {w : World} {ports : Ports} {fops : Fops} {B : Nat → Prop}
    (h : FormInv w ports fops B) (k : Nat) : FormInv (spawn w k) ports fops B :=
  ⟨spawn_wf h.wf k, h.portsOK, h.flag, h.own⟩


theorem mkPipe_out (w : World) : (mkPipe w).2.1.file = some (w.nextFd + 1) ∧ (mkPipe w).2.1.peer = none := ⟨rfl, rfl⟩
theorem mkPipe_in (w : World) :
    (mkPipe w).2.2.file = some w.nextFd ∧ (mkPipe w).2.2.peer = some (w.nextFd + 1) := ⟨rfl, rfl⟩
theorem mkPipe_open (w : World) : (mkPipe w).1.openFds = (w.nextFd + 1) :: w.nextFd :: w.openFds := rfl
theorem mkPipe_next (w : World) : (mkPipe w).1.nextFd = w.nextFd + 2 := rfl
theorem mkPipe_world (w : World) : (mkPipe w).1 =
    (newPort (newPort (openFd (openFd w).1).1 (some (w.nextFd + 1)) none).1 (some w.nextFd) (some (w.nextFd + 1))).1 := rfl
theorem mkPipe_wf {w : World} (h : WF w) : WF (mkPipe w).1 := by
  rw [mkPipe_world]
  exact newPort_wf (newPort_wf (openFd_wf (openFd_wf h)) _ _) _ _
theorem mkPipe_quiet (w : World) : Quiet w (mkPipe w).1 := by
  rw [mkPipe_world]
  exact ((openFd_quiet w).trans (openFd_quiet _)).trans
    ((newPort_bal (openFd (openFd w).1).1 (some (w.nextFd + 1)) none).quiet.trans (newPort_bal _ (some w.nextFd) (some (w.nextFd + 1))).quiet)

/-- The frame of a non-last form owns its input read end (if any) and the write end of the new pipe;
the new read end belongs to the surroundings (it is handed to the next form). -/
theorem stage_formInv_mid {w : World} {ports : Ports} {nextIn : Option Port}
    (hw : WF w) (hp : PortsOK w ports) (hin : InOK w nextIn) :
    FormInv (spawn (mkPipe w).1 1)
      (setPort (stagePorts ports nextIn) 1 (some (mkPipe w).2.1))
      (setFop (stageFops nextIn) 1 ⟨true, true⟩)
      (fun fd => (fd ∈ w.openFds ∧ inFd nextIn ≠ some fd) ∨ fd = w.nextFd) := by
  apply FormInv.spawn
  have h0 := stage_formInv_last hw hp hin
  -- the read end of the new pipe joins the surroundings
  have h1 := h0.extendB (w' := (openFd w).1) (fdn := w.nextFd) (openFd_wf hw) (Nat.le_refl _) (Nat.le_succ _)
    (by intro x; simp [List.mem_cons])
  -- the write end is installed in entry 1 and owned
  have hd : (fopAt (stageFops nextIn) 1).file = false := by
    cases nextIn <;> rfl
  exact h1.addOwned 1 hd (mkPipe w).2.1 (w.nextFd + 1) (mkPipe_out w).1 (mkPipe_out w).2
    (mkPipe_wf hw) (by simp) (by rw [mkPipe_next]; simp) (by
      intro x; rw [mkPipe_open]; simp [List.mem_cons]) ⟨true, true⟩ rfl

theorem closeInput_leaves {w : World} {nextIn : Option Port} (hw : WF w) (hin : InOK w nextIn) :
    Leaves (fun fd => fd ∈ w.openFds ∧ inFd nextIn ≠ some fd) w (closeInput w nextIn) := by
  cases nextIn with
  | none => exact ⟨hw, Quiet.refl w, fun fd => by simp [closeInput, inFd]⟩
  | some p =>
    obtain ⟨fd0, x0, hfile, hmem, _, _, _⟩ := hin
    simp only [closeInput, hfile]
    refine ⟨closeFd_wf hw hmem, closeFd_quiet hmem, fun fd => ?_⟩
    rw [closeFd_mem hw hmem]
    simp only [inFd, hfile, ne_eq, Option.some.injEq, eq_comm]

/-- After a non-last form has run and its goroutine has returned, the read end of the new pipe is
the one descriptor added to what the form was to leave open; its write end is closed, so it can be
handed to the next form. -/
theorem stage_mid_handover {w r : World} {ports : Ports} {nextIn : Option Port}
    (hw : WF w) (hp : PortsOK w ports)
    (hr : Leaves (fun fd => (fd ∈ w.openFds ∧ inFd nextIn ≠ some fd) ∨ fd = w.nextFd) (spawn (mkPipe w).1 1) r) :
    WF (finish r 1) ∧ Quiet w (finish r 1) ∧ PortsOK (finish r 1) ports ∧
    InOK (finish r 1) (some (mkPipe w).2.2) ∧
    ∀ fd, (fd ∈ (finish r 1).openFds ∧ inFd (some (mkPipe w).2.2) ≠ some fd) ↔
      (fd ∈ w.openFds ∧ inFd nextIn ≠ some fd) := by
  obtain ⟨hwr, hqr, hmem⟩ := hr
  have hq : Quiet w (finish r 1) := (mkPipe_quiet w).trans hqr.bracket
  have hnext : w.nextFd + 2 ≤ r.nextFd := hqr.next
  have hold : ∀ fd, fd ∈ w.openFds → fd < w.nextFd := hw.lt
  refine ⟨finish_wf hwr 1, hq, ?_, ?_, fun fd => ?_⟩
  · intro j p x hpj hx
    have := hp j p x hpj hx
    refine ⟨fun hm => ?_, Nat.lt_of_lt_of_le this.2 hq.next⟩
    rcases (hmem x).1 hm with ⟨h1, _⟩ | h1
    · exact this.1 h1
    · omega
  · refine ⟨w.nextFd, w.nextFd + 1, (mkPipe_in w).1, (hmem _).2 (Or.inr rfl), (mkPipe_in w).2, fun hm => ?_, by show _ < r.nextFd; omega⟩
    rcases (hmem _).1 hm with ⟨h1, _⟩ | h1
    · have := hold _ h1; omega
    · omega
  · show (fd ∈ r.openFds ∧ some w.nextFd ≠ some fd) ↔ _
    rw [hmem fd]
    constructor
    · rintro ⟨h1 | h1, h3⟩
      · exact h1
      · exact absurd (congrArg some h1.symm) h3
    · rintro ⟨h1, h2⟩
      refine ⟨Or.inl ⟨h1, h2⟩, fun h => ?_⟩
      have := hold _ h1
      have := Option.some.inj h
      omega

end C40
