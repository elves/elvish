import ElvProofs.C40.Redir
/-!
What an `exec` delivers (`Res`), and the pieces of the induction that do not recurse: input
iteration, output capture around a balanced body, and the frame a pipeline stage starts with.
-/
namespace C40

def Res (w w' : World) : Prop := WF w' ∧ Bal w w'

theorem Res.refl {w : World} (h : WF w) : Res w w := ⟨h, Bal.refl w⟩
theorem Res.trans {a b c : World} (h1 : Res a b) (h2 : Res b c) : Res a c := ⟨h2.1, h1.2.trans h2.2⟩

theorem Res.bracket {u v : World} {k : Nat} (h : Res (spawn u k) v) : Res u (finish v k) :=
  ⟨finish_wf h.1 k, h.2.bracket⟩

theorem PortsOK.spawn {w : World} {ports : Ports} (h : PortsOK w ports) (k : Nat) : PortsOK (spawn w k) ports := h
theorem PortsOK.finish {w : World} {ports : Ports} (h : PortsOK w ports) (k : Nat) : PortsOK (finish w k) ports := h

theorem waitEof_eq {w : World} {ports : Ports} (hp : PortsOK w ports) : waitEof w ports = w := by
  unfold waitEof eofReady
  cases h0 : portAt ports 0 with
  | none => simp
  | some q =>
    cases hq : q.peer with
    | none => simp [hq]
    | some x =>
      have := (hp 0 q x h0 hq).1
      simp [hq, this]

theorem iter_res {w : World} {ports : Ports} (hw : WF w) (hp : PortsOK w ports) :
    Res w (iterEnd (iterBegin w) ports) := by
  unfold iterEnd iterBegin
  rw [waitEof_eq (hp.spawn 3)]
  exact Res.bracket (Res.refl (spawn_wf hw 3))

theorem only_res {w : World} {ports : Ports} (hw : WF w) (hp : PortsOK w ports) :
    Res w (finish (waitEof (spawn w 1) ports) 1) := by
  rw [waitEof_eq (hp.spawn 1)]
  exact Res.bracket (Res.refl (spawn_wf hw 1))

theorem PortsOK.setDummy {w : World} {ports : Ports} (h : PortsOK w ports) :
    PortsOK w (setPort ports 0 (some dummyInput)) :=
  h.set 0 fun p x hp hx => by cases hp; cases hx

theorem captureWith_res {w : World} {ports : Ports} {pipeOk : Bool}
    {body : World → Ports → World × Outcome} (hw : WF w) (hp : PortsOK w ports)
    (hbody : ∀ w1 ports1, WF w1 → PortsOK w1 ports1 → Res w1 (body w1 ports1).1) :
    Res w (captureWith w ports pipeOk body).1 := by
  unfold captureWith
  cases pipeOk with
  | false => exact Res.refl hw
  | true =>
    simp only [if_true]
    -- the two ends of the pipe: read end `w.nextFd`, write end `w.nextFd + 1`
    rw [show (openFd w).2 = w.nextFd from rfl, show (openFd (openFd w).1).2 = w.nextFd + 1 from rfl]
    let u := (openFd (openFd w).1).1
    let np := newPort (spawn u 2) (some (w.nextFd + 1)) none
    have hnp_wf : WF np.1 := newPort_wf (spawn_wf (openFd_wf (openFd_wf hw)) 2) _ _
    have hnp_ports : PortsOK np.1 (setPort ports 1 (some np.2)) := by
      refine (hp.mono (w' := np.1) (Nat.le_add_right _ 2) fun x hx => ?_).set 1 fun p x hpi hx => ?_
      · have hx' : x ∈ (w.nextFd + 1) :: w.nextFd :: w.openFds := hx
        simp only [List.mem_cons] at hx'
        rcases hx' with rfl | rfl | hx'
        · exact Or.inr (Nat.le_succ _)
        · exact Or.inr (Nat.le_refl _)
        · exact Or.inl hx'
      · cases hpi; cases hx
    obtain ⟨hres_wf, hres_bal⟩ := hbody np.1 (setPort ports 1 (some np.2)) hnp_wf hnp_ports
    generalize hres : body np.1 (setPort ports 1 (some np.2)) = res at hres_wf hres_bal
    show Res w (finish (closeFd (if (closeFd res.1 (w.nextFd + 1)).openFds.contains (w.nextFd + 1) = true then
      { closeFd res.1 (w.nextFd + 1) with hung := true } else closeFd res.1 (w.nextFd + 1)) w.nextFd) 2, res.2).1
    have hlt : ∀ x, x ∈ w.openFds → x < w.nextFd := hw.lt
    -- `collect` closes the write end, so the byte reader sees EOF …
    obtain ⟨hw5, hq5, hm5⟩ := closeFd_leaves (fd := w.nextFd + 1) (S := fun x => x = w.nextFd ∨ x ∈ w.openFds) hres_wf
      (fun h => by
        rcases h with h | h
        · omega
        · have := hlt _ h; omega)
      (fun x => (hres_bal.mem x).trans (by
        show x ∈ (w.nextFd + 1) :: w.nextFd :: w.openFds ↔ _
        simp only [List.mem_cons]))
    have hnot : w.nextFd + 1 ∉ (closeFd res.1 (w.nextFd + 1)).openFds := fun hm => by
      rcases (hm5 _).1 hm with h | h
      · omega
      · have := hlt _ h; omega
    have hcont : (closeFd res.1 (w.nextFd + 1)).openFds.contains (w.nextFd + 1) = false := by
      simpa using hnot
    rw [hcont, if_neg Bool.false_ne_true]
    -- … and closes the read end
    obtain ⟨hw7, hq7, hm7⟩ := closeFd_leaves (fd := w.nextFd) (S := (· ∈ w.openFds)) hw5 (openFd_fresh hw) hm5
    have q1 : Quiet w u := (openFd_quiet w).trans (openFd_quiet _)
    have q2 : Quiet (spawn u 2) res.1 := (newPort_bal (spawn u 2) _ _).quiet.trans hres_bal.quiet
    exact ⟨finish_wf hw7 2, hm7, q1.trans ((q2.trans hq5).trans hq7).bracket⟩

/-- the read end handed to the next form of a pipeline -/
def InOK (w : World) : Option Port → Prop
  | none => True
  | some p => ∃ fd x, p.file = some fd ∧ fd ∈ w.openFds ∧ p.peer = some x ∧ x ∉ w.openFds ∧ x < w.nextFd

def inFd : Option Port → Option Nat
  | none => none
  | some p => p.file

/-- `newFm.ports` of a stage before the output pipe is installed -/
def stagePorts (ports : Ports) : Option Port → Ports
  | some p => setPort ports 0 (some p)
  | none => ports

/-- `fops` of a stage before the output pipe is installed -/
def stageFops : Option Port → Fops
  | some _ => setFop [] 0 ⟨true, false⟩
  | none => []

/-- The frame of a pipeline stage owns the read end it was handed (entry 0) and, if there is a next
form, the write end of the pipe to it (entry 1). -/
theorem stage_formInv_last {w : World} {ports : Ports} {nextIn : Option Port}
    (hw : WF w) (hp : PortsOK w ports) (hin : InOK w nextIn) :
    FormInv w (stagePorts ports nextIn) (stageFops nextIn)
      (fun fd => fd ∈ w.openFds ∧ inFd nextIn ≠ some fd) := by
  unfold stagePorts stageFops
  cases nextIn with
  | none => exact ⟨hw, hp, (fun i hi => nomatch hi), OwnInv.nil fun fd => by simp [inFd]⟩
  | some p =>
    obtain ⟨fd0, x0, hfile, hmem, hpeer, hx1, hx2⟩ := hin
    have hown : ∀ i, ownerFd (setPort ports 0 (some p)) (setFop [] 0 ⟨true, false⟩) i =
        if i = 0 then some fd0 else none := by
      intro i
      unfold ownerFd
      rw [fopAt_setFop, portAt_setPort]
      by_cases hi : i = 0
      · simp [hi, hfile]
      · simp [hi, Fop.none]
    refine ⟨hw, ?_, ?_, ?_⟩
    · refine hp.set 0 fun q x hq hx => ?_
      cases hq
      cases hpeer.symm.trans hx
      exact ⟨hx1, hx2⟩
    · intro i hi
      rw [fopAt_setFop] at hi
      by_cases h0 : i = 0
      · subst h0; exact ⟨p, fd0, by simp, hfile⟩
      · simp [h0, Fop.none] at hi
    · -- the frame owns nothing but `fd0`, which it takes from the surroundings
      have h0 : OwnInv (fun _ => none) none (w.openFds.erase fd0)
          (fun fd => fd ∈ w.openFds ∧ inFd (some p) ≠ some fd) :=
        OwnInv.nil fun fd => by
          rw [hw.nodup.mem_erase_iff]
          simp only [inFd, hfile, ne_eq, Option.some.injEq]
          exact ⟨fun h => ⟨h.2, fun he => h.1 he.symm⟩, fun h => ⟨fun he => h.2 he.symm, h.1⟩⟩
      refine (h0.addFresh 0 fd0 rfl (fun h => (hw.nodup.mem_erase_iff.1 h).1 rfl) hown).congr_open fun fd => ?_
      rw [List.mem_cons, hw.nodup.mem_erase_iff]
      by_cases he : fd = fd0
      · simp [he, hmem]
      · simp [he]

end C40
