import ElvProofs.C40.Own
/-!
The frame of one form: the invariant `FormInv` and the stage epilogue (`closeLoop`).
-/
namespace C40

structure FormInv (w : World) (ports : Ports) (fops : Fops) (B : Nat → Prop) : Prop where
  wf : WF w
  portsOK : PortsOK w ports
  flag : FlagOK ports fops
  own : OwnInv (ownerFd ports fops) none w.openFds B

theorem ownerFd_setFop (ports : Ports) (fops : Fops) (d : Nat) (f : Fop) (i : Nat) :
    ownerFd ports (setFop fops d f) i =
      if i = d then (if f.file then (portAt ports d).bind (·.file) else none) else ownerFd ports fops i := by
  unfold ownerFd
  rw [fopAt_setFop]
  by_cases h : i = d
  · subst h; simp
  · simp [h]

theorem ownerFd_setPort (ports : Ports) (fops : Fops) (d : Nat) (v : Option Port) (i : Nat) :
    ownerFd (setPort ports d v) fops i =
      if i = d then (if (fopAt fops d).file then v.bind (·.file) else none) else ownerFd ports fops i := by
  unfold ownerFd
  rw [portAt_setPort]
  by_cases h : i = d
  · subst h; simp
  · simp [h]

theorem ownerFd_some {ports : Ports} {fops : Fops} {i fd : Nat} (h : ownerFd ports fops i = some fd) :
    (fopAt fops i).file = true ∧ ∃ p, portAt ports i = some p ∧ p.file = some fd := by
  unfold ownerFd at h
  by_cases hf : (fopAt fops i).file = true
  · simp only [hf, if_true] at h
    cases hp : portAt ports i with
    | none => simp [hp] at h
    | some p => simp [hp] at h; exact ⟨hf, p, rfl, h⟩
  · simp [hf] at h

theorem ownerFd_of {ports : Ports} {fops : Fops} {i fd : Nat} {p : Port}
    (hf : (fopAt fops i).file = true) (hp : portAt ports i = some p) (hfd : p.file = some fd) :
    ownerFd ports fops i = some fd := by
  simp [ownerFd, hf, hp, hfd]

theorem ownerFd_none_of_flag {ports : Ports} {fops : Fops} {i : Nat}
    (hf : (fopAt fops i).file = false) : ownerFd ports fops i = none := by
  simp [ownerFd, hf]

/-- The `Chan` half of `formOwnedPort.close`; it touches no descriptor. -/
def chanPart (w : World) (c : Bool) : World :=
  if c then { w with chanCloses := w.chanCloses + 1 } else w

@[simp] theorem chanPart_open (w : World) (c : Bool) : (chanPart w c).openFds = w.openFds := by
  cases c <;> rfl
theorem chanPart_wf {w : World} (h : WF w) (c : Bool) : WF (chanPart w c) := by
  cases c
  · exact h
  · exact ⟨h.nodup, h.lt, h.count⟩
theorem chanPart_quiet (w : World) (c : Bool) : Quiet w (chanPart w c) := by
  cases c
  · exact Quiet.refl w
  · exact ⟨Nat.le_refl _, rfl, rfl, rfl, rfl⟩

theorem closeFop_owned {w : World} {p : Port} {fd : Nat} (fop : Fop) (hf : fop.file = true)
    (hfd : p.file = some fd) : closeFop w (some p) fop = chanPart (closeFd w fd) fop.chan := by
  simp [closeFop, hf, hfd, chanPart]

theorem closeFop_unowned {w : World} (p : Option Port) (fop : Fop) (hf : fop.file = false) :
    closeFop w p fop = chanPart w fop.chan := by
  simp [closeFop, hf, chanPart]

/-- The loop closes the entries from `k` on one by one: entry `k` gives up its descriptor (`unown`),
which is then closed (`closeLimbo`). -/
theorem closeLoop_spec (ports : Ports) (fops : Fops) (B : Nat → Prop) (hflag : FlagOK ports fops) :
    ∀ (rest : Fops) (k : Nat) (w : World),
      (∀ j, fopAt rest j = fopAt fops (k + j)) → WF w →
      OwnInv (fun i => if k ≤ i then ownerFd ports fops i else none) none w.openFds B →
      Leaves B w (closeLoop w ports rest k)
  | [], k, w, hrest, hwf, hown => by
    refine ⟨hwf, Quiet.refl w, fun fd => ?_⟩
    have hnone : ∀ i, (if k ≤ i then ownerFd ports fops i else none) = none := by
      intro i
      split
      · apply ownerFd_none_of_flag
        rw [show i = k + (i - k) by omega, ← hrest]; rfl
      · rfl
    show fd ∈ w.openFds ↔ B fd
    simp [hown.split fd, hnone]
  | f :: rest, k, w, hrest, hwf, hown => by
    have hf : f = fopAt fops k := hrest 0
    have hrest' : ∀ j, fopAt rest j = fopAt fops (k + 1 + j) := fun j => by
      rw [← fopAt_cons_succ f, hrest (j + 1)]; congr 1; omega
    have hstep := hown.unown (own' := fun i => if k + 1 ≤ i then ownerFd ports fops i else none) k (by
      intro i
      by_cases hik : i = k
      · rw [if_pos hik, if_neg (by omega)]
      · rw [if_neg hik]
        by_cases hki : k ≤ i
        · rw [if_pos hki, if_pos (by omega)]
        · rw [if_neg hki, if_neg (by omega)])
    rw [if_pos (Nat.le_refl k)] at hstep
    show Leaves B w (closeLoop (closeFop w (portAt ports k) f) ports rest (k + 1))
    by_cases hfile : f.file = true
    · -- the entry owns a descriptor: it is open and gets closed
      obtain ⟨p, fd0, hp, hfd0⟩ := hflag k (hf ▸ hfile)
      rw [ownerFd_of (hf ▸ hfile) hp hfd0] at hstep
      have hmem : fd0 ∈ w.openFds := (hstep.split fd0).2 (Or.inr (Or.inr rfl))
      rw [hp, closeFop_owned f hfile hfd0]
      refine (closeLoop_spec ports fops B hflag rest (k + 1) _ hrest'
        (chanPart_wf (closeFd_wf hwf hmem) _) ?_).of_quiet ((closeFd_quiet hmem).trans (chanPart_quiet _ _))
      rw [chanPart_open, closeFd_open_of_mem hmem]
      exact hstep.closeLimbo hwf.nodup
    · have hfile' : f.file = false := by simpa using hfile
      rw [ownerFd_none_of_flag (hf ▸ hfile')] at hstep
      rw [closeFop_unowned _ f hfile']
      refine (closeLoop_spec ports fops B hflag rest (k + 1) _ hrest' (chanPart_wf hwf _) ?_).of_quiet
        (chanPart_quiet _ _)
      rw [chanPart_open]
      exact hstep

theorem closeLoop_formInv {w : World} {ports : Ports} {fops : Fops} {B : Nat → Prop}
    (h : FormInv w ports fops B) : Leaves B w (closeLoop w ports fops 0) :=
  closeLoop_spec ports fops B h.flag fops 0 w (fun j => by rw [Nat.zero_add]) h.wf
    (h.own.congr_own fun i => if_pos (Nat.zero_le i))

end C40
