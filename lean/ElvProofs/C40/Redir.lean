import ElvProofs.C40.Release
/-!
One redirection (`redirOp.exec`) preserves the frame invariant, for any source evaluation that is
itself balanced: the entry is cleared, the new port installed and the old one released.
-/
namespace C40

/-- What the evaluation of a redirection source delivers. -/
inductive SrcOK (w w' : World) : (Outcome ⊕ (Port × Bool)) → Prop
  /-- an exception -/
  | fail (o : Outcome) : WF w' → Bal w w' → SrcOK w w' (.inl o)
  /-- a port the form does not own (an existing port, a closed port, a file object) -/
  | shared (np : Port) : WF w' → Bal w w' →
      (∀ x, np.peer = some x → x ∉ w'.openFds ∧ x < w'.nextFd) → SrcOK w w' (.inr (np, false))
  /-- a port on a file opened just now -/
  | opened (np : Port) (fd : Nat) : WF w' → Quiet w w' → np.file = some fd → np.peer = none →
      w.nextFd ≤ fd → (∀ x, x ∈ w'.openFds ↔ (x = fd ∨ x ∈ w.openFds)) → SrcOK w w' (.inr (np, true))

/-- `redirOp.exec` after the source has been evaluated. -/
def finishRedir (ports : Ports) (fops : Fops) (dst : Nat) (s : World × (Outcome ⊕ (Port × Bool))) :
    World × Ports × Fops × Outcome :=
  let oldPort := portAt ports dst
  let oldFop := fopAt fops dst
  let fops0 := setFop fops dst Fop.none
  match s.2 with
  | Sum.inl o =>
    let rel := release s.1 ports fops0 oldPort oldFop
    (rel.1, ports, rel.2, o)
  | Sum.inr (np, owned) =>
    let ports' := setPort ports dst (some np)
    let fops' := if owned then setFop fops0 dst ⟨true, false⟩ else fops0
    let rel := release s.1 ports' fops' oldPort oldFop
    (rel.1, ports', rel.2, .ok)

def dstOf (dst? : Option Nat) (mode : Mode) : Nat :=
  match dst? with
  | some d => d
  | none => mode.defaultDst

theorem execRedir_eq (cfg : Cfg) (w : World) (ports : Ports) (fops : Fops) (dst? : Option Nat)
    (mode : Mode) (src : Src) :
    execRedir cfg w ports fops (.mk dst? mode src) =
      finishRedir ports fops (dstOf dst? mode) (execSrc cfg w ports src) := by
  simp only [execRedir, finishRedir, dstOf]
  cases dst? <;> rfl

section
variable {w w' : World} {ports : Ports} {fops : Fops} {B : Nat → Prop} {oldPort : Option Port} {oldFop : Fop}

/-- an entry ≠ dst that holds the old port does not own its file -/
theorem other_holder_free (h : FormInv w ports fops B) {dst i : Nat} {o : Port}
    (hof : (fopAt fops dst).file = true) (hod : portAt ports dst = some o)
    (hi : portAt ports i = some o) (hne : i ≠ dst) : ownerFd ports fops i = none := by
  obtain ⟨o', fd0, ho', hfd0⟩ := h.flag dst hof
  cases hod.symm.trans ho'
  cases hc : ownerFd ports fops i with
  | none => rfl
  | some fd =>
    obtain ⟨_, p, hp, hpf⟩ := ownerFd_some hc
    cases hi.symm.trans hp
    cases hfd0.symm.trans hpf
    exact absurd (h.own.inj i dst fd0 hc (ownerFd_of hof hod hfd0)) hne

/-- Entry `dst` is cleared: what it held is set aside, its descriptor is in limbo. -/
theorem FormInv.clear (h : FormInv w ports fops B) (dst : Nat) :
    Pending w ports (setFop fops dst Fop.none) B (portAt ports dst) (fopAt fops dst) where
  wf := h.wf
  portsOK := h.portsOK
  flag := by
    intro j hj
    rw [fopAt_setFop] at hj
    by_cases hjd : j = dst
    · rw [if_pos hjd] at hj; cases hj
    · rw [if_neg hjd] at hj; exact h.flag j hj
  own := h.own.unown dst fun i => by rw [ownerFd_setFop]; rfl
  old := h.flag dst
  free := by
    intro i o hof hod hi
    rw [ownerFd_setFop]
    by_cases hid : i = dst
    · rw [if_pos hid]; rfl
    · rw [if_neg hid]; exact other_holder_free h hof hod hi hid

theorem Pending.of_bal (h : Pending w ports fops B oldPort oldFop) (hwf' : WF w') (hb : Bal w w') :
    Pending w' ports fops B oldPort oldFop :=
  ⟨hwf', h.portsOK.of_bal hb, h.flag, h.own.congr_open hb.mem, h.old, h.free⟩

theorem Pending.install (h : Pending w ports fops B oldPort oldFop) (dst : Nat) (np : Port)
    (hclear : (fopAt fops dst).file = false)
    (hpeer : ∀ x, np.peer = some x → x ∉ w.openFds ∧ x < w.nextFd) :
    Pending w (setPort ports dst (some np)) fops B oldPort oldFop := by
  have hown : ∀ i, ownerFd (setPort ports dst (some np)) fops i = ownerFd ports fops i := by
    intro i
    rw [ownerFd_setPort]
    by_cases hid : i = dst
    · rw [if_pos hid, hid, hclear, ownerFd_none_of_flag hclear]; rfl
    · rw [if_neg hid]
  refine ⟨h.wf, h.portsOK.set dst fun p x hp => by cases hp; exact hpeer x, ?_, h.own.congr_own hown, h.old, ?_⟩
  · intro j hj
    have hjd : j ≠ dst := fun he => by rw [he, hclear] at hj; cases hj
    rw [portAt_setPort, if_neg hjd]
    exact h.flag j hj
  · intro i o hof hod hi
    rw [hown]
    by_cases hid : i = dst
    · rw [hid]; exact ownerFd_none_of_flag hclear
    · rw [portAt_setPort, if_neg hid] at hi
      exact h.free i o hof hod hi

theorem Pending.installOpened (h : Pending w ports fops B oldPort oldFop) (dst : Nat) (np : Port) (fdn : Nat)
    (hclear : (fopAt fops dst).file = false) (hfile : np.file = some fdn) (hpeer : np.peer = none)
    (hwf' : WF w') (hnext : w.nextFd ≤ w'.nextFd) (hge : w.nextFd ≤ fdn)
    (hmem : ∀ x, x ∈ w'.openFds ↔ (x = fdn ∨ x ∈ w.openFds)) (f : Fop) (hf : f.file = true) :
    Pending w' (setPort ports dst (some np)) (setFop fops dst f) B oldPort oldFop := by
  have hfresh : fdn ∉ w.openFds := fun hm => Nat.lt_irrefl _ (Nat.lt_of_lt_of_le (h.wf.lt _ hm) hge)
  have hown : ∀ i, ownerFd (setPort ports dst (some np)) (setFop fops dst f) i =
      if i = dst then some fdn else ownerFd ports fops i := by
    intro i
    unfold ownerFd
    rw [fopAt_setFop, portAt_setPort]
    by_cases hi : i = dst
    · simp only [hi, if_true, hf, Option.bind_some, hfile]
    · simp only [hi, if_false]
  refine ⟨hwf', ?_, ?_, ?_, h.old, ?_⟩
  · refine (h.portsOK.mono hnext fun x hx => ?_).set dst fun p x hp hx => ?_
    · rcases (hmem x).1 hx with he | hm
      · exact Or.inr (he ▸ hge)
      · exact Or.inl hm
    · cases hp; rw [hpeer] at hx; cases hx
  · intro i hi
    rw [fopAt_setFop] at hi
    rw [portAt_setPort]
    by_cases hid : i = dst
    · rw [if_pos hid]; exact ⟨np, fdn, rfl, hfile⟩
    · rw [if_neg hid] at hi ⊢; exact h.flag i hi
  · exact (h.own.addFresh dst fdn (ownerFd_none_of_flag hclear) hfresh hown).congr_open
      fun x => by rw [hmem x, List.mem_cons]
  · intro i o hof hod hi
    rw [hown]
    by_cases hid : i = dst
    · -- the new port cannot be the old one: the old one's file was open before
      exfalso
      rw [hid, portAt_setPort, if_pos rfl] at hi
      cases hi
      obtain ⟨o', fd0, ho', hfd0⟩ := h.old hof
      cases hod.symm.trans ho'
      cases hfile.symm.trans hfd0
      refine hfresh ((h.own.split fdn).2 (Or.inr (Or.inr ?_)))
      rw [if_pos hof, hod]; exact hfile
    · rw [portAt_setPort, if_neg hid] at hi
      rw [if_neg hid]
      exact h.free i o hof hod hi

theorem redir_step (h : FormInv w ports fops B) (dst : Nat) (s : World × (Outcome ⊕ (Port × Bool)))
    (hs : SrcOK w s.1 s.2) :
    FormInv (finishRedir ports fops dst s).1 (finishRedir ports fops dst s).2.1
      (finishRedir ports fops dst s).2.2.1 B ∧ Quiet w (finishRedir ports fops dst s).1 := by
  obtain ⟨w', res⟩ := s
  have h0 := h.clear dst
  have hclear : (fopAt (setFop fops dst Fop.none) dst).file = false := by
    rw [fopAt_setFop, if_pos rfl]; rfl
  cases hs with
  | fail o hwf' hbal =>
    -- the table is unchanged
    obtain ⟨r1, r2⟩ := release_spec (h0.of_bal hwf' hbal)
    exact ⟨r1, hbal.quiet.trans r2⟩
  | shared np hwf' hbal hpeer =>
    obtain ⟨r1, r2⟩ := release_spec ((h0.of_bal hwf' hbal).install dst np hclear hpeer)
    exact ⟨r1, hbal.quiet.trans r2⟩
  | opened np fdn hwf' hq hfile hpeer hge hmem =>
    obtain ⟨r1, r2⟩ := release_spec
      (h0.installOpened dst np fdn hclear hfile hpeer hwf' hq.next hge hmem ⟨true, false⟩ rfl)
    exact ⟨r1, hq.trans r2⟩

end

end C40
