import ElvProofs.C40.Stage
/-!
Structural induction over the op tree: every `exec…` of the accounting model is balanced.
-/
namespace C40

theorem FormInv.of_res {w w' : World} {ports : Ports} {fops : Fops} {B : Nat → Prop}
    (h : FormInv w ports fops B) (hr : Res w w') : FormInv w' ports fops B :=
  ⟨hr.1, h.portsOK.of_bal hr.2, h.flag, h.own.congr_open hr.2.mem⟩

theorem stageLoop_cons (cfg : Cfg) (w : World) (ports : Ports) (failAt : Option Nat) (f : Form)
    (fs : List Form) (i : Nat) (nextIn : Option Port) (acc : List Outcome) :
    stageLoop cfg w ports failAt (f :: fs) i nextIn acc =
      if fs.isEmpty then
        ((runStage cfg w (stagePorts ports nextIn) (stageFops nextIn) f).1,
          mkPipelineError ((runStage cfg w (stagePorts ports nextIn) (stageFops nextIn) f).2 :: acc).reverse)
      else if failAt = some i then
        ((if cfg.pipeFailCleanup then closeInput w nextIn else w), .exc)
      else
        stageLoop cfg
          (finish (runStage cfg (spawn (mkPipe w).1 1) (setPort (stagePorts ports nextIn) 1 (some (mkPipe w).2.1))
            (setFop (stageFops nextIn) 1 ⟨true, true⟩) f).1 1)
          ports failAt fs (i + 1) (some (mkPipe w).2.2)
          (dropGone true (runStage cfg (spawn (mkPipe w).1 1) (setPort (stagePorts ports nextIn) 1 (some (mkPipe w).2.1))
            (setFop (stageFops nextIn) 1 ⟨true, true⟩) f).2 :: acc) := by
  cases nextIn <;> simp only [stageLoop, stagePorts, stageFops]

theorem cancel_res {w : World} (hw : WF w) : Res w { w with cancelled := true } :=
  ⟨⟨hw.nodup, hw.lt, hw.count⟩, ⟨fun _ => Iff.rfl, ⟨Nat.le_refl _, rfl, rfl, rfl, rfl⟩⟩⟩

theorem openFilePort_opened {w0 w : World} (hw : WF w) (hq : Quiet w0 w)
    (hm : ∀ x, x ∈ w.openFds ↔ x ∈ w0.openFds) :
    SrcOK w0 (openFilePort w).1 (Sum.inr ((openFilePort w).2, true)) := by
  have hworld : (openFilePort w).1 = (newPort (openFd w).1 (some w.nextFd) none).1 := rfl
  have hport : (openFilePort w).2 = (newPort (openFd w).1 (some w.nextFd) none).2 := rfl
  refine SrcOK.opened _ w.nextFd ?_ ?_ ?_ ?_ hq.next ?_
  · rw [hworld]; exact newPort_wf (openFd_wf hw) _ _
  · rw [hworld]; exact hq.trans ((openFd_quiet w).trans (newPort_bal _ _ _).quiet)
  · rw [hport]; rfl
  · rw [hport]; rfl
  · intro x
    rw [hworld, newPort_open, openFd_open, List.mem_cons, hm x]

section
variable {cfg : Cfg} (hc : cfg.pipeFailCleanup = true)
include hc

mutual

theorem op_res : ∀ (op : Op), op.noBg = true → ∀ (w : World) (ports : Ports),
    WF w → PortsOK w ports → Res w (execOp cfg w ports op).1
  | .leaf o, _, w, ports, hw, _ => by simp only [execOp]; exact Res.refl hw
  | .cancel, _, w, ports, hw, _ => by simp only [execOp]; exact cancel_res hw
  | .sleep, _, w, ports, hw, _ => by simp only [execOp]; exact Res.refl hw
  | .drain, _, w, ports, hw, hp => by simp only [execOp]; exact iter_res hw hp
  | .onlyBytes, _, w, ports, hw, hp => by simp only [execOp]; exact only_res hw hp
  | .onlyValues, _, w, ports, hw, hp => by simp only [execOp]; exact only_res hw hp
  | .block c, hb, w, ports, hw, hp => by
    simp only [execOp]
    exact chunk_res c hb w ports hw hp
  | .capture pipeOk c, hb, w, ports, hw, hp => by
    simp only [execOp]
    exact captureWith_res hw hp (fun w1 p1 h1 h2 => chunk_res c hb w1 p1 h1 h2)
  | .excCapture c, hb, w, ports, hw, hp => by
    simp only [execOp]
    exact chunk_res c hb w ports hw hp
  | .peach via bodies, hb, w, ports, hw, hp => by
    have hb' : Chunk.noBgList bodies = true := hb
    simp only [execOp]
    cases via with
    | false =>
      simp only [Bool.false_eq_true, if_false]
      exact spawned_res bodies hb' w _ hw hp.setDummy
    | true =>
      simp only [if_true]
      have h1 := spawned_res bodies hb' (iterBegin w) (setPort ports 0 (some dummyInput))
        (spawn_wf hw 3) (PortsOK.setDummy (hp.spawn 3))
      have hp2 : PortsOK (execSpawned cfg (iterBegin w) (setPort ports 0 (some dummyInput)) bodies).1 ports :=
        (hp.spawn 3).of_bal h1.2
      unfold iterEnd
      rw [waitEof_eq hp2]
      exact Res.bracket h1
  | .runParallel bodies, hb, w, ports, hw, hp => by
    simp only [execOp]
    exact spawned_res bodies hb w ports hw hp
  | .each bodies, hb, w, ports, hw, hp => by
    simp only [execOp]
    exact seq_res bodies hb w ports hw hp

theorem spawned_res : ∀ (cs : List Chunk), Chunk.noBgList cs = true → ∀ (w : World) (ports : Ports),
    WF w → PortsOK w ports → Res w (execSpawned cfg w ports cs).1
  | [], _, w, ports, hw, _ => by simp only [execSpawned]; exact Res.refl hw
  | c :: cs, hb, w, ports, hw, hp => by
    have hb' : c.noBg = true ∧ Chunk.noBgList cs = true := Bool.and_eq_true_iff.1 hb
    simp only [execSpawned]
    have h1 := chunk_res c hb'.1 (spawn w 1) ports (spawn_wf hw 1) (hp.spawn 1)
    have h2 : Res w (finish (execChunk cfg (spawn w 1) ports c).1 1) := Res.bracket h1
    have h3 := spawned_res cs hb'.2 _ ports h2.1 (hp.of_bal h2.2)
    exact h2.trans h3

theorem seq_res : ∀ (cs : List Chunk), Chunk.noBgList cs = true → ∀ (w : World) (ports : Ports),
    WF w → PortsOK w ports → Res w (execSeq cfg w ports cs).1
  | [], _, w, ports, hw, _ => by simp only [execSeq]; exact Res.refl hw
  | c :: cs, hb, w, ports, hw, hp => by
    have hb' : c.noBg = true ∧ Chunk.noBgList cs = true := Bool.and_eq_true_iff.1 hb
    simp only [execSeq]
    have h1 := chunk_res c hb'.1 w ports hw hp
    split
    · exact h1.trans (seq_res cs hb'.2 _ ports h1.1 (hp.of_bal h1.2))
    · exact h1

theorem chunk_res : ∀ (c : Chunk), c.noBg = true → ∀ (w : World) (ports : Ports),
    WF w → PortsOK w ports → Res w (execChunk cfg w ports c).1
  | .mk ps, hb, w, ports, hw, hp => by
    simp only [execChunk]
    exact pipelines_res ps hb w ports hw hp

theorem pipelines_res : ∀ (ps : List Pipeline), Pipeline.noBgList ps = true → ∀ (w : World) (ports : Ports),
    WF w → PortsOK w ports → Res w (execPipelines cfg w ports ps).1
  | [], _, w, ports, hw, _ => by simp only [execPipelines]; exact Res.refl hw
  | p :: ps, hb, w, ports, hw, hp => by
    have hb' : p.noBg = true ∧ Pipeline.noBgList ps = true := Bool.and_eq_true_iff.1 hb
    simp only [execPipelines]
    have h1 := pipeline_res p hb'.1 w ports hw hp
    split
    · exact h1.trans (pipelines_res ps hb'.2 _ ports h1.1 (hp.of_bal h1.2))
    · exact h1

theorem pipeline_res : ∀ (p : Pipeline), p.noBg = true → ∀ (w : World) (ports : Ports),
    WF w → PortsOK w ports → Res w (execPipeline cfg w ports p).1
  | .mk bg failAt forms, hb, w, ports, hw, hp => by
    have hb' : bg = false ∧ Form.noBgList forms = true := by simpa [Pipeline.noBg] using hb
    obtain ⟨hbg, hforms⟩ := hb'
    subst hbg
    simp only [execPipeline]
    split
    · exact Res.refl hw
    · simp only [Bool.false_eq_true, if_false]
      obtain ⟨r1, r2, r3⟩ := stageLoop_res forms hforms w ports failAt 0 none [] hw hp trivial (fun _ => rfl)
      exact ⟨r1, ⟨fun fd => by rw [r3 fd]; simp [inFd], r2⟩⟩

theorem stageLoop_res : ∀ (forms : List Form), Form.noBgList forms = true →
    ∀ (w : World) (ports : Ports) (failAt : Option Nat) (i : Nat) (nextIn : Option Port) (acc : List Outcome),
    WF w → PortsOK w ports → InOK w nextIn → (forms = [] → nextIn = none) →
    WF (stageLoop cfg w ports failAt forms i nextIn acc).1 ∧
    Quiet w (stageLoop cfg w ports failAt forms i nextIn acc).1 ∧
    (∀ fd, fd ∈ (stageLoop cfg w ports failAt forms i nextIn acc).1.openFds ↔
      (fd ∈ w.openFds ∧ inFd nextIn ≠ some fd))
  | [], _, w, ports, failAt, i, nextIn, acc, hw, hp, hin, hne => by
    simp only [stageLoop]
    refine ⟨hw, Quiet.refl w, ?_⟩
    intro fd
    rw [hne rfl]
    simp [inFd]
  | f :: fs, hb, w, ports, failAt, i, nextIn, acc, hw, hp, hin, _ => by
    have hb' : f.noBg = true ∧ Form.noBgList fs = true := Bool.and_eq_true_iff.1 hb
    rw [stageLoop_cons]
    split
    · -- the last form runs on the caller's goroutine
      exact runStage_res f hb'.1 w _ _ _ (stage_formInv_last hw hp hin)
    · rename_i hfs
      split
      · -- os.Pipe failed: the read end handed over by the previous form is closed
        simp only [hc, if_true]
        exact closeInput_leaves hw hin
      · -- a form with an output pipe, run on its own goroutine
        obtain ⟨hw2, hq2, hp2, hin2, hmem⟩ := stage_mid_handover hw hp
          (runStage_res f hb'.1 _ _ _ _ (stage_formInv_mid hw hp hin))
        have hfs' : fs = [] → (some (mkPipe w).2.2 : Option Port) = none := by
          intro h; subst h; simp at hfs
        obtain ⟨s1, s2, s3⟩ := stageLoop_res fs hb'.2 _ ports failAt (i + 1) (some (mkPipe w).2.2)
          _ hw2 hp2 hin2 hfs'
        exact ⟨s1, hq2.trans s2, fun fd => (s3 fd).trans (hmem fd)⟩

theorem runStage_res : ∀ (f : Form), f.noBg = true → ∀ (w : World) (ports : Ports) (fops : Fops) (B : Nat → Prop),
    FormInv w ports fops B → Leaves B w (runStage cfg w ports fops f).1
  | .mk redirs body, hb, w, ports, fops, B, hinv => by
    have hb' : Redir.noBgList redirs = true ∧ body.noBg = true := Bool.and_eq_true_iff.1 hb
    simp only [runStage]
    obtain ⟨hinv1, hq1⟩ := redirs_res redirs hb'.1 w ports fops B hinv
    split
    · have h2 := op_res body hb'.2 _ _ hinv1.wf hinv1.portsOK
      exact (closeLoop_formInv (hinv1.of_res h2)).of_quiet (hq1.trans h2.2.quiet)
    · exact (closeLoop_formInv hinv1).of_quiet hq1

theorem redirs_res : ∀ (rs : List Redir), Redir.noBgList rs = true →
    ∀ (w : World) (ports : Ports) (fops : Fops) (B : Nat → Prop), FormInv w ports fops B →
    FormInv (execRedirs cfg w ports fops rs).1 (execRedirs cfg w ports fops rs).2.1
      (execRedirs cfg w ports fops rs).2.2.1 B ∧ Quiet w (execRedirs cfg w ports fops rs).1
  | [], _, w, ports, fops, B, hinv => by
    simp only [execRedirs]; exact ⟨hinv, Quiet.refl w⟩
  | rd :: rest, hb, w, ports, fops, B, hinv => by
    have hb' : rd.noBg = true ∧ Redir.noBgList rest = true := Bool.and_eq_true_iff.1 hb
    simp only [execRedirs]
    obtain ⟨h1, q1⟩ := redir_res rd hb'.1 w ports fops B hinv
    split
    · obtain ⟨h2, q2⟩ := redirs_res rest hb'.2 _ _ _ B h1
      exact ⟨h2, q1.trans q2⟩
    · exact ⟨h1, q1⟩

theorem redir_res : ∀ (rd : Redir), rd.noBg = true →
    ∀ (w : World) (ports : Ports) (fops : Fops) (B : Nat → Prop), FormInv w ports fops B →
    FormInv (execRedir cfg w ports fops rd).1 (execRedir cfg w ports fops rd).2.1
      (execRedir cfg w ports fops rd).2.2.1 B ∧ Quiet w (execRedir cfg w ports fops rd).1
  | .mk dst? mode src, hb, w, ports, fops, B, hinv => by
    rw [execRedir_eq]
    exact redir_step hinv _ _ (src_res src hb w ports hinv.wf hinv.portsOK)

theorem src_res : ∀ (s : Src), s.noBg = true → ∀ (w : World) (ports : Ports),
    WF w → PortsOK w ports → SrcOK w (execSrc cfg w ports s).1 (execSrc cfg w ports s).2
  | .file ok, _, w, ports, hw, _ => by
    simp only [execSrc]
    cases ok with
    | true => exact openFilePort_opened hw (Quiet.refl w) (fun _ => Iff.rfl)
    | false => exact SrcOK.fail _ hw (Bal.refl w)
  | .fd n, _, w, ports, hw, hp => by
    simp only [execSrc]
    cases hpn : portAt ports n with
    | some p => exact SrcOK.shared p hw (Bal.refl w) (fun x hx => hp n p x hpn hx)
    | none => exact SrcOK.fail _ hw (Bal.refl w)
  | .close, _, w, ports, hw, _ => by
    simp only [execSrc]
    exact SrcOK.shared _ (newPort_wf hw _ _) (newPort_bal _ _ _) (fun x hx => by simp at hx)
  | .bad, _, w, ports, hw, _ => by
    simp only [execSrc]
    exact SrcOK.fail _ hw (Bal.refl w)
  | .obj fd, _, w, ports, hw, _ => by
    simp only [execSrc]
    exact SrcOK.shared _ (newPort_wf hw _ _) (newPort_bal _ _ _) (fun x hx => by simp at hx)
  | .capFile pipeOk c ok, hb, w, ports, hw, hp => by
    simp only [execSrc]
    have h1 := captureWith_res (pipeOk := pipeOk) hw hp
      (fun w1 p1 a b => chunk_res c hb w1 p1 a b)
    split
    · split
      · exact openFilePort_opened h1.1 h1.2.quiet h1.2.mem
      · exact SrcOK.fail _ h1.1 h1.2
    · exact SrcOK.fail _ h1.1 h1.2

end

end

end C40
