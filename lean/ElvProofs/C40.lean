import ElvProofs.C40.Top
/-!
C40 — Finished evaluations leave no file descriptors or goroutines behind.

The theorems are about the accounting model `ElvModel/C40/Resources.lean` (the op tree of pkg/eval with
every open / close / go / goroutine-exit event).  They quantify over all op trees without background
pipelines, all outcomes of all leaves (`ok | exc | gone | int`), every failure flag (`os.Pipe`,
`os.OpenFile`), and every well-formed initial world (any value of the interrupt flag) and port table.
-/
open C40

/-- C40 on the model: when the top-level `exec` returns, exactly the descriptors that were open
before are open (so opened − closed = 0), as many goroutines finished as were started, no descriptor
was closed twice, no bookkeeping entry pointed at a nil port, and no wait was reached that cannot
complete. -/
def C40_full (cfg : Cfg) : Prop :=
  ∀ (c : Chunk), c.noBg = true → ∀ (w : World) (ports : Ports), WF w → PortsOK w ports →
    netFds w (execChunk cfg w ports c).1 = 0 ∧
    netGo w (execChunk cfg w ports c).1 = 0 ∧
    (∀ fd, fd ∈ (execChunk cfg w ports c).1.openFds ↔ fd ∈ w.openFds) ∧
    (execChunk cfg w ports c).1.openFds.Nodup ∧
    (execChunk cfg w ports c).1.badClose = w.badClose ∧
    (execChunk cfg w ports c).1.panics = w.panics ∧
    (execChunk cfg w ports c).1.hung = w.hung

/-- C40 holds of the code with the pipe-failure cleanup (`Cfg.fixed`). -/
theorem C40_finished_evaluation_balanced : C40_full Cfg.fixed := by
  intro c hc w ports hw hp
  exact net_of_res hw (chunk_res (cfg := Cfg.fixed) rfl c hc w ports hw hp)

/-- The same for a single pipeline (`pipelineOp.exec`), whatever its forms do and whichever
`os.Pipe` call fails. -/
theorem C40_pipeline_balanced (p : Pipeline) (hp : p.noBg = true) (w : World) (ports : Ports)
    (hw : WF w) (hports : PortsOK w ports) :
    netFds w (execPipeline Cfg.fixed w ports p).1 = 0 ∧ netGo w (execPipeline Cfg.fixed w ports p).1 = 0 :=
  let h := net_of_res hw (pipeline_res (cfg := Cfg.fixed) rfl p hp w ports hw hports)
  ⟨h.1, h.2.1⟩

/-- The invariant of the induction, for one form: if the frame owns exactly the descriptors recorded
in its `fops` (`FormInv`, with `B` the descriptors of the surroundings), then after the redirections,
the body and the stage epilogue exactly the surroundings' descriptors are open — whether the form
ended normally, a redirection failed half-way, or the body raised. -/
theorem C40_form_closes_exactly_what_it_owns (f : Form) (hf : f.noBg = true) (w : World) (ports : Ports)
    (fops : Fops) (B : Nat → Prop) (h : FormInv w ports fops B) :
    (∀ fd, fd ∈ (runStage Cfg.fixed w ports fops f).1.openFds ↔ B fd) ∧
    live (runStage Cfg.fixed w ports fops f).1 = live w ∧
    (runStage Cfg.fixed w ports fops f).1.badClose = w.badClose ∧
    (runStage Cfg.fixed w ports fops f).1.panics = w.panics :=
  let r := runStage_res (cfg := Cfg.fixed) rfl f hf w ports fops B h
  ⟨r.2.2, r.2.1.live, r.2.1.bad, r.2.1.panics⟩

/-- One redirection (`redirOp.exec` with its deferred `releaseReplacedPort`) keeps the frame
invariant, whether it succeeds or fails: the file it opened is recorded as owned, the port it
replaced is handed over to another entry that still uses it or closed, and nothing is owned twice. -/
theorem C40_redirection_keeps_ownership (rd : Redir) (hr : rd.noBg = true) (w : World) (ports : Ports)
    (fops : Fops) (B : Nat → Prop) (h : FormInv w ports fops B) :
    FormInv (execRedir Cfg.fixed w ports fops rd).1 (execRedir Cfg.fixed w ports fops rd).2.1
      (execRedir Cfg.fixed w ports fops rd).2.2.1 B :=
  (redir_res (cfg := Cfg.fixed) rfl rd hr w ports fops B h).1

/-- The world and port table `Evaler.Eval` starts with satisfy the hypotheses. -/
theorem C40_top_level (c : Chunk) (hc : c.noBg = true) (base : List Nat) (next : Nat)
    (hnd : base.Nodup) (hlt : ∀ fd ∈ base, fd < next) :
    netFds (World.init base next) (execChunk Cfg.fixed (World.init base next) topPorts c).1 = 0 ∧
    netGo (World.init base next) (execChunk Cfg.fixed (World.init base next) topPorts c).1 = 0 := by
  have hw : WF (World.init base next) := ⟨hnd, hlt, by simp [World.init]⟩
  have hp : PortsOK (World.init base next) topPorts := topPorts_ok _
  have := C40_finished_evaluation_balanced c hc _ topPorts hw hp
  exact ⟨this.1, this.2.1⟩

/-- The unchanged tree, `os.Pipe` failing in the middle of a pipeline: the read end of the first
pipe stays open, one descriptor leaks per evaluation. -/
theorem C40_counterexample : ¬ C40_full Cfg.orig := by
  intro h
  have := (h witness (by decide) w0 topPorts w0_wf (topPorts_ok w0)).1
  revert this
  decide

/-- …and with the cleanup the same evaluation is balanced. -/
theorem C40_fixed_on_witness :
    netFds w0 (execChunk Cfg.fixed w0 topPorts witness).1 = 0 ∧
    (execChunk Cfg.fixed w0 topPorts witness).2 = .exc := by
  decide

/-- `noBg` is needed: what a background job was handed is still live when `exec` returns. -/
theorem C40_background_not_balanced :
    netGo w0 (execChunk Cfg.fixed w0 topPorts (.mk [.mk true none [.mk [] (.leaf .ok)]])).1 ≠ 0 := by
  decide

-- non-vacuity of the hypotheses
example : sample.noBg = true := by decide
example : WF w0 ∧ PortsOK w0 topPorts := ⟨w0_wf, topPorts_ok w0⟩
/-- the sample opens and closes descriptors and starts goroutines -/
example : (execChunk Cfg.fixed w0 topPorts sample).1.opened - w0.opened = 7 ∧
    (execChunk Cfg.fixed w0 topPorts sample).1.spawned = 7 ∧
    (execChunk Cfg.fixed w0 topPorts sample).2 = .exc := by decide
/-- `FormInv` holds of a frame that owns something: the middle stage of a pipeline (owns the read
end 3 and the write end 6). -/
example : ∃ (w : World) (ports : Ports) (fops : Fops) (B : Nat → Prop),
    FormInv w ports fops B ∧ ownerFd ports fops 0 = some 3 ∧ ownerFd ports fops 1 = some 6 := by
  let w : World := World.init [3] 5
  have hw : WF w := ⟨by decide, by decide, by decide⟩
  have hin : InOK w (some ⟨7, some 3, some 4⟩) := ⟨3, 4, rfl, by decide, rfl, by decide, by decide⟩
  exact ⟨_, _, _, _, stage_formInv_mid hw (topPorts_ok w) hin, by decide, by decide⟩

