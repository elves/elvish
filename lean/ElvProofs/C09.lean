/-
C09 — eq is an equivalence and compare is a consistent total preorder.

Model: ElvModel/C08/Model.lean (`Equal`), ElvModel/C09/Model.lean (`Cmp`,
`CmpTotal`, number unification, the builtins) of the tree WITH
fixes/C08-equaler-fieldmap-symmetry.patch and fixes/C09-exact-compare.patch;
spec vocabulary in ElvModel/C09/Spec.lean (`NumVal`: the mathematical value
of a number; `COrd.flip`, `COrd.seq`, `COrd.isLE`).  `WF` = every map inside
the value has pairwise non-eq keys (C08).  `rank` = address order of the Go
type descriptors; the only fact used about it is injectivity.
-/
import ElvProofs.C09.CmpLaws

open C08 C09 C09.COrd

/-- eq is symmetric. -/
theorem C09_equal_symm (a b : Val) (wa : WF a) (wb : WF b) (h : Equal a b = true) : Equal b a = true :=
  Equal_symm wa wb h

/-- eq is transitive. -/
theorem C09_equal_trans (a b c : Val) (wa : WF a) (wb : WF b) (wc : WF c)
    (h1 : Equal a b = true) (h2 : Equal b c = true) : Equal a c = true :=
  Equal_trans wa wb wc h1 h2

/-- eq is reflexive on values that hold no NaN … -/
theorem C09_equal_refl (a : Val) (wa : WF a) (na : NaNFree a) : Equal a a = true :=
  Equal_refl wa na

/-- … and NaN is not eq to itself, nor is a list holding it. -/
theorem C09_nan_not_equal_self (b : UInt64) (h : F64.isNaN b = true) (xs ys : List Val) :
    Equal (.float b) (.float b) = false ∧
    Equal (.list (xs ++ .float b :: ys)) (.list (xs ++ .float b :: ys)) = false := by
  have h1 : Equal (.float b) (.float b) = false := by simp [Equal, F64.eq, h]
  refine ⟨h1, ?_⟩
  simp only [Equal, beq_self_eq_true, Bool.true_and]
  induction xs with
  | nil => simp [equalList_cons, h1]
  | cons x xs ih => simp [equalList_cons, ih]

/-- the builtin `eq` on two arguments is `vals.Equal`. -/
theorem C09_builtin_eq (a b : Val) : builtinEq [a, b] = Equal a b := by
  simp [builtinEq]

example : Equal (.list [.float F64.posZero, .int 1]) (.list [.float F64.negZero, .int 1]) = true ∧
    NaNFree (.list [.float F64.posZero, .int 1]) ∧ WF (.list [.float F64.posZero, .int 1]) := by
  simp [Equal, equalList, F64.eq, F64.isNaN, F64.key, F64.mag, F64.neg, F64.posZero, F64.negZero, F64.expInf,
    NaNFree, NaNFreeList, WF, WFList]

/-- compare outputs 0 for eq values. -/
theorem C09_eq_compare_zero (a b : Val) (wa : WF a) (wb : WF b) (h : Equal a b = true) : Cmp a b = equal :=
  cmpG_of_equal h

/-- compare is antisymmetric: swapping the arguments flips the result
(less ↔ more; equal and uncomparable stay). -/
theorem C09_compare_antisymm (a b : Val) (wa : WF a) (wb : WF b) : Cmp b a = (Cmp a b).flip :=
  cmpG_flip a b wa wb

/-- compare is transitive: from `a ≤ b` and `b ≤ c` follows `a ? c` with
`? = <` if either step is strict and `=` otherwise — for ALL values, including
mixed exact/inexact numbers of any magnitude. -/
theorem C09_compare_trans (a b c : Val) (wa : WF a) (wb : WF b) (wc : WF c)
    (h1 : (Cmp a b).isLE = true) (h2 : (Cmp b c).isLE = true) : Cmp a c = (Cmp a b).seq (Cmp b c) :=
  cmpG_trans (fun h => by cases h) a b c wa wb wc h1 h2

/-- numbers compare by mathematical value, NaN = NaN below everything else,
in all 16 combinations of the four representations. -/
theorem C09_compare_numbers_by_value (a b : Val) (x y : NumVal) (ha : numVal a = some x) (hb : numVal b = some y) :
    Cmp a b = NumVal.cmp x y := by
  rw [Cmp_eq, innerS, numVal_shape ha, numVal_shape hb]

/-- a number and a non-number are uncomparable. -/
theorem C09_compare_number_other (a b : Val) (x : NumVal) (ha : numVal a = some x) (hb : numVal b = none) :
    Cmp a b = uncomparable := by
  rw [Cmp_eq, innerS, numVal_shape ha]
  cases b <;> first | rfl | cases hb

/-- strings compare by bytes; `false < true`; lists lexicographically (first
non-equal pair of elements decides, then the shorter list is smaller). -/
theorem C09_compare_per_type (s t : Go.Bytes) (x y : Val) (xs ys : List Val) :
    Cmp (.str s) (.str t) = compareBytes s t ∧
    (compareBytes s t = less ↔ bytesLt s t = true) ∧ (compareBytes s t = equal ↔ s = t) ∧
    Cmp (.bool false) (.bool true) = less ∧ Cmp (.bool true) (.bool false) = more ∧
    Cmp (.list []) (.list []) = equal ∧ Cmp (.list []) (.list (y :: ys)) = less ∧
    Cmp (.list (x :: xs)) (.list []) = more ∧
    Cmp (.list (x :: xs)) (.list (y :: ys)) = (Cmp x y).seq (Cmp (.list xs) (.list ys)) := by
  refine ⟨Cmp_eq _ _, bytesCmp.eq_less, bytesCmp.eq_equal, Cmp_eq _ _, Cmp_eq _ _, Cmp_eq _ _, Cmp_eq _ _,
    Cmp_eq _ _, ?_⟩
  · simp only [Cmp, cmpG, Bool.false_and, Bool.false_eq_true, if_false, cmpListG, COrd.seq]
    by_cases h : cmpG id false x y = equal <;> simp [h]

/-- `compare` the builtin: -1 / 0 / 1, or the "uncomparable" exception. -/
theorem C09_builtin_compare (rank : Nat → Nat) (a b : Val) :
    (builtinCompare rank false a b = .ok (-1) ↔ Cmp a b = less) ∧
    (builtinCompare rank false a b = .ok 0 ↔ Cmp a b = equal) ∧
    (builtinCompare rank false a b = .ok 1 ↔ Cmp a b = more) ∧
    (builtinCompare rank false a b = .exc "uncomparable" ↔ Cmp a b = uncomparable) ∧
    (builtinCompare rank true a b = .ok 0 ↔ CmpTotal rank a b = equal) := by
  unfold builtinCompare
  simp only [Bool.false_eq_true, if_false, if_true]
  cases Cmp a b <;> cases CmpTotal rank a b <;> simp

/-- `<`, `<=`, `==` on two numbers say what compare says (and are all false on NaN). -/
theorem C09_num_builtins (a b : Val) (x y : NumVal) (ha : numVal a = some x) (hb : numVal b = some y) :
    builtinLt [a, b] = some (decide (x.cls ≠ 0 ∧ y.cls ≠ 0 ∧ Cmp a b = less)) ∧
    builtinLe [a, b] = some (decide (x.cls ≠ 0 ∧ y.cls ≠ 0 ∧ (Cmp a b).isLE = true)) ∧
    builtinEqNum [a, b] = some (decide (x.cls ≠ 0 ∧ y.cls ≠ 0 ∧ Cmp a b = equal)) := by
  rw [C09_compare_numbers_by_value a b x y ha hb]
  exact ⟨builtinLt_pair ha hb, builtinLe_pair ha hb, builtinEqNum_pair ha hb⟩

example : numVal (.int (2 ^ 53 + 1)) = some (.fin ((2 ^ 53 + 1 : Int) : Rat)) ∧
    numVal (.float 0x4340000000000000) = some (F64.val 0x4340000000000000) := ⟨rfl, rfl⟩

/-- compare &total never says uncomparable. -/
theorem C09_total_total (rank : Nat → Nat) (a b : Val) : CmpTotal rank a b ≠ uncomparable :=
  cmpG_total a b

/-- compare &total is antisymmetric. -/
theorem C09_total_antisymm (rank : Nat → Nat) (a b : Val) (wa : WF a) (wb : WF b)
    (hinj : ∀ s t, rank s = rank t → s = t) : CmpTotal rank b a = (CmpTotal rank a b).flip :=
  cmpG_flip a b wa wb

/-- compare &total is transitive (a total preorder). -/
theorem C09_total_trans (rank : Nat → Nat) (a b c : Val) (wa : WF a) (wb : WF b) (wc : WF c)
    (hinj : ∀ s t, rank s = rank t → s = t)
    (h1 : (CmpTotal rank a b).isLE = true) (h2 : (CmpTotal rank b c).isLE = true) :
    CmpTotal rank a c = (CmpTotal rank a b).seq (CmpTotal rank b c) :=
  cmpG_trans (fun _ => hinj) a b c wa wb wc h1 h2

/-- compare &total agrees with compare wherever compare compares. -/
theorem C09_total_agrees (rank : Nat → Nat) (a b : Val) (h : Cmp a b ≠ uncomparable) :
    CmpTotal rank a b = Cmp a b :=
  cmpG_agree rank id a b h

/-- compare &total groups values by type: values of different types are ordered
by their types alone (never equal). -/
theorem C09_total_groups_by_type (rank : Nat → Nat) (a b : Val) (hinj : ∀ s t, rank s = rank t → s = t)
    (h : typeTag a ≠ typeTag b) :
    CmpTotal rank a b = compareNat (rank (typeTag a)) (rank (typeTag b)) ∧ CmpTotal rank a b ≠ equal := by
  have hne : compareNat (rank (typeTag a)) (rank (typeTag b)) ≠ equal := by
    intro he; exact h (hinj _ _ (natCmp.eq_equal.1 he))
  have : CmpTotal rank a b = compareNat (rank (typeTag a)) (rank (typeTag b)) := by
    show cmpG rank true a b = _
    rw [cmpG_eq]; unfold tyCmp; simp [hne]
  exact ⟨this, by rw [this]; exact hne⟩

/-- The property at full strength. -/
def C09_full : Prop :=
  (∀ a b, WF a → WF b → Equal a b = true → Equal b a = true) ∧
  (∀ a b c, WF a → WF b → WF c → Equal a b = true → Equal b c = true → Equal a c = true) ∧
  (∀ a, WF a → NaNFree a → Equal a a = true) ∧
  (∀ a b, WF a → WF b → Equal a b = true → Cmp a b = equal) ∧
  (∀ a b, WF a → WF b → Cmp b a = (Cmp a b).flip) ∧
  (∀ a b c, WF a → WF b → WF c → (Cmp a b).isLE = true → (Cmp b c).isLE = true →
    Cmp a c = (Cmp a b).seq (Cmp b c)) ∧
  (∀ a b x y, numVal a = some x → numVal b = some y → Cmp a b = NumVal.cmp x y) ∧
  (∀ rank : Nat → Nat, (∀ s t, rank s = rank t → s = t) →
    (∀ a b, CmpTotal rank a b ≠ uncomparable) ∧
    (∀ a b, WF a → WF b → CmpTotal rank b a = (CmpTotal rank a b).flip) ∧
    (∀ a b c, WF a → WF b → WF c → (CmpTotal rank a b).isLE = true → (CmpTotal rank b c).isLE = true →
      CmpTotal rank a c = (CmpTotal rank a b).seq (CmpTotal rank b c)) ∧
    (∀ a b, Cmp a b ≠ uncomparable → CmpTotal rank a b = Cmp a b) ∧
    (∀ a b, typeTag a ≠ typeTag b → CmpTotal rank a b ≠ equal))

theorem C09_all : C09_full :=
  ⟨C09_equal_symm, C09_equal_trans, C09_equal_refl, C09_eq_compare_zero, C09_compare_antisymm, C09_compare_trans,
   C09_compare_numbers_by_value,
   fun rank hinj => ⟨C09_total_total rank, fun a b wa wb => C09_total_antisymm rank a b wa wb hinj,
     fun a b c wa wb wc => C09_total_trans rank a b c wa wb wc hinj, C09_total_agrees rank,
     fun a b h => (C09_total_groups_by_type rank a b hinj h).2⟩⟩

/-- The unfixed tree (exact operand rounded to float64 by `UnifyNums2` /
`ConvertToFloat64`) is not transitive and not by value: with `a = 2^53`,
`b = 2^53` as a float, `c = 2^53 + 1`: `a = b`, `b = c`, but `a < c`
(witness replayed on the real code by harness/corpus/C09.txt). -/
theorem C09_counterexample :
    ¬ ∀ a b c : Val, cmpNumOld a b = some equal → cmpNumOld b c = some equal → cmpNumOld a c = some equal := by
  intro h
  have := h (.int (2 ^ 53)) (.float 0x4340000000000000) (.int (2 ^ 53 + 1)) (by decide) (by decide)
  revert this
  decide

-- … while the fixed tree orders the same triple strictly by value.
set_option exponentiation.threshold 2000 in
example : Cmp (.int (2 ^ 53)) (.float 0x4340000000000000) = equal ∧
    Cmp (.float 0x4340000000000000) (.int (2 ^ 53 + 1)) = less ∧
    Cmp (.int (2 ^ 53)) (.int (2 ^ 53 + 1)) = less := by
  decide
