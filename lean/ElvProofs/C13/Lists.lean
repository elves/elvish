/-
What `ConvertListIndex` returns lies inside `[0, n]`; what the reference selects
does too; the vector operations of the model on such bounds.
-/
import ElvModel.C13.Model
import ElvProofs.C13.Convert
namespace C13
open Go Ref

theorem adjust_ok_bounds {i n v : Int} {b : Bool} (h : adjust i n b = .ok v) (hn : 0 ≤ n) :
    0 ≤ v ∧ v < (if b then n + 1 else n) := by
  obtain ⟨m, rfl⟩ := Int.eq_ofNat_of_zero_le hn
  obtain ⟨e, he⟩ := adjust_spec m i b
  by_cases c : 0 ≤ pos m i ∧ pos m i < (if b then (m : Int) + 1 else m)
  · rw [he, if_pos c] at h
    cases h
    exact c
  · rw [he, if_neg c] at h
    cases h

theorem convert_bounds {raw : Raw} {n : Int} {ix : ListIndex} (hn : 0 ≤ n)
    (h : convertListIndex raw n = .ok ix) :
    0 ≤ ix.lower ∧ (ix.slice = true → ix.lower ≤ ix.upper ∧ ix.upper ≤ n) ∧
      (ix.slice = false → ix.lower < n) := by
  cases raw with
  | other => cases h
  | int i =>
    obtain ⟨v, hv, he⟩ := Res.bind_eq_ok.1 h
    cases he
    have := adjust_ok_bounds hv hn
    simp only [Bool.false_eq_true, if_false] at this
    exact ⟨this.1, nofun, fun _ => this.2⟩
  | str s =>
    obtain ⟨⟨sl, i, j⟩, -, h2⟩ := Res.bind_eq_ok.1 h
    cases sl
    · obtain ⟨v, hv, he⟩ := Res.bind_eq_ok.1 h2
      cases he
      have := adjust_ok_bounds hv hn
      simp only [Bool.false_eq_true, if_false] at this
      exact ⟨this.1, nofun, fun _ => this.2⟩
    · obtain ⟨v, hv, h3⟩ := Res.bind_eq_ok.1 h2
      obtain ⟨w, hw, h4⟩ := Res.bind_eq_ok.1 h3
      have b1 := adjust_ok_bounds hv hn
      have b2 := adjust_ok_bounds hw hn
      simp only [if_true] at b1 b2
      split at h4
      · split at h4 <;> cases h4
      · cases h4
        exact ⟨b1.1, fun _ => ⟨by show v ≤ w; omega, by show w ≤ n; omega⟩, nofun⟩

theorem ite_some_eq {c : Prop} [Decidable c] {x y : Sel}
    (h : (if c then some x else none) = some y) : c ∧ x = y := by
  split at h
  · exact ⟨‹c›, by injection h⟩
  · cases h

/-- the selection lies inside a sequence of length `n` -/
def Within (n : Nat) : Sel → Prop
  | .elem k => k < n
  | .range lo hi => lo ≤ hi ∧ hi ≤ n

theorem select_within {n : Nat} {idx : Idx} {sel : Sel} (h : select n idx = some sel) : Within n sel := by
  cases idx with
  | elem i =>
    obtain ⟨hc, rfl⟩ := ite_some_eq h
    show _ < n
    omega
  | slice a b incl =>
    obtain ⟨hc, rfl⟩ := ite_some_eq h
    show _ ≤ _ ∧ _ ≤ n
    omega

theorem refIndex_within {n : Nat} {raw : Raw} {sel : Sel} (h : RefIndex n raw (some sel)) : Within n sel := by
  cases raw with
  | int i => exact select_within h.symm
  | other => cases h
  | str s =>
    rcases h with ⟨idx, -, he⟩ | ⟨-, he⟩
    · exact select_within he.symm
    · cases he

theorem vecIndex_nat {α} (l : List α) (k : Nat) (hk : k < l.length) :
    vecIndex l (k : Int) = some l[k] := by
  unfold vecIndex
  rw [if_neg (by omega)]
  simp [hk]

theorem vecSubVector_nat {α} (l : List α) (lo hi : Nat) (h1 : lo ≤ hi) (h2 : hi ≤ l.length) :
    vecSubVector l (lo : Int) (hi : Int) = some ((l.drop lo).take (hi - lo)) := by
  unfold vecSubVector
  rw [if_neg (by omega)]
  simp

theorem vecAssoc_nat {α} (l : List α) (k : Nat) (v : α) (hk : k < l.length) :
    vecAssoc l (k : Int) v = some (l.set k v) := by
  unfold vecAssoc
  rw [if_neg (by omega), if_neg (by omega)]
  simp

end C13
