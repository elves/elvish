/-
`ConvertListIndex` against the reference (`Ref.select`).

The generated `adjustAndCheckIndex` computes the reference's `pos` and checks it
(`adjust_spec`); after that the element and the slice branch of the model
(`elemTail`, `sliceTail`) are the reference's `select` on the parsed integers.
What is left is parsing: on the strings of the grammar `parseIndexString`
returns their integers when these fit int64 and an exception otherwise, and a
bound outside int64 is outside every list (`n < 2^62`), so the reference rules
it out as well.  The one place where the model's integers differ from the
reference's is the `j++` of `a..=b` at `b = MaxInt64` (`pos_upperVal`).
-/
import ElvModel.C13.Model
import ElvProofs.C13.Atoi
import ElvProofs.C13.Split
namespace C13
open Go Ref

/-- the conversion returns the selection `sel`: the element index `k`, the bounds `lo`, `hi` of a
slice, or an exception where the reference rules the index out -/
def Agrees (r : Res ListIndex) : Option Sel → Prop
  | some (.elem k) => ∃ u, r = .ok ⟨false, k, u⟩
  | some (.range lo hi) => r = .ok ⟨true, lo, hi⟩
  | none => ∃ e, r = .exc e

theorem adjust_eq (i n : Int) (b : Bool) :
    adjust i n b =
      if i < 0 then
        if i < -n then throw (negIndexOutOfRange (strBytes (itoa i)) n) else .ok (i + n)
      else if b then
        if i > n then throw (posIndexOutOfRange (strBytes (itoa i)) (n + 1)) else .ok i
      else
        if i ≥ n then throw (posIndexOutOfRange (strBytes (itoa i)) n) else .ok i := by
  unfold adjust Gen.C13Index.adjustAndCheckIndex
  by_cases h0 : i < 0
  · by_cases h1 : i < -n <;> simp [h0, h1]
  · cases b
    · by_cases h1 : i ≥ n <;> simp [h0, h1]
    · by_cases h1 : i > n <;> simp [h0, h1]

theorem pos_of_nonneg {n : Nat} {i : Int} (h : ¬ i < 0) : pos n i = i := if_pos (by omega)
theorem pos_of_neg {n : Nat} {i : Int} (h : i < 0) : pos n i = n + i := if_neg (by omega)

theorem adjust_spec (n : Nat) (i : Int) (b : Bool) :
    ∃ e, adjust i n b =
      if 0 ≤ pos n i ∧ pos n i < (if b then (n : Int) + 1 else n) then .ok (pos n i) else .exc e := by
  rw [adjust_eq]
  by_cases h0 : i < 0
  · rw [if_pos h0, pos_of_neg h0]
    by_cases h1 : i < -(n : Int)
    · exact ⟨_, by rw [if_pos h1, if_neg (by omega)]; rfl⟩
    · exact ⟨"", by rw [if_neg h1, if_pos (by omega), Int.add_comm]⟩
  · rw [if_neg h0, pos_of_nonneg h0]
    cases b <;> simp only [Bool.false_eq_true, ↓reduceIte]
    · by_cases h1 : i ≥ (n : Int)
      · exact ⟨_, by rw [if_pos h1, if_neg (by omega)]; rfl⟩
      · exact ⟨"", by rw [if_neg h1, if_pos (by omega)]⟩
    · by_cases h1 : i > (n : Int)
      · exact ⟨_, by rw [if_pos h1, if_neg (by omega)]; rfl⟩
      · exact ⟨"", by rw [if_neg h1, if_pos (by omega)]⟩

theorem adjust_no_panic (i n : Int) (b : Bool) : ∀ w, adjust i n b ≠ .panic w := by
  intro w
  unfold adjust throw
  split
  · simp
  · split <;> simp

/-- the model once the element index `i` is known -/
def elemTail (i n : Int) : Res ListIndex :=
  (adjust i n false).bind fun i' => .ok ⟨false, i', 0⟩

theorem elemTail_agrees (n : Nat) (i : Int) : Agrees (elemTail i n) (select n (.elem i)) := by
  obtain ⟨e, he⟩ := adjust_spec n i false
  rw [elemTail, he, select]
  simp only [Bool.false_eq_true, if_false]
  by_cases h : 0 ≤ pos n i ∧ pos n i < n
  · rw [if_pos h, if_pos h]
    exact ⟨0, by rw [Int.toNat_of_nonneg h.1]; rfl⟩
  · rw [if_neg h, if_neg h]
    exact ⟨e, rfl⟩

theorem convert_int (n : Nat) (i : Int) :
    Agrees (convertListIndex (.int i) n) (select n (.elem i)) :=
  elemTail_agrees n i

theorem parse_elem {s : Bytes} {i : Int} (h : IsInt s i) (n : Int) :
    parseIndexString s n = (atoi s n).bind fun v => .ok (false, v, 0) := by
  unfold parseIndexString
  rw [split_plain s (isInt_noDot h).1]
  rfl

theorem convert_elem {s : Bytes} {i : Int} (h : IsInt s i) (n : Nat) (hn : (n : Int) < 4611686018427387904) :
    Agrees (convertListIndex (.str s) n) (select n (.elem i)) := by
  obtain ⟨e, he⟩ := atoi_of_isInt h n
  have hc : convertListIndex (.str s) n =
      (atoi s n).bind fun v => elemTail v n := by
    simp only [convertListIndex, parse_elem h, bind]
    cases atoi s n <;> rfl
  rw [hc, he]
  by_cases hr : InRange i
  · rw [if_pos hr]
    exact elemTail_agrees n i
  · rw [if_neg hr, select, if_neg]
    · exact ⟨e, rfl⟩
    · simp only [InRange, minInt64, maxInt64, pos] at hr ⊢
      omega

def sepBytes (incl : Bool) : Bytes := if incl then [46, 46, 61] else [46, 46]

/-- the `low` part of `parseIndexString` -/
def lowPart (lo : Bytes) (n : Int) : Res Int := if lo.isEmpty then .ok 0 else atoi lo (n + 1)

/-- the `high` part of `parseIndexString` -/
def highPart (hi : Bytes) (incl : Bool) (n : Int) : Res Int :=
  if hi.isEmpty then .ok n
  else (atoi hi (n + 1)).bind fun j =>
    if incl then (if j = -1 then .ok n else .ok (wrap64 (j + 1))) else .ok j

/-- Binding a continuation to `lowPart` / `highPart` gives the join-point form
in which `parseIndexString` is written. -/
theorem lowPart_bind {β} (lo : Bytes) (n : Int) (k : Int → Res β) :
    (lowPart lo n).bind k = if lo.isEmpty then k 0 else (atoi lo (n + 1)).bind k := by
  unfold lowPart
  split <;> rfl

theorem highPart_bind {β} (hi : Bytes) (incl : Bool) (n : Int) (k : Int → Res β) :
    (highPart hi incl n).bind k =
      if hi.isEmpty then k n
      else (atoi hi (n + 1)).bind fun j =>
        if incl then (if j = -1 then k n else k (wrap64 (j + 1))) else k j := by
  unfold highPart
  split
  · rfl
  · cases atoi hi (n + 1) with
    | ok j =>
      cases incl
      · rfl
      · by_cases hj : j = -1 <;> simp [Res.bind, hj]
    | exc e => rfl
    | panic w => rfl

theorem parse_of_split {s : Bytes} {n : Int} {low high : Bytes} {sep : Sep}
    (hs : splitIndexString s = .ok (low, sep, high)) :
    parseIndexString s n =
      if sep = .none then (atoi s n).bind fun i => .ok (false, i, 0)
      else (lowPart low n).bind fun i =>
        (highPart high (decide (sep = .dde)) n).bind fun j => .ok (true, i, j) := by
  unfold parseIndexString
  rw [hs]
  simp only [lowPart_bind, highPart_bind]
  cases sep <;> rfl

theorem parse_slice (incl : Bool) {lo hi : Bytes} {a b : Option Int}
    (hlo : IsOptInt lo a) (hhi : IsOptInt hi b) (n : Int) :
    parseIndexString (lo ++ sepBytes incl ++ hi) n =
      (lowPart lo n).bind fun i => (highPart hi incl n).bind fun j => .ok (true, i, j) := by
  cases incl
  · exact parse_of_split
      (split_dd lo hi (isOptInt_noDot hlo).1 (isOptInt_noDot hhi).1 (isOptInt_noDot hhi).2)
  · exact parse_of_split (split_dde lo hi (isOptInt_noDot hlo).1)

def OptInRange : Option Int → Prop
  | none => True
  | some v => InRange v

theorem optInRange_or (a : Option Int) : OptInRange a ∨ ∃ v, a = some v ∧ ¬ InRange v := by
  cases a with
  | none => exact .inl trivial
  | some v => exact (Decidable.em (InRange v)).imp id fun h => ⟨v, rfl, h⟩

/-- the model's `j` for the upper bound `b`: `n` when omitted; `..=v` increments
`v` in int64, except that `..=-1` means the end -/
def upperVal (incl : Bool) (n : Int) : Option Int → Int
  | none => n
  | some v => if incl then (if v = -1 then n else wrap64 (v + 1)) else v

theorem lowPart_of_inRange {lo : Bytes} {a : Option Int} (h : IsOptInt lo a) (ha : OptInRange a)
    (n : Int) : lowPart lo n = .ok (a.getD 0) := by
  cases h with
  | omitted => rfl
  | given hi =>
    obtain ⟨e, he⟩ := atoi_of_isInt hi (n + 1)
    rw [lowPart, isEmpty_of_isInt hi, if_neg Bool.false_ne_true, he]
    exact if_pos ha

theorem lowPart_of_not_inRange {lo : Bytes} {v : Int} (h : IsOptInt lo (some v)) (hv : ¬ InRange v)
    (n : Int) : ∃ e, lowPart lo n = .exc e := by
  cases h with
  | given hi =>
    obtain ⟨e, he⟩ := atoi_of_isInt hi (n + 1)
    exact ⟨e, by rw [lowPart, isEmpty_of_isInt hi, if_neg Bool.false_ne_true, he, if_neg hv]⟩

theorem highPart_of_inRange {hi : Bytes} {b : Option Int} (h : IsOptInt hi b) (hb : OptInRange b)
    (incl : Bool) (n : Int) : highPart hi incl n = .ok (upperVal incl n b) := by
  cases h with
  | omitted => rfl
  | given hi' =>
    rename_i v
    obtain ⟨e, he⟩ := atoi_of_isInt hi' (n + 1)
    rw [highPart, isEmpty_of_isInt hi', if_neg Bool.false_ne_true, he, if_pos (show InRange v from hb)]
    cases incl
    · rfl
    · by_cases hv : v = -1 <;> simp [Res.bind, upperVal, hv]

theorem highPart_of_not_inRange {hi : Bytes} {v : Int} (h : IsOptInt hi (some v)) (hv : ¬ InRange v)
    (incl : Bool) (n : Int) : ∃ e, highPart hi incl n = .exc e := by
  cases h with
  | given hi' =>
    obtain ⟨e, he⟩ := atoi_of_isInt hi' (n + 1)
    exact ⟨e, by rw [highPart, isEmpty_of_isInt hi', if_neg Bool.false_ne_true, he, if_neg hv]; rfl⟩

/-- the model after a successful slice parse, as a function of `(i, j)` -/
def sliceTail (i j n : Int) : Res ListIndex :=
  (adjust i n true).bind fun i' => (adjust j n true).bind fun j' =>
    if j' < i' then
      if j < 0 then
        throw (.outOfRange "negative slice upper index" (itoa (i' - n)) "-1" (strBytes (itoa j)))
      else
        throw (.outOfRange "slice upper index" (itoa i') (itoa n) (strBytes (itoa j)))
    else .ok ⟨true, i', j'⟩

theorem convert_of_parse_slice {s : Bytes} {n i j : Int} (h : parseIndexString s n = .ok (true, i, j)) :
    convertListIndex (.str s) n = sliceTail i j n := by
  simp only [convertListIndex, h, bind, Res.bind, sliceTail, pure]
  cases adjust i n true <;> simp only [Bool.not_true, Bool.false_eq_true, if_false]

theorem convert_of_parse_exc {s : Bytes} {n : Int} {e : String} (h : parseIndexString s n = .exc e) :
    convertListIndex (.str s) n = .exc e := by
  simp only [convertListIndex, h, bind, Res.bind]

/-- `sliceTail i j` is the reference's slice `[lo, hi)` when `i`, `j` denote the
positions `lo`, `hi`.  For `j` it is enough that both fall outside `[0, n]`
whenever they differ. -/
theorem sliceTail_agrees (n : Nat) (i j lo hi : Int) (hlo : pos n i = lo)
    (hhi : pos n j = hi ∨ ¬ (0 ≤ pos n j ∧ pos n j ≤ n) ∧ ¬ (0 ≤ hi ∧ hi ≤ n)) :
    Agrees (sliceTail i j n)
      (if 0 ≤ lo ∧ lo ≤ hi ∧ hi ≤ n then some (.range lo.toNat hi.toNat) else none) := by
  obtain ⟨e1, h1⟩ := adjust_spec n i true
  obtain ⟨e2, h2⟩ := adjust_spec n j true
  rw [if_pos rfl] at h1 h2
  subst hlo
  rw [sliceTail, h1, h2]
  by_cases ci : 0 ≤ pos n i ∧ pos n i < n + 1
  · rw [if_pos ci]
    by_cases cj : 0 ≤ pos n j ∧ pos n j < n + 1
    · rw [if_pos cj]
      obtain rfl : pos n j = hi := by omega
      simp only [Res.bind]
      by_cases hlt : pos n j < pos n i
      · have : ¬ (0 ≤ pos n i ∧ pos n i ≤ pos n j ∧ pos n j ≤ n) := by omega
        rw [if_pos hlt, if_neg this]
        split <;> exact ⟨_, rfl⟩
      · have : 0 ≤ pos n i ∧ pos n i ≤ pos n j ∧ pos n j ≤ n := by omega
        rw [if_neg hlt, if_pos this]
        show _ = Res.ok _
        rw [Int.toNat_of_nonneg ci.1, Int.toNat_of_nonneg cj.1]
    · have : ¬ (0 ≤ pos n i ∧ pos n i ≤ hi ∧ hi ≤ n) := by omega
      rw [if_neg cj, if_neg this]
      exact ⟨e2, rfl⟩
  · have : ¬ (0 ≤ pos n i ∧ pos n i ≤ hi ∧ hi ≤ n) := by omega
    rw [if_neg ci, if_neg this]
    exact ⟨e1, rfl⟩

theorem wrap64_id {x : Int} (h1 : minInt64 ≤ x) (h2 : x ≤ maxInt64) : wrap64 x = x := by
  simp only [wrap64, minInt64, maxInt64] at *
  omega

theorem wrap64_max : wrap64 (maxInt64 + 1) = minInt64 := by
  simp only [wrap64, minInt64, maxInt64]
  omega

/-- The model's upper bound denotes the reference's upper position.  The one
exception is `..=v` at `v = MaxInt64`: there `v + 1` wraps to `MinInt64`, and
both that and the reference's `pos v + 1 = 2^63` are outside every list. -/
theorem pos_upperVal (n : Nat) (hn : (n : Int) < 4611686018427387904) (incl : Bool)
    (b : Option Int) (hb : OptInRange b) (hi : Int)
    (hhi : hi = match (generalizing := false) b with
      | none => (n : Int)
      | some b => if incl then pos n b + 1 else pos n b) :
    pos n (upperVal incl n b) = hi ∨
      ¬ (0 ≤ pos n (upperVal incl n b) ∧ pos n (upperVal incl n b) ≤ n) ∧ ¬ (0 ≤ hi ∧ hi ≤ n) := by
  subst hhi
  cases b with
  | none => exact .inl (pos_of_nonneg (show ¬ (n : Int) < 0 by omega))
  | some v =>
    cases incl
    · exact .inl rfl
    · simp only [upperVal, if_true]
      by_cases hmax : v = maxInt64
      · subst hmax
        rw [if_neg (by decide), wrap64_max]
        simp only [pos, minInt64, maxInt64]
        omega
      · have hw : v + 1 ≠ 0 → wrap64 (v + 1) = v + 1 := fun _ =>
          wrap64_id (by have := hb.1; omega) (by have := hb.2; simp only [maxInt64] at *; omega)
        left
        simp only [pos]
        split <;> (try rw [hw (by omega)]) <;> omega

theorem pos_lowVal (n : Nat) (a : Option Int) :
    pos n (a.getD 0) = match a with
      | none => 0
      | some a => pos n a := by
  cases a <;> rfl

theorem select_none_of_low (n : Nat) (hn : (n : Int) < 4611686018427387904) (v : Int) (hv : ¬ InRange v)
    (b : Option Int) (incl : Bool) : select n (.slice (some v) b incl) = none := by
  apply if_neg
  simp only [InRange, minInt64, maxInt64, pos] at hv ⊢
  omega

theorem select_none_of_high (n : Nat) (hn : (n : Int) < 4611686018427387904) (v : Int) (hv : ¬ InRange v)
    (a : Option Int) (incl : Bool) : select n (.slice a (some v) incl) = none := by
  apply if_neg
  simp only [InRange, minInt64, maxInt64, pos] at hv ⊢
  cases incl <;> simp only [Bool.false_eq_true, if_true, if_false] <;> omega

theorem convert_slice (incl : Bool) {lo hi : Bytes} {a b : Option Int}
    (hlo : IsOptInt lo a) (hhi : IsOptInt hi b) (n : Nat) (hn : (n : Int) < 4611686018427387904) :
    Agrees (convertListIndex (.str (lo ++ sepBytes incl ++ hi)) n) (select n (.slice a b incl)) := by
  have hp := parse_slice incl hlo hhi n
  rcases optInRange_or a with ha | ⟨v, rfl, hv⟩
  · rw [lowPart_of_inRange hlo ha] at hp
    rcases optInRange_or b with hb | ⟨w, rfl, hw⟩
    · rw [highPart_of_inRange hhi hb] at hp
      rw [convert_of_parse_slice hp]
      exact sliceTail_agrees n _ _ _ _ (pos_lowVal n a) (pos_upperVal n hn incl b hb _ rfl)
    · obtain ⟨e, he⟩ := highPart_of_not_inRange hhi hw incl n
      rw [he] at hp
      rw [convert_of_parse_exc hp, select_none_of_high n hn w hw]
      exact ⟨e, rfl⟩
  · obtain ⟨e, he⟩ := lowPart_of_not_inRange hlo hv n
    rw [he] at hp
    rw [convert_of_parse_exc hp, select_none_of_low n hn v hv]
    exact ⟨e, rfl⟩

theorem lowPart_isOptInt {lo : Bytes} {n i : Int} (h : lowPart lo n = .ok i) : ∃ a, IsOptInt lo a := by
  unfold lowPart at h
  split at h
  · rename_i he
    obtain rfl : lo = [] := by simpa using he
    exact ⟨_, .omitted⟩
  · exact ⟨_, .given (isInt_of_atoi h)⟩

theorem highPart_isOptInt {hi : Bytes} {incl : Bool} {n j : Int} (h : highPart hi incl n = .ok j) :
    ∃ b, IsOptInt hi b := by
  unfold highPart at h
  split at h
  · rename_i he
    obtain rfl : hi = [] := by simpa using he
    exact ⟨_, .omitted⟩
  · obtain ⟨v, hv, -⟩ := Res.bind_eq_ok.1 h
    exact ⟨_, .given (isInt_of_atoi hv)⟩

theorem parses_of_convert_ok {s : Bytes} {n : Int} {ix : ListIndex}
    (h : convertListIndex (.str s) n = .ok ix) : ∃ idx, Parses s idx := by
  simp only [convertListIndex, bind] at h
  obtain ⟨r, hp, -⟩ := Res.bind_eq_ok.1 h
  obtain ⟨low, sep, high, hs, hshape⟩ := split_sound s
  rw [parse_of_split hs] at hp
  by_cases hsep : sep = .none
  · rw [if_pos hsep] at hp
    obtain ⟨v, hv, -⟩ := Res.bind_eq_ok.1 hp
    exact ⟨_, .elem (isInt_of_atoi hv)⟩
  · rw [if_neg hsep] at hp
    obtain ⟨i, hi, hp2⟩ := Res.bind_eq_ok.1 hp
    obtain ⟨j, hj, -⟩ := Res.bind_eq_ok.1 hp2
    obtain ⟨a, ha⟩ := lowPart_isOptInt hi
    obtain ⟨b, hb⟩ := highPart_isOptInt hj
    cases sep with
    | none => exact absurd rfl hsep
    | dd => exact ⟨_, (show s = low ++ [46, 46] ++ high from hshape) ▸ Parses.excl ha hb⟩
    | dde => exact ⟨_, (show s = low ++ [46, 46, 61] ++ high from hshape) ▸ Parses.incl ha hb⟩

theorem lowPart_no_panic (lo : Bytes) (n : Int) : ∀ w, lowPart lo n ≠ .panic w := by
  intro w
  unfold lowPart
  split
  · simp
  · exact atoi_no_panic _ _ w

theorem highPart_no_panic (hi : Bytes) (incl : Bool) (n : Int) : ∀ w, highPart hi incl n ≠ .panic w := by
  intro w
  unfold highPart
  split
  · simp
  · apply Res.bind_ne_panic (atoi_no_panic _ _)
    intro a _ w
    split <;> (try split) <;> simp

theorem parse_no_panic (s : Bytes) (n : Int) : ∀ w, parseIndexString s n ≠ .panic w := by
  obtain ⟨low, sep, high, hs, -⟩ := split_sound s
  rw [parse_of_split hs]
  split
  · apply Res.bind_ne_panic (atoi_no_panic _ _)
    intro a _ w
    simp
  · apply Res.bind_ne_panic (lowPart_no_panic _ _)
    intro a _
    apply Res.bind_ne_panic (highPart_no_panic _ _ _)
    intro b _ w
    simp

theorem convert_no_panic (raw : Raw) (n : Int) : ∀ w, convertListIndex raw n ≠ .panic w := by
  cases raw with
  | int i =>
    simp only [convertListIndex, bind, pure]
    apply Res.bind_ne_panic (adjust_no_panic _ _ _)
    intro a _ w
    simp
  | other =>
    intro w
    simp [convertListIndex, throw]
  | str s =>
    simp only [convertListIndex, bind, pure]
    apply Res.bind_ne_panic (parse_no_panic _ _)
    intro ⟨sl, i, j⟩ _
    cases sl
    · simp only [Bool.not_false, if_true]
      apply Res.bind_ne_panic (adjust_no_panic _ _ _)
      intro a _ w
      simp
    · simp only [Bool.not_true, Bool.false_eq_true, if_false]
      apply Res.bind_ne_panic (adjust_no_panic _ _ _)
      intro a _
      apply Res.bind_ne_panic (adjust_no_panic _ _ _)
      intro b _ w
      simp only [throw]
      split <;> (try split) <;> simp

end C13
