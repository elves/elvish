/-
Go slices with in-range bounds, the `strings.Index` model, and
`splitIndexString`: it cuts at the first `..=`, else at the first `..`, and on
the strings of the reference's grammar returns exactly their two integer parts.
So a string has one reading at most (`parses_unique`, `refIndex_functional`).
-/
import ElvModel.C13.Model
import ElvProofs.C13.Atoi
import ElvProofs.Lemmas.Res
namespace C13
open Go Ref

theorem indexOf_some {pat s : Bytes} {i : Nat} (h : indexOf pat s = some i) :
    i + pat.length ≤ s.length ∧ s = s.take i ++ pat ++ s.drop (i + pat.length) := by
  induction s generalizing i with
  | nil =>
    simp only [indexOf] at h
    split at h
    · cases h
      rename_i hp
      have : pat = [] := by simpa using hp
      subst this
      simp
    · cases h
  | cons c t ih =>
    simp only [indexOf] at h
    split at h
    · cases h
      rename_i hp
      obtain ⟨r, hr⟩ := List.isPrefixOf_iff_prefix.mp hp
      rw [← hr]
      simp
    · split at h
      · rename_i j hj
        cases h
        obtain ⟨h1, h2⟩ := ih hj
        refine ⟨by simp; omega, ?_⟩
        rw [show j + 1 + pat.length = (j + pat.length) + 1 by omega, List.take_succ_cons,
          List.drop_succ_cons, List.cons_append, List.cons_append, ← h2]
      · cases h

def NoDot (s : Bytes) : Prop := ∀ c ∈ s, c ≠ 46

theorem noDot_cons {c : UInt8} {t : Bytes} : NoDot (c :: t) ↔ c ≠ 46 ∧ NoDot t := by
  simp [NoDot]

theorem indexOf_dot_pat_noDot (pat s : Bytes) (hs : NoDot s) :
    indexOf (46 :: pat) s = none := by
  induction s with
  | nil => simp [indexOf]
  | cons c t ih =>
    obtain ⟨hc, ht⟩ := noDot_cons.mp hs
    simp [indexOf, Ne.symm hc, ih ht]

theorem indexOf_dot_pat_at (pat lo rest : Bytes) (hlo : NoDot lo) :
    indexOf (46 :: pat) (lo ++ 46 :: pat ++ rest) = some lo.length := by
  rw [List.append_assoc, List.cons_append]
  induction lo with
  | nil => simp [indexOf]
  | cons c t ih =>
    obtain ⟨hc, ht⟩ := noDot_cons.mp hlo
    simp [indexOf, Ne.symm hc, ih ht]

theorem indexOf_dde_none (lo hi : Bytes) (hlo : NoDot lo) (hhi : NoDot hi) (h61 : hi.head? ≠ some 61) :
    indexOf dotdoteq (lo ++ [46, 46] ++ hi) = none := by
  induction lo with
  | nil =>
    cases hi with
    | nil => simp [indexOf, dotdoteq]
    | cons d r =>
      obtain ⟨hd, hr⟩ := noDot_cons.mp hhi
      have hd61 : (61 : UInt8) ≠ d := by
        intro h
        subst h
        simp at h61
      simp [indexOf, dotdoteq, Ne.symm hd, hd61, indexOf_dot_pat_noDot _ r hr]
  | cons c t ih =>
    obtain ⟨hc, ht⟩ := noDot_cons.mp hlo
    have := ih ht
    simp only [dotdoteq] at this
    simp_all [indexOf, dotdoteq, Ne.symm hc]

theorem digit_ne_eq {c : UInt8} (h : digit c = true) : c ≠ 61 := by
  simp only [digit, Bool.and_eq_true, decide_eq_true_eq] at h
  intro e
  subst e
  exact absurd h.2 (by decide)

theorem digits_noDot {ds : Bytes} (h : ds.all digit = true) : NoDot ds ∧ ds.head? ≠ some 61 := by
  constructor
  · intro c hc
    exact digit_ne_of_lt (List.all_eq_true.mp h c hc) (by decide)
  · cases ds with
    | nil => simp
    | cons d r =>
      simp only [List.all_cons, Bool.and_eq_true] at h
      simpa using digit_ne_eq h.1

theorem isInt_noDot {s : Bytes} {v : Int} (h : IsInt s v) : NoDot s ∧ s.head? ≠ some 61 := by
  cases h with
  | plain ds _ hd => exact digits_noDot hd
  | plus ds _ hd => exact ⟨noDot_cons.mpr ⟨by decide, (digits_noDot hd).1⟩, by simp⟩
  | minus ds _ hd => exact ⟨noDot_cons.mpr ⟨by decide, (digits_noDot hd).1⟩, by simp⟩

theorem isOptInt_noDot {s : Bytes} {a : Option Int} (h : IsOptInt s a) : NoDot s ∧ s.head? ≠ some 61 := by
  cases h with
  | omitted => exact ⟨fun _ h => by simp at h, by simp⟩
  | given h => exact isInt_noDot h

theorem isEmpty_of_isInt {s : Bytes} {v : Int} (h : IsInt s v) : s.isEmpty = false := by
  cases h with
  | plain ds hne _ => simpa using hne
  | plus => rfl
  | minus => rfl

/-- No slice expression of `splitIndexString` can panic: the separator found
lies inside the string. -/
theorem splitIndexString_eq (s : Bytes) :
    splitIndexString s = .ok
      (match indexOf dotdoteq s with
       | some i => (s.take i, .dde, s.drop (i + 3))
       | none =>
         match indexOf dotdot s with
         | some i => (s.take i, .dd, s.drop (i + 2))
         | none => (s, .none, [])) := by
  unfold splitIndexString
  cases hi : indexOf dotdoteq s with
  | some i =>
    have h1 := (indexOf_some hi).1
    simp only [dotdoteq, List.length_cons, List.length_nil] at h1
    simp only
    rw [slice_take_nat _ (by omega), show ((i : Int) + 3) = ((i + 3 : Nat) : Int) by simp,
      slice_drop_nat _ (by omega)]
    rfl
  | none =>
    cases hi : indexOf dotdot s with
    | some i =>
      have h1 := (indexOf_some hi).1
      simp only [dotdot, List.length_cons, List.length_nil] at h1
      simp only
      rw [slice_take_nat _ (by omega), show ((i : Int) + 2) = ((i + 2 : Nat) : Int) by simp,
        slice_drop_nat _ (by omega)]
      rfl
    | none => rfl

theorem split_plain (s : Bytes) (hs : NoDot s) : splitIndexString s = .ok (s, .none, []) := by
  rw [splitIndexString_eq, dotdoteq, dotdot, indexOf_dot_pat_noDot _ s hs, indexOf_dot_pat_noDot _ s hs]

theorem split_dde (lo hi : Bytes) (hlo : NoDot lo) :
    splitIndexString (lo ++ [46, 46, 61] ++ hi) = .ok (lo, .dde, hi) := by
  rw [splitIndexString_eq, dotdoteq, indexOf_dot_pat_at _ lo hi hlo]
  simp

theorem split_dd (lo hi : Bytes) (hlo : NoDot lo) (hhi : NoDot hi) (h61 : hi.head? ≠ some 61) :
    splitIndexString (lo ++ [46, 46] ++ hi) = .ok (lo, .dd, hi) := by
  rw [splitIndexString_eq, indexOf_dde_none lo hi hlo hhi h61, dotdot, indexOf_dot_pat_at _ lo hi hlo]
  simp

theorem split_sound (s : Bytes) :
    ∃ low sep high, splitIndexString s = .ok (low, sep, high) ∧
      (match sep with
       | .none => low = s
       | .dd => s = low ++ [46, 46] ++ high
       | .dde => s = low ++ [46, 46, 61] ++ high) := by
  rw [splitIndexString_eq]
  cases h3 : indexOf dotdoteq s with
  | some i => exact ⟨_, _, _, rfl, (indexOf_some h3).2⟩
  | none =>
    cases h2 : indexOf dotdot s with
    | some i => exact ⟨_, _, _, rfl, (indexOf_some h2).2⟩
    | none => exact ⟨_, _, _, rfl, rfl⟩

/-- the integer a decimal literal denotes -/
def intVal : Bytes → Int
  | 43 :: ds => natVal ds
  | 45 :: ds => -(natVal ds : Int)
  | ds => natVal ds

theorem isInt_val {s : Bytes} {v : Int} (h : IsInt s v) : v = intVal s := by
  cases h with
  | plus ds _ _ => rfl
  | minus ds _ _ => rfl
  | plain ds hne hd =>
    obtain ⟨c, t, rfl⟩ := List.exists_cons_of_ne_nil hne
    have hc : digit c = true := by
      rw [List.all_cons, Bool.and_eq_true] at hd
      exact hd.1
    unfold intVal
    split
    · rename_i e; exact absurd (List.cons.inj e).1 (digit_ne_of_lt hc (by decide))
    · rename_i e; exact absurd (List.cons.inj e).1 (digit_ne_of_lt hc (by decide))
    · rfl

theorem isOptInt_val {s : Bytes} {a : Option Int} (h : IsOptInt s a) :
    a = if s.isEmpty then none else some (intVal s) := by
  cases h with
  | omitted => rfl
  | given h => rw [isEmpty_of_isInt h, isInt_val h]; rfl

/-- The grammar is unambiguous: `splitIndexString` finds the one way to cut a string of the
grammar, and the parts determine their integers. -/
theorem parses_split {s : Bytes} {idx : Idx} (h : Parses s idx) :
    ∃ lo sep hi, splitIndexString s = .ok (lo, sep, hi) ∧
      idx = match sep with
        | .none => .elem (intVal s)
        | .dd => .slice (if lo.isEmpty then none else some (intVal lo)) (if hi.isEmpty then none else some (intVal hi)) false
        | .dde => .slice (if lo.isEmpty then none else some (intVal lo)) (if hi.isEmpty then none else some (intVal hi)) true := by
  cases h with
  | elem hi => exact ⟨_, _, _, split_plain _ (isInt_noDot hi).1, by rw [isInt_val hi]⟩
  | excl hlo hhi =>
    exact ⟨_, _, _, split_dd _ _ (isOptInt_noDot hlo).1 (isOptInt_noDot hhi).1 (isOptInt_noDot hhi).2,
      by rw [isOptInt_val hlo, isOptInt_val hhi]⟩
  | incl hlo hhi =>
    exact ⟨_, _, _, split_dde _ _ (isOptInt_noDot hlo).1, by rw [isOptInt_val hlo, isOptInt_val hhi]⟩

theorem parses_unique {s : Bytes} {i1 i2 : Idx} (h1 : Parses s i1) (h2 : Parses s i2) : i1 = i2 := by
  obtain ⟨lo, sep, hi, e1, rfl⟩ := parses_split h1
  obtain ⟨lo', sep', hi', e2, rfl⟩ := parses_split h2
  cases e1.symm.trans e2
  rfl

/-- The reference assigns every raw index at most one selection, whatever the length. -/
theorem refIndex_functional (n : Nat) (raw : Raw) (r1 r2 : Option Sel)
    (h1 : RefIndex n raw r1) (h2 : RefIndex n raw r2) : r1 = r2 := by
  cases raw with
  | int i => exact h1.trans h2.symm
  | other => exact h1.trans h2.symm
  | str s =>
    rcases h1 with ⟨i1, p1, rfl⟩ | ⟨n1, rfl⟩ <;> rcases h2 with ⟨i2, p2, rfl⟩ | ⟨n2, rfl⟩
    · rw [parses_unique p1 p2]
    · exact absurd ⟨i1, p1⟩ n2
    · exact absurd ⟨i2, p2⟩ n1
    · rfl

end C13
