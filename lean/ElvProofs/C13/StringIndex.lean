/-
`convertStringIndex`, `indexString`, `assocString`: exact results over valid
UTF-8; bounds, hence panic-freedom, over arbitrary bytes.
-/
import ElvModel.C13.Model
import ElvProofs.C13.Strings
namespace C13
open Go Ref

theorem convertString_elem_start {cs : List Rune} (hv : ValidRunes cs) {raw : Raw} {i k : Nat}
    {c : Rune} {u : Int}
    (hc : convertListIndex raw ((encodeRunes cs).length : Int) = .ok ⟨false, i, u⟩)
    (hs : StartsAt cs i k) (hk : cs[k]? = some c) :
    convertStringIndex raw (encodeRunes cs) = .ok ((i : Int), (i : Int) + ((encodeRune c).length : Nat)) := by
  have hcv : validRune c = true := hv c (List.mem_of_getElem? hk)
  have hle := startsAt_end_le hs hk
  simp only [convertStringIndex, hc, bind, Res.bind, Bool.false_eq_true, if_false]
  rw [slice_drop_nat _ (by omega)]
  simp only [drop_at_start hs hk, decodeRune_encodeRune_append _ hcv, isDecodeError_encode,
    Bool.false_eq_true, if_false, pure]

theorem convertString_elem_bad {cs : List Rune} (hv : ValidRunes cs) {raw : Raw} {i : Nat} {u : Int}
    (hc : convertListIndex raw ((encodeRunes cs).length : Int) = .ok ⟨false, i, u⟩)
    (hi : i < (encodeRunes cs).length) (hnb : ¬ Boundary cs i) :
    convertStringIndex raw (encodeRunes cs) = throw .notAtRuneBoundary := by
  obtain ⟨b, t, hdr, hcont⟩ := starts_bad hv hi hnb
  simp only [convertStringIndex, hc, bind, Res.bind, Bool.false_eq_true, if_false]
  rw [slice_drop_nat _ (by omega)]
  simp only [hdr, isDecodeError_cont b t hcont, if_true]

theorem convertString_slice_ok {cs : List Rune} (hv : ValidRunes cs) {raw : Raw} {lo hi : Nat}
    (hc : convertListIndex raw ((encodeRunes cs).length : Int) = .ok ⟨true, lo, hi⟩)
    (hle : lo ≤ hi) (hhi : hi ≤ (encodeRunes cs).length) (b1 : Boundary cs lo) (b2 : Boundary cs hi) :
    convertStringIndex raw (encodeRunes cs) = .ok ((lo : Int), (hi : Int)) := by
  simp only [convertStringIndex, hc, bind, Res.bind, if_true]
  rw [slice_drop_nat _ (by omega)]
  simp only [starts_ok hv b1, if_true]
  rw [slice_take_nat _ hhi]
  simp only [ends_ok hv b2, if_true, pure]

theorem convertString_slice_bad {cs : List Rune} (hv : ValidRunes cs) {raw : Raw} {lo hi : Nat}
    (hc : convertListIndex raw ((encodeRunes cs).length : Int) = .ok ⟨true, lo, hi⟩)
    (hle : lo ≤ hi) (hhi : hi ≤ (encodeRunes cs).length) (hb : ¬ (Boundary cs lo ∧ Boundary cs hi)) :
    convertStringIndex raw (encodeRunes cs) = throw .notAtRuneBoundary := by
  simp only [convertStringIndex, hc, bind, Res.bind, if_true]
  rw [slice_drop_nat _ (by omega)]
  by_cases b1 : Boundary cs lo
  · have b2 : ¬ Boundary cs hi := fun h => hb ⟨b1, h⟩
    simp only [starts_ok hv b1, if_true]
    rw [slice_take_nat _ hhi]
    simp [ends_bad hv hhi b2]
  · have hlt : lo < (encodeRunes cs).length := by
      apply Nat.lt_of_le_of_ne (by omega)
      intro h
      exact b1 (h ▸ boundary_len cs)
    obtain ⟨b, t, hdr, hcont⟩ := starts_bad hv hlt b1
    simp [startsWithRuneBoundary, hdr, isDecodeError_cont b t hcont]

/-- The decoded width added to an element index stays inside the string. -/
theorem convertString_bounds (raw : Raw) (s : Bytes) :
    (∃ e, convertStringIndex raw s = .exc e) ∨
    ∃ i j, convertStringIndex raw s = .ok (i, j) ∧ 0 ≤ i ∧ i ≤ j ∧ j ≤ s.length := by
  unfold convertStringIndex
  cases hc : convertListIndex raw (s.length : Int) with
  | exc e => exact .inl ⟨e, rfl⟩
  | panic w => exact absurd hc (convert_no_panic _ _ w)
  | ok ix =>
    obtain ⟨h0, hs, hns⟩ := convert_bounds (Int.natCast_nonneg _) hc
    obtain ⟨sl, lower, upper⟩ := ix
    simp only at h0 hs hns
    simp only [bind, Res.bind]
    cases sl
    · have hlt := hns rfl
      simp only [Bool.false_eq_true, if_false]
      rw [slice_eq_ok _ h0 (by omega) (Int.le_refl _)]
      simp only [Int.toNat_natCast]
      have hsz := decodeRune_size_le (List.take (s.length - lower.toNat) (List.drop lower.toNat s))
      simp only [List.length_take, List.length_drop] at hsz
      split
      · exact .inl ⟨_, rfl⟩
      · exact .inr ⟨_, _, rfl, by omega⟩
    · obtain ⟨hle, hhi⟩ := hs rfl
      simp only [if_true]
      rw [slice_eq_ok _ h0 (by omega) (Int.le_refl _)]
      simp only
      split
      · rw [slice_eq_ok _ (Int.le_refl _) (by omega) hhi]
        simp only
        split
        · exact .inr ⟨_, _, rfl, h0, hle, hhi⟩
        · exact .inl ⟨_, rfl⟩
      · exact .inl ⟨_, rfl⟩

theorem indexString_no_panic (s : Bytes) (raw : Raw) : ∀ w, indexString s raw ≠ .panic w := by
  intro w
  unfold indexString
  rcases convertString_bounds raw s with ⟨e, he⟩ | ⟨i, j, he, hb⟩
  · simp [he, bind, Res.bind]
  · simp [he, bind, Res.bind, slice_eq_ok _ hb.1 hb.2.1 hb.2.2]

theorem assocString_no_panic (s : Bytes) (raw : Raw) (v : Option Bytes) :
    ∀ w, assocString s raw v ≠ .panic w := by
  intro w
  unfold assocString
  rcases convertString_bounds raw s with ⟨e, he⟩ | ⟨i, j, he, h0, h1, h2⟩
  · simp [he, bind, Res.bind]
  · cases v with
    | none => simp [he, bind, Res.bind, throw]
    | some repl =>
      simp [he, bind, Res.bind, pure, slice_eq_ok s (Int.le_refl _) h0 (by omega),
        slice_eq_ok s (by omega) h2 (Int.le_refl _)]

theorem assocString_nonstring (s : Bytes) (raw : Raw) : ∃ e, assocString s raw none = .exc e := by
  unfold assocString
  rcases convertString_bounds raw s with ⟨e, he⟩ | ⟨i, j, he, -⟩
  · exact ⟨e, by simp only [he, bind, Res.bind]⟩
  · exact ⟨Err.replacementMustBeString.render, by simp only [he, bind, Res.bind, throw]⟩

theorem indexString_of_convert {s : Bytes} {raw : Raw} {i j : Nat}
    (h : convertStringIndex raw s = .ok ((i : Int), (j : Int))) (hij : i ≤ j) (hj : j ≤ s.length) :
    indexString s raw = .ok ((s.drop i).take (j - i)) := by
  simp only [indexString, h, bind, Res.bind]
  exact slice_nat s hij hj

theorem indexString_of_convert_exc {s : Bytes} {raw : Raw} {e : String}
    (h : convertStringIndex raw s = .exc e) : indexString s raw = .exc e := by
  simp only [indexString, h, bind, Res.bind]

theorem assocString_of_convert {s : Bytes} {raw : Raw} {i j : Nat} (repl : Bytes)
    (h : convertStringIndex raw s = .ok ((i : Int), (j : Int))) (hij : i ≤ j) (hj : j ≤ s.length) :
    assocString s raw (some repl) = .ok (s.take i ++ repl ++ s.drop j) := by
  simp only [assocString, h, bind, Res.bind]
  rw [slice_take_nat s (by omega), slice_drop_nat s hj]
  rfl

theorem assocString_of_convert_exc {s : Bytes} {raw : Raw} {e : String} (v : Option Bytes)
    (h : convertStringIndex raw s = .exc e) : assocString s raw v = .exc e := by
  simp only [assocString, h, bind, Res.bind]

end C13
