/-
Code point boundaries of `encodeRunes cs` for scalar values `cs`, and the two
boundary tests of index_string.go on its suffixes and prefixes: they succeed
exactly at the boundaries.
-/
import ElvModel.C13.Model
import ElvProofs.C13.Convert
import ElvProofs.C13.Lists
import ElvProofs.Lemmas.Utf8
namespace C13
open Go Ref

theorem enc_split (cs : List Rune) (k : Nat) :
    encodeRunes cs = encodeRunes (cs.take k) ++ encodeRunes (cs.drop k) := by
  rw [← encodeRunes_append, List.take_append_drop]

theorem enc_drop (cs : List Rune) (k : Nat) :
    (encodeRunes cs).drop (encodeRunes (cs.take k)).length = encodeRunes (cs.drop k) := by
  conv => lhs; rw [enc_split cs k]
  simp

theorem enc_take (cs : List Rune) (k : Nat) :
    (encodeRunes cs).take (encodeRunes (cs.take k)).length = encodeRunes (cs.take k) := by
  conv => lhs; rw [enc_split cs k]
  simp

theorem validRunes_tail {c : Rune} {cs : List Rune} (h : ValidRunes (c :: cs)) : ValidRunes cs :=
  fun x hx => h x (by simp [hx])

theorem boundary_zero (cs : List Rune) : Boundary cs 0 := ⟨0, by simp, by simp⟩

theorem boundary_len (cs : List Rune) : Boundary cs (encodeRunes cs).length :=
  ⟨cs.length, Nat.le_refl _, by simp⟩

theorem boundary_cons {c : Rune} {cs : List Rune} {i : Nat} (h : Boundary cs i) :
    Boundary (c :: cs) ((encodeRune c).length + i) := by
  obtain ⟨k, hk, rfl⟩ := h
  exact ⟨k + 1, by simp; omega, by simp⟩

theorem nonboundary_cont (cs : List Rune) (hv : ValidRunes cs) (i : Nat)
    (hi : i < (encodeRunes cs).length) (hnb : ¬ Boundary cs i) :
    ∃ b, (encodeRunes cs)[i]? = some b ∧ isCont b.toNat = true := by
  induction cs generalizing i with
  | nil => simp at hi
  | cons c cs ih =>
    rw [encodeRunes_cons] at hi ⊢
    by_cases hlt : i < (encodeRune c).length
    · -- inside the first code point, and not at its start
      have hi0 : 0 < i := Nat.pos_of_ne_zero fun h => hnb (h ▸ boundary_zero _)
      exact ⟨_, by rw [List.getElem?_append_left hlt, List.getElem?_eq_getElem hlt],
        encodeRune_getElem_isCont c i hi0 hlt⟩
    · rw [List.getElem?_append_right (by omega)]
      apply ih (validRunes_tail hv)
      · simp only [List.length_append] at hi
        omega
      · intro hb
        apply hnb
        have := boundary_cons (c := c) hb
        rwa [show (encodeRune c).length + (i - (encodeRune c).length) = i by omega] at this

theorem starts_bad {cs : List Rune} (hv : ValidRunes cs) {i : Nat}
    (hi : i < (encodeRunes cs).length) (hnb : ¬ Boundary cs i) :
    ∃ b t, (encodeRunes cs).drop i = b :: t ∧ isCont b.toNat = true := by
  obtain ⟨b, hb, hcont⟩ := nonboundary_cont cs hv i hi hnb
  rw [List.getElem?_eq_getElem hi] at hb
  exact ⟨b, _, by rw [List.drop_eq_getElem_cons hi, Option.some.inj hb], hcont⟩

theorem boundary_starts {cs : List Rune} {i : Nat} (hb : Boundary cs i)
    (hi : i < (encodeRunes cs).length) : ∃ k c, StartsAt cs i k ∧ cs[k]? = some c := by
  obtain ⟨k, hk, rfl⟩ := hb
  have hlt : k < cs.length := by
    apply Nat.lt_of_le_of_ne hk
    rintro rfl
    simp at hi
  exact ⟨k, cs[k], ⟨hlt, rfl⟩, List.getElem?_eq_getElem hlt⟩

theorem drop_at_start {cs : List Rune} {i k : Nat} {c : Rune} (h : StartsAt cs i k)
    (hc : cs[k]? = some c) :
    (encodeRunes cs).drop i = encodeRune c ++ encodeRunes (cs.drop (k + 1)) := by
  obtain ⟨hk, rfl⟩ := h
  obtain rfl : cs[k] = c := by simpa [hk] using hc
  rw [enc_drop, List.drop_eq_getElem_cons hk, encodeRunes_cons]

theorem startsAt_end_le {cs : List Rune} {i k : Nat} {c : Rune} (h : StartsAt cs i k)
    (hc : cs[k]? = some c) : i + (encodeRune c).length ≤ (encodeRunes cs).length := by
  have := congrArg List.length (drop_at_start h hc)
  simp only [List.length_drop, List.length_append] at this
  have := encodeRune_length_pos c
  omega

theorem boundary_next {cs : List Rune} {i k : Nat} {c : Rune} (h : StartsAt cs i k)
    (hc : cs[k]? = some c) : Boundary cs (i + (encodeRune c).length) :=
  ⟨k + 1, h.1, by simp [List.take_add_one, hc, encodeRunes_append, h.2]⟩

theorem isDecodeError_encode (c : Nat) : isDecodeError (c, (encodeRune c).length) = false := by
  have := encodeRune_not_error c
  simp only [isDecodeError]
  by_cases h1 : c = RuneError
  · have : (encodeRune c).length ≠ 1 := fun h => this ⟨h1, h⟩
    simp [this]
  · simp [h1]

theorem isDecodeError_cont (b : UInt8) (t : Bytes) (h : isCont b.toNat = true) :
    isDecodeError (decodeRune (b :: t)) = true := by
  rw [decodeRune_cont b t h]
  rfl

/-- Inside a prefix of valid UTF-8, a decode that is not an error starts and
ends at boundaries of the whole string: from inside a code point it meets a
continuation byte, and from a boundary it reads the code point that starts
there, unless the prefix cuts that short. -/
theorem decode_in_prefix {cs : List Rune} (hv : ValidRunes cs) {i j : Nat} (hji : j < i)
    (hi : i ≤ (encodeRunes cs).length)
    (hok : isDecodeError (decodeRune (((encodeRunes cs).take i).drop j)) = false) :
    Boundary cs (j + (decodeRune (((encodeRunes cs).take i).drop j)).2) := by
  rw [List.drop_take] at hok ⊢
  obtain ⟨m, hm⟩ : ∃ m, i - j = m + 1 := ⟨i - j - 1, by omega⟩
  by_cases hb : Boundary cs j
  · obtain ⟨k, c, hk, hc⟩ := boundary_starts hb (by omega)
    have hcv : validRune c = true := hv c (List.mem_of_getElem? hc)
    rw [drop_at_start hk hc] at hok ⊢
    by_cases hshort : i - j < (encodeRune c).length
    · rw [List.take_append_of_le_length (by omega),
        decodeRune_take_encodeRune c hcv _ (by omega) hshort] at hok
      cases hok
    · rw [List.take_append, List.take_of_length_le (by omega), decodeRune_encodeRune_append c hcv]
      exact boundary_next hk hc
  · obtain ⟨b, t, hdr, hcont⟩ := starts_bad hv (by omega) hb
    rw [hdr, hm, List.take_succ_cons, isDecodeError_cont b _ hcont] at hok
    cases hok

theorem starts_ok {cs : List Rune} (hv : ValidRunes cs) {i : Nat} (hb : Boundary cs i) :
    startsWithRuneBoundary ((encodeRunes cs).drop i) = true := by
  obtain ⟨k, hk, rfl⟩ := hb
  rw [enc_drop]
  unfold startsWithRuneBoundary
  cases hd : cs.drop k with
  | nil => rfl
  | cons c rest =>
    have hc : validRune c = true := hv c (List.mem_of_mem_drop (hd ▸ List.mem_cons_self))
    rw [encodeRunes_cons, if_neg (by simp [encodeRune_ne_nil]), decodeRune_encodeRune_append c hc,
      isDecodeError_encode c]
    rfl

theorem ends_ok {cs : List Rune} (hv : ValidRunes cs) {i : Nat} (hb : Boundary cs i) :
    endsWithRuneBoundary ((encodeRunes cs).take i) = true := by
  obtain ⟨k, hk, rfl⟩ := hb
  rw [enc_take]
  unfold endsWithRuneBoundary
  rcases List.eq_nil_or_concat (cs.take k) with h | ⟨rest, c, h⟩
  · rw [h]
    rfl
  · have hc : validRune c = true := hv c (List.mem_of_mem_take (i := k) (by rw [h]; simp))
    rw [h, List.concat_eq_append, encodeRunes_append, encodeRunes_cons, encodeRunes_nil,
      List.append_nil, if_neg (by simp [encodeRune_ne_nil]), decodeLastRune_append_encodeRune hc,
      isDecodeError_encode c]
    rfl

theorem ends_bad {cs : List Rune} (hv : ValidRunes cs) {i : Nat}
    (hi : i ≤ (encodeRunes cs).length) (hnb : ¬ Boundary cs i) :
    endsWithRuneBoundary ((encodeRunes cs).take i) = false := by
  have hi0 : i ≠ 0 := fun h => hnb (h ▸ boundary_zero cs)
  have hlen : ((encodeRunes cs).take i).length = i := by
    rw [List.length_take]
    omega
  have hne : (encodeRunes cs).take i ≠ [] := fun h => by
    rw [h] at hlen
    exact hi0 hlen.symm
  rw [endsWithRuneBoundary, if_neg (by simpa using hne)]
  rcases decodeLastRune_cases _ hne with herr | ⟨start, hlt, hsum, hdec⟩
  · rw [herr]
    rfl
  · -- the accepted rune is a decode at `start` that ends at `i`
    rw [hlen] at hlt hsum
    cases hd : isDecodeError (decodeLastRune ((encodeRunes cs).take i)) with
    | true => rfl
    | false =>
      rw [← hdec] at hd hsum
      exact absurd (hsum ▸ decode_in_prefix hv hlt hi hd) hnb

end C13
