/-
The model of `strconv.Atoi` against the reference's notion of an integer
literal (`Ref.IsInt`): it accepts exactly the literals whose value fits int64.
-/
import ElvModel.C13.Model
namespace C13
open Go Ref

theorem isDigit_eq_digit (c : UInt8) : isDigit c = digit c := rfl

/-- `d < 48`: the signs and `.`. -/
theorem digit_ne_of_lt {c d : UInt8} (h : digit c = true) (hd : d < 48) : c ≠ d := by
  simp only [digit, Bool.and_eq_true, decide_eq_true_eq] at h
  intro e
  subst e
  exact absurd (UInt8.lt_of_lt_of_le hd h.1) (UInt8.lt_irrefl _)

def valFrom (acc : Nat) (ds : Bytes) : Nat := ds.foldl (fun a c => a * 10 + (c.toNat - 48)) acc

theorem natVal_eq (ds : Bytes) : natVal ds = valFrom 0 ds := rfl

theorem valFrom_cons (acc : Nat) (c : UInt8) (t : Bytes) :
    valFrom acc (c :: t) = valFrom (acc * 10 + (c.toNat - 48)) t := by
  simp only [valFrom, List.foldl_cons]

theorem valFrom_ge (ds : Bytes) (acc : Nat) : acc ≤ valFrom acc ds := by
  induction ds generalizing acc with
  | nil => exact Nat.le_refl _
  | cons c t ih =>
    have := ih (acc * 10 + (c.toNat - 48))
    rw [valFrom_cons]
    omega

theorem parseUintLoop_digits (ds : Bytes) (acc : Nat) (hacc : acc ≤ maxUint64) (h : ds.all digit = true) :
    parseUintLoop ds acc =
      if valFrom acc ds ≤ maxUint64 then .ok (valFrom acc ds) else .rangeErr := by
  induction ds generalizing acc with
  | nil => simp [parseUintLoop, valFrom, hacc]
  | cons c t ih =>
    simp only [List.all_cons, Bool.and_eq_true] at h
    rw [parseUintLoop, isDigit_eq_digit, if_pos h.1, valFrom_cons]
    by_cases hov : acc * 10 + (c.toNat - 48) > maxUint64
    · have := valFrom_ge t (acc * 10 + (c.toNat - 48))
      rw [if_pos hov, if_neg (by omega)]
    · rw [if_neg hov, ih _ (by omega) h.2]

theorem parseUintLoop_ok (ds : Bytes) (acc n : Nat) (h : parseUintLoop ds acc = .ok n) :
    ds.all digit = true ∧ n = valFrom acc ds := by
  induction ds generalizing acc with
  | nil =>
    cases h
    exact ⟨rfl, rfl⟩
  | cons c t ih =>
    simp only [parseUintLoop] at h
    split at h
    · rename_i hc
      split at h
      · cases h
      · obtain ⟨hd, hn⟩ := ih _ h
        exact ⟨by rw [List.all_cons, ← isDigit_eq_digit, hc, hd]; rfl, hn⟩
    · cases h

theorem parseUint_digits (ds : Bytes) (hne : ds ≠ []) (h : ds.all digit = true) :
    parseUint ds = if natVal ds ≤ maxUint64 then .ok (natVal ds) else .rangeErr := by
  rw [parseUint, if_neg (by simpa using hne), parseUintLoop_digits ds 0 (Nat.zero_le _) h, natVal_eq]

theorem parseUint_ok {s : Bytes} {n : Nat} (h : parseUint s = .ok n) :
    s ≠ [] ∧ s.all digit = true ∧ n = natVal s := by
  unfold parseUint at h
  split at h
  · cases h
  · rename_i hne
    exact ⟨by simpa using hne, parseUintLoop_ok s 0 n h⟩

abbrev InRange (v : Int) : Prop := minInt64 ≤ v ∧ v ≤ maxInt64

/-- The sign handling of `ParseInt` after `ParseUint` has read the digits of `m`. -/
theorem signed_core (neg : Bool) (m : Nat) :
    (match (if m ≤ maxUint64 then UintRes.ok m else UintRes.rangeErr) with
      | .syntaxErr => AtoiRes.syntaxErr
      | .rangeErr => .rangeErr neg
      | .ok un =>
        if !neg && un ≥ 9223372036854775808 then .rangeErr false
        else if neg && un > 9223372036854775808 then .rangeErr true
        else .ok (if neg then -(un : Int) else un)) =
    (let v : Int := if neg then -(m : Int) else m
     if InRange v then AtoiRes.ok v else .rangeErr (decide (v < 0))) := by
  simp only [InRange, minInt64, maxInt64, maxUint64]
  by_cases h1 : m ≤ 18446744073709551615 <;> cases neg <;>
    simp only [h1, if_true, if_false, Bool.not_false, Bool.not_true, Bool.true_and, Bool.false_and,
      Bool.false_eq_true, decide_eq_true_eq] <;>
    split <;> (try split) <;> first | rfl | omega | (simp; omega)

theorem strconvAtoi_of_isInt {s : Bytes} {v : Int} (h : IsInt s v) :
    strconvAtoi s = if InRange v then .ok v else .rangeErr (decide (v < 0)) := by
  cases h with
  | plain ds hne hd =>
    obtain ⟨c, t, rfl⟩ := List.exists_cons_of_ne_nil hne
    have hc : digit c = true := by
      rw [List.all_cons, Bool.and_eq_true] at hd
      exact hd.1
    have h43 : (c == 43) = false := beq_false_of_ne (digit_ne_of_lt hc (by decide))
    have h45 : (c == 45) = false := beq_false_of_ne (digit_ne_of_lt hc (by decide))
    simp only [strconvAtoi, h43, h45, Bool.or_self, Bool.false_eq_true, if_false]
    rw [parseUint_digits (c :: t) hne hd]
    exact signed_core false _
  | plus ds hne hd =>
    have h45 : ((43 : UInt8) == 45) = false := by decide
    simp only [strconvAtoi, beq_self_eq_true, h45, Bool.true_or, if_true]
    rw [parseUint_digits ds hne hd]
    exact signed_core false _
  | minus ds hne hd =>
    simp only [strconvAtoi, beq_self_eq_true, Bool.or_true, if_true]
    rw [parseUint_digits ds hne hd]
    exact signed_core true _

theorem isInt_of_body (c : UInt8) (t : Bytes)
    (hne : (if c == 43 || c == 45 then t else c :: t) ≠ [])
    (hd : (if c == 43 || c == 45 then t else c :: t).all digit = true) :
    IsInt (c :: t) (if c == 45 then -(natVal (if c == 43 || c == 45 then t else c :: t) : Int)
      else natVal (if c == 43 || c == 45 then t else c :: t)) := by
  by_cases h43 : c = 43
  · subst h43; exact IsInt.plus t hne hd
  · by_cases h45 : c = 45
    · subst h45; exact IsInt.minus t hne hd
    · have e1 : (c == 43) = false := beq_false_of_ne h43
      have e2 : (c == 45) = false := beq_false_of_ne h45
      simp only [e1, e2, Bool.or_self, Bool.false_eq_true, if_false] at hne hd ⊢
      exact IsInt.plain (c :: t) hne hd

theorem isInt_of_strconvAtoi {s : Bytes} {v : Int} (h : strconvAtoi s = .ok v) : IsInt s v := by
  unfold strconvAtoi at h
  split at h
  · cases h
  · rename_i c t
    simp only at h
    split at h
    · cases h
    · cases h
    · rename_i un hpu
      obtain ⟨hne, hd, rfl⟩ := parseUint_ok hpu
      have hint := isInt_of_body c t hne hd
      generalize (if c == 43 || c == 45 then t else c :: t) = body at h hint
      split at h
      · cases h
      · split at h
        · cases h
        · cases h
          exact hint

theorem atoi_no_panic (a : Bytes) (n : Int) : ∀ w, atoi a n ≠ .panic w := by
  intro w
  unfold atoi throw
  split <;> simp

theorem atoi_of_isInt {s : Bytes} {v : Int} (h : IsInt s v) (n : Int) :
    ∃ e, atoi s n = if InRange v then .ok v else .exc e := by
  unfold atoi
  rw [strconvAtoi_of_isInt h]
  by_cases hr : InRange v
  · exact ⟨"", by simp only [if_pos hr]⟩
  · simp only [if_neg hr, throw]
    cases decide (v < 0) <;> exact ⟨_, rfl⟩

theorem isInt_of_atoi {s : Bytes} {v n : Int} (h : atoi s n = .ok v) : IsInt s v := by
  unfold atoi throw at h
  split at h
  · rename_i v' hv
    cases h
    exact isInt_of_strconvAtoi hv
  all_goals cases h

end C13
