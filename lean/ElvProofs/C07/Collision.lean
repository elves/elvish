/-
Collision nodes.  Their entries have pairwise different keys, so they split
around the at most one entry whose key is `eq` to `k`; replacing, appending and
removing an entry are all "put something else in the middle" (`Bind.splice`, `Bind.mid`).
-/
import ElvProofs.C07.Update
namespace C07
open Go Gen.C07Bits

variable {K V : Type} {eq : K → K → Bool} {hashf : K → UInt32}

theorem around_found (L : Lawful eq hashf) {k : K} {kvs : List (K × V)} {i : Nat}
    (hf : findIndex eq k kvs = some i) (hnd : NoDupKeys eq kvs) :
    ∃ hi : i < kvs.length, kvs = kvs.take i ++ [kvs[i]] ++ kvs.drop (i + 1) ∧ eq kvs[i].1 k = true ∧
      (∀ e ∈ kvs.take i, eq e.1 k = false) ∧ (∀ e ∈ kvs.drop (i + 1), eq e.1 k = false) := by
  obtain ⟨hi, hpi, hbefore⟩ := List.findIdx?_eq_some_iff_getElem.mp hf
  have hsplit : kvs = kvs.take i ++ [kvs[i]] ++ kvs.drop (i + 1) := by simp
  refine ⟨hi, hsplit, L.symm _ _ hpi, ?_, ?_⟩
  · intro e he
    obtain ⟨j, hj, rfl⟩ := List.getElem_of_mem he
    rw [List.length_take] at hj
    rw [List.getElem_take]
    exact eq_false_symm L (by simpa using hbefore j (by omega))
  · intro e he
    unfold NoDupKeys at hnd
    rw [hsplit, List.append_assoc, List.pairwise_append] at hnd
    have h1 : eq kvs[i].1 e.1 = false := by
      have := hnd.2.1
      rw [List.singleton_append, List.pairwise_cons] at this
      exact this.1 e he
    cases h2 : eq e.1 k
    · rfl
    · have := L.trans _ _ _ (L.symm _ _ hpi) (L.symm _ _ h2)
      rw [h1] at this; cases this

theorem wf_splice (L : Lawful eq hashf) (d : Nat) {h : UInt32} {k : K} {A B mid : List (K × V)}
    (hwf : WF eq hashf d (.collision h (A ++ mid ++ B)))
    (hA : ∀ e ∈ A, eq e.1 k = false) (hB : ∀ e ∈ B, eq e.1 k = false) (hk : hashf k = h)
    (nv : Option V) (hne : A ++ (nv.toList.map (Prod.mk k)) ++ B ≠ []) :
    SubWF eq hashf d (some (.sub (.collision h (A ++ (nv.toList.map (Prod.mk k)) ++ B)))) := by
  cases hwf with
  | collision _ hh hnd =>
  refine SubWF.sub (WF.collision hne ?_ ?_) (by simpa using hne)
  · intro e he
    simp only [List.mem_append] at he
    rcases he with (h1 | h1) | h1
    · exact hh e (by simp [h1])
    · cases nv <;> simp at h1
      subst h1; exact hk
    · exact hh e (by simp [h1])
  · simp only [List.append_assoc, List.pairwise_append] at hnd ⊢
    refine ⟨hnd.1, ⟨?_, hnd.2.1.2.1, ?_⟩, ?_⟩
    · cases nv
      · exact List.Pairwise.nil
      · exact List.pairwise_singleton _ _
    · intro a ha b hb
      cases nv <;> simp at ha
      subst ha; exact eq_false_symm L (hB b hb)
    · intro a ha b hb
      rcases List.mem_append.mp hb with h1 | h1
      · cases nv <;> simp at h1
        subst h1; exact hA a ha
      · exact hnd.2.2 a ha b (List.mem_append_right _ h1)

/-- `collisionNode.assoc` with another hash wraps the node into a bitmap node -/
theorem wf_wrap {d : Nat} (hd : d ≤ 6) {h : UInt32} {kvs : List (K × V)}
    (hwf : WF eq hashf d (.collision h kvs)) : WF eq hashf d (one d h (.sub (.collision h kvs))) := by
  cases hwf with
  | collision hne hh hnd =>
  refine wf_one hd ⟨SubWF.sub (.collision hne hh hnd) (by simpa using hne), ?_⟩
  intro e he
  simp only [optAL_sub, toAList_collision] at he
  rw [hh e he]

end C07
