/-
Bitmap and array nodes alike are sparse arrays of 32 entries indexed by the
chunk of the hash: `kid n c` is the entry of node `n` for chunk `c` (an array
child counts as a `.sub` entry).  `find`, the contents and the invariant `WF`
are read through `kid`, so that everything proved later about updating one
chunk of a node is proved once for both kinds.
-/
import ElvProofs.C07.Inv
namespace C07
open Go Gen.C07Bits

variable {K V : Type} {eq : K → K → Bool} {hashf : K → UInt32}

def entryAL : Entry K V → List (K × V)
  | .kv k v => [(k, v)]
  | .sub n => n.toAList

def childAL : Option (Node K V) → List (K × V)
  | none => []
  | some n => n.toAList

theorem entriesToAList_eq (es : List (Entry K V)) : entriesToAList es = es.flatMap entryAL := by
  induction es with
  | nil => simp [entriesToAList]
  | cons e es ih => cases e <;> simp [entriesToAList, entryAL, ih]

theorem childrenToAList_eq (cs : List (Option (Node K V))) : childrenToAList cs = cs.flatMap childAL := by
  induction cs with
  | nil => simp [childrenToAList]
  | cons c cs ih => cases c <;> simp [childrenToAList, childAL, ih]

@[simp] theorem toAList_bitmap (bm : UInt32) (es : List (Entry K V)) :
    (Node.bitmap bm es).toAList = es.flatMap entryAL := by
  rw [Node.toAList, entriesToAList_eq]

@[simp] theorem toAList_array (nc : Int) (cs : List (Option (Node K V))) :
    (Node.array nc cs).toAList = cs.flatMap childAL := by
  rw [Node.toAList, childrenToAList_eq]

@[simp] theorem toAList_collision (h : UInt32) (kvs : List (K × V)) :
    (Node.collision h kvs).toAList = kvs := by
  rw [Node.toAList]

def subOf : Option (Option (Node K V)) → Option (Entry K V)
  | some (some m) => some (.sub m)
  | _ => none

def kid : Node K V → Nat → Option (Entry K V)
  | .bitmap bm es, c => slot bm es c
  | .array _ cs, c => subOf cs[c]?
  | .collision _ _, _ => none

/-- a bitmap or array node whose list is as long as its header says -/
def Framed : Node K V → Prop
  | .bitmap bm es => es.length = rank bm 32
  | .array _ cs => cs.length = 32
  | .collision _ _ => False

def optAL : Option (Entry K V) → List (K × V)
  | none => []
  | some x => entryAL x

/-- a lookup that has reached an entry whose sub-node, if it is one, sits at depth `d` -/
def look (eq : K → K → Bool) (d : Nat) : Option (Entry K V) → UInt32 → K → Res (Option V)
  | none, _, _ => .ok none
  | some (.kv k0 v0), _, k => .ok (if eq k0 k then some v0 else none)
  | some (.sub m), hash, k => m.find eq (shiftOf d) hash k

@[simp] theorem subOf_none : subOf (none : Option (Option (Node K V))) = none := rfl
@[simp] theorem subOf_some_none : subOf (some (none : Option (Node K V))) = none := rfl
@[simp] theorem subOf_some_some (m : Node K V) : subOf (some (some m)) = some (.sub m) := rfl
theorem kid_array (nc : Int) (cs : List (Option (Node K V))) (c : Nat) : kid (.array nc cs) c = subOf cs[c]? := rfl

@[simp] theorem optAL_none : optAL (none : Option (Entry K V)) = [] := rfl
@[simp] theorem optAL_kv (k : K) (v : V) : optAL (some (.kv k v)) = [(k, v)] := rfl
@[simp] theorem optAL_sub (m : Node K V) : optAL (some (.sub m)) = m.toAList := rfl

theorem kid_array_eq_sub {nc : Int} {cs : List (Option (Node K V))} {c : Nat} {m : Node K V} :
    kid (.array nc cs) c = some (.sub m) ↔ cs[c]? = some (some m) := by
  rw [kid_array]
  cases cs[c]? with
  | none => simp
  | some o => cases o <;> simp

theorem find_kid (eq : K → K → Bool) {d : Nat} (hd : d ≤ 7) {n : Node K V} (hn : Framed n)
    (hash : UInt32) (k : K) :
    n.find eq (shiftOf d) hash k = look eq (d + 1) (kid n (chunkN d hash)) hash k := by
  have hc := chunkN_lt d hash
  cases n with
  | bitmap bm es =>
    simp only [Node.find, bitpos_eq d hd, and_bitU_eq_zero _ _ hc, index_bitU _ _ hc, findAt_eq,
      nextShift_shiftOf, kid]
    cases hb : hasBit bm (chunkN d hash)
    · simp [slot, hb, look]
    · obtain ⟨e, h1, h2⟩ := slot_isSome hn hc hb
      simp only [h1, h2]
      cases e <;> rfl
  | array nc cs =>
    have hl : chunkN d hash < cs.length := by rw [hn]; exact hc
    simp only [Node.find, findChild_eq, chunk_toNat d hd, nextShift_shiftOf, kid,
      List.getElem?_eq_getElem hl]
    cases cs[chunkN d hash] <;> rfl
  | collision => exact hn.elim

theorem toAList_kid {n : Node K V} (hn : Framed n) :
    n.toAList = (List.range 32).flatMap fun c => optAL (kid n c) := by
  cases n with
  | bitmap bm es =>
    have h : ∀ w, w ≤ 32 → (List.range w).flatMap (fun c => optAL (slot bm es c)) =
        (es.take (rank bm w)).flatMap entryAL := by
      intro w
      induction w with
      | zero => intro _; simp [rank, bcN]
      | succ w ih =>
        intro hw
        rw [List.range_succ, List.flatMap_append, ih (by omega), rank_succ]
        cases hb : hasBit bm w
        · simp [slot_none_of_not_hasBit hb]
        · obtain ⟨e, h1, h2⟩ := slot_isSome hn (show w < 32 by omega) hb
          simp [h1, h2, List.take_add_one, optAL]
    have hn : es.length = rank bm 32 := hn
    rw [toAList_bitmap]
    show _ = (List.range 32).flatMap (fun c => optAL (slot bm es c))
    rw [h 32 (Nat.le_refl _), ← hn, List.take_length]
  | array nc cs =>
    have h : ∀ w, (List.range w).flatMap (fun c => optAL (subOf cs[c]?)) =
        (cs.take w).flatMap childAL := by
      intro w
      induction w with
      | zero => simp
      | succ w ih =>
        rw [List.range_succ, List.flatMap_append, ih, List.take_add_one]
        simp only [List.flatMap_cons, List.flatMap_nil, List.append_nil]
        cases cs[w]? with
        | none => simp
        | some o => cases o <;> simp [childAL]
    have hn : cs.length = 32 := hn
    rw [toAList_array]
    show _ = (List.range 32).flatMap (fun c => optAL (subOf cs[c]?))
    rw [h 32, ← hn, List.take_length]
  | collision => exact hn.elim

theorem range_split {c n : Nat} (h : c < n) :
    List.range n = List.range c ++ c :: List.range' (c + 1) (n - c - 1) := by
  have e : n = c + (1 + (n - c - 1)) := by omega
  rw [List.range_eq_range', List.range_eq_range']
  conv => lhs; rw [e, ← List.range'_append_1, ← List.range'_append_1]
  rw [Nat.zero_add]; rfl

/-- the contents of a bitmap or array node around the entry for chunk `c0` -/
theorem toAList_around {c0 : Nat} (hc0 : c0 < 32) : ∃ lo hi : List Nat,
    (∀ c ∈ lo, c < 32 ∧ c ≠ c0) ∧ (∀ c ∈ hi, c < 32 ∧ c ≠ c0) ∧
    ∀ n : Node K V, Framed n → n.toAList =
      lo.flatMap (fun c => optAL (kid n c)) ++ optAL (kid n c0) ++ hi.flatMap (fun c => optAL (kid n c)) := by
  refine ⟨List.range c0, List.range' (c0 + 1) (32 - c0 - 1), fun c hc => ?_, fun c hc => ?_, fun n hn => ?_⟩
  · have := List.mem_range.mp hc; omega
  · have := List.mem_range'_1.mp hc; omega
  · rw [toAList_kid hn, range_split hc0]
    simp only [List.flatMap_append, List.flatMap_cons, List.append_assoc]

theorem mem_toAList_iff {n : Node K V} (hn : Framed n) (e : K × V) :
    e ∈ n.toAList ↔ ∃ c < 32, e ∈ optAL (kid n c) := by
  simp only [toAList_kid hn, List.mem_flatMap, List.mem_range]

def SubWF (eq : K → K → Bool) (hashf : K → UInt32) (d : Nat) (o : Option (Entry K V)) : Prop :=
  ∀ m, o = some (.sub m) → WF eq hashf d m ∧ m.toAList ≠ []

/-- what `WF` asks of the entry for chunk `c` of a node at depth `d` -/
structure GoodKid (eq : K → K → Bool) (hashf : K → UInt32) (d c : Nat) (o : Option (Entry K V)) : Prop where
  wf : SubWF eq hashf (d + 1) o
  chunk : ∀ e ∈ optAL o, chunkN d (hashf e.1) = c

theorem SubWF.none (d : Nat) : SubWF eq hashf d (none : Option (Entry K V)) := fun _ h => nomatch h
theorem SubWF.kv (d : Nat) (k : K) (v : V) : SubWF eq hashf d (some (.kv k v)) := fun _ h => nomatch h

theorem SubWF.sub {d : Nat} {m : Node K V} (h : WF eq hashf d m) (hne : m.toAList ≠ []) :
    SubWF eq hashf d (some (.sub m)) := by
  intro m' hm
  cases hm
  exact ⟨h, hne⟩

theorem GoodKid.none (d c : Nat) : GoodKid eq hashf d c (none : Option (Entry K V)) :=
  ⟨SubWF.none _, fun _ h => nomatch h⟩

theorem WF.goodKid {d : Nat} {n : Node K V} (h : WF eq hashf d n) {c : Nat} (hc : c < 32) :
    GoodKid eq hashf d c (kid n c) := by
  cases h with
  | @bitmap _ bm es hd hlen hkv hsub hkeys =>
    show GoodKid eq hashf d c (slot bm es c)
    cases hs : slot bm es c with
    | none => exact GoodKid.none d c
    | some x =>
      cases x with
      | kv k v => exact ⟨SubWF.kv _ k v, fun e he => by simp at he; subst he; exact hkv c k v hc hs⟩
      | sub m => exact ⟨SubWF.sub (hsub c m hc hs) (hkeys c m hc hs).1, (hkeys c m hc hs).2⟩
  | @array _ nc cs hd hlen hnc hmin hsub hkeys =>
    rw [kid_array]
    cases hs : cs[c]? with
    | none => exact GoodKid.none d c
    | some o =>
      cases o with
      | none => exact GoodKid.none d c
      | some m => exact ⟨SubWF.sub (hsub c m hs) (hkeys c m hs).1, (hkeys c m hs).2⟩
  | collision => exact GoodKid.none d c

theorem wf_bitmap {d : Nat} {bm : UInt32} {es : List (Entry K V)} (hd : d ≤ 6)
    (hlen : es.length = rank bm 32) (h : ∀ c < 32, GoodKid eq hashf d c (slot bm es c)) :
    WF eq hashf d (.bitmap bm es) := by
  refine WF.bitmap hd hlen ?_ ?_ ?_
  · intro c k v hc hs
    exact (h c hc).chunk (k, v) (by simp [hs])
  · intro c m hc hs
    exact ((h c hc).wf m hs).1
  · intro c m hc hs
    exact ⟨((h c hc).wf m hs).2, fun e he => (h c hc).chunk e (by simpa [hs] using he)⟩

theorem wf_array {d : Nat} {nc : Int} {cs : List (Option (Node K V))} (hd : d ≤ 5)
    (hlen : cs.length = 32) (hnc : nc = (cs.countP Option.isSome : Nat)) (hmin : 8 ≤ nc)
    (h : ∀ c < 32, GoodKid eq hashf d c (kid (.array nc cs) c)) : WF eq hashf d (.array nc cs) := by
  have hlt : ∀ {c : Nat} {m : Node K V}, cs[c]? = some (some m) → c < 32 := by
    intro c m hs
    exact hlen ▸ (List.getElem?_eq_some_iff.mp hs).1
  refine WF.array hd hlen hnc hmin ?_ ?_
  · intro c m hs
    exact ((h c (hlt hs)).wf m (kid_array_eq_sub.mpr hs)).1
  · intro c m hs
    have hk := kid_array_eq_sub (nc := nc) |>.mpr hs
    exact ⟨((h c (hlt hs)).wf m hk).2, fun e he => (h c (hlt hs)).chunk e (by simpa [hk] using he)⟩

theorem WF.framed_depth {d : Nat} {n : Node K V} (h : WF eq hashf d n) (hn : Framed n) : d ≤ 6 := by
  cases h with
  | bitmap hd => exact hd
  | array hd => omega
  | collision => exact hn.elim

/-- induction over a well-formed trie, with bitmap and array nodes as one case -/
theorem WF.induction {motive : Nat → Node K V → Prop}
    (framed : ∀ d n, WF eq hashf d n → Framed n →
      (∀ c m, c < 32 → kid n c = some (.sub m) → motive (d + 1) m) → motive d n)
    (collision : ∀ d h kvs, WF eq hashf d (.collision h kvs) → motive d (.collision h kvs))
    {d : Nat} {n : Node K V} (h : WF eq hashf d n) : motive d n := by
  induction h with
  | bitmap hd hlen hkv hsub hkeys ih =>
    exact framed _ _ (.bitmap hd hlen hkv hsub hkeys) hlen ih
  | array hd hlen hnc hmin hsub hkeys ih =>
    exact framed _ _ (.array hd hlen hnc hmin hsub hkeys) hlen
      (fun c m _ hm => ih c m (kid_array_eq_sub.mp hm))
  | collision hne hh hnd => exact collision _ _ _ (.collision hne hh hnd)

theorem find_ok {d : Nat} {n : Node K V} (h : WF eq hashf d n) :
    ∀ (hash : UInt32) (k : K), ∃ r, n.find eq (shiftOf d) hash k = .ok r := by
  refine WF.induction (motive := fun d n => ∀ hash k, ∃ r, n.find eq (shiftOf d) hash k = .ok r)
    ?_ ?_ h
  · intro d n hwf hn ih hash k
    rw [find_kid eq (by have := hwf.framed_depth hn; omega) hn]
    cases hs : kid n (chunkN d hash) with
    | none => exact ⟨_, rfl⟩
    | some x =>
      cases x with
      | kv k0 v0 => exact ⟨_, rfl⟩
      | sub m => exact ih _ m (chunkN_lt d hash) hs hash k
  · intro d h kvs _ hash k
    rw [find_collision]
    exact ⟨_, rfl⟩

theorem toAList_ne_nil_of_kid {d : Nat} {n : Node K V} (h : WF eq hashf d n) (hn : Framed n)
    {c : Nat} (hc : c < 32) {x : Entry K V} (hx : kid n c = some x) : n.toAList ≠ [] := by
  have hne : optAL (kid n c) ≠ [] := by
    rw [hx]
    cases x with
    | kv k v => simp
    | sub m => exact ((h.goodKid hc).wf m hx).2
  obtain ⟨e, he⟩ := List.exists_mem_of_ne_nil _ hne
  exact List.ne_nil_of_mem ((mem_toAList_iff hn e).mpr ⟨c, hc, he⟩)

theorem not_eq_of_chunk_ne (L : Lawful eq hashf) {d : Nat} {a b : K}
    (h : chunkN d (hashf a) ≠ chunkN d (hashf b)) : eq a b = false := by
  cases he : eq a b
  · rfl
  · exact absurd (congrArg (chunkN d) (L.hash a b he)) h

theorem eq_false_symm (L : Lawful eq hashf) {a b : K} (h : eq a b = false) : eq b a = false := by
  cases he : eq b a
  · rfl
  · rw [L.symm b a he] at h; cases h

/-- `bitmapNode{bitpos(shift, hash), [x]}` -/
def one (d : Nat) (hash : UInt32) (x : Entry K V) : Node K V :=
  .bitmap (bitU (chunkN d hash)) [x]

/-- `bitmapNode{bitpos(shift, hash), [{k, v}]}` -/
abbrev single (d : Nat) (hash : UInt32) (k : K) (v : V) : Node K V := one d hash (.kv k v)

theorem hasBit_zero (c : Nat) : hasBit 0 c = false := by
  unfold hasBit; exact Nat.zero_testBit c

theorem rank_zero (c : Nat) : rank 0 c = 0 := by
  unfold rank; exact bcN_zero_right c

theorem framed_empty : Framed (emptyBitmapNode : Node K V) := by
  simp [Framed, emptyBitmapNode, rank_zero]

theorem kid_empty (c : Nat) : kid (emptyBitmapNode : Node K V) c = none :=
  slot_none_of_not_hasBit (hasBit_zero c)

theorem wf_empty (eq : K → K → Bool) (hashf : K → UInt32) :
    WF eq hashf 0 (emptyBitmapNode : Node K V) :=
  wf_bitmap (by omega) framed_empty fun c _ => by
    rw [slot_none_of_not_hasBit (hasBit_zero c)]; exact GoodKid.none 0 c

theorem framed_one (d : Nat) (hash : UInt32) (x : Entry K V) : Framed (one d hash x) := by
  have := rank32_or (bm := 0) (chunkN_lt d hash) (hasBit_zero _)
  simpa [Framed, one, rank_zero] using this.symm

theorem kid_one (d : Nat) (hash : UInt32) (x : Entry K V) (c : Nat) :
    kid (one d hash x) c = if c = chunkN d hash then some x else none := by
  have := slot_insert (bm := 0) (es := ([] : List (Entry K V))) (by simp [rank_zero]) (chunkN_lt d hash)
    (hasBit_zero _) x c
  simp only [rank_zero, List.take_nil, List.drop_nil, List.nil_append, UInt32.zero_or] at this
  rw [one, kid, this]
  simp [slot, hasBit_zero]

@[simp] theorem toAList_one (d : Nat) (hash : UInt32) (x : Entry K V) :
    (one d hash x).toAList = entryAL x := by
  simp [one]

theorem wf_one {d : Nat} (hd : d ≤ 6) {hash : UInt32} {x : Entry K V}
    (hx : GoodKid eq hashf d (chunkN d hash) (some x)) : WF eq hashf d (one d hash x) := by
  refine wf_bitmap hd (framed_one d hash x) ?_
  intro c _
  have := kid_one d hash x c
  simp only [kid, one] at this
  rw [this]
  split
  · next h => rw [h]; exact hx
  · exact GoodKid.none d c

theorem wf_single (d : Nat) (hd : d ≤ 6) (k : K) (v : V) :
    WF eq hashf d (single d (hashf k) k v) :=
  wf_one hd ⟨SubWF.kv _ k v, by simp⟩

theorem assoc_empty (fuel : Nat) (d : Nat) (hd : d ≤ 7) (hash : UInt32) (k : K) (v : V) :
    assoc eq hashf (fuel + 1) emptyBitmapNode (shiftOf d) hash k v = .ok (single d hash k v, true) := by
  have hc := chunkN_lt d hash
  have hi : (Gen.C07Bits.index 0 (bitU (chunkN d hash))).toNat = 0 := by
    rw [index_bitU _ _ hc, rank_zero]
  simp [assoc, emptyBitmapNode, bitpos_eq d hd, nodeCap, insertEntry, one, hi]

end C07
