/-
`bitmapNode.unpack` and `arrayNode.pack`: the conversions between the two kinds
of node, described by the entry the result has for each chunk.
-/
import ElvProofs.C07.Update
namespace C07
open Go Gen.C07Bits

variable {K V : Type} {eq : K → K → Bool} {hashf : K → UInt32}

theorem slot_isSome_eq {α : Type} {bm : UInt32} {es : List α} (hlen : es.length = rank bm 32) {c : Nat}
    (hc : c < 32) : (slot bm es c).isSome = hasBit bm c := by
  cases hb : hasBit bm c
  · rw [slot_none_of_not_hasBit hb]; rfl
  · obtain ⟨e, he, _⟩ := slot_isSome hlen hc hb
    rw [he]; rfl

theorem countP_take_eq_rank (bm : UInt32) (ch : List (Option (Node K V)))
    (h : ∀ c, c < ch.length → (subOf ch[c]?).isSome = hasBit bm c) :
    ∀ w, w ≤ ch.length → (ch.take w).countP Option.isSome = rank bm w := by
  intro w
  induction w with
  | zero => intro _; simp [rank, bcN]
  | succ w ih =>
    intro hw
    have hw' : w < ch.length := by omega
    rw [List.take_add_one, List.countP_append, ih (by omega), rank_succ, ← h w hw']
    rw [List.getElem?_eq_getElem hw']
    cases ch[w] <;> simp

/-- an array node with the entries of a bitmap node and one more, for chunk `c` -/
theorem countP_eq_length_succ {bm : UInt32} {es : List (Entry K V)} (hlen : es.length = rank bm 32)
    {cs : List (Option (Node K V))} (hcs : cs.length = 32) {c : Nat} (hc : c < 32)
    (hb : hasBit bm c = false)
    (h : ∀ c', (subOf cs[c']?).isSome = if c' = c then true else (slot bm es c').isSome) :
    cs.countP Option.isSome = es.length + 1 := by
  have hiso : ∀ c', c' < cs.length → (subOf cs[c']?).isSome = hasBit (bm ||| bitU c) c' := by
    intro c' hc'
    rw [h c', hasBit_or_bitU _ _ _ hc, ← slot_isSome_eq hlen (show c' < 32 by omega)]
    by_cases hcc : c' = c
    · simp [hcc]
    · have : ¬ c = c' := fun e => hcc e.symm
      simp [hcc, this]
  have := countP_take_eq_rank _ cs hiso 32 (by omega)
  rw [List.take_of_length_le (by omega), rank32_or hc hb, ← hlen] at this
  exact this

/-- what `unpack` turns an entry into -/
def conv (hashf : K → UInt32) (d : Nat) : Entry K V → Node K V
  | .kv k v => single (d + 1) (hashf k) k v
  | .sub n => n

theorem Alike.conv {d : Nat} (hd : d + 1 ≤ 6) {x : Entry K V}
    (hx : SubWF eq hashf (d + 1) (some x)) :
    Alike eq hashf (d + 1) (some x) (some (.sub (conv hashf d x))) := by
  cases x with
  | kv k v => exact Alike.single hd k v
  | sub m => exact Alike.refl hx

theorem chunkN_six_lt (h : UInt32) : chunkN 6 h < 4 := by
  have := h.toNat_lt
  unfold chunkN
  rw [Nat.mod_eq_of_lt (by omega)]
  omega

theorem rank_eq_of_no_bits (bm : UInt32) (c c' : Nat) (h : c ≤ c')
    (hno : ∀ i, c ≤ i → i < c' → hasBit bm i = false) : rank bm c' = rank bm c := by
  induction h with
  | refl => rfl
  | @step m hm ih =>
    rw [rank_succ, hno m hm (by omega), ih (fun i h1 h2 => hno i h1 (by omega))]
    simp

/-- a bitmap node at depth 6 has at most 4 entries (the chunk has 2 bits) -/
theorem len_le_of_depth6 {bm : UInt32} {es : List (Entry K V)} (hwf : WF eq hashf 6 (.bitmap bm es)) :
    es.length ≤ 4 := by
  have hlen : es.length = rank bm 32 := by cases hwf; assumption
  have hno : ∀ i, 4 ≤ i → i < 32 → hasBit bm i = false := by
    intro i h4 h32
    cases hb : hasBit bm i
    · rfl
    · obtain ⟨x, hx, _⟩ := slot_isSome hlen h32 hb
      have hg := (hwf.goodKid h32).chunk
      simp only [kid, hx] at hg
      have hne : optAL (some x) ≠ [] := by
        cases x with
        | kv k v => simp
        | sub m => exact ((hwf.goodKid h32).wf m hx).2
      obtain ⟨e, he⟩ := List.exists_mem_of_ne_nil _ hne
      have := hg e he
      have := chunkN_six_lt (hashf e.1)
      omega
  rw [hlen, rank_eq_of_no_bits bm 4 32 (by omega) hno]
  exact bcN_le 4 _

theorem unpackLoop_spec (fuel d : Nat) (hd : d + 1 ≤ 7) (bm : UInt32) (es : List (Entry K V))
    (hlen : es.length = rank bm 32) :
    ∀ (rem i : Nat) (ch : List (Option (Node K V))), i + rem = 32 → ch.length = 32 →
      ∃ ch', unpackLoop (assoc eq hashf (fuel + 1)) hashf bm es (shiftOf d) rem i (rank bm i) ch = .ok ch' ∧
        ch'.length = 32 ∧
        ∀ c, ch'[c]? = if i ≤ c ∧ hasBit bm c = true
          then (es[rank bm c]?).map (fun x => some (conv hashf d x)) else ch[c]? := by
  intro rem
  induction rem with
  | zero =>
    intro i ch hi hl
    refine ⟨ch, rfl, hl, ?_⟩
    intro c
    have : ¬ (i ≤ c ∧ hasBit bm c = true) := by
      rintro ⟨h1, h2⟩
      rw [hasBit_ge bm c (by omega)] at h2; cases h2
    rw [if_neg this]
  | succ rem ih =>
    intro i ch hi hl
    have hi32 : i < 32 := by omega
    rw [unpackLoop]
    simp only [shr_and_one bm i hi32]
    -- the entries for chunks from `i + 1` on are those from `i` on, but for chunk `i`
    have hrest : ∀ c, c ≠ i → ((i + 1 ≤ c ∧ hasBit bm c = true) ↔ (i ≤ c ∧ hasBit bm c = true)) := by
      intro c hc
      constructor <;> rintro ⟨a, b⟩ <;> exact ⟨by omega, b⟩
    cases hb : hasBit bm i
    · simp only [Bool.false_eq_true, if_false]
      have hr : rank bm (i + 1) = rank bm i := by rw [rank_succ, hb]; simp
      obtain ⟨ch', h1, h2, h3⟩ := ih (i + 1) ch (by omega) hl
      rw [hr] at h1
      refine ⟨ch', h1, h2, ?_⟩
      intro c
      rw [h3 c]
      by_cases hc : c = i
      · subst hc; simp [hb]
      · simp only [hrest c hc]
    · simp only [if_true]
      have hr : rank bm (i + 1) = rank bm i + 1 := by rw [rank_succ, hb]; simp
      have hlt := rank_lt_len hlen hi32 hb
      -- whatever the entry, its conversion is stored at `i` and the loop goes on
      have hstep : ∀ x : Entry K V, es[rank bm i] = x →
          ∃ ch', unpackLoop (assoc eq hashf (fuel + 1)) hashf bm es (shiftOf d) rem (i + 1) (rank bm i + 1)
              (ch.set i (some (conv hashf d x))) = .ok ch' ∧ ch'.length = 32 ∧
            ∀ c, ch'[c]? = if i ≤ c ∧ hasBit bm c = true
              then (es[rank bm c]?).map (fun x => some (conv hashf d x)) else ch[c]? := by
        intro x hx
        obtain ⟨ch', h1, h2, h3⟩ := ih (i + 1) (ch.set i (some (conv hashf d x))) (by omega) (by simpa using hl)
        rw [hr] at h1
        refine ⟨ch', h1, h2, ?_⟩
        intro c
        rw [h3 c]
        by_cases hc : c = i
        · subst hc
          have : ¬ (c + 1 ≤ c ∧ hasBit bm c = true) := by omega
          rw [if_neg this, if_pos ⟨Nat.le_refl _, hb⟩, List.getElem?_eq_getElem hlt, hx]
          simp [hl, hi32]
        · simp only [hrest c hc]
          rw [List.getElem?_set_ne (fun e => hc e.symm)]
      rw [List.getElem?_eq_getElem hlt]
      cases hx : es[rank bm i] with
      | sub child => exact hstep _ hx
      | kv k v =>
        simp only [nextShift_shiftOf, assoc_empty fuel (d + 1) hd, ok_bind]
        exact hstep _ hx

theorem unpack_spec (fuel d : Nat) (hd : d + 1 ≤ 7) (bm : UInt32) (es : List (Entry K V))
    (hlen : es.length = rank bm 32) (hash : UInt32) (newChild : Node K V)
    (hb : hasBit bm (chunkN d hash) = false) :
    ∃ ch', unpack (assoc eq hashf (fuel + 1)) hashf bm es (shiftOf d) (chunk (shiftOf d) hash) newChild
        = .ok (.array ((es.length : Int) + 1) ch') ∧ ch'.length = 32 ∧
      ∀ c, subOf ch'[c]? = if c = chunkN d hash then some (.sub newChild)
        else (slot bm es c).map fun x => .sub (conv hashf d x) := by
  have hc0 := chunkN_lt d hash
  obtain ⟨ch', h1, h2, h3⟩ := unpackLoop_spec (eq := eq) (hashf := hashf) fuel d hd bm es hlen 32 0
    ((List.replicate 32 (none : Option (Node K V))).set (chunkN d hash) (some newChild)) rfl (by simp)
  refine ⟨ch', ?_, h2, ?_⟩
  · unfold unpack
    simp only [chunk_toNat d (by omega), nodeCap, -List.reduceReplicate]
    rw [show rank bm 0 = 0 from rfl] at h1
    rw [h1]
    rfl
  · intro c
    rw [h3 c]
    cases hbc : hasBit bm c
    · rw [slot_none_of_not_hasBit hbc, if_neg (by simp), List.getElem?_set]
      by_cases hc : c = chunkN d hash
      · subst hc; simp [hc0]
      · rw [if_neg hc, if_neg (fun e => hc e.symm), List.getElem?_replicate]
        split <;> rfl
    · have hc : c ≠ chunkN d hash := by intro e; rw [e, hb] at hbc; cases hbc
      rw [slot_of_hasBit hbc, if_pos ⟨Nat.zero_le _, rfl⟩, if_neg hc]
      cases es[rank bm c]? <;> rfl

theorem packLoop_spec (skip : Nat) (cs : List (Option (Node K V))) (hlen : cs.length = 32) :
    ∀ n i, i + n = 32 → ∃ bm es, packLoop skip (cs.drop i) i = (bm, es) ∧
      es.length = rank bm 32 ∧ (∀ c', c' < i → hasBit bm c' = false) ∧
      ∀ c', slot bm es c' = if c' < i ∨ c' = skip then none else subOf cs[c']? := by
  intro n
  induction n with
  | zero =>
    intro i hi
    rw [List.drop_eq_nil_of_le (by omega)]
    refine ⟨0, [], rfl, by simp [rank_zero], fun c' _ => hasBit_zero c', fun c' => ?_⟩
    rw [slot_none_of_not_hasBit (hasBit_zero c')]
    split
    · rfl
    · rw [List.getElem?_eq_none (by omega)]; rfl
  | succ n ih =>
    intro i hi
    have hi32 : i < 32 := by omega
    obtain ⟨bm, es, hpl, h1, h2, h3⟩ := ih (i + 1) (by omega)
    rw [List.drop_eq_getElem_cons (by omega), packLoop, hpl]
    -- away from `i`, the rest of the loop has stored what is wanted
    have hrest : ∀ c', c' ≠ i → slot bm es c' = if c' < i ∨ c' = skip then none else subOf cs[c']? := by
      intro c' hc
      have e : (c' < i + 1 ∨ c' = skip) ↔ (c' < i ∨ c' = skip) := by omega
      rw [h3 c']
      simp only [e]
    -- nothing is stored at `i`: a nil child, or the child to skip
    have hnone : subOf cs[i]? = none ∨ i = skip →
        ∀ c', slot bm es c' = if c' < i ∨ c' = skip then none else subOf cs[c']? := by
      intro h c'
      by_cases hc : c' = i
      · subst hc
        rw [h3 c', if_pos (Or.inl (Nat.lt_succ_self _))]
        rcases h with h | h
        · rw [h]; simp
        · simp [h]
      · exact hrest c' hc
    have hci : cs[i]? = some cs[i] := List.getElem?_eq_getElem (by omega)
    cases hch : cs[i] with
    | none => exact ⟨bm, es, rfl, h1, fun c' hc' => h2 c' (by omega), hnone (Or.inl (by rw [hci, hch]; rfl))⟩
    | some child =>
      by_cases hsk : i = skip
      · exact ⟨bm, es, by simp [hsk], h1, fun c' hc' => h2 c' (by omega), hnone (Or.inr hsk)⟩
      · have hbi : hasBit bm i = false := h2 i (by omega)
        have hr0 : rank bm i = 0 := by
          have := rank_eq_of_no_bits bm 0 i (by omega) (fun j _ hj => h2 j (by omega))
          simpa [rank, bcN] using this
        have hins := fun c' => slot_insert (bm := bm) (es := es) h1 hi32 hbi (Entry.sub child) c'
        simp only [hr0, List.take_zero, List.drop_zero, List.nil_append] at hins
        refine ⟨bm ||| bitU i, .sub child :: es, by simp [hsk, one_shl_eq_bitU i hi32], ?_, ?_, ?_⟩
        · rw [rank32_or hi32 hbi, List.length_cons, h1]
        · intro c' hc'
          rw [hasBit_or_bitU _ _ _ hi32, h2 c' (by omega)]
          simp; omega
        · intro c'
          rw [hins c']
          by_cases hc : c' = i
          · subst hc
            simp [hsk, hci, hch]
          · rw [if_neg hc, hrest c' hc]

theorem pack_spec (nc : Int) (cs : List (Option (Node K V))) (c : Nat) (child : Node K V)
    (hlen : cs.length = 32) (hnc : nc = (cs.countP Option.isSome : Nat)) (hc : cs[c]? = some (some child)) :
    ∃ bm' es', pack nc cs c = .ok (.bitmap bm' es') ∧ es'.length = rank bm' 32 ∧
      (es'.length : Int) = nc - 1 ∧
      ∀ c', slot bm' es' c' = if c' = c then none else kid (.array nc cs) c' := by
  obtain ⟨bm', es', hpl, h1, h2, h3⟩ := packLoop_spec c cs hlen 32 0 rfl
  rw [List.drop_zero] at hpl
  simp only [Nat.not_lt_zero, false_or] at h3
  have hc32 : c < 32 := hlen ▸ (List.getElem?_eq_some_iff.mp hc).1
  have hbc : hasBit bm' c = false := by
    rw [← slot_isSome_eq h1 hc32, h3 c, if_pos rfl]; rfl
  have hcount : cs.countP Option.isSome = es'.length + 1 := by
    refine countP_eq_length_succ h1 hlen hc32 hbc fun c' => ?_
    by_cases hcc : c' = c
    · rw [hcc, hc]; simp
    · rw [h3 c', if_neg hcc, if_neg hcc]
  have e1 : (es'.length : Int) = nc - 1 := by rw [hnc, hcount]; simp
  refine ⟨bm', es', ?_, h1, e1, h3⟩
  unfold pack
  have hl : (cs.length != nodeCap) = false := by simp [hlen, nodeCap]
  have : ¬ (nc - 1 < 0) := by omega
  simp only [hl, Bool.false_eq_true, if_false, hpl, this, e1]
  simp

end C07
