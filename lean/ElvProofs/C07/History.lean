/-
The vocabulary of the property theorems: operation histories on `hashMap` and the reference
dictionary (an association list without duplicate keys) they are compared with.  Then the
refinement: an operation on a well-formed map succeeds and does to the contents `toAList`, up
to order, what the reference operation does (`applyOp_refines_reference`; for histories
`runOps_refines_reference`).  `Index` is lookup in the contents and `Len` their length
(`index_eq_refLookup`, `WFMap.count`), so what the API shows of an operation follows from
facts about lists (`index_len_of_bind`).
-/
import ElvProofs.C07.Assoc
import ElvProofs.C07.Without
namespace C07
open Go Gen.C07Bits List

variable {K V : Type}

/-- `eq` lifted to map keys (`none` = the nil key). -/
def keq (eq : K → K → Bool) : Option K → Option K → Bool
  | none, none => true
  | some a, some b => eq a b
  | _, _ => false

/-- Representation invariant of `hashMap`. -/
structure WFMap (eq : K → K → Bool) (hashf : K → UInt32) (m : HashMap K V) : Prop where
  root : WF eq hashf 0 m.root
  count : m.count = (m.toAList.length : Int)

theorem mem_toAList_some (m : HashMap K V) (k : K) (v : V) :
    (some k, v) ∈ m.toAList ↔ (k, v) ∈ m.root.toAList := by
  cases h : m.nilV <;> simp [HashMap.toAList, h]

theorem mem_toAList_none (m : HashMap K V) (v : V) : (none, v) ∈ m.toAList ↔ m.nilV = some v := by
  cases h : m.nilV <;> simp [HashMap.toAList, h, eq_comm]

/-- `need 0 n ≤ 2 * 7 + 2`: enough recursion budget for `Assoc` on any well-formed map -/
def assocFuel : Nat := 16

/-- the mutating operations of the `Map` API -/
inductive Op (K V : Type) where
  | assoc (k : Option K) (v : V)
  | dissoc (k : Option K)

def applyOp (eq : K → K → Bool) (hashf : K → UInt32) (m : HashMap K V) : Op K V → Res (HashMap K V)
  | .assoc k v => m.assoc eq hashf assocFuel k v
  | .dissoc k => m.dissoc eq hashf k

def runOps (eq : K → K → Bool) (hashf : K → UInt32) : List (Op K V) → HashMap K V → Res (HashMap K V)
  | [], m => .ok m
  | op :: ops, m => applyOp eq hashf m op >>= runOps eq hashf ops

/-- the reference dictionary: an association list, newest binding first, old
bindings of an equal key removed -/
def refApply (eq : K → K → Bool) (r : List (Option K × V)) : Op K V → List (Option K × V)
  | .assoc k v => (k, v) :: r.filter (fun e => !keq eq e.1 k)
  | .dissoc k => r.filter (fun e => !keq eq e.1 k)

def refRun (eq : K → K → Bool) : List (Op K V) → List (Option K × V) → List (Option K × V)
  | [], r => r
  | op :: ops, r => refRun eq ops (refApply eq r op)

def refLookup (eq : K → K → Bool) (r : List (Option K × V)) (k : Option K) : Option V :=
  (r.find? (fun e => keq eq e.1 k)).map (·.2)

section
variable {eq : K → K → Bool} {hashf : K → UInt32}

theorem keq_refl (L : Lawful eq hashf) (a : Option K) : keq eq a a = true := by
  cases a <;> simp [keq, L.refl]

theorem keq_symm (L : Lawful eq hashf) {a b : Option K} (h : keq eq a b = true) : keq eq b a = true := by
  cases a <;> cases b <;> simp_all [keq]
  exact L.symm _ _ h

theorem keq_trans (L : Lawful eq hashf) {a b c : Option K} (h1 : keq eq a b = true) (h2 : keq eq b c = true) :
    keq eq a c = true := by
  cases a <;> cases b <;> cases c <;> simp_all [keq]
  exact L.trans _ _ _ h1 h2

theorem keq_equiv (L : Lawful eq hashf) : EqEquiv (keq eq) :=
  ⟨keq_refl L, fun _ _ => keq_symm L, fun _ _ _ => keq_trans L⟩

/-- the key an operation binds -/
def Op.key : Op K V → Option K
  | .assoc k _ => k
  | .dissoc k => k

/-- what it binds the key to -/
def Op.val : Op K V → Option V
  | .assoc _ v => some v
  | .dissoc _ => none

theorem refApply_eq_bindL (r : List (Option K × V)) (op : Op K V) :
    refApply eq r op = bindL (keq eq) op.key op.val r := by
  cases op <;> rfl

theorem nodup_toAList_map (L : Lawful eq hashf) {m : HashMap K V} (hm : WFMap eq hashf m) :
    NoDupKeys (keq eq) m.toAList := by
  unfold HashMap.toAList NoDupKeys
  rw [List.pairwise_append]
  refine ⟨by cases m.nilV <;> simp, (List.pairwise_map).mpr (nodup_toAList L hm.root), ?_⟩
  intro a ha b hb
  obtain ⟨e, _, rfl⟩ := List.mem_map.mp hb
  cases hn : m.nilV <;> simp [hn] at ha
  subst ha
  rfl

/-- `Index` is lookup in the contents -/
theorem index_eq_refLookup (L : Lawful eq hashf) {m : HashMap K V} (hm : WFMap eq hashf m) (k : Option K) :
    m.index eq hashf k = .ok (refLookup eq m.toAList k) := by
  cases k with
  | none =>
    have : m.root.toAList.find? (fun _ => false) = none := List.find?_eq_none.mpr (by simp)
    cases h : m.nilV <;>
      simp [HashMap.index, HashMap.toAList, refLookup, h, keq, List.find?_map, Function.comp_def, this]
  | some k =>
    rw [HashMap.index, show (0 : UInt32) = shiftOf 0 from rfl, find_eq_lookup L hm.root]
    cases h : m.nilV <;>
      simp [HashMap.toAList, refLookup, lookup, h, keq, List.find?_map, Function.comp_def]

/-- an update of the trie is the same update of the contents of the map -/
theorem toAList_bind_perm {m : HashMap K V} {k : K} {nv : Option V} {n' : Node K V} {ch : Bool} (c : Int)
    (h : Bind eq k nv m.root.toAList n'.toAList ch) :
    (⟨c, n', m.nilV⟩ : HashMap K V).toAList ~ bindL (keq eq) (some k) nv m.toAList := by
  have hp : n'.toAList.map (fun e : K × V => (some e.1, e.2)) ~
      nv.toList.map (Prod.mk (some k)) ++
        (m.root.toAList.map (fun e : K × V => (some e.1, e.2))).filter (fun e => !keq eq e.1 (some k)) := by
    simpa [bindL, List.filter_map, Function.comp_def, keq] using
      h.perm.map (fun e : K × V => (some e.1, e.2))
  simp only [HashMap.toAList, bindL, List.filter_append]
  cases hn : m.nilV with
  | none => simpa using hp
  | some w => simpa [keq] using (hp.cons (none, w)).trans List.perm_middle.symm

theorem wfmap_of_bind (L : Lawful eq hashf) {m : HashMap K V} (hm : WFMap eq hashf m) {n' : Node K V}
    (hwf : WF eq hashf 0 n') {k : K} {nv : Option V} {ch : Bool}
    (h : Bind eq k nv m.root.toAList n'.toAList ch) {c : Int}
    (hc : c = m.count + (if ch then (if nv.isSome then 1 else -1) else 0)) :
    WFMap eq hashf ⟨c, n', m.nilV⟩ := by
  refine ⟨hwf, ?_⟩
  have hl := h.length L.equiv (nodup_toAList L hm.root)
  have := hm.count
  simp only [HashMap.toAList, List.length_append, List.length_map] at this ⊢
  omega

/-- On a well-formed map `Assoc(k, v)` succeeds (no panic; the recursion budget `assocFuel`
suffices, i.e. collision handling terminates), the result is well-formed, and its contents are
those of the reference operation on the contents before, up to order. -/
theorem assoc_refines_reference (L : Lawful eq hashf) {m : HashMap K V} (hm : WFMap eq hashf m)
    (fuel : Nat) (hfuel : assocFuel ≤ fuel) (k : Option K) (v : V) :
    ∃ m', m.assoc eq hashf fuel k v = .ok m' ∧ WFMap eq hashf m' ∧
      m'.toAList ~ refApply eq m.toAList (.assoc k v) := by
  cases k with
  | none =>
    refine ⟨⟨if m.nilV.isNone then m.count + 1 else m.count, m.root, some v⟩, rfl, ⟨hm.root, ?_⟩, ?_⟩
    · have := hm.count
      simp only [HashMap.toAList] at this ⊢
      cases h : m.nilV <;> simp [h] at this ⊢ <;> (try omega)
    · have hall : m.root.toAList.filter (fun _ => true) = m.root.toAList :=
        List.filter_eq_self.mpr fun _ _ => rfl
      cases h : m.nilV <;>
        simp [HashMap.toAList, refApply, h, keq, List.filter_map, Function.comp_def, hall]
  | some k =>
    have hfu : need 0 m.root ≤ fuel := by
      have := need_le 0 m.root
      unfold assocFuel at hfuel
      omega
    obtain ⟨n', added, hassoc, hw, hb⟩ := assoc_spec L fuel 0 m.root k v (by omega) hfu hm.root
      (by intro e _ j hj; omega)
    exact ⟨⟨if added then m.count + 1 else m.count, n', m.nilV⟩,
      by simp [HashMap.assoc, show (0 : UInt32) = shiftOf 0 from rfl, hassoc],
      wfmap_of_bind L hm (hw n' rfl).1 hb (by cases added <;> simp), toAList_bind_perm _ hb⟩

/-- On a well-formed map `Dissoc(k)` succeeds (no panic; in particular `pack` leaves no
zero-valued entry), the result is well-formed (so array nodes are packed back into bitmap nodes
and emptied children removed), and its contents are those of the reference operation on the
contents before, up to order. -/
theorem dissoc_refines_reference (L : Lawful eq hashf) {m : HashMap K V} (hm : WFMap eq hashf m)
    (k : Option K) :
    ∃ m', m.dissoc eq hashf k = .ok m' ∧ WFMap eq hashf m' ∧
      m'.toAList ~ refApply eq m.toAList (.dissoc k) := by
  cases k with
  | none =>
    refine ⟨⟨if m.nilV.isSome then m.count - 1 else m.count, m.root, none⟩, rfl, ⟨hm.root, ?_⟩, ?_⟩
    · have := hm.count
      simp only [HashMap.toAList] at this ⊢
      cases h : m.nilV <;> simp [h] at this ⊢ <;> omega
    · have hall : m.root.toAList.filter (fun _ => true) = m.root.toAList :=
        List.filter_eq_self.mpr fun _ _ => rfl
      cases h : m.nilV <;>
        simp [HashMap.toAList, refApply, h, keq, List.filter_map, Function.comp_def, hall]
  | some k =>
    obtain ⟨r, del, hw, post⟩ := without_spec L hm.root k
    have hw0 : m.root.without eq 0 (hashf k) k = .ok (r, del) := hw
    -- the new root, whichever of the three pointers `without` returned
    obtain ⟨n', hdis, hwf', hal⟩ : ∃ n',
        m.dissoc eq hashf (some k) = .ok ⟨if del then m.count - 1 else m.count, n', m.nilV⟩ ∧
        WF eq hashf 0 n' ∧ n'.toAList = optAL (r.kid m.root) := by
      cases r with
      | same => exact ⟨_, by simp [HashMap.dissoc, hw0], hm.root, rfl⟩
      | emptyPtr =>
        exact ⟨_, by simp [HashMap.dissoc, hw0], wf_empty eq hashf, by simp [emptyBitmapNode, WRes.kid]⟩
      | fresh n => exact ⟨_, by simp [HashMap.dissoc, hw0], (post.wf n rfl).1, rfl⟩
    have hb : Bind eq k none m.root.toAList n'.toAList del := hal ▸ post.upd
    exact ⟨_, hdis, wfmap_of_bind L hm hwf' hb (by cases del <;> simp <;> omega), toAList_bind_perm _ hb⟩

theorem applyOp_refines_reference (L : Lawful eq hashf) {m : HashMap K V} (hm : WFMap eq hashf m)
    (op : Op K V) :
    ∃ m', applyOp eq hashf m op = .ok m' ∧ WFMap eq hashf m' ∧ m'.toAList ~ refApply eq m.toAList op := by
  cases op with
  | assoc k v => exact assoc_refines_reference L hm assocFuel (Nat.le_refl _) k v
  | dissoc k => exact dissoc_refines_reference L hm k

theorem refRun_perm {X Y : List (Option K × V)} (h : X ~ Y) (ops : List (Op K V)) :
    refRun eq ops X ~ refRun eq ops Y := by
  induction ops generalizing X Y with
  | nil => exact h
  | cons op ops ih =>
    apply ih
    rw [refApply_eq_bindL, refApply_eq_bindL]
    exact bindL_perm h _ _

/-- Every history of operations on a well-formed map succeeds and leaves a well-formed map
whose contents are those of the reference dictionary run on the same history, up to order. -/
theorem runOps_refines_reference (L : Lawful eq hashf) (ops : List (Op K V)) {m : HashMap K V}
    (hm : WFMap eq hashf m) :
    ∃ m', runOps eq hashf ops m = .ok m' ∧ WFMap eq hashf m' ∧ m'.toAList ~ refRun eq ops m.toAList := by
  induction ops generalizing m with
  | nil => exact ⟨m, rfl, hm, .refl _⟩
  | cons op ops ih =>
    obtain ⟨m1, h1, hw1, hp1⟩ := applyOp_refines_reference L hm op
    obtain ⟨m2, h2, hw2, hp2⟩ := ih hw1
    exact ⟨m2, by simp [runOps, h1, h2], hw2, hp2.trans (refRun_perm hp1 ops)⟩

/-- what `Index` and `Len` see of an update of the contents -/
theorem index_len_of_bind (L : Lawful eq hashf) {m m' : HashMap K V} (hm : WFMap eq hashf m)
    (hm' : WFMap eq hashf m') {k : Option K} {nv : Option V}
    (hp : m'.toAList ~ bindL (keq eq) k nv m.toAList) :
    (∀ k' old, m.index eq hashf k' = .ok old →
        m'.index eq hashf k' = .ok (if keq eq k k' then nv else old)) ∧
      ∀ old, m.index eq hashf k = .ok old →
        m'.len + (if old.isSome then 1 else 0) = m.len + (if nv.isSome then 1 else 0) := by
  constructor
  · intro k' old hold
    rw [index_eq_refLookup L hm] at hold
    cases hold
    rw [index_eq_refLookup L hm']
    exact congrArg _ ((lookup_perm (keq_equiv L) hp (nodup_toAList_map L hm') k').symm.trans
      (lookup_bindL (keq_equiv L) m.toAList k nv k'))
  · intro old hold
    rw [index_eq_refLookup L hm] at hold
    cases hold
    have hl : (bindL (keq eq) k nv m.toAList).length + (if (refLookup eq m.toAList k).isSome then 1 else 0) =
        m.toAList.length + (if nv.isSome then 1 else 0) :=
      length_bindL (keq_equiv L) k nv (nodup_toAList_map L hm)
    have h1 := hm.count
    have h2 := hm'.count
    rw [← hp.length_eq] at hl
    simp only [HashMap.len]
    cases hs : (refLookup eq m.toAList k).isSome <;> cases hn : nv.isSome <;> simp [hs, hn] at hl ⊢ <;> omega

end

structure Sim (eq : K → K → Bool) (hashf : K → UInt32) (m : HashMap K V) (r : List (Option K × V)) : Prop where
  wf : WFMap eq hashf m
  index : ∀ k, m.index eq hashf k = .ok (refLookup eq r k)
  len : m.len = (r.length : Int)
  nodup : NoDupKeys (keq eq) r

end C07
