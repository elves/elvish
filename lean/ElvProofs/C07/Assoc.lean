/-
`node.assoc` on a well-formed node succeeds and binds `k` to `v` (`assoc_spec`), by induction
on the recursion budget.
-/
import ElvProofs.C07.Collision
import ElvProofs.C07.Repack
namespace C07
open Go Gen.C07Bits

variable {K V : Type} {eq : K → K → Bool} {hashf : K → UInt32}

theorem assoc_bitmap (fuel d : Nat) (hd : d ≤ 7) (bm : UInt32) (es : List (Entry K V)) (hash : UInt32)
    (k : K) (v : V) :
    assoc eq hashf (fuel + 1) (.bitmap bm es) (shiftOf d) hash k v =
      (if hasBit bm (chunkN d hash) then
        match es[rank bm (chunkN d hash)]? with
        | none => .panic "index out of range"
        | some (.sub child) => do
          let (newChild, added) ← assoc eq hashf fuel child (shiftOf (d + 1)) hash k v
          let es' ← replaceEntry es (rank bm (chunkN d hash)) (.sub newChild)
          pure (.bitmap bm es', added)
        | some (.kv k0 v0) =>
          if eq k k0 then do
            let es' ← replaceEntry es (rank bm (chunkN d hash)) (.kv k v)
            pure (.bitmap bm es', false)
          else do
            let newNode ← createNode (assoc eq hashf fuel) hashf (shiftOf (d + 1)) k0 v0 hash k v
            let es' ← replaceEntry es (rank bm (chunkN d hash)) (.sub newNode)
            pure (.bitmap bm es', true)
      else if 16 ≤ es.length then do
        let (newNode, _) ← assoc eq hashf fuel emptyBitmapNode (shiftOf (d + 1)) hash k v
        let a ← unpack (assoc eq hashf fuel) hashf bm es (shiftOf d) (chunk (shiftOf d) hash) newNode
        pure (a, true)
      else do
        let newEntries ← insertEntry es (rank bm (chunkN d hash)) (.kv k v)
        pure (.bitmap (bm ||| bitU (chunkN d hash)) newEntries, true)) := by
  have hc := chunkN_lt d hash
  rw [assoc]
  simp only [bitpos_eq d hd, and_bitU_eq_zero _ _ hc, index_bitU _ _ hc, nextShift_shiftOf, nodeCap]
  cases hasBit bm (chunkN d hash) <;> rfl

theorem assoc_array (fuel d : Nat) (hd : d ≤ 7) (nc : Int) (cs : List (Option (Node K V))) (hash : UInt32)
    (k : K) (v : V) :
    assoc eq hashf (fuel + 1) (.array nc cs) (shiftOf d) hash k v =
      (match cs[chunkN d hash]? with
      | none => outside "arrayNode.children shorter than 32"
      | some none => do
        let (newChild, _) ← assoc eq hashf fuel emptyBitmapNode (shiftOf (d + 1)) hash k v
        pure (.array (nc + 1) (cs.set (chunkN d hash) (some newChild)), true)
      | some (some child) => do
        let (newChild, added) ← assoc eq hashf fuel child (shiftOf (d + 1)) hash k v
        pure (.array (nc + 0) (cs.set (chunkN d hash) (some newChild)), added)) := by
  rw [assoc]
  simp only [chunk_toNat d hd, nextShift_shiftOf]
  rfl

theorem assoc_collision (fuel d : Nat) (hd : d ≤ 7) (h : UInt32) (kvs : List (K × V)) (hash : UInt32)
    (k : K) (v : V) :
    assoc eq hashf (fuel + 1) (.collision h kvs) (shiftOf d) hash k v =
      if hash == h then
        match findIndex eq k kvs with
        | some i => do
          let es ← replaceEntry kvs i (k, v)
          pure (.collision h es, false)
        | none => .ok (.collision h (kvs ++ [(k, v)]), true)
      else assoc eq hashf fuel (one d h (.sub (.collision h kvs))) (shiftOf d) hash k v := by
  rw [assoc, bitpos_eq d hd]
  rfl

/- Termination of `assoc`.  The keys below a node at depth `d` share their first `d` chunks
with the inserted hash (`AgreeBelow`; one more chunk per level, `agree_kid`), so at depth 7
their hashes equal it (`eq_of_chunkN_eq`) and no further split happens.  Each of the `7 - d`
levels below costs at most two calls: one on the child, and, when the child is a collision
node of another hash, one more on the bitmap node it is wrapped in at the same depth; hence
`2 * (7 - d)`, plus one for the call on the node itself. -/
def AgreeBelow (hashf : K → UInt32) (d : Nat) (n : Node K V) (hash : UInt32) : Prop :=
  ∀ e ∈ n.toAList, ∀ j < d, chunkN j (hashf e.1) = chunkN j hash

/-- recursion budget `assoc` needs on a node at depth `d` -/
def need (d : Nat) : Node K V → Nat
  | .collision _ _ => 2 * (7 - d) + 2
  | _ => 2 * (7 - d) + 1

theorem need_le (d : Nat) (n : Node K V) : need d n ≤ 2 * (7 - d) + 2 := by
  cases n <;> simp [need]

/-- what `n.assoc(shift, hash(k), k, v)` returning `(n', added)` guarantees -/
def Post (eq : K → K → Bool) (hashf : K → UInt32) (d : Nat) (n : Node K V) (k : K) (v : V)
    (n' : Node K V) (added : Bool) : Prop :=
  SubWF eq hashf d (some (.sub n')) ∧ Bind eq k (some v) n.toAList n'.toAList added

/-- `assoc_spec` for one budget: the induction hypothesis handed to the per-node lemmas -/
def IH (eq : K → K → Bool) (hashf : K → UInt32) (fuel : Nat) : Prop :=
  ∀ (d : Nat) (n : Node K V) (k : K) (v : V), d ≤ 7 → need d n ≤ fuel → WF eq hashf d n →
    AgreeBelow hashf d n (hashf k) →
    ∃ n' added, assoc eq hashf fuel n (shiftOf d) (hashf k) k v = .ok (n', added) ∧
      Post eq hashf d n k v n' added

theorem agree_kid {d : Nat} {n : Node K V} (hwf : WF eq hashf d n) (hn : Framed n) {hash : UInt32}
    (hag : AgreeBelow hashf d n hash) :
    ∀ e ∈ optAL (kid n (chunkN d hash)), ∀ j < d + 1, chunkN j (hashf e.1) = chunkN j hash := by
  intro e he j hj
  have hc := chunkN_lt d hash
  rcases Nat.lt_or_ge j d with h | h
  · exact hag e ((mem_toAList_iff hn e).mpr ⟨_, hc, he⟩) j h
  · obtain rfl : j = d := by omega
    exact (hwf.goodKid hc).chunk e he

theorem createNode_spec (L : Lawful eq hashf) (fuel d : Nat) (ih : IH (V := V) eq hashf fuel) (hd : d ≤ 7)
    (k0 : K) (v0 : V) (k : K) (v : V) (hne : eq k k0 = false)
    (hagree : ∀ j < d, chunkN j (hashf k0) = chunkN j (hashf k))
    (hfuel : 2 * (7 - d) + 1 ≤ fuel) :
    ∃ m, createNode (assoc eq hashf fuel) hashf (shiftOf d) k0 v0 (hashf k) k v = .ok m ∧
      SubWF eq hashf d (some (.sub m)) ∧ Bind eq k (some v) [(k0, v0)] m.toAList true := by
  unfold createNode
  by_cases hh : (hashf k0 == hashf k) = true
  · -- the same hash: a collision node
    have hheq : hashf k = hashf k0 := (beq_iff_eq.mp hh).symm
    have hA : ∀ e ∈ [(k0, v0)], eq e.1 k = false := by simp [eq_false_symm L hne]
    have hB : ∀ e ∈ ([] : List (K × V)), eq e.1 k = false := by simp
    have h1 : WF eq hashf d (.collision (hashf k0) ([(k0, v0)] ++ [] ++ [])) :=
      WF.collision (by simp) (by simp) (by simp)
    have hb := Bind.splice hA hB (Bind.mid (mid := []) (by simp) (some v))
    exact ⟨.collision (hashf k0) [(k0, v0), (k, v)], by rw [if_pos hh],
      wf_splice L d h1 hA hB hheq (some v) (by simp), by simpa using hb⟩
  · -- different hashes: both keys go into a fresh bitmap node, one level down if need be
    have hd6 : d ≤ 6 := by
      rcases Nat.lt_or_ge d 7 with h | h
      · omega
      · exfalso
        obtain rfl : d = 7 := by omega
        exact hh (by simp [eq_of_chunkN_eq _ _ (fun j hj => hagree j (by omega))])
    obtain ⟨f, rfl⟩ : ∃ f, fuel = f + 1 := ⟨fuel - 1, by omega⟩
    obtain ⟨n', added, hassoc, hw, hb⟩ := ih d (single d (hashf k0) k0 v0) k v hd
      (by simpa [need, single, one] using hfuel) (wf_single d hd6 k0 v0)
      (by intro e he j hj; simp [entryAL] at he; subst he; exact hagree j hj)
    rw [toAList_one] at hb
    have hadd : added = true := by
      simpa [entryAL, eq_false_symm L hne] using hb.changed
    subst hadd
    refine ⟨n', ?_, hw, hb⟩
    simp only [hh, if_false, Bool.false_eq_true]
    rw [assoc_empty f d hd]
    simp only [ok_bind]
    rw [hassoc]
    rfl

theorem assoc_bitmap_insert (L : Lawful eq hashf) (fuel d : Nat) (bm : UInt32) (es : List (Entry K V))
    (k : K) (v : V) (hwf : WF eq hashf d (.bitmap bm es))
    (hb : hasBit bm (chunkN d (hashf k)) = false) (hlt : es.length < 16) :
    ∃ n' added, assoc eq hashf (fuel + 1) (.bitmap bm es) (shiftOf d) (hashf k) k v = .ok (n', added) ∧
      Post eq hashf d (.bitmap bm es) k v n' added := by
  have hwf' := hwf
  cases hwf with
  | bitmap hd hlen hkv hsub hkeys =>
  have hc := chunkN_lt d (hashf k)
  have hr : rank bm (chunkN d (hashf k)) ≤ es.length := by rw [hlen]; exact rank_mono bm (by omega)
  have hlen' : (es.take (rank bm (chunkN d (hashf k))) ++ Entry.kv k v :: es.drop (rank bm (chunkN d (hashf k)))).length
      = rank (bm ||| bitU (chunkN d (hashf k))) 32 := by
    rw [length_insert _ _ _ hr, rank32_or hc hb, hlen]
  have hkid := fun c => slot_insert hlen hc hb (Entry.kv k v) c
  refine ⟨.bitmap (bm ||| bitU (chunkN d (hashf k)))
    (es.take (rank bm (chunkN d (hashf k))) ++ .kv k v :: es.drop (rank bm (chunkN d (hashf k)))), true, ?_, ?_⟩
  · rw [assoc_bitmap _ _ (by omega)]
    simp [hb, insertEntry, hr, Nat.not_le.mpr hlt]
  · exact Bind.frame_set (n' := .bitmap _ _) L hwf' hlen hlen' (wf_bitmap hd hlen')
      (slot_none_of_not_hasBit hb) hkid (SubWF.kv _ _ _) (Bind.mid (mid := []) (by simp) (some v))
      ⟨_, hc, _, by rw [kid, hkid, if_pos rfl]⟩

theorem assoc_bitmap_present (L : Lawful eq hashf) (fuel d : Nat) (ih : IH (V := V) eq hashf fuel)
    (bm : UInt32) (es : List (Entry K V))
    (k : K) (v : V) (hwf : WF eq hashf d (.bitmap bm es))
    (hag : AgreeBelow hashf d (.bitmap bm es) (hashf k))
    (hfuel : 2 * (7 - d) + 1 ≤ fuel + 1)
    (hb : hasBit bm (chunkN d (hashf k)) = true) :
    ∃ n' added, assoc eq hashf (fuel + 1) (.bitmap bm es) (shiftOf d) (hashf k) k v = .ok (n', added) ∧
      Post eq hashf d (.bitmap bm es) k v n' added := by
  have hd : d ≤ 6 := hwf.framed_depth (by cases hwf; assumption)
  have hlen : es.length = rank bm 32 := by cases hwf; assumption
  have hc := chunkN_lt d (hashf k)
  have hr := rank_lt_len hlen hc hb
  obtain ⟨x, hx, hxi⟩ := slot_isSome hlen hc hb
  have hgood := hwf.goodKid hc
  have hcag := agree_kid hwf hlen hag
  rw [assoc_bitmap _ _ (by omega), if_pos hb, hxi]
  simp only [kid, hx] at hgood hcag
  cases x with
  | sub child =>
    obtain ⟨hcw, -⟩ := hgood.wf child rfl
    obtain ⟨child', added, hassoc, hw, hu⟩ := ih (d + 1) child k v (by omega)
      (by have := need_le (d + 1) child; omega) hcw hcag
    exact ⟨_, added, by simp [hassoc, replaceEntry, hr], Bind.bitmap_set L hwf hx hw hu⟩
  | kv k0 v0 =>
    by_cases he : eq k k0 = true
    · exact ⟨_, false, by simp [he, replaceEntry, hr],
        Bind.bitmap_set L hwf hx (SubWF.kv _ _ _)
          (Bind.mid (mid := [(k0, v0)]) (by simpa using L.symm _ _ he) (some v))⟩
    · simp only [Bool.not_eq_true] at he
      obtain ⟨m, hcreate, hw, hu⟩ := createNode_spec L fuel (d + 1) ih (by omega) k0 v0 k v he
        (fun j hj => hcag (k0, v0) (by simp) j hj) (by omega)
      exact ⟨_, true, by simp [he, hcreate, replaceEntry, hr], Bind.bitmap_set L hwf hx hw hu⟩

theorem assoc_bitmap_unpack (L : Lawful eq hashf) (f d : Nat) (bm : UInt32) (es : List (Entry K V))
    (k : K) (v : V) (hwf : WF eq hashf d (.bitmap bm es))
    (hb : hasBit bm (chunkN d (hashf k)) = false) (hge : 16 ≤ es.length) :
    ∃ n' added, assoc eq hashf (f + 2) (.bitmap bm es) (shiftOf d) (hashf k) k v = .ok (n', added) ∧
      Post eq hashf d (.bitmap bm es) k v n' added := by
  have hlen : es.length = rank bm 32 := by cases hwf; assumption
  have hd5 : d ≤ 5 := by
    have hd : d ≤ 6 := hwf.framed_depth hlen
    rcases Nat.lt_or_ge d 6 with h | h
    · omega
    · obtain rfl : d = 6 := by omega
      have := len_le_of_depth6 hwf
      omega
  have hc := chunkN_lt d (hashf k)
  obtain ⟨ch', hun, hl, hP⟩ := unpack_spec (eq := eq) (hashf := hashf) f d (by omega) bm es hlen (hashf k)
    (single (d + 1) (hashf k) k v) hb
  have hkid : ∀ c, kid (.array ((es.length : Int) + 1) ch') c =
      if c = chunkN d (hashf k) then some (.sub (single (d + 1) (hashf k) k v))
      else (slot bm es c).map fun x => .sub (conv hashf d x) := fun c => by rw [kid_array, hP]
  have hnc : (es.length : Int) + 1 = (ch'.countP Option.isSome : Nat) := by
    rw [countP_eq_length_succ hlen hl hc hb fun c => by rw [hP c]; split <;> simp]
    simp
  have hsw : SubWF eq hashf (d + 1) (some (.sub (single (d + 1) (hashf k) k v))) :=
    (Alike.single (by omega) k v).wf
  refine ⟨.array ((es.length : Int) + 1) ch', true, ?_, ?_⟩
  · rw [assoc_bitmap _ _ (by omega)]
    simp [hb, hge, assoc_empty f (d + 1) (by omega), hun]
  · refine Bind.frame_wf (n' := .array ((es.length : Int) + 1) ch') L hwf hlen hl (wf_array hd5 hl hnc (by omega)) ?_ ?_ ?_
      ⟨_, hc, _, by rw [hkid, if_pos rfl]⟩
    · intro c hc32 hne
      rw [hkid, if_neg hne]
      show Alike eq hashf (d + 1) (slot bm es c) _
      cases hs : slot bm es c with
      | none => exact Alike.refl (SubWF.none _)
      | some x => exact Alike.conv (by omega) (hs ▸ (hwf.goodKid hc32).wf)
    · rw [hkid, if_pos rfl]; exact hsw
    · rw [hkid, if_pos rfl]
      show Bind eq k (some v) (optAL (slot bm es _)) _ true
      rw [slot_none_of_not_hasBit hb]
      simpa [entryAL] using Bind.mid (r := eq) (k := k) (mid := []) (by simp) (some v)

theorem assoc_array_spec (L : Lawful eq hashf) (fuel d : Nat) (ih : IH (V := V) eq hashf fuel)
    (nc : Int) (cs : List (Option (Node K V)))
    (k : K) (v : V) (hwf : WF eq hashf d (.array nc cs))
    (hag : AgreeBelow hashf d (.array nc cs) (hashf k))
    (hfuel : 2 * (7 - d) + 1 ≤ fuel + 1) :
    ∃ n' added, assoc eq hashf (fuel + 1) (.array nc cs) (shiftOf d) (hashf k) k v = .ok (n', added) ∧
      Post eq hashf d (.array nc cs) k v n' added := by
  have hd : d ≤ 5 := by cases hwf; assumption
  have hlen : cs.length = 32 := by cases hwf; assumption
  have hmin : 8 ≤ nc := by cases hwf; assumption
  have hc := chunkN_lt d (hashf k)
  have hcl : chunkN d (hashf k) < cs.length := by omega
  obtain ⟨x, hx⟩ : ∃ x, cs[chunkN d (hashf k)]? = some x := ⟨_, List.getElem?_eq_getElem hcl⟩
  have hgood := hwf.goodKid hc
  have hcag := agree_kid hwf hlen hag
  rw [assoc_array _ _ (by omega), hx]
  rw [kid_array, hx] at hgood hcag
  cases x with
  | none =>
    obtain ⟨f, rfl⟩ : ∃ f, fuel = f + 1 := ⟨fuel - 1, by omega⟩
    have hsw : SubWF eq hashf (d + 1) (some (.sub (single (d + 1) (hashf k) k v))) :=
    (Alike.single (by omega) k v).wf
    exact ⟨_, true, by simp [assoc_empty f (d + 1) (by omega)],
      Bind.array_set (o := some (single (d + 1) (hashf k) k v)) (nc' := nc + 1) L hwf hx (by simp)
        (by omega) hsw
        (by simpa [childAL, entryAL] using Bind.mid (r := eq) (k := k) (mid := []) (by simp) (some v))⟩
  | some child =>
    obtain ⟨hcw, -⟩ := hgood.wf child rfl
    obtain ⟨child', added, hassoc, hw, hu⟩ := ih (d + 1) child k v (by omega)
      (by have := need_le (d + 1) child; omega) hcw hcag
    exact ⟨_, added, by simp [hassoc],
      Bind.array_set (o := some child') (nc' := nc + 0) L hwf hx (by simp) (by omega) hw hu⟩

theorem assoc_collision_same (L : Lawful eq hashf) (fuel d : Nat) (hd : d ≤ 7) (h : UInt32)
    (kvs : List (K × V)) (k : K) (v : V) (hwf : WF eq hashf d (.collision h kvs)) (hh : hashf k = h) :
    ∃ n' added, assoc eq hashf (fuel + 1) (.collision h kvs) (shiftOf d) (hashf k) k v = .ok (n', added) ∧
      Post eq hashf d (.collision h kvs) k v n' added := by
  have hnd : NoDupKeys eq kvs := by cases hwf; assumption
  rw [assoc_collision _ _ hd, hh, beq_self_eq_true, if_pos rfl]
  cases hf : findIndex eq k kvs with
  | some i =>
    obtain ⟨hi, hsplit, hpi, hA, hB⟩ := around_found L hf hnd
    rw [hsplit] at hwf
    have hnew : kvs.set i (k, v) = kvs.take i ++ (some v).toList.map (Prod.mk k) ++ kvs.drop (i + 1) := by
      simp [List.set_eq_take_append_cons_drop, hi]
    refine ⟨.collision h (kvs.set i (k, v)), false, by simp [replaceEntry, hi], ?_⟩
    rw [hnew]
    have hb := Bind.splice hA hB (Bind.mid (mid := [kvs[i]]) (by simpa using hpi) (some v))
    rw [← hsplit] at hb
    exact ⟨wf_splice L d hwf hA hB hh (some v) (by simp), hb⟩
  | none =>
    have hA : ∀ e ∈ kvs, eq e.1 k = false := by
      intro e he
      exact eq_false_symm L (by simpa using List.findIdx?_eq_none_iff.mp hf e he)
    have hB : ∀ e ∈ ([] : List (K × V)), eq e.1 k = false := by simp
    have hb := Bind.splice hA hB (Bind.mid (mid := []) (by simp) (some v))
    have hw := wf_splice L d (mid := []) (by simpa using hwf) hA hB hh (some v) (by simp)
    simp only [List.append_nil] at hb hw
    exact ⟨_, true, rfl, hw, hb⟩

/-- The budget `need` has one more step for a collision node: met with another hash it is
wrapped and retried at its own depth. -/
theorem assoc_spec (L : Lawful eq hashf) : ∀ fuel, IH (V := V) eq hashf fuel := by
  intro fuel
  induction fuel with
  | zero =>
    intro d n k v hd hneed
    cases n <;> simp [need] at hneed
  | succ fuel ih =>
    intro d n k v hd hneed hwf hag
    cases n with
    | bitmap bm es =>
      have hd6 : d ≤ 6 := by cases hwf; assumption
      simp only [need] at hneed
      cases hb : hasBit bm (chunkN d (hashf k))
      · rcases Nat.lt_or_ge es.length 16 with hlt | hge
        · exact assoc_bitmap_insert L fuel d bm es k v hwf hb hlt
        · obtain ⟨f, rfl⟩ : ∃ f, fuel = f + 1 := ⟨fuel - 1, by omega⟩
          exact assoc_bitmap_unpack L f d bm es k v hwf hb hge
      · exact assoc_bitmap_present L fuel d ih bm es k v hwf hag hneed hb
    | array nc cs =>
      simp only [need] at hneed
      exact assoc_array_spec L fuel d ih nc cs k v hwf hag hneed
    | collision h kvs =>
      simp only [need] at hneed
      by_cases hh : hashf k = h
      · exact assoc_collision_same L fuel d hd h kvs k v hwf hh
      · -- wrap in a bitmap node and retry at the same depth
        have hkvs : ∀ e ∈ kvs, hashf e.1 = h := by cases hwf; assumption
        have hne : kvs ≠ [] := by cases hwf; assumption
        have hd6 : d ≤ 6 := by
          rcases Nat.lt_or_ge d 7 with h' | h'
          · omega
          · exfalso
            obtain rfl : d = 7 := by omega
            obtain ⟨e, he⟩ := List.exists_mem_of_ne_nil kvs hne
            have := eq_of_chunkN_eq _ _ (fun j hj => hag e (by simpa using he) j (by omega))
            rw [hkvs e he] at this
            exact hh this.symm
        obtain ⟨n', added, hassoc, hw, hu⟩ := ih d _ k v hd (by simp only [need, one]; omega)
          (wf_wrap hd6 hwf) (by intro e he j hj; exact hag e (by simpa [entryAL] using he) j hj)
        rw [toAList_one] at hu
        refine ⟨n', added, ?_, hw, hu⟩
        rw [assoc_collision _ _ hd, if_neg (by simpa using hh)]
        exact hassoc

end C07
