/-
A bitmap node as a sparse array: `slot bm es c` is the entry stored for chunk
value `c`; inserting, replacing and removing an entry at `index(bitmap, bit)` are
the corresponding sparse updates.
-/
import ElvProofs.C07.Bitmap
namespace C07

variable {α : Type}

def slot (bm : UInt32) (es : List α) (c : Nat) : Option α :=
  if hasBit bm c then es[rank bm c]? else none

theorem slot_none_of_not_hasBit {bm : UInt32} {es : List α} {c : Nat} (h : hasBit bm c = false) :
    slot bm es c = none := by simp [slot, h]

theorem slot_of_hasBit {bm : UInt32} {es : List α} {c : Nat} (h : hasBit bm c = true) :
    slot bm es c = es[rank bm c]? := by simp [slot, h]

theorem rank_lt_len {bm : UInt32} {es : List α} {c : Nat} (hlen : es.length = rank bm 32) (hc : c < 32)
    (h : hasBit bm c = true) : rank bm c < es.length := by
  rw [hlen]; exact rank_lt_of_hasBit bm hc h

theorem slot_isSome {bm : UInt32} {es : List α} {c : Nat} (hlen : es.length = rank bm 32) (hc : c < 32)
    (h : hasBit bm c = true) : ∃ e, slot bm es c = some e ∧ es[rank bm c]? = some e := by
  have := rank_lt_len hlen hc h
  exact ⟨es[rank bm c], by simp [slot, h, this], by simp [this]⟩

theorem hasBit_of_slot {bm : UInt32} {es : List α} {c : Nat} {e : α} (h : slot bm es c = some e) :
    hasBit bm c = true := by
  unfold slot at h; split at h <;> simp_all

theorem exists_chunk_of_index (bm : UInt32) (w j : Nat) (hj : j < rank bm w) :
    ∃ c < w, hasBit bm c = true ∧ rank bm c = j := by
  induction w with
  | zero => simp [rank, bcN] at hj
  | succ w ih =>
    rw [rank_succ] at hj
    by_cases h : j < rank bm w
    · obtain ⟨c, hc, hb, hr⟩ := ih h
      exact ⟨c, by omega, hb, hr⟩
    · cases hb : hasBit bm w
      · simp [hb] at hj; omega
      · simp [hb] at hj; exact ⟨w, by omega, hb, by omega⟩

theorem mem_iff_slot {bm : UInt32} {es : List α} (hlen : es.length = rank bm 32) (e : α) :
    e ∈ es ↔ ∃ c < 32, slot bm es c = some e := by
  constructor
  · intro h
    obtain ⟨j, hj, rfl⟩ := List.getElem_of_mem h
    obtain ⟨c, hc, hb, hr⟩ := exists_chunk_of_index bm 32 j (hlen ▸ hj)
    exact ⟨c, hc, by simp [slot, hb, hr, hj]⟩
  · rintro ⟨c, _, h⟩
    unfold slot at h
    split at h
    · exact List.mem_of_getElem? h
    · simp at h

theorem rank_inj {bm : UInt32} {c c' : Nat} (hb : hasBit bm c = true) (hb' : hasBit bm c' = true)
    (h : rank bm c = rank bm c') : c = c' := by
  rcases Nat.lt_trichotomy c c' with lt | eq | gt
  · have := rank_lt_of_hasBit bm lt hb; omega
  · exact eq
  · have := rank_lt_of_hasBit bm gt hb'; omega

theorem getElem?_insert (es : List α) (r : Nat) (e : α) (hr : r ≤ es.length) (j : Nat) :
    (es.take r ++ e :: es.drop r)[j]? =
      if j < r then es[j]? else if j = r then some e else es[j - 1]? := by
  have hl : (es.take r).length = r := by simp [hr]
  by_cases h1 : j < r
  · rw [if_pos h1, List.getElem?_append_left (by omega), List.getElem?_take_of_lt h1]
  · rw [if_neg h1, List.getElem?_append_right (by omega), hl]
    by_cases h2 : j = r
    · subst h2; simp
    · rw [if_neg h2]
      obtain ⟨t, ht⟩ : ∃ t, j - r = t + 1 := ⟨j - r - 1, by omega⟩
      rw [ht, List.getElem?_cons_succ, List.getElem?_drop]
      congr 1; omega

theorem slot_insert {bm : UInt32} {es : List α} {c : Nat} (hlen : es.length = rank bm 32) (hc : c < 32)
    (hb : hasBit bm c = false) (e : α) (c' : Nat) :
    slot (bm ||| bitU c) (es.take (rank bm c) ++ e :: es.drop (rank bm c)) c' =
      if c' = c then some e else slot bm es c' := by
  have hr : rank bm c ≤ es.length := by rw [hlen]; exact rank_mono bm (by omega)
  unfold slot
  rw [hasBit_or_bitU _ _ _ hc, rank_or_bitU _ _ _ hc hb, getElem?_insert _ _ _ hr]
  by_cases h : c' = c
  · subst h; simp
  · have hne : decide (c = c') = false := by simp; omega
    rw [if_neg h, hne, Bool.or_false]
    cases hb' : hasBit bm c'
    · simp
    · simp only [if_true]
      rcases Nat.lt_or_gt_of_ne h with lt | gt
      · have := rank_lt_of_hasBit bm lt hb'
        rw [if_neg (show ¬ c < c' by omega), Nat.add_zero, if_pos this]
      · have := rank_mono bm (Nat.le_of_lt gt)
        rw [if_pos gt, if_neg (by omega), if_neg (by omega)]
        simp

theorem length_insert (es : List α) (r : Nat) (e : α) (hr : r ≤ es.length) :
    (es.take r ++ e :: es.drop r).length = es.length + 1 := by
  simp; omega

theorem slot_set {bm : UInt32} {es : List α} {c : Nat} (hlen : es.length = rank bm 32) (hc : c < 32)
    (hb : hasBit bm c = true) (e : α) (c' : Nat) :
    slot bm (es.set (rank bm c) e) c' = if c' = c then some e else slot bm es c' := by
  have hr := rank_lt_len hlen hc hb
  unfold slot
  by_cases h : c' = c
  · subst h; simp [hb, hr]
  · rw [if_neg h]
    cases hb' : hasBit bm c'
    · simp
    · simp only [if_true]
      rw [List.getElem?_set_ne]
      intro e'; exact h (rank_inj hb' hb e'.symm)

theorem slot_erase {bm : UInt32} {es : List α} {c : Nat} (hc : c < 32)
    (hb : hasBit bm c = true) (c' : Nat) :
    slot (bm ^^^ bitU c) (es.eraseIdx (rank bm c)) c' = if c' = c then none else slot bm es c' := by
  unfold slot
  rw [hasBit_xor_bitU _ _ _ hc]
  by_cases h : c' = c
  · subst h; simp [hb]
  · have hne : decide (c = c') = false := by simp; omega
    rw [if_neg h, hne, Bool.xor_false]
    cases hb' : hasBit bm c'
    · simp
    · simp only [if_true]
      have hx := rank_xor_bitU bm c c' hc hb
      rw [List.getElem?_eraseIdx]
      rcases Nat.lt_or_gt_of_ne h with lt | gt
      · have := rank_lt_of_hasBit bm lt hb'
        rw [if_neg (show ¬ c < c' by omega), Nat.add_zero] at hx
        rw [← hx, if_pos (by omega)]
      · have := rank_lt_of_hasBit bm gt hb
        rw [if_pos gt] at hx
        rw [if_neg (by omega)]
        congr 1

theorem rank32_or {bm : UInt32} {c : Nat} (hc : c < 32) (hb : hasBit bm c = false) :
    rank (bm ||| bitU c) 32 = rank bm 32 + 1 := by
  rw [rank_or_bitU _ _ _ hc hb, if_pos hc]

theorem rank32_xor {bm : UInt32} {c : Nat} (hc : c < 32) (hb : hasBit bm c = true) :
    rank (bm ^^^ bitU c) 32 + 1 = rank bm 32 := by
  have := rank_xor_bitU bm c 32 hc hb
  rwa [if_pos hc] at this

end C07
