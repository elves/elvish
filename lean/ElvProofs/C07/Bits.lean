/-
`bcN w n` counts the set bits among the low `w` bits of `n`; the SWAR `popCount` of
`Gen.C07Bits` (generated from pkg/persistent/hashmap/hashmap.go) equals `bcN 32`.

Why SWAR counting works: see `u` as fields of `w` bits, each holding the bit
count of the corresponding field of the input (`fieldSums w`).  The mask of a
stage keeps every other field (`swarMask w`), so `(u & m) + ((u >> w) & m)` adds
each field to its neighbour, and the sum fits in the doubled field
(`st_fieldSums`).  Five doublings lead from single bits to the whole word.
-/
import ElvModel.Generated.C07Bits
namespace C07
open Gen.C07Bits

def bcN : Nat → Nat → Nat
  | 0, _ => 0
  | w + 1, n => n % 2 + bcN w (n / 2)

@[simp] theorem bcN_zero_right (w : Nat) : bcN w 0 = 0 := by
  induction w with
  | zero => rfl
  | succ w ih => simp [bcN, ih]

theorem bcN_add (k w n : Nat) : bcN (k + w) n = bcN k n + bcN w (n / 2 ^ k) := by
  induction k generalizing n with
  | zero => simp [bcN]
  | succ k ih =>
    rw [show k + 1 + w = (k + w) + 1 by omega]
    simp only [bcN, ih, Nat.div_div_eq_div_mul, Nat.pow_succ']
    omega

theorem bcN_succ_top (c n : Nat) : bcN (c + 1) n = bcN c n + (if n.testBit c then 1 else 0) := by
  rw [bcN_add c 1 n, Nat.testBit_eq_decide_div_mod_eq]
  simp only [bcN, Nat.add_zero]
  split <;> simp_all <;> omega

theorem bcN_mono {c c' : Nat} (n : Nat) (h : c ≤ c') : bcN c n ≤ bcN c' n := by
  obtain ⟨w, rfl⟩ := Nat.exists_eq_add_of_le h
  rw [bcN_add]
  omega

theorem bcN_lt_of_testBit {c c' : Nat} (n : Nat) (h : c < c') (hb : n.testBit c = true) :
    bcN c n < bcN c' n := by
  have h1 : bcN (c + 1) n = bcN c n + 1 := by rw [bcN_succ_top, hb]; rfl
  have h2 := bcN_mono n (show c + 1 ≤ c' from h)
  omega

theorem bcN_le (w n : Nat) : bcN w n ≤ w := by
  induction w generalizing n with
  | zero => simp [bcN]
  | succ w ih => have := ih (n / 2); simp only [bcN]; omega

theorem bcN_mod (c w n : Nat) (h : c ≤ w) : bcN w (n % 2 ^ c) = bcN c n := by
  obtain ⟨r, rfl⟩ := Nat.exists_eq_add_of_le h
  rw [bcN_add, Nat.div_eq_of_lt (Nat.mod_lt _ (Nat.two_pow_pos c)), bcN_zero_right, Nat.add_zero]
  clear h
  induction c generalizing n with
  | zero => rfl
  | succ c ih =>
    simp only [bcN]
    rw [Nat.pow_succ', Nat.mod_mul_right_mod, Nat.mod_mul_right_div_self, ih]

def st (m s u : Nat) : Nat := (u &&& m) + ((u / 2 ^ s) &&& m)

theorem and_lanes (w a r ma mr : Nat) (ha : a < 2 ^ w) (hma : ma < 2 ^ w) :
    (a + 2 ^ w * r) &&& (ma + 2 ^ w * mr) = (a &&& ma) + 2 ^ w * (r &&& mr) := by
  have hp := Nat.two_pow_pos w
  rw [← Nat.mod_add_div ((a + 2 ^ w * r) &&& (ma + 2 ^ w * mr)) (2 ^ w), Nat.and_mod_two_pow,
    Nat.and_div_two_pow, Nat.add_mul_mod_self_left, Nat.add_mul_mod_self_left, Nat.mod_eq_of_lt ha,
    Nat.mod_eq_of_lt hma, Nat.add_mul_div_left _ _ hp, Nat.add_mul_div_left _ _ hp,
    Nat.div_eq_of_lt ha, Nat.div_eq_of_lt hma, Nat.zero_add, Nat.zero_add]

theorem and_two_pow_mul (w x m : Nat) : x &&& 2 ^ w * m = 2 ^ w * (x / 2 ^ w &&& m) := by
  have hp := Nat.two_pow_pos w
  have := and_lanes w (x % 2 ^ w) (x / 2 ^ w) 0 m (Nat.mod_lt _ hp) hp
  rwa [Nat.mod_add_div, Nat.and_zero, Nat.zero_add, Nat.zero_add] at this

/-- the mask of the stage that adds neighbouring `w`-bit fields, for `n` pairs of fields -/
def swarMask (w : Nat) : Nat → Nat
  | 0 => 0
  | n + 1 => (2 ^ w - 1) + 2 ^ w * (2 ^ w * swarMask w n)

def fieldSums (w : Nat) : Nat → Nat → Nat
  | 0, _ => 0
  | n + 1, x => bcN w x + 2 ^ w * fieldSums w n (x / 2 ^ w)

theorem st_pair (w lo hi rest m : Nat) (hlo : lo < 2 ^ w) (hhi : hi < 2 ^ w) :
    st ((2 ^ w - 1) + 2 ^ w * (2 ^ w * m)) w (lo + 2 ^ w * (hi + 2 ^ w * rest)) =
      lo + hi + 2 ^ w * (2 ^ w * st m w rest) := by
  have hp := Nat.two_pow_pos w
  have hm : 2 ^ w - 1 < 2 ^ w := by omega
  have low : ∀ a r, a < 2 ^ w → (a + 2 ^ w * r) &&& ((2 ^ w - 1) + 2 ^ w * (2 ^ w * m)) =
      a + 2 ^ w * (2 ^ w * (r / 2 ^ w &&& m)) := by
    intro a r ha
    rw [and_lanes w a _ _ _ ha hm, Nat.and_two_pow_sub_one_eq_mod, Nat.mod_eq_of_lt ha, and_two_pow_mul]
  unfold st
  rw [Nat.add_mul_div_left _ _ hp, Nat.div_eq_of_lt hlo, Nat.zero_add, low lo _ hlo, low hi _ hhi,
    Nat.add_mul_div_left _ _ hp, Nat.div_eq_of_lt hhi, Nat.zero_add]
  simp only [Nat.mul_add]
  omega

theorem st_fieldSums (w n x : Nat) :
    st (swarMask w n) w (fieldSums w (2 * n) x) = fieldSums (w + w) n x := by
  induction n generalizing x with
  | zero => simp [st, swarMask, fieldSums]
  | succ n ih =>
    have hlt : ∀ y, bcN w y < 2 ^ w := fun y => Nat.lt_of_le_of_lt (bcN_le w y) Nat.lt_two_pow_self
    rw [show 2 * (n + 1) = 2 * n + 1 + 1 by omega]
    simp only [fieldSums, swarMask]
    rw [st_pair w _ _ _ _ (hlt _) (hlt _), ih, bcN_add, Nat.pow_add, Nat.div_div_eq_div_mul, Nat.mul_assoc]

theorem fieldSums_one (n x : Nat) : fieldSums 1 n x = x % 2 ^ n := by
  induction n generalizing x with
  | zero => simp [fieldSums, Nat.mod_one]
  | succ n ih => simp only [fieldSums, bcN, ih, Nat.pow_succ', Nat.mod_mul, Nat.add_zero]

theorem st5_eq (u : Nat) (hu : u < 2 ^ 32) :
    st (swarMask 16 1) 16 (st (swarMask 8 2) 8 (st (swarMask 4 4) 4 (st (swarMask 2 8) 2
      (st (swarMask 1 16) 1 u)))) = bcN 32 u := by
  conv => lhs; rw [← Nat.mod_eq_of_lt hu, ← fieldSums_one 32 u]
  rw [st_fieldSums 1 16, st_fieldSums 2 8, st_fieldSums 4 4, st_fieldSums 8 2, st_fieldSums 16 1]
  simp [fieldSums]

theorem stU (x m s : UInt32) (hs : s.toNat < 32) (hm : 2 * m.toNat < 2 ^ 32) :
    ((x &&& m) + ((x >>> s) &&& m)).toNat = st m.toNat s.toNat x.toNat := by
  unfold st
  rw [UInt32.toNat_add, UInt32.toNat_and, UInt32.toNat_and, UInt32.toNat_shiftRight,
    Nat.mod_eq_of_lt hs, Nat.shiftRight_eq_div_pow]
  apply Nat.mod_eq_of_lt
  have := @Nat.and_le_right x.toNat m.toNat
  have := @Nat.and_le_right (x.toNat / 2 ^ s.toNat) m.toNat
  omega

theorem popCount_toNat (u : UInt32) : (popCount u).toNat = bcN 32 u.toNat := by
  rw [← st5_eq u.toNat u.toNat_lt]
  unfold popCount
  simp only []
  rw [stU _ m16 16 (by decide) (by decide), stU _ m8 8 (by decide) (by decide),
    stU _ m4 4 (by decide) (by decide), stU _ m2 2 (by decide) (by decide),
    stU _ m1 1 (by decide) (by decide)]
  rfl

end C07
