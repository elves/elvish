/-
Updates of bitmap and array nodes.  `Bind.frame` lifts an update of the entry for the chunk
of `k` (a sub-node, a key/value entry or no entry, read through its contents `optAL`) to the
node, whatever the kind of the node before and after; `Bind.bitmap_set` and `Bind.array_set`
are the two ways a node stores the new entry.
-/
import ElvProofs.C07.Contents
namespace C07
open Go Gen.C07Bits

variable {K V : Type} {eq : K → K → Bool} {hashf : K → UInt32}

structure Alike (eq : K → K → Bool) (hashf : K → UInt32) (d : Nat) (x y : Option (Entry K V)) : Prop where
  wf : SubWF eq hashf d y
  al : optAL y = optAL x

theorem Alike.refl {d : Nat} {x : Option (Entry K V)} (hx : SubWF eq hashf d x) : Alike eq hashf d x x :=
  ⟨hx, rfl⟩

/-- a key/value entry and the one-entry node `unpack` and `arrayNode.assoc` make of it -/
theorem Alike.single {d : Nat} (hd : d ≤ 6) (k : K) (v : V) :
    Alike eq hashf d (some (.kv k v)) (some (.sub (single d (hashf k) k v))) :=
  ⟨SubWF.sub (wf_single d hd k v) (by simp [entryAL]), by simp [entryAL]⟩

theorem goodKid_frame {d : Nat} {n n' : Node K V} (hwf : WF eq hashf d n) {k : K}
    (hother : ∀ c < 32, c ≠ chunkN d (hashf k) → Alike eq hashf (d + 1) (kid n c) (kid n' c))
    (hy : SubWF eq hashf (d + 1) (kid n' (chunkN d (hashf k))))
    (hkeys : ∀ e ∈ optAL (kid n' (chunkN d (hashf k))),
      e ∈ optAL (kid n (chunkN d (hashf k))) ∨ e.1 = k) :
    ∀ c < 32, GoodKid eq hashf d c (kid n' c) := by
  intro c hc
  by_cases h : c = chunkN d (hashf k)
  · subst h
    refine ⟨hy, fun e he => ?_⟩
    rcases hkeys e he with h1 | h1
    · exact (hwf.goodKid hc).chunk e h1
    · rw [h1]
  · refine ⟨(hother c hc h).wf, fun e he => ?_⟩
    rw [(hother c hc h).al] at he
    exact (hwf.goodKid hc).chunk e he

/-- An update of the entry for the chunk of `k` is an update of the node, whatever the kind of
the node before and after.  The other entries may change as long as they hold the same
(`unpack` turns key/value entries into one-entry nodes). -/
theorem Bind.frame (L : Lawful eq hashf) {d : Nat} {n n' : Node K V} (hwf : WF eq hashf d n)
    (hn : Framed n) (hn' : Framed n') {k : K} {nv : Option V} {ch : Bool}
    (hother : ∀ c < 32, c ≠ chunkN d (hashf k) → optAL (kid n' c) = optAL (kid n c))
    (hupd : Bind eq k nv (optAL (kid n (chunkN d (hashf k)))) (optAL (kid n' (chunkN d (hashf k)))) ch) :
    Bind eq k nv n.toAList n'.toAList ch := by
  obtain ⟨lo, hi, hlo, hhi, hsplit⟩ := toAList_around (K := K) (V := V) (chunkN_lt d (hashf k))
  -- the entries for the other chunks are the same in both nodes
  have hsame : ∀ l : List Nat, (∀ c ∈ l, c < 32 ∧ c ≠ chunkN d (hashf k)) →
      l.flatMap (fun c => optAL (kid n' c)) = l.flatMap (fun c => optAL (kid n c)) := fun l hl => by
    rw [List.flatMap_def, List.flatMap_def,
      List.map_congr_left fun c hc => hother c (hl c hc).1 (hl c hc).2]
  rw [hsplit n hn, hsplit n' hn', hsame lo hlo, hsame hi hhi]
  exact Bind.splice (not_eq_of_other_chunks L hwf hlo) (not_eq_of_other_chunks L hwf hhi) hupd

theorem Bind.frame_wf (L : Lawful eq hashf) {d : Nat} {n n' : Node K V} (hwf : WF eq hashf d n)
    (hn : Framed n) (hn' : Framed n') {k : K} {nv : Option V} {ch : Bool}
    (hwf' : (∀ c < 32, GoodKid eq hashf d c (kid n' c)) → WF eq hashf d n')
    (hother : ∀ c < 32, c ≠ chunkN d (hashf k) → Alike eq hashf (d + 1) (kid n c) (kid n' c))
    (hy : SubWF eq hashf (d + 1) (kid n' (chunkN d (hashf k))))
    (hupd : Bind eq k nv (optAL (kid n (chunkN d (hashf k)))) (optAL (kid n' (chunkN d (hashf k)))) ch)
    (hne : ∃ c < 32, ∃ x, kid n' c = some x) :
    SubWF eq hashf d (some (.sub n')) ∧ Bind eq k nv n.toAList n'.toAList ch := by
  have hw := hwf' (goodKid_frame hwf hother hy (fun e he => hupd.key_eq he))
  obtain ⟨c, hc, x, hx⟩ := hne
  exact ⟨SubWF.sub hw (toAList_ne_nil_of_kid hw hn' hc hx),
    Bind.frame L hwf hn hn' (fun c hc h => (hother c hc h).al) hupd⟩

theorem Bind.frame_set (L : Lawful eq hashf) {d : Nat} {n n' : Node K V} (hwf : WF eq hashf d n)
    (hn : Framed n) (hn' : Framed n') {k : K} {nv : Option V} {ch : Bool} {x y : Option (Entry K V)}
    (hwf' : (∀ c < 32, GoodKid eq hashf d c (kid n' c)) → WF eq hashf d n')
    (hx : kid n (chunkN d (hashf k)) = x)
    (hkid : ∀ c, kid n' c = if c = chunkN d (hashf k) then y else kid n c)
    (hy : SubWF eq hashf (d + 1) y) (hupd : Bind eq k nv (optAL x) (optAL y) ch)
    (hne : ∃ c < 32, ∃ z, kid n' c = some z) :
    SubWF eq hashf d (some (.sub n')) ∧ Bind eq k nv n.toAList n'.toAList ch := by
  refine Bind.frame_wf L hwf hn hn' hwf' ?_ ?_ ?_ hne
  · intro c hc hne'
    rw [hkid, if_neg hne']
    exact Alike.refl (hwf.goodKid hc).wf
  · rw [hkid, if_pos rfl]; exact hy
  · rw [hkid, if_pos rfl, hx]; exact hupd

theorem Bind.bitmap_set (L : Lawful eq hashf) {d : Nat} {bm : UInt32} {es : List (Entry K V)} {k : K}
    {nv : Option V} {ch : Bool} (hwf : WF eq hashf d (.bitmap bm es)) {x y : Entry K V}
    (hx : slot bm es (chunkN d (hashf k)) = some x) (hy : SubWF eq hashf (d + 1) (some y))
    (hupd : Bind eq k nv (entryAL x) (entryAL y) ch) :
    SubWF eq hashf d (some (.sub (.bitmap bm (es.set (rank bm (chunkN d (hashf k))) y)))) ∧
      Bind eq k nv (Node.bitmap bm es).toAList
        (Node.bitmap bm (es.set (rank bm (chunkN d (hashf k))) y)).toAList ch := by
  have hc := chunkN_lt d (hashf k)
  have hb := hasBit_of_slot hx
  cases hwf with
  | bitmap hd hlen hkv hsub hkeys =>
  have hlen' : (es.set (rank bm (chunkN d (hashf k))) y).length = rank bm 32 := by simpa using hlen
  have hkid := fun c => slot_set hlen hc hb y c
  exact Bind.frame_set (n' := .bitmap bm (es.set (rank bm (chunkN d (hashf k))) y)) L
    (.bitmap hd hlen hkv hsub hkeys) hlen hlen' (wf_bitmap hd hlen') hx hkid hy hupd
    ⟨_, hc, y, by rw [kid, hkid, if_pos rfl]⟩

theorem Bind.array_set (L : Lawful eq hashf) {d : Nat} {nc nc' : Int} {cs : List (Option (Node K V))} {k : K}
    {nv : Option V} {ch : Bool} (hwf : WF eq hashf d (.array nc cs)) {x o : Option (Node K V)}
    (hx : cs[chunkN d (hashf k)]? = some x)
    (hnc' : nc' + (if x.isSome then 1 else 0) = nc + (if o.isSome then 1 else 0)) (hmin : 8 ≤ nc')
    (hy : SubWF eq hashf (d + 1) (subOf (some o)))
    (hupd : Bind eq k nv (childAL x) (childAL o) ch) :
    SubWF eq hashf d (some (.sub (.array nc' (cs.set (chunkN d (hashf k)) o)))) ∧
      Bind eq k nv (Node.array nc cs).toAList
        (Node.array nc' (cs.set (chunkN d (hashf k)) o)).toAList ch := by
  have hc := chunkN_lt d (hashf k)
  cases hwf with
  | array hd hlen hnc _ hsub hkeys =>
  have hcl : chunkN d (hashf k) < cs.length := by omega
  have hxi : cs[chunkN d (hashf k)] = x := by
    rw [List.getElem?_eq_getElem hcl] at hx; exact Option.some.inj hx
  have hlen' : (cs.set (chunkN d (hashf k)) o).length = 32 := by simpa using hlen
  have hcount : nc' = ((cs.set (chunkN d (hashf k)) o).countP Option.isSome : Nat) := by
    have hle : (if x.isSome then 1 else 0) ≤ cs.countP Option.isSome := by
      split
      · next h => exact List.countP_pos_iff.mpr ⟨x, hxi ▸ List.getElem_mem hcl, h⟩
      · omega
    rw [List.countP_set hcl, hxi]
    cases x <;> cases o <;> simp at hnc' hle ⊢ <;> omega
  have hkid : ∀ c, kid (.array nc' (cs.set (chunkN d (hashf k)) o)) c =
      if c = chunkN d (hashf k) then subOf (some o) else kid (.array nc cs) c := by
    intro c
    rw [kid_array, kid_array, List.getElem?_set]
    by_cases h : chunkN d (hashf k) = c
    · subst h; simp [hcl]
    · rw [if_neg h, if_neg (fun e => h e.symm)]
  have hal : ∀ z : Option (Node K V), optAL (subOf (some z)) = childAL z := fun z => by cases z <;> rfl
  refine Bind.frame_set (n' := .array nc' (cs.set (chunkN d (hashf k)) o)) L
    (.array hd hlen hnc (by assumption) hsub hkeys) hlen hlen'
    (wf_array hd hlen' hcount hmin) (by rw [kid_array, hx]) hkid hy (by rw [hal, hal]; exact hupd) ?_
  -- at least 8 children are left
  have hpos : 0 < (cs.set (chunkN d (hashf k)) o).countP Option.isSome := by omega
  obtain ⟨a, ha, hsome⟩ := List.countP_pos_iff.mp hpos
  obtain ⟨c, hcl', rfl⟩ := List.getElem_of_mem ha
  cases hac : (cs.set (chunkN d (hashf k)) o)[c] with
  | none => rw [hac] at hsome; cases hsome
  | some m => exact ⟨c, by omega, .sub m, by rw [kid_array, List.getElem?_eq_getElem hcl', hac]; rfl⟩

end C07
