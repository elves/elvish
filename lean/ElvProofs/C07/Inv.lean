/-
What the theorems about the trie assume and maintain: `Lawful`, the hypotheses on the
caller's `Equal` and `Hash`; `WF eq hashf d n`, the shape of a node at depth `d` (every key
sits under the chunk of its hash, array nodes keep at least 8 children, a collision node
holds distinct keys of one hash); the reference `lookup` in an association list; and the
equations of `find` on a slot, a child and a collision node.
-/
import ElvProofs.C07.Slot
import ElvProofs.Lemmas.Res
namespace C07
open Go Gen.C07Bits

variable {K V : Type}

/-- The hypotheses on the user-supplied `Equal` and `Hash`. -/
structure Lawful (eq : K → K → Bool) (hashf : K → UInt32) : Prop where
  refl : ∀ a, eq a a = true
  symm : ∀ a b, eq a b = true → eq b a = true
  trans : ∀ a b c, eq a b = true → eq b c = true → eq a c = true
  hash : ∀ a b, eq a b = true → hashf a = hashf b

def EqEquiv (eq : K → K → Bool) : Prop :=
  (∀ a, eq a a = true) ∧ (∀ a b, eq a b = true → eq b a = true) ∧
    (∀ a b c, eq a b = true → eq b c = true → eq a c = true)

theorem Lawful.of (eq : K → K → Bool) (hashf : K → UInt32) (h : EqEquiv eq)
    (hh : ∀ a b, eq a b = true → hashf a = hashf b) : Lawful eq hashf :=
  ⟨h.1, h.2.1, h.2.2, hh⟩

theorem Lawful.equiv {eq : K → K → Bool} {hashf : K → UInt32} (L : Lawful eq hashf) : EqEquiv eq :=
  ⟨L.refl, L.symm, L.trans⟩

@[simp] theorem ok_bind {α β} (a : α) (f : α → Res β) : (Res.ok a >>= f) = f a := Res.ok_bind a f
@[simp] theorem exc_bind {α β} (e : String) (f : α → Res β) : (Res.exc e >>= f) = Res.exc e := Res.exc_bind e f
@[simp] theorem panic_bind {α β} (e : String) (f : α → Res β) : (Res.panic e >>= f) = Res.panic e := Res.panic_bind e f
@[simp] theorem pure_eq_ok {α} (a : α) : (pure a : Res α) = Res.ok a := Res.pure_eq_ok a

/-- Well-formedness of a node at trie depth `d` (shift `5·d`). -/
inductive WF (eq : K → K → Bool) (hashf : K → UInt32) : Nat → Node K V → Prop
  | bitmap {d : Nat} {bm : UInt32} {es : List (Entry K V)} (hd : d ≤ 6)
      (hlen : es.length = rank bm 32)
      (hkv : ∀ c k v, c < 32 → slot bm es c = some (.kv k v) → chunkN d (hashf k) = c)
      (hsub : ∀ c n, c < 32 → slot bm es c = some (.sub n) → WF eq hashf (d + 1) n)
      (hkeys : ∀ c n, c < 32 → slot bm es c = some (.sub n) →
        n.toAList ≠ [] ∧ ∀ e ∈ n.toAList, chunkN d (hashf e.1) = c) :
      WF eq hashf d (.bitmap bm es)
  | array {d : Nat} {nc : Int} {cs : List (Option (Node K V))} (hd : d ≤ 5)
      (hlen : cs.length = 32)
      (hnc : nc = (cs.countP Option.isSome : Nat))
      (hmin : 8 ≤ nc)
      (hsub : ∀ (c : Nat) n, cs[c]? = some (some n) → WF eq hashf (d + 1) n)
      (hkeys : ∀ (c : Nat) n, cs[c]? = some (some n) →
        n.toAList ≠ [] ∧ ∀ e ∈ n.toAList, chunkN d (hashf e.1) = c) :
      WF eq hashf d (.array nc cs)
  | collision {d : Nat} {h : UInt32} {kvs : List (K × V)}
      (hne : kvs ≠ [])
      (hh : ∀ e ∈ kvs, hashf e.1 = h)
      (hnd : kvs.Pairwise (fun a b => eq a.1 b.1 = false)) :
      WF eq hashf d (.collision h kvs)

theorem findAt_eq (eq : K → K → Bool) (es : List (Entry K V)) (i : Nat) (shift hash : UInt32) (k : K) :
    findAt eq es i shift hash k =
      match es[i]? with
      | none => .panic "index out of range"
      | some (.kv k0 v0) => .ok (if eq k0 k then some v0 else none)
      | some (.sub child) => child.find eq (nextShift shift) hash k := by
  induction es generalizing i with
  | nil => simp [findAt]
  | cons e es ih =>
    cases i with
    | zero => cases e <;> simp [findAt]; split <;> rfl
    | succ i => cases e <;> simp [findAt, ih]

theorem findChild_eq (eq : K → K → Bool) (cs : List (Option (Node K V))) (i : Nat)
    (shift hash : UInt32) (k : K) :
    findChild eq cs i shift hash k =
      match cs[i]? with
      | none => outside "arrayNode.children shorter than 32"
      | some none => .ok none
      | some (some child) => child.find eq (nextShift shift) hash k := by
  induction cs generalizing i with
  | nil => simp [findChild]
  | cons c cs ih =>
    cases i with
    | zero => cases c <;> simp [findChild]
    | succ i => cases c <;> simp [findChild, ih]

def lookup (eq : K → K → Bool) (al : List (K × V)) (k : K) : Option V :=
  (al.find? (fun e => eq e.1 k)).map (·.2)

theorem find_collision (eq : K → K → Bool) (h : UInt32) (kvs : List (K × V)) (shift hash : UInt32) (k : K) :
    Node.find eq (.collision h kvs) shift hash k =
      .ok ((kvs.find? (fun e => eq k e.1)).map (·.2)) := by
  simp only [Node.find, findIndex]
  induction kvs with
  | nil => simp
  | cons e kvs ih =>
    by_cases he : eq k e.1 = true
    · simp [List.findIdx?_cons, he]
    · simp only [Bool.not_eq_true] at he
      simp only [List.findIdx?_cons, he, List.find?_cons]
      cases hf : List.findIdx? (fun e => eq k e.1) kvs with
      | none => simp [hf] at ih ⊢; exact ih
      | some i => simp [hf] at ih ⊢; exact ih

end C07
