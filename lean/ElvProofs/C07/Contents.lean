/-
The contents `toAList` of a well-formed node hold no two `eq` keys, and `find`
is exactly lookup in the contents.
-/
import ElvProofs.C07.Kids
import ElvProofs.C07.Bind
namespace C07
open Go Gen.C07Bits

variable {K V : Type} {eq : K → K → Bool} {hashf : K → UInt32}

theorem nodup_toAList (L : Lawful eq hashf) {d : Nat} {n : Node K V} (h : WF eq hashf d n) :
    NoDupKeys eq n.toAList := by
  refine WF.induction (motive := fun _ n => NoDupKeys eq n.toAList) ?_ ?_ h
  · intro d n hwf hn ih
    unfold NoDupKeys
    rw [toAList_kid hn, List.pairwise_flatMap]
    constructor
    · intro c hc
      cases hs : kid n c with
      | none => simp
      | some x =>
        cases x with
        | kv k v => simp
        | sub m => exact ih c m (List.mem_range.mp hc) hs
    · -- entries of different chunks hold keys with different hashes
      refine List.Pairwise.imp_of_mem ?_ List.pairwise_lt_range
      intro c c' hc hc' hlt a ha b hb
      apply not_eq_of_chunk_ne L (d := d)
      rw [(hwf.goodKid (List.mem_range.mp hc)).chunk a ha, (hwf.goodKid (List.mem_range.mp hc')).chunk b hb]
      omega
  · intro d h kvs hwf
    cases hwf with
    | collision hne hh hnd => simpa [NoDupKeys] using hnd

/-- entries for chunks other than that of `k` hold no key equal to `k` -/
theorem not_eq_of_other_chunks (L : Lawful eq hashf) {d : Nat} {n : Node K V} (hwf : WF eq hashf d n)
    {k : K} {l : List Nat} (hl : ∀ c ∈ l, c < 32 ∧ c ≠ chunkN d (hashf k)) :
    ∀ e ∈ l.flatMap (fun c => optAL (kid n c)), eq e.1 k = false := by
  intro e he
  obtain ⟨c, hc, hec⟩ := List.mem_flatMap.mp he
  apply not_eq_of_chunk_ne L (d := d)
  rw [(hwf.goodKid (hl c hc).1).chunk e hec]
  exact (hl c hc).2

theorem find_eq_lookup (L : Lawful eq hashf) {d : Nat} {n : Node K V} (h : WF eq hashf d n) :
    ∀ k, n.find eq (shiftOf d) (hashf k) k = .ok (lookup eq n.toAList k) := by
  refine WF.induction
    (motive := fun d n => ∀ k, n.find eq (shiftOf d) (hashf k) k = .ok (lookup eq n.toAList k)) ?_ ?_ h
  · intro d n hwf hn ih k
    obtain ⟨lo, hi, hlo, hhi, hsplit⟩ := toAList_around (K := K) (V := V) (chunkN_lt d (hashf k))
    rw [find_kid eq (by have := hwf.framed_depth hn; omega) hn, hsplit n hn,
      lookup_splice (not_eq_of_other_chunks L hwf hlo) (not_eq_of_other_chunks L hwf hhi)]
    cases hs : kid n (chunkN d (hashf k)) with
    | none => rfl
    | some x =>
      cases x with
      | kv k0 v0 => cases he : eq k0 k <;> simp [look, lookup, he]
      | sub m => exact ih _ m (chunkN_lt d _) hs k
  · intro d h kvs _ k
    -- `collisionNode.findIndex` asks `eq k e.key`, `lookup` asks `eq e.key k`
    have hsymm : (fun e : K × V => eq k e.1) = fun e => eq e.1 k := funext fun e => by
      cases h1 : eq e.1 k
      · exact eq_false_symm L h1
      · exact L.symm _ _ h1
    rw [find_collision, hsymm]
    rfl

end C07
