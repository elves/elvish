/-
Association lists under an equivalence `r` on the keys.  `assoc` and `without` are one
update, "bind key `k` to `nv`" with `nv = some v` or `none`; on an association list that is
`bindL`, the operation of the reference dictionary.  `Bind` says that a list is `bindL` of
another up to order.  That is all the trie has to establish about an update: what it does to
`lookup` and to the length are facts about lists (`lookup_perm`, `lookup_bindL`,
`length_bindL`).
-/
import ElvProofs.C07.Inv
namespace C07
open List

variable {α β : Type} {r : α → α → Bool}

def NoDupKeys (r : α → α → Bool) (l : List (α × β)) : Prop :=
  l.Pairwise (fun a b => r a.1 b.1 = false)

theorem pairwise_unique (E : EqEquiv r) {l : List (α × β)} (hp : NoDupKeys r l)
    {a b : α × β} (ha : a ∈ l) (hb : b ∈ l) (he : r a.1 b.1 = true) : a = b := by
  induction l with
  | nil => cases ha
  | cons x l ih =>
    unfold NoDupKeys at hp
    rw [pairwise_cons] at hp
    rcases mem_cons.mp ha with rfl | ha' <;> rcases mem_cons.mp hb with rfl | hb'
    · rfl
    · have := hp.1 b hb'; rw [he] at this; cases this
    · have := hp.1 a ha'; rw [E.2.1 _ _ he] at this; cases this
    · exact ih hp.2 ha' hb'

theorem NoDupKeys.perm (E : EqEquiv r) {X Y : List (α × β)} (h : X ~ Y) (hnd : NoDupKeys r X) :
    NoDupKeys r Y :=
  h.pairwise hnd fun {a b} hab => by
    cases h' : r b.1 a.1
    · rfl
    · rw [E.2.1 _ _ h'] at hab; cases hab

theorem lookup_eq_some_iff (E : EqEquiv r) {X : List (α × β)} (hnd : NoDupKeys r X) (k : α) (v : β) :
    lookup r X k = some v ↔ ∃ k0, r k0 k = true ∧ (k0, v) ∈ X := by
  unfold lookup
  constructor
  · intro h
    obtain ⟨e, he, rfl⟩ := Option.map_eq_some_iff.mp h
    exact ⟨e.1, by simpa using find?_some he, mem_of_find?_eq_some he⟩
  · rintro ⟨k0, hk, hm⟩
    cases hf : X.find? (fun e => r e.1 k) with
    | none => simpa [hk] using find?_eq_none.mp hf _ hm
    | some e =>
      have he : r e.1 k = true := by simpa using find?_some hf
      rw [pairwise_unique E hnd (mem_of_find?_eq_some hf) hm (E.2.2 _ _ _ he (E.2.1 _ _ hk))]
      rfl

theorem lookup_perm (E : EqEquiv r) {X Y : List (α × β)} (h : X ~ Y) (hnd : NoDupKeys r X) (k : α) :
    lookup r Y k = lookup r X k := by
  apply Option.ext
  intro v
  rw [lookup_eq_some_iff E (hnd.perm E h), lookup_eq_some_iff E hnd]
  simp only [h.mem_iff]

theorem lookup_splice {k : α} {A B X0 : List (α × β)} (hA : ∀ e ∈ A, r e.1 k = false)
    (hB : ∀ e ∈ B, r e.1 k = false) : lookup r (A ++ X0 ++ B) k = lookup r X0 k := by
  have hnone : ∀ l : List (α × β), (∀ e ∈ l, r e.1 k = false) → l.find? (fun e => r e.1 k) = none :=
    fun l hl => find?_eq_none.mpr fun e he => by simp [hl e he]
  simp [lookup, find?_append, hnone A hA, hnone B hB]

theorem any_key_eq_isSome_lookup (X : List (α × β)) (k : α) :
    X.any (fun e => r e.1 k) = (lookup r X k).isSome := by
  rw [Bool.eq_iff_iff]
  simp [lookup]

/-- bind `k` to `nv`: the new binding first, the old bindings of equal keys removed -/
def bindL (r : α → α → Bool) (k : α) (nv : Option β) (X : List (α × β)) : List (α × β) :=
  nv.toList.map (Prod.mk k) ++ X.filter (fun e => !r e.1 k)

theorem lookup_bindL (E : EqEquiv r) (X : List (α × β)) (k : α) (nv : Option β) (k' : α) :
    lookup r (bindL r k nv X) k' = if r k k' then nv else lookup r X k' := by
  have hf : lookup r (X.filter (fun e => !r e.1 k)) k' = if r k k' then none else lookup r X k' := by
    unfold lookup
    rw [find?_filter]
    by_cases hk : r k k' = true
    · rw [if_pos hk, Option.map_eq_none_iff, find?_eq_none]
      intro e _
      cases h : r e.1 k'
      · simp
      · simp [E.2.2 _ _ _ h (E.2.1 _ _ hk)]
    · rw [if_neg hk]
      congr 2
      funext e
      cases h : r e.1 k'
      · simp
      · have : r e.1 k = false := by
          cases h2 : r e.1 k
          · rfl
          · exact absurd (E.2.2 _ _ _ (E.2.1 _ _ h2) h) hk
        simp [this]
  cases nv with
  | none => simpa [bindL] using hf
  | some v =>
    by_cases hk : r k k' = true
    · simp [bindL, lookup, hk]
    · simp only [Bool.not_eq_true] at hk
      rw [hk] at hf ⊢
      simpa [bindL, lookup, find?_cons, hk] using hf

theorem bindL_perm {X Y : List (α × β)} (h : X ~ Y) (k : α) (nv : Option β) :
    bindL r k nv X ~ bindL r k nv Y :=
  (h.filter _).append_left _

theorem NoDupKeys.bindL (E : EqEquiv r) {X : List (α × β)} (h : NoDupKeys r X) (k : α) (nv : Option β) :
    NoDupKeys r (bindL r k nv X) := by
  unfold NoDupKeys C07.bindL
  rw [pairwise_append]
  refine ⟨by cases nv <;> simp, Pairwise.sublist filter_sublist h, ?_⟩
  intro a ha b hb
  cases nv <;> simp at ha
  subst ha
  cases h2 : r k b.1
  · rfl
  · simpa [E.2.1 _ _ h2] using (mem_filter.mp hb).2

theorem length_filter_lookup (E : EqEquiv r) (k : α) : ∀ (X : List (α × β)), NoDupKeys r X →
    (X.filter (fun e => !r e.1 k)).length + (if (lookup r X k).isSome then 1 else 0) = X.length := by
  intro X
  induction X with
  | nil => intro _; rfl
  | cons e X ih =>
    intro hp
    unfold NoDupKeys at hp
    rw [pairwise_cons] at hp
    by_cases he : r e.1 k = true
    · -- no other entry has a key equal to `k`
      have hall : ∀ x ∈ X, (!r x.1 k) = true := fun x hx => by
        cases h : r x.1 k
        · rfl
        · have := hp.1 x hx; rw [E.2.2 _ _ _ he (E.2.1 _ _ h)] at this; cases this
      simp [he, filter_eq_self.mpr hall, lookup]
    · simp only [Bool.not_eq_true] at he
      have hlk : lookup r (e :: X) k = lookup r X k := by simp [lookup, he]
      have := ih hp.2
      rw [hlk, filter_cons, he]
      simp only [Bool.not_false, if_true, length_cons]
      omega

theorem length_bindL (E : EqEquiv r) (k : α) (nv : Option β) {X : List (α × β)} (h : NoDupKeys r X) :
    (bindL r k nv X).length + (if (lookup r X k).isSome then 1 else 0) =
      X.length + (if nv.isSome then 1 else 0) := by
  have := length_filter_lookup E k X h
  cases nv <;> simp [bindL] <;> omega

/-- `Y` is `X` with `k` bound to `nv`, up to order; `ch` says whether the number of bindings
changed -/
structure Bind (r : α → α → Bool) (k : α) (nv : Option β) (X Y : List (α × β)) (ch : Bool) : Prop where
  perm : Y ~ bindL r k nv X
  changed : ch = (X.any (fun e => r e.1 k) != nv.isSome)

theorem Bind.key_eq {k : α} {nv : Option β} {X Y : List (α × β)} {ch : Bool} (h : Bind r k nv X Y ch)
    {e : α × β} (he : e ∈ Y) : e ∈ X ∨ e.1 = k := by
  rcases mem_append.mp (h.perm.mem_iff.mp he) with h1 | h1
  · cases nv <;> simp at h1
    exact Or.inr (by rw [h1])
  · exact Or.inl (mem_filter.mp h1).1

/-- Only the part `X0` of the list that can hold `k` changes: in a collision node the entry
found, in a bitmap or array node the entry for the chunk of `k`. -/
theorem Bind.splice {k : α} {nv : Option β} {A B X0 Y0 : List (α × β)} {ch : Bool}
    (hA : ∀ e ∈ A, r e.1 k = false) (hB : ∀ e ∈ B, r e.1 k = false)
    (h : Bind r k nv X0 Y0 ch) : Bind r k nv (A ++ X0 ++ B) (A ++ Y0 ++ B) ch := by
  have fA : A.filter (fun e => !r e.1 k) = A := filter_eq_self.mpr fun e he => by simp [hA e he]
  have fB : B.filter (fun e => !r e.1 k) = B := filter_eq_self.mpr fun e he => by simp [hB e he]
  have aA : A.any (fun e => r e.1 k) = false := any_eq_false.mpr fun e he => by simp [hA e he]
  have aB : B.any (fun e => r e.1 k) = false := any_eq_false.mpr fun e he => by simp [hB e he]
  refine ⟨?_, by rw [any_append, any_append, aA, aB, Bool.false_or, Bool.or_false]; exact h.changed⟩
  have hp := h.perm
  unfold bindL at hp ⊢
  rw [filter_append, filter_append, fA, fB, append_assoc, append_assoc]
  exact ((hp.append_right B).append_left A).trans
    (by rw [append_assoc]; exact perm_append_comm_assoc _ _ _)

/-- the entries `mid` with key equal to `k` (none or one) make way for the binding of `k` -/
theorem Bind.mid {k : α} {mid : List (α × β)} (hmid : ∀ e ∈ mid, r e.1 k = true) (nv : Option β) :
    Bind r k nv mid (nv.toList.map (Prod.mk k)) (mid.isEmpty == nv.isSome) := by
  have : mid.filter (fun e => !r e.1 k) = [] := filter_eq_nil_iff.mpr fun e he => by simp [hmid e he]
  refine ⟨by rw [bindL, this, append_nil], ?_⟩
  cases mid with
  | nil => cases nv <;> rfl
  | cons e m => simp [hmid e (mem_cons_self ..)]

theorem Bind.same {k : α} {X : List (α × β)} (hX : ∀ e ∈ X, r e.1 k = false) : Bind r k none X X false := by
  have f : X.filter (fun e => !r e.1 k) = X := filter_eq_self.mpr fun e he => by simp [hX e he]
  have a : X.any (fun e => r e.1 k) = false := any_eq_false.mpr fun e he => by simp [hX e he]
  exact ⟨by rw [bindL, f]; rfl, by rw [a]; rfl⟩

theorem Bind.length (E : EqEquiv r) {k : α} {nv : Option β} {X Y : List (α × β)} {ch : Bool}
    (h : Bind r k nv X Y ch) (hnd : NoDupKeys r X) :
    (Y.length : Int) = X.length + (if ch then (if nv.isSome then 1 else -1) else 0) := by
  have hl := length_bindL E k nv hnd
  rw [← h.perm.length_eq] at hl
  have hc := h.changed
  rw [any_key_eq_isSome_lookup] at hc
  subst hc
  cases hs : (lookup r X k).isSome <;> cases hn : nv.isSome <;> simp [hs, hn] at hl ⊢ <;> omega

end C07
