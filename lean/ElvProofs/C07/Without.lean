/-
`node.without`: on a well-formed node it succeeds and unbinds `k` (`without_spec`).
The node it returns is the receiver itself, the global empty node, or a new node.
-/
import ElvProofs.C07.Collision
import ElvProofs.C07.Repack
namespace C07
open Go Gen.C07Bits

variable {K V : Type} {eq : K → K → Bool} {hashf : K → UInt32}

/-- what the parent does with the result of `child.without` -/
def stepOf : Res (WRes K V × Bool) → Res (Step K V)
  | .ok (.same, _) => .ok .keep
  | .ok (.emptyPtr, _) => .ok .drop
  | .ok (.fresh c, del) => .ok (.replace c del)
  | .exc e => .exc e
  | .panic w => .panic w

theorem withoutAt_eq (eq : K → K → Bool) (es : List (Entry K V)) (i : Nat) (shift hash : UInt32) (k : K) :
    withoutAt eq es i shift hash k =
      match es[i]? with
      | none => .panic "index out of range"
      | some (.kv k0 _) => .ok (if eq k0 k then .drop else .keep)
      | some (.sub child) => stepOf (child.without eq (nextShift shift) hash k) := by
  induction es generalizing i with
  | nil => simp [withoutAt]
  | cons e es ih =>
    cases i with
    | zero =>
      cases e with
      | kv k0 v0 => simp [withoutAt]; split <;> rfl
      | sub child =>
        simp only [withoutAt, List.getElem?_cons_zero, stepOf]
        split <;> simp_all
    | succ i => cases e <;> simp [withoutAt, ih]

theorem withoutChild_eq (eq : K → K → Bool) (cs : List (Option (Node K V))) (i : Nat)
    (shift hash : UInt32) (k : K) :
    withoutChild eq cs i shift hash k =
      match cs[i]? with
      | none => outside "arrayNode.children shorter than 32"
      | some none => .ok .keep
      | some (some child) => stepOf (child.without eq (nextShift shift) hash k) := by
  induction cs generalizing i with
  | nil => simp [withoutChild]
  | cons c cs ih =>
    cases i with
    | zero =>
      cases c with
      | none => simp [withoutChild]
      | some child =>
        simp only [withoutChild, List.getElem?_cons_zero, stepOf]
        split <;> simp_all
    | succ i => cases c <;> simp [withoutChild, ih]

/-- the entry a `without` result stands for in the parent (`none`: the global empty node) -/
def WRes.kid (n : Node K V) : WRes K V → Option (Entry K V)
  | .same => some (.sub n)
  | .emptyPtr => none
  | .fresh m => some (.sub m)

/-- what `n.without(shift, hash(k), k)` returning `(r, deleted)` guarantees -/
structure WPost (eq : K → K → Bool) (hashf : K → UInt32) (d : Nat) (n : Node K V) (k : K)
    (r : WRes K V) (deleted : Bool) : Prop where
  wf : ∀ m, r = .fresh m → WF eq hashf d m ∧ m.toAList ≠ []
  upd : Bind eq k none n.toAList (optAL (r.kid n)) deleted
  same : (r = .same) ↔ deleted = false

/-- the entry for the chunk of `k` holds no key equal to `k` -/
theorem wpost_same (L : Lawful eq hashf) {d : Nat} {n : Node K V} (hwf : WF eq hashf d n) (hn : Framed n)
    {k : K} (h : Bind eq k none (optAL (kid n (chunkN d (hashf k)))) (optAL (kid n (chunkN d (hashf k)))) false) :
    WPost eq hashf d n k .same false :=
  ⟨(fun _ hm => nomatch hm), Bind.frame L hwf hn hn (fun _ _ _ => rfl) h, by simp⟩

theorem wpost_fresh {d : Nat} {n m : Node K V} {k : K}
    (h : SubWF eq hashf d (some (.sub m)) ∧ Bind eq k none n.toAList m.toAList true) :
    WPost eq hashf d n k (.fresh m) true :=
  ⟨fun m' hm => by cases hm; exact h.1 m rfl, h.2, by simp⟩

theorem WPost.deleted {d : Nat} {n : Node K V} {k : K} {r : WRes K V} {del : Bool}
    (hp : WPost eq hashf d n k r del) (hr : r ≠ .same) : del = true := by
  cases del
  · exact absurd (hp.same.mpr rfl) hr
  · rfl

theorem exists_other_bit {bm : UInt32} {c : Nat} (hc : c < 32) (hne : bm ≠ bitU c) (hb : hasBit bm c = true) :
    ∃ i, i < 32 ∧ i ≠ c ∧ hasBit bm i = true := by
  apply Classical.byContradiction
  intro hno
  apply hne
  apply UInt32.toNat_inj.mp
  rw [bitU_toNat c hc]
  apply Nat.eq_of_testBit_eq
  intro i
  rw [Nat.testBit_two_pow]
  by_cases hi : c = i
  · subst hi; simpa [hasBit] using hb
  · have : hasBit bm i = false := by
      cases h : hasBit bm i
      · rfl
      · exfalso
        apply hno
        refine ⟨i, ?_, fun e => hi e.symm, h⟩
        rcases Nat.lt_or_ge i 32 with h32 | h32
        · exact h32
        · rw [hasBit_ge bm i h32] at h; cases h
    simpa [hasBit, hi] using this

/-- the entry for the chunk of `k` disappears: `(*bitmapNode).withoutEntry` -/
theorem wpost_bitmap_drop (L : Lawful eq hashf) {d : Nat} {bm : UInt32} {es : List (Entry K V)} {k : K}
    (hwf : WF eq hashf d (.bitmap bm es)) {x : Entry K V}
    (hx : slot bm es (chunkN d (hashf k)) = some x)
    (hupd : Bind eq k none (entryAL x) [] true) :
    ∃ r, bitmapWithoutEntry bm es (bitU (chunkN d (hashf k))) (rank bm (chunkN d (hashf k))) = .ok r ∧
      WPost eq hashf d (.bitmap bm es) k r true := by
  have hlen : es.length = rank bm 32 := by cases hwf; assumption
  have hd : d ≤ 6 := hwf.framed_depth hlen
  have hc := chunkN_lt d (hashf k)
  have hb := hasBit_of_slot hx
  have hr := rank_lt_len hlen hc hb
  unfold bitmapWithoutEntry
  by_cases hbe : (bm == bitU (chunkN d (hashf k))) = true
  · -- the only entry: the empty node
    have hbm : bm = bitU (chunkN d (hashf k)) := by simpa using hbe
    have hu := Bind.frame (n := .bitmap bm es) (n' := emptyBitmapNode) L hwf hlen
      framed_empty (k := k) (nv := none) (ch := true)
      (by
        intro c _ hcc
        have : kid (.bitmap bm es) c = none := by
          apply slot_none_of_not_hasBit
          rw [hbm, ← UInt32.zero_or (a := bitU _), hasBit_or_bitU _ _ _ hc, hasBit_zero]
          simpa using fun e => hcc e.symm
        rw [this, kid_empty])
      (by rw [kid_empty, kid, hx]; exact hupd)
    exact ⟨.emptyPtr, by rw [if_pos hbe], (fun _ hm => nomatch hm), hu, by simp⟩
  · have hbm : bm ≠ bitU (chunkN d (hashf k)) := by simpa using hbe
    have hlen' : (es.eraseIdx (rank bm (chunkN d (hashf k)))).length = rank (bm ^^^ bitU (chunkN d (hashf k))) 32 := by
      have := rank32_xor hc hb
      rw [List.length_eraseIdx_of_lt hr]; omega
    have hkid := fun c => slot_erase (es := es) hc hb c
    refine ⟨.fresh (.bitmap (bm ^^^ bitU (chunkN d (hashf k))) (es.eraseIdx (rank bm (chunkN d (hashf k))))),
      by simp [hbe, withoutEntry, hr], wpost_fresh ?_⟩
    refine Bind.frame_set (n' := .bitmap _ _) L hwf hlen hlen' (wf_bitmap hd hlen') hx hkid (SubWF.none _) hupd ?_
    obtain ⟨i, hi, hic, hbi⟩ := exists_other_bit hc hbm hb
    obtain ⟨z, hz, _⟩ := slot_isSome hlen hi hbi
    exact ⟨i, hi, z, by rw [kid, hkid, if_neg hic, hz]⟩

/-- the child for the chunk of `k` becomes empty: the node shrinks, into a bitmap node
when it is left with fewer than 8 children -/
theorem wpost_array_drop (L : Lawful eq hashf) {d : Nat} {nc : Int} {cs : List (Option (Node K V))} {k : K}
    (hwf : WF eq hashf d (.array nc cs)) {child : Node K V}
    (hx : cs[chunkN d (hashf k)]? = some (some child))
    (hupd : Bind eq k none child.toAList [] true) :
    ∃ m, (if nc ≤ ((nodeCap / 4 : Nat) : Int) then do
            let p ← pack nc cs (chunkN d (hashf k))
            pure (WRes.fresh p, true)
          else Res.ok (WRes.fresh (.array (nc + -1) (cs.set (chunkN d (hashf k)) none)), true)) = .ok (.fresh m, true) ∧
      WPost eq hashf d (.array nc cs) k (.fresh m) true := by
  have hd : d ≤ 5 := by cases hwf; assumption
  have hlen : cs.length = 32 := by cases hwf; assumption
  have hnc : nc = (cs.countP Option.isSome : Nat) := by cases hwf; assumption
  have hmin : 8 ≤ nc := by cases hwf; assumption
  by_cases hsmall : nc ≤ ((nodeCap / 4 : Nat) : Int)
  · obtain ⟨bm', es', hpack, hl1, hl2, hslot⟩ := pack_spec nc cs _ child hlen hnc hx
    refine ⟨.bitmap bm' es', by rw [if_pos hsmall, hpack]; rfl, wpost_fresh ?_⟩
    refine Bind.frame_set (n' := .bitmap bm' es') (x := some (.sub child)) L hwf hlen hl1 (wf_bitmap (by omega) hl1)
      (by rw [kid_array, hx]; rfl) hslot (SubWF.none _) hupd ?_
    -- 7 children are left
    obtain ⟨c, hc, hb, hr⟩ := exists_chunk_of_index bm' 32 0 (by omega)
    obtain ⟨z, hz, _⟩ := slot_isSome hl1 hc hb
    exact ⟨c, hc, z, hz⟩
  · have hbig : 8 < nc := by simp [nodeCap] at hsmall; omega
    exact ⟨_, by rw [if_neg hsmall], wpost_fresh
      (Bind.array_set (o := none) (nc' := nc + -1) L hwf hx (by simp; omega) (by omega) (SubWF.none _) hupd)⟩

theorem without_collision (L : Lawful eq hashf) (d : Nat) (h : UInt32) (kvs : List (K × V)) (k : K)
    (hwf : WF eq hashf d (.collision h kvs)) (shift hash : UInt32) :
    ∃ r del, (Node.collision h kvs).without eq shift hash k = .ok (r, del) ∧
      WPost eq hashf d (.collision h kvs) k r del := by
  have hnd : NoDupKeys eq kvs := by cases hwf; assumption
  have hne : kvs ≠ [] := by cases hwf; assumption
  cases hf : findIndex eq k kvs with
  | none =>
    have hX : ∀ e ∈ kvs, eq e.1 k = false := fun e he =>
      eq_false_symm L (by simpa using List.findIdx?_eq_none_iff.mp hf e he)
    exact ⟨.same, false, by simp [Node.without, hf], (fun _ hm => nomatch hm), Bind.same hX, by simp⟩
  | some i =>
    obtain ⟨hi, hsplit, hpi, hA, hB⟩ := around_found L hf hnd
    have hu := Bind.splice hA hB (Bind.mid (mid := [kvs[i]]) (by simpa using hpi) (none : Option V))
    rw [← hsplit] at hu
    simp only [Option.toList_none, List.map_nil, List.append_nil, ← List.eraseIdx_eq_take_drop_succ] at hu
    by_cases h1 : kvs.length = 1
    · have hnil : kvs.eraseIdx i = [] := List.eq_nil_of_length_eq_zero (by rw [List.length_eraseIdx_of_lt hi]; omega)
      rw [hnil] at hu
      exact ⟨.emptyPtr, true, by simp [Node.without, hf, h1], (fun _ hm => nomatch hm), hu, by simp⟩
    · have hne' : kvs.eraseIdx i ≠ [] := by
        intro e
        have := congrArg List.length e
        rw [List.length_eraseIdx_of_lt hi] at this
        have : kvs.length ≠ 0 := fun e => hne (List.eq_nil_of_length_eq_zero e)
        simp at *; omega
      have hk : hashf k = h := by
        cases hwf with
        | collision _ hh _ => exact (L.hash _ _ hpi).symm.trans (hh _ (List.getElem_mem hi))
      have hw := wf_splice L d (hsplit ▸ hwf) hA hB hk (none : Option V)
        (by simpa [← List.eraseIdx_eq_take_drop_succ] using hne')
      simp only [Option.toList_none, List.map_nil, List.append_nil, ← List.eraseIdx_eq_take_drop_succ] at hw
      exact ⟨.fresh (.collision h (kvs.eraseIdx i)), true,
        by simp [Node.without, hf, h1, withoutEntry, hi], wpost_fresh ⟨hw, hu⟩⟩

theorem without_spec (L : Lawful eq hashf) {d : Nat} {n : Node K V} (h : WF eq hashf d n) :
    ∀ k, ∃ r del, n.without eq (shiftOf d) (hashf k) k = .ok (r, del) ∧ WPost eq hashf d n k r del := by
  induction h with
  | @bitmap d bm es hd hlen hkv hsub hkeys ih =>
    intro k
    have hwf : WF eq hashf d (.bitmap bm es) := WF.bitmap hd hlen hkv hsub hkeys
    have hd7 : d ≤ 7 := by omega
    have hc := chunkN_lt d (hashf k)
    rw [Node.without]
    simp only [bitpos_eq d hd7, and_bitU_eq_zero _ _ hc, index_bitU _ _ hc, withoutAt_eq, nextShift_shiftOf]
    cases hb : hasBit bm (chunkN d (hashf k))
    · refine ⟨.same, false, by simp, wpost_same L hwf hlen ?_⟩
      rw [kid, slot_none_of_not_hasBit hb]
      exact Bind.same (by simp)
    · obtain ⟨x, hx, hxi⟩ := slot_isSome hlen hc hb
      have hr := rank_lt_len hlen hc hb
      have hkeep := wpost_same L hwf hlen (k := k)
      rw [kid, hx] at hkeep
      simp only [Bool.not_true, Bool.false_eq_true, if_false, hxi]
      cases x with
      | kv k0 v0 =>
        by_cases he : eq k0 k = true
        · obtain ⟨r, hbw, hp⟩ := wpost_bitmap_drop L hwf hx
            (Bind.mid (mid := [(k0, v0)]) (by simpa using he) none)
          exact ⟨r, true, by simp [he, hbw], hp⟩
        · simp only [Bool.not_eq_true] at he
          exact ⟨.same, false, by simp [he], hkeep (Bind.same (by simpa using he))⟩
      | sub child =>
        obtain ⟨r', del', hw, hp⟩ := ih _ child hc hx k
        simp only [hw, stepOf]
        cases r' with
        | same =>
          obtain rfl := hp.same.mp rfl
          exact ⟨.same, false, by simp, hkeep hp.upd⟩
        | emptyPtr =>
          obtain rfl := hp.deleted (by simp)
          obtain ⟨r, hbw, hpp⟩ := wpost_bitmap_drop L hwf hx hp.upd
          exact ⟨r, true, by simp [hbw], hpp⟩
        | fresh c' =>
          obtain rfl := hp.deleted (by simp)
          exact ⟨_, true, by simp [replaceEntry, hr],
            wpost_fresh (Bind.bitmap_set L hwf hx (SubWF.sub (hp.wf c' rfl).1 (hp.wf c' rfl).2) hp.upd)⟩
  | @array d nc cs hd hlen hnc hmin hsub hkeys ih =>
    intro k
    have hwf : WF eq hashf d (.array nc cs) := WF.array hd hlen hnc hmin hsub hkeys
    have hd7 : d ≤ 7 := by omega
    have hc := chunkN_lt d (hashf k)
    have hcl : chunkN d (hashf k) < cs.length := by omega
    have hkeep := wpost_same L hwf hlen (k := k)
    rw [Node.without]
    simp only [chunk_toNat d hd7, withoutChild_eq, nextShift_shiftOf, List.getElem?_eq_getElem hcl]
    rw [kid_array, List.getElem?_eq_getElem hcl] at hkeep
    cases hx : cs[chunkN d (hashf k)] with
    | none =>
      rw [hx] at hkeep
      exact ⟨.same, false, by simp, hkeep (Bind.same (by simp))⟩
    | some child =>
      have hxs : cs[chunkN d (hashf k)]? = some (some child) := by
        rw [List.getElem?_eq_getElem hcl, hx]
      obtain ⟨r', del', hw, hp⟩ := ih _ child hxs k
      simp only [hw, stepOf]
      cases r' with
      | same =>
        obtain rfl := hp.same.mp rfl
        rw [hx] at hkeep
        exact ⟨.same, false, by simp, hkeep hp.upd⟩
      | emptyPtr =>
        obtain rfl := hp.deleted (by simp)
        obtain ⟨m, hm, hpp⟩ := wpost_array_drop L hwf hxs hp.upd
        exact ⟨.fresh m, true, hm, hpp⟩
      | fresh c' =>
        obtain rfl := hp.deleted (by simp)
        exact ⟨_, true, by simp, wpost_fresh (Bind.array_set (o := some c') (nc' := nc + 0) L hwf hxs
          (by simp) (by omega) (SubWF.sub (hp.wf c' rfl).1 (hp.wf c' rfl).2) hp.upd)⟩
  | @collision d h kvs hne hh hnd =>
    intro k
    exact without_collision L d h kvs k (WF.collision hne hh hnd) _ _

end C07
