/-
C07 — Maps are immutable dictionaries, including under hash collisions.

The model `ElvModel/C07/Model.lean` mirrors pkg/persistent/hashmap/hashmap.go; the bit
arithmetic `Gen.C07Bits` is generated from the Go source.  `eq`, `hashf` are arbitrary with
`Lawful eq hashf` (`eq` an equivalence, `eq`-keys hash alike).  A key is `Option K`: `none` is
Go's nil key, kept in a separate slot.  `WFMap` is the representation invariant.  That earlier
versions are never changed holds by construction (the model is purely functional); on the Go
side it is only checked by the oracle re-observing every earlier version.
-/
import ElvProofs.C07.History
import ElvProofs.C07.Iter
open C07 Go Gen.C07Bits

variable {K V : Type}

/-- The generated `popCount` counts the set bits, for all 2^32 inputs. -/
theorem C07_popCount_correct (u : UInt32) : (popCount u).toNat = bcN 32 u.toNat :=
  popCount_toNat u

example : (popCount 0xdeadbeef).toNat = 24 ∧ bcN 32 0xdeadbeef = 24 := by decide

/-- For a set bit `1 << c` of `bitmap`, `index(bitmap, bit)` is a valid index into
an entry list of `popCount(bitmap)` entries — and is the number of set bits below
`c`. -/
theorem C07_index_lt_popCount (bitmap : UInt32) (c : Nat) (hc : c < 32)
    (hset : bitmap &&& ((1 : UInt32) <<< UInt32.ofNat c) ≠ 0) :
    (index bitmap ((1 : UInt32) <<< UInt32.ofNat c)).toNat < (popCount bitmap).toNat ∧
      (index bitmap ((1 : UInt32) <<< UInt32.ofNat c)).toNat = bcN c bitmap.toNat := by
  rw [one_shl_eq_bitU c hc] at hset ⊢
  have hb : hasBit bitmap c = true := by
    have := and_bitU_eq_zero bitmap c hc
    cases h : hasBit bitmap c
    · rw [h] at this; simp at this; exact absurd this hset
    · rfl
  rw [index_bitU _ _ hc, popCount_eq_rank]
  exact ⟨rank_lt_of_hasBit bitmap hc hb, rfl⟩

example : (0x14 : UInt32) &&& ((1 : UInt32) <<< UInt32.ofNat 4) ≠ 0 := by decide

/-- Collision handling terminates: two different 32-bit hashes differ in one of
the seven 5-bit chunks at shift 0, 5, …, 30 (stated about the generated `chunk`). -/
theorem C07_hash_differ_chunk (h1 h2 : UInt32) (hne : h1 ≠ h2) :
    ∃ d, d ≤ 6 ∧ chunk (UInt32.ofNat (5 * d)) h1 ≠ chunk (UInt32.ofNat (5 * d)) h2 := by
  apply Classical.byContradiction
  intro hno
  apply hne
  apply eq_of_chunkN_eq
  intro d hd
  apply Classical.byContradiction
  intro hd'
  refine hno ⟨d, hd, fun e => hd' ?_⟩
  rw [← chunk_toNat d (by omega) h1, ← chunk_toNat d (by omega) h2]
  exact congrArg UInt32.toNat e

example : (0x40000000 : UInt32) ≠ 0x80000000 := by decide

theorem C07_new_wf (eq : K → K → Bool) (hashf : K → UInt32) :
    WFMap eq hashf (HashMap.new : HashMap K V) ∧
      ∀ k, (HashMap.new : HashMap K V).index eq hashf k = .ok none := by
  refine ⟨⟨wf_empty eq hashf, by simp [HashMap.new, HashMap.toAList, emptyBitmapNode]⟩, ?_⟩
  intro k
  cases k with
  | none => rfl
  | some k =>
    exact (find_kid eq (d := 0) (by omega) framed_empty (hashf k) k).trans (by rw [kid_empty]; rfl)

/-- `Index` never fails on a well-formed map. -/
theorem C07_index_total {eq : K → K → Bool} {hashf : K → UInt32} {m : HashMap K V}
    (hm : WFMap eq hashf m) (k : Option K) : ∃ r, m.index eq hashf k = .ok r := by
  cases k with
  | none => exact ⟨_, rfl⟩
  | some k => exact find_ok hm.root (hashf k) k

/-- On a well-formed map `Assoc(k, v)` succeeds (no panic; the recursion budget `assocFuel`
suffices, i.e. collision handling terminates), the result is well-formed, `Index(k')` then
returns `v` for keys equal to `k` and is unchanged for the others, and `Len` grows by one
exactly when `k` was absent. -/
theorem C07_index_assoc {eq : K → K → Bool} {hashf : K → UInt32} (L : Lawful eq hashf)
    {m : HashMap K V} (hm : WFMap eq hashf m) (fuel : Nat) (hfuel : assocFuel ≤ fuel)
    (k : Option K) (v : V) :
    ∃ m', m.assoc eq hashf fuel k v = .ok m' ∧ WFMap eq hashf m' ∧
      (∀ k' old, m.index eq hashf k' = .ok old →
        m'.index eq hashf k' = .ok (if keq eq k k' then some v else old)) ∧
      (∀ old, m.index eq hashf k = .ok old → m'.len = if old.isNone then m.len + 1 else m.len) := by
  obtain ⟨m', h1, hwf, hp⟩ := assoc_refines_reference L hm fuel hfuel k v
  obtain ⟨hidx, hlen⟩ := index_len_of_bind (k := k) (nv := some v) L hm hwf hp
  refine ⟨m', h1, hwf, hidx, fun old hold => ?_⟩
  have := hlen old hold
  cases old <;> simp at this ⊢ <;> omega

/-- On a well-formed map `Dissoc(k)` succeeds (no panic; in particular `pack` leaves no
zero-valued entry), the result is well-formed (so array nodes are packed back into bitmap nodes
and emptied children removed), `Index(k')` then finds nothing for keys equal to `k` and is
unchanged for the others, and `Len` shrinks by one exactly when `k` was present. -/
theorem C07_index_dissoc {eq : K → K → Bool} {hashf : K → UInt32} (L : Lawful eq hashf)
    {m : HashMap K V} (hm : WFMap eq hashf m) (k : Option K) :
    ∃ m', m.dissoc eq hashf k = .ok m' ∧ WFMap eq hashf m' ∧
      (∀ k' old, m.index eq hashf k' = .ok old →
        m'.index eq hashf k' = .ok (if keq eq k k' then none else old)) ∧
      (∀ old, m.index eq hashf k = .ok old → m'.len = if old.isSome then m.len - 1 else m.len) := by
  obtain ⟨m', h1, hwf, hp⟩ := dissoc_refines_reference L hm k
  obtain ⟨hidx, hlen⟩ := index_len_of_bind (k := k) (nv := none) L hm hwf hp
  refine ⟨m', h1, hwf, hidx, fun old hold => ?_⟩
  have := hlen old hold
  cases old <;> simp at this ⊢ <;> omega

/-- non-vacuity: a lawful pair whose hash collides heavily (only 7 hash values). -/
theorem C07_lawful_example : Lawful (fun a b : Nat => a % 7 == b % 7) (fun n => UInt32.ofNat (n % 7)) :=
  ⟨by simp, by intro a b; simp; omega, by intro a b c; simp; omega,
   by intro a b h; simp at h; simp [h]⟩

/-- `Len` of a well-formed map is the number of entries. -/
theorem C07_len_exact {eq : K → K → Bool} {hashf : K → UInt32} {m : HashMap K V}
    (hm : WFMap eq hashf m) : m.len = (m.toAList.length : Int) := hm.count

/-- `m.toAList` (the nil-key entry first, then the trie in iteration order) has no two
entries with equal keys, and `Index(k) = v` exactly when it holds an entry `(k0, v)`
with `k0` equal to `k`. -/
theorem C07_contents_each_key_once {eq : K → K → Bool} {hashf : K → UInt32} (L : Lawful eq hashf)
    {m : HashMap K V} (hm : WFMap eq hashf m) :
    m.toAList.Pairwise (fun a b => keq eq a.1 b.1 = false) ∧
      ∀ k v, m.index eq hashf k = .ok (some v) ↔ ∃ k0, keq eq k0 k = true ∧ (k0, v) ∈ m.toAList := by
  refine ⟨nodup_toAList_map L hm, fun k v => ?_⟩
  rw [index_eq_refLookup L hm, Res.ok.injEq]
  exact lookup_eq_some_iff (keq_equiv L) (nodup_toAList_map L hm) k v

/-- `for it := m.Iterator(); it.HasElem(); it.Next() { it.Elem() }` on a well-formed map
never panics and yields exactly `m.toAList` (whose keys are pairwise different by
`C07_contents_each_key_once`); the step budget only has to cover the number of entries. -/
theorem C07_iterator_yields_contents {eq : K → K → Bool} {hashf : K → UInt32}
    {m : HashMap K V} (hm : WFMap eq hashf m) (fuel : Nat) (hfuel : m.toAList.length ≤ fuel) :
    m.iterate fuel = .ok m.toAList := by
  obtain ⟨hv, hr⟩ := iterator_spec (net_of_wf hm.root)
  have hl : m.root.iterator.rest.length ≤ fuel := by
    rw [hr]
    simp only [HashMap.toAList, List.length_append, List.length_map] at hfuel
    omega
  have := drain_spec fuel _ hv hl
  simp only [HashMap.iterate, this, hr, HashMap.toAList, ok_bind]
  cases m.nilV <;> rfl

/-- An operation on a map that simulates a reference dictionary (`Sim`) succeeds and the
results simulate again. -/
theorem C07_step_refines_reference {eq : K → K → Bool} {hashf : K → UInt32} (L : Lawful eq hashf)
    {m : HashMap K V} {r : List (Option K × V)} (hs : Sim eq hashf m r) (op : Op K V) :
    ∃ m', applyOp eq hashf m op = .ok m' ∧ Sim eq hashf m' (refApply eq r op) := by
  obtain ⟨m', h1, hwf, hp⟩ := applyOp_refines_reference L hs.wf op
  rw [refApply_eq_bindL] at hp ⊢
  obtain ⟨hidx, hlen⟩ := index_len_of_bind L hs.wf hwf hp
  refine ⟨m', h1, hwf, fun k' => ?_, ?_, hs.nodup.bindL (keq_equiv L) _ _⟩
  · rw [hidx k' _ (hs.index k')]
    exact congrArg _ (lookup_bindL (keq_equiv L) r op.key op.val k').symm
  · have hl : (bindL (keq eq) op.key op.val r).length + (if (refLookup eq r op.key).isSome then 1 else 0) =
        r.length + (if op.val.isSome then 1 else 0) := length_bindL (keq_equiv L) _ _ hs.nodup
    have hlen := hlen _ (hs.index op.key)
    have := hs.len
    cases hs' : (refLookup eq r op.key).isSome <;> cases hn : op.val.isSome <;>
      simp [hs', hn] at hl hlen ⊢ <;> omega

/-- The headline statement of C07.  For lawful `eq`/`hash`, every sequence of `Assoc`/`Dissoc`
with arbitrary keys (nil key and hash collisions included) run from `New` succeeds (no panic, no
budget exhaustion), the resulting map is well-formed, `Index` of every key equals lookup in the
reference dictionary run on the same history, and `Len` is the reference's size. -/
theorem C07_history_refines_reference {eq : K → K → Bool} {hashf : K → UInt32} (L : Lawful eq hashf)
    (ops : List (Op K V)) :
    ∃ m, runOps eq hashf ops (HashMap.new : HashMap K V) = .ok m ∧ WFMap eq hashf m ∧
      (∀ k, m.index eq hashf k = .ok (refLookup eq (refRun eq ops []) k)) ∧
      m.len = ((refRun eq ops []).length : Int) := by
  obtain ⟨m, h1, hwf, hp⟩ := runOps_refines_reference L ops (C07_new_wf eq hashf).1
  refine ⟨m, h1, hwf, fun k => ?_, ?_⟩
  · rw [index_eq_refLookup L hwf]
    exact congrArg _ (lookup_perm (keq_equiv L) hp (nodup_toAList_map L hwf) k).symm
  · rw [C07_len_exact hwf, hp.length_eq]
    rfl

/-- non-vacuity of `WFMap`: a concrete history with replacement through an equal
but different key (1 ~ 8 ~ 15 mod 7), the nil key and a deletion reaches a well-formed
map of size 2. -/
example : ∃ m : HashMap Nat Nat,
    runOps (fun a b : Nat => a % 7 == b % 7) (fun n => UInt32.ofNat (n % 7))
      [.assoc (some 1) 10, .assoc (some 8) 11, .assoc none 5, .assoc (some 2) 20, .dissoc (some 15)]
      HashMap.new = .ok m ∧
    WFMap (fun a b : Nat => a % 7 == b % 7) (fun n => UInt32.ofNat (n % 7)) m ∧ m.len = 2 := by
  obtain ⟨m, h1, h2, _, h4⟩ := C07_history_refines_reference (V := Nat) C07_lawful_example
    [.assoc (some 1) 10, .assoc (some 8) 11, .assoc none 5, .assoc (some 2) 20, .dissoc (some 15)]
  refine ⟨m, h1, h2, ?_⟩
  rw [h4]
  decide

example : (runOps (fun a b : Nat => a == b) (fun _ => 7)
    [.assoc (some 1) 10, .assoc (some 2) 20, .assoc none 30, .dissoc (some 1), .assoc (some 2) 21]
    (HashMap.new : HashMap Nat Nat) >>= fun m => pure (m.len, m.toAList)) =
    .ok (2, [(none, 30), (some 2, 21)]) := by decide

/-- Without `eq a b → hashf a = hashf b` the conclusion fails: with an equivalence
`eq` (here: everything is equal) and a hash that separates two equal keys, two
`Assoc`s through the public API produce a map of size 2 holding both equal keys,
and `Index` of the first key no longer sees the second `Assoc`.  (C08's ±0.0
defect is an instance: `Equal 0.0 -0.0` but different hashes.) -/
theorem C07_unlawful_hash_two_eq_keys :
    ∃ (eq : Bool → Bool → Bool) (hashf : Bool → UInt32),
      EqEquiv eq ∧ eq true false = true ∧ hashf true ≠ hashf false ∧
      (do
        let m1 ← (HashMap.new : HashMap Bool Nat).assoc eq hashf assocFuel (some false) 1
        let m2 ← m1.assoc eq hashf assocFuel (some true) 2
        let i ← m2.index eq hashf (some false)
        pure (m2.len, m2.toAList, i)) = .ok (2, [(some true, 2), (some false, 1)], some 1) :=
  ⟨fun _ _ => true, fun b => if b then 1 else 2, ⟨by simp, by simp, by simp⟩, rfl, by decide, by decide⟩

