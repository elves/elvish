/-
C15 — theorems about the REFERENCE semantics (lean/ElvModel/C15/Interp.lean).  The property itself ("elvish =
reference on every core program") is established by correspondence (translation validation, harness/c15), not by a
theorem about pkg/eval; the theorems below show that the reference has the laws language.md states.
`C15_unfixed_stale_element_container` records a defect of pkg/eval that the comparison exposed.
-/
import ElvProofs.C15.Basic
import ElvProofs.C15.Sem
import ElvProofs.C15.Compound
import ElvProofs.C15.Scope
import ElvProofs.C15.SoundStep
import ElvProofs.C15.TermStep
import ElvProofs.C15.StreamLaws
set_option linter.unusedSimpArgs false
open C15

namespace C15.Ex
def put (es : List Expr) : Form := .cmd (.lit "put") es [] []
def cap (f : Form) : Expr := .capture (.mk [.mk [f]])
def ch (fs : List Form) : Chunk := .mk (fs.map fun f => .mk [f])
def lam (fs : List Form) : Expr := .lambda [] none [] [] [] (ch fs)
def vset (x : String) (e : Expr) : Form := .assign .set [.mk x false []] [e]
def vvar (x : String) (e : Expr) : Form := .assign .var [.mk x false []] [e]
def text (cfg : Cfg) (fs : List Form) : String := (runProgram cfg 60 (ch fs)).text

/-- `var x = old; var f = { put $x }; set x = new; $f` -/
def closureSeesAssignment : List Form :=
  [vvar "x" (.lit "old"), vvar "f" (lam [put [.var "x"]]), vset "x" (.lit "new"), .cmd (.var "f") [] [] []]
/-- language.md "var": `var x = old; fn f { put $x }; var x = new; put $x; f` -/
def shadowing : List Form :=
  [vvar "x" (.lit "old"), .fnF "f" (lam [put [.var "x"]]), vvar "x" (.lit "new"), put [.var "x"], .cmd (.lit "f") [] [] []]
/-- language.md "try": `try { fail bad } finally { put final }` -/
def tryFinally : List Form :=
  [.tryF (ch [.cmd (.lit "fail") [.lit "bad"] [] []]) none none none (some (ch [put [.lit "final"]]))]
/-- `for x [a b c] { if (eq $x b) { break }; put $x } else { put none }; put done` -/
def forBreak : List Form :=
  [.forF "x" (.list [.lit "a", .lit "b", .lit "c"])
      (ch [.ifF [cap (.cmd (.lit "eq") [.var "x", .lit "b"] [] [])] [ch [.cmd (.lit "break") [] [] []]] none,
           put [.var "x"]])
      (some (ch [put [.lit "none"]])),
   put [.lit "done"]]
/-- language.md "fn": `fn f { { put a; return }; put b }; f; put c` -/
def returnFallsThroughLambda : List Form :=
  [.fnF "f" (lam [.cmd (lam [put [.lit "a"], .cmd (.lit "return") [] [] []]) [] [] [], put [.lit "b"]]),
   .cmd (.lit "f") [] [] [], put [.lit "c"]]
/-- language.md "and": `and $false (fail foo)` -/
def andShortCircuit : List Form :=
  [.logic .and [.var "false", cap (.cmd (.lit "fail") [.lit "foo"] [] [])]]
/-- language.md "Braced list": `put {a b}-{1 2}` -/
def outerProduct : List Form :=
  [put [.compound [.braced [.lit "a", .lit "b"], .lit "-", .braced [.lit "1", .lit "2"]]]]
/-- `var l = [x y z]; set l[0] l[1] = a b; put $l` -/
def twoElementsOfOneVariable : List Form :=
  [vvar "l" (.list [.lit "x", .lit "y", .lit "z"]),
   .assign .set [.mk "l" false [.lit "0"], .mk "l" false [.lit "1"]] [.lit "a", .lit "b"],
   put [.var "l"]]
theorem forBreak_text : text {} forBreak = "ok|'a' 'done'" := by decide +kernel
theorem closureSeesAssignment_text : text {} closureSeesAssignment = "ok|'new'" := by decide +kernel
end C15.Ex

/-- Evaluation is a function of fuel, request and state. -/
theorem C15_deterministic (cfg : Cfg) (n : Nat) (c : Call) (s : St) (r₁ r₂ : Res (List Value))
    (h₁ : run cfg n c s = r₁) (h₂ : run cfg n c s = r₂) : r₁ = r₂ := h₁ ▸ h₂

/-- More fuel never changes a finished result. -/
theorem C15_fuel_monotone (cfg : Cfg) {n m : Nat} (c : Call) (s : St) (r : Res (List Value))
    (h : run cfg n c s = r) (hfin : r ≠ .oof) (hnm : n ≤ m) : run cfg m c s = r := by
  have := run_mono cfg hnm c s
  rw [h] at this
  exact Res.eq_of_le this hfin

/-- Program level: the outcome (outputs + exception) does not depend on the
fuel once the program has finished. -/
theorem C15_program_fuel_independent (cfg : Cfg) {n m : Nat} (p : Chunk) (outs : List Value)
    (e : Option Exc) (h : runProgram cfg n p = .done outs e) (hnm : n ≤ m) :
    runProgram cfg m p = .done outs e := by
  unfold runProgram at h ⊢
  cases hr : run cfg n (.pipes p.pipes) initSt with
  | oof => rw [hr] at h; cases h
  | unsupported w => rw [hr] at h; cases h
  | ok a s =>
    rw [C15_fuel_monotone cfg _ _ _ hr (by simp) hnm]; rw [hr] at h; exact h
  | exc x s =>
    rw [C15_fuel_monotone cfg _ _ _ hr (by simp) hnm]; rw [hr] at h; exact h

/-- Two runs of a program that both finish agree, whatever their fuel: the
reference assigns at most one outcome to a program. -/
theorem C15_outcome_unique (cfg : Cfg) (n m : Nat) (p : Chunk) (o₁ o₂ : List Value) (e₁ e₂ : Option Exc)
    (h₁ : runProgram cfg n p = .done o₁ e₁) (h₂ : runProgram cfg m p = .done o₂ e₂) :
    o₁ = o₂ ∧ e₁ = e₂ := by
  rcases Nat.le_total n m with h | h
  · have := C15_program_fuel_independent cfg p o₁ e₁ h₁ h
    rw [this] at h₂; cases h₂; exact ⟨rfl, rfl⟩
  · have := C15_program_fuel_independent cfg p o₂ e₂ h₂ h
    rw [this] at h₁; cases h₁; exact ⟨rfl, rfl⟩

/-- Fuel stability, sharpened: an evaluation that finishes with SOME fuel has a
least sufficient fuel `n₀` — with less it is out of fuel, with `n₀` or more the
result is always the one obtained with `n₀`. -/
theorem C15_least_fuel (cfg : Cfg) (c : Call) (s : St) (h : ∃ n, run cfg n c s ≠ .oof) :
    ∃ n₀, run cfg n₀ c s ≠ .oof ∧ (∀ m, m < n₀ → run cfg m c s = .oof) ∧
      (∀ m, n₀ ≤ m → run cfg m c s = run cfg n₀ c s) := by
  obtain ⟨n, hn⟩ := h
  -- strong induction: the least `k ≤ n` with a finished result
  have key : ∀ k, run cfg k c s ≠ .oof →
      ∃ n₀, run cfg n₀ c s ≠ .oof ∧ ∀ m, m < n₀ → run cfg m c s = .oof := by
    intro k
    induction k using Nat.strongRecOn with
    | ind k ih =>
      intro hk
      by_cases hex : ∃ j, j < k ∧ run cfg j c s ≠ .oof
      · obtain ⟨j, hj, hjn⟩ := hex
        exact ih j hj hjn
      · refine ⟨k, hk, fun m hm => ?_⟩
        exact Classical.byContradiction (fun hne => hex ⟨m, hm, hne⟩)
  obtain ⟨n₀, h1, h2⟩ := key n hn
  exact ⟨n₀, h1, h2, fun m hm => C15_fuel_monotone cfg c s _ rfl h1 hm⟩

/-- Fuel accounting for loops: fuel bounds the NESTING depth of evaluation and
each iteration is nested in the previous one, so a `for` loop costs one level
per element on top of what one run of its body needs — if (under a loop
invariant `I`) a run of the body finishes with fuel `b`, the loop over `items`
finishes with fuel `b + |items| + 1`. -/
theorem C15_for_fuel_accounting (cfg : Cfg) (a : Nat) (body : Chunk) (els : Option Chunk) (I : St → Prop)
    (b : Nat)
    (hbody : ∀ v s, I s →
      match loopReact (run cfg b (.body body [] s.scope false) { s with heap := s.heap.set a v }) with
      | .next s' => I s'
      | .oof => False
      | _ => True)
    (hels : ∀ c s, els = some c → I s → run cfg b (.body c [] s.scope false) s ≠ .oof)
    (items : List Value) (it : Bool) (s : St) (hI : I s) :
    run cfg (b + items.length + 1) (.forLoop a items body els it) s ≠ .oof := by
  induction items generalizing it s with
  | nil =>
    rw [forLoop_nil_eq]
    cases it <;> cases hels' : els <;> simp
    rename_i c
    have := hels c s hels' hI
    cases hr : run cfg b (.body c [] s.scope false) s <;> simp_all [Res.bind]
  | cons v vs ih =>
    have hlen : b + (v :: vs).length + 1 = (b + vs.length + 1) + 1 := by simp; omega
    rw [hlen, forLoop_cons_eq]
    have hb := hbody v s hI
    have hne : run cfg b (.body body [] s.scope false) { s with heap := s.heap.set a v } ≠ .oof := by
      intro h0; rw [h0] at hb; exact hb
    rw [C15_fuel_monotone cfg _ _ _ rfl hne (by omega : b ≤ b + vs.length + 1)]
    cases hr : loopReact (run cfg b (.body body [] s.scope false) { s with heap := s.heap.set a v }) with
    | next s' => rw [hr] at hb; exact ih true s' hb
    | stop s' => simp
    | throw e s' => simp
    | oof => rw [hr] at hb; exact hb.elim
    | unsupported w => simp

/-- Fuel sufficiency for a syntactic class.  `tChunk p`: no `while`; no function
values (no lambda, no `fn`; command heads are literal names other than `each` /
`keep-if`, and no declared name ends in `~`, so every command is a builtin);
`for` only over a literal list of string literals.  `cSz p` is a size of the
AST (every node counts at most 4, a `for` additionally the number of its
items).  Such a program never runs out of fuel when given more than `cSz p`:
it finishes, or leaves the modelled fragment.  (Outside the class no bound in
the size of the program exists — see the two programs below and notes/C15.md.) -/
theorem C15_fuel_sufficient (cfg : Cfg) (p : Chunk) (n : Nat) (hp : tChunk p = true) (hn : cSz p < n) :
    runProgram cfg n p ≠ .oof := by
  have h := program_total cfg p hp n hn
  unfold runProgram
  cases hr : run cfg n (.pipes p.pipes) initSt with
  | ok a s => simp
  | exc e s => simp
  | oof => rw [hr] at h; exact h.elim
  | unsupported w => simp

namespace C15.Ex
/-- `var f = { }; set f = { $f }; $f` — no `while`, no `fn`, no syntactic recursion: diverges -/
def knot : List Form :=
  [vvar "f" (lam []), vset "f" (lam [.cmd (.var "f") [] [] []]), .cmd (.var "f") [] [] []]
/-- `var l = [a a]`, three times `set l = [$@l $@l]`, `for x $l { }`: 16 iterations from 6 commands
(`k` doublings: 2^(k+1) iterations, one level of fuel each) -/
def doubling : List Form :=
  [vvar "l" (.list [.lit "a", .lit "a"])] ++
  List.replicate 3 (vset "l" (.list [.explode "l", .explode "l"])) ++
  [.forF "x" (.var "l") (ch []) none, put [.lit "done"]]
end C15.Ex

-- non-vacuity: a program of the class (for / if / break / captures) and its size; programs outside the class
example : tChunk (Ex.ch Ex.forBreak) = true := by decide +kernel
example : cSz (Ex.ch Ex.forBreak) = 50 := by decide +kernel
example : Ex.text {} Ex.forBreak = "ok|'a' 'done'" := Ex.forBreak_text
example : tChunk (Ex.ch Ex.closureSeesAssignment) = false := by decide +kernel
example : tChunk (Ex.ch Ex.knot) = false := by decide +kernel
example : (runProgram {} 100 (Ex.ch Ex.knot)).text = "FUEL" := by decide +kernel
example : tChunk (Ex.ch Ex.doubling) = false := by decide +kernel
example : (runProgram {} 24 (Ex.ch Ex.doubling)).text = "FUEL" := by decide +kernel
example : (runProgram {} 25 (Ex.ch Ex.doubling)).text = "ok|'done'" := by decide +kernel

-- non-vacuity: a terminating evaluation; a loop over three items with an empty body (b = 2)
example : ∃ n, run {} n (.pipes (Ex.ch Ex.closureSeesAssignment).pipes) initSt ≠ .oof :=
  ⟨60, Res.ne_oof_of_finished (by decide +kernel)⟩
example : run {} (2 + 3 + 1) (.forLoop 0 [.nil, .nil, .nil] (.mk []) none false) initSt ≠ .oof :=
  C15_for_fuel_accounting {} 0 (.mk []) none (fun _ => True) 2
    (by intro v s _; rw [body_eq, Chunk.pipes, pipes_nil_eq]; trivial)
    (by intro c s h; cases h) [.nil, .nil, .nil] false initSt trivial

-- non-vacuity: a program that finishes with fuel 60 and one that does not with fuel 3
example : Ex.text {} Ex.closureSeesAssignment = "ok|'new'" := Ex.closureSeesAssignment_text
example : (runProgram {} 3 (Ex.ch Ex.closureSeesAssignment)).text = "FUEL" := by decide +kernel

/-- `try … finally { fb }` = the protected part (try-, catch- and else-block,
`tryProtected`, which does not mention `fb`), then ONE evaluation of `fb` from
the state the protected part left, whichever way it ended (`pending` = `ok` or
the exception to rethrow); an exception of `fb` replaces the pending one,
otherwise the pending outcome takes effect afterwards (language.md "try", 4–5). -/
theorem C15_finally_exactly_once (cfg : Cfg) (n : Nat) (body : Chunk) (cv : Option String)
    (cb eb : Option Chunk) (fb : Chunk) (s : St) :
    run cfg (n + 1) (.form (.tryF body cv cb eb (some fb))) s =
      match den (run cfg n) (tryProtected body cv cb eb) s with
      | .ok pending s1 => finallyThen pending (run cfg n (.body fb [] s1.scope false) s1)
      | .exc e s1 => .exc e s1
      | .oof => .oof
      | .unsupported w => .unsupported w := by
  rw [run_succ]
  simp only [step, evalForm, den_bind, Res.bind]
  cases den (run cfg n) (tryProtected body cv cb eb) s with
  | ok pending s1 =>
    simp only [den_bind, den_runBlock, Res.bind]
    cases run cfg n (.body fb [] s1.scope false) s1 with
    | ok r s2 =>
      cases pending with
      | ok u => simp [finallyThen, Res.bind, rethrow, liftE, den_pure]
      | error e => simp [finallyThen, Res.bind, rethrow, liftE, den_throw]
    | exc e s2 => simp [finallyThen, Res.bind]
    | oof => rfl
    | unsupported w => rfl
  | exc e s1 => rfl
  | oof => rfl
  | unsupported w => rfl

/-- …and no exit path of the protected part bypasses the finally-block: the
protected part never propagates an exception (the second branch above is dead). -/
theorem C15_finally_not_bypassed (cfg : Cfg) (n : Nat) (body : Chunk) (cv : Option String)
    (cb eb : Option Chunk) (s : St) (e : Exc) (s' : St) :
    den (run cfg n) (tryProtected body cv cb eb) s ≠ .exc e s' :=
  tryProtected_no_exc body cv cb eb s e s'

/-- A finally-block that throws replaces the pending exception; one that
succeeds lets it through ("the original exception is lost" / "rethrown"). -/
theorem C15_finally_outcome (pending : Except Exc Unit) (r : Res (List Value)) :
    (∀ e s2, r = .exc e s2 → finallyThen pending r = .exc e s2) ∧
    (∀ vs s2 e, r = .ok vs s2 → pending = .error e → finallyThen pending r = .exc e s2) ∧
    (∀ vs s2 u, r = .ok vs s2 → pending = .ok u → finallyThen pending r = .ok [] s2) := by
  refine ⟨?_, ?_, ?_⟩ <;> intros <;> subst_vars <;> rfl

example : Ex.text {} Ex.tryFinally = "?(fail 'bad')|'final'" := by decide +kernel

/-- One iteration of `for`: the body's `break` ends the loop normally (no
further element, no else-block), `continue` and normal completion go on with
the next element, any other exception leaves the loop. -/
theorem C15_for_consumes_break_continue (cfg : Cfg) (n a : Nat) (v : Value) (vs : List Value)
    (body : Chunk) (els : Option Chunk) (it : Bool) (s : St) :
    run cfg (n + 1) (.forLoop a (v :: vs) body els it) s =
      match loopReact (run cfg n (.body body [] s.scope false) { s with heap := s.heap.set a v }) with
      | .next s' => run cfg n (.forLoop a vs body els true) s'
      | .stop s' => .ok [] s'
      | .throw e s' => .exc e s'
      | .oof => .oof
      | .unsupported w => .unsupported w :=
  forLoop_cons_eq cfg n a v vs body els it s

/-- The same for `while`. -/
theorem C15_while_consumes_break_continue (cfg : Cfg) (n : Nat) (cond : Expr) (body : Chunk)
    (els : Option Chunk) (it : Bool) (s s1 : St) (vs : List Value)
    (hc : run cfg n (.expr cond) s = .ok vs s1) (ht : allTrue vs = true) :
    run cfg (n + 1) (.whileLoop cond body els it) s =
      match loopReact (run cfg n (.body body [] s1.scope false) s1) with
      | .next s' => run cfg n (.whileLoop cond body els true) s'
      | .stop s' => .ok [] s'
      | .throw e s' => .exc e s'
      | .oof => .oof
      | .unsupported w => .unsupported w := by
  refine (den_bind (rec (.expr cond)) _ s).trans ?_
  rw [den_rec, hc]
  show den (run cfg n) (if allTrue vs = true then _ else _) s1 = _
  rw [if_pos ht]
  exact den_loopBody body _ _

/-- What a loop does with the outcome of its body, spelled out. -/
theorem C15_loopReact_cases (e : Exc) (s : St) :
    (e.kind = "break" → loopReact (.exc e s) = .stop s) ∧
    (e.kind = "continue" → loopReact (.exc e s) = .next s) ∧
    (e.kind ≠ "break" → e.kind ≠ "continue" → loopReact (.exc e s) = .throw e s) := by
  refine ⟨?_, ?_, ?_⟩
  · intro h; simp [loopReact, h]
  · intro h; simp [loopReact, h]
  · intro h1 h2; simp [loopReact, h1, h2]

/-- A function defined with `fn` consumes `return`; an ordinary lambda lets it
(and `break`, `continue`, every exception) through — after restoring the
caller's scope and running the `tmp` restores. -/
theorem C15_fn_consumes_return_lambda_does_not (cfg : Cfg) (n : Nat) (c : Chunk) (frame : Frame)
    (env : Scope) (s t : St) (e : Exc)
    (h : run cfg n (.pipes c.pipes) (enter frame env s) = .exc e t) :
    (e.kind = "return" → run cfg (n + 1) (.body c frame env true) s = .ok [] (leave s t)) ∧
    (run cfg (n + 1) (.body c frame env false) s = .exc e (leave s t)) ∧
    (e.kind ≠ "return" → run cfg (n + 1) (.body c frame env true) s = .exc e (leave s t)) := by
  refine ⟨?_, ?_, ?_⟩
  · intro hk; rw [body_eq, h]; simp [hk]
  · rw [body_eq, h]; simp
  · intro hk; rw [body_eq, h]; simp [hk]

example : Ex.text {} Ex.forBreak = "ok|'a' 'done'" := Ex.forBreak_text
example : Ex.text {} Ex.returnFallsThroughLambda = "ok|'a' 'c'" := by decide +kernel

/-- If an argument yields a value at which the command stops (`and`: booleanly
false, `or`: booleanly true, `coalesce`: non-nil), that value is output and the
remaining arguments `es` are NOT evaluated: the result does not depend on them. -/
theorem C15_logic_short_circuit (cfg : Cfg) (n : Nat) (k : LKind) (e : Expr) (es : List Expr)
    (last v : Value) (vs : List Value) (s s1 : St)
    (he : run cfg n (.expr e) s = .ok vs s1) (hv : vs.find? (logicStop k) = some v) :
    run cfg (n + 1) (.logicArgs k (e :: es) last) s = .ok [] { s1 with out := s1.out ++ [v] } := by
  rw [run_succ]
  simp only [step, den_bind, den_rec, he, Res.bind]
  simp [hv, emit, den_modifySt, den_bind, den_pure, Res.bind]

/-- Without arguments (left): `and` outputs `$true`, `or` `$false`, `coalesce` `$nil`
— the value the command was started with. -/
theorem C15_logic_no_more_arguments (cfg : Cfg) (n : Nat) (k : LKind) (last : Value) (s : St) :
    run cfg (n + 1) (.logicArgs k [] last) s = .ok [] { s with out := s.out ++ [last] } := by
  rw [run_succ]
  simp [step, emit, den_modifySt, den_bind, den_pure, Res.bind]

/-- The stopping conditions are the ones of language.md. -/
theorem C15_logic_stop_conditions (v : Value) :
    (logicStop .and v = !truthy v) ∧ (logicStop .or v = truthy v) ∧
    (logicStop .coalesce v = true ↔ v ≠ .nil) := by
  refine ⟨rfl, rfl, ?_⟩
  cases v <;> simp [logicStop]

example : Ex.text {} Ex.andShortCircuit = "ok|$false" := by decide +kernel

/-- A compound expression whose parts evaluate to `p :: ps` has, when the
concatenations succeed, exactly `|p| * |ps₁| * …` values. -/
theorem C15_compound_length (p : List Value) (ps : List (List Value)) (xs : List Value)
    (h : compoundAll (p :: ps) = .ok xs) : xs.length = lenProd (p :: ps) :=
  compoundFrom_length ps p xs h

/-- The interpreter computes exactly this fold: a compound expression combines
(`outer`) the values so far with the values of the next part, part by part
(`compoundAll (p :: ps)` is that fold over already evaluated parts). -/
theorem C15_compound_step (cfg : Cfg) (n : Nat) (acc : List Value) (e : Expr) (es : List Expr) (s : St) :
    run cfg (n + 1) (.compoundFrom acc (e :: es)) s =
      (run cfg n (.expr e) s).bind (fun us s1 =>
        match outer acc us with
        | .ok acc' => run cfg n (.compoundFrom acc' es) s1
        | .error x => .exc x s1) ∧
    run cfg (n + 1) (.compoundFrom acc []) s = .ok acc s := by
  refine ⟨?_, rfl⟩
  rw [run_succ]
  simp only [step, den_bind, den_rec]
  cases run cfg n (.expr e) s with
  | ok us s1 =>
    simp only [Res.bind]
    cases outer acc us with
    | ok acc' => simp [liftE, den_pure, den_rec, Res.bind]
    | error x => simp [liftE, den_throw, Res.bind]
  | exc x s1 => rfl
  | oof => rfl
  | unsupported w => rfl

/-- In particular a part without values makes the whole expression evaluate to no value. -/
theorem C15_compound_empty_part (p : List Value) (ps : List (List Value)) (xs : List Value)
    (h : compoundAll (p :: ps) = .ok xs) (hz : [] ∈ (p :: ps)) : xs = [] := by
  have hl := C15_compound_length p ps xs h
  have key : ∀ l : List (List Value), [] ∈ l → lenProd l = 0 := by
    intro l
    induction l with
    | nil => intro hm; cases hm
    | cons q qs ih =>
      intro hm
      cases hm with
      | head => simp [lenProd]
      | tail _ h' => simp [lenProd, ih h']
  have := key _ hz
  rw [this] at hl
  exact List.length_eq_zero_iff.mp hl

example : Ex.text {} Ex.outerProduct = "ok|'a-1' 'a-2' 'b-1' 'b-2'" := by decide +kernel

/-- A function literal closes over the scope chain — names bound to storage
locations, not to values. -/
theorem C15_lambda_closes_over_locations (cfg : Cfg) (n : Nat) (pos : List String) (rest : Option String)
    (post : List String) (body : Chunk) (s : St) :
    run cfg (n + 2) (.expr (.lambda pos rest post [] [] body)) s =
      .ok [.closure s.nextId pos rest post [] [] body s.scope false] { s with nextId := s.nextId + 1 } := by
  rw [run_succ]
  simp only [step, evalExpr, den_bind, den_rec]
  have : run cfg (n + 1) (.exprsEach []) s = .ok [] s := by rw [run_succ]; rfl
  rw [this]
  simp [Res.bind, oneEach, den_pure, den_bind, freshId, den, interp, getSt]
  rfl

/-- Upvalue law: called in ANY later state `s`, the function `{ put $x }`
created in a scope `env` where `x` names location `a` outputs what location
`a` holds in `s` — it sees every assignment made since it was created. -/
theorem C15_closure_sees_later_assignments (cfg : Cfg) (n id : Nat) (x : String) (env : Scope) (a : Nat)
    (v : Value) (s : St) (hx : env.find x = some a) (hv : s.heap[a]? = some v)
    (hput : env.find "put~" = none) :
    run cfg (n + 8) (.call (.closure id [] none [] [] [] (.mk [.mk [.cmd (.lit "put") [.var x] [] []]]) env false)
        [] [] []) s = .ok [] { s with out := s.out ++ [v] } := by
  rw [call_closure_eq, body_eq]
  have hf : run cfg (n + 4) (.form (.cmd (.lit "put") [.var x] [] [])) (enter [] env s) =
      .ok [] { enter [] env s with out := (enter [] env s).out ++ [v] } :=
    put_var_eq cfg n x a v (enter [] env s) (by simp [enter, Scope.find, Frame.find, hx])
      (by simpa [enter] using hv) (by simp [enter, Scope.find, Frame.find, hput])
  simp only [Chunk.pipes, pipes_cons_eq, pipeline_single_eq, hf, Res.bind, pipes_nil_eq]
  simp [leave, enter, applyDefers]

example : Ex.text {} Ex.closureSeesAssignment = "ok|'new'" := Ex.closureSeesAssignment_text
example : Ex.text {} Ex.shadowing = "ok|'new' 'old'" := by decide +kernel

/-- A program the resolver accepts never reaches "variable not found" at run
time (language.md "Scoping rule": "Elvish resolves all variables in a code
chunk before starting to execute any of it"). -/
def C15_scope_sound_full : Prop :=
  ∀ (cfg : Cfg) (n : Nat) (p : Chunk) (outs : List Value) (e : Exc),
    accepts p = true → runProgram cfg n p = .done outs (some e) → e.kind ≠ "variable-not-found"

/-- Proof: an invariant preserved by every request of the big-step evaluator
(`Pre`/`Post` in `ElvProofs/C15/Spec.lean`, `step_sound`, `run_sound`):
the dynamic scope chain has, frame by frame, exactly the names of the
resolver's static scope (`Agree`); every value in a variable, on a port, saved
by `tmp`, passed as argument or in flight is well-formed (`VWf`: each function
value has a default for every option and its body resolves against the names
of the scope chain it closes over; no exception value is of class
"variable-not-found", so `fail $e` cannot re-raise one); after a command the
scope chain is the one the resolver computed (`rForm … = some sc'`), and where
declarations are not allowed it is unchanged, also when an exception is thrown. -/
theorem C15_scope_sound : C15_scope_sound_full := by
  intro cfg n p outs e hacc hrun
  have h := program_sound cfg n p hacc
  unfold runProgram at hrun
  cases hr : run cfg n (.pipes p.pipes) initSt with
  | ok a s => rw [hr] at hrun; cases hrun
  | exc e' s =>
    rw [hr] at hrun h
    cases hrun
    exact h.2.1.1
  | oof => rw [hr] at hrun; cases hrun
  | unsupported w => rw [hr] at hrun; cases hrun

/-- The invariant also gives: the final state of an accepted program holds only
well-formed values and, when the program finishes normally, its scope chain is
the one the resolver computed for the end of the program. -/
theorem C15_scope_invariant_at_exit (cfg : Cfg) (n : Nat) (p : Chunk) (sc' : SScope) (vs : List Value)
    (s : St) (hacc : rPipes initSScope true p.pipes = some sc')
    (hrun : run cfg n (.pipes p.pipes) initSt = .ok vs s) : StWf s ∧ Agree s.scope sc' := by
  have h := program_sound cfg n p (by unfold accepts; rw [hacc]; rfl)
  rw [hrun] at h
  exact ⟨h.1, h.2.2.2 vs rfl sc' hacc⟩

namespace C15.Ex
/-- `var x = a; fn f {|&o=$x| put $o $x }; var x = b; f; f &o=c; del x; fail $x` is rejected;
without the last command it is accepted and runs. -/
def scopeProg : List Form :=
  [vvar "x" (.lit "a"),
   .fnF "f" (.lambda [] none [] ["o"] [.var "x"] (ch [put [.var "o", .var "x"]])),
   vvar "x" (.lit "b"),
   .cmd (.lit "f") [] [] [],
   .cmd (.lit "f") [] ["o"] [.lit "c"],
   .del [.mk "x" false []]]
/-- an accepted program that ends with another exception -/
def scopeProgFail : List Form := scopeProg ++ [.cmd (.lit "fail") [.lit "boom"] [] []]
/-- not an AST of any source text: option `o` without default value; such a
function would not bind `o` when called (the resolver rejects it) -/
def optionWithoutDefault : List Form :=
  [.cmd (.lambda [] none [] ["o"] [] (ch [put [.var "o"]])) [] [] []]
end C15.Ex

-- non-vacuity: accepted programs that run (one to the end, one into an exception of another class);
-- ill-scoped programs are rejected; the option/default check of the resolver is needed
example : accepts (Ex.ch Ex.scopeProg) = true := by decide +kernel
example : Ex.text {} Ex.scopeProg = "ok|'a' 'a' 'c' 'a'" := by decide +kernel
example : accepts (Ex.ch Ex.scopeProgFail) = true := by decide +kernel
example : Ex.text {} Ex.scopeProgFail = "?(fail 'boom')|'a' 'a' 'c' 'a'" := by decide +kernel
example : accepts (Ex.ch (Ex.scopeProg ++ [Ex.put [.var "x"]])) = false := by decide +kernel
example : accepts (Ex.ch Ex.optionWithoutDefault) = false := by decide +kernel
example : Ex.text {} Ex.optionWithoutDefault = "?(variable-not-found)|" := by decide +kernel

/-- Local form of the agreement used by the invariant: wherever the dynamic
scope chain has the names the resolver assumed (`sscopeOf s.scope = sc`), a
variable use the resolver accepted finds its variable; and declaring /
deleting a variable keeps the two in agreement. -/
theorem C15_scope_agreement_local (cfg : Cfg) (n : Nat) (x : String) (sc : SScope) (s : St)
    (hs : sscopeOf s.scope = sc) (hr : rExpr sc (.var x) = true) :
    (∀ e s', run cfg (n + 1) (.expr (.var x)) s = .exc e s' → False) ∧
    (∀ (f : Frame) (rest : Scope) (y : String) (a : Nat),
      sscopeOf (((y, a) :: f.filter (fun p => p.1 != y)) :: rest) = (sscopeOf (f :: rest)).declare y) ∧
    (∀ (f : Frame) (rest : Scope) (y : String), (f.map Prod.fst).contains y = true →
      (sscopeOf (f :: rest)).undeclare y = some (sscopeOf (f.filter (fun p => p.1 != y) :: rest))) := by
  refine ⟨?_, sscopeOf_declare, sscopeOf_undeclare⟩
  intro e s' h
  rw [var_use_eq] at h
  have hfound : (s.scope.find x).isSome = true := by
    rw [find_isSome_eq_has, hs]; simpa [rExpr] using hr
  cases hf : s.scope.find x with
  | none => rw [hf] at hfound; cases hfound
  | some a =>
    rw [hf] at h
    cases hh : s.heap[a]? with
    | none => simp [hh] at h
    | some v => simp [hh] at h

-- non-vacuity: the top-level scope after `var x = …`
example : rExpr [["x"], ["true", "false", "nil", "ok"]] (.var "x") = true := by decide +kernel
example : accepts (Ex.ch Ex.shadowing) = true := by decide +kernel
example : accepts (Ex.ch [Ex.put [.var "nope"]]) = false := by decide +kernel

/-- `var l = [x y z]; set l[0] l[1] = a b; put $l`: the reference assigns both
elements (`[a b z]`).  pkg/eval before commit 798ebe2 kept, for an lvalue with
indices, the container read when the lvalue was evaluated (`staleElem`), and
lost the first assignment (`[x b z]`).  The program and
`var l = [x y z]; set l[0] = (set l = [p q r]; put a); put $l` are the first
two corpus programs: the check fails again if the defect returns. -/
theorem C15_unfixed_stale_element_container :
    Ex.text { staleElem := false } Ex.twoElementsOfOneVariable = "ok|['a' 'b' 'z']" ∧
    Ex.text { staleElem := true } Ex.twoElementsOfOneVariable = "ok|['x' 'b' 'z']" := by
  constructor <;> decide +kernel

/-- The `compact` COMMAND of the reference: it takes everything from the input
port and writes `compact` of it to the output — nothing else changes. -/
theorem C15_compact_command (s : St) :
    callBuiltin "compact" [] [] [] s = .ret () { s with inp := [], out := s.out ++ compact s.inp } ∧
    (∀ vs, callBuiltin "compact" [.list vs] [] [] s = .ret () { s with out := s.out ++ compact vs }) :=
  ⟨rfl, fun _ => rfl⟩

/-- `compact` removes EXACTLY the consecutive duplicates: (1) the output has no
two equal neighbours; (2) it is a subsequence of the input; (3) an input
without equal neighbours is output unchanged; (4) compacting again changes
nothing; (5) the first value is always kept — whatever it is (`$nil` included); (6) nothing in, nothing out and only then;
(7) step by step: the second value is dropped iff it equals the first. -/
theorem C15_compact_exactly_consecutive_duplicates (vs : List Value) :
    NoAdj (compact vs) = true ∧
    List.Sublist (compact vs) vs ∧
    (NoAdj vs = true → compact vs = vs) ∧
    compact (compact vs) = compact vs ∧
    (∀ v rest, vs = v :: rest → (compact vs).head? = some v) ∧
    (compact vs = [] ↔ vs = []) ∧
    (∀ v w rest, vs = v :: w :: rest →
      compact vs = if veq v w then compact (v :: rest) else v :: compact (w :: rest)) :=
  ⟨compact_noAdj vs, compact_sublist vs, compact_of_noAdj, compact_idem vs,
   fun v rest h => by subst h; exact compact_head v rest, compact_eq_nil,
   fun v w rest h => by subst h; exact compact_cons_cons v w rest⟩

-- non-vacuity: `put $nil $nil a | compact`, runs at both ends, no runs
example : compact [.nil, .nil, .str "a"] = [.nil, .str "a"] := by rfl
example : compact [.str "a", .str "a", .str "b", .str "b", .str "c"] = [.str "a", .str "b", .str "c"] := by rfl
example : compact [.str "a", .str "b", .str "a"] = [.str "a", .str "b", .str "a"] := by rfl
example : compact [.bool false, .list [], .list [], .map [], .nil, .nil] = [.bool false, .list [], .map [], .nil] := by rfl
example : NoAdj [.str "a", .str "b", .str "a"] = true := by decide +kernel
example : Ex.text {} [.cmd (.lit "put") [.var "nil", .var "nil", .lit "a"] [] []] = "ok|$nil $nil 'a'" := by decide +kernel
example : (runProgram {} 60 (.mk [.mk [.cmd (.lit "put") [.var "nil", .var "nil", .lit "a"] [] [], .cmd (.lit "compact") [] [] []]])).text
    = "ok|$nil 'a'" := by decide +kernel

/-- `dissoc`: "If `$map` does not contain `$k` as a key, the same map is returned." -/
theorem C15_dissoc_absent_key (m : List (Value × Value)) (k : Value) (h : mapGet m k = none) :
    dissocB (.map m) k = .vals [.map m] := by
  show PRes.vals [.map (mapDel m k)] = _
  rw [mapDel_absent h]

example : mapGet [(.str "foo", .str "bar")] (.str "k") = none := by rfl

/-- `make-map`: "If the same key appears multiple times, the last value is used"
(for a key that equals itself — every value of the exact fragment does). -/
theorem C15_make_map_last_wins (k v1 v2 : Value) (hk : veq k k = true) :
    makeMap [.list [k, v1], .list [k, v2]] = .vals [.map [(k, v2)]] := by
  simp [makeMap, makeMapFrom, makeMapPair, mapPut, mapDel, hk]

example : veq (.str "k") (.str "k") = true := by decide +kernel
example : makeMap [.list [.nil, .str "a"], .str "kv"] = .vals [.map [(.nil, .str "a"), (.str "k", .str "v")]] := by rfl

/-- `assoc` on a map: afterwards the key is there (`has-key`) with the new
value, whatever was there before; `conj`: "The output is the same as
`[$@list $more...]`". -/
theorem C15_assoc_then_lookup (m : List (Value × Value)) (k v : Value) (hk : veq k k = true) :
    assocB (.map m) k v = .vals [.map (mapPut m k v)] ∧
    hasKey (.map (mapPut m k v)) k = .vals [.bool true] ∧
    indexValue (.map (mapPut m k v)) k = .ok v ∧
    (∀ vs more, conjB (.list vs) more = .vals [.list (vs ++ more)]) := by
  have hget : mapGet (mapPut m k v) k = some v := by
    unfold mapGet mapPut mapDel
    rw [List.find?_append]
    have : List.find? (fun kv => veq kv.1 k) (List.filter (fun kv => !veq kv.1 k) m) = none := by
      rw [List.find?_eq_none]
      intro kv hkv
      have := (List.mem_filter.mp hkv).2
      simpa using this
    rw [this]
    simp [hk]
  refine ⟨rfl, ?_, ?_, fun _ _ => rfl⟩
  · show PRes.vals [.bool (mapGet (mapPut m k v) k).isSome] = _
    rw [hget]; rfl
  · show (match mapGet (mapPut m k v) k with
      | some v => Except.ok v
      | none => Except.error Exc.noSuchKey) = _
    rw [hget]

example : assocB (.map [(.str "k", .str "v")]) (.str "k") .nil = .vals [.map [(.str "k", .nil)]] := by rfl
