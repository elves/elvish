/-
C18 — the full invariant holds in every reachable state.
-/
import ElvProofs.C18.Steps
import ElvProofs.C18.Mpe
namespace C18

theorem Label.eq_waitRet {l : Label} (h : l.stage? = none) : l = .waitRet := by
  cases l <;> simp [Label.stage?] at h ⊢

theorem step_waitRet {cfg : Cfg} {s : State} (hc : s.crashed = false) :
    step cfg s .waitRet =
      if s.result = none ∧ s.wg = 0 then some { s with result := some (mpeSpec (s.excs cfg)) } else none := by
  simp only [step, hc, Label.stage?, stepWaitRet, makePipelineError_eq, Bool.false_eq_true, ↓reduceIte,
    Bool.true_eq_false]

theorem all_init (cfg : Cfg) : AllInv cfg (State.init cfg) := by
  refine ⟨⟨fun k => ?_, fun j => ?_, rfl⟩, ⟨?_, ?_⟩, fun j => ?_⟩
  · constructor <;> simp [State.init, Link.init, Stage.init]
  · constructor <;> simp [State.init, Stage.init]
  · show cfg.n = sumTo (notDone (State.init cfg)) cfg.n
    generalize cfg.n = k
    induction k with
    | zero => rfl
    | succ k ih => rw [sumTo, ← ih]; rfl
  · intro r hr; simp [State.init] at hr
  · constructor <;> simp [State.init, Stage.init]

/-- The WaitGroup counter keeps counting the stages that are not done: a stage step changes the
count only when it makes its stage done, and then `wg.Done` decrements the counter. -/
theorem StageStep.ginv {cfg : Cfg} {s s' : State} {i : Nat} (h : StageStep cfg s s' i) (hi : i < cfg.n)
    (hg : GInv cfg s) : GInv cfg s' := by
  have hle := h.around.stage.pcLe
  have hpc := h.pc
  have hlive : notDone s i = 1 := by rw [notDone, if_neg (by omega)]
  refine ⟨?_, fun r hr => ?_⟩
  · have hwg := h.wg
    rw [hg.wg] at hwg
    have hother : ∀ j, j ≠ i → notDone s' j = notDone s j := fun j hj => by simp only [notDone, h.stages j hj]
    by_cases h9 : (s'.stage i).pc = 9
    · have := sumTo_dec hi (g := notDone s') (by rw [hlive, notDone, if_pos h9]) hother
      rw [if_pos h9] at hwg
      omega
    · have := sumTo_congr (k := cfg.n) (g := notDone s') (f := notDone s) fun j _ => by
        by_cases hj : j = i
        · subst hj; rw [hlive, notDone, if_neg h9]
        · exact hother j hj
      rw [if_neg h9] at hwg
      omega
  · -- no stage steps once `exec` has its result
    rw [h.res] at hr
    have hz := (hg.res r hr).1
    rw [hg.wg, sumTo_eq_zero] at hz
    rw [hz i hi] at hlive
    cases hlive

theorem all_step {cfg : Cfg} {s s' : State} {l : Label} (ha : AllInv cfg s) (h : step cfg s l = some s') :
    AllInv cfg s' := by
  cases hl : l.stage? with
  | some i =>
    have hs := ha.stageStep hl h
    have hp := hs.preserves ha.inv ha.err
    exact ⟨hp.1, hs.ginv ((step_guard h).2 i hl) ha.g, hp.2⟩
  | none =>
    cases Label.eq_waitRet hl
    rw [step_waitRet ha.inv.2.2] at h
    split at h <;> cases h
    rename_i hgd
    -- the invariants do not read `result`
    exact ⟨⟨fun k => { ha.inv.1 k with }, fun j => { ha.inv.2.1 j with }, ha.inv.2.2⟩,
      ⟨ha.g.wg, fun r hr => by cases hr; exact ⟨hgd.2, makePipelineError_eq _⟩⟩, fun j => { ha.err j with }⟩

theorem reachable_all {cfg : Cfg} {s : State} (h : Reachable cfg s) : AllInv cfg s := by
  induction h with
  | init => exact all_init cfg
  | step l _ hs ih => exact all_step ih hs

end C18
