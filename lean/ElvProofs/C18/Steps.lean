/-
C18 — every stage label is a `StageStep`: label by label, the invariant around the stepping stage
is shown again from the invariant around it, and the branches that end in a Go panic are excluded.
-/
import ElvProofs.C18.Local
namespace C18
variable {cfg : Cfg} {s s' : State} {i : Nat}

theorem stepPutBeg_spec (v : Val) (ha : Around cfg s i) (h : stepPutBeg s i v = some s') : StageStep cfg s s' i := by
  simp only [stepPutBeg] at h
  split at h <;> cases h
  rename_i hg
  exact .port ha hg.1 (ha.stage.setOut (fun _ => ⟨hg.1, hg.2.2⟩) trivial)

theorem stepEnq_spec (ha : Around cfg s i) (h : stepEnq cfg s i = some s') : StageStep cfg s s' i := by
  simp only [stepEnq] at h
  (repeat' split at h) <;> cases h
  · -- a send on a closed channel: but a channel is closed only once its writer is past `form.exec`
    rename_i v hout hr hn hcl
    have hbusy := ha.stage.outBusy (by simp [hout])
    have := (ha.out.pC.mp hcl).2
    omega
  · rename_i v hout hr hn hcl hcap
    have hbusy := ha.stage.outBusy (by simp [hout])
    refine .portOut ha hbusy.1 (ha.stage.setOut (fun _ => hbusy) trivial)
      { ha.out with queue := ?_, cap := ?_, sawC := fun hsaw => absurd (ha.out.sawC hsaw).1 hcl }
    · simp [ha.out.queue]
    · simp; omega
  · rename_i v hout hr hn
    have hbusy := ha.stage.outBusy (by simp [hout])
    exact .port ha hbusy.1 (ha.stage.setOut (fun _ => hbusy) trivial)

theorem stepSelStop_spec (ha : Around cfg s i) (h : stepSelStop cfg s i = some s') : StageStep cfg s s' i := by
  simp only [stepSelStop] at h
  split at h
  next v hout =>
    have hbusy := ha.stage.outBusy (by simp [hout])
    split at h
    next hr =>
      cases h
      exact .port ha hbusy.1 (ha.stage.setOut (fun _ => hbusy) ⟨fun h0 => by omega, fun _ => rfl⟩)
    next =>
      (repeat' split at h) <;> cases h
      · rename_i hr _ _
        exact .port ha hbusy.1 (ha.stage.setOut (fun _ => hbusy) ⟨fun _ => rfl, fun h2 => by omega⟩)
      · -- `sendStop` is closed only after `*sendError` was set
        rename_i hstop herr
        exact absurd (ha.out.stopErr hstop) herr
  next => cases h

theorem stepPutEnd_spec (ha : Around cfg s i) (h : stepPutEnd s i = some s') : StageStep cfg s s' i := by
  simp only [stepPutEnd] at h
  split at h <;> cases h
  rename_i r hout
  exact .port ha (ha.stage.outBusy (by simp [hout])).1 (ha.stage.setOut (fun hne => absurd rfl hne) trivial)

theorem stepWriteBeg_spec (bs : List Byte) (ha : Around cfg s i) (h : stepWriteBeg s i bs = some s') :
    StageStep cfg s s' i := by
  simp only [stepWriteBeg] at h
  split at h <;> cases h
  rename_i hg
  refine .port ha hg.1 (ha.stage.setOut (fun _ => ⟨hg.1, hg.2.2⟩) ?_)
  split
  · trivial
  · assumption

theorem LinkOk.write {k : Nat} {l : Link} {w r : Stage} (h : LinkOk cfg k l w r) (bs : List Byte)
    (hcap : l.pipe.length + bs.length ≤ cfg.pcap) (hopen : l.wClosed = false) :
    LinkOk cfg k { l with pipe := l.pipe ++ bs, bsent := l.bsent ++ bs } w r :=
  { h with
    bqueue := by simp [h.bqueue]
    bcap := by simpa using hcap
    sawE := fun hsaw => by simp [(h.sawE hsaw).1] at hopen }

theorem stepWr_spec (k : Nat) (ha : Around cfg s i) (h : stepWr cfg s i k = some s') : StageStep cfg s s' i := by
  simp only [stepWr] at h
  split at h
  next todo n hout =>
    have hbusy := ha.stage.outBusy (by simp [hout])
    split at h
    next hk =>
      split at h
      next hr =>
        split at h
        next hg =>
          cases h
          -- a writing stage has not closed the pipe
          have hopen : (s.link i).wClosed = false := by
            cases hw : (s.link i).wClosed
            · rfl
            · have := (ha.out.pW.mp hw).2; omega
          refine .portOut ha hbusy.1 (ha.stage.setOut (fun _ => hbusy) ?_)
            (ha.out.write (todo.take k) (by simp; omega) hopen)
          split
          · trivial
          · assumption
        next => cases h
      next =>
        split at h <;> cases h
        exact .port ha hbusy.1 (ha.stage.setOut (fun _ => hbusy) trivial)
    next => cases h
  next => cases h

theorem stepWrEpipe_spec (ha : Around cfg s i) (h : stepWrEpipe cfg s i = some s') : StageStep cfg s s' i := by
  simp only [stepWrEpipe] at h
  (repeat' split at h) <;> cases h
  rename_i todo n hout hg
  have hbusy := ha.stage.outBusy (by simp [hout])
  exact .port ha hbusy.1 (ha.stage.setOut (fun _ => hbusy) rfl)

theorem stepWriteEnd_spec (ha : Around cfg s i) (h : stepWriteEnd s i = some s') : StageStep cfg s s' i := by
  simp only [stepWriteEnd] at h
  split at h <;> cases h
  rename_i n e hout
  exact .port ha (ha.stage.outBusy (by simp [hout])).1 (ha.stage.setOut (fun hne => absurd rfl hne) trivial)

theorem stepTakeBeg_spec (ha : Around cfg s i) (h : stepTakeBeg s i = some s') : StageStep cfg s s' i := by
  simp only [stepTakeBeg] at h
  split at h <;> cases h
  rename_i hg
  exact .port ha hg.1 (ha.stage.setVin fun _ => hg.1)

theorem stepDeq_spec (ha : Around cfg s i) (h : stepDeq s i = some s') : StageStep cfg s s' i := by
  simp only [stepDeq] at h
  (repeat' split at h) <;> cases h
  rename_i hvin hg _ v rest hq
  have hpc := ha.stage.vinBusy (by simp [hvin])
  have hin := ha.inp hg.1
  refine .portIn ha hpc hg.1 (ha.stage.setVin fun _ => hpc)
    { hin with queue := ?_, cap := ?_, sawC := fun hsaw => by simp [(hin.sawC hsaw).2] at hq }
  · simp [hin.queue, hq]
  · have := hin.cap
    rw [hq, List.length_cons] at this
    show rest.length ≤ cfg.cap
    omega

theorem stepDeqClosed_spec (ha : Around cfg s i) (h : stepDeqClosed s i = some s') : StageStep cfg s s' i := by
  simp only [stepDeqClosed] at h
  (repeat' split at h) <;> cases h
  · rename_i hvin hg hcl
    have hpc := ha.stage.vinBusy (by simp [hvin])
    exact .portIn ha hpc hg.1 (ha.stage.setVin fun _ => hpc) { ha.inp hg.1 with sawC := fun _ => ⟨hcl.2, hcl.1⟩ }
  · rename_i hvin hg
    have hpc := ha.stage.vinBusy (by simp [hvin])
    exact .port ha hpc (ha.stage.setVin fun _ => hpc)

theorem stepTakeEnd_spec (ha : Around cfg s i) (h : stepTakeEnd s i = some s') : StageStep cfg s s' i := by
  simp only [stepTakeEnd] at h
  split at h <;> cases h
  rename_i r hvin
  exact .port ha (ha.stage.vinBusy (by simp [hvin])) (ha.stage.setVin fun hne => absurd rfl hne)

theorem stepReadBeg_spec (max : Nat) (ha : Around cfg s i) (h : stepReadBeg s i max = some s') :
    StageStep cfg s s' i := by
  simp only [stepReadBeg] at h
  split at h <;> cases h
  rename_i hg
  exact .port ha hg.1 (ha.stage.setBin (fun _ => hg.1) fun m e => by cases e; exact hg.2.2)

theorem stepRd_spec (k : Nat) (ha : Around cfg s i) (h : stepRd s i k = some s') : StageStep cfg s s' i := by
  simp only [stepRd] at h
  (repeat' split at h) <;> cases h
  rename_i max hbin hg hk
  have hpc := ha.stage.binBusy (by simp [hbin])
  have hin := ha.inp hg.1
  refine .portIn ha hpc hg.1 (ha.stage.setBin (fun _ => hpc) nofun)
    { hin with bqueue := ?_, bcap := ?_, sawE := fun hsaw => ⟨(hin.sawE hsaw).1, by simp [(hin.sawE hsaw).2]⟩ }
  · rw [List.append_assoc, List.take_append_drop]; exact hin.bqueue
  · have := hin.bcap
    simp only [List.length_drop]
    omega

theorem stepRdEof_spec (ha : Around cfg s i) (h : stepRdEof s i = some s') : StageStep cfg s s' i := by
  simp only [stepRdEof] at h
  (repeat' split at h) <;> cases h
  · rename_i max hbin hg hcl
    have hpc := ha.stage.binBusy (by simp [hbin])
    exact .portIn ha hpc hg.1 (ha.stage.setBin (fun _ => hpc) nofun) { ha.inp hg.1 with sawE := fun _ => ⟨hcl.2, hcl.1⟩ }
  · rename_i max hbin hg
    have hpc := ha.stage.binBusy (by simp [hbin])
    exact .port ha hpc (ha.stage.setBin (fun _ => hpc) nofun)

theorem stepReadEnd_spec (ha : Around cfg s i) (h : stepReadEnd s i = some s') : StageStep cfg s s' i := by
  simp only [stepReadEnd] at h
  split at h <;> cases h
  rename_i r hbin
  exact .port ha (ha.stage.binBusy (by simp [hbin])) (ha.stage.setBin (fun hne => absurd rfl hne) nofun)

theorem StageOk.idle {st : Stage} (h : StageOk cfg i st) (hpc : st.pc ≠ 1) :
    st.out = .idle ∧ st.vin = .idle ∧ st.bin = .idle :=
  ⟨Decidable.byContradiction fun hne => hpc (h.outBusy hne).1, Decidable.byContradiction fun hne => hpc (h.vinBusy hne),
    Decidable.byContradiction fun hne => hpc (h.binBusy hne)⟩

theorem stepStart_spec (ha : Around cfg s i) (hi : i < cfg.n) (h : stepStart s i = some s') : StageStep cfg s s' i := by
  simp only [stepStart] at h
  split at h <;> cases h
  rename_i hpc
  have hS := ha.stage
  obtain ⟨hout, hvin, hbin⟩ := hS.idle (by omega)
  refine .plain
    { hS with
      outBusy := fun hne => absurd hout hne
      vinBusy := fun hne => absurd hvin hne
      binBusy := fun hne => absurd hbin hne
      redir1 := fun _ => rfl
      pcLe := (by decide : 1 ≤ 9)
      inRedirPc := fun _ => Nat.le_refl 1
      outRedirPc := fun _ => Nat.le_refl 1
      retvPc := ⟨fun _ => (by decide : 1 < 2), fun _ => hS.retvPc.mpr (by omega)⟩
      range := fun hn => by omega }
    (ha.out.writer rfl (.inl ⟨by omega, (by decide : 1 < 7)⟩))
    (fun h0 => (ha.inp h0).reader rfl (.inl ⟨by omega, (by decide : 1 < 3)⟩))
    (.inl ⟨by omega, (by decide : 1 ≤ 2)⟩)

theorem stepRedirIn_spec (ha : Around cfg s i) (hi : i < cfg.n) (h : stepRedirIn s i = some s') :
    StageStep cfg s s' i := by
  simp only [stepRedirIn] at h
  split at h
  next hg =>
    have hS : StageOk cfg i { s.stage i with inRedir := true } :=
      { ha.stage with inRedirPc := fun _ => (by omega : 1 ≤ (s.stage i).pc) }
    have hpc : (s.stage i).pc ≤ 1 ∧ (s.stage i).pc ≤ 2 := by omega
    split at h <;> cases h
    · rename_i h0
      have hin := ha.inp h0
      exact .withIn h0 hS { ha.out with } { hin with cR := ⟨fun _ => ⟨by omega, .inl rfl⟩, fun _ => rfl⟩ } (.inl hpc)
    · rename_i h0
      exact .plain hS { ha.out with } (fun h => absurd h h0) (.inl hpc)
  next => cases h

theorem stepRedirOutFile_spec (ha : Around cfg s i) (h : stepRedirOutFile cfg s i = some s') :
    StageStep cfg s s' i := by
  simp only [stepRedirOutFile] at h
  split at h
  next hg =>
    have hS : StageOk cfg i { s.stage i with outRedir := 1 } :=
      { ha.stage with
        outBusy := fun hne => absurd hg.2.2.1 hne
        redir1 := fun _ => hg.1
        redirLe := (by decide : 1 ≤ 2)
        outRedirPc := fun _ => (by omega : 1 ≤ (s.stage i).pc)
        putErr := fun e he => by rw [hg.2.2.1] at he; cases he }
    have hpc : (s.stage i).pc ≤ 1 ∧ (s.stage i).pc ≤ 2 := by omega
    have hout := ha.out
    split at h <;> cases h
    · rename_i hn
      exact .withOut hS
        { hout with
          sawE := fun hsaw => ⟨rfl, (hout.sawE hsaw).2⟩
          pW := ⟨fun _ => ⟨hn, .inl (Nat.le_refl 1)⟩, fun _ => rfl⟩
          pC := by rw [hout.pC]; show _ ↔ _ ∧ (1 = 2 ∨ 1 = 0 ∧ _); omega }
        (fun h0 => { ha.inp h0 with }) (.inl hpc)
    · exact .plain hS
        { hout with
          pW := by rw [hout.pW]; show _ ↔ _ ∧ (1 ≤ 1 ∨ _); omega
          pC := by rw [hout.pC]; show _ ↔ _ ∧ (1 = 2 ∨ 1 = 0 ∧ _); omega }
        (fun h0 => { ha.inp h0 with }) (.inl hpc)
  next => cases h

theorem stepRedirOutChan_spec (ha : Around cfg s i) (h : stepRedirOutChan cfg s i = some s') :
    StageStep cfg s s' i := by
  simp only [stepRedirOutChan] at h
  split at h
  next hr =>
    have hpc1 := ha.stage.redir1 hr
    have hidle : (s.stage i).out = .idle := Decidable.byContradiction fun hne => (ha.stage.outBusy hne).2 hr
    have hS : StageOk cfg i { s.stage i with outRedir := 2 } :=
      { ha.stage with
        outBusy := fun hne => absurd hidle hne
        redir1 := fun h21 => by cases h21
        redirLe := Nat.le_refl 2
        outRedirPc := fun _ => (by omega : 1 ≤ (s.stage i).pc)
        putErr := fun e he => by rw [hidle] at he; cases he }
    have hpc : (s.stage i).pc ≤ 1 ∧ (s.stage i).pc ≤ 2 := by omega
    have hout := ha.out
    (repeat' split at h) <;> cases h
    · -- `close(p.Chan)` on a closed channel: but the channel is closed only by this step or in the epilogue
      rename_i hcl
      have := (hout.pC.mp hcl).2
      omega
    · rename_i hn hcl
      exact .withOut hS
        { hout with
          sawC := fun hsaw => ⟨rfl, (hout.sawC hsaw).2⟩
          pW := by rw [hout.pW]; show _ ↔ _ ∧ (1 ≤ 2 ∨ _); omega
          pC := ⟨fun _ => ⟨hn, .inl rfl⟩, fun _ => rfl⟩ }
        (fun h0 => { ha.inp h0 with }) (.inl hpc)
    · exact .plain hS
        { hout with
          pW := by rw [hout.pW]; show _ ↔ _ ∧ (1 ≤ 2 ∨ _); omega
          pC := by rw [hout.pC]; show _ ↔ _ ∧ (2 = 2 ∨ 2 = 0 ∧ _); omega }
        (fun h0 => { ha.inp h0 with }) (.inl hpc)
  next => cases h

theorem stepRet_spec (r : Option Exc) (ha : Around cfg s i) (hi : i < cfg.n) (h : stepRet cfg s i r = some s') :
    StageStep cfg s s' i := by
  simp only [stepRet] at h
  split at h <;> cases h
  rename_i hg
  refine .plain
    { ha.stage with
      outBusy := fun hne => absurd hg.2.1 hne
      vinBusy := fun hne => absurd hg.2.2.1 hne
      binBusy := fun hne => absurd hg.2.2.2.1 hne
      redir1 := fun h1 => absurd h1 hg.2.2.2.2
      pcLe := (by decide : 2 ≤ 9)
      inRedirPc := fun _ => (by decide : 1 ≤ 2)
      outRedirPc := fun _ => (by decide : 1 ≤ 2)
      retv := fun r' e => by cases e; rfl
      retvN := nofun
      retvPc := ⟨nofun, fun h2 => absurd h2 (by decide : ¬2 < 2)⟩
      range := fun hn => by omega }
    (ha.out.writer rfl (.inl ⟨by omega, (by decide : 2 < 7)⟩))
    (fun h0 => (ha.inp h0).reader rfl (.inl ⟨by omega, (by decide : 2 < 3)⟩))
    (.inl ⟨by omega, Nat.le_refl 2⟩)

/-- Past `form.exec` no port operation is pending, so the stage clauses allow any later `pc`. -/
theorem StageOk.setPc {st : Stage} (h : StageOk cfg i st) (hi : i < cfg.n) (h2 : 2 ≤ st.pc) {p : Nat} (hp : 2 ≤ p)
    (hp9 : p ≤ 9) : StageOk cfg i { st with pc := p } :=
  have hidle := h.idle (by omega)
  { h with
    outBusy := fun hne => absurd hidle.1 hne
    vinBusy := fun hne => absurd hidle.2.1 hne
    binBusy := fun hne => absurd hidle.2.2 hne
    redir1 := fun h1 => by have := h.redir1 h1; omega
    pcLe := hp9
    inRedirPc := fun _ => (by omega : 1 ≤ p)
    outRedirPc := fun _ => (by omega : 1 ≤ p)
    retvPc := ⟨fun hn => by have := h.retvPc.mp hn; omega, fun hp' => absurd hp' (by omega : ¬p < 2)⟩
    range := fun hn => by omega }

/-- An epilogue step moves `pc` up by one: the stage clauses hold again, and so do those of the
output link while `pc` stays below 7, those of the input link once it is above 6. -/
theorem Around.advance (ha : Around cfg s i) (hi : i < cfg.n) {p : Nat} (hpc : (s.stage i).pc + 1 = p)
    (h2 : 2 ≤ (s.stage i).pc) (h8 : p ≤ 8) :
    StageOk cfg i { s.stage i with pc := p } ∧
      PcMove (s.stage i).pc p ∧
      (p < 7 → LinkOk cfg i (s.link i) { s.stage i with pc := p } (s.stage (i + 1))) ∧
      (6 < p → 0 < i → LinkOk cfg (i - 1) (s.link (i - 1)) (s.stage (i - 1)) { s.stage i with pc := p }) :=
  ⟨ha.stage.setPc hi h2 (by omega) (by omega), .inr (by omega),
    fun h7 => ha.out.writer rfl (.inl ⟨by omega, h7⟩),
    fun h6 h0 => (ha.inp h0).reader rfl (.inr ⟨by omega, (by omega : 6 ≤ p)⟩)⟩

theorem stepSetErr_spec (ha : Around cfg s i) (hi : i < cfg.n) (h : stepSetErr s i = some s') :
    StageStep cfg s s' i := by
  simp only [stepSetErr] at h
  split at h
  next hpc =>
    obtain ⟨hS, hstep, hout, -⟩ := ha.advance hi (p := 3) (by omega) (by omega) (by decide)
    have hout := hout (by decide)
    split at h <;> cases h
    · rename_i h0
      have hin := ha.inp h0
      exact .withIn h0 hS hout
        { hin with
          cErr := ⟨fun _ => ⟨by omega, Nat.le_refl 3⟩, fun _ => rfl⟩
          cStop := by simpa [hpc] using hin.cStop
          cGone := by simpa [hpc] using hin.cGone
          cR := hin.cR_of rfl (by show 6 ≤ 3 ↔ _; omega) }
        hstep
    · rename_i h0
      exact .plain hS hout (fun h => absurd h h0) hstep
  next => cases h

theorem stepCloseStop_spec (ha : Around cfg s i) (hi : i < cfg.n) (h : stepCloseStop s i = some s') :
    StageStep cfg s s' i := by
  simp only [stepCloseStop] at h
  split at h
  next hpc =>
    obtain ⟨hS, hstep, hout, -⟩ := ha.advance hi (p := 4) (by omega) (by omega) (by decide)
    have hout := hout (by decide)
    (repeat' split at h) <;> cases h
    · -- `close(sendStop)` twice: but `sendStop` is closed only by this step
      rename_i h0 hstop
      have := ((ha.inp h0).cStop.mp hstop).2
      omega
    · rename_i h0 _
      have hin := ha.inp h0
      exact .withIn h0 hS hout
        { hin with
          cErr := by simpa [hpc] using hin.cErr
          cStop := ⟨fun _ => ⟨by omega, Nat.le_refl 4⟩, fun _ => rfl⟩
          cGone := by simpa [hpc] using hin.cGone
          cR := hin.cR_of rfl (by show 6 ≤ 4 ↔ _; omega) }
        hstep
    · rename_i h0
      exact .plain hS hout (fun h => absurd h h0) hstep
  next => cases h

theorem stepStoreGone_spec (ha : Around cfg s i) (hi : i < cfg.n) (h : stepStoreGone s i = some s') :
    StageStep cfg s s' i := by
  simp only [stepStoreGone] at h
  split at h
  next hpc =>
    obtain ⟨hS, hstep, hout, -⟩ := ha.advance hi (p := 5) (by omega) (by omega) (by decide)
    have hout := hout (by decide)
    split at h <;> cases h
    · rename_i h0
      have hin := ha.inp h0
      exact .withIn h0 hS hout
        { hin with
          cErr := by simpa [hpc] using hin.cErr
          cStop := by simpa [hpc] using hin.cStop
          cGone := ⟨fun _ => ⟨by omega, Nat.le_refl 5⟩, fun _ => rfl⟩
          cR := hin.cR_of rfl (by show 6 ≤ 5 ↔ _; omega) }
        hstep
    · rename_i h0
      exact .plain hS hout (fun h => absurd h h0) hstep
  next => cases h

theorem stepCloseIn_spec (ha : Around cfg s i) (hi : i < cfg.n) (h : stepCloseIn s i = some s') :
    StageStep cfg s s' i := by
  simp only [stepCloseIn] at h
  split at h
  next hpc =>
    obtain ⟨hS, hstep, hout, -⟩ := ha.advance hi (p := 6) (by omega) (by omega) (by decide)
    have hout := hout (by decide)
    split at h <;> cases h
    · rename_i hg
      have hin := ha.inp hg.1
      exact .withIn hg.1 hS hout
        { hin with
          cErr := by simpa [hpc] using hin.cErr
          cStop := by simpa [hpc] using hin.cStop
          cGone := by simpa [hpc] using hin.cGone
          cR := ⟨fun _ => ⟨by omega, .inr (Nat.le_refl 6)⟩, fun _ => rfl⟩ }
        hstep
    · -- nothing to close: first stage, or the pipe reader was closed by the redirection
      rename_i hg
      refine .plain hS hout (fun h0 => ?_) hstep
      have hin := ha.inp h0
      have hr : (s.stage i).inRedir = true := by
        cases hr : (s.stage i).inRedir
        · exact absurd ⟨h0, hr⟩ hg
        · rfl
      exact
        { hin with
          cErr := by simpa [hpc] using hin.cErr
          cStop := by simpa [hpc] using hin.cStop
          cGone := by simpa [hpc] using hin.cGone
          cR := by rw [hin.cR]; exact and_congr_right fun _ => ⟨fun _ => .inl hr, fun _ => .inl hr⟩ }
  next => cases h

theorem stepCloseOutFile_spec (ha : Around cfg s i) (hi : i < cfg.n) (h : stepCloseOutFile cfg s i = some s') :
    StageStep cfg s s' i := by
  simp only [stepCloseOutFile] at h
  split at h
  next hpc =>
    obtain ⟨hS, hstep, -, hin⟩ := ha.advance hi (p := 7) (by omega) (by omega) (by decide)
    have hin := hin (by decide)
    have hout := ha.out
    split at h <;> cases h
    · rename_i hg
      exact .withOut hS
        { hout with
          sawE := fun hsaw => ⟨rfl, (hout.sawE hsaw).2⟩
          pW := ⟨fun _ => ⟨hg.1, .inr (Nat.le_refl 7)⟩, fun _ => rfl⟩
          pC := by rw [hout.pC]; simp only []; omega }
        hin hstep
    · -- nothing to close: last stage, or the pipe writer was closed by the redirection
      exact .plain hS
        { hout with
          pW := by rw [hout.pW]; show _ ↔ _ ∧ (_ ∨ 7 ≤ 7); omega
          pC := by rw [hout.pC]; simp only []; omega }
        hin hstep
  next => cases h

theorem stepCloseOutChan_spec (ha : Around cfg s i) (hi : i < cfg.n) (h : stepCloseOutChan cfg s i = some s') :
    StageStep cfg s s' i := by
  simp only [stepCloseOutChan] at h
  split at h
  next hpc =>
    obtain ⟨hS, hstep, -, hin⟩ := ha.advance hi (p := 8) (by omega) (by omega) (by decide)
    have hin := hin (by decide)
    have hout := ha.out
    (repeat' split at h) <;> cases h
    · -- `close(p.Chan)` on a closed channel: but after a redirection this step does not close it
      rename_i hg hcl
      have := (hout.pC.mp hcl).2
      omega
    · rename_i hg hcl
      exact .withOut hS
        { hout with
          sawC := fun hsaw => ⟨rfl, (hout.sawC hsaw).2⟩
          pW := by simpa [hpc] using hout.pW
          pC := ⟨fun _ => ⟨hg.1, .inr ⟨hg.2, Nat.le_refl 8⟩⟩, fun _ => rfl⟩ }
        hin hstep
    · exact .plain hS
        { hout with
          pW := by simpa [hpc] using hout.pW
          pC := by rw [hout.pC]; simp only []; omega }
        hin hstep
  next => cases h

theorem stepWgDone_spec (ha : Around cfg s i) (hi : i < cfg.n) (hw : (s.stage i).pc = 8 → 0 < s.wg)
    (h : stepWgDone s i = some s') : StageStep cfg s s' i := by
  simp only [stepWgDone] at h
  (repeat' split at h) <;> cases h
  · -- a negative WaitGroup counter: but the counter counts the stages that are not done, this one among them
    rename_i hpc hz
    have := hw hpc
    omega
  · rename_i hpc _
    refine .of_frame rfl (fun _ hj => setStage_stage_of_ne s _ hj) (fun _ _ _ => rfl) rfl ?_ ?_ ?_ ?_ ?_ <;>
      simp only [setStage_stage_self, setStage_link]
    · rw [if_pos trivial]; omega
    · exact .inr ⟨hpc, trivial⟩
    · exact ha.stage.setPc hi (by omega) (by decide) (by decide)
    · exact ha.out.writer rfl (.inr ⟨by omega, (by decide : 8 ≤ 9)⟩)
    · exact fun h0 => (ha.inp h0).reader rfl (.inr ⟨by omega, (by decide : 6 ≤ 9)⟩)

theorem AllInv.stageStep {l : Label} (hall : AllInv cfg s) (hl : l.stage? = some i) (h : step cfg s l = some s') :
    StageStep cfg s s' i := by
  have hi := (step_guard h).2 i hl
  have ha := hall.inv.around (hall.err i)
  have hw : (s.stage i).pc = 8 → 0 < s.wg := fun h8 => Nat.pos_of_ne_zero fun hz => by
    rw [hall.g.wg, sumTo_eq_zero] at hz
    have := hz i hi
    simp [notDone, h8] at this
  rw [step_of_core hall.inv.2.2 hl hi] at h
  cases l <;> cases hl
  case start => exact stepStart_spec ha hi h
  case putBeg v => exact stepPutBeg_spec v ha h
  case enq => exact stepEnq_spec ha h
  case selStop => exact stepSelStop_spec ha h
  case putEnd => exact stepPutEnd_spec ha h
  case writeBeg bs => exact stepWriteBeg_spec bs ha h
  case wr k => exact stepWr_spec k ha h
  case wrEpipe => exact stepWrEpipe_spec ha h
  case writeEnd => exact stepWriteEnd_spec ha h
  case takeBeg => exact stepTakeBeg_spec ha h
  case deq => exact stepDeq_spec ha h
  case deqClosed => exact stepDeqClosed_spec ha h
  case takeEnd => exact stepTakeEnd_spec ha h
  case readBeg max => exact stepReadBeg_spec max ha h
  case rd k => exact stepRd_spec k ha h
  case rdEof => exact stepRdEof_spec ha h
  case readEnd => exact stepReadEnd_spec ha h
  case redirIn => exact stepRedirIn_spec ha hi h
  case redirOutFile => exact stepRedirOutFile_spec ha h
  case redirOutChan => exact stepRedirOutChan_spec ha h
  case ret r => exact stepRet_spec r ha hi h
  case setErr => exact stepSetErr_spec ha hi h
  case closeStop => exact stepCloseStop_spec ha hi h
  case storeGone => exact stepStoreGone_spec ha hi h
  case closeIn => exact stepCloseIn_spec ha hi h
  case closeOutFile => exact stepCloseOutFile_spec ha hi h
  case closeOutChan => exact stepCloseOutChan_spec ha hi h
  case wgDone => exact stepWgDone_spec ha hi hw h

end C18
