/-
C18 — global part of the invariant: the WaitGroup counter counts the stages that have not called `wg.Done`, and a
result of `exec` is `MakePipelineError` of the recorded exceptions; and the errors `Put` / `Write` can return.
-/
import ElvProofs.C18.Inv
namespace C18

theorem step_guard {cfg : Cfg} {s s' : State} {l : Label} (h : step cfg s l = some s') :
    s.crashed = false ∧ ∀ i, l.stage? = some i → i < cfg.n := by
  unfold step at h
  by_cases hc : s.crashed = true
  · simp [hc] at h
  · have hc' : s.crashed = false := by simpa using hc
    refine ⟨hc', fun i hi => ?_⟩
    simp only [hc', hi] at h
    by_cases hlt : i < cfg.n
    · exact hlt
    · simp [hlt] at h

theorem step_of_core {cfg : Cfg} {s : State} {l : Label} {i : Nat} (hc : s.crashed = false)
    (hl : l.stage? = some i) (hi : i < cfg.n) :
    step cfg s l = (match l with
      | .start i => stepStart s i
      | .putBeg i v => stepPutBeg s i v
      | .enq i => stepEnq cfg s i
      | .selStop i => stepSelStop cfg s i
      | .putEnd i => stepPutEnd s i
      | .writeBeg i bs => stepWriteBeg s i bs
      | .wr i k => stepWr cfg s i k
      | .wrEpipe i => stepWrEpipe cfg s i
      | .writeEnd i => stepWriteEnd s i
      | .takeBeg i => stepTakeBeg s i
      | .deq i => stepDeq s i
      | .deqClosed i => stepDeqClosed s i
      | .takeEnd i => stepTakeEnd s i
      | .readBeg i max => stepReadBeg s i max
      | .rd i k => stepRd s i k
      | .rdEof i => stepRdEof s i
      | .readEnd i => stepReadEnd s i
      | .redirIn i => stepRedirIn s i
      | .redirOutFile i => stepRedirOutFile cfg s i
      | .redirOutChan i => stepRedirOutChan cfg s i
      | .ret i r => stepRet cfg s i r
      | .setErr i => stepSetErr s i
      | .closeStop i => stepCloseStop s i
      | .storeGone i => stepStoreGone s i
      | .closeIn i => stepCloseIn s i
      | .closeOutFile i => stepCloseOutFile cfg s i
      | .closeOutChan i => stepCloseOutChan cfg s i
      | .wgDone i => stepWgDone s i
      | .waitRet => stepWaitRet cfg s) := by
  unfold step
  simp only [hc, hl, hi, decide_true, Bool.false_eq_true, Bool.true_eq_false, ↓reduceIte]
  cases l <;> rfl

def sumTo (f : Nat → Nat) : Nat → Nat
  | 0 => 0
  | k + 1 => sumTo f k + f k

theorem sumTo_congr {f g : Nat → Nat} {k : Nat} (h : ∀ j, j < k → g j = f j) : sumTo g k = sumTo f k := by
  induction k with
  | zero => rfl
  | succ k ih => simp only [sumTo]; rw [ih (fun j hj => h j (by omega)), h k (by omega)]

theorem sumTo_dec {f g : Nat → Nat} {k i : Nat} (hi : i < k) (hd : g i + 1 = f i) (h : ∀ j, j ≠ i → g j = f j) :
    sumTo g k + 1 = sumTo f k := by
  induction k with
  | zero => omega
  | succ k ih =>
    simp only [sumTo]
    by_cases hik : i = k
    · subst hik
      rw [sumTo_congr (f := f) (g := g) (fun j hj => h j (by omega))]; omega
    · rw [h k (by omega)]; have := ih (by omega); omega

theorem sumTo_eq_zero {f : Nat → Nat} {k : Nat} : sumTo f k = 0 ↔ ∀ j, j < k → f j = 0 := by
  induction k with
  | zero => exact ⟨fun _ j hj => by omega, fun _ => rfl⟩
  | succ k ih =>
    simp only [sumTo, Nat.add_eq_zero_iff, ih]
    refine ⟨fun h j hj => ?_, fun h => ⟨fun j hj => h j (by omega), h k (by omega)⟩⟩
    by_cases hjk : j = k
    · subst hjk; exact h.2
    · exact h.1 j (by omega)

/-- 1 for a stage that has not called `wg.Done`, else 0 -/
def notDone (s : State) (i : Nat) : Nat := if (s.stage i).pc = 9 then 0 else 1

structure GInv (cfg : Cfg) (s : State) : Prop where
  wg : s.wg = sumTo (notDone s) cfg.n
  res : ∀ r, s.result = some r → s.wg = 0 ∧ makePipelineError (s.excs cfg) = some r

structure ErrInv (s : State) (i : Nat) : Prop where
  putErr : ∀ e, (s.stage i).out = .putDone (.stopped e) →
    ((s.stage i).outRedir = 0 → e = some .readerGone) ∧ ((s.stage i).outRedir = 2 → e = some .noValueOutput)
  writeErr : ∀ m e, (s.stage i).out = .writeDone m (some e) → e = .readerGone
  readPos : ∀ max, (s.stage i).bin = .reading max → 0 < max

structure AllInv (cfg : Cfg) (s : State) : Prop where
  inv : Inv cfg s
  g : GInv cfg s
  err : ∀ j, ErrInv s j

macro "frame_step" h:ident hS:ident i:ident : tactic => `(tactic| (
  have hSi := $hS $i
  simp only [] at $h:ident
  (repeat' split at $h:ident) <;> (first | cases $h:ident | skip)
  all_goals (constructor <;> (try simp only [setStage, setLink, upd, crash]) <;> grind [StageInv])))

macro "err_step" h:ident hS:ident hL:ident hE:ident i:ident : tactic => `(tactic| (
  have hSi := $hS $i
  have hLi := $hL $i
  have hEi := $hE $i
  simp only [] at $h:ident
  (repeat' split at $h:ident) <;> (first | cases $h:ident | skip)
  all_goals (intro m; have hEm := $hE m; constructor <;> (try simp only [setStage, setLink, upd, crash]) <;>
    grind [ErrInv, StageInv, LinkInv])))

end C18
