/-
C18 — the inductive invariant of the pipeline transition system: per link
(queue/ghost-log relation, capacity, flag ↔ program-counter relations) and per
stage (a stage with a pending operation is still inside `form.exec`, …).
Preservation is proved label by label in C18/Local.lean and C18/Steps.lean.
-/
import ElvModel.C18.Model
namespace C18

structure LinkInv (cfg : Cfg) (s : State) (k : Nat) : Prop where
  queue : (s.link k).sent = (s.link k).recvd ++ (s.link k).q
  cap : (s.link k).q.length ≤ cfg.cap
  bqueue : (s.link k).bsent = (s.link k).brecvd ++ (s.link k).pipe
  bcap : (s.link k).pipe.length ≤ cfg.pcap
  stopErr : (s.link k).stop = true → (s.link k).errSet = true
  sawC : (s.link k).sawClosed = true → (s.link k).chClosed = true ∧ (s.link k).q = []
  sawE : (s.link k).sawEof = true → (s.link k).wClosed = true ∧ (s.link k).pipe = []
  cErr : (s.link k).errSet = true ↔ (k + 1 < cfg.n ∧ 3 ≤ (s.stage (k + 1)).pc)
  cStop : (s.link k).stop = true ↔ (k + 1 < cfg.n ∧ 4 ≤ (s.stage (k + 1)).pc)
  cGone : (s.link k).gone = true ↔ (k + 1 < cfg.n ∧ 5 ≤ (s.stage (k + 1)).pc)
  cR : (s.link k).rClosed = true ↔ (k + 1 < cfg.n ∧ ((s.stage (k + 1)).inRedir = true ∨ 6 ≤ (s.stage (k + 1)).pc))
  pW : (s.link k).wClosed = true ↔ (k + 1 < cfg.n ∧ (1 ≤ (s.stage k).outRedir ∨ 7 ≤ (s.stage k).pc))
  pC : (s.link k).chClosed = true ↔ (k + 1 < cfg.n ∧ ((s.stage k).outRedir = 2 ∨ ((s.stage k).outRedir = 0 ∧ 8 ≤ (s.stage k).pc)))

structure StageInv (cfg : Cfg) (s : State) (i : Nat) : Prop where
  outBusy : (s.stage i).out ≠ .idle → (s.stage i).pc = 1 ∧ (s.stage i).outRedir ≠ 1
  vinBusy : (s.stage i).vin ≠ .idle → (s.stage i).pc = 1
  binBusy : (s.stage i).bin ≠ .idle → (s.stage i).pc = 1
  redir1 : (s.stage i).outRedir = 1 → (s.stage i).pc = 1
  redirLe : (s.stage i).outRedir ≤ 2
  pcLe : (s.stage i).pc ≤ 9
  inRedirPc : (s.stage i).inRedir = true → 1 ≤ (s.stage i).pc
  outRedirPc : 1 ≤ (s.stage i).outRedir → 1 ≤ (s.stage i).pc
  wrNe : ∀ todo m, (s.stage i).out = .writing todo m → todo ≠ []
  retv : ∀ r, (s.stage i).retv = some r → (s.stage i).exc = keptExc cfg i r
  retvN : (s.stage i).retv = none → (s.stage i).exc = none
  retvPc : (s.stage i).retv = none ↔ (s.stage i).pc < 2
  range : cfg.n ≤ i → (s.stage i).pc = 0

/-- The invariant: all link and stage invariants, and no Go panic happened. -/
def Inv (cfg : Cfg) (s : State) : Prop :=
  (∀ k, LinkInv cfg s k) ∧ (∀ j, StageInv cfg s j) ∧ s.crashed = false

/-- One label's preservation proof: case-split the step function; in a branch
that ends in a Go panic derive a contradiction, otherwise re-establish every
field, distinguishing whether the index is the stepping stage or a neighbour. -/
macro "inv_step" h:ident hL:ident hS:ident hc:ident i:ident : tactic => `(tactic| (
  have hSi := $hS $i
  have hLi := $hL $i
  have hLp := $hL ($i - 1)
  have hSp := $hS ($i - 1)
  have hSn := $hS ($i + 1)
  simp only [] at $h:ident
  (repeat' split at $h:ident) <;> (first | cases $h:ident | skip)
  all_goals first
    | (refine ⟨fun k => ?_, fun j => ?_, by simp [setStage, setLink, $hc:ident]⟩
       · have hLk := $hL k
         have hSk := $hS k
         have hSk1 := $hS (k + 1)
         constructor <;> simp only [setStage, setLink, upd] <;> grind [LinkInv, StageInv, keptExc]
       · have hSj := $hS j
         constructor <;> simp only [setStage, setLink, upd] <;> grind [LinkInv, StageInv, keptExc])
    | (exfalso; grind [LinkInv, StageInv])))

end C18
