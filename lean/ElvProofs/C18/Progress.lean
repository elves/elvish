/-
C18 — progress: the epilogue of a stage never blocks; a pending `Put` / `Write` completes once the reader has
signalled; a port operation that cannot complete waits for a neighbour that has not signalled, so a protocol-stuck
state involves only stages still inside `form.exec`; once every `form.exec` has returned, every step decreases
`remaining`.
-/
import ElvProofs.C18.All
namespace C18

def epilogueLabel (pc i : Nat) : Label :=
  match pc with
  | 2 => .setErr i | 3 => .closeStop i | 4 => .storeGone i | 5 => .closeIn i
  | 6 => .closeOutFile i | 7 => .closeOutChan i | _ => .wgDone i

theorem epilogue_enabled {cfg : Cfg} {s : State} {i : Nat} (hc : s.crashed = false) (hi : i < cfg.n)
    (h2 : 2 ≤ (s.stage i).pc) (h8 : (s.stage i).pc ≤ 8) :
    ∃ s', step cfg s (epilogueLabel (s.stage i).pc i) = some s' := by
  have hcases : (s.stage i).pc = 2 ∨ (s.stage i).pc = 3 ∨ (s.stage i).pc = 4 ∨ (s.stage i).pc = 5 ∨
      (s.stage i).pc = 6 ∨ (s.stage i).pc = 7 ∨ (s.stage i).pc = 8 := by omega
  rcases hcases with h | h | h | h | h | h | h <;> rw [h] <;> simp only [epilogueLabel] <;>
    rw [step_of_core hc rfl hi] <;> simp only []
  · unfold stepSetErr; simp [h]
  · unfold stepCloseStop; simp only [h, ↓reduceIte]; (repeat' split) <;> exact ⟨_, rfl⟩
  · unfold stepStoreGone; simp [h]
  · unfold stepCloseIn; simp [h]
  · unfold stepCloseOutFile; simp [h]
  · unfold stepCloseOutChan; simp only [h, ↓reduceIte]; (repeat' split) <;> exact ⟨_, rfl⟩
  · unfold stepWgDone; simp only [h, ↓reduceIte]; (repeat' split) <;> exact ⟨_, rfl⟩

theorem start_enabled {cfg : Cfg} {s : State} {i : Nat} (hc : s.crashed = false) (hi : i < cfg.n)
    (h0 : (s.stage i).pc = 0) : ∃ s', step cfg s (.start i) = some s' := by
  rw [step_of_core hc rfl hi]; simp [stepStart, h0]

theorem waitRet_enabled {cfg : Cfg} {s : State} (hc : s.crashed = false) (hr : s.result = none) (hw : s.wg = 0) :
    ∃ s', step cfg s .waitRet = some s' := by
  rw [step_waitRet hc, if_pos ⟨hr, hw⟩]
  exact ⟨_, rfl⟩

theorem put_completes_after_stop {cfg : Cfg} {s : State} {k : Nat} {v : Val} (ha : AllInv cfg s)
    (hk : k + 1 < cfg.n) (hpc : 4 ≤ (s.stage (k + 1)).pc) (hout : (s.stage k).out = .putting v)
    (hr : (s.stage k).outRedir = 0) :
    ∃ s', step cfg s (.selStop k) = some s' ∧ (s'.stage k).out = .putDone (.stopped (some .readerGone)) := by
  obtain ⟨⟨hL, hS, hc⟩, _, _⟩ := ha
  have hstop : (s.link k).stop = true := (hL k).cStop.mpr ⟨hk, hpc⟩
  have herr : (s.link k).errSet = true := (hL k).stopErr hstop
  rw [step_of_core hc rfl (by omega)]
  simp only []
  unfold stepSelStop
  simp [hout, hr, hk, hstop, herr, setStage, upd]

/-- The pending `Write` gets EPIPE, which `byteOutput.Write` turns into reader-gone. -/
theorem write_completes_after_close {cfg : Cfg} {s : State} {k : Nat} {todo : List Byte} {m : Nat} (ha : AllInv cfg s)
    (hk : k + 1 < cfg.n) (hpc : (s.stage (k + 1)).inRedir = true ∨ 6 ≤ (s.stage (k + 1)).pc)
    (hout : (s.stage k).out = .writing todo m) (hr : (s.stage k).outRedir = 0) :
    ∃ s', step cfg s (.wrEpipe k) = some s' ∧ (s'.stage k).out = .writeDone m (some .readerGone) := by
  obtain ⟨⟨hL, hS, hc⟩, _, _⟩ := ha
  have hcl : (s.link k).rClosed = true := (hL k).cR.mpr ⟨hk, hpc⟩
  rw [step_of_core hc rfl (by omega)]
  simp only []
  unfold stepWrEpipe
  simp [hout, hr, hk, hcl, setStage, upd]

/-- Labels chosen by the stage programs (everything else is the protocol). -/
def Label.isProgramChoice : Label → Bool
  | .putBeg _ _ | .writeBeg _ _ | .takeBeg _ | .readBeg _ _ | .redirIn _ | .redirOutFile _ | .redirOutChan _
  | .ret _ _ => true
  | _ => false

def ProtocolStuck (cfg : Cfg) (s : State) : Prop := ∀ l, l.isProgramChoice = false → step cfg s l = none

structure StuckShape (cfg : Cfg) (s : State) : Prop where
  pcs : ∀ i, i < cfg.n → (s.stage i).pc = 1 ∨ (s.stage i).pc = 9
  alive : ∃ i, i < cfg.n ∧ (s.stage i).pc = 1
  put : ∀ i v, i < cfg.n → (s.stage i).out = .putting v →
    i + 1 < cfg.n ∧ (s.stage (i + 1)).pc = 1 ∧ cfg.cap ≤ (s.link i).q.length
  write : ∀ i todo m, i < cfg.n → (s.stage i).out = .writing todo m →
    i + 1 < cfg.n ∧ (s.stage (i + 1)).pc = 1 ∧ (s.stage (i + 1)).inRedir = false
  take : ∀ i, i < cfg.n → (s.stage i).vin = .taking → 0 < i ∧ (s.stage (i - 1)).pc = 1 ∧ (s.link (i - 1)).q = []
  read : ∀ i max, i < cfg.n → (s.stage i).bin = .reading max → 0 < i ∧ (s.stage (i - 1)).pc = 1 ∧ (s.link (i - 1)).pipe = []

/-! A pending port operation has two protocol labels that can complete it.  When both are disabled, the link
clauses say what the operation waits for: the neighbour has not yet signalled.  Nothing is assumed of the rest of
the state. -/

section Blocked
variable {cfg : Cfg} {s : State} {i : Nat} (ha : AllInv cfg s) (hi : i < cfg.n)
include ha hi

theorem put_blocked {v : Val} (hout : (s.stage i).out = .putting v)
    (e1 : step cfg s (.enq i) = none) (e2 : step cfg s (.selStop i) = none) :
    i + 1 < cfg.n ∧ (s.stage (i + 1)).pc < 4 ∧ cfg.cap ≤ (s.link i).q.length := by
  obtain ⟨⟨hL, hS, hc⟩, -, -⟩ := ha
  have hb := (hS i).outBusy (by simp [hout])
  have hrl := (hS i).redirLe
  rw [step_of_core hc rfl hi] at e1 e2
  simp only [stepEnq, stepSelStop, hout] at e1 e2
  have hcs := (hL i).cStop
  clear hL hS
  grind

theorem write_blocked {todo : List Byte} {m : Nat} (hout : (s.stage i).out = .writing todo m)
    (e1 : step cfg s (.wr i todo.length) = none) (e2 : step cfg s (.wrEpipe i) = none) :
    i + 1 < cfg.n ∧ (s.stage (i + 1)).pc < 6 ∧ (s.stage (i + 1)).inRedir = false := by
  obtain ⟨⟨hL, hS, hc⟩, -, -⟩ := ha
  have hb := (hS i).outBusy (by simp [hout])
  have hrl := (hS i).redirLe
  have hlen : 0 < todo.length := List.length_pos_iff.mpr ((hS i).wrNe todo m hout)
  rw [step_of_core hc rfl hi] at e1 e2
  simp only [stepWr, stepWrEpipe, hout] at e1 e2
  have hcr := (hL i).cR
  clear hL hS
  grind

theorem take_blocked (hvin : (s.stage i).vin = .taking)
    (e1 : step cfg s (.deq i) = none) (e2 : step cfg s (.deqClosed i) = none) :
    0 < i ∧ (s.stage (i - 1)).pc < 8 ∧ (s.link (i - 1)).q = [] := by
  obtain ⟨⟨hL, hS, hc⟩, -, -⟩ := ha
  rw [step_of_core hc rfl hi] at e1 e2
  simp only [stepDeq, stepDeqClosed, hvin] at e1 e2
  have hpc := (hL (i - 1)).pC
  have hr1 := (hS (i - 1)).redir1
  have hrl := (hS (i - 1)).redirLe
  clear hL hS
  grind

theorem read_blocked {max : Nat} (hbin : (s.stage i).bin = .reading max)
    (e1 : step cfg s (.rd i 1) = none) (e2 : step cfg s (.rdEof i) = none) :
    0 < i ∧ (s.stage (i - 1)).pc < 7 ∧ (s.link (i - 1)).pipe = [] := by
  obtain ⟨⟨hL, hS, hc⟩, -, hE⟩ := ha
  have hmax := (hE i).readPos max hbin
  rw [step_of_core hc rfl hi] at e1 e2
  simp only [stepRd, stepRdEof, hbin] at e1 e2
  have hpw := (hL (i - 1)).pW
  have hlen : (s.link (i - 1)).pipe = [] ∨ 1 ≤ (s.link (i - 1)).pipe.length := by
    cases (s.link (i - 1)).pipe <;> simp
  clear hL hS hE
  grind

end Blocked

/-- In a protocol-stuck state every stage is at `pc` 1 or 9, so the neighbour a blocked operation waits for,
which the lemmas above place before its signalling step, is still inside `form.exec`. -/
theorem stuck_shape {cfg : Cfg} {s : State} (ha : AllInv cfg s) (hres : s.result = none)
    (hstuck : ProtocolStuck cfg s) : StuckShape cfg s := by
  have hc := ha.inv.2.2
  have hpcs : ∀ i, i < cfg.n → (s.stage i).pc = 1 ∨ (s.stage i).pc = 9 := by
    intro i hi
    have hle := (ha.inv.2.1 i).pcLe
    by_cases h0 : (s.stage i).pc = 0
    · obtain ⟨s', hs'⟩ := start_enabled hc hi h0
      rw [hstuck _ rfl] at hs'; cases hs'
    · by_cases h28 : 2 ≤ (s.stage i).pc ∧ (s.stage i).pc ≤ 8
      · obtain ⟨s', hs'⟩ := epilogue_enabled hc hi h28.1 h28.2
        have : (epilogueLabel (s.stage i).pc i).isProgramChoice = false := by
          unfold epilogueLabel; split <;> rfl
        rw [hstuck _ this] at hs'; cases hs'
      · omega
  refine ⟨hpcs, ?_, fun i v hi hout => ?_, fun i todo m hi hout => ?_, fun i hi hvin => ?_, fun i max hi hbin => ?_⟩
  · -- somebody is still running, else wg.Wait could return
    apply Classical.byContradiction
    intro hno
    have hw : s.wg = 0 := by
      rw [ha.g.wg, sumTo_eq_zero]
      intro j hj
      rcases hpcs j hj with h | h
      · exact absurd ⟨j, hj, h⟩ hno
      · simp [notDone, h]
    obtain ⟨s', hs'⟩ := waitRet_enabled (cfg := cfg) hc hres hw
    rw [hstuck _ rfl] at hs'; cases hs'
  · obtain ⟨hn, hpc, hq⟩ := put_blocked ha hi hout (hstuck _ rfl) (hstuck _ rfl)
    exact ⟨hn, (hpcs _ hn).resolve_right (by omega), hq⟩
  · obtain ⟨hn, hpc, hr⟩ := write_blocked ha hi hout (hstuck _ rfl) (hstuck _ rfl)
    exact ⟨hn, (hpcs _ hn).resolve_right (by omega), hr⟩
  · obtain ⟨h0, hpc, hq⟩ := take_blocked ha hi hvin (hstuck _ rfl) (hstuck _ rfl)
    exact ⟨h0, (hpcs _ (by omega)).resolve_right (by omega), hq⟩
  · obtain ⟨h0, hpc, hp⟩ := read_blocked ha hi hbin (hstuck _ rfl) (hstuck _ rfl)
    exact ⟨h0, (hpcs _ (by omega)).resolve_right (by omega), hp⟩

macro "epi_step" h:ident hS:ident i:ident hc:ident : tactic => `(tactic| (
  have hSi := $hS $i
  simp only [] at $h:ident
  (repeat' split at $h:ident) <;> (first | cases $h:ident | skip)
  all_goals (first
    | (constructor <;> (try simp only [setStage, setLink, upd, crash]) <;> grind [StageInv])
    | (exfalso; simp [crash] at $hc:ident)
    | (exfalso; grind [StageInv]))))

def AllReturned (cfg : Cfg) (s : State) : Prop := ∀ i, i < cfg.n → 2 ≤ (s.stage i).pc

/-- number of steps left until `exec` has its result -/
def remaining (cfg : Cfg) (s : State) : Nat :=
  sumTo (fun i => 9 - (s.stage i).pc) cfg.n + (if s.result = none then 1 else 0)

theorem finishing_step {cfg : Cfg} {s s' : State} {l : Label} (ha : AllInv cfg s) (hret : AllReturned cfg s)
    (h : step cfg s l = some s') : AllReturned cfg s' ∧ remaining cfg s' + 1 = remaining cfg s := by
  have hgd := step_guard h
  cases hl : l.stage? with
  | some i =>
    have hlt := hgd.2 i hl
    have es := ha.stageStep hl h
    have hle := es.around.stage.pcLe
    -- past `form.exec` a stage step is an epilogue step: it advances `pc` by one
    have hpc : (s'.stage i).pc = (s.stage i).pc + 1 := by have := hret i hlt; have := es.pc; omega
    refine ⟨fun j hj => ?_, ?_⟩
    · by_cases hji : j = i
      · subst hji; have := hret j hj; omega
      · rw [es.stages j hji]; exact hret j hj
    · unfold remaining
      rw [es.res]
      have := sumTo_dec (f := fun j => 9 - (s.stage j).pc) (g := fun j => 9 - (s'.stage j).pc) hlt
        (by show 9 - (s'.stage i).pc + 1 = 9 - (s.stage i).pc; omega)
        (by intro j hj; show 9 - (s'.stage j).pc = 9 - (s.stage j).pc; rw [es.stages j hj])
      omega
  | none =>
    cases Label.eq_waitRet hl
    rw [step_waitRet ha.inv.2.2] at h
    split at h <;> cases h
    rename_i hgd'
    refine ⟨hret, ?_⟩
    unfold remaining
    simp [hgd'.1]

theorem finishing_enabled {cfg : Cfg} {s : State} (ha : AllInv cfg s) (hret : AllReturned cfg s)
    (hres : s.result = none) : ∃ l s', step cfg s l = some s' := by
  obtain ⟨⟨hL, hS, hc⟩, hg, hE⟩ := ha
  by_cases hall : ∀ i, i < cfg.n → (s.stage i).pc = 9
  · have hw : s.wg = 0 := by
      rw [hg.wg, sumTo_eq_zero]; exact fun j hj => by simp [notDone, hall j hj]
    obtain ⟨s', hs'⟩ := waitRet_enabled (cfg := cfg) hc hres hw
    exact ⟨_, s', hs'⟩
  · obtain ⟨i, hi9⟩ := Classical.not_forall.mp hall
    obtain ⟨hi, h9⟩ := Classical.not_imp_iff_and_not.mp hi9
    have hle := (hS i).pcLe
    obtain ⟨s', hs'⟩ := epilogue_enabled hc hi (hret i hi) (by omega)
    exact ⟨_, s', hs'⟩

theorem remaining_zero {cfg : Cfg} {s : State} (h : remaining cfg s = 0) : s.result ≠ none := by
  unfold remaining at h
  intro hn
  simp [hn] at h

end C18
