/-
C18 — locality.  A step of stage `i` rewrites `s.stage i` and at most one of the links `i - 1` (its input) and `i`
(its output); a clause of `LinkInv cfg s k` reads only link `k`, its writer `s.stage k` and its reader
`s.stage (k + 1)`, a clause of `StageInv cfg s j` or `ErrInv s j` only `s.stage j`.  So a step re-establishes the
invariant around its own stage only (`Around`, `StageStep`).
-/
import ElvProofs.C18.Global
namespace C18

theorem upd_same {α : Type} (f : Nat → α) (i : Nat) (x : α) : upd f i x i = x := if_pos rfl

theorem upd_of_ne {α : Type} (f : Nat → α) {i j : Nat} (x : α) (h : j ≠ i) : upd f i x j = f j := if_neg h

@[simp] theorem setStage_stage_self (s : State) (i : Nat) (st : Stage) : (setStage s i st).stage i = st :=
  upd_same ..

theorem setStage_stage_of_ne (s : State) {i j : Nat} (st : Stage) (h : j ≠ i) :
    (setStage s i st).stage j = s.stage j :=
  upd_of_ne _ _ h

@[simp] theorem setStage_link (s : State) (i : Nat) (st : Stage) : (setStage s i st).link = s.link := rfl

@[simp] theorem setLink_link_self (s : State) (k : Nat) (l : Link) : (setLink s k l).link k = l := upd_same ..

theorem setLink_link_of_ne (s : State) {k j : Nat} (l : Link) (h : j ≠ k) : (setLink s k l).link j = s.link j :=
  upd_of_ne _ _ h

/-- `LinkInv cfg s k` as a predicate on what it reads: the link, its writer (stage `k`), its reader (stage `k + 1`). -/
structure LinkOk (cfg : Cfg) (k : Nat) (l : Link) (w r : Stage) : Prop where
  queue : l.sent = l.recvd ++ l.q
  cap : l.q.length ≤ cfg.cap
  bqueue : l.bsent = l.brecvd ++ l.pipe
  bcap : l.pipe.length ≤ cfg.pcap
  sawC : l.sawClosed = true → l.chClosed = true ∧ l.q = []
  sawE : l.sawEof = true → l.wClosed = true ∧ l.pipe = []
  cErr : l.errSet = true ↔ (k + 1 < cfg.n ∧ 3 ≤ r.pc)
  cStop : l.stop = true ↔ (k + 1 < cfg.n ∧ 4 ≤ r.pc)
  cGone : l.gone = true ↔ (k + 1 < cfg.n ∧ 5 ≤ r.pc)
  cR : l.rClosed = true ↔ (k + 1 < cfg.n ∧ (r.inRedir = true ∨ 6 ≤ r.pc))
  pW : l.wClosed = true ↔ (k + 1 < cfg.n ∧ (1 ≤ w.outRedir ∨ 7 ≤ w.pc))
  pC : l.chClosed = true ↔ (k + 1 < cfg.n ∧ (w.outRedir = 2 ∨ (w.outRedir = 0 ∧ 8 ≤ w.pc)))

/-- `StageInv cfg s i` and `ErrInv s i` as a predicate on the stage record. -/
structure StageOk (cfg : Cfg) (i : Nat) (st : Stage) : Prop where
  outBusy : st.out ≠ .idle → st.pc = 1 ∧ st.outRedir ≠ 1
  vinBusy : st.vin ≠ .idle → st.pc = 1
  binBusy : st.bin ≠ .idle → st.pc = 1
  redir1 : st.outRedir = 1 → st.pc = 1
  redirLe : st.outRedir ≤ 2
  pcLe : st.pc ≤ 9
  inRedirPc : st.inRedir = true → 1 ≤ st.pc
  outRedirPc : 1 ≤ st.outRedir → 1 ≤ st.pc
  wrNe : ∀ todo m, st.out = .writing todo m → todo ≠ []
  retv : ∀ r, st.retv = some r → st.exc = keptExc cfg i r
  retvN : st.retv = none → st.exc = none
  retvPc : st.retv = none ↔ st.pc < 2
  range : cfg.n ≤ i → st.pc = 0
  putErr : ∀ e, st.out = .putDone (.stopped e) →
    (st.outRedir = 0 → e = some .readerGone) ∧ (st.outRedir = 2 → e = some .noValueOutput)
  writeErr : ∀ m e, st.out = .writeDone m (some e) → e = .readerGone
  readPos : ∀ max, st.bin = .reading max → 0 < max

theorem LinkInv.ok {cfg : Cfg} {s : State} {k : Nat} (h : LinkInv cfg s k) :
    LinkOk cfg k (s.link k) (s.stage k) (s.stage (k + 1)) :=
  { h with }

/-- `sendStop` is closed (reader at 4 or beyond) only after `*sendError` was set (reader at 3 or beyond). -/
theorem LinkOk.stopErr {cfg : Cfg} {k : Nat} {l : Link} {w r : Stage} (h : LinkOk cfg k l w r) (hs : l.stop = true) :
    l.errSet = true :=
  have ⟨hk, hpc⟩ := h.cStop.mp hs
  h.cErr.mpr ⟨hk, Nat.le_of_succ_le hpc⟩

theorem LinkOk.inv {cfg : Cfg} {s : State} {k : Nat} (h : LinkOk cfg k (s.link k) (s.stage k) (s.stage (k + 1))) :
    LinkInv cfg s k :=
  { h with stopErr := h.stopErr }

theorem StageOk.inv {cfg : Cfg} {s : State} {i : Nat} (h : StageOk cfg i (s.stage i)) : StageInv cfg s i :=
  { h with }

theorem StageOk.err {cfg : Cfg} {s : State} {i : Nat} (h : StageOk cfg i (s.stage i)) : ErrInv s i :=
  { h with }

/-- The writer of a link enters its clauses through `outRedir` and the thresholds 7 and 8 of `pc`. -/
theorem LinkOk.writer {cfg : Cfg} {k : Nat} {l : Link} {w w' r : Stage} (h : LinkOk cfg k l w r)
    (hr : w'.outRedir = w.outRedir) (hpc : w.pc < 7 ∧ w'.pc < 7 ∨ 8 ≤ w.pc ∧ 8 ≤ w'.pc) : LinkOk cfg k l w' r :=
  { h with
    pW := by rw [hr, h.pW]; omega
    pC := by rw [hr, h.pC]; omega }

theorem LinkOk.cR_of {cfg : Cfg} {k : Nat} {l : Link} {w r r' : Stage} (h : LinkOk cfg k l w r) (hr : r'.inRedir = r.inRedir)
    (h6 : 6 ≤ r'.pc ↔ 6 ≤ r.pc) : l.rClosed = true ↔ k + 1 < cfg.n ∧ (r'.inRedir = true ∨ 6 ≤ r'.pc) := by
  rw [hr, h6]; exact h.cR

/-- The reader of a link enters its clauses through `inRedir` and the thresholds 3 to 6 of `pc`. -/
theorem LinkOk.reader {cfg : Cfg} {k : Nat} {l : Link} {w r r' : Stage} (h : LinkOk cfg k l w r)
    (hr : r'.inRedir = r.inRedir) (hpc : r.pc < 3 ∧ r'.pc < 3 ∨ 6 ≤ r.pc ∧ 6 ≤ r'.pc) : LinkOk cfg k l w r' :=
  have h6 : 6 ≤ r'.pc ↔ 6 ≤ r.pc := by omega
  { h with
    cErr := by rw [h.cErr]; omega
    cStop := by rw [h.cStop]; omega
    cGone := by rw [h.cGone]; omega
    cR := h.cR_of hr h6 }

def OutSt.ok (outRedir : Nat) : OutSt → Prop
  | .writing todo _ => todo ≠ []
  | .putDone (.stopped e) => (outRedir = 0 → e = some .readerGone) ∧ (outRedir = 2 → e = some .noValueOutput)
  | .writeDone _ (some e) => e = .readerGone
  | _ => True

theorem StageOk.setOut {cfg : Cfg} {i : Nat} {st : Stage} {o : OutSt} (h : StageOk cfg i st)
    (hb : o ≠ .idle → st.pc = 1 ∧ st.outRedir ≠ 1) (ho : o.ok st.outRedir) : StageOk cfg i { st with out := o } :=
  { h with
    outBusy := hb
    wrNe := fun _ _ e => by subst e; exact ho
    putErr := fun _ e => by subst e; exact ho
    writeErr := fun _ _ e => by subst e; exact ho }

theorem StageOk.setVin {cfg : Cfg} {i : Nat} {st : Stage} {v : VinSt} (h : StageOk cfg i st)
    (hb : v ≠ .idle → st.pc = 1) : StageOk cfg i { st with vin := v } :=
  { h with vinBusy := hb }

theorem StageOk.setBin {cfg : Cfg} {i : Nat} {st : Stage} {b : BinSt} (h : StageOk cfg i st)
    (hb : b ≠ .idle → st.pc = 1) (hp : ∀ max, b = .reading max → 0 < max) : StageOk cfg i { st with bin := b } :=
  { h with binBusy := hb, readPos := hp }

/-- The invariant at the places a step of stage `i` can touch. -/
structure Around (cfg : Cfg) (s : State) (i : Nat) : Prop where
  stage : StageOk cfg i (s.stage i)
  out : LinkOk cfg i (s.link i) (s.stage i) (s.stage (i + 1))
  inp : 0 < i → LinkOk cfg (i - 1) (s.link (i - 1)) (s.stage (i - 1)) (s.stage i)

theorem Inv.around {cfg : Cfg} {s : State} (hinv : Inv cfg s) {i : Nat} (herr : ErrInv s i) : Around cfg s i where
  stage := { hinv.2.1 i, herr with }
  out := (hinv.1 i).ok
  inp h0 := by
    have h := (hinv.1 (i - 1)).ok
    rwa [Nat.sub_add_cancel h0] at h

/-- How a step other than `wg.Done` moves `pc`: within `form.exec` (0, 1, 2), or up by one but not to 9. -/
abbrev PcMove (p p' : Nat) : Prop := p ≤ 1 ∧ p' ≤ 2 ∨ p' = p + 1 ∧ p < 8

/-- What a step of stage `i` does, seen from outside. -/
structure StageStep (cfg : Cfg) (s s' : State) (i : Nat) : Prop where
  crashed : s'.crashed = s.crashed
  stages : ∀ j, j ≠ i → s'.stage j = s.stage j
  links : ∀ k, k ≠ i → k + 1 ≠ i → s'.link k = s.link k
  res : s'.result = s.result
  wg : s'.wg + (if (s'.stage i).pc = 9 then 1 else 0) = s.wg
  pc : PcMove (s.stage i).pc (s'.stage i).pc ∨ (s.stage i).pc = 8 ∧ (s'.stage i).pc = 9
  around : Around cfg s' i

namespace StageStep
variable {cfg : Cfg} {s s' : State} {i : Nat}

theorem preserves (h : StageStep cfg s s' i) (hinv : Inv cfg s) (herr : ∀ j, ErrInv s j) :
    Inv cfg s' ∧ ∀ j, ErrInv s' j := by
  have hS : ∀ j, StageOk cfg j (s'.stage j) := fun j => by
    by_cases hj : j = i
    · subst hj; exact h.around.stage
    · rw [h.stages j hj]; exact (hinv.around (herr j)).stage
  refine ⟨⟨fun k => LinkOk.inv ?_, fun j => (hS j).inv, h.crashed.trans hinv.2.2⟩, fun j => (hS j).err⟩
  by_cases hk : k = i
  · subst hk; exact h.around.out
  · by_cases hk1 : k + 1 = i
    · subst hk1; exact h.around.inp (by omega)
    · rw [h.links k hk hk1, h.stages k hk, h.stages (k + 1) hk1]; exact (hinv.1 k).ok

theorem of_frame (hc : s'.crashed = s.crashed) (hst : ∀ j, j ≠ i → s'.stage j = s.stage j)
    (hlk : ∀ k, k ≠ i → k + 1 ≠ i → s'.link k = s.link k) (hres : s'.result = s.result)
    (hwg : s'.wg + (if (s'.stage i).pc = 9 then 1 else 0) = s.wg)
    (hpc : PcMove (s.stage i).pc (s'.stage i).pc ∨ (s.stage i).pc = 8 ∧ (s'.stage i).pc = 9)
    (hS : StageOk cfg i (s'.stage i)) (hout : LinkOk cfg i (s'.link i) (s'.stage i) (s.stage (i + 1)))
    (hin : 0 < i → LinkOk cfg (i - 1) (s'.link (i - 1)) (s.stage (i - 1)) (s'.stage i)) : StageStep cfg s s' i where
  crashed := hc
  stages := hst
  links := hlk
  res := hres
  wg := hwg
  pc := hpc
  around :=
    { stage := hS
      out := by rw [hst (i + 1) (by omega)]; exact hout
      inp := fun h0 => by rw [hst (i - 1) (by omega)]; exact hin h0 }

/-- A step other than `wg.Done` leaves the WaitGroup counter alone. -/
theorem of_frame' (hc : s'.crashed = s.crashed) (hst : ∀ j, j ≠ i → s'.stage j = s.stage j)
    (hlk : ∀ k, k ≠ i → k + 1 ≠ i → s'.link k = s.link k) (hres : s'.result = s.result) (hwg : s'.wg = s.wg)
    (hpc : PcMove (s.stage i).pc (s'.stage i).pc) :
    StageOk cfg i (s'.stage i) → LinkOk cfg i (s'.link i) (s'.stage i) (s.stage (i + 1)) →
    (0 < i → LinkOk cfg (i - 1) (s'.link (i - 1)) (s.stage (i - 1)) (s'.stage i)) → StageStep cfg s s' i :=
  of_frame hc hst hlk hres (by rw [hwg, if_neg (by omega)]; rfl) (.inl hpc)

variable {st' : Stage} {l' : Link}

theorem plain (hS : StageOk cfg i st') (hout : LinkOk cfg i (s.link i) st' (s.stage (i + 1)))
    (hin : 0 < i → LinkOk cfg (i - 1) (s.link (i - 1)) (s.stage (i - 1)) st')
    (hpc : PcMove (s.stage i).pc st'.pc) :
    StageStep cfg s (setStage s i st') i :=
  of_frame' rfl (fun _ hj => setStage_stage_of_ne s st' hj) (fun _ _ _ => rfl) rfl rfl (by simpa using hpc)
    (by simpa using hS) (by simpa using hout) (by simpa using hin)

theorem withOut (hS : StageOk cfg i st') (hout : LinkOk cfg i l' st' (s.stage (i + 1)))
    (hin : 0 < i → LinkOk cfg (i - 1) (s.link (i - 1)) (s.stage (i - 1)) st')
    (hpc : PcMove (s.stage i).pc st'.pc) :
    StageStep cfg s (setStage (setLink s i l') i st') i :=
  of_frame' rfl (fun _ hj => setStage_stage_of_ne _ st' hj) (fun _ hk _ => setLink_link_of_ne s l' hk) rfl rfl
    (by simpa using hpc) (by simpa using hS) (by simpa using hout)
    (fun h0 => by rw [setStage_stage_self, setStage_link, setLink_link_of_ne s l' (by omega)]; exact hin h0)

theorem withIn (h0 : 0 < i) (hS : StageOk cfg i st') (hout : LinkOk cfg i (s.link i) st' (s.stage (i + 1)))
    (hin : LinkOk cfg (i - 1) l' (s.stage (i - 1)) st')
    (hpc : PcMove (s.stage i).pc st'.pc) :
    StageStep cfg s (setStage (setLink s (i - 1) l') i st') i :=
  of_frame' rfl (fun _ hj => setStage_stage_of_ne _ st' hj) (fun _ _ hk => setLink_link_of_ne s l' (by omega)) rfl rfl
    (by simpa using hpc) (by simpa using hS)
    (by rw [setStage_stage_self, setStage_link, setLink_link_of_ne s l' (by omega)]; exact hout)
    (fun _ => by simpa using hin)

/-- A port operation of a stage inside `form.exec` rewrites `out`, `vin`, `bin` of the stage
record, which no link clause reads. -/
theorem port {o : OutSt} {v : VinSt} {b : BinSt} (ha : Around cfg s i) (hpc : (s.stage i).pc = 1)
    (hS : StageOk cfg i { s.stage i with out := o, vin := v, bin := b }) :
    StageStep cfg s (setStage s i { s.stage i with out := o, vin := v, bin := b }) i :=
  plain hS { ha.out with } (fun h0 => { ha.inp h0 with }) (.inl ⟨by omega, by simp only []; omega⟩)

theorem portOut {o : OutSt} {v : VinSt} {b : BinSt} (ha : Around cfg s i) (hpc : (s.stage i).pc = 1)
    (hS : StageOk cfg i { s.stage i with out := o, vin := v, bin := b })
    (hL : LinkOk cfg i l' (s.stage i) (s.stage (i + 1))) :
    StageStep cfg s (setStage (setLink s i l') i { s.stage i with out := o, vin := v, bin := b }) i :=
  withOut hS { hL with } (fun h0 => { ha.inp h0 with }) (.inl ⟨by omega, by simp only []; omega⟩)

theorem portIn {o : OutSt} {v : VinSt} {b : BinSt} (ha : Around cfg s i) (hpc : (s.stage i).pc = 1) (h0 : 0 < i)
    (hS : StageOk cfg i { s.stage i with out := o, vin := v, bin := b })
    (hL : LinkOk cfg (i - 1) l' (s.stage (i - 1)) (s.stage i)) :
    StageStep cfg s (setStage (setLink s (i - 1) l') i { s.stage i with out := o, vin := v, bin := b }) i :=
  withIn h0 hS { ha.out with } { hL with } (.inl ⟨by omega, by simp only []; omega⟩)

end StageStep
end C18
