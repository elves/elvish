/-
C18 — `MakePipelineError` (the loop with its counter and `lastNotOK` index, pkg/eval/exception.go) equals its
specification `mpeSpec`.
-/
import ElvModel.C18.Model
namespace C18

def newexcs (l : List (Option Exc)) : List Exc := l.map fun | none => Exc.ok | some e => e

def notOKs (l : List (Option Exc)) : List Exc := (newexcs l).filter (· ≠ Exc.ok)

def mpeSpec (l : List (Option Exc)) : PipeRes :=
  match notOKs l with
  | [] => .nil
  | [e] => .single e
  | _ => .multi (newexcs l)

private def J (acc : List Exc) (c last : Nat) : Prop :=
  c = (acc.filter (· ≠ Exc.ok)).length ∧
  (0 < c → ∃ e, acc[last]? = some e ∧ (acc.filter (· ≠ Exc.ok)).getLast? = some e)

private theorem J_snoc_ok {acc c last} (h : J acc c last) : J (acc ++ [Exc.ok]) c last := by
  obtain ⟨h1, h2⟩ := h
  refine ⟨by simp [List.filter_append, h1], fun hc => ?_⟩
  obtain ⟨e, he, hl⟩ := h2 hc
  refine ⟨e, ?_, by simpa [List.filter_append] using hl⟩
  have : last < acc.length := by
    rcases Nat.lt_or_ge last acc.length with h | h
    · exact h
    · rw [List.getElem?_eq_none h] at he; cases he
  rw [List.getElem?_append_left this]; exact he

private theorem J_snoc_notok {acc c last} {x : Exc} (hx : x ≠ Exc.ok) (h : J acc c last) :
    J (acc ++ [x]) (c + 1) acc.length := by
  obtain ⟨h1, _⟩ := h
  refine ⟨by simp [List.filter_append, hx, h1], fun _ => ⟨x, by simp, by simp [List.filter_append, hx]⟩⟩

private theorem mpeLoop_spec : ∀ (l : List (Option Exc)) (acc : List Exc) (c last : Nat), J acc c last →
    ∃ c' last', mpeLoop l acc.length (acc, c, last) = (acc ++ newexcs l, c', last') ∧ J (acc ++ newexcs l) c' last' := by
  intro l
  induction l with
  | nil => intro acc c last h; exact ⟨c, last, by simp [mpeLoop, newexcs], by simpa [newexcs] using h⟩
  | cons e rest ih =>
    intro acc c last h
    cases e with
    | none =>
      have := ih (acc ++ [Exc.ok]) c last (J_snoc_ok h)
      simpa [mpeLoop, newexcs, List.append_assoc] using this
    | some x =>
      by_cases hx : x = Exc.ok
      · subst hx
        have := ih (acc ++ [Exc.ok]) c last (J_snoc_ok h)
        simpa [mpeLoop, newexcs, List.append_assoc] using this
      · have := ih (acc ++ [x]) (c + 1) acc.length (J_snoc_notok hx h)
        simpa [mpeLoop, newexcs, List.append_assoc, hx] using this

theorem makePipelineError_eq (l : List (Option Exc)) : makePipelineError l = some (mpeSpec l) := by
  obtain ⟨c, last, heq, hc, hl⟩ := mpeLoop_spec l [] 0 0 ⟨by simp, by omega⟩
  simp only [List.nil_append, List.length_nil] at heq hc hl
  unfold makePipelineError mpeSpec notOKs
  rw [heq]
  simp only
  generalize hf : List.filter (fun x => decide (x ≠ Exc.ok)) (newexcs l) = f at hc hl
  match f, hc, hl with
  | [], hc, _ => simp [hc]
  | [e], hc, hl =>
    have hc1 : c = 1 := by simpa using hc
    subst hc1
    obtain ⟨e', h1, h2⟩ := hl (by omega)
    simp at h2; subst h2
    simp [h1]
  | _ :: _ :: _, hc, _ =>
    have : c ≠ 0 ∧ c ≠ 1 := by simp at hc; omega
    simp [this.1, this.2]

end C18
