/-
C15 static-scope soundness: builtin commands, calling a function value, function bodies.
-/
import ElvProofs.C15.SoundExpr
import ElvProofs.C15.Sem
set_option linter.unusedSimpArgs false
set_option linter.unusedVariables false
namespace C15

variable {s0 : St}

namespace Keeps

end Keeps

/-- `each` and `keep-if`, the builtin commands that make a request (`loop f items`). -/
theorem keeps_loopBuiltin {loop : Value → List Value → Call}
    (hloop : ∀ {f items}, VWf f → VsWf items → Keeps s0 VsWf (C15.rec (loop f items)))
    {args : List Value} (ha : VsWf args) (on : List String) :
    Keeps s0 (fun _ => True) (do
      noOpts on
      match args with
      | f :: rest =>
        if !isCallable f then throwE Exc.wrongType else do
        let vs ← inputsOf rest
        let _ ← C15.rec (loop f vs)
      | [] => throwE Exc.arity) := by
  refine Keeps.bind (NoReq.noOpts on).keeps fun _ _ => ?_
  split
  · refine Keeps.ite (fun _ => Keeps.throwC (by decide)) fun _ => ?_
    refine Keeps.bind (NoReq.inputsOf fun _ => ha.tail).keeps fun vs hvs => ?_
    exact Keeps.andPure (hloop ha.head (hvs trivial)) trivial
  · exact Keeps.throwC (by decide)

theorem keeps_callBuiltin {name : String} {args : List Value} (ha : VsWf args) (on : List String)
    {ov : List Value} (ho : VsWf ov) : Keeps s0 (fun _ => True) (callBuiltin name args on ov) := by
  refine Keeps.bind (NoReq.precheck name args on).keeps fun _ _ => ?_
  by_cases h1 : name = "each"
  · subst h1
    -- `callBuiltinBody "each" …` unfolds to its arm: the match on the name is evaluated
    exact keeps_loopBuiltin (loop := .eachLoop) (fun hf hi => Keeps.rec [] ⟨hf, hi⟩) ha on
  by_cases h2 : name = "keep-if"
  · subst h2
    exact keeps_loopBuiltin (loop := .keepIfLoop) (fun hf hi => Keeps.rec [] ⟨hf, hi⟩) ha on
  exact (NoReq.callBuiltinBody h1 h2 (fun _ => ha) on ov).keeps

theorem Keeps.bindParams {names : List String} {vals : List Value} (hv : VsWf vals)
    (hl : names.length = vals.length) :
    Keeps s0 (fun fr => fr.map Prod.fst = names) (bindParams names vals) := by
  induction names generalizing vals with
  | nil => exact Keeps.pure rfl
  | cons x xs ih =>
    cases vals with
    | nil => simp at hl
    | cons v vs =>
      unfold C15.bindParams
      refine Keeps.bind Keeps.getSt (fun s hs => ?_)
      dsimp only
      refine Keeps.bind (Keeps.modify (fun t ht => ⟨ht.pushHeap hv.head, rfl⟩)) (fun _ _ => ?_)
      refine Keeps.bind (ih hv.tail (by simpa using hl)) (fun f hf => Keeps.pure ?_)
      simp [hf]

theorem Keeps.throwC_bind {α β : Type} {k : String} (h : k ≠ vnf) (f : α → M β) {R' : β → Prop} :
    Keeps s0 R' ((throwE ⟨k, []⟩ : M α) >>= f) :=
  Keeps.bind (R := fun _ => False) (Keeps.throwC h) (fun a h => h.elim)

theorem keeps_callValue {f : Value} (hf : VWf f) {args : List Value} (ha : VsWf args) (on : List String)
    {ov : List Value} (ho : VsWf ov) : Keeps s0 (fun _ => True) (callValue f args on ov) := by
  unfold callValue
  split
  · exact keeps_callBuiltin ha on ho
  · cases hf with
    | closure hlen hod hbody =>
      obtain ⟨sc', hag', hres⟩ := hbody
      rename_i id pos rest post onames odefs body env isFn
      dsimp only
      split
      · exact Keeps.throwC_bind (by decide) _
      · rename_i harity
        split
        · exact Keeps.throwC_bind (by decide) _
        · have hopt := optValues_wf (names := onames) hod on ho
          refine Keeps.bind (Keeps.bindParams ?_ ?_) (fun frame hfr => ?_)
          · refine ((VsWf.append (ha.take _) ?_).append (ha.drop _)).append hopt.1
            cases rest with
            | none => exact VsWf.nil
            | some r => exact VsWf.single (VWf.list ((ha.drop _).take _))
          · simp only [Bool.or_eq_true, Bool.and_eq_true, decide_eq_true_eq, bne_iff_ne, ne_eq, not_or, not_and,
              Nat.not_lt] at harity
            cases rest with
            | none =>
              have := harity.1 rfl
              simp only [List.length_append, List.length_take, List.length_drop, hopt.2, Option.toList,
                List.length_nil, hlen]
              simp at this
              omega
            | some r =>
              simp only [List.length_append, List.length_take, List.length_drop, hopt.2, Option.toList,
                List.length_cons, List.length_nil, hlen]
              omega
          · refine Keeps.andPure (Keeps.rec ((pos ++ rest.toList ++ post ++ onames).reverse :: sc')
              ⟨⟨?_, hag'⟩, hres⟩) trivial
            intro x
            rw [hfr, List.mem_reverse]
  · exact Keeps.throwC (by decide)

theorem wp_runDefers (ds : List (Nat × Value)) (s : St) {Q : Unit → St → Prop} {QE : Exc → St → Prop} :
    wp (runDefers ds) s Q QE ↔ Q () (applyDefers ds s) := by
  induction ds generalizing s with
  | nil => exact Iff.rfl
  | cons d ds ih =>
    obtain ⟨a, v⟩ := d
    simp only [runDefers, wp_bind, writeAddr, wp_modifySt, ih, applyDefers]

theorem applyDefers_wf {ds : List (Nat × Value)} (hd : ∀ d, d ∈ ds → VWf d.2) {s : St} (hs : StWf s) :
    StWf (applyDefers ds s) := by
  induction ds generalizing s with
  | nil => exact hs
  | cons d ds ih =>
    obtain ⟨a, v⟩ := d
    exact ih (fun d h => hd d (List.mem_cons_of_mem _ h)) (hs.setHeap a (hd (a, v) List.mem_cons_self))

theorem wp_runBody {c : Chunk} {frame : Frame} {env : Scope} (isFn : Bool) {s : St} (hs : StWf s)
    {sc : SScope} (hag : Agree (frame :: env) sc) (hr : rChunk sc c = true) :
    wp (runBody c frame env isFn) s (fun _ s' => StWf s' ∧ s'.scope = s.scope)
      (fun e s' => StWf s' ∧ EWf e ∧ s'.scope = s.scope) := by
  unfold runBody
  simp only [wp_bind, wp_getSt, wp_modifySt, wp_attempt, wp_rec, wp_runDefers]
  refine ⟨(sc, true), ⟨⟨hs.heap, hs.out, hs.inp, by intro d h; cases h⟩, hag, by rw [← rChunk_eq]; exact hr⟩, ?_⟩
  intro r s' ⟨h1, h2, h3⟩
  have hd := applyDefers_wf h1.defers h1
  have hfin : StWf { applyDefers s'.defers s' with scope := s.scope, defers := s.defers } :=
    ⟨hd.heap, hd.out, hd.inp, hs.defers⟩
  cases r with
  | ok vs => exact ⟨hfin, rfl⟩
  | error e =>
    dsimp only
    split
    · exact ⟨hfin, rfl⟩
    · exact ⟨hfin, h2, rfl⟩

end C15
