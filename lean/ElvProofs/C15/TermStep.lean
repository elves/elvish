/-
C15 fuel sufficiency: every step of a request of the class only makes smaller
requests of the class; hence fuel `size + 1` suffices.
-/
import ElvProofs.C15.Term
import ElvProofs.C15.NoReq
set_option linter.unusedSimpArgs false
set_option linter.unusedVariables false
namespace C15

variable {α β : Type}

/-- From a state without function variables, `m` only makes requests of the
class smaller than `b`, keeps the state without function variables, and returns
a result satisfying `R`. -/
def TT (b : Nat) (R : α → Prop) (m : M α) : Prop :=
  ∀ s, TildeFree s.scope →
    (m s).twp b (fun a s' => TildeFree s'.scope ∧ R a) (fun _ s' => TildeFree s'.scope)

namespace TT
variable {b : Nat}

theorem bind {m : M α} {f : α → M β} {R : α → Prop} {R' : β → Prop} (h1 : TT b R m)
    (h2 : ∀ a, R a → TT b R' (f a)) : TT b R' (m >>= f) := by
  intro s hs
  exact (FM.twp_bind _ _ _ _).mpr
    (FM.twp_mono (h1 s hs) (fun a s' h => h2 a h.2 s' h.1) (fun _ _ h => h))

theorem pure {a : α} {R : α → Prop} (h : R a) : TT b R (Pure.pure a : M α) := fun s hs => ⟨hs, h⟩
theorem throw {e : Exc} {R : α → Prop} : TT b R (throwE e : M α) := fun s hs => hs
theorem unsupp {w : String} {R : α → Prop} : TT b R (unsupported w : M α) := fun s hs => trivial

theorem andPure {m : M α} {R : α → Prop} {x : β} (h : TT b R m) :
    TT b (fun _ => True) (m >>= fun _ => Pure.pure x) :=
  bind h (fun _ _ => pure trivial)

theorem mono {m : M α} {R R' : α → Prop} (h : TT b R m) (hr : ∀ a, R a → R' a) : TT b R' m :=
  fun s hs => FM.twp_mono (h s hs) (fun a s' h => ⟨h.1, hr a h.2⟩) (fun _ _ h => h)

theorem ofInert {m : M α} (h : Inert m) : TT b (fun _ => True) m := by
  intro s hs
  have := h s
  cases hm : m s with
  | ret a s' => rw [hm] at this; exact ⟨by rw [show s'.scope = s.scope from this]; exact hs, trivial⟩
  | exc e s' => rw [hm] at this; show TildeFree s'.scope; rw [show s'.scope = s.scope from this]; exact hs
  | unsupported w => trivial
  | call c s' k => rw [hm] at this; exact this.elim

theorem attempt {m : M α} {R : α → Prop} (h : TT b R m) :
    TT b (fun r => ∀ a, r = Except.ok a → R a) (attempt m) := by
  intro s hs
  exact (FM.twp_attempt _ _ _).mpr
    (FM.twp_mono (h s hs) (fun a s' h => ⟨h.1, fun a' he => by cases he; exact h.2⟩)
      (fun e s' h => ⟨h, fun a' he => by cases he⟩))

theorem getSt : TT b (fun t => TildeFree t.scope) getSt := fun s hs => ⟨hs, hs⟩

theorem modify {f : St → St} (h : ∀ s, TildeFree s.scope → TildeFree (f s).scope) :
    TT b (fun _ => True) (modifySt f) := fun s hs => ⟨h s hs, trivial⟩

theorem rec (c : Call) (hin : InT c) (hsz : csz c < b := by size_lt) : TT b (TVals c) (C15.rec c) := by
  intro s hs
  refine ⟨⟨⟨hs, hin⟩, hsz⟩, ?_⟩
  intro r s' hp
  cases r with
  | ok vs => exact ⟨hp.1, hp.2 vs rfl⟩
  | error e => exact hp.1

theorem rec' (c : Call) (hin : InT c) (hsz : csz c < b := by size_lt) : TT b (fun _ => True) (C15.rec c) :=
  mono (rec c hin hsz) (fun _ _ => trivial)

theorem declare {x : String} (hx : isTilde x = false) (v : Value) : TT b (fun _ => True) (declare x v) := by
  intro s hs
  show FM.twp b (C15.declare x v s) _ _
  unfold C15.declare
  split
  · trivial
  · rename_i f rest hsc
    rw [hsc] at hs
    exact ⟨hs.declare hx _, trivial⟩

theorem undeclare (x : String) : TT b (fun _ => True) (undeclare x) := by
  intro s hs
  show FM.twp b (C15.undeclare x s) _ _
  unfold C15.undeclare
  split
  · trivial
  · rename_i f rest hsc
    split
    · rw [hsc] at hs
      exact ⟨hs.undeclare x, trivial⟩
    · exact hs

theorem declareAll {names : List String} (h : names.all (fun x => !isTilde x) = true) (vals : List Value) :
    TT b (fun _ => True) (declareAll names vals) := by
  induction names generalizing vals with
  | nil => exact pure trivial
  | cons x xs ih =>
    cases vals with
    | nil => exact pure trivial
    | cons v vs =>
      simp only [List.all_cons, Bool.and_eq_true, Bool.not_eq_true'] at h
      unfold C15.declareAll
      exact bind (declare h.1 v) (fun _ _ => ih (by simpa using h.2) vs)

end TT

variable {b : Nat}

theorem TT.runBlock {c : Chunk} (h : tChunk c = true) (hb : cSz c + 1 < b := by size_lt) :
    TT b (fun _ => True) (runBlock c) := by
  unfold C15.runBlock
  refine TT.bind TT.getSt (fun t ht => ?_)
  exact TT.andPure (TT.rec' (.body c [] t.scope false) ⟨h, ht.push⟩ hb)

theorem TT.runOptBlock {c : Option Chunk} (h : tOpt c = true) (hb : oSz c < b + 1 := by size_lt) :
    TT b (fun _ => True) (runOptBlock c) := by
  cases c with
  | none => exact TT.pure trivial
  | some c =>
    simp only [tOpt] at h
    simp only [oSz] at hb
    exact TT.runBlock h (by omega)

theorem TT.evalIdx {idx : List Expr} (h : tExprs idx = true) (hb : esSz idx ≤ b := by size_lt) :
    TT b (fun _ => True) (evalIdx idx) := by
  induction idx with
  | nil => exact TT.pure trivial
  | cons e es ih =>
    simp only [tExprs, Bool.and_eq_true] at h
    simp only [esSz] at hb
    unfold C15.evalIdx
    refine TT.bind (TT.rec' (.expr e) h.1) (fun vs _ => ?_)
    refine TT.bind (TT.ofInert (NoReq.one False.elim).inert) (fun v _ => ?_)
    exact TT.bind (ih h.2 (by omega)) (fun _ _ => TT.pure trivial)

theorem TT.derefLVals {lvs : List LVal} (h : tLVals lvs = true) (hb : lvsSz lvs ≤ b := by size_lt) :
    TT b (fun _ => True) (derefLVals lvs) := by
  induction lvs with
  | nil => exact TT.pure trivial
  | cons lv lvs ih =>
    obtain ⟨x, rest, idx⟩ := lv
    simp only [tLVals, Bool.and_eq_true] at h
    simp only [lvsSz] at hb
    unfold C15.derefLVals
    refine TT.bind (R := fun _ => True) ?_ (fun r _ => TT.bind (ih h.2 (by omega)) (fun _ _ => TT.pure trivial))
    unfold derefLVal
    refine TT.bind (TT.ofInert (Inert.lookupVar _)) (fun a _ => ?_)
    refine TT.bind (TT.evalIdx h.1.2) (fun ix _ => ?_)
    refine TT.bind (TT.ofInert (Inert.readAddr a)) (fun v _ => ?_)
    exact TT.andPure (TT.ofInert (Inert.liftE _))

theorem TT.delLVals {lvs : List LVal} (h : tLVals lvs = true) (hb : lvsSz lvs ≤ b := by size_lt) :
    TT b (fun _ => True) (delLVals lvs) := by
  induction lvs with
  | nil => exact TT.pure trivial
  | cons lv lvs ih =>
    obtain ⟨x, rest, idx⟩ := lv
    simp only [tLVals, Bool.and_eq_true] at h
    simp only [lvsSz] at hb
    unfold C15.delLVals
    refine TT.bind (R := fun _ => True) ?_ (fun _ _ => ih h.2 (by omega))
    unfold delLVal
    cases idx with
    | nil => exact TT.undeclare x
    | cons i is =>
      dsimp only [LVal.idx, LVal.name]
      refine TT.bind (TT.ofInert (Inert.lookupVar _)) (fun a _ => ?_)
      refine TT.bind (TT.evalIdx h.1.2 (by omega)) (fun ix _ => ?_)
      refine TT.bind (TT.ofInert (Inert.readAddr a)) (fun v _ => ?_)
      refine TT.bind (TT.ofInert (Inert.liftE _)) (fun v' _ => ?_)
      exact TT.ofInert (Inert.writeAddr a v')

/-- A literal head is a builtin command (there are no function variables). -/
theorem TT.resolveHeadLit (name : String) :
    TT b (fun f => f = .builtin name) (resolveHead (.lit name)) := by
  unfold C15.resolveHead
  dsimp only
  refine TT.bind TT.getSt (fun t ht => ?_)
  rw [ht.find_none name]
  dsimp only
  split
  · exact TT.pure rfl
  · exact TT.unsupp

theorem TT.catchVarAddr {cv : Option String} (h : tName cv = true) : TT b (fun _ => True) (catchVarAddr cv) := by
  cases cv with
  | none => exact TT.pure trivial
  | some v =>
    simp only [tName, Bool.not_eq_true'] at h
    unfold C15.catchVarAddr
    refine TT.bind TT.getSt (fun t ht => ?_)
    split
    · exact TT.pure trivial
    · exact TT.bind (TT.declare h .nil) (fun _ _ => TT.pure trivial)

theorem tvals_other {e : Expr} {vs : List Value} (h1 : ∀ s, e ≠ .lit s) (h2 : litList e = none) :
    TVals (.expr e) vs := by
  refine ⟨fun s he => absurd he (h1 s), fun ss he => ?_⟩
  rw [h2] at he; cases he

theorem tt_evalExpr (e : Expr) (h : tExpr e = true) : TT (eSz e) (TVals (.expr e)) (evalExpr e) := by
  cases e with
  | lit s =>
    refine TT.pure ⟨fun _ _ => rfl, fun ss he => ?_⟩
    simp [litList] at he
  | var x =>
    exact TT.bind (TT.ofInert (Inert.getVar x)) (fun v _ => TT.pure (tvals_other (by intro s h; cases h) rfl))
  | explode x =>
    refine TT.mono (TT.bind (TT.ofInert (Inert.getVar x)) (fun v _ => TT.ofInert (Inert.liftE _)))
      (fun _ _ => tvals_other (by intro s h; cases h) rfl)
  | list es =>
    simp only [tExpr] at h
    refine TT.bind (TT.rec (.exprs es) h) (fun vs hvs => TT.pure ?_)
    refine ⟨fun s he => (by cases he), fun ss he => ⟨vs, rfl, hvs ss he⟩⟩
  | map ks vs =>
    simp only [tExpr, Bool.and_eq_true] at h
    refine TT.bind (TT.rec' (.mapPairs ks vs) h) (fun kv _ => ?_)
    exact TT.pure (tvals_other (by intro s h; cases h) rfl)
  | lambda pos rest post on od body => simp [tExpr] at h
  | capture c =>
    simp only [tExpr, tChunk_eq] at h
    refine TT.mono (R := fun _ => True) ?_ (fun _ _ => tvals_other (by intro s h; cases h) rfl)
    refine TT.bind TT.getSt (fun s _ => ?_)
    refine TT.bind (TT.ofInert (Inert.modify (fun _ => rfl))) (fun _ _ => ?_)
    refine TT.bind (TT.attempt (TT.rec' (.pipes c.pipes) h)) (fun r _ => ?_)
    refine TT.bind TT.getSt (fun s' _ => ?_)
    refine TT.bind (TT.ofInert (Inert.modify (fun _ => rfl))) (fun _ _ => ?_)
    exact TT.andPure (TT.ofInert (Inert.liftE _))
  | excCapture c =>
    simp only [tExpr, tChunk_eq] at h
    refine TT.mono (R := fun _ => True) ?_ (fun _ _ => tvals_other (by intro s h; cases h) rfl)
    refine TT.bind (TT.attempt (TT.rec' (.pipes c.pipes) h)) (fun r _ => ?_)
    cases r <;> exact TT.pure trivial
  | braced es =>
    simp only [tExpr] at h
    exact TT.mono (TT.rec' (.exprs es) h)
      (fun _ _ => tvals_other (by intro s h; cases h) rfl)
  | index e idx =>
    simp only [tExpr, Bool.and_eq_true] at h
    refine TT.mono (R := fun _ => True) ?_ (fun _ _ => tvals_other (by intro s h; cases h) rfl)
    refine TT.bind (TT.rec' (.expr e) h.1) (fun cs _ => ?_)
    refine TT.bind (TT.rec' (.exprs idx) h.2) (fun is _ => ?_)
    dsimp only
    split
    · exact TT.bind (R := fun _ => True) TT.unsupp (fun _ _ => TT.ofInert (Inert.liftE _))
    · exact TT.ofInert (Inert.liftE _)
  | compound es =>
    refine TT.mono (R := fun _ => True) ?_ (fun _ _ => tvals_other (by intro s h; cases h) rfl)
    cases es with
    | nil => exact TT.pure trivial
    | cons e es =>
      simp only [tExpr, tExprs, Bool.and_eq_true] at h
      refine TT.bind (TT.rec' (.expr e) h.1) (fun vs _ => ?_)
      exact TT.rec' (.compoundFrom vs es) h.2

theorem tLVals_names {lvs : List LVal} (h : tLVals lvs = true) :
    (lvs.map LVal.name).all (fun x => !isTilde x) = true := by
  induction lvs with
  | nil => rfl
  | cons lv lvs ih =>
    obtain ⟨x, rest, idx⟩ := lv
    simp only [tLVals, Bool.and_eq_true] at h
    simp only [List.map_cons, List.all_cons, LVal.name, Bool.and_eq_true]
    exact ⟨h.1.1, ih h.2⟩

theorem tt_tryProtected {body : Chunk} {cv : Option String} {cb eb : Option Chunk} (hbody : tChunk body = true)
    (hcv : tName cv = true) (hcb : tOpt cb = true) (heb : tOpt eb = true)
    (h1 : cSz body + 1 < b := by size_lt) (h2 : oSz cb < b + 1 := by size_lt) (h3 : oSz eb < b + 1 := by size_lt) :
    TT b (fun _ => True) (tryProtected body cv cb eb) := by
  unfold tryProtected
  refine TT.bind (TT.attempt (TT.runBlock hbody h1)) (fun r _ => ?_)
  refine TT.bind (TT.catchVarAddr hcv) (fun cv' _ => ?_)
  cases r with
  | error e =>
    cases cb with
    | some cb =>
      exact TT.bind (TT.ofInert (NoReq.storeCaught cv' False.elim).inert)
        (fun _ _ => TT.mono (TT.attempt (TT.runOptBlock (c := some cb) hcb h2)) (fun _ _ => trivial))
    | none => exact TT.pure trivial
  | ok u =>
    cases eb with
    | some eb => exact TT.mono (TT.attempt (TT.runOptBlock (c := some eb) heb h3)) (fun _ _ => trivial)
    | none => exact TT.pure trivial

theorem tt_evalForm (cfg : Cfg) (f : Form) (h : tForm f = true) :
    TT (fSz f) (fun _ => True) (evalForm cfg f) := by
  cases f with
  | cmd head args on ov =>
    cases head with
    | lit name =>
      simp only [tForm, tHead, Bool.and_eq_true, bne_iff_ne, ne_eq] at h
      refine TT.bind (TT.resolveHeadLit name) (fun f hf => ?_)
      refine TT.bind (TT.rec' (.exprs args) h.1.2) (fun a _ => ?_)
      refine TT.bind (TT.rec' (.exprsEach ov) h.2) (fun ps _ => ?_)
      refine TT.bind (TT.ofInert (NoReq.oneEach False.elim).inert) (fun o _ => ?_)
      exact TT.andPure (TT.rec' (.call f a on o) ⟨name, hf, h.1.1.1, h.1.1.2⟩)
    | _ => simp [tForm, tHead] at h
  | declare names =>
    simp only [tForm] at h
    exact TT.declareAll h _
  | assign k lvs rhs =>
    simp only [tForm, Bool.and_eq_true] at h
    cases k with
    | var =>
      refine TT.bind (TT.rec' (.exprs rhs) h.2) (fun vs _ => ?_)
      refine TT.bind (TT.ofInert (Inert.liftE _)) (fun vals _ => ?_)
      exact TT.declareAll (tLVals_names h.1) vals
    | set | tmp =>
      refine TT.bind (TT.derefLVals h.1) (fun refs _ => ?_)
      refine TT.bind (TT.rec' (.exprs rhs) h.2) (fun vs _ => ?_)
      refine TT.bind (TT.ofInert (Inert.liftE _)) (fun vals _ => ?_)
      exact TT.ofInert (NoReq.assignRefs cfg _ False.elim False.elim).inert
  | del lvs =>
    simp only [tForm] at h
    exact TT.delLVals h
  | logic k args =>
    simp only [tForm] at h
    exact TT.andPure (TT.rec' (.logicArgs k args _) h)
  | ifF conds bodies els =>
    simp only [tForm, Bool.and_eq_true] at h
    exact TT.andPure (TT.rec' (.ifChain conds bodies els) ⟨h.1.1, h.1.2, h.2⟩)
  | whileF cond body els => simp [tForm] at h
  | forF v iter body els =>
    simp only [tForm, Bool.and_eq_true, Bool.not_eq_true'] at h
    obtain ⟨⟨⟨hv, hlit⟩, hbody⟩, hels⟩ := h
    obtain ⟨ss, hss⟩ := Option.isSome_iff_exists.mp hlit
    have hlen : litLen iter = ss.length := by simp [litLen, hss]
    have hrest : ∀ a : Nat, TT (fSz (.forF v iter body els)) (fun _ => True) (do
        let vs ← C15.rec (.expr iter)
        let c ← one vs
        let items ← liftE (elements c)
        let _ ← C15.rec (.forLoop a items body els false)
        Pure.pure ()) := by
      intro a
      refine TT.bind (TT.rec (.expr iter) (tExpr_of_litList hss)) (fun vs hvs => ?_)
      obtain ⟨l, rfl, hl⟩ := hvs.2 ss hss
      refine TT.bind (TT.pure (R := fun c => c = Value.list l) rfl) (fun c hc => ?_)
      subst hc
      refine TT.bind (TT.pure (R := fun items => items = l) rfl) (fun items hi => ?_)
      subst hi
      exact TT.andPure (TT.rec' (.forLoop a items body els false) ⟨hbody, hels⟩)
    refine TT.bind TT.getSt (fun t ht => ?_)
    dsimp only
    split
    · exact TT.bind (TT.pure (R := fun _ => True) trivial) (fun a _ => hrest a)
    · exact TT.bind (TT.declare hv .nil) (fun a _ => hrest a)
  | tryF body cv cb eb fin =>
    simp only [tForm, Bool.and_eq_true] at h
    obtain ⟨⟨⟨⟨hcv, hbody⟩, hcb⟩, heb⟩, hfin⟩ := h
    refine TT.bind (tt_tryProtected hbody hcv hcb heb) (fun pending _ => ?_)
    cases fin with
    | some fb => exact TT.bind (TT.runOptBlock (c := some fb) hfin) (fun _ _ => TT.ofInert (Inert.liftE _))
    | none => exact TT.ofInert (Inert.liftE _)
  | fnF name lam => simp [tForm] at h

theorem twp_of_TT {c : Call} {m : M (List Value)} {s : St} (h : TT (csz c) (TVals c) m)
    (hs : TildeFree s.scope) :
    (m s).twp (csz c) (fun vs s' => TPost c (.ok vs) s') (fun e s' => TPost c (.error e) s') :=
  FM.twp_mono (h s hs) (fun vs s' h => ⟨h.1, fun vs' he => by cases he; exact h.2⟩)
    (fun e s' h => ⟨h, fun vs' he => by cases he⟩)

theorem step_total (cfg : Cfg) (c : Call) (s : St) (hp : TPre c s) :
    (step cfg c s).twp (csz c) (fun vs s' => TPost c (.ok vs) s') (fun e s' => TPost c (.error e) s') := by
  obtain ⟨hs, hin⟩ := hp
  refine twp_of_TT ?_ hs
  cases c with
  | expr e => exact tt_evalExpr e hin
  | exprs es =>
    cases es with
    | nil =>
      refine TT.pure ?_
      intro ss he
      simp only [allLits, Option.some.injEq] at he
      subst he; rfl
    | cons e es =>
      have hin' : tExpr e = true ∧ tExprs es = true := by simpa [InT, tExprs] using hin
      refine TT.bind (TT.rec (.expr e) hin'.1) (fun a ha => ?_)
      refine TT.bind (TT.rec (.exprs es) hin'.2) (fun b' hb' => TT.pure ?_)
      intro ss he
      obtain ⟨s0, ss', rfl, hes, rfl⟩ := allLits_cons he
      simp only [List.length_append, List.length_cons, ha.1 s0 rfl, hb' ss' hes]
      omega
  | exprsEach es =>
    cases es with
    | nil => exact TT.pure trivial
    | cons e es =>
      have hin' : tExpr e = true ∧ tExprs es = true := by simpa [InT, tExprs] using hin
      refine TT.bind (TT.rec' (.expr e) hin'.1) (fun a _ => ?_)
      exact TT.bind (TT.rec' (.exprsEach es) hin'.2) (fun _ _ => TT.pure trivial)
  | form f => exact TT.andPure (tt_evalForm cfg f hin)
  | pipeline p =>
    obtain ⟨fs⟩ := p
    have hmulti : TT (fsSz fs + 1) (fun _ => True)
        (do let t ← getSt; C15.rec (.stages fs t.inp true [])) :=
      TT.bind TT.getSt (fun t _ => TT.rec' (.stages fs t.inp true []) hin)
    cases fs with
    | nil => exact hmulti
    | cons f fs =>
      cases fs with
      | nil =>
        have hf : tForm f = true := by simpa [InT, tForms] using hin
        exact TT.rec' (.form f) hf
      | cons g gs => exact hmulti
  | pipes ps =>
    cases ps with
    | nil => exact TT.pure trivial
    | cons p ps =>
      obtain ⟨fs⟩ := p
      have hin' : tForms fs = true ∧ tPipes ps = true := by simpa [InT, tPipes] using hin
      refine TT.bind (TT.rec' (.pipeline (.mk fs)) hin'.1) (fun _ _ => ?_)
      exact TT.rec' (.pipes ps) hin'.2
  | body c frame env isFn =>
    obtain ⟨hc, htf⟩ := hin
    refine TT.bind (R := fun _ => True) ?_ (fun _ _ => TT.pure trivial)
    unfold runBody
    refine TT.bind TT.getSt (fun s0 hs0 => ?_)
    refine TT.bind (TT.modify (fun _ _ => htf)) (fun _ _ => ?_)
    have hc : tPipes c.pipes = true := by rw [← tChunk_eq]; exact hc
    refine TT.bind (TT.attempt (TT.rec' (.pipes c.pipes) hc)) (fun r _ => ?_)
    refine TT.bind TT.getSt (fun t _ => ?_)
    refine TT.bind (TT.ofInert (Inert.runDefers _)) (fun _ _ => ?_)
    refine TT.bind (TT.modify (fun _ _ => hs0)) (fun _ _ => ?_)
    cases r with
    | ok _ => exact TT.pure trivial
    | error e =>
      dsimp only
      split
      · exact TT.pure trivial
      · exact TT.throw
  | call f args on ov =>
    obtain ⟨name, rfl, h1, h2⟩ := hin
    exact TT.andPure (TT.ofInert (Inert.callBuiltin h1 h2 args on ov))
  | logicArgs k args last =>
    cases args with
    | nil => exact TT.andPure (TT.ofInert (Inert.emit _))
    | cons e es =>
      have hin' : tExpr e = true ∧ tExprs es = true := by simpa [InT, tExprs] using hin
      refine TT.bind (TT.rec' (.expr e) hin'.1) (fun vs _ => ?_)
      split
      · exact TT.andPure (TT.ofInert (Inert.emit _))
      · exact TT.rec' (.logicArgs k es _) hin'.2
  | ifChain conds bodies els =>
    obtain ⟨hconds, hbodies, hels⟩ := hin
    have helse : TT (csz (.ifChain conds bodies els)) (fun _ => True)
        (do runOptBlock els; Pure.pure [] : M (List Value)) :=
      TT.andPure (TT.runOptBlock hels)
    cases conds with
    | nil => exact helse
    | cons c cs =>
      cases bodies with
      | nil => exact helse
      | cons b' bs =>
        simp only [tExprs, tChunks, Bool.and_eq_true] at hconds hbodies
        refine TT.bind (TT.rec' (.expr c) hconds.1) (fun vs _ => ?_)
        split
        · exact TT.andPure (TT.runBlock hbodies.1)
        · exact TT.rec' (.ifChain cs bs els) ⟨hconds.2, hbodies.2, hels⟩
  | whileLoop cond body els it => exact hin.elim
  | forLoop a items body els it =>
    obtain ⟨hbody, hels⟩ := hin
    cases items with
    | nil =>
      simp only [step]
      split
      · exact TT.andPure (TT.runOptBlock hels)
      · exact TT.pure trivial
    | cons v vs =>
      refine TT.bind (TT.ofInert (Inert.writeAddr a v)) (fun _ _ => ?_)
      refine TT.bind (TT.attempt (TT.runBlock hbody)) (fun r _ => ?_)
      have hnext : TT (csz (.forLoop a (v :: vs) body els it)) (fun _ => True)
          (C15.rec (.forLoop a vs body els true)) := TT.rec' _ ⟨hbody, hels⟩
      cases r with
      | ok _ => exact hnext
      | error e =>
        dsimp only
        split
        · exact hnext
        · split
          · exact TT.pure trivial
          · exact TT.throw
  | eachLoop f items => exact hin.elim
  | keepIfLoop f items => exact hin.elim
  | stages fs input first excs =>
    cases fs with
    | nil => exact TT.andPure (TT.ofInert (NoReq.pipelineResult False.elim).inert)
    | cons f fs =>
      have hin' : tForm f = true ∧ tForms fs = true := by simpa [InT, tForms] using hin
      refine TT.bind TT.getSt (fun t _ => ?_)
      dsimp only
      refine TT.bind (TT.ofInert (Inert.modify (fun _ => rfl))) (fun _ _ => ?_)
      refine TT.bind (TT.attempt (TT.rec' (.form f) hin'.1)) (fun r _ => ?_)
      refine TT.bind TT.getSt (fun t' _ => ?_)
      refine TT.bind (TT.ofInert (Inert.modify (fun _ => rfl))) (fun _ _ => ?_)
      exact TT.rec' (.stages fs _ false _) hin'.2
  | mapPairs ks vs =>
    obtain ⟨hks, hvs⟩ := hin
    cases ks with
    | nil => exact TT.pure trivial
    | cons k ks =>
      cases vs with
      | nil => exact TT.pure trivial
      | cons v vs =>
        simp only [tExprs, Bool.and_eq_true] at hks hvs
        refine TT.bind (TT.rec' (.expr k) hks.1) (fun kv _ => ?_)
        refine TT.bind (TT.rec' (.expr v) hvs.1) (fun vv _ => ?_)
        dsimp only
        split
        · exact TT.bind (R := fun _ => True) TT.throw (fun _ _ => TT.bind
            (TT.rec' (.mapPairs ks vs) ⟨hks.2, hvs.2⟩) (fun _ _ => TT.pure trivial))
        · exact TT.bind (TT.rec' (.mapPairs ks vs) ⟨hks.2, hvs.2⟩) (fun _ _ => TT.pure trivial)
  | compoundFrom acc es =>
    cases es with
    | nil => exact TT.pure trivial
    | cons e es =>
      have hin' : tExpr e = true ∧ tExprs es = true := by simpa [InT, tExprs] using hin
      refine TT.bind (TT.rec' (.expr e) hin'.1) (fun us _ => ?_)
      refine TT.bind (TT.ofInert (Inert.liftE _)) (fun acc' _ => ?_)
      exact TT.rec' (.compoundFrom acc' es) hin'.2

theorem tildeFree_init : TildeFree initSt.scope := by
  intro f hf p hp
  simp only [initSt, List.mem_cons, List.mem_nil_iff, or_false] at hf
  rcases hf with rfl | rfl
  · cases hp
  · simp only [List.mem_cons, List.mem_nil_iff, or_false] at hp
    rcases hp with rfl | rfl | rfl | rfl <;> decide

theorem program_total (cfg : Cfg) (p : Chunk) (h : tChunk p = true) (n : Nat) (hn : cSz p < n) :
    TGood (.pipes p.pipes) (run cfg n (.pipes p.pipes) initSt) :=
  run_total cfg (step_total cfg) n _ _ ⟨tildeFree_init, show tPipes p.pipes = true by rw [← tChunk_eq]; exact h⟩
    (by simp only [csz, ← cSz_eq]; exact hn)

end C15
