/- C15: the number of values of a compound expression. -/
import ElvModel.C15.Model
namespace C15

theorem concatRow_length (l : Value) : ∀ (rs xs : List Value), concatRow l rs = .ok xs → xs.length = rs.length
  | [], xs, h => by simp [concatRow] at h; subst h; rfl
  | r :: rs, xs, h => by
    simp only [concatRow, bind, Except.bind] at h
    cases hc : concat l r with
    | error e => rw [hc] at h; cases h
    | ok x =>
      rw [hc] at h
      cases hr : concatRow l rs with
      | error e => rw [hr] at h; cases h
      | ok ys =>
        rw [hr] at h
        simp only [pure, Except.pure] at h
        cases h
        simp [concatRow_length l rs ys hr]

theorem outer_length : ∀ (ls rs xs : List Value), outer ls rs = .ok xs → xs.length = ls.length * rs.length
  | [], rs, xs, h => by simp [outer] at h; subst h; simp
  | l :: ls, rs, xs, h => by
    simp only [outer, bind, Except.bind] at h
    cases hc : concatRow l rs with
    | error e => rw [hc] at h; cases h
    | ok row =>
      rw [hc] at h
      cases hr : outer ls rs with
      | error e => rw [hr] at h; cases h
      | ok rest =>
        rw [hr] at h
        simp only [pure, Except.pure] at h
        cases h
        simp [concatRow_length l rs row hc, outer_length ls rs rest hr, Nat.add_mul]
        omega

def lenProd : List (List Value) → Nat
  | [] => 1
  | p :: ps => p.length * lenProd ps

theorem compoundFrom_length : ∀ (parts : List (List Value)) (acc xs : List Value),
    compoundFrom acc parts = .ok xs → xs.length = acc.length * lenProd parts
  | [], acc, xs, h => by simp [compoundFrom] at h; subst h; simp [lenProd]
  | p :: ps, acc, xs, h => by
    simp only [compoundFrom, bind, Except.bind] at h
    cases ho : outer acc p with
    | error e => rw [ho] at h; cases h
    | ok acc' =>
      rw [ho] at h
      rw [compoundFrom_length ps acc' xs h, outer_length acc p acc' ho, lenProd, Nat.mul_assoc]

end C15
