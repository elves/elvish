/-
C15: the pure value-stream / container builtins of `ElvModel/C15/Builtins.lean` preserve well-formedness of values
and only raise well-formed exceptions (needed by static-scope soundness).
-/
import ElvProofs.C15.Vals
set_option linter.unusedSimpArgs false
set_option linter.unusedVariables false
namespace C15

def PWf : PRes → Prop
  | .vals vs => VsWf vs
  | .err e => EWf e
  | .unsup _ => True

theorem PWf.bool (b : Bool) : PWf (.vals [.bool b]) := VsWf.single (VWf.bool b)
theorem PWf.errC {k : String} (h : k ≠ vnf) : PWf (.err ⟨k, []⟩) := EWf.const h

theorem mem_compactFrom {p : Value} {vs : List Value} {x : Value} (h : x ∈ compactFrom p vs) : x ∈ vs := by
  induction vs generalizing p with
  | nil => cases h
  | cons v vs ih =>
    unfold compactFrom at h
    split at h
    · exact List.mem_cons_of_mem _ (ih h)
    · cases h with
      | head => exact List.mem_cons_self
      | tail _ h => exact List.mem_cons_of_mem _ (ih h)

theorem compact_wf {vs : List Value} (h : VsWf vs) : VsWf (compact vs) := by
  cases vs with
  | nil => exact VsWf.nil
  | cons v vs =>
    intro x hx
    cases hx with
    | head => exact h.head
    | tail _ hx => exact h.tail _ (mem_compactFrom hx)

theorem makeMapPair_ok {x k v : Value} (hx : VWf x) (h : makeMapPair x = .ok (k, v)) : VWf k ∧ VWf v := by
  unfold makeMapPair at h
  split at h
  · cases h
    cases hx with
    | list h => exact ⟨h _ (by simp), h _ (by simp)⟩
  · cases h
  · dsimp only at h
    split at h
    · cases h
    · split at h
      · cases h; exact ⟨VWf.str _, VWf.str _⟩
      · cases h
  · cases h

theorem makeMapPair_err {x : Value} {e : Exc} (h : makeMapPair x = .error (some e)) : EWf e := by
  unfold makeMapPair at h
  split at h
  · cases h
  · cases h; exact EWf.const (by decide)
  · dsimp only at h
    split at h
    · cases h
    · split at h
      · cases h
      · cases h; exact EWf.const (by decide)
  · cases h; exact EWf.const (by decide)
theorem makeMapFrom_wf {acc : List (Value × Value)} (h1 : ∀ kv, kv ∈ acc → VWf kv.1)
    (h2 : ∀ kv, kv ∈ acc → VWf kv.2) {xs : List Value} (hx : VsWf xs) : PWf (makeMapFrom acc xs) := by
  induction xs generalizing acc with
  | nil => exact VsWf.single (VWf.map h1 h2)
  | cons x xs ih =>
    unfold makeMapFrom
    split
    · rename_i k v hkv
      have := makeMapPair_ok hx.head hkv
      have hp := mapPut_wf h1 h2 this.1 this.2
      exact ih hp.1 hp.2 hx.tail
    · rename_i e he
      exact makeMapPair_err he
    · trivial

theorem makeMap_wf {xs : List Value} (hx : VsWf xs) : PWf (makeMap xs) :=
  makeMapFrom_wf (by intro kv h; cases h) (by intro kv h; cases h) hx

theorem liftR_wf {r : Except Exc Value} (h : RWf r) : PWf (liftR r) := by
  cases r with
  | ok v => exact VsWf.single h
  | error e => exact h

theorem hasKey_wf (c k : Value) : PWf (hasKey c k) := by
  unfold hasKey
  dsimp only
  repeat' split
  all_goals first | exact PWf.bool _ | trivial

theorem hasValue_wf (c v : Value) : PWf (hasValue c v) := by
  unfold hasValue
  repeat' split
  all_goals first | exact PWf.bool _ | trivial | exact PWf.errC (by decide)

theorem keysOf_wf {c : Value} (hc : VWf c) : PWf (keysOf c) := by
  unfold keysOf
  split
  · cases hc with
    | map h1 h2 =>
      intro x hx
      obtain ⟨kv, hkv, rfl⟩ := List.mem_map.mp hx
      exact h1 _ hkv
  · split
    · trivial
    · exact PWf.errC (by decide)

theorem assocB_wf {c k v : Value} (hc : VWf c) (hk : VWf k) (hv : VWf v) : PWf (assocB c k v) := by
  unfold assocB
  split
  · trivial
  · exact liftR_wf (assocValue_wf hc hk hv)

theorem dissocB_wf {c : Value} (hc : VWf c) (k : Value) : PWf (dissocB c k) := by
  unfold dissocB
  split
  · cases hc with
    | map h1 h2 =>
      refine VsWf.single (VWf.map ?_ ?_) <;> intro kv hkv
      · exact h1 _ (List.mem_filter.mp hkv).1
      · exact h2 _ (List.mem_filter.mp hkv).1
  · split
    · trivial
    · exact PWf.errC (by decide)

theorem conjB_wf {l : Value} (hl : VWf l) {more : List Value} (hm : VsWf more) : PWf (conjB l more) := by
  unfold conjB
  split
  · cases hl with
    | list h => exact VsWf.single (VWf.list (VsWf.append h hm))
  · trivial
  · exact PWf.errC (by decide)

theorem isB_wf (args : List Value) : PWf (isB args) := by
  unfold isB
  split
  · exact PWf.bool _
  · trivial

theorem argBuiltin_wf (name : String) {args : List Value} (ha : VsWf args) : PWf (argBuiltin name args) := by
  unfold argBuiltin
  split
  all_goals first
    | exact hasKey_wf _ _
    | exact hasValue_wf _ _
    | exact keysOf_wf ha.head
    | exact assocB_wf ha.head ha.tail.head ha.tail.tail.head
    | exact dissocB_wf ha.head _
    | exact conjB_wf ha.head ha.tail
    | exact isB_wf _
    | exact PWf.errC (by decide)
    | trivial

theorem replicate_wf (n : Nat) {v : Value} (hv : VWf v) : VsWf (List.replicate n v) := by
  intro x hx
  rw [(List.mem_replicate.mp hx).2]
  exact hv

end C15
