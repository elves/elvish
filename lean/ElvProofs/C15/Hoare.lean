/-
C15 static-scope soundness: Hoare triples over the interpreter monad with the
state invariant (`StWf`) and the exception invariant (`EWf`) built in, and the
triples of the primitive operations.

The judgements of C15: `Tr P m Q Es` is the general triple; `Keeps s0 R m` is `Tr` for code
that leaves the scope chain of `s0` alone (expressions, commands: every Sound* file);
`TrF` (SoundAssign) is `Tr` for code that may declare variables, tracking the static scope;
`NoReq` (NoReq) is for builtins that never call the evaluator and yields `Keeps`; `TT`
(TermStep) bounds the requests instead, for fuel sufficiency.  `Holds c g s r` (Spec) says
that the evaluator's answer `r` to request `c` meets the postcondition `wp` assumed.
-/
import ElvProofs.C15.Spec
set_option linter.unusedSimpArgs false
set_option linter.unusedVariables false
namespace C15

/-- From a well-formed state satisfying `P`, `m` ends in a well-formed state
with `Qs`, or throws a well-formed exception in a well-formed state with `Es`
(requests to the evaluator meet their preconditions and are assumed to keep
their postconditions). -/
def Tr {α} (P : St → Prop) (m : M α) (Qs : α → St → Prop) (Es : St → Prop) : Prop :=
  ∀ s, StWf s → P s → wp m s (fun a s' => StWf s' ∧ Qs a s') (fun e s' => StWf s' ∧ EWf e ∧ Es s')

def Keeps {α} (s0 : St) (R : α → Prop) (m : M α) : Prop :=
  Tr (fun s => s.scope = s0.scope) m (fun a s' => s'.scope = s0.scope ∧ R a) (fun s' => s'.scope = s0.scope)

variable {α β : Type}

theorem Tr.bind {P : St → Prop} {m : M α} {f : α → M β} {Q1 : α → St → Prop} {Q2 : β → St → Prop}
    {Es : St → Prop} (h1 : Tr P m Q1 Es) (h2 : ∀ a, Tr (Q1 a) (f a) Q2 Es) : Tr P (m >>= f) Q2 Es := by
  intro s hs hp
  refine wp_seq _ (h1 s hs hp) ?_
  intro a s' ⟨hs', hq⟩
  exact h2 a s' hs' hq

theorem Tr.conseq {P P' : St → Prop} {m : M α} {Q Q' : α → St → Prop} {Es Es' : St → Prop}
    (h : Tr P m Q Es) (hp : ∀ s, StWf s → P' s → P s) (hq : ∀ a s, StWf s → Q a s → Q' a s)
    (he : ∀ s, Es s → Es' s) : Tr P' m Q' Es' := by
  intro s hs hp'
  refine wp_mono (h s hs (hp s hs hp')) ?_ ?_
  · intro a s' ⟨h1, h2⟩; exact ⟨h1, hq a s' h1 h2⟩
  · intro e s' ⟨h1, h2, h3⟩; exact ⟨h1, h2, he s' h3⟩

theorem Tr.pure {P : St → Prop} {a : α} {Q : α → St → Prop} {Es : St → Prop}
    (h : ∀ s, StWf s → P s → Q a s) : Tr P (pure a : M α) Q Es := by
  intro s hs hp; exact ⟨hs, h s hs hp⟩

theorem Tr.throw {P : St → Prop} {e : Exc} {Q : α → St → Prop} {Es : St → Prop} (he : EWf e)
    (h : ∀ s, StWf s → P s → Es s) : Tr P (throwE e : M α) Q Es := by
  intro s hs hp; exact ⟨hs, he, h s hs hp⟩

theorem Tr.assume {P : St → Prop} {m : M α} {Q : α → St → Prop} {Es : St → Prop} {p : Prop}
    (h : p → Tr P m Q Es) : Tr (fun s => p ∧ P s) m Q Es := by
  intro s hs hp; exact h hp.1 s hs hp.2

theorem PreC.congr {c : Call} {sc : SScope} {d : Bool} {s s' : St} (h : s'.scope = s.scope)
    (hc : PreC c sc d s) : PreC c sc d s' := by
  -- either the precondition does not read the state, or it reads `Agree s.scope sc` first
  cases c <;> first | exact hc | exact ⟨h ▸ hc.1, hc.2⟩

namespace Keeps
variable {s0 : St}

theorem bind {m : M α} {f : α → M β} {R : α → Prop} {R' : β → Prop}
    (h1 : Keeps s0 R m) (h2 : ∀ a, R a → Keeps s0 R' (f a)) : Keeps s0 R' (m >>= f) := by
  refine Tr.bind h1 ?_
  intro a s hs ⟨hsc, hr⟩
  exact h2 a hr s hs hsc

theorem pure {a : α} {R : α → Prop} (h : R a) : Keeps s0 R (Pure.pure a : M α) :=
  Tr.pure (fun s _ hp => ⟨hp, h⟩)

theorem andPure {m : M α} {R : α → Prop} {x : β} {R' : β → Prop} (h : Keeps s0 R m) (hx : R' x) :
    Keeps s0 R' (m >>= fun _ => Pure.pure x) :=
  bind h (fun _ _ => pure hx)

theorem throw {e : Exc} {R : α → Prop} (he : EWf e) : Keeps s0 R (throwE e : M α) :=
  Tr.throw he (fun s _ hp => hp)

theorem throwC {k : String} {R : α → Prop} (h : k ≠ vnf) : Keeps s0 R (throwE ⟨k, []⟩ : M α) :=
  throw (EWf.const h)

theorem unsupp {w : String} {R : α → Prop} : Keeps s0 R (unsupported w : M α) := by
  intro s hs hp; trivial

theorem mono {m : M α} {R R' : α → Prop} (h : Keeps s0 R m) (hr : ∀ a, R a → R' a) : Keeps s0 R' m :=
  Tr.conseq h (fun _ _ h => h) (fun a s _ ⟨h1, h2⟩ => ⟨h1, hr a h2⟩) (fun _ h => h)

theorem liftE {r : Except Exc α} {R : α → Prop} (h : EOk R r) : Keeps s0 R (liftE r) := by
  intro s hs hp
  cases r with
  | ok a => exact ⟨hs, hp, h⟩
  | error e => exact ⟨hs, h, hp⟩

theorem getSt : Keeps s0 (fun t => StWf t ∧ t.scope = s0.scope) getSt := by
  intro s hs hp; exact ⟨hs, hp, hs, hp⟩

theorem modify {f : St → St} (h : ∀ s, StWf s → StWf (f s) ∧ (f s).scope = s.scope) :
    Keeps s0 (fun _ => True) (modifySt f) := by
  intro s hs hp
  have := h s hs
  exact ⟨this.1, this.2.trans hp, trivial⟩

theorem attempt {m : M α} {R : α → Prop} (h : Keeps s0 R m) :
    Keeps s0 (EOk R) (attempt m) := by
  intro s hs hp
  rw [wp_attempt]
  refine wp_mono (h s hs hp) ?_ ?_
  · intro a s' ⟨h1, h2, h3⟩; exact ⟨h1, h2, h3⟩
  · intro e s' ⟨h1, h2, h3⟩; exact ⟨h1, h3, h2⟩

/-- A request where declarations are not allowed leaves the scope chain alone; its static precondition reads
the state only through the scope chain, so it is enough to have it at `s0`. -/
theorem rec {c : Call} (sc : SScope) (hpre : PreC c sc false s0) : Keeps s0 VsWf (rec c) := by
  intro s hs hp
  rw [wp_rec]
  refine ⟨(sc, false), ⟨hs, PreC.congr hp hpre⟩, ?_⟩
  intro r s' ⟨h1, h2, h3⟩
  have hsc : s'.scope = s0.scope := by
    refine Eq.trans ?_ hp
    cases c <;> first | exact h3 | exact h3.1 rfl | exact h3.1
  cases r with
  | ok vs => exact ⟨h1, hsc, h2⟩
  | error e => exact ⟨h1, h2, hsc⟩

theorem ite {c : Prop} [Decidable c] {a b : M α} {R : α → Prop} (ha : c → Keeps s0 R a)
    (hb : ¬c → Keeps s0 R b) : Keeps s0 R (if c then a else b) := by
  split
  · exact ha ‹_›
  · exact hb ‹_›

end Keeps

theorem StWf.setHeap {s : St} (h : StWf s) (a : Nat) {v : Value} (hv : VWf v) :
    StWf { s with heap := s.heap.set a v } := ⟨VsWf.set h.heap a hv, h.out, h.inp, h.defers⟩

theorem StWf.pushHeap {s : St} (h : StWf s) {v : Value} (hv : VWf v) :
    StWf { s with heap := s.heap ++ [v] } := ⟨h.heap.append (VsWf.single hv), h.out, h.inp, h.defers⟩

theorem StWf.setOut {s : St} (h : StWf s) {o : List Value} (ho : VsWf o) : StWf { s with out := o } :=
  ⟨h.heap, ho, h.inp, h.defers⟩

theorem StWf.setInp {s : St} (h : StWf s) {o : List Value} (ho : VsWf o) : StWf { s with inp := o } :=
  ⟨h.heap, h.out, ho, h.defers⟩

theorem StWf.setScope {s : St} (h : StWf s) (sc : Scope) : StWf { s with scope := sc } :=
  ⟨h.heap, h.out, h.inp, h.defers⟩

namespace Keeps
variable {s0 : St}

theorem freshId : Keeps s0 (fun _ => True) freshId := by
  intro s hs hp; exact ⟨⟨hs.heap, hs.out, hs.inp, hs.defers⟩, hp, trivial⟩

theorem lookupVar {sc : SScope} (hag : Agree s0.scope sc) {x : String} (hx : sc.has x = true) :
    Keeps s0 (fun _ => True) (lookupVar x) := by
  intro s hs hp
  obtain ⟨a, ha⟩ := agree_find_some hag hx
  show FM.wp (match s.scope.find x with
    | some a => FM.ret a s
    | none => FM.exc Exc.varNotFound s) _ _
  rw [hp, ha]
  exact ⟨hs, hp, trivial⟩

end Keeps

end C15
