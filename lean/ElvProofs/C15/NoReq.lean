/-
C15: computations that make no request to the evaluator and leave the scope
chain alone — the builtin commands other than `each` and `keep-if`, and the
primitive operations they are made of.

Static-scope soundness needs to know of them that they keep the state
well-formed (`Keeps`), fuel sufficiency that they make no request (`Inert`).
Both are read off one judgement, `NoReq w R m`, in which the claims about
well-formedness are guarded by a proposition `w`: a proof for arbitrary `w`
gives `Keeps` at `w := True` and `Inert` at `w := False`, so the builtin
commands are gone through once.
-/
import ElvProofs.C15.Hoare
import ElvProofs.C15.PureWf
set_option linter.unusedVariables false
namespace C15

variable {α β : Type}

def FM.inert (sc : Scope) : FM α → Prop
  | .ret _ s' => s'.scope = sc
  | .exc _ s' => s'.scope = sc
  | .unsupported _ => True
  | .call _ _ _ => False

def Inert (m : M α) : Prop := ∀ s, (m s).inert s.scope

/-- `t` makes no request and ends with the scope chain `sc`; if `w`, in a
well-formed state with a result satisfying `R` or a well-formed exception. -/
def FM.noReq (w : Prop) (sc : Scope) (R : α → Prop) : FM α → Prop
  | .ret a s' => s'.scope = sc ∧ (w → StWf s') ∧ R a
  | .exc e s' => s'.scope = sc ∧ (w → StWf s' ∧ EWf e)
  | .unsupported _ => True
  | .call _ _ _ => False

/-- What `R` says of a result `a` may itself be guarded by `w` (as in `w → VsWf a`). -/
def NoReq (w : Prop) (R : α → Prop) (m : M α) : Prop := ∀ s, (w → StWf s) → (m s).noReq w s.scope R

def RefWf (r : Ref) : Prop := VsWf r.idx ∧ VWf r.snapshot

namespace NoReq
variable {w : Prop}

theorem inert {R : α → Prop} {m : M α} (h : NoReq False R m) : Inert m := by
  intro s
  have := h s False.elim
  cases hm : m s <;> rw [hm] at this
  · exact this.1
  · exact this.1
  · trivial
  · exact this

theorem keeps {s0 : St} {R : α → Prop} {m : M α} (h : NoReq True R m) : Keeps s0 R m := by
  intro s hs hp
  have := h s (fun _ => hs)
  show FM.wp (m s) _ _
  cases hm : m s <;> rw [hm] at this
  · exact ⟨this.2.1 trivial, this.1.trans hp, this.2.2⟩
  · exact ⟨(this.2 trivial).1, (this.2 trivial).2, this.1.trans hp⟩
  · trivial
  · exact this.elim

theorem bind {m : M α} {f : α → M β} {R : α → Prop} {R' : β → Prop} (h1 : NoReq w R m)
    (h2 : ∀ a, R a → NoReq w R' (f a)) : NoReq w R' (m >>= f) := by
  intro s hs
  have := h1 s hs
  show ((m s).bind fun a => f a).noReq w s.scope R'
  cases hm : m s with
  | ret a s' =>
    rw [hm] at this
    have h := h2 a this.2.2 s' this.2.1
    rw [this.1] at h
    exact h
  | exc e s' => rw [hm] at this; exact this
  | unsupported x => trivial
  | call c s' k => rw [hm] at this; exact this.elim

theorem pure {a : α} {R : α → Prop} (h : R a) : NoReq w R (Pure.pure a : M α) := fun s hs => ⟨rfl, hs, h⟩

theorem throw {e : Exc} {R : α → Prop} (he : w → EWf e) : NoReq w R (throwE e : M α) :=
  fun s hs => ⟨rfl, fun hw => ⟨hs hw, he hw⟩⟩

theorem throwC {k : String} {R : α → Prop} (h : k ≠ vnf) : NoReq w R (throwE ⟨k, []⟩ : M α) :=
  throw fun _ => EWf.const h

theorem throwC_bind {k : String} (h : k ≠ vnf) (f : α → M β) {R' : β → Prop} :
    NoReq w R' ((throwE ⟨k, []⟩ : M α) >>= f) :=
  bind (R := fun _ => False) (throwC h) (fun _ h => h.elim)

theorem pure_bind {a : α} {f : α → M β} {R' : β → Prop} (h : NoReq w R' (f a)) :
    NoReq w R' (Pure.pure a >>= f) := h

theorem unsupp {x : String} {R : α → Prop} : NoReq w R (unsupported x : M α) := fun _ _ => trivial

theorem liftE {r : Except Exc α} {R : α → Prop} (h : w → EOk R r) : NoReq w (fun a => w → R a) (liftE r) := by
  intro s hs
  cases r with
  | ok a => exact ⟨rfl, hs, h⟩
  | error e => exact ⟨rfl, fun hw => ⟨hs hw, h hw⟩⟩

theorem ite {c : Prop} [Decidable c] {a b : M α} {R : α → Prop} (ha : c → NoReq w R a) (hb : ¬c → NoReq w R b) :
    NoReq w R (if c then a else b) := by
  split
  · exact ha ‹_›
  · exact hb ‹_›

theorem emit {vs : List Value} (h : w → VsWf vs) : NoReq w (fun _ => True) (emit vs) :=
  fun s hs => ⟨rfl, fun hw => (hs hw).setOut ((hs hw).out.append (h hw)), trivial⟩

theorem takeInput : NoReq w (fun vs => w → VsWf vs) takeInput :=
  fun s hs => ⟨rfl, fun hw => (hs hw).setInp VsWf.nil, fun hw => (hs hw).inp⟩

theorem readAddr (a : Nat) : NoReq w (fun v => w → VWf v) (readAddr a) := by
  intro s hs
  show FM.noReq w s.scope _ (match s.heap[a]? with
    | some v => FM.ret v s
    | none => FM.unsupported "dangling variable location")
  cases h : s.heap[a]? with
  | none => trivial
  | some v => exact ⟨rfl, hs, fun hw => (hs hw).heap.getElem? h⟩

theorem writeAddr (a : Nat) {v : Value} (hv : w → VWf v) : NoReq w (fun _ => True) (writeAddr a v) :=
  fun s hs => ⟨rfl, fun hw => (hs hw).setHeap a (hv hw), trivial⟩

theorem one {vs : List Value} (h : w → VsWf vs) : NoReq w (fun v => w → VWf v) (one vs) := by
  unfold C15.one
  split
  · exact pure fun hw => (h hw).head
  · exact throwC (by decide)

theorem oneEach {ps : List Value} (h : w → VsWf ps) :
    NoReq w (fun vs => (w → VsWf vs) ∧ vs.length = ps.length) (oneEach ps) := by
  induction ps with
  | nil => exact pure ⟨fun _ => VsWf.nil, rfl⟩
  | cons p ps ih =>
    unfold C15.oneEach
    refine bind (one fun hw => unwrapList_wf (h hw).head) (fun v hv =>
      bind (ih fun hw => (h hw).tail) (fun vs hvs => pure ?_))
    exact ⟨fun hw => VsWf.cons (hv hw) (hvs.1 hw), by simp [hvs.2]⟩

theorem storeCaught (cv : Option Nat) {e : Exc} (he : w → EWf e) : NoReq w (fun _ => True) (storeCaught cv e) := by
  cases cv with
  | none => exact pure trivial
  | some a => exact writeAddr a fun hw => (he hw).toValue

theorem pipelineResult {excs : List Value} (h : w → VsWf excs) :
    NoReq w (fun _ => True) (pipelineResult excs) := by
  unfold C15.pipelineResult
  split
  · exact pure trivial
  · rename_i k p heq
    have hm : Value.exc k p ∈ List.filter _ excs := heq ▸ List.mem_singleton.mpr rfl
    exact throw fun hw => EWf.ofExcValue (h hw _ (List.mem_filter.mp hm).1)
  · exact throw fun hw => ⟨(by decide : "pipeline" ≠ vnf), h hw⟩

theorem assignRef (cfg : Cfg) (tmp : Bool) {r : Ref} (hr : w → RefWf r) {v : Value} (hv : w → VWf v) :
    NoReq w (fun _ => True) (assignRef cfg tmp r v) := by
  unfold C15.assignRef
  refine bind (readAddr r.addr) (fun cur hcur => ?_)
  dsimp only
  have hbase : w → VWf (if cfg.staleElem = true then r.snapshot else cur) := by
    intro hw
    split
    · exact (hr hw).2
    · exact hcur hw
  refine bind (liftE fun hw => assocPath_wf (hbase hw) (hr hw).1 (hv hw)) (fun new hnew => ?_)
  refine bind (writeAddr r.addr hnew) (fun _ _ => ?_)
  split
  · refine fun s hs => ⟨rfl, fun hw => ⟨(hs hw).heap, (hs hw).out, (hs hw).inp, ?_⟩, trivial⟩
    intro d hd
    cases hd with
    | head => exact hcur hw
    | tail _ h' => exact (hs hw).defers d h'
  · exact pure trivial

theorem assignRefs (cfg : Cfg) (tmp : Bool) {rs : List Ref} (hrs : w → ∀ r, r ∈ rs → RefWf r)
    {vs : List Value} (hvs : w → VsWf vs) : NoReq w (fun _ => True) (assignRefs cfg tmp rs vs) := by
  induction rs generalizing vs with
  | nil => unfold C15.assignRefs; exact pure trivial
  | cons r rs ih =>
    cases vs with
    | nil => unfold C15.assignRefs; exact pure trivial
    | cons v vs =>
      unfold C15.assignRefs
      exact bind (assignRef cfg tmp (fun hw => hrs hw r List.mem_cons_self) fun hw => (hvs hw).head)
        (fun _ _ => ih (fun hw r' h' => hrs hw r' (List.mem_cons_of_mem _ h')) fun hw => (hvs hw).tail)

theorem noOpts (on : List String) : NoReq w (fun _ => True) (noOpts on) := by
  unfold C15.noOpts
  split
  · exact pure trivial
  · exact throwC (by decide)

theorem numArgs (vs : List Value) : NoReq w (fun _ => True) (numArgs vs) := by
  induction vs with
  | nil => exact pure trivial
  | cons v vs ih =>
    unfold C15.numArgs
    split
    · exact bind ih (fun _ _ => pure trivial)
    · exact throwC (by decide)
    · exact unsupp

theorem intArg (v : Value) : NoReq w (fun _ => True) (intArg v) := by
  unfold C15.intArg
  repeat' split
  all_goals first | exact pure trivial | exact throwC (by decide) | exact unsupp

theorem inputsOf {args : List Value} (h : w → VsWf args) : NoReq w (fun vs => w → VsWf vs) (inputsOf args) := by
  unfold C15.inputsOf
  split
  · exact takeInput
  · exact liftE fun hw => elements_wf (h hw).head
  · exact throwC (by decide)

theorem orderVals (rev : Bool) (vs : List Value) : NoReq w (fun vs => w → VsWf vs) (orderVals rev vs) := by
  have hstr : ∀ l : List String, w → VsWf (l.map Value.str) := fun _ _ => VsWf.map_of VWf.str
  have hnum : ∀ l : List Rat, w → VsWf (l.map Value.num) := fun _ _ => VsWf.map_of VWf.num
  unfold C15.orderVals
  dsimp only
  split
  · split
    · exact pure fun hw => (hstr _ hw).reverse
    · exact pure (hstr _)
  · split
    · split
      · exact pure fun hw => (hnum _ hw).reverse
      · exact pure (hnum _)
    · split
      · exact throwC (by decide)
      · exact unsupp

theorem liftP {r : PRes} (h : w → PWf r) : NoReq w (fun vs => w → VsWf vs) (liftP r) := by
  cases r with
  | vals vs => exact pure h
  | err e => exact throw h
  | unsup x => exact unsupp

theorem callPure (name : String) {args : List Value} (ha : w → VsWf args) (on : List String) :
    NoReq w (fun _ => True) (callPure name args on) := by
  unfold C15.callPure
  refine bind (noOpts on) (fun _ _ => ?_)
  split
  · exact bind (inputsOf ha) (fun vs hvs => emit fun hw => compact_wf (hvs hw))
  · exact bind (inputsOf ha) (fun vs hvs => bind (liftP fun hw => makeMap_wf (hvs hw)) (fun o ho => emit ho))
  · split
    · exact bind (intArg _) (fun n _ => emit fun hw => replicate_wf _ (ha hw).tail.head)
    · exact throwC (by decide)
  · exact bind (liftP fun hw => argBuiltin_wf name (ha hw)) (fun o ho => emit ho)

theorem precheck (name : String) (args : List Value) (on : List String) :
    NoReq w (fun _ => True) (precheck name args on) := by
  unfold C15.precheck
  exact ite (fun _ => throwC (by decide)) fun _ => ite (fun _ => throwC (by decide)) fun _ => pure trivial

theorem callBuiltinBody {name : String} (h1 : name ≠ "each") (h2 : name ≠ "keep-if") {args : List Value}
    (ha : w → VsWf args) (on : List String) (ov : List Value) :
    NoReq w (fun _ => True) (callBuiltinBody name args on ov) := by
  have opts : ∀ {k : M Unit}, NoReq w (fun _ => True) k → NoReq w (fun _ => True) (do C15.noOpts on; k) :=
    fun hk => bind (noOpts on) fun _ _ => hk
  have num : ∀ {q : Rat}, NoReq w (fun _ => True) (C15.emit [.num q]) := emit fun _ => VsWf.single (VWf.num _)
  have bool : ∀ {b : Bool}, NoReq w (fun _ => True) (C15.emit [.bool b]) := emit fun _ => VsWf.single (VWf.bool _)
  have arity : ∀ {α : Type} {R : α → Prop}, NoReq w R (throwE Exc.arity) := throwC (by decide)
  have badValue : ∀ {α : Type} {R : α → Prop}, NoReq w R (throwE Exc.badValue) := throwC (by decide)
  unfold C15.callBuiltinBody
  split
  -- put, nop, fail
  · exact opts (emit ha)
  · exact pure trivial
  · refine opts ?_
    split
    · exact throw fun hw => EWf.ofExcValue (ha hw).head
    · exact throw fun hw => EWf.fail (ha hw).head
    · exact arity
  -- break, continue, return
  · exact opts (ite (fun _ => throwC (by decide)) fun _ => arity)
  · exact opts (ite (fun _ => throwC (by decide)) fun _ => arity)
  · exact opts (ite (fun _ => throwC (by decide)) fun _ => arity)
  -- num, +, *, -, /, %
  · refine opts ?_
    split
    · exact bind (numArgs _) fun _ _ => emit fun _ => VsWf.map_of VWf.num
    · exact arity
  · exact opts (bind (numArgs args) fun _ _ => num)
  · exact opts (bind (numArgs args) fun _ _ => num)
  · refine opts (bind (numArgs args) fun _ _ => ?_)
    split
    · exact arity
    · exact num
    · exact num
  · refine opts (bind (numArgs args) fun _ _ => ?_)
    split
    · exact unsupp
    · exact ite (fun _ => badValue) fun _ => num
    · exact ite (fun _ => badValue) fun _ => num
  · refine opts ?_
    split
    · refine bind (numArgs _) fun _ _ => ?_
      split
      · exact ite (fun _ => badValue) fun _ => ite (fun _ => badValue) fun _ => num
      · exact arity
    · exact arity
  -- <, <=, ==, !=, >, >=
  · exact opts (bind (numArgs args) fun _ _ => bool)
  · exact opts (bind (numArgs args) fun _ _ => bool)
  · exact opts (bind (numArgs args) fun _ _ => bool)
  · refine opts ?_
    dsimp only
    exact ite (fun _ => throwC_bind (by decide) _) fun _ => bind (numArgs args) fun _ _ => bool
  · exact opts (bind (numArgs args) fun _ _ => bool)
  · exact opts (bind (numArgs args) fun _ _ => bool)
  -- eq, not-eq, not, bool, kind-of
  · exact opts bool
  · refine opts ?_
    split
    · exact bool
    · exact arity
  · refine opts ?_
    split
    · exact bool
    · exact arity
  · refine opts ?_
    split
    · exact bool
    · exact arity
  · exact opts (emit fun _ => VsWf.map_of fun _ => VWf.str _)
  -- all, one, take, drop, count
  · exact opts (bind (inputsOf ha) fun _ h => emit h)
  · refine opts (bind (inputsOf ha) fun _ h => ?_)
    split
    · exact emit h
    · exact arity
  · refine opts ?_
    split
    · exact bind (intArg _) fun _ _ => bind (inputsOf fun hw => (ha hw).tail) fun _ h => emit fun hw => (h hw).take _
    · exact arity
  · refine opts ?_
    split
    · exact bind (intArg _) fun _ _ => bind (inputsOf fun hw => (ha hw).tail) fun _ h => emit fun hw => (h hw).drop _
    · exact arity
  · refine opts ?_
    split
    · exact bind takeInput fun _ _ => num
    · exact bind (liftE fun _ => lengthOf_ok _) fun _ _ => num
    · exact arity
  -- range: the part after the options and the part after the arguments are join points
  · extract_lets fromStep
    have hfrom : ∀ step, NoReq w (fun _ => True) (fromStep step) := by
      intro step
      refine bind (numArgs args) fun _ _ => ?_
      extract_lets fromEnds
      have hends : ∀ ab, NoReq w (fun _ => True) (fromEnds ab) := by
        intro (a, b)
        have out : ∀ st, NoReq w (fun _ => True) (C15.emit (rangeVals a b st)) :=
          fun _ => emit fun _ => rangeVals_wf _ _ _
        refine ite (fun _ => ?_) (fun _ => ?_) <;> split
        · exact ite (fun _ => badValue) fun _ => out _
        · exact out _
        · exact ite (fun _ => badValue) fun _ => out _
        · exact out _
      clear_value fromEnds
      split
      · exact pure_bind (hends _)
      · exact pure_bind (hends _)
      · exact throwC_bind (by decide) _
    clear_value fromStep
    split
    · exact pure_bind (hfrom _)
    · refine bind (numArgs _) fun _ _ => ?_
      split
      · exact pure_bind (hfrom _)
      · exact throwC_bind (by decide) _
    · exact throwC_bind (by decide) _
  -- order: the part after the options is a join point
  · extract_lets fromRev
    have hfrom : ∀ rev, NoReq w (fun _ => True) (fromRev rev) :=
      fun rev => bind (inputsOf ha) fun vs _ => bind (orderVals rev vs) fun _ h => emit h
    clear_value fromRev
    split
    · exact pure_bind (hfrom _)
    · exact pure_bind (hfrom _)
    · exact throwC_bind (by decide) _
  -- each, keep-if
  · exact absurd rfl h1
  · exact absurd rfl h2
  · exact callPure _ ha on

theorem callBuiltin {name : String} (h1 : name ≠ "each") (h2 : name ≠ "keep-if") {args : List Value}
    (ha : w → VsWf args) (on : List String) (ov : List Value) :
    NoReq w (fun _ => True) (callBuiltin name args on ov) :=
  bind (precheck name args on) fun _ _ => callBuiltinBody h1 h2 ha on ov

end NoReq

namespace Keeps
variable {s0 : St}

theorem readAddr (a : Nat) : Keeps s0 VWf (readAddr a) := (NoReq.readAddr a).keeps.mono fun _ h => h trivial

theorem writeAddr (a : Nat) {v : Value} (hv : VWf v) : Keeps s0 (fun _ => True) (writeAddr a v) :=
  (NoReq.writeAddr a fun _ => hv).keeps

theorem emit {vs : List Value} (h : VsWf vs) : Keeps s0 (fun _ => True) (emit vs) := (NoReq.emit fun _ => h).keeps

theorem getVar {sc : SScope} (hag : Agree s0.scope sc) {x : String} (hx : sc.has x = true) :
    Keeps s0 VWf (getVar x) :=
  bind (lookupVar hag hx) (fun a _ => readAddr a)

theorem one {vs : List Value} (h : VsWf vs) : Keeps s0 VWf (one vs) :=
  (NoReq.one fun _ => h).keeps.mono fun _ h => h trivial

theorem oneEach {ps : List Value} (h : VsWf ps) :
    Keeps s0 (fun vs => VsWf vs ∧ vs.length = ps.length) (oneEach ps) :=
  (NoReq.oneEach fun _ => h).keeps.mono fun _ h => ⟨h.1 trivial, h.2⟩

end Keeps

namespace Inert

theorem pure (a : α) : Inert (Pure.pure a : M α) := fun _ => rfl
theorem getSt : Inert getSt := fun _ => rfl
theorem modify {f : St → St} (h : ∀ s, (f s).scope = s.scope) : Inert (modifySt f) := fun s => h s
theorem liftE (r : Except Exc α) : Inert (liftE r) := by
  intro s; cases r <;> rfl

theorem bind {m : M α} {f : α → M β} (h1 : Inert m) (h2 : ∀ a, Inert (f a)) : Inert (m >>= f) := by
  intro s
  have := h1 s
  show ((m s).bind fun a => f a).inert s.scope
  cases hm : m s with
  | ret a s' =>
    rw [hm] at this
    have h := h2 a s'
    rw [this] at h
    exact h
  | exc e s' => rw [hm] at this; exact this
  | unsupported w => trivial
  | call c s' k => rw [hm] at this; exact this.elim

theorem attempt {m : M α} (h : Inert m) : Inert (attempt m) := by
  intro s
  have := h s
  show ((m s).attempt).inert s.scope
  cases hm : m s with
  | ret a s' => rw [hm] at this; exact this
  | exc e s' => rw [hm] at this; exact this
  | unsupported w => trivial
  | call c s' k => rw [hm] at this; exact this.elim

theorem lookupVar (x : String) : Inert (lookupVar x) := by
  intro s
  show (match s.scope.find x with
    | some a => FM.ret a s
    | none => FM.exc Exc.varNotFound s).inert s.scope
  cases s.scope.find x <;> rfl

theorem readAddr (a : Nat) : Inert (readAddr a) := (NoReq.readAddr a).inert
theorem writeAddr (a : Nat) (v : Value) : Inert (writeAddr a v) := modify (fun _ => rfl)
theorem emit (vs : List Value) : Inert (emit vs) := modify (fun _ => rfl)
theorem freshId : Inert freshId := fun _ => rfl

theorem getVar (x : String) : Inert (getVar x) := bind (lookupVar x) (fun a => readAddr a)

theorem runDefers (ds : List (Nat × Value)) : Inert (runDefers ds) := by
  induction ds with
  | nil => exact pure _
  | cons d ds ih =>
    obtain ⟨a, v⟩ := d
    unfold C15.runDefers
    exact bind (writeAddr a v) (fun _ => ih)

end Inert

theorem Inert.callBuiltin {name : String} (h1 : name ≠ "each") (h2 : name ≠ "keep-if") (args : List Value)
    (on : List String) (ov : List Value) : Inert (callBuiltin name args on ov) :=
  (NoReq.callBuiltin h1 h2 False.elim on ov).inert

end C15
