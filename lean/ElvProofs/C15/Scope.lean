/-
C15: the static scope of the resolver and the dynamic scope of the interpreter agree on which names are found, and
stay in agreement under declaration and deletion.
-/
import ElvProofs.C15.Basic
namespace C15

def sscopeOf (sc : Scope) : SScope := sc.map (fun f => f.map Prod.fst)

theorem frame_find_isSome (f : Frame) (x : String) :
    (Frame.find f x).isSome = (f.map Prod.fst).contains x := by
  induction f with
  | nil => rfl
  | cons p f ih =>
    have hcomm : (x == p.1) = (p.1 == x) := BEq.comm
    unfold Frame.find at ih ⊢
    rw [List.find?_cons, List.map_cons, List.contains_cons, hcomm]
    cases h : (p.1 == x) with
    | true => simp
    | false => simpa using ih

theorem find_isSome_eq_has (sc : Scope) (x : String) :
    (sc.find x).isSome = (sscopeOf sc).has x := by
  induction sc with
  | nil => rfl
  | cons f rest ih =>
    have hf := frame_find_isSome f x
    show (match Frame.find f x with
        | some a => some a
        | none => Scope.find rest x).isSome =
      ((f.map Prod.fst) :: sscopeOf rest).any (·.contains x)
    rw [List.any_cons, ← hf]
    cases h : Frame.find f x with
    | some a => simp
    | none =>
      simp only [Option.isSome_none, Bool.false_or]
      exact ih

theorem map_fst_filter (f : Frame) (x : String) :
    (f.filter (fun p => p.1 != x)).map Prod.fst = (f.map Prod.fst).filter (· != x) := by
  induction f with
  | nil => rfl
  | cons p f ih =>
    simp only [List.filter, List.map]
    cases h : (p.1 != x) <;> simp [h, ih]

theorem sscopeOf_declare (f : Frame) (rest : Scope) (x : String) (a : Nat) :
    sscopeOf (((x, a) :: f.filter (fun p => p.1 != x)) :: rest) = (sscopeOf (f :: rest)).declare x := by
  simp [sscopeOf, SScope.declare, map_fst_filter]

theorem sscopeOf_undeclare (f : Frame) (rest : Scope) (x : String)
    (h : (f.map Prod.fst).contains x = true) :
    (sscopeOf (f :: rest)).undeclare x = some (sscopeOf (f.filter (fun p => p.1 != x) :: rest)) := by
  show (if (f.map Prod.fst).contains x = true then
      some (((f.map Prod.fst).filter (· != x)) :: sscopeOf rest) else none) = _
  rw [if_pos h]
  simp [sscopeOf, map_fst_filter]

end C15
