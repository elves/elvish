/-
C15 static-scope soundness: agreement of the dynamic scope chain with the resolver's static scope (`Agree`),
well-formed values (`VWf`: every function value inside resolves against the names of the scope chain it closes over;
no exception value of class "variable-not-found"), well-formed states, and preservation of well-formedness by the
pure value operations.
-/
import ElvProofs.C15.Scope
set_option linter.unusedSimpArgs false
set_option linter.unusedVariables false
namespace C15

/-- The cause class of the run-time error the resolver is to exclude. -/
def vnf : String := "variable-not-found"

def FrameAgree (f : Frame) (sf : List String) : Prop := ∀ x, x ∈ sf ↔ x ∈ f.map Prod.fst

def Agree : Scope → SScope → Prop
  | [], [] => True
  | f :: rest, sf :: srest => FrameAgree f sf ∧ Agree rest srest
  | _, _ => False

theorem frameAgree_contains {f : Frame} {sf : List String} (h : FrameAgree f sf) (x : String) :
    sf.contains x = (f.map Prod.fst).contains x := by
  have := h x
  rw [Bool.eq_iff_iff]; simpa using this

theorem agree_has {scope : Scope} {sc : SScope} (h : Agree scope sc) (x : String) :
    (sscopeOf scope).has x = sc.has x := by
  induction scope generalizing sc with
  | nil => cases sc with
    | nil => rfl
    | cons _ _ => exact h.elim
  | cons f rest ih =>
    cases sc with
    | nil => exact h.elim
    | cons sf srest =>
      have ih' := ih h.2
      simp only [sscopeOf, SScope.has, List.map_cons, List.any_cons] at ih' ⊢
      rw [ih', frameAgree_contains h.1]

theorem agree_find {scope : Scope} {sc : SScope} (h : Agree scope sc) (x : String) :
    (scope.find x).isSome = sc.has x := by
  rw [find_isSome_eq_has, agree_has h]

theorem agree_find_some {scope : Scope} {sc : SScope} (h : Agree scope sc) {x : String}
    (hx : sc.has x = true) : ∃ a, scope.find x = some a := by
  have := agree_find h x
  rw [hx] at this
  exact Option.isSome_iff_exists.mp this

theorem agree_find_none {scope : Scope} {sc : SScope} (h : Agree scope sc) {x : String}
    (hx : sc.has x = false) : scope.find x = none := by
  have := agree_find h x
  rw [hx] at this
  cases hf : scope.find x with
  | none => rfl
  | some a => rw [hf] at this; cases this

theorem assignable_has {sc : SScope} {x : String} (h : sc.assignable x = true) : sc.has x = true := by
  unfold SScope.assignable at h
  split at h
  · rename_i f hf
    have h1 := List.find?_some hf
    have h2 := List.mem_of_find?_eq_some hf
    simp only [SScope.has, List.any_eq_true]
    exact ⟨f, h2, h1⟩
  · cases h

theorem frameAgree_declare {f : Frame} {sf : List String} (h : FrameAgree f sf) (x : String) (a : Nat) :
    FrameAgree ((x, a) :: f.filter (fun p => p.1 != x)) (x :: sf.filter (· != x)) := by
  intro y
  have := h y
  simp only [List.mem_cons, List.mem_filter, List.map_cons, map_fst_filter]
  rw [this]

theorem agree_declare {f : Frame} {rest : Scope} {sc : SScope} (h : Agree (f :: rest) sc) (x : String)
    (a : Nat) : Agree (((x, a) :: f.filter (fun p => p.1 != x)) :: rest) (sc.declare x) := by
  cases sc with
  | nil => exact h.elim
  | cons sf srest => exact ⟨frameAgree_declare h.1 x a, h.2⟩

theorem agree_undeclare {f : Frame} {rest : Scope} {sc sc' : SScope} (h : Agree (f :: rest) sc) {x : String}
    (hu : sc.undeclare x = some sc') :
    Agree (f.filter (fun p => p.1 != x) :: rest) sc' ∧ ∃ a, Frame.find f x = some a := by
  cases sc with
  | nil => cases hu
  | cons sf srest =>
    have hf := h.1
    have hr := h.2
    simp only [SScope.undeclare] at hu
    split at hu
    · rename_i hc
      cases hu
      refine ⟨⟨?_, hr⟩, ?_⟩
      · intro y
        have := hf y
        simp only [List.mem_filter, map_fst_filter]
        rw [this]
      · have h1 := frame_find_isSome f x
        rw [← frameAgree_contains hf, hc] at h1
        exact Option.isSome_iff_exists.mp h1
    · cases hu

theorem agree_push {scope : Scope} {sc : SScope} (h : Agree scope sc) {f : Frame} {sf : List String}
    (hf : FrameAgree f sf) : Agree (f :: scope) (sf :: sc) := ⟨hf, h⟩

theorem frameAgree_nil : FrameAgree [] [] := by intro x; simp

/-- A value is well-formed: every function value in it has as many option
defaults as options, and its body resolves against (the names of) the scope
chain it closes over plus its parameters; no exception value in it is of
class "variable-not-found". -/
inductive VWf : Value → Prop
  | str (s : String) : VWf (.str s)
  | num (q : Rat) : VWf (.num q)
  | bool (b : Bool) : VWf (.bool b)
  | nil : VWf .nil
  | ok : VWf .ok
  | builtin (n : String) : VWf (.builtin n)
  | list {vs : List Value} : (∀ v, v ∈ vs → VWf v) → VWf (.list vs)
  | map {kvs : List (Value × Value)} : (∀ kv, kv ∈ kvs → VWf kv.1) → (∀ kv, kv ∈ kvs → VWf kv.2) → VWf (.map kvs)
  | closure {id : Nat} {pos : List String} {rest : Option String} {post on : List String} {od : List Value}
      {body : Chunk} {env : Scope} {isFn : Bool} :
      on.length = od.length → (∀ d, d ∈ od → VWf d) →
      (∃ sc, Agree env sc ∧ rChunk ((pos ++ rest.toList ++ post ++ on).reverse :: sc) body = true) →
      VWf (.closure id pos rest post on od body env isFn)
  | exc {k : String} {p : List Value} : k ≠ vnf → (∀ v, v ∈ p → VWf v) → VWf (.exc k p)

def VsWf (vs : List Value) : Prop := ∀ v, v ∈ vs → VWf v

/-- An exception in flight is well-formed: not "variable not found", payload well-formed. -/
def EWf (e : Exc) : Prop := e.kind ≠ vnf ∧ VsWf e.payload

theorem VsWf.nil : VsWf [] := by intro v h; cases h
theorem VsWf.cons {v : Value} {vs : List Value} (h1 : VWf v) (h2 : VsWf vs) : VsWf (v :: vs) := by
  intro x hx
  cases hx with
  | head => exact h1
  | tail _ h => exact h2 _ h
theorem VsWf.head {v : Value} {vs : List Value} (h : VsWf (v :: vs)) : VWf v := h _ (List.mem_cons_self)
theorem VsWf.tail {v : Value} {vs : List Value} (h : VsWf (v :: vs)) : VsWf vs :=
  fun x hx => h x (List.mem_cons_of_mem _ hx)
theorem VsWf.append {a b : List Value} (h1 : VsWf a) (h2 : VsWf b) : VsWf (a ++ b) := by
  intro x hx
  rcases List.mem_append.mp hx with h | h
  · exact h1 _ h
  · exact h2 _ h
theorem VsWf.left {a b : List Value} (h : VsWf (a ++ b)) : VsWf a :=
  fun x hx => h x (List.mem_append_left _ hx)
theorem VsWf.right {a b : List Value} (h : VsWf (a ++ b)) : VsWf b :=
  fun x hx => h x (List.mem_append_right _ hx)
theorem VsWf.single {v : Value} (h : VWf v) : VsWf [v] := VsWf.cons h VsWf.nil
theorem VsWf.take {a : List Value} (h : VsWf a) (n : Nat) : VsWf (a.take n) :=
  fun x hx => h x (List.mem_of_mem_take hx)
theorem VsWf.drop {a : List Value} (h : VsWf a) (n : Nat) : VsWf (a.drop n) :=
  fun x hx => h x (List.mem_of_mem_drop hx)
theorem VsWf.reverse {a : List Value} (h : VsWf a) : VsWf a.reverse :=
  fun x hx => h x (List.mem_reverse.mp hx)
theorem VsWf.set {a : List Value} (h : VsWf a) (n : Nat) {v : Value} (hv : VWf v) : VsWf (a.set n v) := by
  intro x hx
  rcases List.mem_or_eq_of_mem_set hx with h1 | h1
  · exact h _ h1
  · exact h1 ▸ hv
theorem VsWf.getElem? {a : List Value} (h : VsWf a) {n : Nat} {v : Value} (hv : a[n]? = some v) : VWf v :=
  h _ (List.mem_of_getElem? hv)
theorem VsWf.map_of {α} {l : List α} {f : α → Value} (h : ∀ a, VWf (f a)) : VsWf (l.map f) := by
  intro x hx
  obtain ⟨a, _, rfl⟩ := List.mem_map.mp hx
  exact h a

theorem EWf.const {k : String} (h : k ≠ vnf) : EWf ⟨k, []⟩ := ⟨h, VsWf.nil⟩

theorem EWf.ofExcValue {k : String} {p : List Value} (h : VWf (.exc k p)) : EWf ⟨k, p⟩ := by
  cases h with
  | exc h1 h2 => exact ⟨h1, h2⟩

theorem EWf.toValue {e : Exc} (h : EWf e) : VWf e.toValue := VWf.exc h.1 h.2

theorem EWf.fail {v : Value} (h : VWf v) : EWf (Exc.fail v) := ⟨(by decide : "fail" ≠ vnf), VsWf.single h⟩

/-- Outcome of a pure value operation: a result satisfying `P`, or a well-formed exception. -/
def EOk {α} (P : α → Prop) : Except Exc α → Prop
  | .ok a => P a
  | .error e => EWf e

abbrev RWf : Except Exc Value → Prop := EOk VWf
abbrev RsWf : Except Exc (List Value) → Prop := EOk VsWf

theorem EOk_bind {α β} {P : α → Prop} {Q : β → Prop} {x : Except Exc α} {f : α → Except Exc β}
    (hx : EOk P x) (hf : ∀ a, P a → EOk Q (f a)) : EOk Q (x >>= f) := by
  cases x with
  | error e => exact hx
  | ok a => exact hf a hx

theorem EOk_ite {α} {c : Prop} [Decidable c] {P : α → Prop} {a : α} {e : Exc} (ha : c → P a) (he : EWf e) :
    EOk P (if c then .ok a else .error e) := by
  split
  · exact ha ‹_›
  · exact he

theorem EOk_mono {α} {P Q : α → Prop} {x : Except Exc α} (hx : EOk P x) (h : ∀ a, P a → Q a) : EOk Q x := by
  cases x with
  | error e => exact hx
  | ok a => exact h a hx

theorem EOk_err {α} {P : α → Prop} {x : Except Exc α} (hx : EOk P x) {e : Exc} (h : x = .error e) : EWf e := by
  subst h; exact hx

theorem EOk_ok {α} {P : α → Prop} {x : Except Exc α} (hx : EOk P x) {a : α} (h : x = .ok a) : P a := by
  subst h; exact hx

end C15
