/-
C15: the definedness order on outcomes, monotonicity of `interp`/`run` in the fuel, and the denotation of the
free-monad combinators (`interp` is a monad morphism).
-/
import ElvModel.C15.Model
namespace C15

/-- `r'` is at least as defined as `r`: `r` ran out of fuel, or they are equal. -/
def Res.le {α} (r r' : Res α) : Prop := r = .oof ∨ r = r'

theorem Res.le_refl {α} (r : Res α) : r.le r := Or.inr rfl

theorem Res.le_trans {α} {a b c : Res α} (h1 : a.le b) (h2 : b.le c) : a.le c := by
  cases h1 with
  | inl h => exact Or.inl h
  | inr h => subst h; exact h2

theorem Res.eq_of_le {α} {a b : Res α} (h : a.le b) (hne : a ≠ .oof) : b = a := by
  cases h with
  | inl h => exact absurd h hne
  | inr h => exact h.symm

/-- executable test for "finished" (used by non-vacuity examples) -/
def Res.finished {α} : Res α → Bool
  | .oof => false
  | _ => true

theorem Res.ne_oof_of_finished {α} {r : Res α} (h : r.finished = true) : r ≠ .oof := by
  intro h0; rw [h0] at h; cases h

theorem interp_mono {α} {ev ev' : Call → St → Res (List Value)}
    (h : ∀ c s, (ev c s).le (ev' c s)) (t : FM α) : (interp ev t).le (interp ev' t) := by
  induction t with
  | ret a s => exact Res.le_refl _
  | exc e s => exact Res.le_refl _
  | unsupported w => exact Res.le_refl _
  | call c s k ih =>
    simp only [interp]
    cases h c s with
    | inl h0 => rw [h0]; exact Or.inl rfl
    | inr h1 =>
      rw [← h1]
      cases ev c s with
      | ok vs s' => exact ih _ _
      | exc e s' => exact ih _ _
      | oof => exact Or.inl rfl
      | unsupported w => exact Res.le_refl _

theorem run_le_succ (cfg : Cfg) (n : Nat) : ∀ c s, (run cfg n c s).le (run cfg (n + 1) c s) := by
  induction n with
  | zero => intro c s; exact Or.inl rfl
  | succ n ih =>
    intro c s
    show (interp (run cfg n) (step cfg c s)).le (interp (run cfg (n + 1)) (step cfg c s))
    exact interp_mono ih _

theorem run_mono (cfg : Cfg) {n m : Nat} (h : n ≤ m) (c : Call) (s : St) :
    (run cfg n c s).le (run cfg m c s) := by
  induction h with
  | refl => exact Res.le_refl _
  | step _ ih => exact Res.le_trans ih (run_le_succ cfg _ c s)

def Res.bind {α β} (r : Res α) (f : α → St → Res β) : Res β :=
  match r with
  | .ok a s => f a s
  | .exc e s => .exc e s
  | .oof => .oof
  | .unsupported w => .unsupported w

def Res.attempt {α} : Res α → Res (Except Exc α)
  | .ok a s => .ok (.ok a) s
  | .exc e s => .ok (.error e) s
  | .oof => .oof
  | .unsupported w => .unsupported w

variable {ev : Call → St → Res (List Value)}

theorem interp_bind {α β} (t : FM α) (f : α → St → FM β) :
    interp ev (t.bind f) = (interp ev t).bind (fun a s => interp ev (f a s)) := by
  induction t with
  | ret a s => rfl
  | exc e s => rfl
  | unsupported w => rfl
  | call c s k ih =>
    simp only [FM.bind, interp]
    cases ev c s with
    | ok vs s' => exact ih _ _
    | exc e s' => exact ih _ _
    | oof => rfl
    | unsupported w => rfl

theorem interp_attempt {α} (t : FM α) : interp ev t.attempt = (interp ev t).attempt := by
  induction t with
  | ret a s => rfl
  | exc e s => rfl
  | unsupported w => rfl
  | call c s k ih =>
    simp only [FM.attempt, interp]
    cases ev c s with
    | ok vs s' => exact ih _ _
    | exc e s' => exact ih _ _
    | oof => rfl
    | unsupported w => rfl

/-- The meaning of a computation given the meaning `ev` of its constituents. -/
def den {α} (ev : Call → St → Res (List Value)) (m : M α) (s : St) : Res α := interp ev (m s)

theorem den_pure {α} (a : α) (s : St) : den ev (pure a : M α) s = .ok a s := rfl

theorem den_bind {α β} (m : M α) (f : α → M β) (s : St) :
    den ev (m >>= f) s = (den ev m s).bind (fun a s' => den ev (f a) s') := by
  show interp ev ((m s).bind fun a => f a) = _
  exact interp_bind _ _

theorem den_rec (c : Call) (s : St) : den ev (rec c) s = ev c s := by
  show interp ev (FM.call c s _) = _
  simp only [interp]
  cases ev c s <;> rfl

theorem den_attempt {α} (m : M α) (s : St) : den ev (attempt m) s = (den ev m s).attempt :=
  interp_attempt _

theorem den_throw {α} (e : Exc) (s : St) : den ev (throwE e : M α) s = .exc e s := rfl
theorem den_getSt (s : St) : den ev getSt s = .ok s s := rfl
theorem den_modifySt (f : St → St) (s : St) : den ev (modifySt f) s = .ok () (f s) := rfl

theorem run_succ (cfg : Cfg) (n : Nat) (c : Call) (s : St) :
    run cfg (n + 1) c s = den (run cfg n) (step cfg c) s := rfl

end C15
