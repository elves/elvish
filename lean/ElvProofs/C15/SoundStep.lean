/-
C15 static-scope soundness: every `step` satisfies its specification; hence
(by `run_sound`) every run does.
-/
import ElvProofs.C15.SoundForm
set_option linter.unusedSimpArgs false
set_option linter.unusedVariables false
namespace C15

variable {s0 : St} {sc : SScope}

namespace TrF
variable {d : Bool} {sc' : SScope}

/-- A request that may declare (`form`, `pipeline`, `pipes`): `res` is what the resolver computes for it. -/
theorem rec {c : Call} {res : Option SScope} (hres : res = some sc')
    (hpre : ∀ s, PreC c sc d s ↔ Agree s.scope sc ∧ res.isSome = true)
    (hpost : ∀ s r s', PostScope c sc d s r s' ↔
      (d = false → s'.scope = s.scope) ∧ ∀ vs, r = .ok vs → ∀ sc', res = some sc' → Agree s'.scope sc') :
    TrF d s0 sc sc' (C15.rec c) VsWf := by
  intro s hs ⟨hag, hd⟩
  rw [wp_rec]
  refine ⟨(sc, d), ⟨hs, (hpre s).mpr ⟨hag, by rw [hres]; rfl⟩⟩, ?_⟩
  intro r s' ⟨h1, h2, h3⟩
  have h3 := (hpost s r s').mp h3
  cases r with
  | ok vs => exact ⟨h1, ⟨h3.2 vs rfl sc' hres, fun hf => (h3.1 hf).trans (hd hf)⟩, h2⟩
  | error e => exact ⟨h1, h2, fun hf => (h3.1 hf).trans (hd hf)⟩

end TrF

theorem rPipes_cons (sc : SScope) (d : Bool) (p : Pipeline) (ps : List Pipeline) :
    rPipes sc d (p :: ps) = (rPipes sc d [p]).bind (fun sc1 => rPipes sc1 d ps) := by
  obtain ⟨fs⟩ := p
  cases fs with
  | nil => simp only [rPipes]; split <;> simp
  | cons f fs =>
    cases fs with
    | nil =>
      simp only [rPipes]
      cases rForm sc d f <;> simp
    | cons g gs => simp only [rPipes]; split <;> simp

/-- From a scope-keeping triple to the postcondition of a request whose `PostScope` is "scope unchanged". -/
theorem post_of_keeps {c : Call} {g : SScope × Bool} {s : St} {m : M (List Value)} {R : List Value → Prop}
    (hs : StWf s) (hk : Keeps s R m) (hR : ∀ vs, R vs → VsWf vs)
    (hps : ∀ r s', s'.scope = s.scope → (∀ vs, r = .ok vs → R vs) → PostScope c g.1 g.2 s r s') :
    wp m s (fun vs s' => Post c g s (.ok vs) s') (fun e s' => Post c g s (.error e) s') := by
  refine wp_mono (hk s hs rfl) ?_ ?_
  · intro vs s' ⟨h1, h2, h3⟩
    exact ⟨h1, hR vs h3, hps _ _ h2 (fun vs' he => by cases he; exact h3)⟩
  · intro e s' ⟨h1, h2, h3⟩
    exact ⟨h1, h2, hps _ _ h3 (fun vs' he => by cases he)⟩

theorem post_of_trF {c : Call} {d : Bool} {sc' : SScope} {s : St} {m : M (List Value)}
    (hs : StWf s) (hag : Agree s.scope sc) (hk : TrF d s sc sc' m VsWf)
    (hps : ∀ r s', (d = false → s'.scope = s.scope) → (∀ vs, r = .ok vs → Agree s'.scope sc') →
      PostScope c sc d s r s') :
    wp m s (fun vs s' => Post c (sc, d) s (.ok vs) s') (fun e s' => Post c (sc, d) s (.error e) s') := by
  refine wp_mono (hk s hs ⟨hag, fun _ => rfl⟩) ?_ ?_
  · intro vs s' ⟨h1, h2, h3⟩
    exact ⟨h1, h3, hps _ _ h2.2 (fun _ _ => h2.1)⟩
  · intro e s' ⟨h1, h2, h3⟩
    exact ⟨h1, h2, hps _ _ h3 (fun vs' he => by cases he)⟩

theorem excOf_wf {r : Except Exc (List Value)} (h : EOk VsWf r) : VWf (excOf r) := by
  cases r with
  | ok _ => exact VWf.ok
  | error e => exact EWf.toValue h

theorem Keeps.loopCatch {e : Exc} (he : EWf e) {next : M (List Value)} (hn : Keeps s0 VsWf next) :
    Keeps s0 VsWf (if e.kind == "continue" then next else if e.kind == "break" then Pure.pure [] else throwE e) :=
  Keeps.ite (fun _ => hn) fun _ => Keeps.ite (fun _ => Keeps.pure VsWf.nil) fun _ => Keeps.throw he

theorem rPipes_multi_nil (sc : SScope) (d : Bool) :
    rPipes sc d [.mk []] = some sc := by
  simp [rPipes, rForms]

theorem rPipes_multi_cons (sc : SScope) (d : Bool) (f g : Form) (gs : List Form) :
    rPipes sc d [.mk (f :: g :: gs)] = if rForms sc (f :: g :: gs) then some sc else none := by
  simp only [rPipes]

theorem rPipes_single (sc : SScope) (d : Bool) (f : Form) :
    rPipes sc d [.mk [f]] = rForm sc d f := by
  simp only [rPipes]
  cases rForm sc d f <;> rfl

theorem step_sound (cfg : Cfg) (c : Call) (g : SScope × Bool) (s : St) (hp : Pre c g s) :
    wp (step cfg c) s (fun vs s' => Post c g s (.ok vs) s') (fun e s' => Post c g s (.error e) s') := by
  obtain ⟨sc, d⟩ := g
  obtain ⟨hs, hc⟩ := hp
  cases c with
  | expr e =>
    obtain ⟨hag, he⟩ := hc
    exact post_of_keeps hs (keeps_evalExpr hag e he) (fun _ h => h) (fun _ _ h _ => h)
  | exprs es =>
    obtain ⟨hag, he⟩ := hc
    cases es with
    | nil => exact post_of_keeps hs (Keeps.pure VsWf.nil) (fun _ h => h) (fun _ _ h _ => h)
    | cons e es =>
      simp only [rExprs, Bool.and_eq_true] at he
      refine post_of_keeps hs ?_ (fun _ h => h) (fun _ _ h _ => h)
      exact Keeps.bind (Keeps.rec sc ⟨hag, he.1⟩) (fun a ha =>
        Keeps.bind (Keeps.rec sc ⟨hag, he.2⟩) (fun b hb => Keeps.pure (ha.append hb)))
  | exprsEach es =>
    obtain ⟨hag, he⟩ := hc
    cases es with
    | nil =>
      exact post_of_keeps (R := fun vs => VsWf vs ∧ vs.length = 0) hs (Keeps.pure ⟨VsWf.nil, rfl⟩)
        (fun _ h => h.1) (fun r s' h hr => ⟨h, fun vs he => (hr vs he).2⟩)
    | cons e es =>
      simp only [rExprs, Bool.and_eq_true] at he
      refine post_of_keeps (R := fun vs => VsWf vs ∧ vs.length = es.length + 1) hs ?_
        (fun _ h => h.1) (fun r s' h hr => ⟨h, fun vs he => (hr vs he).2⟩)
      exact Keeps.bind (Keeps.rec sc ⟨hag, he.1⟩) (fun a ha =>
        Keeps.bind (Keeps.recExprsEach hag he.2) (fun b hb =>
          Keeps.pure ⟨VsWf.cons (VWf.list ha) hb.1, by simp [hb.2]⟩))
  | form f =>
    obtain ⟨hag, hf⟩ := hc
    obtain ⟨sc', hsc'⟩ := Option.isSome_iff_exists.mp hf
    refine post_of_trF hs hag (sc' := sc') ?_ ?_
    · exact TrF.bind (trF_evalForm cfg hsc') (fun _ _ => TrF.pure VsWf.nil)
    · intro r s' h1 h2
      exact ⟨h1, fun vs he sc'' hsc'' => by rw [hsc'] at hsc''; cases hsc''; exact h2 vs he⟩
  | pipeline p =>
    obtain ⟨hag, hf⟩ := hc
    obtain ⟨fs⟩ := p
    have hmulti : ∀ fs : List Form, rForms sc fs = true → rPipes sc d [.mk fs] = some sc →
        wp (do let t ← getSt; C15.rec (.stages fs t.inp true [])) s
          (fun vs s' => Post (.pipeline (.mk fs)) (sc, d) s (.ok vs) s')
          (fun e s' => Post (.pipeline (.mk fs)) (sc, d) s (.error e) s') := by
      intro fs hfs hres
      refine post_of_keeps hs ?_ (fun _ h => h) ?_
      · exact Keeps.bind Keeps.getSt (fun t ht => Keeps.rec sc ⟨hag, hfs, ht.1.inp, VsWf.nil⟩)
      · intro r s' h _
        refine ⟨fun _ => h, fun vs _ sc'' hsc'' => ?_⟩
        rw [hres] at hsc''
        cases hsc''
        rw [h]; exact hag
    cases fs with
    | nil => exact hmulti [] (by simp [rForms]) (rPipes_multi_nil sc d)
    | cons f fs =>
      cases fs with
      | nil =>
        rw [rPipes_single] at hf
        obtain ⟨sc', hsc'⟩ := Option.isSome_iff_exists.mp hf
        refine post_of_trF hs hag (sc' := sc') (TrF.rec hsc' (fun _ => Iff.rfl) fun _ _ _ => Iff.rfl) ?_
        intro r s' h1 h2
        refine ⟨h1, fun vs he sc'' hsc'' => ?_⟩
        rw [rPipes_single, hsc'] at hsc''
        cases hsc''
        exact h2 vs he
      | cons g gs =>
        rw [rPipes_multi_cons] at hf
        have hfs : rForms sc (f :: g :: gs) = true := by
          split at hf
          · assumption
          · cases hf
        exact hmulti (f :: g :: gs) hfs (by rw [rPipes_multi_cons, if_pos hfs])
  | pipes ps =>
    obtain ⟨hag, hf⟩ := hc
    cases ps with
    | nil =>
      refine post_of_keeps hs (Keeps.pure VsWf.nil) (fun _ h => h) ?_
      intro r s' h _
      refine ⟨fun _ => h, fun vs _ sc'' hsc'' => ?_⟩
      simp only [rPipes, Option.some.injEq] at hsc''
      subst hsc''
      rw [h]; exact hag
    | cons p ps =>
      obtain ⟨sc', hsc'⟩ := Option.isSome_iff_exists.mp hf
      have hsplit := hsc'
      rw [rPipes_cons] at hsplit
      cases h1 : rPipes sc d [p] with
      | none => rw [h1] at hsplit; cases hsplit
      | some sc1 =>
        rw [h1] at hsplit
        refine post_of_trF hs hag (sc' := sc') ?_ ?_
        · exact TrF.bind (TrF.rec h1 (fun _ => Iff.rfl) fun _ _ _ => Iff.rfl)
            (fun _ _ => TrF.rec hsplit (fun _ => Iff.rfl) fun _ _ _ => Iff.rfl)
        · intro r s' h1' h2
          exact ⟨h1', fun vs he sc'' hsc'' => by rw [hsc'] at hsc''; cases hsc''; exact h2 vs he⟩
  | body c frame env isFn =>
    obtain ⟨hag, hr⟩ := hc
    show wp (do runBody c frame env isFn; Pure.pure []) s _ _
    rw [wp_bind]
    refine wp_mono (wp_runBody isFn hs hag hr) ?_ ?_
    · intro _ s' ⟨h1, h2⟩; exact ⟨h1, VsWf.nil, h2⟩
    · intro e s' ⟨h1, h2, h3⟩; exact ⟨h1, h2, h3⟩
  | call f args on ov =>
    obtain ⟨hf, ha, ho⟩ := hc
    refine post_of_keeps hs ?_ (fun _ h => h) (fun _ _ h _ => h)
    exact Keeps.andPure (keeps_callValue hf ha on ho) VsWf.nil
  | logicArgs k args last =>
    obtain ⟨hag, hargs, hlast⟩ := hc
    refine post_of_keeps hs ?_ (fun _ h => h) (fun _ _ h _ => h)
    cases args with
    | nil => exact Keeps.andPure (Keeps.emit (VsWf.single hlast)) VsWf.nil
    | cons e es =>
      simp only [rExprs, Bool.and_eq_true] at hargs
      refine Keeps.bind (Keeps.rec sc ⟨hag, hargs.1⟩) (fun vs hvs => ?_)
      split
      · rename_i v hv
        exact Keeps.andPure (Keeps.emit (VsWf.single (hvs _ (List.mem_of_find?_eq_some hv)))) VsWf.nil
      · dsimp only
        refine Keeps.rec sc ⟨hag, hargs.2, ?_⟩
        split
        · exact hlast
        · exact hvs _ (List.mem_of_getLast? (by assumption))
        · exact hlast
  | ifChain conds bodies els =>
    obtain ⟨hag, hconds, hbodies, hels⟩ := hc
    refine post_of_keeps hs ?_ (fun _ h => h) (fun _ _ h _ => h)
    have helse : Keeps s VsWf (do runOptBlock els; Pure.pure []) :=
      Keeps.andPure (Keeps.runOptBlock hag hels) VsWf.nil
    cases conds with
    | nil => exact helse
    | cons c cs =>
      cases bodies with
      | nil => exact helse
      | cons b bs =>
        simp only [rExprs, rBlocks, Bool.and_eq_true] at hconds hbodies
        refine Keeps.bind (Keeps.rec sc ⟨hag, hconds.1⟩) (fun vs hvs => ?_)
        split
        · exact Keeps.andPure (Keeps.runBlock hag hbodies.1) VsWf.nil
        · exact Keeps.rec sc ⟨hag, hconds.2, hbodies.2, hels⟩
  | whileLoop cond body els it =>
    obtain ⟨hag, hcond, hbody, hels⟩ := hc
    refine post_of_keeps hs ?_ (fun _ h => h) (fun _ _ h _ => h)
    refine Keeps.bind (Keeps.rec sc ⟨hag, hcond⟩) (fun vs hvs => ?_)
    split
    · refine Keeps.bind (Keeps.attempt (Keeps.runBlock hag hbody)) (fun r hr => ?_)
      have hnext := Keeps.rec (c := .whileLoop cond body els true) sc ⟨hag, hcond, hbody, hels⟩
      cases r with
      | ok _ => exact hnext
      | error e => exact Keeps.loopCatch hr hnext
    · dsimp only
      split
      · exact Keeps.andPure (Keeps.runOptBlock hag hels) VsWf.nil
      · exact Keeps.pure VsWf.nil
  | forLoop a items body els it =>
    obtain ⟨hag, hitems, hbody, hels⟩ := hc
    refine post_of_keeps hs ?_ (fun _ h => h) (fun _ _ h _ => h)
    cases items with
    | nil =>
      simp only [step]
      split
      · exact Keeps.andPure (Keeps.runOptBlock hag hels) VsWf.nil
      · exact Keeps.pure VsWf.nil
    | cons v vs =>
      refine Keeps.bind (Keeps.writeAddr a hitems.head) (fun _ _ => ?_)
      refine Keeps.bind (Keeps.attempt (Keeps.runBlock hag hbody)) (fun r hr => ?_)
      have hnext := Keeps.rec (c := .forLoop a vs body els true) sc ⟨hag, hitems.tail, hbody, hels⟩
      cases r with
      | ok _ => exact hnext
      | error e => exact Keeps.loopCatch hr hnext
  | eachLoop f items =>
    obtain ⟨hf, hitems⟩ := hc
    refine post_of_keeps hs ?_ (fun _ h => h) (fun _ _ h _ => h)
    cases items with
    | nil => exact Keeps.pure VsWf.nil
    | cons v vs =>
      refine Keeps.bind (Keeps.attempt (Keeps.rec [] ⟨hf, (VsWf.single hitems.head), VsWf.nil⟩)) (fun r hr => ?_)
      cases r with
      | ok _ => exact Keeps.rec [] ⟨hf, hitems.tail⟩
      | error e => exact Keeps.loopCatch hr (Keeps.rec [] ⟨hf, hitems.tail⟩)
  | keepIfLoop f items =>
    obtain ⟨hf, hitems⟩ := hc
    refine post_of_keeps hs ?_ (fun _ h => h) (fun _ _ h _ => h)
    cases items with
    | nil => exact Keeps.pure VsWf.nil
    | cons v vs =>
      refine Keeps.bind Keeps.getSt (fun t ht => ?_)
      refine Keeps.bind (Keeps.modify (fun u hu => ⟨hu.setOut VsWf.nil, rfl⟩)) (fun _ _ => ?_)
      refine Keeps.bind (Keeps.attempt (Keeps.rec [] ⟨hf, (VsWf.single hitems.head), VsWf.nil⟩)) (fun r hr => ?_)
      refine Keeps.bind Keeps.getSt (fun t' ht' => ?_)
      refine Keeps.bind (Keeps.modify (fun u hu => ⟨hu.setOut ht.1.out, rfl⟩)) (fun _ _ => ?_)
      refine Keeps.bind (Keeps.liftE hr) (fun _ _ => ?_)
      split
      · dsimp only
        split
        · exact Keeps.bind (Keeps.emit (VsWf.single hitems.head))
            (fun _ _ => Keeps.rec [] ⟨hf, hitems.tail⟩)
        · exact Keeps.rec [] ⟨hf, hitems.tail⟩
      · exact Keeps.throwC (by decide)
      · exact Keeps.throwC (by decide)
  | stages fs input first excs =>
    obtain ⟨hag, hfs, hinput, hexcs⟩ := hc
    refine post_of_keeps hs ?_ (fun _ h => h) (fun _ _ h _ => h)
    cases fs with
    | nil => exact Keeps.andPure (NoReq.pipelineResult fun _ => hexcs).keeps VsWf.nil
    | cons f fs =>
      simp only [rForms, Bool.and_eq_true] at hfs
      refine Keeps.bind Keeps.getSt (fun t ht => ?_)
      dsimp only
      refine Keeps.bind (Keeps.modify (fun u hu => ⟨⟨hu.heap, ?_, ?_, hu.defers⟩, rfl⟩)) (fun _ _ => ?_)
      · dsimp only; split
        · exact hu.out
        · exact VsWf.nil
      · dsimp only; split
        · exact hu.inp
        · exact hinput
      refine Keeps.bind (Keeps.attempt (Keeps.rec sc ⟨hag, hfs.1⟩)) (fun r hr => ?_)
      refine Keeps.bind Keeps.getSt (fun t' ht' => ?_)
      refine Keeps.bind (Keeps.modify (fun u hu => ⟨⟨hu.heap, ?_, ?_, hu.defers⟩, rfl⟩)) (fun _ _ => ?_)
      · dsimp only; split
        · exact hu.out
        · exact ht.1.out
      · dsimp only; split
        · exact hu.inp
        · exact ht.1.inp
      exact Keeps.rec sc ⟨hag, hfs.2, ht'.1.out, hexcs.append (VsWf.single (excOf_wf hr))⟩
  | mapPairs ks vs =>
    obtain ⟨hag, hks, hvs⟩ := hc
    refine post_of_keeps hs ?_ (fun _ h => h) (fun _ _ h _ => h)
    cases ks with
    | nil => exact Keeps.pure VsWf.nil
    | cons k ks =>
      cases vs with
      | nil => exact Keeps.pure VsWf.nil
      | cons v vs =>
        simp only [rExprs, Bool.and_eq_true] at hks hvs
        refine Keeps.bind (Keeps.rec sc ⟨hag, hks.1⟩) (fun kv hkv => ?_)
        refine Keeps.bind (Keeps.rec sc ⟨hag, hvs.1⟩) (fun vv hvv => ?_)
        dsimp only
        split
        · exact Keeps.throwC_bind (by decide) _
        · exact Keeps.bind (Keeps.rec sc ⟨hag, hks.2, hvs.2⟩)
            (fun rest hrest => Keeps.pure ((interleave_wf hkv hvv).append hrest))
  | compoundFrom acc es =>
    obtain ⟨hag, hacc, hes⟩ := hc
    refine post_of_keeps hs ?_ (fun _ h => h) (fun _ _ h _ => h)
    cases es with
    | nil => exact Keeps.pure hacc
    | cons e es =>
      simp only [rExprs, Bool.and_eq_true] at hes
      refine Keeps.bind (Keeps.rec sc ⟨hag, hes.1⟩) (fun us hus => ?_)
      refine Keeps.bind (Keeps.liftE (outer_wf acc us)) (fun acc' hacc' => ?_)
      exact Keeps.rec sc ⟨hag, hacc', hes.2⟩

theorem initSt_wf : StWf initSt := by
  refine ⟨?_, VsWf.nil, VsWf.nil, by intro d h; cases h⟩
  exact VsWf.cons (VWf.bool _) (VsWf.cons (VWf.bool _) (VsWf.cons VWf.nil (VsWf.single VWf.ok)))

theorem agree_init : Agree initSt.scope initSScope := by
  refine ⟨frameAgree_nil, ⟨?_, trivial⟩⟩
  intro x
  simp

theorem program_sound (cfg : Cfg) (n : Nat) (p : Chunk) (h : accepts p = true) :
    Holds (.pipes p.pipes) (initSScope, true) initSt (run cfg n (.pipes p.pipes) initSt) :=
  run_sound cfg (step_sound cfg) n _ _ _ ⟨initSt_wf, agree_init, h⟩

end C15
