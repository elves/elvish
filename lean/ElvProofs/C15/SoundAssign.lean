/-
C15 static-scope soundness: triples that track the resolver's scope through
declarations (`TrF`), lvalues, assignment, `del`.
-/
import ElvProofs.C15.SoundCall
set_option linter.unusedSimpArgs false
set_option linter.unusedVariables false
namespace C15

variable {α β : Type}

/-- `m` takes a state whose scope chain agrees with `sc` to one that agrees
with `sc'`; where declarations are not allowed (`decl = false`) the scope
chain stays the one of `s0`, also when an exception is thrown. -/
def TrF (decl : Bool) (s0 : St) (sc sc' : SScope) (m : M α) (R : α → Prop) : Prop :=
  Tr (fun s => Agree s.scope sc ∧ (decl = false → s.scope = s0.scope)) m
    (fun a s' => (Agree s'.scope sc' ∧ (decl = false → s'.scope = s0.scope)) ∧ R a)
    (fun s' => decl = false → s'.scope = s0.scope)

namespace TrF
variable {decl : Bool} {s0 : St} {sc sc1 sc2 : SScope}

theorem bind {m : M α} {f : α → M β} {R : α → Prop} {R' : β → Prop}
    (h1 : TrF decl s0 sc sc1 m R) (h2 : ∀ a, R a → TrF decl s0 sc1 sc2 (f a) R') :
    TrF decl s0 sc sc2 (m >>= f) R' := by
  refine Tr.bind h1 ?_
  intro a s hs ⟨hp, hr⟩
  exact h2 a hr s hs hp

theorem ofKeeps {m : M α} {R : α → Prop} (h : ∀ s1, Agree s1.scope sc → Keeps s1 R m) :
    TrF decl s0 sc sc m R := by
  intro s hs ⟨hag, hd⟩
  refine wp_mono (h s hag s hs rfl) ?_ ?_
  · intro a s' ⟨h1, h2, h3⟩
    exact ⟨h1, ⟨by rw [h2]; exact hag, fun hf => h2.trans (hd hf)⟩, h3⟩
  · intro e s' ⟨h1, h2, h3⟩
    exact ⟨h1, h2, fun hf => h3.trans (hd hf)⟩

theorem pure {a : α} {R : α → Prop} (h : R a) : TrF decl s0 sc sc (Pure.pure a : M α) R :=
  Tr.pure (fun s _ hp => ⟨hp, h⟩)

theorem mono {m : M α} {R R' : α → Prop} (h : TrF decl s0 sc sc1 m R) (hr : ∀ a, R a → R' a) :
    TrF decl s0 sc sc1 m R' :=
  Tr.conseq h (fun _ _ h => h) (fun a s _ ⟨h1, h2⟩ => ⟨h1, hr a h2⟩) (fun _ h => h)

theorem getSt_bind {f : St → M β} {R' : β → Prop}
    (h : ∀ t, StWf t → Agree t.scope sc → (decl = false → t.scope = s0.scope) →
      Tr (fun s => s = t) (f t)
        (fun a s' => (Agree s'.scope sc1 ∧ (decl = false → s'.scope = s0.scope)) ∧ R' a)
        (fun s' => decl = false → s'.scope = s0.scope)) :
    TrF decl s0 sc sc1 (getSt >>= f) R' := by
  intro s hs hp
  rw [wp_bind, wp_getSt]
  exact h s hs hp.1 hp.2 s hs rfl

theorem atState {t : St} {m : M α} {R : α → Prop} (hag : Agree t.scope sc)
    (hd : decl = false → t.scope = s0.scope) (h : TrF decl s0 sc sc1 m R) :
    Tr (fun s => s = t) m
      (fun a s' => (Agree s'.scope sc1 ∧ (decl = false → s'.scope = s0.scope)) ∧ R a)
      (fun s' => decl = false → s'.scope = s0.scope) :=
  Tr.conseq h (fun s _ he => by subst he; exact ⟨hag, hd⟩) (fun _ _ _ h => h) (fun _ h => h)

theorem declare (x : String) {v : Value} (hv : VWf v) :
    TrF true s0 sc (sc.declare x) (declare x v) (fun _ => True) := by
  intro s hs ⟨hag, _⟩
  show FM.wp (C15.declare x v s) _ _
  unfold C15.declare
  split
  · trivial
  · rename_i f rest hsc
    rw [hsc] at hag
    exact ⟨(hs.pushHeap hv).setScope _, ⟨agree_declare hag x _, fun h => by cases h⟩, trivial⟩

theorem undeclare {x : String} {sc' : SScope} (hu : sc.undeclare x = some sc') :
    TrF true s0 sc sc' (undeclare x) (fun _ => True) := by
  intro s hs ⟨hag, _⟩
  show FM.wp (C15.undeclare x s) _ _
  unfold C15.undeclare
  split
  · trivial
  · rename_i f rest hsc
    rw [hsc] at hag
    obtain ⟨hag', a, ha⟩ := agree_undeclare hag hu
    simp only [ha]
    exact ⟨hs.setScope _, ⟨hag', fun h => by cases h⟩, trivial⟩

theorem declareAll {names : List String} {vals : List Value} (hv : VsWf vals)
    (hl : names.length = vals.length) :
    TrF true s0 sc (sc.declareAll names) (declareAll names vals) (fun _ => True) := by
  induction names generalizing vals sc with
  | nil => exact pure trivial
  | cons x xs ih =>
    cases vals with
    | nil => simp at hl
    | cons v vs =>
      unfold C15.declareAll
      exact bind (declare x hv.head) (fun _ _ => ih hv.tail (by simpa using hl))

end TrF

variable {s0 : St} {sc : SScope}

theorem Keeps.evalIdx (hag : Agree s0.scope sc) {idx : List Expr} (h : rExprs sc idx = true) :
    Keeps s0 VsWf (evalIdx idx) := by
  induction idx with
  | nil => exact Keeps.pure VsWf.nil
  | cons e es ih =>
    simp only [rExprs, Bool.and_eq_true] at h
    unfold C15.evalIdx
    refine Keeps.bind (Keeps.rec sc ⟨hag, h.1⟩) (fun vs hvs => ?_)
    refine Keeps.bind (Keeps.one hvs) (fun v hv => ?_)
    exact Keeps.bind (ih h.2) (fun vs' hvs' => Keeps.pure (VsWf.cons hv hvs'))

theorem Keeps.derefLVals (hag : Agree s0.scope sc) {lvs : List LVal} (h : rLVals sc lvs = true) :
    Keeps s0 (fun rs => ∀ r, r ∈ rs → RefWf r) (derefLVals lvs) := by
  induction lvs with
  | nil => exact Keeps.pure (by intro r hr; cases hr)
  | cons lv lvs ih =>
    obtain ⟨x, rest, idx⟩ := lv
    simp only [rLVals, Bool.and_eq_true] at h
    unfold C15.derefLVals
    refine Keeps.bind (R := RefWf) ?_ (fun r hr => Keeps.bind (ih h.2) (fun rs hrs => Keeps.pure ?_))
    · unfold derefLVal
      refine Keeps.bind (Keeps.lookupVar hag (assignable_has h.1.1)) (fun a _ => ?_)
      refine Keeps.bind (Keeps.evalIdx hag h.1.2) (fun ix hix => ?_)
      refine Keeps.bind (Keeps.readAddr a) (fun v hv => ?_)
      refine Keeps.bind (Keeps.liftE (checkPath_ok hv ix)) (fun _ _ => ?_)
      exact Keeps.pure ⟨hix, hv⟩
    · intro r' hr'
      cases hr' with
      | head => exact hr
      | tail _ h' => exact hrs _ h'

/-- `del x[k]` -/
theorem Keeps.delElem (hag : Agree s0.scope sc) {x : String} {rest : Bool} {i : Expr} {is : List Expr}
    (hx : sc.assignable x = true) (hi : rExprs sc (i :: is) = true) :
    Keeps s0 (fun _ => True) (delLVal (.mk x rest (i :: is))) := by
  unfold delLVal
  dsimp only [LVal.idx, LVal.name]
  refine Keeps.bind (Keeps.lookupVar hag (assignable_has hx)) (fun a _ => ?_)
  refine Keeps.bind (Keeps.evalIdx hag hi) (fun ix hix => ?_)
  refine Keeps.bind (Keeps.readAddr a) (fun v hv => ?_)
  refine Keeps.bind (Keeps.liftE (dissocPath_wf hv hix)) (fun v' hv' => ?_)
  exact Keeps.writeAddr a hv'

theorem TrF.delLVals {decl : Bool} {lvs : List LVal} {sc' : SScope} (h : rDelLVals sc decl lvs = some sc') :
    TrF decl s0 sc sc' (delLVals lvs) (fun _ => True) := by
  induction lvs generalizing sc with
  | nil =>
    simp only [rDelLVals, Option.some.injEq] at h
    subst h
    exact TrF.pure trivial
  | cons lv lvs ih =>
    obtain ⟨x, rest, idx⟩ := lv
    unfold C15.delLVals
    cases idx with
    | nil =>
      simp only [rDelLVals] at h
      cases decl with
      | false => simp at h
      | true =>
        simp only [if_true] at h
        cases hu : sc.undeclare x with
        | none => rw [hu] at h; cases h
        | some sc1 =>
          rw [hu] at h
          refine TrF.bind (R := fun _ => True) (sc1 := sc1) ?_ (fun _ _ => ih h)
          exact TrF.undeclare hu
    | cons i is =>
      simp only [rDelLVals] at h
      split at h
      · rename_i hc
        simp only [Bool.and_eq_true] at hc
        exact TrF.bind (TrF.ofKeeps (fun s1 hag => Keeps.delElem hag hc.1 hc.2)) (fun _ _ => ih h)
      · cases h

end C15
