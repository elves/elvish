/-
C15: the laws the builtin documentation states for the pure value-stream / container builtins of
`ElvModel/C15/Builtins.lean`.
-/
import ElvModel.C15.Interp
set_option linter.unusedSimpArgs false
set_option linter.unusedVariables false
namespace C15

/-- No two neighbours of the list are equal (as `eq` tests it). -/
def NoAdj : List Value → Bool
  | a :: b :: rest => !veq a b && NoAdj (b :: rest)
  | _ => true

theorem NoAdj.tail {a : Value} {l : List Value} (h : NoAdj (a :: l) = true) : NoAdj l = true := by
  cases l with
  | nil => rfl
  | cons b rest =>
    simp only [NoAdj, Bool.and_eq_true] at h
    exact h.2

theorem noAdj_compactFrom (p : Value) (vs : List Value) : NoAdj (p :: compactFrom p vs) = true := by
  induction vs generalizing p with
  | nil => rfl
  | cons v vs ih =>
    unfold compactFrom
    split
    · exact ih p
    · rename_i h
      simp only [NoAdj, Bool.and_eq_true, Bool.not_eq_true']
      exact ⟨by simpa using h, ih v⟩

theorem compactFrom_of_noAdj {p : Value} {vs : List Value} (h : NoAdj (p :: vs) = true) :
    compactFrom p vs = vs := by
  induction vs generalizing p with
  | nil => rfl
  | cons v vs ih =>
    simp only [NoAdj, Bool.and_eq_true, Bool.not_eq_true'] at h
    unfold compactFrom
    rw [if_neg (by rw [h.1]; decide), ih h.2]

theorem compact_noAdj (vs : List Value) : NoAdj (compact vs) = true := by
  cases vs with
  | nil => rfl
  | cons v vs => exact noAdj_compactFrom v vs

theorem compact_of_noAdj {vs : List Value} (h : NoAdj vs = true) : compact vs = vs := by
  cases vs with
  | nil => rfl
  | cons v vs =>
    show v :: compactFrom v vs = v :: vs
    rw [compactFrom_of_noAdj h]

theorem compact_idem (vs : List Value) : compact (compact vs) = compact vs :=
  compact_of_noAdj (compact_noAdj vs)

theorem compactFrom_sublist (p : Value) (vs : List Value) : List.Sublist (compactFrom p vs) vs := by
  induction vs generalizing p with
  | nil => exact List.Sublist.slnil
  | cons v vs ih =>
    unfold compactFrom
    split
    · exact List.Sublist.cons _ (ih p)
    · exact List.Sublist.cons_cons _ (ih v)

theorem compact_sublist (vs : List Value) : List.Sublist (compact vs) vs := by
  cases vs with
  | nil => exact List.Sublist.slnil
  | cons v vs => exact List.Sublist.cons_cons _ (compactFrom_sublist v vs)

theorem compact_head (v : Value) (vs : List Value) : (compact (v :: vs)).head? = some v := rfl

theorem compact_eq_nil {vs : List Value} : compact vs = [] ↔ vs = [] := by
  cases vs with
  | nil => exact ⟨fun _ => rfl, fun _ => rfl⟩
  | cons v vs =>
    constructor
    · intro h; cases h
    · intro h; cases h

theorem compact_cons_cons (v w : Value) (rest : List Value) :
    compact (v :: w :: rest) = if veq v w then compact (v :: rest) else v :: compact (w :: rest) := by
  show v :: compactFrom v (w :: rest) = _
  unfold compactFrom
  split <;> rfl

theorem mapDel_absent {m : List (Value × Value)} {k : Value} (h : mapGet m k = none) : mapDel m k = m := by
  unfold mapGet at h
  unfold mapDel
  rw [List.filter_eq_self]
  intro kv hkv
  cases hf : m.find? (fun kv => veq kv.1 k) with
  | some x => rw [hf] at h; cases h
  | none =>
    have := List.find?_eq_none.mp hf kv hkv
    simpa using this

end C15
