/-
C15: the pure value operations preserve well-formedness of values and only raise well-formed exceptions (never
"variable not found").
-/
import ElvProofs.C15.Wf
set_option linter.unusedSimpArgs false
set_option linter.unusedVariables false
namespace C15

theorem EOk.okI {α} {P : α → Prop} {a : α} (h : P a) : EOk P (.ok a) := h
theorem EOk.errI {α} {P : α → Prop} {k : String} (h : k ≠ vnf) : EOk P (.error ⟨k, []⟩) := EWf.const h

/-- closes goals `EOk P (.ok a)` with trivial `P a`, and `EOk P (.error <constant>)` -/
macro "eok_triv" : tactic =>
  `(tactic| first
    | exact EOk.errI (by decide)
    | exact EOk.okI True.intro
    | exact EOk.okI (VWf.str _)
    | exact EOk.okI VWf.nil)

macro "eok_split" : tactic => `(tactic| repeat' (first | split | dsimp only))

theorem parseIdx_ok (v : Value) : EOk (fun _ => True) (parseIdx v) := by
  unfold parseIdx
  eok_split
  all_goals eok_triv

theorem resolveIdx_ok (n : Nat) (i : Idx) : EOk (fun _ => True) (resolveIdx n i) := by
  cases i <;> exact EOk_ite (fun _ => trivial) (EWf.const (by decide))

theorem indexList_wf {vs : List Value} (hvs : VsWf vs) (idx : Value) : RWf (indexList vs idx) := by
  unfold indexList
  refine EOk_bind (parseIdx_ok idx) (fun i _ => EOk_bind (resolveIdx_ok _ i) (fun r _ => ?_))
  cases r with
  | inl p =>
    dsimp only
    cases h3 : vs[p]? with
    | none => eok_triv
    | some v => exact hvs.getElem? h3
  | inr lh =>
    obtain ⟨l, h⟩ := lh
    exact VWf.list ((hvs.drop l).take (h - l))

theorem indexString_wf (s : String) (idx : Value) : RWf (indexString s idx) := by
  unfold indexString
  dsimp only
  refine EOk_bind (parseIdx_ok idx) (fun i _ => EOk_bind (resolveIdx_ok _ i) (fun r _ => ?_))
  eok_split
  all_goals eok_triv

theorem mapGet_wf {m : List (Value × Value)} (h2 : ∀ kv, kv ∈ m → VWf kv.2) {k v : Value}
    (h : mapGet m k = some v) : VWf v := by
  unfold mapGet at h
  cases hf : m.find? (fun kv => veq kv.1 k) with
  | none => rw [hf] at h; cases h
  | some kv =>
    rw [hf] at h
    cases h
    exact h2 _ (List.mem_of_find?_eq_some hf)

theorem indexValue_wf {c : Value} (hc : VWf c) (idx : Value) : RWf (indexValue c idx) := by
  unfold indexValue
  split
  · cases hc with | list h => exact indexList_wf h idx
  · exact indexString_wf _ _
  · cases hc with
    | map h1 h2 =>
      split
      · rename_i v hv; exact mapGet_wf h2 hv
      · eok_triv
  · split <;> eok_triv
  · split <;> eok_triv
  · split <;> eok_triv
  · eok_triv

theorem mapPut_wf {m : List (Value × Value)} (h1 : ∀ kv, kv ∈ m → VWf kv.1) (h2 : ∀ kv, kv ∈ m → VWf kv.2)
    {k v : Value} (hk : VWf k) (hv : VWf v) :
    (∀ kv, kv ∈ mapPut m k v → VWf kv.1) ∧ (∀ kv, kv ∈ mapPut m k v → VWf kv.2) := by
  unfold mapPut mapDel
  constructor <;> intro kv hkv <;> rcases List.mem_append.mp hkv with h | h
  · exact h1 _ (List.mem_filter.mp h).1
  · simp only [List.mem_singleton] at h; subst h; exact hk
  · exact h2 _ (List.mem_filter.mp h).1
  · simp only [List.mem_singleton] at h; subst h; exact hv

theorem assocValue_wf {c : Value} (hc : VWf c) {idx v : Value} (hi : VWf idx) (hv : VWf v) :
    RWf (assocValue c idx v) := by
  unfold assocValue
  split
  · cases hc with
    | list h =>
      refine EOk_bind (parseIdx_ok idx) (fun i _ => EOk_bind (resolveIdx_ok _ i) (fun r _ => ?_))
      cases r with
      | inl p => exact VWf.list (VsWf.set h p hv)
      | inr _ => eok_triv
  · cases hc with
    | map h1 h2 =>
      have := mapPut_wf h1 h2 hi hv
      exact VWf.map this.1 this.2
  · dsimp only
    refine EOk_bind (parseIdx_ok idx) (fun i _ => EOk_bind (resolveIdx_ok _ i) (fun r _ => ?_))
    repeat' (first | split | dsimp only | (refine EOk_bind (P := fun _ => True) ?_ (fun _ _ => ?_)))
    all_goals eok_triv
  · eok_triv

theorem assocPath_wf {c : Value} (hc : VWf c) {idx : List Value} (hi : VsWf idx) {v : Value} (hv : VWf v) :
    RWf (assocPath c idx v) := by
  induction idx generalizing c with
  | nil => exact hv
  | cons i is ih =>
    cases is with
    | nil => exact assocValue_wf hc hi.head hv
    | cons j js =>
      unfold assocPath
      refine EOk_bind (indexValue_wf hc i) (fun inner hin => ?_)
      exact EOk_bind (ih hin hi.tail) (fun inner' hin' => assocValue_wf hc hi.head hin')

theorem dissocValue_wf {c : Value} (hc : VWf c) (idx : Value) : RWf (dissocValue c idx) := by
  unfold dissocValue
  split
  · cases hc with
    | map h1 h2 =>
      refine VWf.map ?_ ?_ <;> intro kv hkv
      · exact h1 _ (List.mem_filter.mp hkv).1
      · exact h2 _ (List.mem_filter.mp hkv).1
  · eok_triv

theorem dissocPath_wf {c : Value} (hc : VWf c) {idx : List Value} (hi : VsWf idx) :
    RWf (dissocPath c idx) := by
  induction idx generalizing c with
  | nil => exact hc
  | cons i is ih =>
    cases is with
    | nil => exact dissocValue_wf hc i
    | cons j js =>
      unfold dissocPath
      refine EOk_bind (indexValue_wf hc i) (fun inner hin => ?_)
      exact EOk_bind (ih hin hi.tail) (fun inner' hin' => assocValue_wf hc hi.head hin')

theorem checkPath_ok {c : Value} (hc : VWf c) (idx : List Value) : EOk (fun _ => True) (checkPath c idx) := by
  induction idx generalizing c with
  | nil => exact True.intro
  | cons i is ih =>
    cases is with
    | nil => exact True.intro
    | cons j js =>
      unfold checkPath
      exact EOk_bind (indexValue_wf hc i) (fun inner hin => ih hin)

theorem elements_wf {v : Value} (hv : VWf v) : RsWf (elements v) := by
  unfold elements
  split
  · cases hv with | list h => exact h
  · exact VsWf.map_of (fun c => VWf.str _)
  · eok_triv

theorem lengthOf_ok (v : Value) : EOk (fun _ => True) (lengthOf v) := by
  unfold lengthOf
  split <;> eok_triv

theorem concat_wf (a b : Value) : RWf (concat a b) := by
  unfold concat
  split <;> eok_triv

theorem concatRow_wf (l : Value) (rs : List Value) : RsWf (concatRow l rs) := by
  induction rs with
  | nil => exact VsWf.nil
  | cons r rs ih =>
    unfold concatRow
    exact EOk_bind (concat_wf l r) (fun x hx => EOk_bind ih (fun xs hxs => VsWf.cons hx hxs))

theorem outer_wf (ls rs : List Value) : RsWf (outer ls rs) := by
  induction ls with
  | nil => exact VsWf.nil
  | cons l ls ih =>
    unfold outer
    exact EOk_bind (concatRow_wf l rs) (fun x hx => EOk_bind ih (fun xs hxs => VsWf.append hx hxs))

theorem mapPutAll_wf {acc : List (Value × Value)} (h1 : ∀ kv, kv ∈ acc → VWf kv.1)
    (h2 : ∀ kv, kv ∈ acc → VWf kv.2) {ks vs : List Value} (hk : VsWf ks) (hv : VsWf vs) :
    (∀ kv, kv ∈ mapOfPairs.mapPutAll acc ks vs → VWf kv.1) ∧
      (∀ kv, kv ∈ mapOfPairs.mapPutAll acc ks vs → VWf kv.2) := by
  induction ks generalizing acc vs with
  | nil => exact ⟨h1, h2⟩
  | cons k ks ih =>
    cases vs with
    | nil => exact ⟨h1, h2⟩
    | cons v vs =>
      have := mapPut_wf h1 h2 hk.head hv.head
      exact ih this.1 this.2 hk.tail hv.tail

theorem mapOfPairs_wf {ks vs : List Value} (hk : VsWf ks) (hv : VsWf vs) : VWf (.map (mapOfPairs ks vs)) := by
  have := mapPutAll_wf (acc := []) (by intro kv h; cases h) (by intro kv h; cases h) hk hv
  exact VWf.map this.1 this.2

theorem uninterleave_wf : ∀ {l : List Value}, VsWf l → VsWf (uninterleave l).1 ∧ VsWf (uninterleave l).2
  | [], _ => ⟨VsWf.nil, VsWf.nil⟩
  | [_], _ => ⟨VsWf.nil, VsWf.nil⟩
  | a :: b :: rest, h => by
    have ih := uninterleave_wf (l := rest) h.tail.tail
    simp only [uninterleave]
    exact ⟨VsWf.cons h.head ih.1, VsWf.cons h.tail.head ih.2⟩

theorem interleave_wf : ∀ {a b : List Value}, VsWf a → VsWf b → VsWf (interleave a b)
  | [], _, _, _ => by simp only [interleave]; exact VsWf.nil
  | _ :: _, [], _, _ => by simp only [interleave]; exact VsWf.nil
  | x :: xs, y :: ys, h1, h2 => by
    simp only [interleave]
    exact VsWf.cons h1.head (VsWf.cons h2.head (interleave_wf h1.tail h2.tail))

theorem mapM_index_wf {c : Value} (hc : VWf c) (is : List Value) :
    RsWf (is.mapM (fun i => indexValue c i)) := by
  induction is with
  | nil => exact VsWf.nil
  | cons i is ih =>
    rw [List.mapM_cons]
    exact EOk_bind (indexValue_wf hc i) (fun v hv => EOk_bind ih (fun vs hvs => VsWf.cons hv hvs))

theorem indexAll_wf {cs : List Value} (hc : VsWf cs) (idx : List Value) : RsWf (indexAll cs idx) := by
  unfold indexAll
  suffices H : ∀ (acc : List Value), VsWf acc →
      RsWf (cs.foldlM (fun acc c => do
        let row ← idx.mapM (fun i => indexValue c i)
        pure (acc ++ row)) acc) from H [] VsWf.nil
  induction cs with
  | nil => intro acc ha; exact ha
  | cons c cs ih =>
    intro acc ha
    rw [List.foldlM_cons]
    refine EOk_bind (P := VsWf) ?_ (fun acc' ha' => ih hc.tail acc' ha')
    exact EOk_bind (mapM_index_wf hc.head idx) (fun row hrow => ha.append hrow)

theorem distribute_wf {rests : List Bool} {vals : List Value} (hv : VsWf vals) :
    EOk (fun out => VsWf out ∧ out.length = rests.length) (distribute rests vals) := by
  unfold distribute
  dsimp only
  cases hr : rests.findIdx? id with
  | none =>
    dsimp only
    split
    · rename_i h; exact ⟨hv, by simpa using h⟩
    · eok_triv
  | some r =>
    dsimp only
    split
    · eok_triv
    · rename_i hlen
      refine ⟨?_, ?_⟩
      · exact ((hv.take r).append (VsWf.single (VWf.list ((hv.drop r).take _)))).append (hv.drop _)
      · have hr' : r < rests.length := by
          have := List.findIdx?_eq_some_iff_getElem.mp hr
          exact this.1
        simp only [List.length_append, List.length_take, List.length_drop, List.length_cons, List.length_nil]
        omega

theorem unwrapList_wf {v : Value} (h : VWf v) : VsWf (unwrapList v) := by
  unfold unwrapList
  split
  · cases h with | list h => exact h
  · exact VsWf.single h

theorem optValues_wf {names : List String} {defaults : List Value} (hd : VsWf defaults) (gn : List String)
    {gv : List Value} (hg : VsWf gv) :
    VsWf (optValues names defaults gn gv) ∧
      (optValues names defaults gn gv).length = min names.length defaults.length := by
  unfold optValues
  refine ⟨?_, by simp⟩
  intro x hx
  obtain ⟨⟨n, d⟩, hnd, rfl⟩ := List.mem_map.mp hx
  dsimp only
  split
  · rename_i p hp
    have := List.mem_of_find?_eq_some hp
    have := List.mem_reverse.mp this
    exact hg _ (List.of_mem_zip this).2
  · exact hd _ (List.of_mem_zip hnd).2

theorem rangeVals_wf (a b st : Rat) : VsWf (rangeVals a b st) := by
  unfold rangeVals
  split
  · exact VsWf.nil
  · exact VsWf.map_of (fun _ => VWf.num _)

end C15
