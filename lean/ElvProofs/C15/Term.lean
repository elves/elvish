/-
C15 fuel sufficiency for a syntactic class of programs: the class (`tChunk`:
no `while`, no function values — no lambda, no `fn`, command heads are literal
names other than `each`/`keep-if` —, `for` over a literal list of literals, no
declared name ending in `~`), a size measure linear in the AST (`cSz`), and a
total-correctness calculus over the free monad: if every request a `step`
makes is smaller than the request it serves, fuel `size + 1` is enough.
-/
import ElvProofs.C15.Sem
set_option linter.unusedSimpArgs false
set_option linter.unusedVariables false
namespace C15

def isTilde (x : String) : Bool := x.toList.getLast? == some '~'

theorem isTilde_append (name : String) : isTilde (name ++ "~") = true := by
  unfold isTilde
  rw [String.toList_append]
  simp

/-- No variable of the scope chain is a function variable (`name~`). -/
def TildeFree (sc : Scope) : Prop := ∀ f, f ∈ sc → ∀ p, p ∈ f → isTilde p.1 = false

theorem TildeFree.find_none {sc : Scope} (h : TildeFree sc) (name : String) : sc.find (name ++ "~") = none := by
  induction sc with
  | nil => rfl
  | cons f rest ih =>
    have hf : Frame.find f (name ++ "~") = none := by
      unfold Frame.find
      have : f.find? (fun p => p.1 == name ++ "~") = none := by
        rw [List.find?_eq_none]
        intro p hp hpe
        have h1 := h f List.mem_cons_self p hp
        have h2 : p.1 = name ++ "~" := by simpa using hpe
        rw [h2, isTilde_append] at h1
        cases h1
      rw [this]; rfl
    show (match Frame.find f (name ++ "~") with
      | some a => some a
      | none => Scope.find rest (name ++ "~")) = none
    rw [hf]
    exact ih (fun g hg => h g (List.mem_cons_of_mem _ hg))

theorem TildeFree.push {sc : Scope} (h : TildeFree sc) : TildeFree ([] :: sc) := by
  intro f hf
  cases hf with
  | head => intro p hp; cases hp
  | tail _ h' => exact h f h'

theorem TildeFree.declare {f : Frame} {rest : Scope} (h : TildeFree (f :: rest)) {x : String}
    (hx : isTilde x = false) (a : Nat) : TildeFree (((x, a) :: f.filter (fun p => p.1 != x)) :: rest) := by
  intro g hg
  cases hg with
  | head =>
    intro p hp
    cases hp with
    | head => exact hx
    | tail _ h' => exact h f List.mem_cons_self p (List.mem_filter.mp h').1
  | tail _ h' => exact h g (List.mem_cons_of_mem _ h')

theorem TildeFree.undeclare {f : Frame} {rest : Scope} (h : TildeFree (f :: rest)) (x : String) :
    TildeFree (f.filter (fun p => p.1 != x) :: rest) := by
  intro g hg
  cases hg with
  | head => intro p hp; exact h f List.mem_cons_self p (List.mem_filter.mp hp).1
  | tail _ h' => exact h g (List.mem_cons_of_mem _ h')

def litOf : Expr → Option String
  | .lit s => some s
  | _ => none

def allLits : List Expr → Option (List String)
  | [] => some []
  | e :: es => match litOf e, allLits es with
    | some s, some ss => some (s :: ss)
    | _, _ => none

/-- a list literal of string literals `[a b c]` -/
def litList : Expr → Option (List String)
  | .list es => allLits es
  | _ => none

def litLen (e : Expr) : Nat := match litList e with
  | some ss => ss.length
  | none => 0

def tHead : Expr → Bool
  | .lit name => name != "each" && name != "keep-if"
  | _ => false

def tName (x : Option String) : Bool := match x with
  | some v => !isTilde v
  | none => true

mutual
def tExpr : Expr → Bool
  | .lit _ => true
  | .var _ => true
  | .explode _ => true
  | .list es => tExprs es
  | .map ks vs => tExprs ks && tExprs vs
  | .lambda _ _ _ _ _ _ => false
  | .capture c => tChunk c
  | .excCapture c => tChunk c
  | .braced es => tExprs es
  | .index e idx => tExpr e && tExprs idx
  | .compound es => tExprs es
def tExprs : List Expr → Bool
  | [] => true
  | e :: es => tExpr e && tExprs es
def tLVals : List LVal → Bool
  | [] => true
  | .mk x _ idx :: lvs => !isTilde x && tExprs idx && tLVals lvs
def tChunk : Chunk → Bool
  | .mk ps => tPipes ps
def tChunks : List Chunk → Bool
  | [] => true
  | c :: cs => tChunk c && tChunks cs
def tOpt : Option Chunk → Bool
  | none => true
  | some c => tChunk c
def tPipes : List Pipeline → Bool
  | [] => true
  | .mk fs :: ps => tForms fs && tPipes ps
def tForms : List Form → Bool
  | [] => true
  | f :: fs => tForm f && tForms fs
def tForm : Form → Bool
  | .cmd head args _ ov => tHead head && tExprs args && tExprs ov
  | .declare names => names.all (fun x => !isTilde x)
  | .assign _ lvs rhs => tLVals lvs && tExprs rhs
  | .del lvs => tLVals lvs
  | .logic _ args => tExprs args
  | .ifF conds bodies els => tExprs conds && tChunks bodies && tOpt els
  | .whileF _ _ _ => false
  | .forF v iter body els => !isTilde v && (litList iter).isSome && tChunk body && tOpt els
  | .tryF body cv cb eb fin => tName cv && tChunk body && tOpt cb && tOpt eb && tOpt fin
  | .fnF _ _ => false
end

mutual
def eSz : Expr → Nat
  | .lit _ => 0
  | .var _ => 0
  | .explode _ => 0
  | .list es => esSz es + 1
  | .map ks vs => esSz ks + esSz vs + 2
  | .lambda _ _ _ _ _ _ => 0
  | .capture c => cSz c + 1
  | .excCapture c => cSz c + 1
  | .braced es => esSz es + 1
  | .index e idx => eSz e + esSz idx + 1
  | .compound es => esSz es + 2
def esSz : List Expr → Nat
  | [] => 0
  | e :: es => eSz e + esSz es + 1
def lvsSz : List LVal → Nat
  | [] => 0
  | .mk _ _ idx :: lvs => esSz idx + lvsSz lvs + 1
def cSz : Chunk → Nat
  | .mk ps => psSz ps
def csSz : List Chunk → Nat
  | [] => 0
  | c :: cs => cSz c + csSz cs + 2
def oSz : Option Chunk → Nat
  | none => 0
  | some c => cSz c + 2
def psSz : List Pipeline → Nat
  | [] => 0
  | .mk fs :: ps => fsSz fs + 2 + psSz ps
def fsSz : List Form → Nat
  | [] => 0
  | f :: fs => fSz f + fsSz fs + 1
def fSz : Form → Nat
  | .cmd _ args _ ov => esSz args + esSz ov + 1
  | .declare _ => 0
  | .assign _ lvs rhs => lvsSz lvs + esSz rhs + 1
  | .del lvs => lvsSz lvs + 1
  | .logic _ args => esSz args + 2
  | .ifF conds bodies els => esSz conds + csSz bodies + oSz els + 2
  | .whileF _ _ _ => 0
  | .forF _ iter body els => eSz iter + litLen iter + cSz body + oSz els + 4
  | .tryF body _ cb eb fin => cSz body + oSz cb + oSz eb + oSz fin + 3
  | .fnF _ _ => 0
end

theorem tChunk_eq (c : Chunk) : tChunk c = tPipes c.pipes := by cases c; simp [tChunk, Chunk.pipes]
theorem cSz_eq (c : Chunk) : cSz c = psSz c.pipes := by cases c; simp [cSz, Chunk.pipes]

theorem allLits_cons {e : Expr} {es : List Expr} {ss : List String} (h : allLits (e :: es) = some ss) :
    ∃ s ss', e = .lit s ∧ allLits es = some ss' ∧ ss = s :: ss' := by
  unfold allLits at h
  split at h
  · rename_i s ss' hs hss'
    cases e <;> cases hs
    exact ⟨s, ss', rfl, hss', (Option.some.inj h).symm⟩
  · cases h

theorem tExprs_of_allLits {es : List Expr} {ss : List String} (h : allLits es = some ss) : tExprs es = true := by
  induction es generalizing ss with
  | nil => rfl
  | cons e es ih =>
    obtain ⟨s, ss', rfl, hes, _⟩ := allLits_cons h
    simp only [tExprs, tExpr, Bool.true_and]
    exact ih hes

theorem tExpr_of_litList {e : Expr} {ss : List String} (h : litList e = some ss) : tExpr e = true := by
  cases e <;> first | cases h | skip
  simp only [tExpr]
  exact tExprs_of_allLits h

/-- Size of a request: the fuel it needs is at most `csz c + 1`. -/
def csz : Call → Nat
  | .expr e => eSz e
  | .exprs es => esSz es
  | .exprsEach es => esSz es
  | .form f => fSz f
  | .pipeline (.mk fs) => fsSz fs + 1
  | .pipes ps => psSz ps
  | .body c _ _ _ => cSz c + 1
  | .call _ _ _ _ => 0
  | .logicArgs _ args _ => esSz args + 1
  | .ifChain conds bodies els => esSz conds + csSz bodies + oSz els + 1
  | .whileLoop _ _ _ _ => 0
  | .forLoop _ items body els _ => items.length + cSz body + oSz els + 2
  | .eachLoop _ _ => 0
  | .keepIfLoop _ _ => 0
  | .stages fs _ _ _ => fsSz fs
  | .mapPairs ks vs => esSz ks + esSz vs + 1
  | .compoundFrom _ es => esSz es + 1

/-- Closes the goals "this constituent is smaller": the sizes are unfolded one level, the rest is linear arithmetic. -/
macro "size_lt" : tactic =>
  `(tactic| (simp only [csz, eSz, esSz, fSz, fsSz, psSz, csSz, oSz, cSz_eq, LVal.idx, List.length_cons]; omega))

def InT : Call → Prop
  | .expr e => tExpr e = true
  | .exprs es => tExprs es = true
  | .exprsEach es => tExprs es = true
  | .form f => tForm f = true
  | .pipeline (.mk fs) => tForms fs = true
  | .pipes ps => tPipes ps = true
  | .body c frame env _ => tChunk c = true ∧ TildeFree (frame :: env)
  | .call f _ _ _ => ∃ name, f = .builtin name ∧ name ≠ "each" ∧ name ≠ "keep-if"
  | .logicArgs _ args _ => tExprs args = true
  | .ifChain conds bodies els => tExprs conds = true ∧ tChunks bodies = true ∧ tOpt els = true
  | .whileLoop _ _ _ _ => False
  | .forLoop _ _ body els _ => tChunk body = true ∧ tOpt els = true
  | .eachLoop _ _ => False
  | .keepIfLoop _ _ => False
  | .stages fs _ _ _ => tForms fs = true
  | .mapPairs ks vs => tExprs ks = true ∧ tExprs vs = true
  | .compoundFrom _ es => tExprs es = true

def TPre (c : Call) (s : St) : Prop := TildeFree s.scope ∧ InT c

/-- What the class needs to know about results: a literal yields one value, a
literal list of literals one list of as many elements. -/
def TVals : Call → List Value → Prop
  | .expr e, vs => (∀ s, e = .lit s → vs.length = 1) ∧
      (∀ ss, litList e = some ss → ∃ l, vs = [.list l] ∧ l.length = ss.length)
  | .exprs es, vs => ∀ ss, allLits es = some ss → vs.length = ss.length
  | _, _ => True

def TPost (c : Call) (r : Except Exc (List Value)) (s' : St) : Prop :=
  TildeFree s'.scope ∧ ∀ vs, r = .ok vs → TVals c vs

/-- Every request of `t` is of the class and smaller than `b`; assuming the
postconditions of the requests, `t` ends in `Q` / `QE`. -/
def FM.twp {α} (b : Nat) : FM α → (α → St → Prop) → (Exc → St → Prop) → Prop
  | .ret a s, Q, _ => Q a s
  | .exc e s, _, QE => QE e s
  | .unsupported _, _, _ => True
  | .call c s k, Q, QE => (TPre c s ∧ csz c < b) ∧ ∀ r s', TPost c r s' → (k r s').twp b Q QE

theorem FM.twp_mono {α} {b : Nat} {t : FM α} {Q Q' : α → St → Prop} {QE QE' : Exc → St → Prop}
    (h : t.twp b Q QE) (hq : ∀ a s, Q a s → Q' a s) (he : ∀ e s, QE e s → QE' e s) : t.twp b Q' QE' := by
  induction t with
  | ret a s => exact hq _ _ h
  | exc e s => exact he _ _ h
  | unsupported w => trivial
  | call c s k ih => exact ⟨h.1, fun r s' hp => ih r s' (h.2 r s' hp)⟩

theorem FM.twp_bind {α β} {b : Nat} (t : FM α) (f : α → St → FM β) (Q : β → St → Prop)
    (QE : Exc → St → Prop) : (t.bind f).twp b Q QE ↔ t.twp b (fun a s => (f a s).twp b Q QE) QE := by
  induction t with
  | ret a s => exact Iff.rfl
  | exc e s => exact Iff.rfl
  | unsupported w => exact Iff.rfl
  | call c s k ih =>
    simp only [FM.bind, FM.twp]
    constructor
    · rintro ⟨hp, hk⟩; exact ⟨hp, fun r s' hpost => (ih r s').mp (hk r s' hpost)⟩
    · rintro ⟨hp, hk⟩; exact ⟨hp, fun r s' hpost => (ih r s').mpr (hk r s' hpost)⟩

theorem FM.twp_attempt {α} {b : Nat} (t : FM α) (Q : Except Exc α → St → Prop) (QE : Exc → St → Prop) :
    t.attempt.twp b Q QE ↔ t.twp b (fun a s => Q (.ok a) s) (fun e s => Q (.error e) s) := by
  induction t with
  | ret a s => exact Iff.rfl
  | exc e s => exact Iff.rfl
  | unsupported w => exact Iff.rfl
  | call c s k ih =>
    simp only [FM.attempt, FM.twp]
    constructor
    · rintro ⟨hp, hk⟩; exact ⟨hp, fun r s' hpost => (ih r s').mp (hk r s' hpost)⟩
    · rintro ⟨hp, hk⟩; exact ⟨hp, fun r s' hpost => (ih r s').mpr (hk r s' hpost)⟩

def TGood (c : Call) : Res (List Value) → Prop
  | .ok vs s' => TPost c (.ok vs) s'
  | .exc e s' => TPost c (.error e) s'
  | .oof => False
  | .unsupported _ => True

theorem interp_twp {α} {b : Nat} {ev : Call → St → Res (List Value)} {Q : α → St → Prop}
    {QE : Exc → St → Prop} (hev : ∀ c s, TPre c s → csz c < b → TGood c (ev c s)) (t : FM α)
    (h : t.twp b Q QE) :
    match interp ev t with
    | .ok a s' => Q a s'
    | .exc e s' => QE e s'
    | .oof => False
    | .unsupported _ => True := by
  induction t with
  | ret a s => exact h
  | exc e s => exact h
  | unsupported w => trivial
  | call c s k ih =>
    obtain ⟨⟨hp, hb⟩, hk⟩ := h
    have hc := hev c s hp hb
    simp only [interp]
    cases hr : ev c s with
    | ok vs s' => rw [hr] at hc; exact ih _ _ (hk _ _ hc)
    | exc e s' => rw [hr] at hc; exact ih _ _ (hk _ _ hc)
    | oof => rw [hr] at hc; exact hc
    | unsupported w => trivial

theorem run_total (cfg : Cfg)
    (hstep : ∀ c s, TPre c s →
      (step cfg c s).twp (csz c) (fun vs s' => TPost c (.ok vs) s') (fun e s' => TPost c (.error e) s')) :
    ∀ n c s, TPre c s → csz c < n → TGood c (run cfg n c s) := by
  intro n
  induction n with
  | zero => intro c s _ h; cases h
  | succ n ih =>
    intro c s hp hn
    have := interp_twp (ev := run cfg n) (b := csz c)
      (fun c' s' hp' hb' => ih c' s' hp' (by omega)) (step cfg c s) (hstep c s hp)
    show TGood c (interp (run cfg n) (step cfg c s))
    cases hr : interp (run cfg n) (step cfg c s) with
    | ok vs s' => rw [hr] at this; exact this
    | exc e s' => rw [hr] at this; exact this
    | oof => rw [hr] at this; exact this
    | unsupported w => trivial

end C15
