/-
C15 static-scope soundness: command forms.
-/
import ElvProofs.C15.SoundAssign
set_option linter.unusedSimpArgs false
set_option linter.unusedVariables false
namespace C15

variable {s0 : St} {sc : SScope}

theorem ite_some {α} {c : Prop} [Decidable c] {a b : α} (h : (if c then some a else none) = some b) :
    c ∧ a = b := by
  split at h
  · exact ⟨‹_›, Option.some.inj h⟩
  · cases h

theorem ite_some' {α} {c : Prop} [Decidable c] {x : Option α} {b : α} (h : (if c then x else none) = some b) :
    c ∧ x = some b := by
  split at h
  · exact ⟨‹_›, h⟩
  · cases h

namespace Keeps

theorem runBlock (hag : Agree s0.scope sc) {c : Chunk} (h : rBlock sc c = true) :
    Keeps s0 (fun _ => True) (runBlock c) := by
  unfold C15.runBlock
  refine Keeps.bind Keeps.getSt (fun s hs => ?_)
  exact Keeps.andPure (Keeps.rec ([] :: sc) ⟨⟨frameAgree_nil, agree_of_eq hag hs.2⟩,
    by rw [← rBlock_eq]; exact h⟩) trivial

theorem runOptBlock (hag : Agree s0.scope sc) {c : Option Chunk} (h : rOptBlock sc c = true) :
    Keeps s0 (fun _ => True) (runOptBlock c) := by
  cases c with
  | none => exact Keeps.pure trivial
  | some c => exact runBlock hag (by simpa [rOptBlock] using h)

theorem resolveHead (hag : Agree s0.scope sc) {head : Expr}
    (h : (match head with
      | .lit _ => true
      | e => rExpr sc e) = true) : Keeps s0 VWf (resolveHead head) := by
  have hother : ∀ e : Expr, rExpr sc e = true →
      Keeps s0 VWf (do
        let v ← C15.one (← C15.rec (.expr e))
        if isCallable v then Pure.pure v else throwE Exc.badValue) := by
    intro e he
    refine Keeps.bind (Keeps.rec sc ⟨hag, he⟩) (fun vs hvs => ?_)
    refine Keeps.bind (Keeps.one hvs) (fun v hv => ?_)
    split
    · exact Keeps.pure hv
    · exact Keeps.throwC (by decide)
  cases head with
  | lit name =>
    unfold C15.resolveHead
    dsimp only
    refine Keeps.bind Keeps.getSt (fun s hs => ?_)
    split
    · exact Keeps.readAddr _
    · split
      · exact Keeps.pure (VWf.builtin _)
      · exact Keeps.unsupp
  | _ => exact hother _ h

end Keeps

theorem TrF.catchVarAddr {decl : Bool} {cv : Option String} {sc1 : SScope}
    (h : (match cv with
      | none => some sc
      | some v =>
        if sc.has v then (if sc.assignable v then some sc else none)
        else if decl then some (sc.declare v) else none) = some sc1) :
    TrF decl s0 sc sc1 (catchVarAddr cv) (fun _ => True) := by
  cases cv with
  | none =>
    simp only [Option.some.injEq] at h
    subst h
    exact TrF.pure trivial
  | some v =>
    dsimp only at h
    unfold C15.catchVarAddr
    by_cases hv : sc.has v = true
    · rw [if_pos hv] at h
      obtain ⟨_, rfl⟩ := ite_some h
      refine TrF.ofKeeps (fun s1 hag => ?_)
      refine Keeps.bind Keeps.getSt (fun t ht => ?_)
      obtain ⟨a, ha⟩ := agree_find_some (agree_of_eq hag ht.2) hv
      rw [ha]
      exact Keeps.pure trivial
    · rw [if_neg hv] at h
      obtain ⟨hd, rfl⟩ := ite_some h
      subst hd
      refine TrF.getSt_bind (fun t ht hag hd => ?_)
      have hnone := agree_find_none hag (by simpa using hv)
      rw [hnone]
      refine TrF.atState hag hd ?_
      exact TrF.bind (TrF.declare v VWf.nil) (fun a _ => TrF.pure trivial)

theorem trF_tryProtected {decl : Bool} {body : Chunk} {cv : Option String} {cb eb : Option Chunk}
    {sc1 : SScope} (hbody : rBlock sc body = true)
    (hcv : (match cv with
      | none => some sc
      | some v =>
        if sc.has v then (if sc.assignable v then some sc else none)
        else if decl then some (sc.declare v) else none) = some sc1)
    (hcb : rOptBlock sc1 cb = true) (heb : rOptBlock sc1 eb = true) :
    TrF decl s0 sc sc1 (tryProtected body cv cb eb) (EOk (fun _ => True)) := by
  unfold tryProtected
  refine TrF.bind (TrF.ofKeeps (fun s1 hag => Keeps.attempt (Keeps.runBlock hag hbody))) (fun r hr => ?_)
  refine TrF.bind (TrF.catchVarAddr hcv) (fun cv' _ => ?_)
  refine TrF.ofKeeps (fun s1 hag => ?_)
  cases r with
  | error e =>
    cases cb with
    | some cb =>
      exact Keeps.bind (NoReq.storeCaught cv' fun _ => hr).keeps
        (fun _ _ => Keeps.attempt (Keeps.runBlock hag (by simpa [rOptBlock] using hcb)))
    | none => exact Keeps.pure hr
  | ok u =>
    cases eb with
    | some eb => exact Keeps.attempt (Keeps.runBlock hag (by simpa [rOptBlock] using heb))
    | none => exact Keeps.pure trivial

theorem trF_evalForm (cfg : Cfg) {decl : Bool} {f : Form} {sc' : SScope} (h : rForm sc decl f = some sc') :
    TrF decl s0 sc sc' (evalForm cfg f) (fun _ => True) := by
  cases f with
  | cmd head args on ov =>
    have hkey : ((match (generalizing := false) head with
        | .lit _ => true
        | e => rExpr sc e) && rExprs sc args && rExprs sc ov) = true ∧ sc = sc' := by
      cases head <;> (simp only [rForm] at h; exact ite_some h)
    obtain ⟨hc, rfl⟩ := hkey
    simp only [Bool.and_eq_true] at hc
    refine TrF.ofKeeps (fun s1 hag => ?_)
    refine Keeps.bind (Keeps.resolveHead hag hc.1.1) (fun f hf => ?_)
    refine Keeps.bind (Keeps.rec sc ⟨hag, hc.1.2⟩) (fun a ha => ?_)
    refine Keeps.bind (Keeps.recExprsEach hag hc.2) (fun ps hps => ?_)
    refine Keeps.bind (Keeps.oneEach hps.1) (fun o ho => ?_)
    exact Keeps.andPure (Keeps.rec [] ⟨hf, ha, ho.1⟩) trivial
  | declare names =>
    simp only [rForm] at h
    obtain ⟨hd, rfl⟩ := ite_some h
    subst hd
    exact TrF.declareAll (VsWf.map_of (fun _ => VWf.nil)) (by simp)
  | assign k lvs rhs =>
    cases k with
    | var =>
      simp only [rForm] at h
      obtain ⟨hc, rfl⟩ := ite_some h
      simp only [Bool.and_eq_true] at hc
      obtain ⟨⟨⟨hd, hrhs⟩, _⟩, _⟩ := hc
      subst hd
      refine TrF.bind (TrF.ofKeeps (fun s1 hag => Keeps.rec sc ⟨hag, hrhs⟩)) (fun vs hvs => ?_)
      refine TrF.bind (TrF.ofKeeps (fun s1 hag => Keeps.liftE (distribute_wf hvs))) (fun vals hvals => ?_)
      exact TrF.declareAll hvals.1 (by simp [hvals.2])
    | set | tmp =>
      simp only [rForm] at h
      obtain ⟨hc, rfl⟩ := ite_some h
      simp only [Bool.and_eq_true] at hc
      refine TrF.ofKeeps (fun s1 hag => ?_)
      refine Keeps.bind (Keeps.derefLVals hag hc.1.1.2) (fun refs hrefs => ?_)
      refine Keeps.bind (Keeps.rec sc ⟨hag, hc.1.2⟩) (fun vs hvs => ?_)
      refine Keeps.bind (Keeps.liftE (distribute_wf hvs)) (fun vals hvals => ?_)
      exact (NoReq.assignRefs cfg _ (fun _ => hrefs) fun _ => hvals.1).keeps
  | del lvs =>
    simp only [rForm] at h
    exact TrF.delLVals h
  | logic k args =>
    simp only [rForm] at h
    obtain ⟨hc, rfl⟩ := ite_some h
    refine TrF.ofKeeps (fun s1 hag => ?_)
    refine Keeps.andPure (Keeps.rec sc ⟨hag, hc, ?_⟩) trivial
    cases k <;> constructor
  | ifF conds bodies els =>
    simp only [rForm] at h
    obtain ⟨hc, rfl⟩ := ite_some h
    simp only [Bool.and_eq_true] at hc
    refine TrF.ofKeeps (fun s1 hag => ?_)
    exact Keeps.andPure (Keeps.rec sc ⟨hag, hc.1.1.2, hc.1.2, hc.2⟩) trivial
  | whileF cond body els =>
    simp only [rForm] at h
    obtain ⟨hc, rfl⟩ := ite_some h
    simp only [Bool.and_eq_true] at hc
    refine TrF.ofKeeps (fun s1 hag => ?_)
    exact Keeps.andPure (Keeps.rec sc ⟨hag, hc.1.1, hc.1.2, hc.2⟩) trivial
  | forF v iter body els =>
    simp only [rForm] at h
    -- what follows once the location `a` of the loop variable is known
    have hloop : ∀ (a : Nat) {s1 : St} {sc1 : SScope}, Agree s1.scope sc1 →
        rExpr sc1 iter = true → rBlock sc1 body = true → rOptBlock sc1 els = true →
        Keeps s1 (fun _ => True) (do
          let c ← one (← C15.rec (.expr iter))
          let items ← liftE (elements c)
          let _ ← C15.rec (.forLoop a items body els false)) := by
      intro a s1 sc1 hag hiter hbody hels
      refine Keeps.bind (Keeps.rec sc1 ⟨hag, hiter⟩) (fun vs hvs => ?_)
      refine Keeps.bind (Keeps.one hvs) (fun c hc => ?_)
      refine Keeps.bind (Keeps.liftE (elements_wf hc)) (fun items hitems => ?_)
      exact Keeps.andPure (Keeps.rec sc1 ⟨hag, hitems, hbody, hels⟩) trivial
    by_cases hv : sc.has v = true
    · rw [if_pos hv] at h
      obtain ⟨hc, rfl⟩ := ite_some h
      simp only [Bool.and_eq_true] at hc
      refine TrF.ofKeeps (fun s1 hag => ?_)
      refine Keeps.bind Keeps.getSt (fun t ht => ?_)
      obtain ⟨a, ha⟩ := agree_find_some (agree_of_eq hag ht.2) hv
      rw [ha]
      exact Keeps.bind (Keeps.pure (R := fun _ => True) trivial) (fun a _ => hloop a hag hc.1.1.2 hc.1.2 hc.2)
    · rw [if_neg hv] at h
      obtain ⟨hd, h⟩ := ite_some' h
      subst hd
      obtain ⟨hc, rfl⟩ := ite_some h
      simp only [Bool.and_eq_true] at hc
      refine TrF.getSt_bind (fun t ht hag hd => ?_)
      have hnone := agree_find_none hag (by simpa using hv)
      rw [hnone]
      refine TrF.atState hag hd ?_
      exact TrF.bind (TrF.declare v VWf.nil)
        (fun a _ => TrF.ofKeeps (fun s1 hag => hloop a hag hc.1.1 hc.1.2 hc.2))
  | tryF body cv cb eb fin =>
    simp only [rForm] at h
    split at h
    · cases h
    · split at h
      · cases h
      · rename_i hb
        simp only [Bool.not_eq_true', Bool.not_eq_false] at hb
        split at h
        · cases h
        · rename_i sc1 hcv
          obtain ⟨hc, rfl⟩ := ite_some h
          simp only [Bool.and_eq_true] at hc
          refine TrF.bind (trF_tryProtected (by simpa using hb) hcv hc.1.1 hc.1.2) (fun pending hp => ?_)
          refine TrF.ofKeeps (fun s1 hag => ?_)
          cases fin with
          | some fb =>
            exact Keeps.bind (Keeps.runBlock hag (by simpa [rOptBlock] using hc.2)) (fun _ _ => Keeps.liftE hp)
          | none => exact Keeps.liftE hp
  | fnF name lam =>
    cases lam with
    | lambda pos rest post on od body =>
      simp only [rForm] at h
      obtain ⟨hd, h⟩ := ite_some' h
      subst hd
      obtain ⟨hc, rfl⟩ := ite_some h
      refine TrF.bind (TrF.declare _ (VWf.builtin "nop")) (fun a _ => ?_)
      refine TrF.ofKeeps (fun s1 hag => ?_)
      have hlam : rExpr (sc.declare (name ++ "~")) (.lambda pos rest post on od body) = true := by
        simp only [rExpr]; exact hc
      refine Keeps.bind (Keeps.rec _ ⟨hag, hlam⟩) (fun vs hvs => ?_)
      refine Keeps.bind (Keeps.one hvs) (fun v hv => ?_)
      cases hv with
      | closure h1 h2 h3 => exact Keeps.writeAddr a (VWf.closure h1 h2 h3)
      | _ => exact Keeps.unsupp
    | _ => simp [rForm] at h

end C15
