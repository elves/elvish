/-
C15 static-scope soundness: expressions.
-/
import ElvProofs.C15.NoReq
set_option linter.unusedSimpArgs false
set_option linter.unusedVariables false
namespace C15

variable {s0 : St} {sc : SScope}

theorem agree_of_eq {s : St} (hag : Agree s0.scope sc) (hp : s.scope = s0.scope) : Agree s.scope sc := by
  rw [hp]; exact hag

namespace Keeps

theorem recExprsEach (hag : Agree s0.scope sc) {es : List Expr} (h : rExprs sc es = true) :
    Keeps s0 (fun vs => VsWf vs ∧ vs.length = es.length) (C15.rec (.exprsEach es)) := by
  intro s hs hp
  rw [wp_rec]
  refine ⟨(sc, false), ⟨hs, agree_of_eq hag hp, h⟩, ?_⟩
  intro r s' ⟨h1, h2, h3⟩
  have hsc := h3.1.trans hp
  cases r with
  | ok vs => exact ⟨h1, hsc, h2, h3.2 vs rfl⟩
  | error e => exact ⟨h1, h2, hsc⟩

end Keeps

theorem rChunk_mk (sc : SScope) (ps : List Pipeline) : rChunk sc (.mk ps) = (rPipes sc true ps).isSome := by
  simp [rChunk]
theorem rChunkNoDecl_eq (sc : SScope) (c : Chunk) : rChunkNoDecl sc c = (rPipes sc false c.pipes).isSome := by
  cases c; simp [rChunkNoDecl, Chunk.pipes]
theorem rChunk_eq (sc : SScope) (c : Chunk) : rChunk sc c = (rPipes sc true c.pipes).isSome := by
  cases c; simp [rChunk, Chunk.pipes]
theorem rBlock_eq (sc : SScope) (c : Chunk) : rBlock sc c = rChunk ([] :: sc) c := by
  cases c; simp [rBlock, rChunk]

theorem keeps_evalExpr (hag : Agree s0.scope sc) (e : Expr) (h : rExpr sc e = true) :
    Keeps s0 VsWf (evalExpr e) := by
  cases e with
  | lit s => exact Keeps.pure (VsWf.single (VWf.str s))
  | var x =>
    simp only [rExpr] at h
    exact Keeps.bind (Keeps.getVar hag h) (fun v hv => Keeps.pure (VsWf.single hv))
  | explode x =>
    simp only [rExpr] at h
    exact Keeps.bind (Keeps.getVar hag h) (fun v hv => Keeps.liftE (elements_wf hv))
  | list es =>
    simp only [rExpr] at h
    exact Keeps.bind (Keeps.rec sc ⟨hag, h⟩) (fun vs hvs => Keeps.pure (VsWf.single (VWf.list hvs)))
  | map ks vs =>
    simp only [rExpr, Bool.and_eq_true] at h
    refine Keeps.bind (Keeps.rec sc ⟨hag, h.1, h.2⟩) (fun kv hkv => ?_)
    have := uninterleave_wf hkv
    exact Keeps.pure (VsWf.single (mapOfPairs_wf this.1 this.2))
  | lambda pos rest post on od body =>
    simp only [rExpr, Bool.and_eq_true, beq_iff_eq] at h
    obtain ⟨⟨hlen, hod⟩, hbody⟩ := h
    refine Keeps.bind (Keeps.recExprsEach hag hod) (fun ps hps => ?_)
    refine Keeps.bind (Keeps.oneEach hps.1) (fun defs hdefs => ?_)
    refine Keeps.bind Keeps.freshId (fun id _ => ?_)
    refine Keeps.bind Keeps.getSt (fun t ht => ?_)
    refine Keeps.pure (VsWf.single (VWf.closure ?_ hdefs.1 ⟨sc, agree_of_eq hag ht.2, hbody⟩))
    rw [hdefs.2, hps.2, hlen]
  | capture c =>
    simp only [rExpr, rChunkNoDecl_eq] at h
    refine Keeps.bind Keeps.getSt (fun s hs => ?_)
    refine Keeps.bind (Keeps.modify (fun t ht => ⟨ht.setOut VsWf.nil, rfl⟩)) (fun _ _ => ?_)
    refine Keeps.bind (Keeps.attempt (Keeps.rec sc ⟨hag, h⟩)) (fun r hr => ?_)
    refine Keeps.bind Keeps.getSt (fun s' hs' => ?_)
    refine Keeps.bind (Keeps.modify (fun t ht => ⟨ht.setOut hs.1.out, rfl⟩)) (fun _ _ => ?_)
    refine Keeps.bind (Keeps.liftE hr) (fun _ _ => ?_)
    exact Keeps.pure hs'.1.out
  | excCapture c =>
    simp only [rExpr, rChunkNoDecl_eq] at h
    refine Keeps.bind (Keeps.attempt (Keeps.rec sc ⟨hag, h⟩)) (fun r hr => ?_)
    cases r with
    | ok _ => exact Keeps.pure (VsWf.single VWf.ok)
    | error e => exact Keeps.pure (VsWf.single (EWf.toValue hr))
  | braced es =>
    simp only [rExpr] at h
    exact Keeps.rec sc ⟨hag, h⟩
  | index e idx =>
    simp only [rExpr, Bool.and_eq_true] at h
    refine Keeps.bind (Keeps.rec sc ⟨hag, h.1⟩) (fun cs hcs => ?_)
    refine Keeps.bind (Keeps.rec sc ⟨hag, h.2⟩) (fun is his => ?_)
    dsimp only
    split
    · exact Keeps.bind (R := fun _ => True) Keeps.unsupp (fun _ _ => Keeps.liftE (indexAll_wf hcs is))
    · exact Keeps.liftE (indexAll_wf hcs is)
  | compound es =>
    cases es with
    | nil => exact Keeps.pure VsWf.nil
    | cons e es =>
      simp only [rExpr, rExprs, Bool.and_eq_true] at h
      exact Keeps.bind (Keeps.rec sc ⟨hag, h.1⟩) (fun vs hvs => Keeps.rec sc ⟨hag, hvs, h.2⟩)

end C15
