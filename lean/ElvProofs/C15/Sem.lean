/-
C15: semantic equations of single constructs, obtained by unfolding one level of `run`,
with the notions they are stated in: entering and leaving a function body (`enter`, `leave`,
`applyDefers`), a loop's reaction to one run of its body (`LoopNext`, `loopReact`), what
follows the protected part of a `try` (`finallyThen`; `NoExc`: that part propagates no
exception).  `call_closure_eq` and `put_var_eq` are the two steps of
`C15_closure_sees_later_assignments`.
-/
import ElvProofs.C15.Basic
set_option linter.unusedSimpArgs false
namespace C15
variable {ev : Call → St → Res (List Value)}

theorem den_runBlock (c : Chunk) (s : St) :
    den ev (runBlock c) s = (ev (.body c [] s.scope false) s).bind (fun _ s' => .ok () s') := by
  unfold runBlock
  simp only [den_bind, den_getSt, Res.bind, den_rec]
  cases ev (.body c [] s.scope false) s <;> rfl

theorem den_ite {α} (c : Prop) [Decidable c] (a b : M α) (s : St) :
    den ev (if c then a else b) s = if c then den ev a s else den ev b s := by
  split <;> rfl

/-- Effect of the `tmp` restores on a state. -/
def applyDefers : List (Nat × Value) → St → St
  | [], s => s
  | (a, v) :: rest, s => applyDefers rest { s with heap := s.heap.set a v }

theorem den_runDefers (ds : List (Nat × Value)) (s : St) :
    den ev (runDefers ds) s = .ok () (applyDefers ds s) := by
  induction ds generalizing s with
  | nil => rfl
  | cons d ds ih =>
    obtain ⟨a, v⟩ := d
    simp only [runDefers, den_bind, writeAddr, den_modifySt, Res.bind, ih, applyDefers]

/-- State in which a function body starts: a new scope holding the parameters
on top of the closed-over chain; no pending `tmp` restores. -/
def enter (frame : Frame) (env : Scope) (s : St) : St := { s with scope := frame :: env, defers := [] }

/-- State after a function body that finished in state `t` (called from state
`s`): the `tmp` restores have run, the caller's scope and restores are current. -/
def leave (s t : St) : St := { applyDefers t.defers t with scope := s.scope, defers := s.defers }

theorem body_eq (cfg : Cfg) (n : Nat) (c : Chunk) (frame : Frame) (env : Scope) (isFn : Bool) (s : St) :
    run cfg (n + 1) (.body c frame env isFn) s =
      match run cfg n (.pipes c.pipes) (enter frame env s) with
      | .ok _ t => .ok [] (leave s t)
      | .exc e t => if isFn = true ∧ e.kind = "return" then .ok [] (leave s t) else .exc e (leave s t)
      | .oof => .oof
      | .unsupported w => .unsupported w := by
  rw [run_succ]
  simp only [step, runBody, den_bind, den_getSt, den_modifySt, Res.bind, den_attempt, den_rec, enter]
  cases run cfg n (.pipes c.pipes) { s with scope := frame :: env, defers := [] } with
  | ok a t => simp [Res.attempt, den_getSt, den_runDefers, den_modifySt, den_pure, leave, Res.bind, den_bind]
  | exc e t =>
    by_cases hc : isFn = true ∧ e.kind = "return"
    · simp [Res.attempt, den_getSt, den_runDefers, den_modifySt, den_pure, leave, Res.bind, den_bind, hc]
    · simp [Res.attempt, den_getSt, den_runDefers, den_modifySt, den_throw, leave, Res.bind, den_bind, hc]
  | oof => rfl
  | unsupported w => rfl

/-- How a loop reacts to the outcome of one run of its body. -/
inductive LoopNext where
  | next (s : St)      -- go on with the next iteration from state s
  | stop (s : St)      -- the loop ends normally in state s
  | throw (e : Exc) (s : St)
  | oof
  | unsupported (w : String)

/-- language.md "Exception and Flow Commands": loops capture `break` and `continue`. -/
def loopReact : Res (List Value) → LoopNext
  | .ok _ s => .next s
  | .exc e s => if e.kind = "continue" then .next s else if e.kind = "break" then .stop s else .throw e s
  | .oof => .oof
  | .unsupported w => .unsupported w

theorem den_loopBody (body : Chunk) (next : Call) (s : St) :
    den ev (do
      match ← attempt (runBlock body) with
      | .ok _ => rec next
      | .error e =>
        if e.kind == "continue" then rec next
        else if e.kind == "break" then pure []
        else throwE e) s =
      match loopReact (ev (.body body [] s.scope false) s) with
      | .next s' => ev next s'
      | .stop s' => .ok [] s'
      | .throw e s' => .exc e s'
      | .oof => .oof
      | .unsupported w => .unsupported w := by
  simp only [den_bind, den_attempt, den_runBlock]
  cases ev (.body body [] s.scope false) s with
  | ok r t => exact den_rec next t
  | exc e t =>
    by_cases h1 : e.kind = "continue"
    · simp [Res.attempt, Res.bind, loopReact, den_rec, h1]
    · by_cases h2 : e.kind = "break"
      · simp [Res.attempt, Res.bind, loopReact, den_pure, h1, h2]
      · simp [Res.attempt, Res.bind, loopReact, den_throw, h1, h2]
  | oof => rfl
  | unsupported w => rfl

theorem forLoop_cons_eq (cfg : Cfg) (n a : Nat) (v : Value) (vs : List Value) (body : Chunk)
    (els : Option Chunk) (it : Bool) (s : St) :
    run cfg (n + 1) (.forLoop a (v :: vs) body els it) s =
      match loopReact (run cfg n (.body body [] s.scope false) { s with heap := s.heap.set a v }) with
      | .next s' => run cfg n (.forLoop a vs body els true) s'
      | .stop s' => .ok [] s'
      | .throw e s' => .exc e s'
      | .oof => .oof
      | .unsupported w => .unsupported w :=
  (den_bind (writeAddr a v) _ s).trans (den_loopBody body _ _)

theorem forLoop_nil_eq (cfg : Cfg) (n a : Nat) (body : Chunk) (els : Option Chunk) (it : Bool) (s : St) :
    run cfg (n + 1) (.forLoop a [] body els it) s =
      match it, els with
      | false, some c => (run cfg n (.body c [] s.scope false) s).bind (fun _ s' => .ok [] s')
      | _, _ => .ok [] s := by
  rw [run_succ]
  cases it <;> cases els <;> simp [step, runOptBlock, den_bind, den_pure, Res.bind, den_runBlock]
  rename_i c
  cases run cfg n (.body c [] s.scope false) s <;> rfl

/-- What happens after the protected part of a `try` with a finally-block. -/
def finallyThen (pending : Except Exc Unit) (fin : Res (List Value)) : Res (List Value) :=
  match fin with
  | .ok _ s2 => (match pending with
    | .ok _ => .ok [] s2
    | .error e => .exc e s2)
  | .exc e s2 => .exc e s2
  | .oof => .oof
  | .unsupported w => .unsupported w

def NoExc {α} (r : Res α) : Prop := ∀ e s, r ≠ .exc e s

theorem noexc_bind {α β} {r : Res α} {f : α → St → Res β} (h1 : NoExc r) (h2 : ∀ a s, NoExc (f a s)) :
    NoExc (r.bind f) := by
  intro e s
  cases r with
  | ok a s1 => exact h2 a s1 e s
  | exc e1 s1 => exact absurd rfl (h1 e1 s1)
  | oof => simp [Res.bind]
  | unsupported w => simp [Res.bind]

theorem noexc_attempt {α} (r : Res α) : NoExc r.attempt := by
  intro e s; cases r <;> simp [Res.attempt]

theorem noexc_ok {α} (a : α) (s : St) : NoExc (Res.ok a s) := by intro e s'; simp

theorem noexc_declare (x : String) (v : Value) (s : St) : NoExc (den ev (declare x v) s) := by
  intro e s'
  simp only [den, declare]
  split <;> simp [interp]

theorem noexc_catchVarAddr (cv : Option String) (s : St) : NoExc (den ev (catchVarAddr cv) s) := by
  cases cv with
  | none => exact noexc_ok _ _
  | some v =>
    simp only [catchVarAddr, den_bind, den_getSt, Res.bind]
    cases s.scope.find v with
    | some a => exact noexc_ok _ _
    | none =>
      simp only [den_bind]
      exact noexc_bind (noexc_declare _ _ _) (fun a s1 => noexc_ok _ _)

theorem noexc_storeCaught (cv : Option Nat) (e : Exc) (s : St) : NoExc (den ev (storeCaught cv e) s) := by
  cases cv <;> exact noexc_ok _ _

/-- The protected part never propagates an exception: whatever the try-,
catch- and else-blocks throw is pending until the finally-block has run. -/
theorem tryProtected_no_exc (body : Chunk) (cv : Option String) (cb eb : Option Chunk) (s : St) :
    NoExc (den ev (tryProtected body cv cb eb) s) := by
  unfold tryProtected
  simp only [den_bind, den_attempt]
  refine noexc_bind (noexc_attempt _) (fun r s1 => noexc_bind (noexc_catchVarAddr _ _) (fun a s2 => ?_))
  cases r <;> cases cb <;> cases eb <;>
    first
    | exact noexc_ok _ _
    | (simp only [den_attempt]; exact noexc_attempt _)
    | (simp only [den_bind, den_attempt]; exact noexc_bind (noexc_storeCaught _ _ _) (fun _ _ => noexc_attempt _))

theorem var_use_eq (cfg : Cfg) (n : Nat) (x : String) (s : St) :
    run cfg (n + 1) (.expr (.var x)) s =
      match s.scope.find x with
      | none => .exc Exc.varNotFound s
      | some a => match s.heap[a]? with
        | some v => .ok [v] s
        | none => .unsupported "dangling variable location" := by
  rw [run_succ]
  simp only [step, evalExpr, getVar, den_bind]
  simp only [den, lookupVar, readAddr]
  cases s.scope.find x with
  | none => rfl
  | some a =>
    simp only [interp, Res.bind]
    cases s.heap[a]? <;> rfl

theorem call_closure_eq (cfg : Cfg) (n id : Nat) (body : Chunk) (env : Scope) (isFn : Bool) (s : St) :
    run cfg (n + 1) (.call (.closure id [] none [] [] [] body env isFn) [] [] []) s =
      (run cfg n (.body body [] env isFn) s).bind (fun _ s' => .ok [] s') := by
  rw [run_succ]
  simp [step, callValue, den_bind, den_pure, Res.bind, bindParams, optValues, den_rec, den_ite]
  cases run cfg n (.body body [] env isFn) s <;> rfl

theorem exprs_nil_eq (cfg : Cfg) (n : Nat) (s : St) : run cfg (n + 1) (.exprs []) s = .ok [] s := by
  rw [run_succ]; rfl
theorem exprsEach_nil_eq (cfg : Cfg) (n : Nat) (s : St) : run cfg (n + 1) (.exprsEach []) s = .ok [] s := by
  rw [run_succ]; rfl
theorem pipes_nil_eq (cfg : Cfg) (n : Nat) (s : St) : run cfg (n + 1) (.pipes []) s = .ok [] s := by
  rw [run_succ]; rfl

theorem put_var_eq (cfg : Cfg) (n : Nat) (x : String) (a : Nat) (v : Value) (s : St)
    (hx : s.scope.find x = some a) (hv : s.heap[a]? = some v) (hput : s.scope.find "put~" = none) :
    run cfg (n + 4) (.form (.cmd (.lit "put") [.var x] [] [])) s = .ok [] { s with out := s.out ++ [v] } := by
  have e1 : run cfg (n + 3) (.exprs [.var x]) s = .ok [v] s := by
    rw [run_succ]
    simp only [step, den_bind, den_rec, var_use_eq, hx, hv, Res.bind, exprs_nil_eq, den_pure]
    rfl
  have e2 : run cfg (n + 3) (.call (.builtin "put") [v] [] []) s = .ok [] { s with out := s.out ++ [v] } := by
    rfl
  rw [run_succ]
  have hs : ("put" ++ "~") = "put~" := by decide
  simp only [step, evalForm, resolveHead, den_bind, den_getSt, Res.bind, hs, hput]
  have hb : builtinNames.contains "put" = true := by decide
  simp only [hb, if_true, den_pure, den_bind, Res.bind, den_rec, e1, exprsEach_nil_eq, oneEach, e2]

theorem pipeline_single_eq (cfg : Cfg) (n : Nat) (f : Form) (s : St) :
    run cfg (n + 1) (.pipeline (.mk [f])) s = run cfg n (.form f) s := by
  rw [run_succ]; simp only [step, den_rec]

theorem pipes_cons_eq (cfg : Cfg) (n : Nat) (p : Pipeline) (ps : List Pipeline) (s : St) :
    run cfg (n + 1) (.pipes (p :: ps)) s =
      (run cfg n (.pipeline p) s).bind (fun _ s' => run cfg n (.pipes ps) s') := by
  rw [run_succ]; simp only [step, den_bind, den_rec]

end C15
