/-
C15 static-scope soundness: the specification of every evaluator request (`Pre`/`Post`: well-formed state, the code
resolves against a static scope that agrees with the dynamic one; afterwards state and results are well-formed — in
particular no exception of class "variable-not-found" — and the scope chain is what the resolver predicts), a
weakest-precondition calculus over the free monad, and `run_sound`: if every `step` satisfies its specification
assuming that of the requests it makes, every `run` does (one induction on the fuel and on the computation tree).
-/
import ElvProofs.C15.Vals
set_option linter.unusedSimpArgs false
set_option linter.unusedVariables false
namespace C15

/-- Well-formed state: every value in a variable, on the ports, or saved by `tmp` is well-formed. -/
structure StWf (s : St) : Prop where
  heap : VsWf s.heap
  out : VsWf s.out
  inp : VsWf s.inp
  defers : ∀ d, d ∈ s.defers → VWf d.2

/-- Static side of the precondition of a request: `sc` is the resolver's scope, `decl` whether declarations are allowed. -/
def PreC : Call → SScope → Bool → St → Prop
  | .expr e, sc, _, s => Agree s.scope sc ∧ rExpr sc e = true
  | .exprs es, sc, _, s => Agree s.scope sc ∧ rExprs sc es = true
  | .exprsEach es, sc, _, s => Agree s.scope sc ∧ rExprs sc es = true
  | .form f, sc, decl, s => Agree s.scope sc ∧ (rForm sc decl f).isSome = true
  | .pipeline p, sc, decl, s => Agree s.scope sc ∧ (rPipes sc decl [p]).isSome = true
  | .pipes ps, sc, decl, s => Agree s.scope sc ∧ (rPipes sc decl ps).isSome = true
  | .body c frame env _, sc, _, _ => Agree (frame :: env) sc ∧ rChunk sc c = true
  | .call f args _ ov, _, _, _ => VWf f ∧ VsWf args ∧ VsWf ov
  | .logicArgs _ args last, sc, _, s => Agree s.scope sc ∧ rExprs sc args = true ∧ VWf last
  | .ifChain conds bodies els, sc, _, s =>
    Agree s.scope sc ∧ rExprs sc conds = true ∧ rBlocks sc bodies = true ∧ rOptBlock sc els = true
  | .whileLoop cond body els _, sc, _, s =>
    Agree s.scope sc ∧ rExpr sc cond = true ∧ rBlock sc body = true ∧ rOptBlock sc els = true
  | .forLoop _ items body els _, sc, _, s =>
    Agree s.scope sc ∧ VsWf items ∧ rBlock sc body = true ∧ rOptBlock sc els = true
  | .eachLoop f items, _, _, _ => VWf f ∧ VsWf items
  | .keepIfLoop f items, _, _, _ => VWf f ∧ VsWf items
  | .stages fs input _ excs, sc, _, s => Agree s.scope sc ∧ rForms sc fs = true ∧ VsWf input ∧ VsWf excs
  | .mapPairs ks vs, sc, _, s => Agree s.scope sc ∧ rExprs sc ks = true ∧ rExprs sc vs = true
  | .compoundFrom acc es, sc, _, s => Agree s.scope sc ∧ VsWf acc ∧ rExprs sc es = true

def Pre (c : Call) (g : SScope × Bool) (s : St) : Prop := StWf s ∧ PreC c g.1 g.2 s

def PostScope : Call → SScope → Bool → St → Except Exc (List Value) → St → Prop
  | .form f, sc, decl, s, r, s' =>
    (decl = false → s'.scope = s.scope) ∧
      (∀ vs, r = .ok vs → ∀ sc', rForm sc decl f = some sc' → Agree s'.scope sc')
  | .pipeline p, sc, decl, s, r, s' =>
    (decl = false → s'.scope = s.scope) ∧
      (∀ vs, r = .ok vs → ∀ sc', rPipes sc decl [p] = some sc' → Agree s'.scope sc')
  | .pipes ps, sc, decl, s, r, s' =>
    (decl = false → s'.scope = s.scope) ∧
      (∀ vs, r = .ok vs → ∀ sc', rPipes sc decl ps = some sc' → Agree s'.scope sc')
  | .exprsEach es, _, _, s, r, s' => s'.scope = s.scope ∧ (∀ vs, r = .ok vs → vs.length = es.length)
  | _, _, _, s, _, s' => s'.scope = s.scope

def ResWf : Except Exc (List Value) → Prop
  | .ok vs => VsWf vs
  | .error e => EWf e

def Post (c : Call) (g : SScope × Bool) (s : St) (r : Except Exc (List Value)) (s' : St) : Prop :=
  StWf s' ∧ ResWf r ∧ PostScope c g.1 g.2 s r s'

/-- `t` is safe: every request it makes satisfies its precondition (for some
static scope), and — assuming the requests keep their postconditions — it ends
in `Q` (normally) or `QE` (with an exception), or leaves the modelled fragment. -/
def FM.wp {α} : FM α → (α → St → Prop) → (Exc → St → Prop) → Prop
  | .ret a s, Q, _ => Q a s
  | .exc e s, _, QE => QE e s
  | .unsupported _, _, _ => True
  | .call c s k, Q, QE => ∃ g, Pre c g s ∧ ∀ r s', Post c g s r s' → (k r s').wp Q QE

def wp {α} (m : M α) (s : St) (Q : α → St → Prop) (QE : Exc → St → Prop) : Prop := (m s).wp Q QE

theorem FM.wp_mono {α} {t : FM α} {Q Q' : α → St → Prop} {QE QE' : Exc → St → Prop}
    (h : t.wp Q QE) (hq : ∀ a s, Q a s → Q' a s) (he : ∀ e s, QE e s → QE' e s) : t.wp Q' QE' := by
  induction t with
  | ret a s => exact hq _ _ h
  | exc e s => exact he _ _ h
  | unsupported w => trivial
  | call c s k ih =>
    obtain ⟨g, hp, hk⟩ := h
    exact ⟨g, hp, fun r s' hpost => ih r s' (hk r s' hpost)⟩

theorem FM.wp_bind {α β} (t : FM α) (f : α → St → FM β) (Q : β → St → Prop) (QE : Exc → St → Prop) :
    (t.bind f).wp Q QE ↔ t.wp (fun a s => (f a s).wp Q QE) QE := by
  induction t with
  | ret a s => exact Iff.rfl
  | exc e s => exact Iff.rfl
  | unsupported w => exact Iff.rfl
  | call c s k ih =>
    simp only [FM.bind, FM.wp]
    constructor
    · rintro ⟨g, hp, hk⟩; exact ⟨g, hp, fun r s' hpost => (ih r s').mp (hk r s' hpost)⟩
    · rintro ⟨g, hp, hk⟩; exact ⟨g, hp, fun r s' hpost => (ih r s').mpr (hk r s' hpost)⟩

theorem FM.wp_attempt {α} (t : FM α) (Q : Except Exc α → St → Prop) (QE : Exc → St → Prop) :
    t.attempt.wp Q QE ↔ t.wp (fun a s => Q (.ok a) s) (fun e s => Q (.error e) s) := by
  induction t with
  | ret a s => exact Iff.rfl
  | exc e s => exact Iff.rfl
  | unsupported w => exact Iff.rfl
  | call c s k ih =>
    simp only [FM.attempt, FM.wp]
    constructor
    · rintro ⟨g, hp, hk⟩; exact ⟨g, hp, fun r s' hpost => (ih r s').mp (hk r s' hpost)⟩
    · rintro ⟨g, hp, hk⟩; exact ⟨g, hp, fun r s' hpost => (ih r s').mpr (hk r s' hpost)⟩

variable {α β : Type} {Q : α → St → Prop} {QE : Exc → St → Prop} {s : St}

theorem wp_mono {m : M α} {Q' : α → St → Prop} {QE' : Exc → St → Prop} (h : wp m s Q QE)
    (hq : ∀ a s, Q a s → Q' a s) (he : ∀ e s, QE e s → QE' e s) : wp m s Q' QE' := FM.wp_mono h hq he

@[simp] theorem wp_pure (a : α) : wp (pure a : M α) s Q QE ↔ Q a s := Iff.rfl

@[simp] theorem wp_bind (m : M α) (f : α → M β) (Q : β → St → Prop) :
    wp (m >>= f) s Q QE ↔ wp m s (fun a s' => wp (f a) s' Q QE) QE := FM.wp_bind _ _ _ _

@[simp] theorem wp_throw (e : Exc) : wp (throwE e : M α) s Q QE ↔ QE e s := Iff.rfl
@[simp] theorem wp_unsupported (w : String) : wp (unsupported w : M α) s Q QE ↔ True := Iff.rfl
@[simp] theorem wp_getSt {Q : St → St → Prop} : wp getSt s Q QE ↔ Q s s := Iff.rfl
@[simp] theorem wp_modifySt (f : St → St) {Q : Unit → St → Prop} : wp (modifySt f) s Q QE ↔ Q () (f s) := Iff.rfl

@[simp] theorem wp_attempt (m : M α) (Q : Except Exc α → St → Prop) :
    wp (attempt m) s Q QE ↔ wp m s (fun a s' => Q (.ok a) s') (fun e s' => Q (.error e) s') :=
  FM.wp_attempt _ _ _

@[simp] theorem wp_rec (c : Call) {Q : List Value → St → Prop} :
    wp (rec c) s Q QE ↔ ∃ g, Pre c g s ∧ ∀ r s', Post c g s r s' →
      (match r with
        | .ok vs => Q vs s'
        | .error e => QE e s') := by
  show (∃ g, Pre c g s ∧ ∀ r s', Post c g s r s' → FM.wp _ Q QE) ↔ _
  constructor
  · rintro ⟨g, hp, hk⟩
    refine ⟨g, hp, fun r s' hpost => ?_⟩
    have := hk r s' hpost
    cases r <;> exact this
  · rintro ⟨g, hp, hk⟩
    refine ⟨g, hp, fun r s' hpost => ?_⟩
    have := hk r s' hpost
    cases r <;> exact this

@[simp] theorem wp_liftE (r : Except Exc α) :
    wp (liftE r) s Q QE ↔ (match r with
      | .ok a => Q a s
      | .error e => QE e s) := by
  cases r <;> exact Iff.rfl

@[simp] theorem wp_rethrow (r : Except Exc α) :
    wp (rethrow r) s Q QE ↔ (match r with
      | .ok a => Q a s
      | .error e => QE e s) := wp_liftE r

theorem wp_ite {c : Prop} [Decidable c] {a b : M α} :
    wp (if c then a else b) s Q QE ↔ (if c then wp a s Q QE else wp b s Q QE) := by
  split <;> exact Iff.rfl

theorem wp_seq {m : M α} {f : α → M β} {Q : β → St → Prop} (R : α → St → Prop)
    (h1 : wp m s R QE) (h2 : ∀ a s', R a s' → wp (f a) s' Q QE) : wp (m >>= f) s Q QE :=
  (wp_bind m f Q).mpr (wp_mono h1 h2 (fun _ _ h => h))

def Holds (c : Call) (g : SScope × Bool) (s : St) : Res (List Value) → Prop
  | .ok vs s' => Post c g s (.ok vs) s'
  | .exc e s' => Post c g s (.error e) s'
  | .oof => True
  | .unsupported _ => True

theorem interp_wp {ev : Call → St → Res (List Value)} (hev : ∀ c g s, Pre c g s → Holds c g s (ev c s))
    (t : FM α) (h : t.wp Q QE) :
    match interp ev t with
    | .ok a s' => Q a s'
    | .exc e s' => QE e s'
    | .oof => True
    | .unsupported _ => True := by
  induction t with
  | ret a s => exact h
  | exc e s => exact h
  | unsupported w => trivial
  | call c s k ih =>
    obtain ⟨g, hp, hk⟩ := h
    have hc := hev c g s hp
    simp only [interp]
    cases hr : ev c s with
    | ok vs s' => rw [hr] at hc; exact ih _ _ (hk _ _ hc)
    | exc e s' => rw [hr] at hc; exact ih _ _ (hk _ _ hc)
    | oof => trivial
    | unsupported w => trivial

theorem run_sound (cfg : Cfg)
    (hstep : ∀ c g s, Pre c g s →
      wp (step cfg c) s (fun vs s' => Post c g s (.ok vs) s') (fun e s' => Post c g s (.error e) s')) :
    ∀ n c g s, Pre c g s → Holds c g s (run cfg n c s) := by
  intro n
  induction n with
  | zero => intro c g s _; trivial
  | succ n ih =>
    intro c g s hp
    have := interp_wp (ev := run cfg n) ih (step cfg c s) (hstep c g s hp)
    show Holds c g s (interp (run cfg n) (step cfg c s))
    cases hr : interp (run cfg n) (step cfg c s) with
    | ok vs s' => rw [hr] at this; exact this
    | exc e s' => rw [hr] at this; exact this
    | oof => trivial
    | unsupported w => trivial

end C15
