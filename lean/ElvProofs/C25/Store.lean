/-
C25: the store of elvish as an instance of the crash argument, and its refinement of the specification state (C24's
sequential log).
-/
import ElvProofs.C24
import ElvProofs.C25.Crash
import ElvModel.C25.Spec
namespace C25
open Go C24 C24.Spec

/-- a trivial instance of the score operations, for the concrete examples -/
def unitOps : ScoreOps where
  F := Nat
  parse := fun _ => 0
  format := fun _ => []
  mul := fun a b => a * b
  add := fun a b => a + b
  lt := fun a b => a < b
  zero := 0
  decay := 1
  increment := 10

def conc (st : Spec.St) : Store := S st.log st.dir

theorem call_readOnly (o : ScoreOps) (s : Store) (c : Call o.F) (h : mutates c = false) : (call o s c).1 = s := by
  cases c with
  | cmd op => cases op <;> first | rfl | simp [mutates, Call.api, Api.txns] at h
  | dirs bl => rfl
  | _ => simp [mutates, Call.api, Api.txns] at h

theorem addDir_frame (o : ScoreOps) (c d : Bucket) (p : Bytes) (f : o.F) :
    addDir o ⟨c, d⟩ p f = (⟨c, (addDir o ⟨Bucket.empty, d⟩ p f).1.dir⟩, (addDir o ⟨Bucket.empty, d⟩ p f).2) := by
  simp only [addDir]
  split <;> simp_all

theorem addDirRaw_frame (o : ScoreOps) (c d : Bucket) (p : Bytes) (x : o.F) :
    addDirRaw o ⟨c, d⟩ p x =
      (⟨c, (addDirRaw o ⟨Bucket.empty, d⟩ p x).1.dir⟩, (addDirRaw o ⟨Bucket.empty, d⟩ p x).2) := by
  simp only [addDirRaw]
  split <;> simp_all

theorem call_conc (o : ScoreOps) (st : Spec.St) (c : Call o.F) (h : st.log.WF) (hc : st.log.counter + 1 < two63) :
    call o (conc st) c = (conc (Spec.step o st c).1, (Spec.step o st c).2) := by
  cases c with
  | cmd op => simp only [call, Spec.step, conc, C24_step_refines st.log st.dir op h hc]
  | addDir p f => simp only [call, Spec.step, conc, S]; rw [addDir_frame]
  | addDirRaw p x => simp only [call, Spec.step, conc, S]; rw [addDirRaw_frame]
  | delDir p => rfl
  | dirs bl => rfl

theorem step_WF (o : ScoreOps) (st : Spec.St) (c : Call o.F) (h : st.log.WF) : (Spec.step o st c).1.log.WF := by
  cases c with
  | cmd op => exact Log.WF_step h op
  | _ => exact h

theorem step_counter (o : ScoreOps) (st : Spec.St) (c : Call o.F) :
    st.log.counter ≤ (Spec.step o st c).1.log.counter ∧ (Spec.step o st c).1.log.counter ≤ st.log.counter + 1 := by
  cases c with
  | cmd op => exact Log.counter_step st.log op
  | _ => simp [Spec.step]

theorem run_WF (o : ScoreOps) : ∀ (cs : List (Call o.F)) (st : Spec.St), st.log.WF → (Spec.run o st cs).1.log.WF
  | [], _, h => h
  | c :: cs, st, h => by
    simp only [Spec.run]
    exact run_WF o cs _ (step_WF o st c h)

/-- the command-history operations among some calls -/
def cmdOps {F : Type} : List (Call F) → List C24.Op :=
  List.filterMap fun
    | .cmd op => some op
    | _ => none

/-- directory calls pass the log by: the log and the numbers issued are those of C24's run of the command operations -/
theorem run_log (o : ScoreOps) : ∀ (cs : List (Call o.F)) (st : Spec.St),
    (Spec.run o st cs).1.log = (C24.Spec.run st.log (cmdOps cs)).1 ∧
    issued (Spec.run o st cs).2 = C24.Spec.issued (C24.Spec.run st.log (cmdOps cs)).2
  | [], _ => ⟨rfl, rfl⟩
  | c :: cs, st => by
    have ih := run_log o cs (Spec.step o st c).1
    cases c with
    | cmd op =>
      simp only [Spec.run, cmdOps, List.filterMap_cons, C24.Spec.run, issued] at ih ⊢
      refine ⟨ih.1, ?_⟩
      rw [ih.2]
      cases h : (C24.Spec.step st.log op).2 with
      | seq r => cases r <;> simp [Spec.step, h, Ret.seq?, C24.Spec.issued]
      | _ => simp [Spec.step, h, Ret.seq?, C24.Spec.issued]
    | _ => exact ih

theorem run_counter (o : ScoreOps) (cs : List (Call o.F)) (st : Spec.St) :
    (Spec.run o st cs).1.log.counter ≤ st.log.counter + cs.length := by
  have := (Log.counter_run (cmdOps cs) st.log).2
  have : (cmdOps cs).length ≤ cs.length := List.length_filterMap_le _ _
  rw [(run_log o cs st).1]
  omega

theorem issued_sublist {F : Type} {a b : List (Ret F)} (h : a.Sublist b) : (issued a).Sublist (issued b) :=
  h.filterMap _

theorem run_conc (o : ScoreOps) (pg : Store → Call o.F → Nat) : ∀ (cs : List (Call o.F)) (st : Spec.St),
    st.log.WF → st.log.counter + cs.length < two63 →
    (elvish o pg).run (conc st) cs = (conc (Spec.run o st cs).1, (Spec.run o st cs).2)
  | [], _, _, _ => rfl
  | c :: cs, st, h, hc => by
    simp only [List.length_cons] at hc
    have hstep : (elvish o pg).step (conc st) c = (conc (Spec.step o st c).1, (Spec.step o st c).2) :=
      call_conc o st c h (by omega)
    have hcnt := step_counter o st c
    simp only [Sys.run, Spec.run, hstep]
    rw [run_conc o pg cs _ (step_WF o st c h) (by omega)]

theorem elvish_synced (o : ScoreOps) (pg : Store → Call o.F → Nat) : (elvish o pg).synced = true := rfl

theorem elvish_readOnly (o : ScoreOps) (pg : Store → Call o.F → Nat) (s : Store) (c : Call o.F)
    (h : (elvish o pg).mutates c = false) : ((elvish o pg).step s c).1 = s := call_readOnly o s c h

end C25
