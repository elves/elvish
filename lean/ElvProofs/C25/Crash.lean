/-
C25: the generic crash argument.  For ANY program `S` whose calls are one synced `Update` or one `View`
(`Sys.exec`), a reopen after a kill at any event reads the sequential state after `progress` calls
(`crash_prefix`); hence any number of lives amount to one crash-free run of the calls that took effect (`lives_run`).
-/
import ElvModel.C25.Model
namespace C25
variable {σ κ ρ : Type}

theorem durable_append (s : σ) (a b : List (Ev σ ρ)) : durable s (a ++ b) = durable (durable s a) b := by
  induction a generalizing s with
  | nil => rfl
  | cons e a ih => cases e <;> simp [durable, ih]

theorem acks_append (a b : List (Ev σ ρ)) : acks (a ++ b) = acks a ++ acks b := by
  induction a with
  | nil => rfl
  | cons e a ih => cases e <;> simp [acks, ih]

theorem pendingFrom_append (p : Bool) (a b : List (Ev σ ρ)) :
    pendingFrom p (a ++ b) = pendingFrom (pendingFrom p a) b := by
  induction a generalizing p with
  | nil => rfl
  | cons e a ih => cases e <;> simp [pendingFrom, ih]

def Ev.isCommit : Ev σ ρ → Bool
  | .commit _ => true
  | _ => false

/-- Events among which nothing is acknowledged and every commit writes `s'`: a
reopen reads `s'` exactly when one of them is a commit. -/
theorem quiet_summary (s' : σ) : ∀ (q : List (Ev σ ρ)), (∀ e ∈ q, e = .write ∨ e = .sync ∨ e = .commit s') → ∀ (s : σ) (b : Bool),
    acks q = [] ∧ pendingFrom b q = (b || q.any Ev.isCommit) ∧ durable s q = if q.any Ev.isCommit then s' else s
  | [], _, _, _ => by simp [acks, pendingFrom, durable]
  | e :: q, hq, s, b => by
    have ih := quiet_summary s' q fun x hx => hq x (by simp [hx])
    rcases hq e (by simp) with rfl | rfl | rfl
    · simp only [acks, pendingFrom, durable, List.any_cons, Ev.isCommit, Bool.false_or]
      exact ih s b
    · simp only [acks, pendingFrom, durable, List.any_cons, Ev.isCommit, Bool.false_or]
      exact ih s b
    · simp only [acks, pendingFrom, durable, List.any_cons, Ev.isCommit, Bool.true_or, Bool.or_true, if_true]
      obtain ⟨h1, h2, h3⟩ := ih s' true
      exact ⟨h1, h2.trans (Bool.true_or _), h3.trans (ite_self _)⟩

def quiet (S : Sys σ κ ρ) (s : σ) (c : κ) : List (Ev σ ρ) :=
  if S.mutates c then List.replicate (S.pages s c) .write ++ [.sync, .commit (S.step s c).1, .sync] else []

theorem exec_eq (S : Sys σ κ ρ) (hs : S.synced = true) (s : σ) (c : κ) :
    S.exec s c = quiet S s c ++ [.ack (S.step s c).2] := by
  simp only [Sys.exec, quiet, hs, if_true]
  split <;> simp

theorem quiet_events (S : Sys σ κ ρ) (s : σ) (c : κ) :
    ∀ e ∈ quiet S s c, e = .write ∨ e = .sync ∨ e = .commit (S.step s c).1 := by
  unfold quiet
  split
  · intro e he
    simp only [List.mem_append, List.mem_replicate, List.mem_cons, List.not_mem_nil, or_false] at he
    rcases he with ⟨_, rfl⟩ | rfl | rfl | rfl <;> simp
  · simp

theorem quiet_any_commit (S : Sys σ κ ρ) (s : σ) (c : κ) : (quiet S s c).any Ev.isCommit = S.mutates c := by
  unfold quiet
  split <;> simp_all [Ev.isCommit]

theorem next_eq_step (S : Sys σ κ ρ) (hro : ∀ s c, S.mutates c = false → (S.step s c).1 = s) (s : σ) (c : κ) :
    S.next s c = (S.step s c).1 := by
  unfold Sys.next
  split
  · rfl
  · rename_i h
    exact (hro s c (by simpa using h)).symm

theorem durable_exec (S : Sys σ κ ρ) (hs : S.synced = true) (s : σ) (c : κ) :
    durable s (S.exec s c) = S.next s c := by
  rw [exec_eq S hs, durable_append, (quiet_summary _ _ (quiet_events S s c) s false).2.2, quiet_any_commit]
  rfl

theorem acks_exec (S : Sys σ κ ρ) (hs : S.synced = true) (s : σ) (c : κ) :
    acks (S.exec s c) = [(S.step s c).2] := by
  rw [exec_eq S hs, acks_append, (quiet_summary _ _ (quiet_events S s c) s false).1]
  rfl

theorem pendingFrom_exec (S : Sys σ κ ρ) (hs : S.synced = true) (p : Bool) (s : σ) (c : κ) :
    pendingFrom p (S.exec s c) = false := by
  rw [exec_eq S hs, pendingFrom_append]
  rfl

/-- A proper prefix of the events of one call acknowledges nothing, and a
reopen reads either the old state, or — only for an `Update`, and then the
commit is in the prefix — the new one. -/
theorem exec_prefix (S : Sys σ κ ρ) (hs : S.synced = true) (s : σ) (c : κ) (p : List (Ev σ ρ))
    (hp : p <+: S.exec s c) :
    p = S.exec s c ∨ (acks p = [] ∧ ((durable s p = s ∧ pendingFrom false p = false) ∨
      (S.mutates c = true ∧ durable s p = (S.step s c).1 ∧ pendingFrom false p = true))) := by
  rw [exec_eq S hs] at hp ⊢
  rcases List.prefix_concat_iff.1 hp with rfl | hq
  · exact .inl rfl
  · -- the prefix stops before the acknowledgement
    obtain ⟨h1, h2, h3⟩ := quiet_summary _ p (fun e he => quiet_events S s c e (hq.subset he)) s false
    refine .inr ⟨h1, ?_⟩
    rw [h2, h3, Bool.false_or]
    cases hc : p.any Ev.isCommit with
    | false => exact .inl ⟨rfl, rfl⟩
    | true =>
      obtain ⟨e, he, hec⟩ := List.any_eq_true.1 hc
      have : (quiet S s c).any Ev.isCommit = true := List.any_eq_true.2 ⟨e, hq.subset he, hec⟩
      exact .inr ⟨(quiet_any_commit S s c) ▸ this, rfl, rfl⟩

theorem progress_exec_append (S : Sys σ κ ρ) (hs : S.synced = true) (s : σ) (c : κ) (es : List (Ev σ ρ)) :
    progress (S.exec s c ++ es) = progress es + 1 := by
  simp only [progress, acks_append, pendingFrom_append, acks_exec S hs, pendingFrom_exec S hs,
    List.length_append, List.length_cons, List.length_nil]
  omega

theorem run_take_succ (S : Sys σ κ ρ) (s : σ) (c : κ) (cs : List κ) (j : Nat) :
    S.run s ((c :: cs).take (j + 1)) =
      ((S.run (S.step s c).1 (cs.take j)).1, (S.step s c).2 :: (S.run (S.step s c).1 (cs.take j)).2) := by
  simp [List.take_succ_cons, Sys.run]

theorem crash_prefix (S : Sys σ κ ρ) (hs : S.synced = true)
    (hro : ∀ s c, S.mutates c = false → (S.step s c).1 = s) :
    ∀ (cs : List κ) (s : σ) (k : Nat),
      progress (S.crash s cs k) ≤ cs.length ∧
      durable s (S.crash s cs k) = (S.run s (cs.take (progress (S.crash s cs k)))).1 ∧
      acks (S.crash s cs k) = (S.run s (cs.take (acks (S.crash s cs k)).length)).2
  | [], s, k => by simp [Sys.crash, Sys.trace, progress, acks, pendingFrom, durable, Sys.run]
  | c :: cs, s, k => by
    have hnext := next_eq_step S hro s c
    simp only [Sys.crash, Sys.trace, List.take_append]
    by_cases hk : (S.exec s c).length ≤ k
    · -- the whole first call is in the prefix
      rw [List.take_of_length_le hk]
      obtain ⟨h1, h2, h3⟩ := crash_prefix S hs hro cs (S.next s c) (k - (S.exec s c).length)
      simp only [Sys.crash] at h1 h2 h3
      refine ⟨?_, ?_, ?_⟩
      · rw [progress_exec_append S hs]; simp only [List.length_cons]; omega
      · rw [progress_exec_append S hs, durable_append, durable_exec S hs, run_take_succ, h2, hnext]
      · rw [acks_append, acks_exec S hs]
        simp only [List.singleton_append, List.length_cons]
        rw [run_take_succ]
        simp only
        rw [← hnext, ← h3]
    · -- the kill falls inside the first call
      have hk' : k < (S.exec s c).length := by omega
      have h0 : k - (S.exec s c).length = 0 := by omega
      rw [h0, List.take_zero, List.append_nil]
      rcases exec_prefix S hs s c _ (List.take_prefix k (S.exec s c)) with heq | ⟨ha, hd⟩
      · have := congrArg List.length heq
        simp only [List.length_take] at this
        omega
      · rcases hd with ⟨hd, hp⟩ | ⟨_, hd, hp⟩
        · simp [progress, ha, hd, hp, Sys.run]
        · simp [progress, ha, hd, hp, Sys.run]

theorem run_append (S : Sys σ κ ρ) : ∀ (a b : List κ) (s : σ),
    S.run s (a ++ b) = ((S.run (S.run s a).1 b).1, (S.run s a).2 ++ (S.run (S.run s a).1 b).2)
  | [], _, _ => rfl
  | c :: a, b, s => by simp only [List.cons_append, Sys.run, run_append S a b]

theorem run_append_snd (S : Sys σ κ ρ) (a b : List κ) (s : σ) :
    (S.run s (a ++ b)).2 = (S.run s a).2 ++ (S.run (S.run s a).1 b).2 := by rw [run_append]

theorem run_take_prefix (S : Sys σ κ ρ) (cs : List κ) (s : σ) {a j : Nat} (h : a ≤ j) :
    (S.run s (cs.take a)).2 <+: (S.run s (cs.take j)).2 := by
  have : cs.take a = (cs.take j).take a := by rw [List.take_take, Nat.min_eq_left h]
  rw [this]
  conv => rhs; rw [← List.take_append_drop a (cs.take j), run_append]
  exact List.prefix_append _ _

theorem progress_bounds (es : List (Ev σ ρ)) :
    (acks es).length ≤ progress es ∧ progress es ≤ (acks es).length + 1 := by
  unfold progress
  split <;> omega

/-- the calls that took effect over several lives: of each life, the prefix its reopen sees -/
def survived (S : Sys σ κ ρ) : σ → List (List κ × Nat) → List κ
  | _, [] => []
  | s, (cs, k) :: rs => cs.take (progress (S.crash s cs k)) ++ survived S (durable s (S.crash s cs k)) rs

theorem survived_length (S : Sys σ κ ρ) : ∀ (rs : List (List κ × Nat)) (s : σ),
    (survived S s rs).length ≤ (rs.map (·.1.length)).sum
  | [], _ => Nat.le_refl _
  | (cs, k) :: rs, s => by
    have := survived_length S rs (durable s (S.crash s cs k))
    simp only [survived, List.length_append, List.length_take, List.map_cons, List.sum_cons]
    omega

/-- Any number of lives, each killed anywhere, is one crash-free run of the calls that took effect; what was
acknowledged is a sub-sequence of its results. -/
theorem lives_run (S : Sys σ κ ρ) (hs : S.synced = true) (hro : ∀ s c, S.mutates c = false → (S.step s c).1 = s) :
    ∀ (rs : List (List κ × Nat)) (s : σ),
      (S.lives s rs).1 = (S.run s (survived S s rs)).1 ∧ (S.lives s rs).2.Sublist (S.run s (survived S s rs)).2
  | [], _ => ⟨rfl, List.Sublist.refl _⟩
  | (cs, k) :: rs, s => by
    obtain ⟨_, h2, h3⟩ := crash_prefix S hs hro cs s k
    obtain ⟨i1, i2⟩ := lives_run S hs hro rs (durable s (S.crash s cs k))
    simp only [Sys.lives, survived, run_append]
    rw [← h2]
    refine ⟨i1, List.Sublist.append ?_ i2⟩
    rw [h3]
    exact (run_take_prefix S cs s (progress_bounds _).1).sublist

end C25
