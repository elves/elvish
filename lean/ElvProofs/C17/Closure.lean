/-
The `Closure.Call` part of C17: the slot arithmetic of the call prologue never
indexes out of range, and its exceptions are those of the two checks at its head.
-/
import ElvProofs.C17.GoOps
namespace C17
open Go

/-- `for i := a; i < b; i++ { slots[i] = FromInit(args[g i]) }` with every index in range. -/
theorem bindLoop_ok (args : List Nat) (g : Int → Int) (a b : Int) (s0 : List Slot)
    (ha : 0 ≤ a) (hb : b ≤ s0.length) (hg : ∀ i, a ≤ i → i < b → 0 ≤ g i ∧ g i < args.length) :
    ∃ s, forLoop a b (fun i s => do let x ← index args (g i); setIdx s i (.val x)) s0 = .ok s ∧
      s.length = s0.length := by
  refine forLoop_ok (fun s => s.length = s0.length) _ a b s0 rfl fun i s h0 h1 hl => ?_
  obtain ⟨x, hx, -⟩ := exists_index_eq_ok args (g i) (hg i h0 h1).1 (hg i h0 h1).2
  obtain ⟨s', hs, hl'⟩ := setIdx_ok s i (.val x) (by omega) (by omega)
  exact ⟨s', by simp [bind, Res.bind, hx, hs], by omega⟩

theorem closArityErr_none {c : Closure} {nargs : Int} (h : closArityErr c nargs = none) :
    (c.restArg ≠ -1 → (c.nArgs : Int) - 1 ≤ nargs) ∧ (c.restArg = -1 → nargs = c.nArgs) := by
  unfold closArityErr at h
  refine ⟨fun hr => ?_, fun hr => ?_⟩
  · simp [hr] at h; omega
  · simp [hr] at h; omega

theorem closArityErr_arity {c : Closure} {nargs l h a : Int} (he : closArityErr c nargs = some (.arity l h a)) :
    a = nargs ∧ ((c.restArg ≠ -1 ∧ l = c.nArgs - 1 ∧ h = -1 ∧ a < l) ∨
      (c.restArg = -1 ∧ l = c.nArgs ∧ h = l ∧ a ≠ l)) := by
  unfold closArityErr at he
  by_cases hr : c.restArg = -1
  · simp only [hr, ne_eq, not_true_eq_false, if_false] at he
    split at he
    · obtain ⟨rfl, rfl, rfl⟩ := ClosErr.arity.inj (Option.some.inj he)
      exact ⟨rfl, .inr ⟨hr, rfl, rfl, by assumption⟩⟩
    · cases he
  · simp only [hr, ne_eq, not_false_eq_true, if_true] at he
    split at he
    · obtain ⟨rfl, rfl, rfl⟩ := ClosErr.arity.inj (Option.some.inj he)
      exact ⟨rfl, .inl ⟨hr, rfl, rfl, by assumption⟩⟩
    · cases he

theorem bindArgs_ok (c : Closure) (args : List Nat) (s0 : List Slot) (hsize : c.nArgs ≤ s0.length)
    (hrest : -1 ≤ c.restArg ∧ c.restArg < c.nArgs)
    (harity : closArityErr c args.length = none) :
    ∃ s, bindArgs c args s0 = .ok s ∧ s.length = s0.length := by
  obtain ⟨hA, hB⟩ := closArityErr_none harity
  unfold bindArgs
  simp only
  by_cases hr : c.restArg = -1
  · rw [if_pos hr]
    have := hB hr
    exact bindLoop_ok args (fun i => i) 0 c.nArgs s0 (Int.le_refl 0) (by omega) (fun i h0 h1 => by omega)
  · have := hA hr
    obtain ⟨s1, h1, hl1⟩ := bindLoop_ok args (fun i => i) 0 c.restArg s0 (Int.le_refl 0) (by omega)
      (fun i h0 h1 => by omega)
    obtain ⟨rest, hrs, -⟩ := exists_slice_eq_ok args c.restArg (c.restArg + ((args.length : Int) - c.nArgs) + 1)
      (by omega) (by omega) (by omega)
    obtain ⟨s2, h2, hl2⟩ := setIdx_ok s1 c.restArg (.list rest) (by omega) (by omega)
    obtain ⟨s3, h3, hl3⟩ := bindLoop_ok args (fun i => i + ((args.length : Int) - c.nArgs))
      (c.restArg + 1) c.nArgs s2 (by omega) (by omega) (fun i h0 h1 => by omega)
    refine ⟨s3, ?_, by omega⟩
    rw [if_neg hr]
    simp only [bind, Res.bind] at h1 h3 ⊢
    simp only [h1, hrs, h2, h3]

theorem bindOpts_ok (c : Closure) (opts : List (Nat × Nat)) (s0 : List Slot)
    (hsize : c.nArgs + c.optNames.length ≤ s0.length)
    (hdef : c.optDefaults.length = c.optNames.length) :
    ∃ s, bindOpts c opts s0 = .ok s ∧ s.length = s0.length := by
  unfold bindOpts
  refine forLoop_ok (fun s => s.length = s0.length) _ 0 c.optNames.length s0 rfl (fun i s h0 h1 hl => ?_)
  obtain ⟨name, hname, -⟩ := exists_index_eq_ok c.optNames i h0 h1
  obtain ⟨dflt, hdflt, -⟩ := exists_index_eq_ok c.optDefaults i h0 (by omega)
  have hset := fun v => setIdx_ok s ((c.nArgs : Int) + i) (.val v) (by omega) (by omega)
  simp only [bind, Res.bind, hname]
  cases lookupOpt opts name with
  | some v =>
    obtain ⟨s', hs, hl'⟩ := hset v
    exact ⟨s', hs, by omega⟩
  | none =>
    obtain ⟨s', hs, hl'⟩ := hset dflt
    exact ⟨s', by simp only [hdflt, hs], by omega⟩

theorem bindNew_ok (c : Closure) (s0 : List Slot)
    (hsize : c.nArgs + c.optNames.length + c.nNew ≤ s0.length) :
    ∃ s, bindNew c s0 = .ok s ∧ s.length = s0.length := by
  unfold bindNew
  refine forLoop_ok (fun s => s.length = s0.length) _ 0 c.nNew s0 rfl (fun i s h0 h1 hl => ?_)
  obtain ⟨s', hs, hl'⟩ := setIdx_ok s ((c.nArgs : Int) + c.optNames.length + i) (.fresh i.toNat)
    (by omega) (by omega)
  exact ⟨s', hs, by omega⟩

theorem closureCall_error {c : Closure} {args : List Nat} {opts : List (Nat × Nat)} {e : ClosErr}
    (h : closureCall c args opts = .ok (.error e)) :
    closArityErr c args.length = some e ∨ ∃ names, e = .unsupported names := by
  unfold closureCall at h
  cases he : closArityErr c args.length with
  | some e' =>
    rw [he] at h
    exact .inl (congrArg some (Except.error.inj (Res.ok.inj h)))
  | none =>
    rw [he] at h
    simp only at h
    split at h
    · exact .inr ⟨_, (Except.error.inj (Res.ok.inj h)).symm⟩
    · -- the rest of the prologue ends in `.ok (.ok slots)`
      simp only [bind] at h
      obtain ⟨_, _, h⟩ := Res.bind_eq_ok.1 h
      obtain ⟨_, _, h⟩ := Res.bind_eq_ok.1 h
      obtain ⟨_, _, h⟩ := Res.bind_eq_ok.1 h
      obtain ⟨_, _, h⟩ := Res.bind_eq_ok.1 h
      cases h

end C17
