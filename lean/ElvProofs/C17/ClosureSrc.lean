/-
`closure[def]` / `closure[body]`: the lambda
nodes collected by `lambdasOf` are nodes of the tree, so C01's range theorem
applies to them and to their `Chunk` child.
-/
import ElvModel.C17.ClosureSrc
import ElvProofs.C01
namespace C17
open Go

mutual
theorem lambdasOf_desc : ∀ (n m : C01.Node), m ∈ lambdasOf n → C01_Desc n m
  | .mk k a b t f cs, m, h => by
    simp only [lambdasOf, List.mem_append] at h
    rcases h with h | h
    · split at h
      · simp only [List.mem_singleton] at h
        subst h; exact .self _
      · simp at h
    · obtain ⟨c, hc, hd⟩ := lambdasOfList_desc cs m h
      exact .child hc hd
theorem lambdasOfList_desc : ∀ (cs : List C01.Node) (m : C01.Node), m ∈ lambdasOfList cs → ∃ c ∈ cs, C01_Desc c m
  | [], m, h => by simp [lambdasOfList] at h
  | c :: cs, m, h => by
    simp only [lambdasOfList, List.mem_append] at h
    rcases h with h | h
    · exact ⟨c, by simp, lambdasOf_desc c m h⟩
    · obtain ⟨c', hc', hd⟩ := lambdasOfList_desc cs m h
      exact ⟨c', by simp [hc'], hd⟩
end

theorem desc_trans {a b c : C01.Node} (h1 : C01_Desc a b) (h2 : C01_Desc b c) : C01_Desc a c := by
  induction h1 with
  | self n => exact h2
  | child hc _ ih => exact .child hc (ih h2)

theorem closureSrcSlice_ok (src : Bytes) (m : C01.Node) (h : C01_NodeOk src m) :
    closureSrcSlice src m = .ok m.text := by
  obtain ⟨h1, h2, h3, _⟩ := h
  unfold closureSrcSlice slice
  have : (0 : Int) ≤ (m.frm : Int) ∧ (m.frm : Int) ≤ (m.to : Int) ∧ (m.to : Int) ≤ (src.length : Int) :=
    ⟨by omega, by omega, by omega⟩
  simp only [this, and_self, if_true, Int.toNat_natCast, h3]

theorem closureDefBody_ok (src : Bytes) (t lam : C01.Node) (hall : ∀ m, C01_Desc t m → C01_NodeOk src m)
    (hl : lam ∈ lambdasOf t) : ∃ r, closureDefBody src lam = .ok r ∧ r.1 = lam.text := by
  have hd := lambdasOf_desc t lam hl
  unfold closureDefBody
  simp only [bind, Res.bind, closureSrcSlice_ok src lam (hall lam hd)]
  cases hc : lam.childrenOf .chunk with
  | nil => exact ⟨_, rfl, rfl⟩
  | cons c cs =>
    have hmem : c ∈ lam.children := by
      have : c ∈ lam.childrenOf .chunk := by rw [hc]; simp
      unfold C01.Node.childrenOf at this
      exact (List.mem_filter.mp this).1
    have hdc : C01_Desc t c := desc_trans hd (.child hmem (.self c))
    simp only [closureSrcSlice_ok src c (hall c hdc)]
    exact ⟨_, rfl, rfl⟩

end C17
