/-
The `doc:find` part of C17, part 2: `matchedBlock.Show` on separated ranges and
the loops of `match`.
-/
import ElvProofs.C17.DocMerge
namespace C17
open Go

theorem strIndex_bound {s sub : Bytes} {m : Nat} (h : C41.strIndex s sub = some m) : m + sub.length ≤ s.length := by
  induction s generalizing m with
  | nil =>
    unfold C41.strIndex at h
    split at h
    · rename_i hp
      obtain rfl := Option.some.inj h
      simpa using (List.isPrefixOf_iff_prefix.mp hp).length_le
    · cases h
  | cons b t ih =>
    unfold C41.strIndex at h
    split at h
    · rename_i hp
      obtain rfl := Option.some.inj h
      simpa using (List.isPrefixOf_iff_prefix.mp hp).length_le
    · obtain ⟨m', hm', rfl⟩ := Option.map_eq_some_iff.mp h
      have := ih hm'
      simp only [List.length_cons]
      omega

theorem strLastIndex_bound {s sub : Bytes} {m : Nat} (h : C41.strLastIndex s sub = some m) :
    m + sub.length ≤ s.length := by
  induction s generalizing m with
  | nil =>
    unfold C41.strLastIndex at h
    split at h
    · rename_i he
      obtain rfl := Option.some.inj h
      simp [List.isEmpty_iff.mp he]
    · cases h
  | cons b t ih =>
    unfold C41.strLastIndex at h
    split at h
    · rename_i i hi
      obtain rfl := Option.some.inj h
      have := ih hi
      simp only [List.length_cons]
      omega
    · split at h
      · rename_i hp
        obtain rfl := Option.some.inj h
        simpa using (List.isPrefixOf_iff_prefix.mp hp).length_le
      · cases h

theorem firstSentenceStart_ok (s : Bytes) (fr : Int) (h0 : 0 ≤ fr) (h1 : fr ≤ s.length) :
    ∃ r, firstSentenceStart s fr = .ok r ∧ fr ≤ r ∧ r ≤ s.length := by
  obtain ⟨t, ht, hl, -⟩ := exists_slice_eq_ok s fr s.length h0 h1 (Int.le_refl _)
  unfold firstSentenceStart
  simp only [bind, Res.bind, ht]
  cases hi : C41.strIndex t dotSpace with
  | none => exact ⟨_, rfl, h1, Int.le_refl _⟩
  | some i =>
    have := strIndex_bound hi
    have hd : dotSpace.length = 2 := rfl
    exact ⟨_, rfl, by omega, by omega⟩

theorem firstLineEnd_ok (s : Bytes) (fr : Int) (h0 : 0 ≤ fr) (h1 : fr ≤ s.length) :
    ∃ r, firstLineEnd s fr = .ok r ∧ fr ≤ r ∧ r ≤ s.length := by
  obtain ⟨t, ht, hl, -⟩ := exists_slice_eq_ok s fr s.length h0 h1 (Int.le_refl _)
  unfold firstLineEnd
  simp only [bind, Res.bind, ht]
  cases hi : C41.strIndex t newline with
  | none => exact ⟨_, rfl, h1, Int.le_refl _⟩
  | some i =>
    have := strIndex_bound hi
    have hd : newline.length = 1 := rfl
    exact ⟨_, rfl, by omega, by omega⟩

theorem lastSentenceStart_ok (s : Bytes) (upto : Int) (h0 : 0 ≤ upto) (h1 : upto ≤ s.length) :
    ∃ r, lastSentenceStart s upto = .ok r ∧ 0 ≤ r ∧ r ≤ upto := by
  obtain ⟨t, ht, hl, -⟩ := exists_slice_eq_ok s 0 upto (Int.le_refl _) h0 h1
  unfold lastSentenceStart
  simp only [bind, Res.bind, ht]
  cases hi : C41.strLastIndex t dotSpace with
  | none => exact ⟨_, rfl, Int.le_refl _, h0⟩
  | some i =>
    have := strLastIndex_bound hi
    have hd : dotSpace.length = 2 := rfl
    exact ⟨_, rfl, by omega, by omega⟩

theorem lastLineStart_ok (s : Bytes) (upto : Int) (h0 : 0 ≤ upto) (h1 : upto ≤ s.length) :
    ∃ r, lastLineStart s upto = .ok r ∧ 0 ≤ r ∧ r ≤ upto := by
  obtain ⟨t, ht, hl, -⟩ := exists_slice_eq_ok s 0 upto (Int.le_refl _) h0 h1
  unfold lastLineStart
  simp only [bind, Res.bind, ht]
  cases hi : C41.strLastIndex t newline with
  | none => exact ⟨_, rfl, Int.le_refl _, h0⟩
  | some i =>
    have := strLastIndex_bound hi
    have hd : newline.length = 1 := rfl
    exact ⟨_, rfl, by omega, by omega⟩

/-- What the loop keeps: `0 ≤ lastTo ≤ lastLineTo/lastSentenceTo ≤ len(Text)`. -/
def ShowSt.Ok (n : Int) (st : ShowSt) : Prop := 0 ≤ st.lastTo ∧ st.lastTo ≤ st.lastEnd ∧ st.lastEnd ≤ n

theorem showLoop_ok (n : Int) (step : ShowSt → Ranging → Res ShowSt)
    (hstep : ∀ st m, st.Ok n → st.lastTo ≤ m.from_ → m.from_ ≤ m.to → m.to ≤ n →
      ∃ st', step st m = .ok st' ∧ st'.Ok n ∧ st'.lastTo = m.to) :
    ∀ (ms : List Ranging) (lo : Int) (st : ShowSt), Sep n lo ms → st.Ok n → st.lastTo ≤ lo →
      ∃ st', showLoop step ms st = .ok st' ∧ st'.Ok n
  | [], _, st, _, hst, _ => ⟨st, rfl, hst⟩
  | m :: ms, lo, st, hsep, hst, hlo => by
    obtain ⟨h1, h2, h3, h4⟩ := hsep
    obtain ⟨st1, hs1, hok1, hto1⟩ := hstep st m hst (by omega) h2 h3
    obtain ⟨st2, hs2, hok2⟩ := showLoop_ok n step hstep ms (m.to + 1) st1 h4 hok1 (by omega)
    exact ⟨st2, by simp [showLoop, bind, Res.bind, hs1, hs2], hok2⟩

theorem showTextStep_ok (styled : Bytes → Bytes) (text : Bytes) (st : ShowSt) (m : Ranging)
    (hst : st.Ok text.length) (h1 : st.lastTo ≤ m.from_) (h2 : m.from_ ≤ m.to) (h3 : m.to ≤ text.length) :
    ∃ st', showTextStep styled text st m = .ok st' ∧ st'.Ok text.length ∧ st'.lastTo = m.to := by
  obtain ⟨a0, a1, a2⟩ := hst
  obtain ⟨sf, hsf, hsf0, hsf1⟩ := lastSentenceStart_ok text m.from_ (by omega) (by omega)
  obtain ⟨q, hq, -⟩ := exists_slice_eq_ok text m.from_ m.to (by omega) h2 h3
  obtain ⟨le, hle, hle0, hle1⟩ := firstSentenceStart_ok text m.to (by omega) h3
  unfold showTextStep
  simp only [bind, Res.bind, hsf]
  by_cases hc : st.lastEnd < sf
  · obtain ⟨x, hx, -⟩ := exists_slice_eq_ok text st.lastTo st.lastEnd a0 a1 a2
    obtain ⟨y, hy, -⟩ := exists_slice_eq_ok text sf m.from_ hsf0 hsf1 (by omega)
    simp only [hc, if_true, hx, hy, pure, hq, hle]
    exact ⟨_, rfl, ⟨by simp only; omega, by simp only; omega, by simp only; omega⟩, rfl⟩
  · obtain ⟨x, hx, -⟩ := exists_slice_eq_ok text st.lastTo m.from_ a0 h1 (by omega)
    simp only [hc, if_false, hx, pure, hq, hle]
    exact ⟨_, rfl, ⟨by simp only; omega, by simp only; omega, by simp only; omega⟩, rfl⟩

theorem showCodeStep_ok (styled : Bytes → Bytes) (text : Bytes) (st : ShowSt) (m : Ranging)
    (hst : st.Ok text.length) (h1 : st.lastTo ≤ m.from_) (h2 : m.from_ ≤ m.to) (h3 : m.to ≤ text.length) :
    ∃ st', showCodeStep styled text st m = .ok st' ∧ st'.Ok text.length ∧ st'.lastTo = m.to := by
  obtain ⟨a0, a1, a2⟩ := hst
  obtain ⟨sf, hsf, hsf0, hsf1⟩ := lastLineStart_ok text m.from_ (by omega) (by omega)
  obtain ⟨q, hq, -⟩ := exists_slice_eq_ok text m.from_ m.to (by omega) h2 h3
  obtain ⟨le, hle, hle0, hle1⟩ := firstLineEnd_ok text m.to (by omega) h3
  unfold showCodeStep
  simp only [bind, Res.bind, hsf]
  by_cases hc : st.lastEnd < sf
  · obtain ⟨x, hx, -⟩ := exists_slice_eq_ok text st.lastTo st.lastEnd a0 a1 a2
    obtain ⟨y, hy, -⟩ := exists_slice_eq_ok text sf m.from_ hsf0 hsf1 (by omega)
    simp only [hc, if_true, hx, hy, pure, hq, hle]
    exact ⟨_, rfl, ⟨by simp only; omega, by simp only; omega, by simp only; omega⟩, rfl⟩
  · obtain ⟨x, hx, -⟩ := exists_slice_eq_ok text st.lastTo m.from_ a0 h1 (by omega)
    simp only [hc, if_false, hx, pure, hq, hle]
    exact ⟨_, rfl, ⟨by simp only; omega, by simp only; omega, by simp only; omega⟩, rfl⟩

theorem showBlock_ok (styled : Bytes → Bytes) (b : MatchedBlock) (h : Sep b.block.text.length 0 b.isMatches) :
    ∃ out, showBlock styled b = .ok out := by
  have hinit : ShowSt.Ok b.block.text.length ⟨[], 0, 0⟩ := ⟨Int.le_refl _, Int.le_refl _, by simp⟩
  unfold showBlock
  simp only [bind, Res.bind]
  cases hcode : b.block.code with
  | true =>
    obtain ⟨st, hst, a0, a1, a2⟩ := showLoop_ok b.block.text.length _
      (fun st m => showCodeStep_ok styled b.block.text st m) b.isMatches 0 ⟨[], 0, 0⟩ h hinit (Int.le_refl _)
    obtain ⟨x, hx, -⟩ := exists_slice_eq_ok b.block.text st.lastTo st.lastEnd a0 a1 a2
    simp only [if_true, hst, hx]
    exact ⟨_, rfl⟩
  | false =>
    obtain ⟨st, hst, a0, a1, a2⟩ := showLoop_ok b.block.text.length _
      (fun st m => showTextStep_ok styled b.block.text st m) b.isMatches 0 ⟨[], 0, 0⟩ h hinit (Int.le_refl _)
    obtain ⟨x, hx, -⟩ := exists_slice_eq_ok b.block.text st.lastTo st.lastEnd a0 a1 a2
    simp only [Bool.false_eq_true, if_false, hst, hx]
    exact ⟨_, rfl⟩

theorem showAll_ok (styled : Bytes → Bytes) : ∀ (ms : List MatchedBlock),
    (∀ b ∈ ms, Sep b.block.text.length 0 b.isMatches) → ∃ out, showAll styled ms = .ok out
  | [], _ => ⟨[], rfl⟩
  | b :: rest, h => by
    obtain ⟨s, hs⟩ := showBlock_ok styled b (h b (by simp))
    obtain ⟨tl, htl⟩ := showAll_ok styled rest (fun b' hb' => h b' (by simp [hb']))
    exact ⟨s :: tl, by simp [showAll, bind, Res.bind, hs, htl]⟩

def BMOk (bs : List Block) (bm : List (List Ranging)) : Prop :=
  bm.length = bs.length ∧
  ∀ (k : Nat) b rs, bs[k]? = some b → bm[k]? = some rs → ∀ r ∈ rs, r.Valid b.text.length

/-- `rest` is `bs[i:]`, the blocks the loop has not seen, `i` its index. -/
theorem matchQuery_ok (q : Bytes) (bs : List Block) : ∀ (rest : List Block) (i : Nat) (bm : List (List Ranging)),
    bs.drop i = rest → BMOk bs bm →
    ∃ r, matchQuery q rest i bm = .ok r ∧ ∀ bm', r = some bm' → BMOk bs bm'
  | [], _, _, _, _ => ⟨none, rfl, nofun⟩
  | b :: rest, i, bm, hdrop, hbm => by
    obtain ⟨hb, hdrop'⟩ := getElem?_of_drop_eq_cons hdrop
    unfold matchQuery
    cases hidx : C41.strIndex b.text q with
    | none => exact matchQuery_ok q bs rest (i + 1) bm hdrop' hbm
    | some fr =>
      have hi : i < bm.length := hbm.1 ▸ (List.getElem?_eq_some_iff.mp hb).1
      simp only [bind, Res.bind, index_ok_of_lt bm i hi, setIdx_of_lt bm i _ hi]
      refine ⟨_, rfl, fun bm' he => ?_⟩
      obtain rfl := Option.some.inj he
      refine ⟨by rw [List.length_set, hbm.1], fun k b' rs hk1 hk2 r hr => ?_⟩
      by_cases hki : i = k
      · subst hki
        rw [List.getElem?_set_self hi] at hk2
        obtain rfl := Option.some.inj hk2
        obtain rfl := Option.some.inj (hb.symm.trans hk1)
        rcases List.mem_append.mp hr with hr | hr
        · exact hbm.2 i b bm[i] hb (List.getElem?_eq_getElem hi) r hr
        · -- the new range: `strings.Index` found `q` inside `b.text`
          rw [List.mem_singleton.mp hr]
          have := strIndex_bound hidx
          exact ⟨by simp only; omega, by simp only; omega, by simp only; omega⟩
      · rw [List.getElem?_set_ne hki] at hk2
        exact hbm.2 k b' rs hk1 hk2 r hr

theorem matchQueries_ok (bs : List Block) : ∀ (qs : List Bytes) (bm : List (List Ranging)), BMOk bs bm →
    ∃ r, matchQueries bs qs bm = .ok r ∧ ∀ bm', r = some bm' → BMOk bs bm'
  | [], bm, h => ⟨some bm, rfl, fun _ he => Option.some.inj he ▸ h⟩
  | q :: qs, bm, h => by
    obtain ⟨r, hr, hok⟩ := matchQuery_ok q bs bs 0 bm rfl h
    have hr : matchQuery q bs 0 bm = .ok r := hr
    unfold matchQueries
    simp only [bind, Res.bind, hr]
    cases r with
    | none => exact ⟨none, rfl, nofun⟩
    | some bm' => exact matchQueries_ok bs qs bm' (hok bm' rfl)

theorem sortAndMergeMatches_ok (sort : List Ranging → List Ranging) (hsort : SortContract sort) (n : Int)
    (rs : List Ranging) (hne : rs ≠ []) (hvalid : ∀ r ∈ rs, r.Valid n) :
    ∃ out, sortAndMergeMatches sort rs = .ok out ∧ Sep n 0 out ∧ out ≠ [] ∧ out.length ≤ rs.length := by
  obtain ⟨hperm, hsorted⟩ := hsort rs
  have hne' : sort rs ≠ [] := by
    intro he
    rw [he] at hperm
    exact hne (List.Perm.eq_nil hperm.symm)
  obtain ⟨out, h1, h2, h3, h4⟩ := mergeSorted_ok n (sort rs) hne' (fun r hr => hvalid r (hperm.mem_iff.mp hr)) hsorted
  exact ⟨out, h1, h2, h3, by rw [← hperm.length_eq]; exact h4⟩

theorem collectMatched_ok (sort : List Ranging → List Ranging) (hsort : SortContract sort)
    (bs : List Block) (bm : List (List Ranging)) (hbm : BMOk bs bm) :
    ∀ (rest : List Block) (i : Nat), bs.drop i = rest →
    ∃ out, collectMatched sort bm rest i = .ok out ∧ ∀ b ∈ out, Sep b.block.text.length 0 b.isMatches
  | [], _, _ => ⟨[], rfl, nofun⟩
  | b :: rest, i, hdrop => by
    obtain ⟨hb, hdrop'⟩ := getElem?_of_drop_eq_cons hdrop
    have hi : i < bm.length := hbm.1 ▸ (List.getElem?_eq_some_iff.mp hb).1
    obtain ⟨tl, htl, hsep⟩ := collectMatched_ok sort hsort bs bm hbm rest (i + 1) hdrop'
    have htl : collectMatched sort bm rest ((i : Int) + 1) = .ok tl := htl
    unfold collectMatched
    simp only [bind, Res.bind, index_ok_of_lt bm i hi]
    by_cases hc : bm[i].length > 0
    · obtain ⟨ms, hms, hs, _, _⟩ := sortAndMergeMatches_ok sort hsort b.text.length bm[i]
        (List.ne_nil_of_length_pos hc) (hbm.2 i b bm[i] hb (List.getElem?_eq_getElem hi))
      rw [if_pos hc]
      simp only [hms, htl]
      refine ⟨_, rfl, fun b' hb' => ?_⟩
      rcases List.mem_cons.mp hb' with rfl | h
      · exact hs
      · exact hsep b' h
    · rw [if_neg hc]
      exact ⟨tl, htl, hsep⟩

theorem insertByFrom_perm (x : Ranging) : ∀ l, (insertByFrom x l).Perm (x :: l)
  | [] => .refl _
  | y :: ys => by
    unfold insertByFrom
    split
    · exact ((insertByFrom_perm x ys).cons y).trans (List.Perm.swap x y ys)
    · exact .refl _

theorem insertByFrom_sorted (x : Ranging) : ∀ l, l.Pairwise (fun a b : Ranging => a.from_ ≤ b.from_) →
    (insertByFrom x l).Pairwise (fun a b : Ranging => a.from_ ≤ b.from_)
  | [], _ => by simp [insertByFrom]
  | y :: ys, h => by
    unfold insertByFrom
    rw [List.pairwise_cons] at h
    split
    · rename_i hle
      rw [List.pairwise_cons]
      refine ⟨fun z hz => ?_, insertByFrom_sorted x ys h.2⟩
      rcases List.mem_cons.mp ((insertByFrom_perm x ys).mem_iff.mp hz) with hz | hz
      · rw [hz]; exact hle
      · exact h.1 z hz
    · rename_i hnle
      rw [List.pairwise_cons]
      refine ⟨fun z hz => ?_, List.pairwise_cons.mpr h⟩
      rcases List.mem_cons.mp hz with hz | hz
      · rw [hz]; omega
      · have := h.1 z hz; omega

theorem foldl_insert_contract : ∀ (rs acc : List Ranging), acc.Pairwise (fun a b : Ranging => a.from_ ≤ b.from_) →
    (rs.foldl (fun acc x => insertByFrom x acc) acc).Perm (rs.reverse ++ acc) ∧
    (rs.foldl (fun acc x => insertByFrom x acc) acc).Pairwise (fun a b : Ranging => a.from_ ≤ b.from_)
  | [], acc, h => ⟨by simp, h⟩
  | x :: rs, acc, h => by
    obtain ⟨h1, h2⟩ := foldl_insert_contract rs (insertByFrom x acc) (insertByFrom_sorted x acc h)
    refine ⟨?_, h2⟩
    simp only [List.foldl_cons, List.reverse_cons, List.append_assoc, List.singleton_append]
    exact h1.trans (List.Perm.append_left _ (insertByFrom_perm x acc))

theorem stableSortByFrom_contract : SortContract stableSortByFrom := by
  intro rs
  obtain ⟨h1, h2⟩ := foldl_insert_contract rs [] List.Pairwise.nil
  refine ⟨?_, h2⟩
  unfold stableSortByFrom
  exact h1.trans (List.append_nil _ ▸ List.reverse_perm rs)

end C17
