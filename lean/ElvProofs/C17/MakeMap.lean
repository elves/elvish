/-
`makeMap`'s pair handling (C17).  One call of the guarded callback either
records an error (or keeps the pending one), or associates a pair whose
`vals.Collect` result has EXACTLY two entries.  No hypothesis relates `ops.len`
to `ops.collect`.
-/
import ElvModel.C17.MakeMap
namespace C17
open Go

theorem assocPair_two {V} (acc : List (V × V)) (k x : V) :
    assocPair acc [k, x] = .ok (acc ++ [(k, x)], none) := by
  simp [assocPair, Go.index, Res.bind]

theorem length_two {V} (l : List V) (h : l.length = 2) : ∃ k x, l = [k, x] := by
  match l, h with
  | [k, x], _ => exact ⟨k, x, rfl⟩

theorem makeMapStep_spec {V} (ops : IterOps V) (st : MMState V) (v : V) :
    (∃ e, makeMapStep ops true st v = .ok (st.1, some e)) ∨
    (∃ k x, ops.collect v = .ok [k, x] ∧ st.2 = none ∧
      makeMapStep ops true st v = .ok (st.1 ++ [(k, x)], none)) := by
  unfold makeMapStep
  cases hst : st.2 with
  | some e => exact .inl ⟨e, by rw [if_pos (show (some e).isSome = true from rfl), ← hst]⟩
  | none =>
    rw [if_neg (by simp)]
    by_cases h1 : ops.canIterate v = false
    · rw [if_pos h1]
      exact .inl ⟨_, rfl⟩
    by_cases h2 : ops.len v ≠ 2
    · rw [if_neg h1, if_pos h2]
      exact .inl ⟨_, rfl⟩
    rw [if_neg h1, if_neg h2]
    cases hc : ops.collect v with
    | error e => exact .inl ⟨_, rfl⟩
    | ok elems =>
      dsimp only
      by_cases h3 : elems.length ≠ 2
      · rw [if_pos ⟨rfl, h3⟩]
        exact .inl ⟨_, rfl⟩
      · -- the check passed: `elems[0]`, `elems[1]` exist
        obtain ⟨k, x, rfl⟩ := length_two elems (Decidable.not_not.mp h3)
        rw [if_neg (fun h => h3 h.2)]
        exact .inr ⟨k, x, rfl, rfl, assocPair_two st.1 k x⟩

theorem makeMapLoop_pending {V} (ops : IterOps V) (vs : List V) (acc : List (V × V)) (e : String) :
    makeMapLoop ops true vs (acc, some e) = .ok (acc, some e) := by
  induction vs with
  | nil => rfl
  | cons v vs ih =>
    simp only [makeMapLoop, makeMapStep, Option.isSome_some, if_true, Res.bind]
    exact ih

theorem makeMapLoop_spec {V} (ops : IterOps V) (vs : List V) (acc : List (V × V)) :
    (∃ acc' e, makeMapLoop ops true vs (acc, none) = .ok (acc', some e)) ∨
    (∃ ps, makeMapLoop ops true vs (acc, none) = .ok (acc ++ ps, none) ∧
      vs.map ops.collect = ps.map (fun p => .ok [p.1, p.2])) := by
  induction vs generalizing acc with
  | nil => exact .inr ⟨[], by simp [makeMapLoop], rfl⟩
  | cons v vs ih =>
    simp only [makeMapLoop]
    rcases makeMapStep_spec ops (acc, none) v with ⟨e, he⟩ | ⟨k, x, hc, _, hp⟩
    · exact .inl ⟨acc, e, by rw [he]; exact makeMapLoop_pending ops vs acc e⟩
    · rw [hp]
      rcases ih (acc ++ [(k, x)]) with ⟨acc', e, he⟩ | ⟨ps, hp, hf⟩
      · exact .inl ⟨acc', e, he⟩
      · exact .inr ⟨(k, x) :: ps, by rw [Res.bind, hp, List.append_assoc]; rfl, by simp [hc, hf]⟩

end C17
