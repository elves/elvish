/-
The `doc:find` part of C17, part 1: the in-place merge loop of
`sortAndMergeMatches` computes `mergeFrom` on every non-empty slice, so it
cannot panic; on a slice sorted by `From` of ranges inside the text the result
is ordered and non-overlapping.
-/
import ElvModel.C17.DocMatch
import ElvProofs.C17.GoOps
namespace C17
open Go

/-- What the merge loop does, with the range being grown as `cur`: a match that
starts after the end of the previous one opens a new range, any other match
moves the end of `cur` to its own end. -/
def mergeFrom (cur : Ranging) : List Ranging → List Ranging
  | [] => [cur]
  | x :: xs => if x.from_ > cur.to then cur :: mergeFrom x xs else mergeFrom { cur with to := x.to } xs

theorem mergeStep_eq (rs : List Ranging) (i j : Nat) (cur p x : Ranging) (hij : i ≤ j)
    (hi : rs[i]? = some cur) (hp : rs[j]? = some p) (hx : rs[j + 1]? = some x) :
    mergeStep ((j + 1 : Nat) : Int) (rs, (i : Int)) =
      .ok (if x.from_ > p.to then (rs.set (i + 1) x, ((i + 1 : Nat) : Int))
        else (rs.set i { cur with to := x.to }, (i : Int))) := by
  have hlen : j + 1 < rs.length := (List.getElem?_eq_some_iff.mp hx).1
  have hj : ((j + 1 : Nat) : Int) - 1 = (j : Int) := by omega
  unfold mergeStep
  simp only [bind, Res.bind, hj, index_nat hx, index_nat hp, index_nat hi]
  split
  · rw [show (i : Int) + 1 = ((i + 1 : Nat) : Int) from rfl, setIdx_of_lt _ _ _ (by omega)]
  · rw [setIdx_of_lt _ _ _ (by omega)]

/-- The iterations from `j + 1` on, when `rs[j:]` is `p :: rest` and the range
grown at `rs[i]` ends where `p` ends: the loop leaves `mergeFrom cur rest`
after `rs[:i]`. -/
theorem mergeLoop_eq : ∀ (rest rs : List Ranging) (i j : Nat) (cur p : Ranging),
    i ≤ j → rs[i]? = some cur → rs.drop j = p :: rest → cur.to = p.to →
    ∃ rs' i', forRange mergeStep rest.length ((j + 1 : Nat) : Int) (rs, (i : Int)) = .ok (rs', ((i' : Nat) : Int)) ∧
      i' < rs'.length ∧ rs'.take (i' + 1) = rs.take i ++ mergeFrom cur rest
  | [], rs, i, _, cur, _, _, hi, _, _ =>
    ⟨rs, i, rfl, (List.getElem?_eq_some_iff.mp hi).1, by rw [List.take_add_one, hi]; rfl⟩
  | x :: rest, rs, i, j, cur, p, hij, hi, hd, hto => by
    obtain ⟨hp, hd'⟩ := getElem?_of_drop_eq_cons hd
    obtain ⟨hx, _⟩ := getElem?_of_drop_eq_cons hd'
    have hlen : j + 1 < rs.length := (List.getElem?_eq_some_iff.mp hx).1
    simp only [List.length_cons, forRange, bind, Res.bind, mergeStep_eq rs i j cur p x hij hi hp hx]
    by_cases hc : x.from_ > p.to
    · -- `i++; rs[i] = rs[j]`: writes at or before `j + 1`, where `x` already is
      have hd'' : (rs.set (i + 1) x).drop (j + 1) = x :: rest := by
        rw [List.drop_set, hd']
        split
        · rfl
        · rw [show i + 1 - (j + 1) = 0 by omega]
          rfl
      obtain ⟨rs', i', h1, h2, h3⟩ := mergeLoop_eq rest (rs.set (i + 1) x) (i + 1) (j + 1) x x (by omega)
        (List.getElem?_set_self (by omega)) hd'' rfl
      refine ⟨rs', i', by rw [if_pos hc]; exact h1, h2, ?_⟩
      rw [h3, List.take_set_of_le (Nat.le_refl _), List.take_add_one, hi, mergeFrom, if_pos (hto ▸ hc)]
      simp
    · -- `rs[i].To = rs[j].To`: a write before `j + 1`
      obtain ⟨rs', i', h1, h2, h3⟩ := mergeLoop_eq rest (rs.set i { cur with to := x.to }) i (j + 1)
        { cur with to := x.to } x (by omega) (List.getElem?_set_self (by omega))
        (by rw [List.drop_set_of_lt (by omega), hd']) rfl
      refine ⟨rs', i', by rw [if_neg hc]; exact h1, h2, ?_⟩
      rw [h3, List.take_set_of_le (Nat.le_refl _), mergeFrom, if_neg (hto ▸ hc)]

theorem mergeSorted_eq (x : Ranging) (xs : List Ranging) : mergeSorted (x :: xs) = .ok (mergeFrom x xs) := by
  obtain ⟨rs', i', h1, h2, h3⟩ := mergeLoop_eq xs (x :: xs) 0 0 x x (Nat.le_refl 0) rfl rfl rfl
  have h1 : forRange mergeStep xs.length 1 (x :: xs, 0) = .ok (rs', (i' : Int)) := h1
  have hn : (((x :: xs).length : Int) - 1).toNat = xs.length := by simp
  unfold mergeSorted forLoop
  rw [hn]
  simp only [bind, Res.bind, h1]
  unfold slice
  rw [if_pos ⟨Int.le_refl 0, by omega, by omega⟩]
  simp only [Int.toNat_zero, List.drop_zero, Nat.sub_zero]
  rw [show ((i' : Int) + 1).toNat = i' + 1 by omega, h3]
  rfl

theorem mergeFrom_length (cur : Ranging) (xs : List Ranging) :
    mergeFrom cur xs ≠ [] ∧ (mergeFrom cur xs).length ≤ xs.length + 1 := by
  induction xs generalizing cur with
  | nil => exact ⟨by simp [mergeFrom], Nat.le_refl _⟩
  | cons x xs ih =>
    unfold mergeFrom
    split
    · exact ⟨by simp, by simpa using (ih x).2⟩
    · exact ⟨(ih _).1, Nat.le_succ_of_le (ih _).2⟩

theorem mergeFrom_sep (n : Int) : ∀ (xs : List Ranging) (cur : Ranging) (lo : Int),
    lo ≤ cur.from_ → (∀ r ∈ cur :: xs, r.Valid n) → (cur :: xs).Pairwise (fun a b => a.from_ ≤ b.from_) →
    Sep n lo (mergeFrom cur xs)
  | [], cur, lo, hlo, hv, _ => by
    obtain ⟨_, h1, h2⟩ := hv cur (by simp)
    exact ⟨hlo, h1, h2, trivial⟩
  | x :: xs, cur, lo, hlo, hv, hs => by
    obtain ⟨_, hc1, hc2⟩ := hv cur (by simp)
    obtain ⟨_, hx1, hx2⟩ := hv x (by simp)
    rw [List.pairwise_cons] at hs
    have hcx := hs.1 x (by simp)
    unfold mergeFrom
    split
    · exact ⟨hlo, hc1, hc2, mergeFrom_sep n xs x _ (by omega) (fun r hr => hv r (by simp [hr])) hs.2⟩
    · refine mergeFrom_sep n xs { cur with to := x.to } lo hlo (fun r hr => ?_) ?_
      · rcases List.mem_cons.mp hr with rfl | hr
        · exact ⟨by simp only; omega, by simp only; omega, hx2⟩
        · exact hv r (by simp [hr])
      · rw [List.pairwise_cons]
        exact ⟨fun r hr => hs.1 r (by simp [hr]), (List.pairwise_cons.mp hs.2).2⟩

theorem mergeSorted_ok (n : Int) (sorted : List Ranging) (hne : sorted ≠ [])
    (hvalid : ∀ r ∈ sorted, r.Valid n) (hsorted : sorted.Pairwise fun a b => a.from_ ≤ b.from_) :
    ∃ out, mergeSorted sorted = .ok out ∧ Sep n 0 out ∧ out ≠ [] ∧ out.length ≤ sorted.length := by
  obtain ⟨x, xs, rfl⟩ := List.exists_cons_of_ne_nil hne
  exact ⟨_, mergeSorted_eq x xs, mergeFrom_sep n xs x 0 (hvalid x (by simp)).1 hvalid hsorted,
    mergeFrom_length x xs⟩

end C17
