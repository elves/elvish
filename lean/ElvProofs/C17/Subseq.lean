/-
`strutil.HasSubseq` with fixes/C17-hassubseq-invalid-utf8.patch: the loop never slices out of range.
-/
import ElvProofs.C17.GoOps
import ElvProofs.Lemmas.Utf8
namespace C17
open Go

theorem findOffset_bound (n : Nat) (p : Nat → Bool) :
    findOffset n p = -1 ∨ (0 ≤ findOffset n p ∧ findOffset n p < n) := by
  unfold findOffset
  cases h : (List.range n).find? p with
  | none => exact Or.inl rfl
  | some i =>
    have hm := List.mem_of_find?_eq_some h
    rw [List.mem_range] at hm
    right
    simp only
    omega

theorem indexRune_bound (s : Bytes) (r : Nat) :
    indexRune s r = -1 ∨ (0 ≤ indexRune s r ∧ indexRune s r < s.length) := by
  unfold indexRune
  split
  · exact findOffset_bound _ _
  · split
    · cases h : (runes s).find? (fun x => x.2.1 == RuneError) with
      | none => exact Or.inl rfl
      | some x =>
        have hm := List.mem_of_find?_eq_some h
        have := (runes_mem hm).2.1
        right
        simp only
        omega
    · split
      · exact Or.inl rfl
      · exact findOffset_bound _ _

theorem hasSubseqLoop_fixed_ok : ∀ (ps : List Rune) (s : Bytes), ∃ b, hasSubseqLoop true ps s = .ok b
  | [], _ => ⟨true, rfl⟩
  | p :: ps, s => by
    unfold hasSubseqLoop
    simp only
    split
    · exact ⟨false, rfl⟩
    · rename_i hne
      rcases indexRune_bound s p with hb | ⟨h0, h1⟩
      · exact absurd hb hne
      · -- decoding at the offset found consumes at most what is left of `s`
        obtain ⟨tail, ht, hl, -⟩ := exists_slice_eq_ok s (indexRune s p) s.length h0 (Int.le_of_lt h1) (Int.le_refl _)
        have hle := decodeRune_size_le tail
        obtain ⟨s', hs', -⟩ := exists_slice_eq_ok s (indexRune s p + ((decodeRune tail).2 : Int)) s.length
          (by omega) (by omega) (Int.le_refl _)
        simp only [if_true, bind, Res.bind, ht, pure, hs']
        exact hasSubseqLoop_fixed_ok ps s'

end C17
