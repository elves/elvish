/-
The `goFn` part of C17: what `NewGoFn` makes of a signature, and that
`goFn.Call` never panics and builds an argument vector of the shape the
signature asks for.  `callOK false` (no variadic parameter) is pointwise
assignability; the vector is described with it.
-/
import ElvProofs.C17.GoOps
namespace C17
open Go

theorem callOK_false_cons (p : PTy) (sig : List PTy) (x : InVal) (xs : List InVal) :
    callOK false (p :: sig) (x :: xs) = (assignable x p && callOK false sig xs) := by
  cases sig with
  | nil => cases xs <;> simp [callOK]
  | cons q ps => simp [callOK]

theorem callOK_false_nil_right (p : PTy) (sig : List PTy) : callOK false (p :: sig) [] = false := by
  cases sig <;> rfl

theorem callOK_false_append {ts : List PTy} {s1 : List InVal} (h : callOK false ts s1 = true)
    (us : List PTy) (s2 : List InVal) : callOK false (ts ++ us) (s1 ++ s2) = callOK false us s2 := by
  induction ts generalizing s1 with
  | nil =>
    have : s1 = [] := by simpa [callOK] using h
    subst this
    rfl
  | cons t ts ih =>
    cases s1 with
    | nil => simp [callOK_false_nil_right] at h
    | cons x xs =>
      rw [callOK_false_cons, Bool.and_eq_true] at h
      rw [List.cons_append, List.cons_append, callOK_false_cons, h.1, ih h.2]
      rfl

theorem callOK_variadic {ts : List PTy} {s1 : List InVal} (h1 : callOK false ts s1 = true)
    (e : PTy) (s2 : List InVal) (h2 : s2.all (assignable · e) = true) :
    callOK true (ts ++ [.slice e]) (s1 ++ s2) = true := by
  induction ts generalizing s1 with
  | nil =>
    have : s1 = [] := by simpa [callOK] using h1
    subst this
    simpa [callOK] using h2
  | cons t ts ih =>
    cases s1 with
    | nil => simp [callOK_false_nil_right] at h1
    | cons x xs =>
      rw [callOK_false_cons, Bool.and_eq_true] at h1
      obtain ⟨q, qs, hq⟩ : ∃ q qs, ts ++ [PTy.slice e] = q :: qs := by cases ts <;> simp
      rw [List.cons_append, List.cons_append, hq, callOK, ← hq, h1.1, ih h1.2]
      rfl

def prefixTys (b : GoFn) : List PTy :=
  (if b.frame then [.frame] else []) ++ (if b.rawOptions then [.rawOptions] else []) ++
    (if b.options.isSome then [.options] else [])

theorem callOK_prefix (b : GoFn) : callOK false (prefixTys b) (prefixIns b) = true := by
  unfold prefixTys prefixIns
  cases b.frame <;> cases b.rawOptions <;> cases b.options.isSome <;> rfl

/-- The loop over the arguments, started at argument `i`, when `i + len(args)`
passed the arity check: no panic, and it appends one value per remaining normal
parameter, then only values of the variadic element type. -/
theorem argLoop_spec (b : GoFn) : ∀ (args : List Arg) (i : Nat) (acc : List InVal),
    (b.variadicArg = none → b.inputs = false → i + args.length ≤ b.normalArgs.length) →
    ∃ r, argLoop b i args acc = .ok r ∧ ∀ ins, r = .ok ins → b.normalArgs.length ≤ i + args.length →
      ∃ s1 s2, ins = acc ++ (s1 ++ s2) ∧ callOK false (b.normalArgs.drop i) s1 = true ∧
        ∀ x ∈ s2, ∃ e, b.variadicArg = some e ∧ assignable x e = true
  | [], i, acc, _ => by
    refine ⟨.ok acc, rfl, fun ins h hlen => ⟨[], [], by simpa using h.symm, ?_, by simp⟩⟩
    rw [List.drop_eq_nil_of_le (by simpa using hlen)]
    rfl
  | a :: rest, i, acc, h => by
    simp only [List.length_cons] at h ⊢
    unfold argLoop
    by_cases hi : i < b.normalArgs.length
    · rw [if_pos hi, index_ok_of_lt _ _ hi]
      simp only
      by_cases hs : a.scans b.normalArgs[i] = true
      · obtain ⟨r, hr, hspec⟩ := argLoop_spec b rest (i + 1) (acc ++ [.scanned b.normalArgs[i] a.id])
          (fun hv hin => by have := h hv hin; omega)
        rw [if_pos hs]
        refine ⟨r, hr, fun ins hins hlen => ?_⟩
        obtain ⟨s1, s2, rfl, h1, h2⟩ := hspec ins hins (by omega)
        refine ⟨.scanned b.normalArgs[i] a.id :: s1, s2, by simp, ?_, h2⟩
        rw [List.drop_eq_getElem_cons hi, callOK_false_cons, h1]
        simp [assignable]
      · rw [if_neg hs]
        exact ⟨_, rfl, nofun⟩
    · rw [if_neg hi]
      have hd : ∀ k, i ≤ k → b.normalArgs.drop k = [] := fun k hk => List.drop_eq_nil_of_le (by omega)
      cases hv : b.variadicArg with
      | some typ =>
        simp only
        by_cases hs : a.scans typ = true
        · obtain ⟨r, hr, hspec⟩ := argLoop_spec b rest (i + 1) (acc ++ [.scanned typ a.id])
            (fun hv' => by simp [hv] at hv')
          rw [if_pos hs]
          refine ⟨r, hr, fun ins hins hlen => ?_⟩
          obtain ⟨s1, s2, rfl, h1, h2⟩ := hspec ins hins (by omega)
          rw [hd (i + 1) (by omega)] at h1
          have : s1 = [] := by simpa [callOK] using h1
          subst this
          refine ⟨[], .scanned typ a.id :: s2, by simp, by rw [hd i (Nat.le_refl i)]; rfl, fun x hx => ?_⟩
          rcases List.mem_cons.mp hx with rfl | hx
          · exact ⟨typ, rfl, by simp [assignable]⟩
          · exact hv ▸ h2 x hx
        · rw [if_neg hs]
          exact ⟨_, rfl, nofun⟩
      | none =>
        simp only
        cases hin : b.inputs with
        | true =>
          refine ⟨.ok acc, rfl, fun ins h _ => ⟨[], [], by simpa using h.symm, ?_, by simp⟩⟩
          rw [hd i (Nat.le_refl i)]
          rfl
        | false =>
          have := h hv hin
          omega

theorem goFnArityErr_none {b : GoFn} {nargs : Int} (h : goFnArityErr b nargs = none) :
    (b.normalArgs.length : Int) ≤ nargs ∧
      (b.variadicArg = none → b.inputs = false → nargs ≤ b.normalArgs.length) := by
  unfold goFnArityErr at h
  cases hv : b.variadicArg with
  | some e =>
    simp [hv] at h
    exact ⟨h, nofun⟩
  | none =>
    cases hin : b.inputs with
    | true =>
      simp [hv, hin] at h
      exact ⟨by omega, nofun⟩
    | false =>
      simp [hv, hin] at h
      exact ⟨by omega, fun _ _ => by omega⟩

theorem goFnCall_spec (b : GoFn) (args : List Arg) (nopts : Nat) (bad : Bool) :
    ∃ r, goFnCall b args nopts bad = .ok r ∧ ∀ ins, r = .ok ins →
      ∃ s1 s2 tl, ins = prefixIns b ++ (s1 ++ s2) ++ tl ∧ callOK false b.normalArgs s1 = true ∧
        (∀ x ∈ s2, ∃ e, b.variadicArg = some e ∧ assignable x e = true) ∧
        callOK false (if b.inputs then [.inputs] else []) tl = true := by
  unfold goFnCall
  simp only
  cases harity : goFnArityErr b args.length with
  | some e => exact ⟨_, rfl, nofun⟩
  | none =>
    obtain ⟨hlen, hfix⟩ := goFnArityErr_none harity
    simp only
    by_cases h1 : (!b.rawOptions && b.options.isNone && decide (0 < nopts)) = true
    · rw [if_pos h1]
      exact ⟨_, rfl, nofun⟩
    by_cases h2 : (b.options.isSome && bad) = true
    · rw [if_neg h1, if_pos h2]
      exact ⟨_, rfl, nofun⟩
    obtain ⟨r, hr, hspec⟩ := argLoop_spec b args 0 (prefixIns b)
      (fun hv hin => by have := hfix hv hin; omega)
    rw [if_neg h1, if_neg h2, hr]
    cases r with
    | error e => exact ⟨_, rfl, nofun⟩
    | ok in2 =>
      obtain ⟨s1, s2, rfl, hs1, hs2⟩ := hspec in2 rfl (by omega)
      rw [List.drop_zero] at hs1
      simp only
      cases hin : b.inputs with
      | false => exact ⟨_, rfl, fun ins h => ⟨s1, s2, [], by simpa using h.symm, hs1, hs2, rfl⟩⟩
      | true =>
        rw [if_pos rfl]
        by_cases hn : (args.length : Int) = b.normalArgs.length
        · rw [if_pos hn]
          exact ⟨_, rfl, fun ins h => ⟨s1, s2, [.inputsFrame], by simpa using h.symm, hs1, hs2, rfl⟩⟩
        · -- one argument more than normal parameters: the last one is iterated
          have : (args.length : Int) - 1 = ((args.length - 1 : Nat) : Int) := by omega
          rw [if_neg hn, this, index_ok_of_lt _ _ (by omega)]
          simp only
          split
          · exact ⟨_, rfl, fun ins h => ⟨s1, s2, [.inputsArg _], by simpa using h.symm, hs1, hs2, rfl⟩⟩
          · exact ⟨_, rfl, nofun⟩

theorem scanParams_concat (variadic : Bool) (init : List PTy) (p : PTy) :
    scanParams variadic (init ++ [p]) =
      (scanParams variadic [p]).bind fun r => .ok (init ++ r.1, r.2) := by
  induction init with
  | nil =>
    rw [List.nil_append]
    cases scanParams variadic [p] <;> rfl
  | cons q init ih =>
    obtain ⟨x, xs, hx⟩ : ∃ x xs, init ++ [p] = x :: xs := by cases init <;> simp
    conv => lhs; rw [List.cons_append, hx, scanParams, ← hx, ih]
    cases scanParams variadic [p] <;> rfl

theorem scanParams_fixed (rest : List PTy) :
    ∃ ns inp, scanParams false rest = .ok (ns, none, inp) ∧ rest = ns ++ if inp then [.inputs] else [] := by
  rcases List.eq_nil_or_concat rest with rfl | ⟨init, p, rfl⟩
  · exact ⟨[], false, rfl, rfl⟩
  · rw [List.concat_eq_append, scanParams_concat]
    by_cases hp : p = .inputs
    · exact ⟨init, true, by simp [scanParams, hp, Res.bind], by simp [hp]⟩
    · exact ⟨init ++ [p], false, by simp [scanParams, hp, Res.bind], by simp⟩

theorem scanParams_variadic (init : List PTy) (e : PTy) :
    scanParams true (init ++ [.slice e]) = .ok (init, some e, false) := by
  rw [scanParams_concat]
  simp [scanParams, elemOf, bind, Res.bind]

theorem stripHead_spec {p : PTy} {s r : List PTy} {c : Bool} (h : stripHead p s = (c, r)) :
    s = (if c then [p] else []) ++ r := by
  cases s with
  | nil =>
    obtain ⟨rfl, rfl⟩ := Prod.mk.inj h
    rfl
  | cons q t =>
    rw [stripHead] at h
    by_cases hq : q = p
    · rw [if_pos hq] at h
      obtain ⟨rfl, rfl⟩ := Prod.mk.inj h
      rw [hq]
      rfl
    · rw [if_neg hq] at h
      obtain ⟨rfl, rfl⟩ := Prod.mk.inj h
      rfl

theorem stripHead_concat_slice {p : PTy} (hp : ∀ e, p ≠ .slice e) {init r : List PTy} {e : PTy} {c : Bool}
    (h : stripHead p (init ++ [.slice e]) = (c, r)) : ∃ init', r = init' ++ [.slice e] := by
  have hs := stripHead_spec h
  cases c with
  | false => exact ⟨init, hs.symm⟩
  | true =>
    cases init with
    | nil => exact absurd (List.cons.inj hs).1.symm (hp e)
    | cons a as => exact ⟨as, (List.cons.inj hs).2.symm⟩

theorem newGoFn_eq (sig : List PTy) (variadic : Bool) :
    ∃ fr ro op rest,
      sig = (if fr then [.frame] else []) ++ (if ro then [.rawOptions] else []) ++
        (if op then [.options] else []) ++ rest ∧
      (∀ init e, sig = init ++ [.slice e] → ∃ init', rest = init' ++ [.slice e]) ∧
      newGoFn sig variadic =
        if op && ro then .panic "Function declares both RawOptions and Options parameters"
        else (scanParams variadic rest).bind fun r =>
          .ok ⟨fr, ro, if op then some .options else none, r.2.2, r.1, r.2.1⟩ := by
  obtain ⟨fr, s1, h1⟩ : ∃ fr s1, stripHead .frame sig = (fr, s1) := ⟨_, _, rfl⟩
  obtain ⟨ro, s2, h2⟩ : ∃ ro s2, stripHead .rawOptions s1 = (ro, s2) := ⟨_, _, rfl⟩
  obtain ⟨op, s3, h3⟩ : ∃ op s3, stripHead .options s2 = (op, s3) := ⟨_, _, rfl⟩
  refine ⟨fr, ro, op, s3, ?_, fun init e hs => ?_, ?_⟩
  · rw [List.append_assoc, List.append_assoc, ← stripHead_spec h3, ← stripHead_spec h2, ← stripHead_spec h1]
  · subst hs
    obtain ⟨i1, rfl⟩ := stripHead_concat_slice (by simp) h1
    obtain ⟨i2, rfl⟩ := stripHead_concat_slice (by simp) h2
    exact stripHead_concat_slice (by simp) h3
  · simp only [newGoFn, h1, h2, h3]
    cases scanParams variadic s3 <;> rfl

theorem newGoFn_fixed (sig : List PTy) :
    ∃ b : GoFn, sig = prefixTys b ++ b.normalArgs ++ (if b.inputs then [.inputs] else []) ∧
      b.variadicArg = none ∧
      newGoFn sig false =
        if b.options.isSome && b.rawOptions then .panic "Function declares both RawOptions and Options parameters"
        else .ok b := by
  obtain ⟨fr, ro, op, rest, hsig, _, heq⟩ := newGoFn_eq sig false
  obtain ⟨ns, inp, hs, rfl⟩ := scanParams_fixed rest
  refine ⟨⟨fr, ro, if op then some .options else none, inp, ns, none⟩, ?_, rfl, ?_⟩
  · rw [hsig, prefixTys]
    cases op <;> simp
  · rw [heq, hs]
    cases op <;> rfl

/-- `hwf` is Go's guarantee that the last parameter of a variadic function is a slice. -/
theorem newGoFn_variadic {sig init : List PTy} {e : PTy} (hwf : sig = init ++ [.slice e]) :
    ∃ b : GoFn, sig = prefixTys b ++ b.normalArgs ++ [.slice e] ∧
      b.variadicArg = some e ∧ b.inputs = false ∧
      newGoFn sig true =
        if b.options.isSome && b.rawOptions then .panic "Function declares both RawOptions and Options parameters"
        else .ok b := by
  obtain ⟨fr, ro, op, rest, hsig, hrest, heq⟩ := newGoFn_eq sig true
  obtain ⟨ns, rfl⟩ := hrest init e hwf
  refine ⟨⟨fr, ro, if op then some .options else none, false, ns, some e⟩, ?_, rfl, rfl, ?_⟩
  · rw [hsig, prefixTys]
    cases op <;> simp
  · rw [heq, scanParams_variadic]
    cases op <;> rfl

end C17
