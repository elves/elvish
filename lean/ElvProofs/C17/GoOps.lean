/-
Go's partial list operations (`s[i]`, `s[i] = v`, `s[i:j]`) on arguments in
range, and the rule for `for i := a; i < b; i++` loops: what every part of C17
uses to show that an index expression cannot panic.
-/
import ElvModel.C17.Model
import ElvProofs.Lemmas.Res
namespace C17
open Go

theorem index_ok_of_lt {α} (l : List α) (i : Nat) (h : i < l.length) :
    index l (i : Int) = .ok l[i] :=
  index_nat (List.getElem?_eq_getElem h)

theorem setIdx_of_lt {α} (l : List α) (i : Nat) (v : α) (h : i < l.length) :
    setIdx l (i : Int) v = .ok (l.set i v) := by
  simp [setIdx, h]

theorem getElem?_of_drop_eq_cons {α} {l t : List α} {i : Nat} {a : α} (h : l.drop i = a :: t) :
    l[i]? = some a ∧ l.drop (i + 1) = t := by
  constructor
  · have := List.getElem?_drop (xs := l) (i := i) (j := 0)
    rw [h] at this
    simpa using this.symm
  · rw [← List.drop_drop, h]
    rfl

theorem setIdx_ok {α} (s : List α) (i : Int) (v : α) (h0 : 0 ≤ i) (h1 : i < s.length) :
    ∃ s', setIdx s i v = .ok s' ∧ s'.length = s.length := by
  unfold setIdx
  exact ⟨s.set i.toNat v, by simp [h0, h1], by simp⟩

theorem forRange_ok {σ} (P : σ → Prop) (f : Int → σ → Res σ) : ∀ (n : Nat) (a : Int) (s : σ), P s →
    (∀ i s, a ≤ i → i < a + n → P s → ∃ s', f i s = .ok s' ∧ P s') →
    ∃ s', forRange f n a s = .ok s' ∧ P s'
  | 0, _, s, hP, _ => ⟨s, rfl, hP⟩
  | n + 1, a, s, hP, hstep => by
    obtain ⟨s1, h1, hP1⟩ := hstep a s (Int.le_refl _) (by omega) hP
    obtain ⟨s2, h2, hP2⟩ := forRange_ok P f n (a + 1) s1 hP1
      (fun i s hi1 hi2 hp => hstep i s (by omega) (by omega) hp)
    exact ⟨s2, by simp [forRange, bind, Res.bind, h1, h2], hP2⟩

theorem forLoop_ok {σ} (P : σ → Prop) (f : Int → σ → Res σ) (a b : Int) (s : σ) (hP : P s)
    (hstep : ∀ i s, a ≤ i → i < b → P s → ∃ s', f i s = .ok s' ∧ P s') :
    ∃ s', forLoop a b f s = .ok s' ∧ P s' :=
  forRange_ok P f _ a s hP (fun i s h1 h2 hp => hstep i s h1 (by omega) hp)

end C17
