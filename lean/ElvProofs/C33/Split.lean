/-
`SplitByRune`: `strings.Split` and `strings.Join`, what one turn of the loop does to the
list of lines, and what follows for every line (normal form) and for the lines together
(they join back to the text, plain or with styles).
-/
import ElvProofs.C33.Normal
import ElvProofs.Lemmas.Utf8.Basic
namespace C33
open Go

/-- `strings.Join` on lists of any element type (`joinSep` below is the instance on bytes in which `C33_split_content` is stated). -/
def joinL {α} (sep : List α) : List (List α) → List α
  | [] => []
  | [p] => p
  | p :: q :: r => p ++ sep ++ joinL sep (q :: r)

def joinSep (sep : Bytes) : List Bytes → Bytes
  | [] => []
  | [p] => p
  | p :: q :: r => p ++ sep ++ joinSep sep (q :: r)

theorem joinSep_eq_joinL (sep : Bytes) : ∀ L : List Bytes, joinSep sep L = joinL sep L
  | [] => rfl
  | [_] => rfl
  | p :: q :: r => by simp only [joinSep, joinL]; rw [joinSep_eq_joinL sep (q :: r)]

theorem joinL_cons_cons {α} (sep p : List α) (L : List (List α)) (h : L ≠ []) :
    joinL sep (p :: L) = p ++ sep ++ joinL sep L := by
  cases L with
  | nil => exact absurd rfl h
  | cons q r => rfl

theorem joinL_cons {α} (sep p : List α) (L : List (List α)) :
    joinL sep (p :: L) = p ++ (L.map (sep ++ ·)).flatten := by
  induction L generalizing p with
  | nil => simp [joinL]
  | cons q L ih => rw [joinL_cons_cons _ _ _ (by simp), ih]; simp

theorem joinL_prepend {α} (sep : List α) (b : α) (p : List α) (ps : List (List α)) :
    joinL sep ((b :: p) :: ps) = b :: joinL sep (p :: ps) := by
  cases ps <;> simp [joinL]

theorem joinL_glue {α} (sep : List α) (A : List (List α)) (x y0 : List α) (Y : List (List α)) :
    joinL sep (A ++ (x ++ y0) :: Y) = joinL sep (A ++ [x]) ++ joinL sep (y0 :: Y) := by
  induction A with
  | nil => cases Y <;> simp [joinL]
  | cons a A ih =>
    rw [List.cons_append, List.cons_append, joinL_cons_cons _ _ _ (by simp), joinL_cons_cons _ _ _ (by simp), ih]
    simp

theorem joinL_map {α β} (f : α → β) (sep : List α) : ∀ L : List (List α),
    (joinL sep L).map f = joinL (sep.map f) (L.map (List.map f))
  | [] => rfl
  | [_] => rfl
  | p :: q :: r => by
    simp only [joinL, List.map_append, List.map_cons]
    rw [joinL_map f sep (q :: r)]; rfl

theorem joinL_snoc_nil {α} (sep : List α) (A : List (List α)) (h : A ≠ []) :
    joinL sep (A ++ [[]]) = joinL sep A ++ sep := by
  obtain ⟨B, x, rfl⟩ : ∃ B x, A = B ++ [x] := ⟨_, _, (List.dropLast_concat_getLast h).symm⟩
  simpa [joinL] using joinL_glue sep B x [] [[]]

theorem splitGo_ne_nil (sep : Bytes) (k : Nat) (s : Bytes) : splitGo sep k s ≠ [] := by
  induction s generalizing k with
  | nil => simp [splitGo]
  | cons b t ih =>
    cases k with
    | succ k => simp only [splitGo]; exact ih k
    | zero =>
      simp only [splitGo]
      split
      · simp
      · split <;> simp

theorem joinL_splitGo (sep : Bytes) (hsep : sep ≠ []) (k : Nat) (s : Bytes) :
    joinL sep (splitGo sep k s) = s.drop k := by
  induction s generalizing k with
  | nil => simp [splitGo, joinL]
  | cons b t ih =>
    cases k with
    | succ k => simp only [splitGo, List.drop_succ_cons]; exact ih k
    | zero =>
      simp only [splitGo, List.drop_zero]
      split
      · rename_i hp
        rw [joinL_cons_cons _ _ _ (splitGo_ne_nil _ _ _), ih]
        obtain ⟨rest, hr⟩ := List.isPrefixOf_iff_prefix.1 hp
        cases sep with
        | nil => exact absurd rfl hsep
        | cons c sep' =>
          obtain ⟨rfl, rfl⟩ := List.cons.inj hr
          simp
      · have h0 := ih 0
        rw [List.drop_zero] at h0
        split
        · rename_i p ps hs
          rw [joinL_prepend, ← hs, h0]
        · rename_i hs; exact absurd hs (splitGo_ne_nil _ _ _)

theorem runeString_ne_nil (r : Int) : runeString r ≠ [] := by
  unfold runeString; split <;> exact Go.encodeRune_ne_nil _

theorem joinL_splitBytes (r : Int) (s : Bytes) : joinL (runeString r) (splitBytes (runeString r) s) = s :=
  joinL_splitGo _ (runeString_ne_nil r) 0 s

theorem map_text_splitByRune (seg : Segment) (r : Int) :
    (seg.splitByRune r).map (·.text) = splitBytes (runeString r) seg.text := by
  simp [Segment.splitByRune, Function.comp_def]

/-- The lines of the loop state: the finished ones, then the one in the paste builder. -/
def lines (acc : List Text × TB) : List Text := acc.1 ++ [acc.2.toText]

theorem toText_write_fresh (q : Segment) : (({} : TB).writeText (textFromSegment q)).toText = textFromSegment q := by
  unfold textFromSegment
  split
  · rfl
  · -- merged into the empty pending segment or not, the builder ends up holding just `q`, pending
    rw [TB.writeText_cons]
    split <;> simp_all [TB.writeRest, TB.toText]

/-- One turn of the loop: the first piece of the segment goes on the line in the paste builder,
every further piece starts a line of its own. -/
theorem lines_splitStep (r : Int) (acc : List Text × TB) (seg : Segment) :
    ∃ p ps, seg.splitByRune r = p :: ps ∧
      lines (splitStep r acc seg) = acc.1 ++ (acc.2.writeText (textFromSegment p)).toText :: ps.map textFromSegment := by
  unfold splitStep lines
  split
  · rename_i h
    exact absurd (List.map_eq_nil_iff.1 h) (splitGo_ne_nil _ _ _)
  · rename_i p h; exact ⟨p, [], h, rfl⟩
  · rename_i p ps hne h
    refine ⟨p, ps, h, ?_⟩
    rw [← List.dropLast_concat_getLast hne]
    simp [toText_write_fresh]

theorem SplitByRune_eq_some (t : Text) (r : Int) (ls : List Text) :
    SplitByRune t r = some ls ↔ t ≠ [] ∧ lines (t.foldl (splitStep r) ([], {})) = ls := by
  cases t <;> simp [SplitByRune, lines]

theorem SplitByRune_eq_none (t : Text) (r : Int) : SplitByRune t r = none ↔ t = [] := by
  cases t <;> simp [SplitByRune]

/-- A property of lines that holds of the empty line and survives writing a piece (of which `C`
is known) to the builder holds of every line `SplitByRune` returns. -/
theorem SplitByRune_all (P : Text → Prop) (C : Segment → Prop) (hnil : P [])
    (hw : ∀ (tb : TB) (p : Segment), P tb.toText → C p → P (tb.writeText (textFromSegment p)).toText)
    (t : Text) (r : Int) (hC : ∀ seg ∈ t, ∀ p ∈ seg.splitByRune r, C p)
    (ls : List Text) (h : SplitByRune t r = some ls) : ∀ l ∈ ls, P l := by
  have step : ∀ (t : Text) (acc : List Text × TB), (∀ seg ∈ t, ∀ p ∈ seg.splitByRune r, C p) →
      (∀ l ∈ lines acc, P l) → ∀ l ∈ lines (t.foldl (splitStep r) acc), P l := by
    intro t
    induction t with
    | nil => exact fun _ _ h => h
    | cons seg t ih =>
      intro acc hC hacc
      refine ih _ (fun s hs => hC s (List.mem_cons_of_mem _ hs)) ?_
      obtain ⟨p, ps, e, hl⟩ := lines_splitStep r acc seg
      have hp : ∀ q ∈ p :: ps, C q := e ▸ hC seg List.mem_cons_self
      rw [hl]
      intro l hl
      simp only [List.mem_append, List.mem_cons, List.mem_map] at hl
      rcases hl with hl | rfl | ⟨q, hq, rfl⟩
      · exact hacc l (by simp [lines, hl])
      · exact hw _ p (hacc _ (by simp [lines])) (hp p List.mem_cons_self)
      · rw [← toText_write_fresh]; exact hw _ q hnil (hp q (List.mem_cons_of_mem _ hq))
  obtain ⟨_, rfl⟩ := (SplitByRune_eq_some t r ls).1 h
  exact step t _ hC (by simpa [lines, TB.toText] using hnil)

theorem SplitByRune_normal (t : Text) (r : Int) (parts : List Text) (h : SplitByRune t r = some parts) :
    ∀ p ∈ parts, Normal p :=
  SplitByRune_all Normal (fun _ => True) Normal_nil
    (fun tb p h _ => TBInv_writeText tb _ h (textFromSegment_normal p)) t r (fun _ _ _ _ => trivial) parts h

/-- The content law for an observation `g` of the styled bytes (the byte alone, or the byte with
its style): when the pieces of every segment join back to the segment, the lines join back to
the text. -/
theorem SplitByRune_join {β} (g : Style × UInt8 → β) (sep : List β) (t : Text) (r : Int)
    (hseg : ∀ seg ∈ t, joinL sep ((seg.splitByRune r).map fun p => (styledBytes [p]).map g) = (styledBytes [seg]).map g)
    (ls : List Text) (h : SplitByRune t r = some ls) :
    joinL sep (ls.map fun l => (styledBytes l).map g) = (styledBytes t).map g := by
  have step : ∀ (t : Text) (acc : List Text × TB),
      (∀ seg ∈ t, joinL sep ((seg.splitByRune r).map fun p => (styledBytes [p]).map g) = (styledBytes [seg]).map g) →
      joinL sep ((lines (t.foldl (splitStep r) acc)).map fun l => (styledBytes l).map g) =
        joinL sep ((lines acc).map fun l => (styledBytes l).map g) ++ (styledBytes t).map g := by
    intro t
    induction t with
    | nil => simp [styledBytes_nil]
    | cons seg t ih =>
      intro acc hseg
      obtain ⟨p, ps, e, hl⟩ := lines_splitStep r acc seg
      have hs := hseg seg List.mem_cons_self
      rw [e, List.map_cons] at hs
      have ht : (styledBytes (seg :: t)).map g = (styledBytes [seg]).map g ++ (styledBytes t).map g := by
        rw [styledBytes_cons, styledBytes_single, List.map_append]
      rw [List.foldl_cons, ih _ (fun s hs => hseg s (List.mem_cons_of_mem _ hs)), hl, ht, ← List.append_assoc, ← hs]
      simp only [List.map_append, List.map_cons, List.map_map, Function.comp_def, TB.styledBytes_writeText,
        styledBytes_textFromSegment, joinL_glue, lines, List.map_nil]
  obtain ⟨_, rfl⟩ := (SplitByRune_eq_some t r ls).1 h
  simpa [lines, TB.toText, styledBytes_nil, joinL] using step t ([], {}) hseg

theorem SplitByRune_plain (t : Text) (r : Int) (ls : List Text) (h : SplitByRune t r = some ls) :
    joinL (runeString r) (ls.map plain) = plain t := by
  have := SplitByRune_join (·.2) (runeString r) t r (fun seg _ => by
    simp only [styledBytes_single, List.map_map, Function.comp_def, List.map_id']
    rw [← joinL_splitBytes r seg.text, ← map_text_splitByRune]) ls h
  simpa only [← plain_eq] using this

def sepD : List (Style × UInt8) := [({}, 10)]

theorem runeString_nl : runeString 10 = [10] := by decide

theorem SplitByRune_styled (t : Text) (hnl : ∀ s ∈ t, 10 ∈ s.text → s.style = {}) (ls : List Text)
    (h : SplitByRune t 10 = some ls) : joinL sepD (ls.map styledBytes) = styledBytes t := by
  have := SplitByRune_join id sepD t 10 (fun seg hseg => by
    -- the pieces of the segment join back to its text, with `seg.style` on every byte
    have hj := joinL_splitBytes 10 seg.text
    have hs := congrArg (List.map fun b => (seg.style, b)) hj
    rw [runeString_nl] at hj hs
    rw [joinL_map] at hs
    simp only [Segment.splitByRune, runeString_nl, styledBytes_single, List.map_map, Function.comp_def, id_eq]
    rw [← hs]
    cases hp : splitBytes [10] seg.text with
    | nil => rfl
    | cons p ps =>
      cases ps with
      | nil => rfl
      | cons q ps =>
        -- two pieces: there is a newline in the segment, so its style is the default one
        rw [sepD, ← hnl seg hseg (by rw [← hj, hp]; simp [joinL])]; rfl) ls h
  simpa using this

end C33
