/-
Histories over named values (ElvModel/C33/History.lean): values once made are kept, an
operation depends on the register file only through the values of its operands, values
made later do not matter, and the normal form is closed under histories.
-/
import ElvModel.C33.History
import ElvProofs.C33.Ops
import ElvProofs.C33.Split
namespace C33
open Go

theorem step_regs (wd : Int → Int) (s : HState) (op : HOp) :
    (s.step wd op).1.regs = s.regs ++ (s.step wd op).2.values := rfl

theorem run_regs_append (wd : Int → Int) : ∀ (ops : List HOp) (s : HState), ∃ more, (s.run wd ops).regs = s.regs ++ more
  | [], s => ⟨[], by simp [HState.run]⟩
  | op :: ops, s => by
    obtain ⟨more, h⟩ := run_regs_append wd ops (s.step wd op).1
    exact ⟨(s.step wd op).2.values ++ more, by rw [HState.run, h, step_regs, List.append_assoc]⟩

theorem run_keeps (wd : Int → Int) (ops : List HOp) (s : HState) (i : Nat) (h : i < s.regs.length) :
    (s.run wd ops).regs[i]? = s.regs[i]? := by
  obtain ⟨more, e⟩ := run_regs_append wd ops s
  rw [e, List.getElem?_append_left h]

theorem resolve_literal (regs : List Text) (x : Ref) : resolve [] (Ref.literal regs x) = resolve regs x := by
  cases x with
  | lit t => rfl
  | reg i => simp only [Ref.literal, resolve]; cases regs[i]? <;> rfl

theorem resolveSeg_literal (regs : List Text) (x : SegRef) :
    resolveSeg [] (SegRef.literal regs x) = resolveSeg regs x := by
  cases x with
  | lit t => rfl
  | reg i j => simp only [SegRef.literal]; cases resolveSeg regs (.reg i j) <;> rfl

theorem resolveRhs_literal (regs : List Text) (x : HRhs) :
    resolveRhs [] (HRhs.literal regs x) = resolveRhs regs x := by
  cases x with
  | str s => rfl
  | seg s => simp only [HRhs.literal, resolveRhs, resolveSeg_literal]
  | text t => simp only [HRhs.literal, resolveRhs, resolve_literal]

theorem mapM_resolve_literal (regs : List Text) (xs : List Ref) :
    (xs.map (Ref.literal regs)).mapM (resolve []) = xs.mapM (resolve regs) := by
  induction xs with
  | nil => rfl
  | cons x xs ih => simp only [List.map_cons, List.mapM_cons, ih, resolve_literal]

theorem evalOp_literal (wd : Int → Int) (regs : List Text) (tb : TB) (op : HOp) :
    evalOp wd [] tb (op.literal regs) = evalOp wd regs tb op := by
  cases op <;>
    simp only [HOp.literal, evalOp, resolve_literal, resolveSeg_literal, resolveRhs_literal, mapM_resolve_literal]

theorem resolve_append (regs more : List Text) (x : Ref) (h : x.ok regs = true) :
    resolve (regs ++ more) x = resolve regs x := by
  cases x with
  | lit t => rfl
  | reg i =>
    obtain ⟨t, ht⟩ := Option.isSome_iff_exists.1 h
    exact List.getElem?_append_left (List.getElem?_eq_some_iff.1 ht).1

theorem resolveSeg_append (regs more : List Text) (x : SegRef) (h : x.ok regs = true) :
    resolveSeg (regs ++ more) x = resolveSeg regs x := by
  cases x with
  | lit t => rfl
  | reg i j =>
    simp only [SegRef.ok, resolveSeg] at h ⊢
    cases hr : regs[i]? with
    | none => simp [hr] at h
    | some t => rw [List.getElem?_append_left (List.getElem?_eq_some_iff.1 hr).1, hr]

theorem resolveRhs_append (regs more : List Text) (x : HRhs) (h : x.ok regs = true) :
    resolveRhs (regs ++ more) x = resolveRhs regs x := by
  cases x with
  | str s => rfl
  | seg s => simp only [resolveRhs, resolveSeg_append regs more s h]
  | text t => simp only [resolveRhs, resolve_append regs more t h]

theorem mapM_resolve_append (regs more : List Text) (xs : List Ref) (h : xs.all (Ref.ok regs) = true) :
    xs.mapM (resolve (regs ++ more)) = xs.mapM (resolve regs) := by
  induction xs with
  | nil => rfl
  | cons x xs ih =>
    simp only [List.all_cons, Bool.and_eq_true] at h
    simp only [List.mapM_cons, ih h.2, resolve_append regs more x h.1]

theorem evalOp_append (wd : Int → Int) (regs more : List Text) (tb : TB) (op : HOp) (h : op.ok regs = true) :
    evalOp wd (regs ++ more) tb op = evalOp wd regs tb op := by
  cases op with
  | lit | tbtext | tbreset => rfl
  | concat xs => simp only [evalOp, mapM_resolve_append regs more xs h]
  | partition x | split x | trimw x | styletext x | clone x | sub x | rtextconcat x | tbwrite x =>
    simp only [evalOp, resolve_append regs more x h]
  | rsegconcat s => simp only [evalOp, resolveSeg_append regs more s h]
  | textconcat x r =>
    obtain ⟨hx, hr⟩ := Bool.and_eq_true_iff.1 h
    simp only [evalOp, resolve_append regs more x hx, resolveRhs_append regs more r hr]
  | segconcat s r =>
    obtain ⟨hs, hr⟩ := Bool.and_eq_true_iff.1 h
    simp only [evalOp, resolveSeg_append regs more s hs, resolveRhs_append regs more r hr]

def Ref.NormalLit : Ref → Prop
  | .reg _ => True
  | .lit t => Normal t

def HRhs.NormalLit : HRhs → Prop
  | .text t => t.NormalLit
  | _ => True

/-- Every literal text of the op is in normal form, and the op is not a restyling
(`StyleText` keeps the normal form only when it does not map the styles of two
neighbours to one style: `C33_styleText_normal_partial`, finding
styletext-merges-neighbour-styles). -/
def HOp.NormalLits : HOp → Prop
  | .lit t => Normal t
  | .concat xs => ∀ x ∈ xs, x.NormalLit
  | .partition x _ | .split x _ | .trimw x _ | .clone x | .sub x _ _ | .rtextconcat x _ | .tbwrite x => x.NormalLit
  | .styletext _ _ => False
  | .textconcat x r => x.NormalLit ∧ r.NormalLit
  | .segconcat _ r => r.NormalLit
  | .rsegconcat _ _ | .tbtext | .tbreset => True

theorem resolve_normal (regs : List Text) (hr : ∀ t ∈ regs, Normal t) (x : Ref) (hx : x.NormalLit) (t : Text)
    (h : resolve regs x = some t) : Normal t := by
  cases x with
  | lit u => exact Option.some.inj h ▸ hx
  | reg i => exact hr t (List.mem_of_getElem? h)

theorem mapM_resolve_normal (regs : List Text) (hr : ∀ t ∈ regs, Normal t) (xs : List Ref) (ts : List Text)
    (hx : ∀ x ∈ xs, x.NormalLit) (h : xs.mapM (resolve regs) = some ts) : ∀ t ∈ ts, Normal t := by
  induction xs generalizing ts with
  | nil => cases h; simp
  | cons x xs ih =>
    simp only [List.mapM_cons, Option.pure_def, Option.bind_eq_bind, Option.bind_eq_some_iff, Option.some.injEq] at h
    obtain ⟨t1, h1, ts2, h2, rfl⟩ := h
    intro t ht
    rcases List.mem_cons.1 ht with rfl | ht
    · exact resolve_normal regs hr x (hx x List.mem_cons_self) _ h1
    · exact ih ts2 (fun y hy => hx y (List.mem_cons_of_mem _ hy)) h2 t ht

theorem subText_normal (t : Text) (lo hi : Nat) (r : Text) (ht : Normal t) (h : subText t lo hi = some r) : Normal r := by
  unfold subText at h
  split at h
  · rw [← Option.some.inj h]
    rw [← List.take_append_drop lo t, Normal_append_iff] at ht
    have h1 := ht.2.1
    rw [← List.take_append_drop (hi - lo) (t.drop lo), Normal_append_iff] at h1
    exact h1.1
  · simp at h

theorem Concat2_normal (a b : Text) (ha : Normal a) (hb : Normal b) : Normal (Concat [a, b]) :=
  Concat_normal _ (by simp [ha, hb])

def Rhs.NormalText : Rhs → Prop
  | .text t => Normal t
  | _ => True

theorem resolveRhs_normal (regs : List Text) (hr : ∀ t ∈ regs, Normal t) (x : HRhs) (hx : x.NormalLit) (r : Rhs)
    (h : resolveRhs regs x = some r) : r.NormalText := by
  cases x with
  | str s => exact Option.some.inj h ▸ trivial
  | seg s => obtain ⟨a, _, rfl⟩ := Option.map_eq_some_iff.1 h; trivial
  | text t => obtain ⟨a, ha, rfl⟩ := Option.map_eq_some_iff.1 h; exact resolve_normal regs hr t hx a ha

theorem Text_concat_normal (t : Text) (r : Rhs) (ht : Normal t) (hr : r.NormalText) : Normal (Text.concat t r) := by
  cases r with
  | str s => exact Concat2_normal _ _ ht (T_normal s [])
  | seg s => exact Concat2_normal _ _ ht (textFromSegment_normal s)
  | text u => exact Concat2_normal _ _ ht hr

theorem Segment_concat_normal (s : Segment) (r : Rhs) (hr : r.NormalText) : Normal (s.concat r) :=
  Text_concat_normal _ r (textFromSegment_normal s) hr

theorem evalOp_normal (wd : Int → Int) (regs : List Text) (tb : TB) (op : HOp)
    (hr : ∀ t ∈ regs, Normal t) (htb : TBInv tb) (hop : op.NormalLits) :
    (∀ t ∈ (evalOp wd regs tb op).1.values, Normal t) ∧ TBInv (evalOp wd regs tb op).2 := by
  have one : ∀ {t : Text}, Normal t → (∀ u ∈ (HOut.one t).values, Normal u) ∧ TBInv tb :=
    fun ht => ⟨by simpa [HOut.values] using ht, htb⟩
  have none : ∀ {o : HOut} {tb' : TB}, o.values = [] → TBInv tb' → (∀ u ∈ o.values, Normal u) ∧ TBInv tb' :=
    fun h h' => ⟨by simp [h], h'⟩
  have ref : ∀ {x : Ref} {t : Text}, x.NormalLit → resolve regs x = some t → Normal t :=
    fun hx h => resolve_normal regs hr _ hx _ h
  cases op with
  | lit t => exact one hop
  | concat xs =>
    simp only [evalOp]; split
    · exact one (Concat_normal _ (mapM_resolve_normal regs hr xs _ hop ‹_›))
    · exact none rfl htb
  | partition x idx =>
    simp only [evalOp]; split
    · exact ⟨partitionGo_normal _ 0 idx (ref hop ‹_›), htb⟩
    · exact none rfl htb
  | split x r =>
    simp only [evalOp]; split
    · split
      · exact ⟨SplitByRune_normal _ r _ ‹_›, htb⟩
      · exact none rfl htb
    · exact none rfl htb
  | trimw x w =>
    simp only [evalOp]; split
    · exact one (trimGo_inv wd {} _ w TBInv_empty)
    · exact none rfl htb
  | styletext x ts => exact hop.elim
  | clone x =>
    simp only [evalOp]; split
    · exact one (ref hop ‹_›)
    · exact none rfl htb
  | sub x lo hi =>
    simp only [evalOp]; split
    · split
      · exact one (subText_normal _ lo hi _ (ref hop ‹_›) ‹_›)
      · exact none rfl htb
    · exact none rfl htb
  | textconcat x r =>
    simp only [evalOp]; split
    · exact one (Text_concat_normal _ _ (ref hop.1 ‹_›) (resolveRhs_normal regs hr r hop.2 _ ‹_›))
    · exact none rfl htb
  | rtextconcat x l =>
    simp only [evalOp]; split
    · exact one (Concat2_normal _ _ (T_normal l []) (ref hop ‹_›))
    · exact none rfl htb
  | segconcat s r =>
    simp only [evalOp]; split
    · exact one (Segment_concat_normal _ _ (resolveRhs_normal regs hr r hop _ ‹_›))
    · exact none rfl htb
  | rsegconcat s l =>
    simp only [evalOp]; split
    · exact one (Concat2_normal _ _ (T_normal l []) (textFromSegment_normal _))
    · exact none rfl htb
  | tbwrite x =>
    simp only [evalOp]; split
    · exact none rfl (TBInv_writeText tb _ htb (ref hop ‹_›))
    · exact none rfl htb
  | tbtext => exact one htb
  | tbreset => exact none rfl TBInv_empty

def HInv (s : HState) : Prop := (∀ t ∈ s.regs, Normal t) ∧ TBInv s.tb

theorem HInv_init : HInv {} := ⟨by simp, TBInv_empty⟩

theorem HInv_step (wd : Int → Int) (s : HState) (op : HOp) (hs : HInv s) (hop : op.NormalLits) :
    HInv (s.step wd op).1 := by
  obtain ⟨h1, h2⟩ := evalOp_normal wd s.regs s.tb op hs.1 hs.2 hop
  refine ⟨fun t ht => ?_, h2⟩
  rw [step_regs] at ht
  exact (List.mem_append.1 ht).elim (hs.1 t) (h1 t)

theorem HInv_run (wd : Int → Int) : ∀ (ops : List HOp) (s : HState), HInv s → (∀ op ∈ ops, op.NormalLits) →
    HInv (s.run wd ops)
  | [], _, hs, _ => hs
  | op :: ops, s, hs, hops =>
    HInv_run wd ops _ (HInv_step wd s op hs (hops op List.mem_cons_self)) (fun o ho => hops o (List.mem_cons_of_mem _ ho))

end C33
