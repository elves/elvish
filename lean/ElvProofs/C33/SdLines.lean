/-
What the segments of the lines `SplitByRune('\n')` hands to styledown's `Derender` look like —
encodings of scalar values that are not newlines and have non-zero width — when the text has no
invalid UTF-8 and no zero-width character.
-/
import ElvProofs.C33.Split
import ElvProofs.Lemmas.Utf8
namespace C33
open Go

variable (wd : Int → Int)

/-- Valid UTF-8: the encoding of a list of Unicode scalar values (`utf8.ValidString`). -/
def IsUtf8 (s : Bytes) : Prop := ∃ rs : List Nat, (∀ r ∈ rs, validRune r = true) ∧ s = encodeRunes rs

theorem encodeRunes_nil : encodeRunes [] = [] := Go.encodeRunes_nil

theorem encodeRune_nl : encodeRune 10 = [10] := by decide

theorem splitBytes_nl (t : Bytes) : splitBytes [10] (10 :: t) = [] :: splitBytes [10] t := by
  simp [splitBytes, splitGo, List.isPrefixOf]

theorem splitBytes_prefix (pre : Bytes) (hpre : ∀ b ∈ pre, b ≠ 10) (t : Bytes) :
    ∃ p ps, splitBytes [10] t = p :: ps ∧ splitBytes [10] (pre ++ t) = (pre ++ p) :: ps := by
  induction pre with
  | nil =>
    cases h : splitBytes [10] t with
    | nil => exact absurd h (splitGo_ne_nil [10] 0 t)
    | cons p ps => exact ⟨p, ps, rfl, h⟩
  | cons b pre ih =>
    obtain ⟨p, ps, h1, h2⟩ := ih (fun x hx => hpre x (List.mem_cons_of_mem _ hx))
    refine ⟨p, ps, h1, ?_⟩
    have hb : (10 : UInt8) ≠ b := fun e => hpre b List.mem_cons_self e.symm
    unfold splitBytes at h2
    simp [splitBytes, splitGo, List.isPrefixOf, hb, h2]

/-- Text of a segment of the input: valid UTF-8 without zero-width characters (newlines aside). -/
def SegTxt (wd : Int → Int) (s : Bytes) : Prop :=
  ∃ rs : List Nat, (∀ r ∈ rs, validRune r = true ∧ (r ≠ 10 → wd (r : Int) ≠ 0)) ∧ s = encodeRunes rs

/-- Text of a segment of a line: additionally no newline. -/
def LineTxt (wd : Int → Int) (s : Bytes) : Prop :=
  ∃ rs : List Nat, (∀ r ∈ rs, validRune r = true ∧ r ≠ 10 ∧ wd (r : Int) ≠ 0) ∧ s = encodeRunes rs

theorem LineTxt.nil : LineTxt wd [] := ⟨[], by simp, rfl⟩

theorem LineTxt.append {wd : Int → Int} {a b : Bytes} (ha : LineTxt wd a) (hb : LineTxt wd b) : LineTxt wd (a ++ b) := by
  obtain ⟨ra, h1, rfl⟩ := ha
  obtain ⟨rb, h2, rfl⟩ := hb
  exact ⟨ra ++ rb, fun r hr => (List.mem_append.1 hr).elim (h1 r) (h2 r), (encodeRunes_append ra rb).symm⟩

theorem LineTxt.no_nl {wd : Int → Int} {s : Bytes} (h : LineTxt wd s) : ∀ b ∈ s, b ≠ 10 := by
  obtain ⟨rs, h1, rfl⟩ := h
  intro b hb
  obtain ⟨r, hr, hb⟩ := List.mem_flatMap.1 hb
  exact encodeRune_ne_ascii (c := 10) (by decide) (h1 r hr).2.1 b hb

theorem pieces_lineTxt (s : Bytes) (h : SegTxt wd s) : ∀ p ∈ splitBytes [10] s, LineTxt wd p := by
  obtain ⟨rs, h1, rfl⟩ := h
  induction rs with
  | nil => intro p hp; rw [List.mem_singleton.1 hp]; exact LineTxt.nil wd
  | cons r rs ih =>
    have ih := ih (fun x hx => h1 x (List.mem_cons_of_mem _ hx))
    obtain ⟨hv, hw⟩ := h1 r List.mem_cons_self
    rw [encodeRunes_cons]
    by_cases hr : r = 10
    · rw [hr, encodeRune_nl, List.singleton_append, splitBytes_nl]
      intro p hp
      rcases List.mem_cons.1 hp with rfl | hp
      · exact LineTxt.nil wd
      · exact ih p hp
    · obtain ⟨p, ps, e1, e2⟩ := splitBytes_prefix (encodeRune r) (encodeRune_ne_ascii (c := 10) (by decide) hr) (encodeRunes rs)
      rw [e1] at ih
      rw [e2]
      intro q hq
      rcases List.mem_cons.1 hq with rfl | hq
      · exact LineTxt.append ⟨[r], by simp [hv, hr, hw hr], by simp [encodeRunes]⟩ (ih p List.mem_cons_self)
      · exact ih q (List.mem_cons_of_mem _ hq)

def TBAll (Q : Bytes → Prop) (tb : TB) : Prop := ∀ s ∈ tb.flat, Q s.text

theorem TBAll_writeRest (Q : Bytes → Prop) (tb : TB) (t : Text) (h : TBAll Q tb) (ht : ∀ s ∈ t, Q s.text) :
    TBAll Q (tb.writeRest t) := by
  by_cases hne : t = []
  · rw [hne]; exact h
  · intro s hs
    rw [TB.flat_writeRest tb hne] at hs
    rcases List.mem_append.1 hs with hs | hs
    · refine h s ?_
      unfold TB.flushed at hs
      split at hs
      · exact List.mem_append_left _ hs
      · exact hs
    · exact ht s hs

theorem TBAll_writeText (Q : Bytes → Prop) (happ : ∀ a b, Q a → Q b → Q (a ++ b)) (tb : TB) (t : Text)
    (h : TBAll Q tb) (ht : ∀ s ∈ t, Q s.text) : TBAll Q (tb.writeText t) := by
  cases t with
  | nil => exact h
  | cons s0 rest =>
    rw [TB.writeText_cons]
    split
    · refine TBAll_writeRest Q _ rest (fun s hs => ?_) (fun s hs => ht s (List.mem_cons_of_mem _ hs))
      rcases List.mem_append.1 hs with hs | hs
      · exact h s (List.mem_append_left _ hs)
      · rw [List.mem_singleton.1 hs]
        exact happ _ _ (h ⟨tb.style, tb.text⟩ (by simp [TB.flat])) (ht s0 List.mem_cons_self)
    · exact TBAll_writeRest Q tb _ h ht

theorem TBAll_iff_toText (Q : Bytes → Prop) (hnil : Q []) (tb : TB) : TBAll Q tb ↔ ∀ s ∈ tb.toText, Q s.text := by
  rcases tb.toText_cases with ⟨h1, h2, h3⟩ | h
  · simp [TBAll, TB.flat, h1, h2, h3, hnil]
  · rw [h]; rfl

theorem SplitByRune_lines (t : Text) (ht : ∀ s ∈ t, SegTxt wd s.text) (ls : List Text)
    (h : SplitByRune t 10 = some ls) : ∀ line ∈ ls, ∀ s ∈ line, LineTxt wd s.text := by
  refine SplitByRune_all (fun l => ∀ s ∈ l, LineTxt wd s.text) (fun p => LineTxt wd p.text) (by simp)
    (fun tb p h hp => ?_) t 10 (fun seg hseg p hp => ?_) ls h
  · rw [← TBAll_iff_toText _ (LineTxt.nil wd)] at h ⊢
    refine TBAll_writeText _ (fun _ _ => LineTxt.append) tb _ h ?_
    unfold textFromSegment
    split <;> simp [hp]
  · obtain ⟨q, hq, rfl⟩ := List.mem_map.1 hp
    exact pieces_lineTxt wd seg.text (ht seg hseg) q (runeString_nl ▸ hq)

end C33
