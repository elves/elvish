/-
`T`, `StyleText`, `Partition` and `TrimWcwidth`: content and normal form.
-/
import ElvProofs.C33.Normal
import ElvProofs.C34.Trim
namespace C33
open Go

theorem T_eq (s : Bytes) (ts : List Styling) :
    T s ts = if s = [] then [] else [{ style := applyStyling {} ts, text := s }] := by
  unfold T styleText styleSegment
  cases s <;> simp

theorem T_normal (s : Bytes) (ts : List Styling) : Normal (T s ts) := by
  rw [T_eq]
  split
  · exact Normal_nil
  · rename_i h; exact (Normal_single _).2 h

theorem plain_T (s : Bytes) (ts : List Styling) : plain (T s ts) = s := by
  rw [T_eq]
  split
  · rename_i h; rw [h]; rfl
  · simp [plain]

theorem styleText_eq_map (t : Text) (ts : List Styling) : styleText t ts = t.map fun seg => styleSegment seg ts := by
  cases t <;> rfl

theorem plain_styleText (t : Text) (ts : List Styling) : plain (styleText t ts) = plain t := by
  simp [styleText_eq_map, plain, styleSegment, Function.comp_def]

theorem styleText_length (t : Text) (ts : List Styling) : (styleText t ts).length = t.length := by
  simp [styleText_eq_map]

def NoMergedNeighbours (ts : List Styling) : Text → Prop
  | a :: b :: r => applyStyling a.style ts ≠ applyStyling b.style ts ∧ NoMergedNeighbours ts (b :: r)
  | _ => True

instance decNoMerged (ts : List Styling) : (t : Text) → Decidable (NoMergedNeighbours ts t)
  | [] => isTrue trivial
  | [_] => isTrue trivial
  | a :: b :: r => by
    unfold NoMergedNeighbours
    exact @instDecidableAnd _ _ inferInstance (decNoMerged ts (b :: r))

theorem styleText_normal_iff (t : Text) (ts : List Styling) (h : Normal t) :
    Normal (styleText t ts) ↔ NoMergedNeighbours ts t := by
  rw [styleText_eq_map]
  induction t with
  | nil => simp [NoMergedNeighbours, Normal_nil]
  | cons a r ih =>
    cases r with
    | nil => simpa [NoMergedNeighbours, Normal_single, styleSegment] using Normal_head h
    | cons b r =>
      obtain ⟨h1, _, h3⟩ := (Normal_cons2 a b r).1 h
      have ih := ih h3
      rw [List.map_cons] at ih
      rw [List.map_cons, List.map_cons, Normal_cons2, ih, NoMergedNeighbours]
      simp [styleSegment, h1]

/-- What `Partition` does at one index, on styled bytes: the part is the first `k` of them. -/
theorem consume_cells (segs : Text) (k : Int) :
    styledBytes (consume segs k).1 = (styledBytes segs).take k.toNat ∧
      styledBytes (consume segs k).2 = (styledBytes segs).drop k.toNat := by
  induction segs generalizing k with
  | nil => exact ⟨List.take_nil.symm, List.drop_nil.symm⟩
  | cons seg rest ih =>
    have hl : (seg.text.map fun b => (seg.style, b)).length = seg.text.length := List.length_map _
    rw [consume, styledBytes_cons]
    by_cases hk : k > 0
    · rw [if_pos hk]
      by_cases hseg : (seg.text.length : Int) ≤ k
      · -- the whole segment is consumed: the rest is cut at what remains of `k`
        have e : k.toNat = (seg.text.map fun b => (seg.style, b)).length + (k - seg.text.length).toNat := by
          rw [hl]; omega
        rw [if_pos hseg, e, List.take_length_add_append, List.drop_length_add_append, ← (ih _).1, ← (ih _).2]
        exact ⟨styledBytes_cons _ _, rfl⟩
      · have hlt : k.toNat ≤ (seg.text.map fun b => (seg.style, b)).length := by omega
        rw [if_neg hseg, List.take_append_of_le_length hlt, List.drop_append_of_le_length hlt,
          ← List.map_take, ← List.map_drop]
        exact ⟨styledBytes_single _, styledBytes_cons _ _⟩
    · rw [if_neg hk, show k.toNat = 0 by omega]
      exact ⟨rfl, styledBytes_cons _ _⟩

theorem consume_content (segs : Text) (k : Int) :
    styledBytes (consume segs k).1 ++ styledBytes (consume segs k).2 = styledBytes segs := by
  rw [(consume_cells segs k).1, (consume_cells segs k).2, List.take_append_drop]

theorem consume_size (segs : Text) (k : Int) (h0 : 0 ≤ k) (hk : k ≤ (plain segs).length) :
    ((plain (consume segs k).1).length : Int) = k := by
  rw [← styledBytes_length, (consume_cells segs k).1, List.length_take, styledBytes_length]
  omega

theorem consume_head (segs : Text) (k : Int) :
    ∀ a ∈ (consume segs k).1.head?, ∃ b ∈ segs.head?, a.style = b.style := by
  cases segs with
  | nil => simp [consume]
  | cons seg rest =>
    unfold consume
    split
    · split <;> simp
    · simp

theorem consume_normal (segs : Text) (k : Int) (h : Normal segs) :
    Normal (consume segs k).1 ∧ Normal (consume segs k).2 := by
  induction segs generalizing k with
  | nil => exact ⟨Normal_nil, Normal_nil⟩
  | cons seg rest ih =>
    obtain ⟨hne, hd, hr⟩ := (Normal_cons seg rest).1 h
    unfold consume
    split
    · split
      · obtain ⟨ia, ib⟩ := ih (k - seg.text.length) hr
        refine ⟨(Normal_cons _ _).2 ⟨hne, fun a ha => ?_, ia⟩, ib⟩
        obtain ⟨b, hb, hst⟩ := consume_head rest _ a ha
        rw [hst]; exact hd b hb
      · -- the segment is cut in two non-empty pieces of its style
        refine ⟨(Normal_single _).2 ?_, (Normal_cons _ _).2 ⟨?_, hd, hr⟩⟩
        · simp only [ne_eq, List.take_eq_nil_iff, hne, or_false]; omega
        · simp only [ne_eq, List.drop_eq_nil_iff]; omega
    · exact ⟨Normal_nil, h⟩

theorem partitionGo_normal (segs : Text) (prev : Int) (idx : List Int) (h : Normal segs) :
    ∀ p ∈ partitionGo segs prev idx, Normal p := by
  induction idx generalizing segs prev with
  | nil => intro p hp; simp only [partitionGo, List.mem_singleton] at hp; subst hp; exact h
  | cons i rest ih =>
    intro p hp
    simp only [partitionGo] at hp
    obtain ⟨na, nb⟩ := consume_normal segs (i - prev) h
    rcases List.mem_cons.1 hp with rfl | hp
    · exact na
    · exact ih _ i nb p hp

theorem partitionGo_content (segs : Text) (prev : Int) (idx : List Int) :
    ((partitionGo segs prev idx).map styledBytes).flatten = styledBytes segs := by
  induction idx generalizing segs prev with
  | nil => simp [partitionGo]
  | cons i rest ih =>
    simp only [partitionGo, List.map_cons, List.flatten_cons]
    rw [ih, consume_content]

theorem partitionGo_length (segs : Text) (prev : Int) (idx : List Int) :
    (partitionGo segs prev idx).length = idx.length + 1 := by
  induction idx generalizing segs prev with
  | nil => rfl
  | cons i rest ih => simp only [partitionGo, List.length_cons, ih]

/-- The segments `TrimWcwidth` keeps, before they go through the builder. -/
def kept (wd : Int → Int) : Text → Int → Text
  | [], _ => []
  | seg :: rest, wmax =>
    let w := C34.Of wd seg.text
    if w > wmax then [{ style := seg.style, text := C34.Trim wd seg.text wmax }]
    else seg :: kept wd rest (wmax - w)

theorem trimGo_inv (wd : Int → Int) (tb : TB) (t : Text) (w : Int) (h : TBInv tb) : TBInv (trimGo wd tb t w) := by
  induction t generalizing tb w with
  | nil => exact h
  | cons seg rest ih =>
    unfold trimGo
    simp only
    split
    · exact TBInv_writeText _ _ h (textFromSegment_normal _)
    · exact ih _ _ (TBInv_writeText _ _ h (textFromSegment_normal _))

theorem trimGo_content (wd : Int → Int) (tb : TB) (t : Text) (w : Int) :
    styledBytes (trimGo wd tb t w).toText = styledBytes tb.toText ++ styledBytes (kept wd t w) := by
  induction t generalizing tb w with
  | nil => simp [trimGo, kept, styledBytes_nil]
  | cons seg rest ih =>
    unfold trimGo kept
    simp only
    split
    · rw [TB.styledBytes_writeText, styledBytes_textFromSegment]
    · rw [ih, TB.styledBytes_writeText, styledBytes_textFromSegment, styledBytes_single, styledBytes_cons,
        List.append_assoc]

theorem Trim_prefix (wd : Int → Int) (s : Bytes) (w : Int) : ∃ rest, s = C34.Trim wd s w ++ rest := by
  unfold C34.Trim
  split
  · rename_i i _; exact ⟨s.drop i, (List.take_append_drop i s).symm⟩
  · exact ⟨[], by simp⟩

theorem kept_prefix (wd : Int → Int) (t : Text) (w : Int) :
    ∃ rest, styledBytes t = styledBytes (kept wd t w) ++ rest := by
  induction t generalizing w with
  | nil => exact ⟨[], rfl⟩
  | cons seg rest ih =>
    unfold kept
    simp only
    split
    · obtain ⟨r, hr⟩ := Trim_prefix wd seg.text w
      refine ⟨r.map (fun b => (seg.style, b)) ++ styledBytes rest, ?_⟩
      rw [styledBytes_cons, styledBytes_single, ← List.append_assoc, ← List.map_append, ← hr]
    · obtain ⟨r, hr⟩ := ih (w - C34.Of wd seg.text)
      exact ⟨r, by rw [styledBytes_cons, styledBytes_cons, hr, List.append_assoc]⟩

/-- Width of a text the way the code measures it: segment by segment. -/
def segsWidth (wd : Int → Int) (t : Text) : Int := (t.map fun s => C34.Of wd s.text).sum

theorem kept_width (wd : Int → Int) (t : Text) (w : Int) (hw : 0 ≤ w) : segsWidth wd (kept wd t w) ≤ w := by
  induction t generalizing w with
  | nil => simpa [kept, segsWidth] using hw
  | cons seg rest ih =>
    unfold kept
    simp only
    split
    · simp only [segsWidth, List.map_cons, List.map_nil, List.sum_cons, List.sum_nil, Int.add_zero]
      exact C34.Trim_width_le wd seg.text w hw
    · have := ih (w - C34.Of wd seg.text) (by omega)
      simp only [segsWidth, List.map_cons, List.sum_cons] at this ⊢
      omega

end C33
