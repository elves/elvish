/-
styledown `Derender`: what the `styleDefs` loop establishes about `charForStyle`/`charDef`,
and the shape of the markup the segment/line loops produce (content and style lines, the
definitions written to the configuration stanza in order of first use, each once).
-/
import ElvProofs.C33.SdRender
namespace C33
open Go

variable (wd : Int → Int) (pd : DefParser)

/-- What is assumed of `pd` (the `strings.Fields`/`DecodeRuneInString`/`ParseStyling`
part of `parseStyleCharDef`): the style character is a scalar value (it equals
`string(r)`), it is not a newline (a field contains no white space), and a line
whose character is single-width is not zero-width itself (the character occurs
in it).  `"no-eol"` has a single field, so it is not a definition. -/
structure PdOK (wd : Int → Int) (pd : DefParser) : Prop where
  valid : ∀ line r st, pd line = some (r, st) → validRune r = true ∧ r ≠ 10
  width : ∀ line r st, pd line = some (r, st) → wd (r : Int) = 1 → C34.Of wd line ≠ 0
  noeol : pd noEolLine = none

theorem parseDef_some {wd : Int → Int} {pd : DefParser} {line : Bytes} {r : Rune} {st : Style}
    (h : parseDef wd pd line = some (r, st)) : pd line = some (r, st) ∧ wd (r : Int) = 1 := by
  unfold parseDef at h
  split at h
  · rename_i r' st' hp
    split at h
    · rename_i hw
      obtain ⟨rfl, rfl⟩ := Prod.mk.inj (Option.some.inj h)
      exact ⟨hp, hw⟩
    · simp at h
  · simp at h

theorem lookup_snoc_eq_some {α β} [BEq α] [LawfulBEq α] {l : List (α × β)} {k a : α} {v x : β}
    (h : (l ++ [(k, v)]).lookup a = some x) : l.lookup a = some x ∨ (l.lookup a = none ∧ a = k ∧ x = v) := by
  rw [List.lookup_append] at h
  cases hl : l.lookup a with
  | some y => left; simpa [hl] using h
  | none =>
    rw [hl, Option.none_or, List.lookup_cons, List.lookup_nil] at h
    by_cases hak : a = k
    · subst hak
      rw [beq_self_eq_true] at h
      exact .inr ⟨rfl, rfl, (Option.some.inj h).symm⟩
    · rw [beq_false_of_ne hak] at h; cases h

theorem lookup_snoc_self {α β} [BEq α] [LawfulBEq α] {l : List (α × β)} {k : α} (v : β)
    (h : l.lookup k = none) : (l ++ [(k, v)]).lookup k = some v := by
  rw [List.lookup_append, h]; simp

/-- Facts about `charForStyle` (`cfs`) and `charDef` (`cds`) after the `styleDefs` loop. -/
structure DefsOK (wd : Int → Int) (pd : DefParser) (cfs : List (Style × Rune)) (cds : List (Rune × Bytes)) : Prop where
  cfs_cds : ∀ st r, cfs.lookup st = some r → ∃ line, cds.lookup r = some line ∧ parseDef wd pd line = some (r, st)
  cds_ok : ∀ r line, cds.lookup r = some line →
    line ≠ [] ∧ C34.NoNL line ∧ ∃ st, parseDef wd pd line = some (r, st)

theorem DefsOK.empty : DefsOK wd pd [] [] :=
  ⟨by simp, by simp⟩

theorem derenderDefs_ok (X : List Bytes) (hX : ∀ x ∈ X, C34.NoNL x)
    (cfs : List (Style × Rune)) (cds : List (Rune × Bytes)) (cfs' : List (Style × Rune)) (cds' : List (Rune × Bytes))
    (h : DefsOK wd pd cfs cds) (e : derenderDefs wd pd X cfs cds = some (cfs', cds')) : DefsOK wd pd cfs' cds' := by
  induction X generalizing cfs cds with
  | nil => obtain ⟨rfl, rfl⟩ := Prod.mk.inj (Option.some.inj e); exact h
  | cons line X ih =>
    have hX' : ∀ x ∈ X, C34.NoNL x := fun x hx => hX x (List.mem_cons_of_mem _ hx)
    rw [derenderDefs] at e
    split at e
    · exact ih hX' _ _ h e
    · rename_i hne
      split at e
      · simp at e
      · rename_i r st hpd
        split at e
        · simp at e
        · split at e
          · simp at e
          · -- a new definition: its style and its character were free
            rename_i hcf hcd
            rw [Option.not_isSome_iff_eq_none] at hcf hcd
            refine ih hX' _ _ ⟨fun st' r' hl => ?_, fun r' l hl => ?_⟩ e
            · rcases lookup_snoc_eq_some hl with hl | ⟨_, rfl, rfl⟩
              · obtain ⟨l, h1, h2⟩ := h.cfs_cds st' r' hl
                exact ⟨l, (List.prefix_append _ _).lookup_eq_some h1, h2⟩
              · exact ⟨line, lookup_snoc_self _ hcd, hpd⟩
            · rcases lookup_snoc_eq_some hl with hl | ⟨_, rfl, rfl⟩
              · exact h.cds_ok r' l hl
              · exact ⟨by simpa using hne, hX l List.mem_cons_self, st, hpd⟩

theorem lookup_markWritten (cds : List (Rune × Bytes)) (c r : Rune) :
    (markWritten cds c).lookup r = if r = c then (cds.lookup r).map (fun _ => []) else cds.lookup r := by
  induction cds with
  | nil => simp [markWritten]
  | cons p cds ih =>
    obtain ⟨k, v⟩ := p
    have e : markWritten ((k, v) :: cds) c = (k, if k = c then [] else v) :: markWritten cds c := by
      simp only [markWritten, List.map_cons, beq_iff_eq]; split <;> rfl
    rw [e, List.lookup_cons, List.lookup_cons, ih]
    by_cases hr : r = k
    · subst hr; by_cases hc : r = c <;> simp [hc]
    · simp only [beq_false_of_ne hr]

theorem builtin_lookup : ∀ b ∈ builtinChars, builtinChars.lookup b.1 = some b.2 := by decide

theorem charFor_origin {wd : Int → Int} {pd : DefParser} {cfs : List (Style × Rune)} {cds0 : List (Rune × Bytes)}
    (dok : DefsOK wd pd cfs cds0) {st : Style} {c : Rune} (h : charFor cfs cds0 st = some c) :
    (cds0.lookup c = none ∧ builtinChars.lookup c = some st) ∨
      ∃ l, cds0.lookup c = some l ∧ parseDef wd pd l = some (c, st) ∧ l ≠ [] := by
  unfold charFor at h
  split at h
  · rename_i b hb
    obtain rfl := Option.some.inj h
    have hp := List.find?_some hb
    simp only [Bool.and_eq_true, beq_iff_eq, Option.isNone_iff_eq_none] at hp
    exact .inl ⟨hp.2, by rw [builtin_lookup b (List.mem_of_find?_eq_some hb), hp.1]⟩
  · obtain ⟨l, h1, h2⟩ := dok.cfs_cds _ _ h
    exact .inr ⟨l, h1, h2, (dok.cds_ok c l h1).1⟩

/-- A definition written to the configuration stanza: character, style, definition line. -/
abbrev WEntry := Rune × Style × Bytes

/-- The state of `Derender`'s loops: `W` lists the definitions written so far, in order. -/
structure WInv (wd : Int → Int) (pd : DefParser) (cds0 : List (Rune × Bytes)) (config0 : Bytes)
    (cds : List (Rune × Bytes)) (config : Bytes) (W : List WEntry) : Prop where
  cfg : config = config0 ++ nlCat (W.map (·.2.2))
  ent : ∀ w ∈ W, cds0.lookup w.1 = some w.2.2 ∧ parseDef wd pd w.2.2 = some (w.1, w.2.1)
  look : ∀ r, cds.lookup r = if r ∈ W.map (·.1) then some [] else cds0.lookup r
  nd : (W.map (·.1)).Nodup

/-- The style of the segment has a character: a builtin one that `styleDefs` does not redefine, or
one whose definition has been written. -/
def Settled (cfs : List (Style × Rune)) (cds0 : List (Rune × Bytes)) (W : List WEntry) (seg : Segment) : Prop :=
  ∃ c : Nat, charFor cfs cds0 seg.style = some c ∧
    ((cds0.lookup c = none ∧ builtinChars.lookup c = some seg.style) ∨ ∃ line, (c, seg.style, line) ∈ W)

theorem Settled.mono {cfs cds0 W seg} (X : List WEntry) (h : Settled cfs cds0 W seg) : Settled cfs cds0 (W ++ X) seg := by
  obtain ⟨c, h1, h2⟩ := h
  exact ⟨c, h1, h2.imp_right fun ⟨l, hl⟩ => ⟨l, List.mem_append_left _ hl⟩⟩

/-- One segment, `d` being the definition line `charDef` still holds for its character: the
definition is written unless the character is builtin or was written before. -/
theorem WInv.step {wd : Int → Int} {pd : DefParser} {cfs : List (Style × Rune)} {cds0 cds : List (Rune × Bytes)}
    {config0 config : Bytes} {W : List WEntry} (dok : DefsOK wd pd cfs cds0) (inv : WInv wd pd cds0 config0 cds config W)
    {seg : Segment} {c : Rune} (hcf : charFor cfs cds0 seg.style = some c) {d : Bytes} (hd : (cds.lookup c).getD [] = d) :
    ∃ X, Settled cfs cds0 (W ++ X) seg ∧ WInv wd pd cds0 config0 (if d.isEmpty then cds else markWritten cds c)
      (if d.isEmpty then config else config ++ d ++ [10]) (W ++ X) := by
  rw [inv.look c] at hd
  have keep : d = [] → Settled cfs cds0 W seg → ∃ X, Settled cfs cds0 (W ++ X) seg ∧
      WInv wd pd cds0 config0 (if d.isEmpty then cds else markWritten cds c)
        (if d.isEmpty then config else config ++ d ++ [10]) (W ++ X) :=
    fun he hs => ⟨[], by simpa using hs, by simpa [he] using inv⟩
  rcases charFor_origin dok hcf with ⟨h0, hb⟩ | ⟨l, h1, h2, hne⟩
  · exact keep (by rw [← hd, h0]; split <;> rfl) ⟨c, hcf, .inl ⟨h0, hb⟩⟩
  · by_cases hW : c ∈ W.map (·.1)
    · -- written before: the entry for `c` is this definition
      refine keep (by rw [← hd, if_pos hW]; rfl) ⟨c, hcf, .inr ⟨l, ?_⟩⟩
      obtain ⟨⟨c', st', l'⟩, hw, rfl⟩ := List.mem_map.1 hW
      obtain ⟨e1, e2⟩ := inv.ent _ hw
      obtain rfl : l = l' := Option.some.inj (h1.symm.trans e1)
      obtain rfl : seg.style = st' := (Prod.mk.inj (Option.some.inj (h2.symm.trans e2))).2
      exact hw
    · -- first use: the definition is written
      obtain rfl : l = d := by rw [← hd, if_neg hW, h1]; rfl
      refine ⟨[(c, seg.style, l)], ⟨c, hcf, .inr ⟨l, by simp⟩⟩, ?_⟩
      rw [if_neg (by simpa using hne), if_neg (by simpa using hne)]
      refine ⟨?_, ?_, ?_, ?_⟩
      · simp [inv.cfg, nlCat]
      · intro w hw
        rcases List.mem_append.1 hw with hw | hw
        · exact inv.ent w hw
        · rw [List.mem_singleton.1 hw]; exact ⟨h1, h2⟩
      · intro r
        rw [lookup_markWritten, inv.look r]
        by_cases hrc : r = c
        · simp [hrc, hW, h1]
        · have : r ∈ (W ++ [(c, seg.style, l)]).map (·.1) ↔ r ∈ W.map (·.1) := by simp [hrc]
          simp only [if_neg hrc, this]
      · rw [List.map_append, List.nodup_append]
        refine ⟨inv.nd, by simp, fun a ha b hb e => hW ?_⟩
        obtain rfl : b = c := List.mem_singleton.1 hb
        exact e ▸ ha

theorem derenderSegs_cons {wd : Int → Int} {cfs : List (Style × Rune)} {cds0 : List (Rune × Bytes)} {seg : Segment}
    {rest : Text} {st st' : DLine} (e : derenderSegs wd cfs cds0 (seg :: rest) st = .ok st') :
    ∃ c d, charFor cfs cds0 seg.style = some c ∧ (st.cds.lookup c).getD [] = d ∧
      derenderSegs wd cfs cds0 rest
        { content := st.content ++ seg.text,
          style := st.style ++ encodeRunes (List.replicate (C34.Of wd seg.text).toNat c),
          cds := if d.isEmpty then st.cds else markWritten st.cds c,
          config := if d.isEmpty then st.config else st.config ++ d ++ [10] } = .ok st' := by
  rw [derenderSegs] at e
  cases hcf : charFor cfs cds0 seg.style with
  | none => simp [hcf] at e
  | some c =>
    simp only [hcf] at e
    by_cases hn : C34.Of wd seg.text < 0
    · simp [repeatRune, hn] at e
    · simp only [repeatRune, if_neg hn, encodeRunes_replicate] at e
      cases hlk : st.cds.lookup c <;> simp only [hlk] at e <;> exact ⟨c, _, rfl, by rw [hlk]; rfl, e⟩

theorem derenderSegs_spec (cfs : List (Style × Rune)) (cds0 : List (Rune × Bytes))
    (config0 : Bytes) (dok : DefsOK wd pd cfs cds0) (line : Text) (st : DLine) (W : List WEntry) (st' : DLine)
    (inv : WInv wd pd cds0 config0 st.cds st.config W) (e : derenderSegs wd cfs cds0 line st = .ok st') :
    ∃ X, WInv wd pd cds0 config0 st'.cds st'.config (W ++ X) ∧ st'.content = st.content ++ plain line ∧
      st'.style = st.style ++ encodeRunes (styleRunes wd (charFor cfs cds0) line) ∧
      ∀ seg ∈ line, Settled cfs cds0 (W ++ X) seg := by
  induction line generalizing st W with
  | nil =>
    obtain rfl := Res.ok.inj e
    exact ⟨[], by simpa using inv, by simp [plain], by simp [styleRunes], by simp⟩
  | cons seg rest ih =>
    obtain ⟨c, d, hcf, hd, e⟩ := derenderSegs_cons e
    obtain ⟨X1, set1, inv1⟩ := inv.step dok hcf hd
    obtain ⟨X2, inv2, c2, s2, set2⟩ := ih _ (W ++ X1) inv1 e
    refine ⟨X1 ++ X2, by rwa [← List.append_assoc], ?_, ?_, fun s hs => ?_⟩
    · rw [c2, plain_cons, List.append_assoc]
    · rw [s2, styleRunes, hcf, encodeRunes_append, List.append_assoc]
    · rw [← List.append_assoc]
      rcases List.mem_cons.1 hs with rfl | hs
      · exact set1.mono X2
      · exact set2 s hs

theorem derenderLines_spec (cfs : List (Style × Rune)) (cds0 : List (Rune × Bytes))
    (config0 : Bytes) (dok : DefsOK wd pd cfs cds0) (L : List Text) (sb : Bytes) (cds : List (Rune × Bytes))
    (config : Bytes) (W : List WEntry) (out : Bytes × Bytes) (inv : WInv wd pd cds0 config0 cds config W)
    (e : derenderLines wd cfs cds0 L sb cds config = .ok out) :
    ∃ X cds', WInv wd pd cds0 config0 cds' out.2 (W ++ X) ∧
      out.1 = sb ++ nlCat (bodyLines wd (charFor cfs cds0) L) ∧
      ∀ l ∈ L, ∀ seg ∈ l, Settled cfs cds0 (W ++ X) seg := by
  induction L generalizing sb cds config W with
  | nil =>
    obtain rfl := Res.ok.inj e
    exact ⟨[], cds, by simpa using inv, by simp [bodyLines, nlCat], by simp⟩
  | cons line rest ih =>
    rw [derenderLines] at e
    cases hs : derenderSegs wd cfs cds0 line { cds := cds, config := config } with
    | ok st =>
      rw [hs] at e
      obtain ⟨X1, inv1, c1, s1, set1⟩ := derenderSegs_spec wd pd cfs cds0 config0 dok line _ W st inv hs
      obtain ⟨X2, cds', inv2, o2, set2⟩ := ih _ _ _ (W ++ X1) inv1 e
      refine ⟨X1 ++ X2, cds', by rwa [← List.append_assoc], ?_, fun l hl seg hseg => ?_⟩
      · rw [o2, c1, s1]
        simp [bodyLines, nlCat]
      · rw [← List.append_assoc]
        rcases List.mem_cons.1 hl with rfl | hl
        · exact (set1 seg hseg).mono X2
        · exact set2 l hl seg hseg
    | exc x => simp [hs] at e
    | panic x => simp [hs] at e

theorem parseConfig_written (hpd : PdOK wd pd) (W : List WEntry) (ne : Bool)
    (sheet0 : List (Rune × Style))
    (h : ∀ w ∈ W, w.2.2 ≠ [] ∧ parseDef wd pd w.2.2 = some (w.1, w.2.1) ∧ sheet0.lookup w.1 = none)
    (nd : (W.map (·.1)).Nodup) :
    parseConfig wd pd (W.map (·.2.2)) ne sheet0 = some (ne, sheet0 ++ W.map fun w => (w.1, w.2.1)) := by
  induction W generalizing sheet0 with
  | nil => simp [parseConfig]
  | cons w W ih =>
    obtain ⟨h1, h2, h3⟩ := h w List.mem_cons_self
    rw [List.map_cons, List.nodup_cons] at nd
    have hn : w.2.2 ≠ noEolLine := fun hh => by simpa [hh, hpd.noeol] using (parseDef_some h2).1
    rw [List.map_cons, parseConfig, if_neg (by simpa using h1), if_neg hn]
    simp only [h2, h3]
    rw [ih (sheet0 ++ [(w.1, w.2.1)]) ?_ nd.2]
    · simp
    · intro w' hw'
      obtain ⟨a, b, c⟩ := h w' (List.mem_cons_of_mem _ hw')
      have hne : w'.1 ≠ w.1 := fun hh => nd.1 (hh ▸ List.mem_map.2 ⟨w', hw', rfl⟩)
      exact ⟨a, b, by simp [List.lookup_append, c, hne]⟩

theorem lookup_written (W : List WEntry) (nd : (W.map (·.1)).Nodup) (c : Rune) (st : Style) (l : Bytes)
    (h : (c, st, l) ∈ W) : (W.map fun w => (w.1, w.2.1)).lookup c = some st := by
  induction W with
  | nil => simp at h
  | cons w W ih =>
    rw [List.map_cons, List.nodup_cons] at nd
    rw [List.map_cons, List.lookup_cons]
    rcases List.mem_cons.1 h with rfl | h
    · simp
    · have hne : c ≠ w.1 := fun hh => nd.1 (hh ▸ List.mem_map.2 ⟨_, h, rfl⟩)
      rw [beq_false_of_ne hne]
      exact ih nd.2 h

theorem lookup_unwritten (W : List WEntry) (c : Rune) (h : c ∉ W.map (·.1)) :
    (W.map fun w => (w.1, w.2.1)).lookup c = none := by
  rw [List.lookup_eq_none_iff]
  intro p hp
  obtain ⟨w, hw, rfl⟩ := List.mem_map.1 hp
  exact bne_iff_ne.2 fun e => h (List.mem_map.2 ⟨w, hw, e.symm⟩)

theorem builtin_char_props (c : Nat) (s : Style) (h : builtinChars.lookup c = some s) :
    validRune c = true ∧ c ≠ 10 ∧ 0x20 ≤ c ∧ c < 0x7f := by
  obtain ⟨l1, l2, e, _⟩ := List.lookup_eq_some_iff.1 h
  exact (by decide : ∀ b ∈ builtinChars, validRune b.1 = true ∧ b.1 ≠ 10 ∧ 0x20 ≤ b.1 ∧ b.1 < 0x7f) (c, s) (by simp [e])

end C33
