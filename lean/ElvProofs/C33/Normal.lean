/-
The normal form of `ui.Text`, the two observations of a text (`styledBytes`, `plain`),
and the `TextBuilder`: what a write does to the content and to the normal form.
-/
import ElvModel.C33.Model
namespace C33
open Go

theorem Normal_nil : Normal [] := rfl

theorem Normal_cons (a : Segment) (r : Text) :
    Normal (a :: r) ↔ a.text ≠ [] ∧ (∀ b ∈ r.head?, a.style ≠ b.style) ∧ Normal r := by
  cases r <;> simp [Normal, normalB, and_assoc]

theorem Normal_single (s : Segment) : Normal [s] ↔ s.text ≠ [] := by
  simp [Normal_cons, Normal_nil]

theorem Normal_cons2 (a b : Segment) (r : Text) :
    Normal (a :: b :: r) ↔ a.text ≠ [] ∧ a.style ≠ b.style ∧ Normal (b :: r) := by
  simp [Normal_cons a]

theorem Normal_tail {a : Segment} {r : Text} (h : Normal (a :: r)) : Normal r :=
  ((Normal_cons a r).1 h).2.2

theorem Normal_head {a : Segment} {r : Text} (h : Normal (a :: r)) : a.text ≠ [] :=
  ((Normal_cons a r).1 h).1

theorem Normal_all_nonempty {t : Text} (h : Normal t) : ∀ s ∈ t, s.text ≠ [] := by
  induction t with
  | nil => intro s hs; simp at hs
  | cons a r ih =>
    intro s hs
    rcases List.mem_cons.1 hs with rfl | hs
    · exact Normal_head h
    · exact ih (Normal_tail h) s hs

def Joinable (A B : Text) : Prop :=
  ∀ a ∈ A.getLast?, ∀ b ∈ B.head?, a.style ≠ b.style

theorem Normal_append_iff (A B : Text) : Normal (A ++ B) ↔ Normal A ∧ Normal B ∧ Joinable A B := by
  induction A with
  | nil => simp [Joinable, Normal_nil]
  | cons a A ih =>
    cases A with
    | nil => simp [Normal_cons a, Joinable, Normal_nil, and_left_comm, and_comm]
    | cons a2 A =>
      rw [List.cons_append, Normal_cons, ih, Normal_cons a]
      simp [Joinable, List.getLast?_cons_cons, and_assoc]

/-- `Normal (S ++ [p])` only depends on `p` through its style and on its text being non-empty. -/
theorem Normal_snoc_iff (S : Text) (p : Segment) :
    Normal (S ++ [p]) ↔ Normal S ∧ p.text ≠ [] ∧ ∀ a ∈ S.getLast?, a.style ≠ p.style := by
  simp [Normal_append_iff, Normal_single, Joinable]

theorem styledBytes_nil : styledBytes [] = [] := rfl
theorem styledBytes_cons (s : Segment) (t : Text) :
    styledBytes (s :: t) = s.text.map (fun b => (s.style, b)) ++ styledBytes t := by
  simp [styledBytes]
theorem styledBytes_append (a b : Text) : styledBytes (a ++ b) = styledBytes a ++ styledBytes b := by
  simp [styledBytes]
theorem styledBytes_single (p : Segment) : styledBytes [p] = p.text.map (fun b => (p.style, b)) := by
  simp [styledBytes]
theorem plain_append (a b : Text) : plain (a ++ b) = plain a ++ plain b := by simp [plain]
theorem plain_nil : plain [] = [] := rfl
theorem plain_cons (s : Segment) (t : Text) : plain (s :: t) = s.text ++ plain t := by simp [plain]

theorem plain_eq (t : Text) : plain t = (styledBytes t).map (·.2) := by
  induction t with
  | nil => rfl
  | cons s t ih => rw [plain_cons, styledBytes_cons, List.map_append, ← ih]; simp [Function.comp_def]

theorem styledBytes_length (t : Text) : (styledBytes t).length = (plain t).length := by
  rw [plain_eq, List.length_map]

/-- The text in normal form with the given styled bytes: one segment for each run of bytes of one style. -/
def regroup : List (Style × UInt8) → Text
  | [] => []
  | (st, b) :: r =>
    match regroup r with
    | s :: rest => if s.style = st then ⟨st, b :: s.text⟩ :: rest else ⟨st, [b]⟩ :: s :: rest
    | [] => [⟨st, [b]⟩]

theorem regroup_run (st : Style) (bs : Bytes) (hbs : bs ≠ []) (R : List (Style × UInt8))
    (hR : ∀ s ∈ (regroup R).head?, s.style ≠ st) :
    regroup (bs.map (fun b => (st, b)) ++ R) = ⟨st, bs⟩ :: regroup R := by
  induction bs with
  | nil => exact absurd rfl hbs
  | cons b bs ih =>
    simp only [List.map_cons, List.cons_append, regroup]
    cases bs with
    | nil =>
      simp only [List.map_nil, List.nil_append]
      cases h : regroup R with
      | nil => rfl
      | cons s rest => rw [h] at hR; simp [hR s rfl]
    | cons b' bs => rw [ih (by simp)]; simp

theorem regroup_styledBytes {t : Text} (h : Normal t) : regroup (styledBytes t) = t := by
  induction t with
  | nil => rfl
  | cons s r ih =>
    obtain ⟨h1, h2, h3⟩ := (Normal_cons s r).1 h
    rw [styledBytes_cons, regroup_run s.style s.text h1 _ (by rw [ih h3]; exact fun b hb => (h2 b hb).symm), ih h3]

theorem Normal_unique (a b : Text) (ha : Normal a) (hb : Normal b) (h : styledBytes a = styledBytes b) : a = b := by
  rw [← regroup_styledBytes ha, h, regroup_styledBytes hb]

theorem styledBytes_eq_nil {t : Text} (h : Normal t) (he : styledBytes t = []) : t = [] :=
  Normal_unique t [] h Normal_nil he

def TB.flat (tb : TB) : Text := tb.segs ++ [{ style := tb.style, text := tb.text }]

def TB.flushed (tb : TB) : Text := if tb.text.isEmpty then tb.segs else tb.flat

theorem TB.writeRest_snoc (tb : TB) (ys : Text) (last : Segment) :
    tb.writeRest (ys ++ [last]) = { segs := tb.flushed ++ ys, style := last.style, text := last.text } := by
  unfold TB.writeRest TB.flushed TB.flat
  rw [List.getLast?_concat, List.dropLast_concat]
  cases h : tb.text <;> rfl

theorem TB.flat_writeRest (tb : TB) {t : Text} (ht : t ≠ []) : (tb.writeRest t).flat = tb.flushed ++ t := by
  conv => lhs; rw [← List.dropLast_concat_getLast ht, TB.writeRest_snoc]
  rw [TB.flat, List.append_assoc]
  exact congrArg _ (List.dropLast_concat_getLast ht)

theorem TB.writeText_cons (tb : TB) (s0 : Segment) (rest : Text) :
    tb.writeText (s0 :: rest) =
      if tb.style = s0.style then ({ tb with text := tb.text ++ s0.text } : TB).writeRest rest
      else tb.writeRest (s0 :: rest) := by
  cases rest <;> rfl

theorem TB.toText_cases (tb : TB) : (tb.toText = [] ∧ tb.segs = [] ∧ tb.text = []) ∨ tb.toText = tb.flat := by
  unfold TB.toText TB.flat
  split <;> simp_all

theorem TB.toText_of_nonempty (tb : TB) (h : tb.text ≠ []) : tb.toText = tb.flat :=
  tb.toText_cases.resolve_left fun h' => h h'.2.2

theorem TB.styledBytes_toText (tb : TB) : styledBytes tb.toText = styledBytes tb.flat := by
  rcases tb.toText_cases with ⟨h1, h2, h3⟩ | h
  · simp [h1, TB.flat, h2, h3, styledBytes]
  · rw [h]

theorem TB.styledBytes_flushed (tb : TB) : styledBytes tb.flushed = styledBytes tb.flat := by
  cases h : tb.text <;> simp [TB.flushed, TB.flat, styledBytes, h]

theorem TB.styledBytes_writeText (tb : TB) (t : Text) :
    styledBytes (tb.writeText t).toText = styledBytes tb.toText ++ styledBytes t := by
  have rest : ∀ (tb : TB) (t : Text), styledBytes (tb.writeRest t).flat = styledBytes tb.flat ++ styledBytes t := by
    intro tb t
    cases t with
    | nil => simp [TB.writeRest, styledBytes_nil]
    | cons s t => rw [TB.flat_writeRest tb (by simp), styledBytes_append, TB.styledBytes_flushed]
  simp only [TB.styledBytes_toText]
  cases t with
  | nil => simp [TB.writeText, styledBytes_nil]
  | cons s0 t =>
    rw [TB.writeText_cons]
    split
    · rename_i hst
      rw [rest, styledBytes_cons, ← List.append_assoc]
      simp [TB.flat, styledBytes_append, styledBytes_single, hst]
    · exact rest tb _

def TBInv (tb : TB) : Prop := Normal tb.toText

theorem TBInv_empty : TBInv {} := rfl

theorem TBInv_segs (tb : TB) (h : TBInv tb) (ht : tb.text = []) : tb.segs = [] := by
  cases hs : tb.segs with
  | nil => rfl
  | cons a S =>
    have : tb.toText = tb.segs ++ [⟨tb.style, tb.text⟩] := by simp [TB.toText, hs]
    rw [TBInv, this, Normal_snoc_iff] at h
    exact absurd ht h.2.1

theorem TBInv.toText_eq {tb : TB} (h : TBInv tb) : tb.toText = tb.flushed := by
  by_cases ht : tb.text = []
  · simp [TB.toText, TB.flushed, ht, TBInv_segs tb h ht]
  · rw [TB.toText_of_nonempty tb ht, TB.flushed, if_neg (by simpa using ht)]

theorem TB.style_getLast?_toText (tb : TB) : ∀ a ∈ tb.toText.getLast?, a.style = tb.style := by
  rcases tb.toText_cases with ⟨h, _⟩ | h <;> simp [h, TB.flat]

theorem TBInv_writeRest (tb : TB) (t : Text) (h : TBInv tb) (ht : Normal t)
    (hj : ∀ b ∈ t.head?, tb.style ≠ b.style) : TBInv (tb.writeRest t) := by
  by_cases hne : t = []
  · rw [hne]; exact h
  · have hlast : ((tb.writeRest t).text) ≠ [] := by
      rw [← List.dropLast_concat_getLast hne, TB.writeRest_snoc]
      exact Normal_all_nonempty ht _ (List.getLast_mem hne)
    rw [TBInv, TB.toText_of_nonempty _ hlast, TB.flat_writeRest tb hne, ← h.toText_eq, Normal_append_iff]
    exact ⟨h, ht, fun a ha b hb => by rw [tb.style_getLast?_toText a ha]; exact hj b hb⟩

theorem TBInv_merge (tb : TB) (x : Bytes) (h : TBInv tb) (hx : x ≠ []) :
    TBInv { tb with text := tb.text ++ x } := by
  rw [TBInv, TB.toText_of_nonempty _ (by simp [hx]), TB.flat, Normal_snoc_iff]
  by_cases ht : tb.text = []
  · simp [TBInv_segs tb h ht, Normal_nil, hx]
  · rw [TBInv, TB.toText_of_nonempty tb ht, TB.flat, Normal_snoc_iff] at h
    exact ⟨h.1, by simp [hx], h.2.2⟩

theorem TBInv_writeText (tb : TB) (t : Text) (h : TBInv tb) (ht : Normal t) : TBInv (tb.writeText t) := by
  cases t with
  | nil => exact h
  | cons s0 rest =>
    obtain ⟨h1, h2, h3⟩ := (Normal_cons s0 rest).1 ht
    rw [TB.writeText_cons]
    split
    · exact TBInv_writeRest _ rest (TBInv_merge tb s0.text h h1) h3 (by rename_i hst; rw [hst]; exact h2)
    · exact TBInv_writeRest tb _ h ht (by rename_i hst; simpa using hst)

theorem plain_toText (tb : TB) : plain tb.toText = plain tb.flat := by
  rw [plain_eq, plain_eq, TB.styledBytes_toText]

theorem plain_writeText (tb : TB) (t : Text) : plain (tb.writeText t).toText = plain tb.toText ++ plain t := by
  simp only [plain_eq, TB.styledBytes_writeText, List.map_append]

theorem textFromSegment_normal (s : Segment) : Normal (textFromSegment s) := by
  unfold textFromSegment
  split
  · exact Normal_nil
  · rename_i h; exact (Normal_single s).2 (by simpa using h)

theorem styledBytes_textFromSegment (s : Segment) : styledBytes (textFromSegment s) = styledBytes [s] := by
  unfold textFromSegment
  split
  · rename_i h; simp [styledBytes, List.isEmpty_iff.1 h]
  · rfl

theorem plain_textFromSegment (s : Segment) : plain (textFromSegment s) = s.text := by
  simp [plain_eq, styledBytes_textFromSegment, styledBytes_single, Function.comp_def]

theorem foldl_writeText_content (ts : List Text) (tb : TB) :
    styledBytes (ts.foldl TB.writeText tb).toText = styledBytes tb.toText ++ (ts.map styledBytes).flatten := by
  induction ts generalizing tb with
  | nil => simp
  | cons t ts ih => simp [ih, TB.styledBytes_writeText]

theorem Concat_normal (ts : List Text) (h : ∀ t ∈ ts, Normal t) : Normal (Concat ts) :=
  List.foldlRecOn (motive := TBInv) ts TB.writeText TBInv_empty fun tb htb t ht => TBInv_writeText tb t htb (h t ht)

theorem Concat_content (ts : List Text) : styledBytes (Concat ts) = (ts.map styledBytes).flatten :=
  foldl_writeText_content ts {}

end C33
