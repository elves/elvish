/-
styledown `Render` on a markup of the shape `Derender` produces: content/style line pairs,
then (after a blank line) the configuration lines.  On one content line the rune loop
consumes, for every segment, the segment's runes against `Of(seg.Text)` copies of the
segment's style character and writes the runes back with the segment's style.
-/
import ElvProofs.C33.SdLines
import ElvProofs.C34.NoWrap
import ElvProofs.C34.TrimLines
import ElvModel.C33.Styledown
namespace C33
open Go

variable (wd : Int → Int)

def OfR (wd : Int → Int) (rs : List Nat) : Int := (rs.map fun (r : Nat) => wd (r : Int)).sum

theorem OfR_nil (wd : Int → Int) : OfR wd [] = 0 := rfl
theorem OfR_cons (r : Nat) (rs : List Nat) : OfR wd (r :: rs) = wd (r : Int) + OfR wd rs := by
  simp [OfR]
theorem OfR_append (a b : List Nat) : OfR wd (a ++ b) = OfR wd a + OfR wd b := by
  simp [OfR]
theorem OfR_nonneg (nn : ∀ r, 0 ≤ wd r) (rs : List Nat) : 0 ≤ OfR wd rs :=
  C34.sum_wd_nonneg wd nn rs
theorem OfR_replicate (n : Nat) (c : Nat) : OfR wd (List.replicate n c) = n * wd (c : Int) := by
  induction n with
  | zero => simp [OfR]
  | succ n ih => rw [List.replicate_succ, OfR_cons, ih, Int.natCast_add, Int.add_mul]; omega

theorem Of_eq_OfR (s : Bytes) : C34.Of wd s = OfR wd (toRunes s) := C34.Of_eq_toRunes wd s

theorem Of_encodeRunes (rs : List Nat) (h : ∀ r ∈ rs, validRune r = true) :
    C34.Of wd (encodeRunes rs) = OfR wd rs := by
  rw [Of_eq_OfR, toRunes_encodeRunes rs h]

theorem Of_encodeRunes_append (rs : List Nat) (h : ∀ r ∈ rs, validRune r = true) (X : Bytes) :
    C34.Of wd (encodeRunes rs ++ X) = OfR wd rs + C34.Of wd X := by
  rw [Of_eq_OfR, toRunes_encodeRunes_append rs h, OfR_append, ← Of_eq_OfR]

theorem encodeRunes_replicate (n : Nat) (c : Nat) :
    (List.replicate n (encodeRune c)).flatten = encodeRunes (List.replicate n c) := by
  induction n with
  | zero => rfl
  | succ n ih => rw [List.replicate_succ, List.replicate_succ, List.flatten_cons, encodeRunes_cons, ih]

theorem encodeRunes_no_nl (rs : List Nat) (h : ∀ r ∈ rs, r ≠ 10) : C34.NoNL (encodeRunes rs) := by
  intro b hb
  obtain ⟨r, hr, hb⟩ := List.mem_flatMap.1 hb
  exact encodeRune_ne_ascii (c := 10) (by decide) (h r hr) b hb

theorem same_replicate (n : Nat) (c : Nat) : same (List.replicate n c) = true := by
  induction n with
  | zero => rfl
  | succ n ih =>
    cases n with
    | zero => rfl
    | succ m =>
      rw [List.replicate_succ, List.replicate_succ, same, beq_self_eq_true, Bool.true_and, ← List.replicate_succ]
      exact ih

theorem renderLine_rune (sheet : List (Rune × Style)) (r : Nat) (hw : 0 < wd (r : Int)) (c : Nat)
    (st : Style) (hc : sheetLookup sheet c = some st) (text S : List Nat) (tb : TB) :
    renderLine wd sheet (r :: text) (List.replicate (wd (r : Int)).toNat c ++ S) tb =
      renderLine wd sheet text S (tb.writeText [{ style := st, text := encodeRune r }]) := by
  obtain ⟨k, hk⟩ : ∃ k, (wd (r : Int)).toNat = k + 1 := ⟨(wd (r : Int)).toNat - 1, by omega⟩
  have hlen : ¬ ((List.replicate (wd (r : Int)).toNat c ++ S).length : Int) < wd (r : Int) := by
    simp only [List.length_append, List.length_replicate, Int.natCast_add]; omega
  rw [renderLine]
  simp only [if_neg (Int.ne_of_gt hw), if_neg (Int.not_lt.2 (Int.le_of_lt hw)), if_neg hlen,
    List.take_left' (List.length_replicate ..), List.drop_left' (List.length_replicate ..), same_replicate]
  simp [hk, List.replicate_succ, hc]

theorem renderLine_seg (nn : ∀ r, 0 ≤ wd r) (sheet : List (Rune × Style)) (st : Style) (c : Nat)
    (hc : sheetLookup sheet c = some st) (rs : List Nat) (hrs : ∀ r ∈ rs, wd (r : Int) ≠ 0)
    (restT restS : List Nat) (tb : TB) (htb : TBInv tb) :
    ∃ tb', renderLine wd sheet (rs ++ restT) (List.replicate (OfR wd rs).toNat c ++ restS) tb =
        renderLine wd sheet restT restS tb' ∧ TBInv tb' ∧
      styledBytes tb'.toText = styledBytes tb.toText ++ (encodeRunes rs).map fun b => (st, b) := by
  induction rs generalizing tb with
  | nil => exact ⟨tb, rfl, htb, by simp [encodeRunes]⟩
  | cons r rs ih =>
    have hw := nn (r : Int)
    have hw0 := hrs r List.mem_cons_self
    have hrest := OfR_nonneg wd nn rs
    obtain ⟨tb', e, i1, i2⟩ := ih (fun x hx => hrs x (List.mem_cons_of_mem _ hx))
      (tb.writeText [{ style := st, text := encodeRune r }])
      (TBInv_writeText _ _ htb ((Normal_single _).2 (encodeRune_ne_nil r)))
    refine ⟨tb', ?_, i1, ?_⟩
    · rw [← e, OfR_cons, Int.toNat_add hw hrest, ← List.replicate_append_replicate, List.append_assoc]
      exact renderLine_rune wd sheet r (by omega) c st hc _ _ tb
    · rw [i2, TB.styledBytes_writeText, styledBytes_single, encodeRunes_cons, List.map_append, List.append_assoc]

/-- The style line `Derender` writes for a line, as runes (`cf` = `charForStyle`): for every
segment its style character, once for every column of the segment. -/
def styleRunes (wd : Int → Int) (cf : Style → Option Rune) : Text → List Nat
  | [] => []
  | seg :: rest =>
    (match cf seg.style with
      | some c => List.replicate (C34.Of wd seg.text).toNat c
      | none => []) ++ styleRunes wd cf rest

/-- A line segment `Derender` can express and `Render` (with the final style sheet) reads back. -/
def SegOK (wd : Int → Int) (cf : Style → Option Rune) (sheet : List (Rune × Style)) (seg : Segment) : Prop :=
  LineTxt wd seg.text ∧ ∃ c : Nat, cf seg.style = some c ∧ validRune c = true ∧ c ≠ 10 ∧ wd (c : Int) = 1 ∧
    sheetLookup sheet c = some seg.style

theorem styleRunes_ok (cf : Style → Option Rune) (sheet : List (Rune × Style)) (line : Text)
    (h : ∀ seg ∈ line, SegOK wd cf sheet seg) : ∀ r ∈ styleRunes wd cf line, validRune r = true ∧ r ≠ 10 := by
  induction line with
  | nil => simp [styleRunes]
  | cons seg rest ih =>
    obtain ⟨_, c, hcf, hcv, hc10, _⟩ := h seg List.mem_cons_self
    intro r hr
    simp only [styleRunes, hcf, List.mem_append, List.mem_replicate] at hr
    rcases hr with ⟨_, rfl⟩ | hr
    · exact ⟨hcv, hc10⟩
    · exact ih (fun x hx => h x (List.mem_cons_of_mem _ hx)) r hr

theorem renderLine_line (nn : ∀ r, 0 ≤ wd r) (sheet : List (Rune × Style)) (cf : Style → Option Rune)
    (line : Text) (h : ∀ seg ∈ line, SegOK wd cf sheet seg) (tb : TB) (htb : TBInv tb) :
    ∃ tb', renderLine wd sheet (toRunes (plain line)) (styleRunes wd cf line) tb = .ok tb' ∧ TBInv tb' ∧
      styledBytes tb'.toText = styledBytes tb.toText ++ styledBytes line := by
  induction line generalizing tb with
  | nil => exact ⟨tb, rfl, htb, by simp [styledBytes]⟩
  | cons seg rest ih =>
    obtain ⟨⟨rs, hrs, htxt⟩, c, hcf, _, _, _, hsl⟩ := h seg List.mem_cons_self
    have hval : ∀ r ∈ rs, validRune r = true := fun r hr => (hrs r hr).1
    obtain ⟨tb1, f1, f2, f3⟩ := renderLine_seg wd nn sheet seg.style c hsl rs (fun r hr => (hrs r hr).2.2)
      (toRunes (plain rest)) (styleRunes wd cf rest) tb htb
    obtain ⟨tb2, g1, g2, g3⟩ := ih (fun x hx => h x (List.mem_cons_of_mem _ hx)) tb1 f2
    refine ⟨tb2, ?_, g2, ?_⟩
    · rw [plain_cons, htxt, toRunes_encodeRunes_append rs hval, styleRunes, hcf, htxt, Of_encodeRunes wd rs hval, f1, g1]
    · rw [g3, f3, styledBytes_cons, htxt, List.append_assoc]

theorem line_widths (nn : ∀ r, 0 ≤ wd r) (sheet : List (Rune × Style)) (cf : Style → Option Rune)
    (line : Text) (h : ∀ seg ∈ line, SegOK wd cf sheet seg) :
    C34.Of wd (plain line) = OfR wd (styleRunes wd cf line) := by
  induction line with
  | nil => rfl
  | cons seg rest ih =>
    obtain ⟨⟨rs, hrs, htxt⟩, c, hcf, _, _, hcw, _⟩ := h seg List.mem_cons_self
    have hval : ∀ r ∈ rs, validRune r = true := fun r hr => (hrs r hr).1
    have h0 := OfR_nonneg wd nn rs
    rw [Of_eq_OfR, plain_cons, htxt, toRunes_encodeRunes_append rs hval, OfR_append, ← Of_eq_OfR,
      ih (fun x hx => h x (List.mem_cons_of_mem _ hx)), styleRunes, hcf, OfR_append, OfR_replicate, hcw, htxt,
      Of_encodeRunes wd rs hval]
    omega

theorem plain_no_nl (line : Text) (h : ∀ seg ∈ line, LineTxt wd seg.text) : C34.NoNL (plain line) := by
  intro b hb
  obtain ⟨x, hx, hb⟩ := List.mem_flatten.1 hb
  obtain ⟨seg, hseg, rfl⟩ := List.mem_map.1 hx
  exact (h seg hseg).no_nl b hb

/-- `xs[0] + "\n" + xs[1] + "\n" + …` -/
def nlCat (xs : List Bytes) : Bytes := (xs.map (· ++ [10])).flatten

theorem nlCat_nil : nlCat [] = [] := rfl
theorem nlCat_cons (x : Bytes) (xs : List Bytes) : nlCat (x :: xs) = x ++ [10] ++ nlCat xs := by simp [nlCat]

theorem splitNL_nlCat (xs : List Bytes) (h : ∀ x ∈ xs, C34.NoNL x) (T : Bytes) :
    C34.splitNL (nlCat xs ++ T) = xs ++ C34.splitNL T := by
  induction xs with
  | nil => rfl
  | cons x xs ih =>
    rw [nlCat_cons, List.append_assoc, List.append_assoc, List.singleton_append,
      C34.splitNL_append_nl x _ (h x List.mem_cons_self), ih (fun y hy => h y (List.mem_cons_of_mem _ hy))]
    rfl

def bodyLines (wd : Int → Int) (cf : Style → Option Rune) : List Text → List Bytes
  | [] => []
  | l :: rest => plain l :: encodeRunes (styleRunes wd cf l) :: bodyLines wd cf rest

/-- The content loop of `Render` stops where the lines `tail` after the body do not start with a pair. -/
theorem splitContent_body (cf : Style → Option Rune) (L : List Text)
    (hw : ∀ l ∈ L, C34.Of wd (plain l) = C34.Of wd (encodeRunes (styleRunes wd cf l))) (tail : List Bytes)
    (htail : splitContent wd tail = ([], tail)) :
    splitContent wd (bodyLines wd cf L ++ tail) = (L.map fun l => (plain l, encodeRunes (styleRunes wd cf l)), tail) := by
  induction L with
  | nil => exact htail
  | cons l rest ih =>
    simp only [bodyLines, List.cons_append, splitContent]
    rw [if_pos (hw l List.mem_cons_self), ih (fun x hx => hw x (List.mem_cons_of_mem _ hx))]
    rfl

theorem nlText_normal : Normal nlText := by decide
theorem styledBytes_nlText : styledBytes nlText = sepD := rfl

theorem renderContent_cons {wd : Int → Int} {sheet : List (Rune × Style)} {text style : Bytes}
    {rest : List (Bytes × Bytes)} {first : Bool} {tb tb' : TB}
    (h : renderLine wd sheet (toRunes text) (toRunes style) (if first then tb else tb.writeText nlText) = .ok tb') :
    renderContent wd sheet ((text, style) :: rest) first tb = renderContent wd sheet rest false tb' := by
  rw [renderContent, h]

theorem renderContent_lines (nn : ∀ r, 0 ≤ wd r) (sheet : List (Rune × Style))
    (cf : Style → Option Rune) (L : List Text) (h : ∀ l ∈ L, ∀ seg ∈ l, SegOK wd cf sheet seg)
    (first : Bool) (tb : TB) (htb : TBInv tb) :
    ∃ tb', renderContent wd sheet (L.map fun l => (plain l, encodeRunes (styleRunes wd cf l))) first tb = .ok tb' ∧
      TBInv tb' ∧ styledBytes tb'.toText = styledBytes tb.toText ++
        (if first then joinL sepD (L.map styledBytes) else ((L.map styledBytes).map (sepD ++ ·)).flatten) := by
  induction L generalizing first tb with
  | nil => exact ⟨tb, rfl, htb, by cases first <;> simp [joinL]⟩
  | cons l rest ih =>
    have hl := h l List.mem_cons_self
    have htb1 : TBInv (if first then tb else tb.writeText nlText) := by
      split
      · exact htb
      · exact TBInv_writeText _ _ htb nlText_normal
    obtain ⟨tb2, e2, i2, s2⟩ := renderLine_line wd nn sheet cf l hl _ htb1
    obtain ⟨tb3, e3, i3, s3⟩ := ih (fun x hx => h x (List.mem_cons_of_mem _ hx)) false tb2 i2
    refine ⟨tb3, ?_, i3, ?_⟩
    · rw [← toRunes_encodeRunes _ (fun r hr => (styleRunes_ok wd cf sheet l hl r hr).1)] at e2
      rw [List.map_cons, renderContent_cons e2, e3]
    · rw [s3, s2]
      cases first
      · simp only [Bool.false_eq_true, if_false, List.map_cons, List.flatten_cons, TB.styledBytes_writeText,
          styledBytes_nlText, List.append_assoc]
      · simp only [if_true, Bool.false_eq_true, if_false, List.map_cons, joinL_cons, List.append_assoc]

theorem parseConfig_snoc_nil (pd : DefParser) (X : List Bytes) (ne : Bool) (sh : List (Rune × Style)) :
    parseConfig wd pd (X ++ [[]]) ne sh = parseConfig wd pd X ne sh := by
  induction X generalizing ne sh with
  | nil => simp [parseConfig]
  | cons x X ih =>
    simp only [List.cons_append, parseConfig, ih]

theorem sdRender_of_shape (nn : ∀ r, 0 ≤ wd r) (pd : DefParser) (cf : Style → Option Rune)
    (L : List Text) (cfgLines : List Bytes) (noEol : Bool) (sheet : List (Rune × Style))
    (hcfg : parseConfig wd pd cfgLines false [] = some (noEol, sheet))
    (hcl : ∀ c ∈ cfgLines, C34.NoNL c ∧ C34.Of wd c ≠ 0)
    (hseg : ∀ l ∈ L, ∀ seg ∈ l, SegOK wd cf sheet seg) :
    ∃ tb, sdRender wd pd (if (nlCat cfgLines).isEmpty then nlCat (bodyLines wd cf L)
          else nlCat (bodyLines wd cf L) ++ [10] ++ nlCat cfgLines) =
        .ok ((if noEol then tb else tb.writeText nlText).toText) ∧ TBInv tb ∧
      styledBytes tb.toText = joinL sepD (L.map styledBytes) := by
  have hw : ∀ l ∈ L, C34.Of wd (plain l) = C34.Of wd (encodeRunes (styleRunes wd cf l)) := fun l hl => by
    rw [Of_encodeRunes wd _ (fun r hr => (styleRunes_ok wd cf sheet l (hseg l hl) r hr).1)]
    exact line_widths wd nn sheet cf l (hseg l hl)
  have hnl : ∀ x ∈ bodyLines wd cf L, C34.NoNL x := by
    intro x hx
    induction L with
    | nil => simp [bodyLines] at hx
    | cons l rest ih =>
      have hl := hseg l List.mem_cons_self
      simp only [bodyLines, List.mem_cons] at hx
      rcases hx with rfl | rfl | hx
      · exact plain_no_nl wd l (fun s hs => (hl s hs).1)
      · exact encodeRunes_no_nl _ (fun r hr => (styleRunes_ok wd cf sheet l hl r hr).2)
      · exact ih (fun y hy => hseg y (List.mem_cons_of_mem _ hy)) (fun y hy => hw y (List.mem_cons_of_mem _ hy)) hx
  obtain ⟨tb, e, i, sb⟩ := renderContent_lines wd nn sheet cf L hseg true {} TBInv_empty
  refine ⟨tb, ?_, i, by simpa [TB.toText, styledBytes_nil] using sb⟩
  cases cfgLines with
  | nil =>
    -- no configuration stanza: the lines are the body and the empty string after the last newline
    obtain ⟨rfl, rfl⟩ : false = noEol ∧ [] = sheet := by simpa [parseConfig] using hcfg
    have hs : C34.splitNL (nlCat (bodyLines wd cf L)) = bodyLines wd cf L ++ [[]] := by
      simpa [C34.splitNL] using splitNL_nlCat (bodyLines wd cf L) hnl []
    rw [nlCat_nil, List.isEmpty_nil, if_pos rfl, sdRender, hs]
    simp only [splitContent_body wd cf L hw [[]] rfl, List.isEmpty_nil, if_true, parseConfig, e]
  | cons c1 cs =>
    -- body, blank line, configuration lines, and the empty string after the last newline
    have hcn : ∀ x ∈ c1 :: cs, C34.NoNL x := fun x hx => (hcl x hx).1
    have hs : C34.splitNL (nlCat (bodyLines wd cf L) ++ [10] ++ nlCat (c1 :: cs)) =
        bodyLines wd cf L ++ ([] :: c1 :: (cs ++ [[]])) := by
      have := splitNL_nlCat (c1 :: cs) hcn []
      rw [List.append_assoc, splitNL_nlCat _ hnl]
      simp_all [C34.splitNL]
    have htail : splitContent wd ([] :: c1 :: (cs ++ [[]])) = ([], [] :: c1 :: (cs ++ [[]])) := by
      have := (hcl c1 List.mem_cons_self).2
      rw [splitContent, if_neg (by rw [C34.Of_nil]; exact fun h => this h.symm)]
    have hcfg' : parseConfig wd pd (c1 :: (cs ++ [[]])) false [] = some (noEol, sheet) := by
      rw [← List.cons_append, parseConfig_snoc_nil, hcfg]
    rw [if_neg (by simp [nlCat]), sdRender, hs]
    simp only [splitContent_body wd cf L hw _ htail, List.isEmpty_nil, if_true, hcfg', e]

end C33
