/-
`Render (Derender t defs) = t` assembled: `Render` reads back the lines that `Derender`'s
loops wrote, its result is normal and has the styled bytes of `t`, so it is `t`.
-/
import ElvProofs.C33.SdDerender
namespace C33
open Go

variable (wd : Int → Int)

theorem toRunes_noEol : toRunes noEolLine = [0x6e, 0x6f, 0x2d, 0x65, 0x6f, 0x6c] := by decide

theorem Of_noEol (hascii : ∀ r : Int, 0x20 ≤ r → r < 0x7f → wd r = 1) : C34.Of wd noEolLine = 6 := by
  rw [Of_eq_OfR, toRunes_noEol]
  simp only [OfR, List.map_cons, List.map_nil, List.sum_cons, List.sum_nil]
  have h1 := hascii ((0x6e : Nat) : Int) (by omega) (by omega)
  have h2 := hascii ((0x6f : Nat) : Int) (by omega) (by omega)
  have h3 := hascii ((0x2d : Nat) : Int) (by omega) (by omega)
  have h4 := hascii ((0x65 : Nat) : Int) (by omega) (by omega)
  have h5 := hascii ((0x6c : Nat) : Int) (by omega) (by omega)
  omega

theorem noEol_no_nl : C34.NoNL noEolLine := by unfold C34.NoNL; decide

theorem Settled.segOK {wd : Int → Int} {pd : DefParser} {cfs : List (Style × Rune)} {cds0 cds : List (Rune × Bytes)}
    {config0 config : Bytes} {W : List WEntry} {seg : Segment}
    (hascii : ∀ r : Int, 0x20 ≤ r → r < 0x7f → wd r = 1) (hpd : PdOK wd pd)
    (inv : WInv wd pd cds0 config0 cds config W) (hs : Settled cfs cds0 W seg) (ht : LineTxt wd seg.text) :
    SegOK wd (charFor cfs cds0) (W.map fun w => (w.1, w.2.1)) seg := by
  obtain ⟨c, hc, ⟨h0, hb⟩ | ⟨line, hmem⟩⟩ := hs
  · obtain ⟨v, n10, lo, hi⟩ := builtin_char_props c _ hb
    have hnot : c ∉ W.map (·.1) := fun hin => by
      obtain ⟨w, hw, rfl⟩ := List.mem_map.1 hin
      simpa [h0] using (inv.ent w hw).1
    exact ⟨ht, c, hc, v, n10, hascii c (by omega) (by omega), by rw [sheetLookup, lookup_unwritten W c hnot]; exact hb⟩
  · obtain ⟨p1, p2⟩ := parseDef_some (inv.ent _ hmem).2
    obtain ⟨v, n10⟩ := hpd.valid _ _ _ p1
    exact ⟨ht, c, hc, v, n10, p2, by rw [sheetLookup, lookup_written W inv.nd c seg.style line hmem]⟩

/-- The common part: `Render` reads back the lines that `Derender`'s loops wrote. -/
theorem sd_tail (nn : ∀ r, 0 ≤ wd r) (hascii : ∀ r : Int, 0x20 ≤ r → r < 0x7f → wd r = 1)
    (pd : DefParser) (hpd : PdOK wd pd) (cfs : List (Style × Rune)) (cds0 : List (Rune × Bytes))
    (dok : DefsOK wd pd cfs cds0) (L : List Text) (hL : ∀ l ∈ L, ∀ s ∈ l, LineTxt wd s.text)
    (noEol : Bool) (out : Bytes × Bytes)
    (he : derenderLines wd cfs cds0 L [] cds0 (if noEol then noEolLine ++ [10] else []) = .ok out) :
    ∃ tb, sdRender wd pd (if out.2.isEmpty then out.1 else out.1 ++ [10] ++ out.2) =
        .ok ((if noEol then tb else tb.writeText nlText).toText) ∧ TBInv tb ∧
      styledBytes tb.toText = joinL sepD (L.map styledBytes) := by
  obtain ⟨W, cds', inv, o1, set⟩ := derenderLines_spec wd pd cfs cds0 (if noEol then noEolLine ++ [10] else []) dok L [] cds0 _ [] out
    ⟨by simp [nlCat], by simp, by simp, by simp⟩ he
  rw [List.nil_append] at inv set o1
  have hentry : ∀ w ∈ W, w.2.2 ≠ [] ∧ C34.NoNL w.2.2 ∧ parseDef wd pd w.2.2 = some (w.1, w.2.1) := by
    intro w hw
    obtain ⟨e1, e2⟩ := inv.ent w hw
    obtain ⟨a, b, _⟩ := dok.cds_ok _ _ e1
    exact ⟨a, b, e2⟩
  -- the configuration stanza: `no-eol` if noted, then the written definitions
  have hcfg : out.2 = nlCat ((if noEol then [noEolLine] else []) ++ W.map (·.2.2)) := by
    rw [inv.cfg]; cases noEol <;> simp [nlCat]
  have hparse : parseConfig wd pd ((if noEol then [noEolLine] else []) ++ W.map (·.2.2)) false [] =
      some (noEol, W.map fun w => (w.1, w.2.1)) := by
    have := parseConfig_written wd pd hpd W noEol [] (fun w hw => ⟨(hentry w hw).1, (hentry w hw).2.2, rfl⟩) inv.nd
    cases noEol
    · simpa using this
    · simpa [parseConfig, noEolLine] using this
  have hcl : ∀ c ∈ (if noEol then [noEolLine] else []) ++ W.map (·.2.2), C34.NoNL c ∧ C34.Of wd c ≠ 0 := by
    intro c hc
    rcases List.mem_append.1 hc with hc | hc
    · cases noEol
      · simp at hc
      · rw [List.mem_singleton.1 hc]; exact ⟨noEol_no_nl, by rw [Of_noEol wd hascii]; omega⟩
    · obtain ⟨w, hw, rfl⟩ := List.mem_map.1 hc
      obtain ⟨p1, p2⟩ := parseDef_some (hentry w hw).2.2
      exact ⟨(hentry w hw).2.1, hpd.width _ _ _ p1 p2⟩
  obtain ⟨tb, e, i, sb⟩ := sdRender_of_shape wd nn pd (charFor cfs cds0) L _ noEol _ hparse hcl
    (fun l hl seg hs => (set l hl seg hs).segOK hascii hpd inv (hL l hl seg hs))
  exact ⟨tb, by rw [← e, o1, hcfg], i, sb⟩

/-- What `Derender` does when it succeeds: the lines are those of `SplitByRune('\n')`, without the
last one when it is empty (otherwise `no-eol` is noted), and the result is assembled from what
the line loop returns. -/
theorem sdDerender_ok {wd : Int → Int} {pd : DefParser} {t : Text} {defs m : Bytes}
    (h : sdDerender wd pd t defs = .ok m) :
    ∃ cfs cds L, ∃ (noEol : Bool), ∃ out, derenderDefs wd pd (C34.splitNL defs) [] [] = some (cfs, cds) ∧
      (SplitByRune t 10).getD [] = L ++ (if noEol then [] else [[]]) ∧
      derenderLines wd cfs cds L [] cds (if noEol then noEolLine ++ [10] else []) = .ok out ∧
      m = (if out.2.isEmpty then out.1 else out.1 ++ [10] ++ out.2) := by
  unfold sdDerender at h
  cases hd : derenderDefs wd pd (C34.splitNL defs) [] [] with
  | none => simp [hd] at h
  | some p =>
    obtain ⟨cfs, cds⟩ := p
    simp only [hd] at h
    have key : ∀ (L : List Text) (noEol : Bool),
        (match derenderLines wd cfs cds L [] cds (if noEol then noEolLine ++ [10] else []) with
          | .ok (sb, config) => Res.ok (if config.isEmpty then sb else sb ++ [10] ++ config)
          | .exc e => .exc e
          | .panic p => .panic p) = .ok m →
        ∃ out, derenderLines wd cfs cds L [] cds (if noEol then noEolLine ++ [10] else []) = .ok out ∧
          m = (if out.2.isEmpty then out.1 else out.1 ++ [10] ++ out.2) := by
      intro L noEol h
      cases hl : derenderLines wd cfs cds L [] cds (if noEol then noEolLine ++ [10] else []) with
      | ok out => rw [hl] at h; exact ⟨out, rfl, (Res.ok.inj h).symm⟩
      | exc x => simp [hl] at h
      | panic x => simp [hl] at h
    cases hsp : SplitByRune t 10 with
    | none =>
      simp only [hsp, List.getLast?_nil] at h
      obtain ⟨out, e, hm⟩ := key [] true h
      exact ⟨cfs, cds, [], true, out, rfl, rfl, e, hm⟩
    | some ls =>
      simp only [hsp] at h
      cases hlast : ls.getLast? with
      | none =>
        simp only [hlast] at h
        obtain ⟨out, e, hm⟩ := key ls true h
        exact ⟨cfs, cds, ls, true, out, rfl, by simp, e, hm⟩
      | some last =>
        simp only [hlast] at h
        by_cases hle : last.isEmpty = true
        · rw [if_pos hle] at h
          obtain ⟨out, e, hm⟩ := key ls.dropLast false h
          obtain ⟨ys, rfl⟩ := List.getLast?_eq_some_iff.1 hlast
          exact ⟨cfs, cds, _, false, out, rfl, by simp [List.isEmpty_iff.1 hle], e, hm⟩
        · rw [if_neg hle] at h
          obtain ⟨out, e, hm⟩ := key ls true h
          exact ⟨cfs, cds, ls, true, out, rfl, by simp, e, hm⟩

theorem sd_roundtrip (nn : ∀ r, 0 ≤ wd r) (hascii : ∀ r : Int, 0x20 ≤ r → r < 0x7f → wd r = 1)
    (pd : DefParser) (hpd : PdOK wd pd) (t : Text) (defs m : Bytes) (ht : Normal t)
    (hseg : ∀ s ∈ t, SegTxt wd s.text) (hnl : ∀ s ∈ t, 10 ∈ s.text → s.style = {})
    (h : sdDerender wd pd t defs = .ok m) : sdRender wd pd m = .ok t := by
  obtain ⟨cfs, cds0, L, noEol, out, hd, hls, hl, rfl⟩ := sdDerender_ok h
  have dok := derenderDefs_ok wd pd _ (C34.splitNL_nonl defs) [] [] cfs cds0 (DefsOK.empty wd pd) hd
  -- the lines `Derender` works on: their segments are line texts, and with the newline that
  -- `no-eol` stands for they have the styled bytes of `t`
  have hlt : ∀ l ∈ L, ∀ s ∈ l, LineTxt wd s.text := by
    cases hsp : SplitByRune t 10 with
    | none => simp [hsp] at hls; simp [hls.1]
    | some ls =>
      rw [hsp, Option.getD_some] at hls
      exact fun l hl => SplitByRune_lines wd t hseg ls hsp l (hls ▸ List.mem_append_left _ hl)
  have hsty : styledBytes t = joinL sepD (L.map styledBytes) ++ (if noEol then [] else sepD) := by
    cases hsp : SplitByRune t 10 with
    | none =>
      have : L = [] ∧ noEol = true := by simpa [hsp] using hls
      simp [this.1, this.2, (SplitByRune_eq_none t 10).1 hsp, joinL, styledBytes_nil]
    | some ls =>
      rw [hsp, Option.getD_some] at hls
      rw [← SplitByRune_styled t hnl ls hsp, hls]
      cases noEol
      · -- a last empty line was dropped; it was not the only one, `t` being normal and not empty
        have hL : L ≠ [] := by
          rintro rfl
          have h0 := SplitByRune_styled t hnl ls hsp
          rw [hls] at h0
          exact ((SplitByRune_eq_some t 10 ls).1 hsp).1 (styledBytes_eq_nil ht h0.symm)
        simpa [styledBytes_nil] using joinL_snoc_nil sepD (L.map styledBytes) (by simpa using hL)
      · simp
  obtain ⟨tb, e, i, sb⟩ := sd_tail wd nn hascii pd hpd cfs cds0 dok L hlt noEol out hl
  rw [e]
  congr 1
  refine Normal_unique _ _ ?_ ht ?_
  · split
    · exact i
    · exact TBInv_writeText _ _ i nlText_normal
  · rw [hsty]
    cases noEol <;> simp [TB.styledBytes_writeText, styledBytes_nlText, sb]

end C33
