import ElvProofs.C19.Inv
import ElvProofs.C19.Replay
import ElvProofs.C19.Interp
import ElvProofs.C19.Nested
import ElvProofs.C19.Signal
/-!
C19 — interrupting evaluation at any moment is handled cleanly.  The theorems quantify over all executions
`C19.Run tr s` of `C19.step` (ElvModel/C19/Model.lean): `cancel` may occur at any position; pipelines, chunks, sleeps
and any number of `peach` calls (each an instance of the C20 system for the fixed code) interleave arbitrarily.
-/
open C19

/-- (1) Once the interrupt is delivered no further foreground pipeline starts: whenever a
foreground pipeline passes its check, `cancel` has not occurred.  (Frames of background jobs have
their own context and are excluded, as the property says.) -/
theorem C19_no_foreground_pipeline_after_cancel (tr : List Label) (s s' : State) (pid : Nat) (opBg : Bool)
    (h : Run tr s) (hst : step s (.pstart pid false opBg) = some s') : Label.cancel ∉ tr := by
  intro hm
  have hc := (inv_cancelled h).mpr hm
  unfold step at hst
  split at hst
  · simp at hst
  · simp [hc] at hst

/-- (2) `Eval` returns an interrupted exception unless it had already finished: if the interrupt
was delivered before the top-level chunk ended, the result is not OK; it is exactly the interrupted
exception when the chunk ended at its own final check; and a result OK means the interrupt had not
been delivered when the top-level chunk ended. -/
theorem C19_interrupted_unless_finished (tr : List Label) (s : State) (r : Res) (h : Run tr s)
    (hr : s.result = some r) :
    ∃ e c, s.topExit = some (e, c) ∧ (c = true → r ≠ .ok) ∧ (e = .cint → r = .int) ∧ (r = .ok → c = false) := by
  obtain ⟨e, c, hte, hfit, _, _⟩ := inv_result h r hr
  obtain ⟨h1, h2⟩ := inv_topExit h e c hte
  refine ⟨e, c, hte, ?_, ?_, ?_⟩
  · intro hc hrok; subst hrok
    cases e <;> simp_all [fits]
  · intro he; subst he; cases r <;> simp_all [fits]
  · intro hrok; subst hrok
    cases e <;> simp_all [fits]

/-- (3) When `Eval` returns, everything it started has completed: no foreground pipeline is open
(every form, goroutine or inline, has signalled its WaitGroup and `Wait` has returned), and in
every foreground `peach` call no callback is running and every started callback has finished. -/
theorem C19_everything_finished_at_return (tr : List Label) (s : State) (r : Res) (h : Run tr s)
    (hr : s.result = some r) :
    s.pipes = [] ∧ ∀ i ∈ s.insts, i.bg = false →
      i.st.fpc = .ret ∧ i.st.running = 0 ∧
        ∃ ptr, C20.Run i.cfg ptr i.st ∧ ∀ j, 0 < ptr.count (.start j) → ∃ o, C20.Label.finish j o ∈ ptr := by
  obtain ⟨e, c, _, _, hp, hall⟩ := inv_result h r hr
  refine ⟨hp, fun i hi hbg => ?_⟩
  have hret : i.st.fpc = .ret := by
    have := List.all_eq_true.mp hall i hi
    simpa [hbg] using this
  obtain ⟨_, _, ptr, hrun⟩ := inv_insts h i hi
  obtain ⟨h1, h2⟩ := C20_return_after_all_finished i.cfg ptr i.st hrun hret
  exact ⟨hret, h1, ptr, hrun, h2⟩

/-- (4) A `peach` call with `&num-workers = K` never runs more than `K` callbacks at once in any
reachable state — before, while and after the interrupt is delivered — and never hits the
semaphore's "released more than held" panic. -/
theorem C19_bound_while_interrupted (tr : List Label) (s : State) (h : Run tr s) :
    ∀ i ∈ s.insts, ∀ K, i.cfg.k = some K → i.st.running ≤ K ∧ i.st.panicked = false := by
  intro i hi K hk
  obtain ⟨hca, _, ptr, hrun⟩ := inv_insts h i hi
  exact ⟨C20_running_le_bound i.cfg K ptr i.st hrun hk (Or.inl hca),
    C20_never_panics i.cfg ptr i.st hrun (Or.inl hca)⟩

/-- The unchanged tree ignores the error of `workerSema.Acquire(ctx, 1)`.  After `cancel` the
feeder spawns without a permit: two callbacks run with `&num-workers=1`, and the second worker's
`Release` finds the semaphore empty (`panic: semaphore: released more than held`).
(`harness/corpus/C19.txt` replays it on the real code.) -/
def C19.witness : List C20.Label :=
  [.chk1 false, .acqOk, .spawn, .start 0, .chk1 false, .cancel, .acqErr, .spawn, .start 1]

def C19.witnessPanic : List C20.Label :=
  C19.witness ++ [.finish 0 .exc, .mark 0, .done 0, .release 0, .finish 1 .exc, .mark 1, .done 1, .release 1]

/-- (4) is false for the unchanged code: the bound is exceeded and the process panics. -/
theorem C19_counterexample :
    ¬ (∀ (tr : List C20.Label) (s : C20.State), C20.Run (C20.unfixed (some 1) 2) tr s →
        s.running ≤ 1 ∧ s.panicked = false) := by
  intro hall
  have h1 : C20.Run (C20.unfixed (some 1) 2) C19.witness _ := C20.run_of_replay rfl
  have h2 : C20.Run (C20.unfixed (some 1) 2) C19.witnessPanic _ := C20.run_of_replay rfl
  have := (hall _ _ h1).1
  have := (hall _ _ h2).2
  simp_all [C20.State.running, C20.WPc.isRunning]

/-- (1)+(2) for the sequential fragment, through every nesting of loops, closure calls and
try/finally: if the interrupt is delivered (synchronously, at the `t`-th step) the evaluation
returns `interrupted` and exactly `t` steps have run — nothing starts after the interrupt;
otherwise it returns OK.  Once the interrupt has been delivered, executing any program does
nothing and yields `interrupted`. -/
theorem C19_sequential_interrupt (t : Nat) (p : Prog) :
    ((exec t p {}).2.cancelled = true → (exec t p {}).1 = .int ∧ (exec t p {}).2.steps = t) ∧
    ((exec t p {}).2.cancelled = false → (exec t p {}).1 = .ok) ∧
    (∀ st, st.cancelled = true → exec t p st = (.int, st)) := by
  have ha := exec_agree t p {} (Wn_init t)
  have hw := exec_W t p {} (Wn_init t).1
  refine ⟨fun hc => ⟨ha.mp hc, ?_⟩, fun hc => ?_, fun st h => exec_cancelled t p st h⟩
  · rcases hw with ⟨h, _⟩ | ⟨_, h⟩
    · simp [hc] at h
    · exact h
  · cases hr : (exec t p {}).1 with
    | ok => rfl
    | int => have := ha.mpr hr; simp [hc] at this

/-! Nested model (`ElvModel/C19/Nested.lean`): chunks of pipelines whose forms run concurrently (`par`), loops, closure
calls, try/finally, `sleep`, `peach` with overlapping callbacks — nested arbitrarily.  The interrupt is delivered at an
arbitrary time `T`; every interleaving is an assignment of time stamps (`evP T p t0 r t1`: started at `t0`, the chunk
can end at `t1` with result `r`). -/

/-- (2) at EVERY nesting depth, in every concurrent branch, for every delivery time and every
interleaving: a chunk (the top-level one evaluated by `Eval`, a closure body, a loop body, a
`peach` callback, a form of a pipeline) returns the interrupted exception if and only if the
interrupt had been delivered by the time the chunk ended (its final check, or the check / form that
aborted it).  In particular `Eval` never returns OK once the interrupt was delivered before the
top-level chunk ended, never returns an exception that is not `interrupted`, and returns OK when
the interrupt is never delivered. -/
theorem C19_nested_interrupt (T : Option Nat) (p : Chunk) (t0 t1 : Nat) (r : R) (h : evP T p t0 r t1) :
    t0 ≤ t1 ∧ (r = .int ↔ can T t1 = true) ∧ (r = .ok ↔ can T t1 = false) ∧ (T = none → r = .ok) := by
  obtain ⟨h1, h2⟩ := evP_agree T p t0 r t1 h
  refine ⟨h1, h2, ?_, ?_⟩
  · cases r <;> cases hc : can T t1 <;> simp_all
  · intro hT; subst hT
    cases r with
    | ok => rfl
    | int => have := h2.mp rfl; simp [can] at this

/-- A single command (pipeline form) — `sleep`, a loop, a closure call, try/finally, a nested
multi-form pipeline, `peach` — raises the interrupted exception only if the interrupt has been
delivered by the time it ends: no spurious `interrupted`, at any depth. -/
theorem C19_nested_no_spurious_interrupt (T : Option Nat) (c : Cmd) (t0 t1 : Nat) (r : R)
    (h : evC T c t0 r t1) : t0 ≤ t1 ∧ (r = .int → can T t1 = true) :=
  evC_sound T c t0 r t1 h

/-- The semantics is not empty: for every program, every start time and every delivery time the
executable schedule `runP` (everything back to back) is one of the executions. -/
theorem C19_nested_schedule_exists (T : Option Nat) (p : Chunk) (t : Nat) :
    evP T p t (runP T p t).1 (runP T p t).2 :=
  runP_ev T p t

/-- The sequential interpreter `exec` of `C19_sequential_interrupt` (the one the differential
`seq` ops compare with the real interpreter) is an instance of the nested semantics: every run of
it, with the interrupt delivered synchronously at the `t`-th step, is an execution of the embedded
program with delivery time `t` on the clock that counts steps. -/
theorem C19_nested_extends_sequential (t : Nat) (p : Prog) :
    evP (syncT t) (emb p) 0 (exec t p {}).1 (exec t p {}).2.steps := by
  exact exec_ev t p {} (Wn_init t)

/-! Signal model (`ElvModel/C19/Signal.lean`): `eval.ListenInterrupts` and the process-wide registration table of
os/signal.  State = the listeners (one per `ListenInterrupts` call) with their registration, the shell's session-wide
channel, the disposition of SIGINT / SIGQUIT.  `Sig.Run c` = all interleavings of `listen`, `done`, the listener
goroutines' `wakeSig` / `wakeDone` (followed by the cleanup `c`), `session` / `unsession`, and `deliver` of a signal —
the latter only while a handler is expected (`Sig.expectsHandler`). -/

/-- "Never crashes the interpreter", signal side.  With the cleanup of the code
(`signal.Stop(sigCh)`: removes the listener's own channel, never another) in every reachable state:
the process has not been killed by a signal and no signal was dropped; while the goroutine of ANY
listener has not finished, or the session channel is installed, the process HANDLES SIGINT and
SIGQUIT; so the next signal does not kill it either. -/
theorem C19_signal_handled_while_listener_live (tr : List Sig.Label) (s : Sig.State)
    (h : Sig.Run .stopOwn tr s) :
    (s.killed = none ∧ s.lost = 0) ∧
    (Sig.expectsHandler s → ∀ sg, Sig.handles s sg = true) ∧
    (Sig.expectsHandler s → ∀ sg s', Sig.step .stopOwn s (.deliver sg) = some s' →
      s'.killed = none ∧ s'.lost = 0) := by
  have hi := Sig.inv_run h
  refine ⟨⟨hi.alive, hi.lost⟩, fun he sg => Sig.handles_of_expected hi he sg, fun he sg s' hs => ?_⟩
  have hi' := Sig.inv_step hi (fun _ _ => he) hs
  exact ⟨hi'.alive, hi'.lost⟩

/-- `Stop` removes one registration, never others: the cleanup of listener `i` leaves the session
channel, the dispositions and every other listener exactly as they were. -/
theorem C19_signal_stop_removes_only_own (i : Nat) (s : Sig.State) :
    (Sig.cleanup .stopOwn i s).sess = s.sess ∧ (Sig.cleanup .stopOwn i s).ign = s.ign ∧
    ∀ l ∈ s.ls, l.id ≠ i → l ∈ (Sig.cleanup .stopOwn i s).ls := by
  refine ⟨rfl, rfl, fun l hl hne => ?_⟩
  simp only [Sig.cleanup, Sig.upd_eq_map]
  exact List.mem_map.mpr ⟨l, hl, by simp [hne]⟩

/-- A signal that arrives while listener `l` is live reaches it: `deliver` puts the signal in its
channel, its goroutine can take the `sigCh` branch, and then the context is cancelled by the signal
(`intr`) exactly if the evaluation had not returned yet — which, by `C19_nested_interrupt` with this
moment as the delivery time, makes `Eval` return the interrupted exception. -/
theorem C19_signal_interrupts_running (tr : List Sig.Label) (s : Sig.State) (h : Sig.Run .stopOwn tr s)
    (l : Sig.Lst) (hl : l ∈ s.ls) (hx : l.exited = false) (sg : Sig.Sg) :
    ∃ s1 s2 l2, Sig.step .stopOwn s (.deliver sg) = some s1 ∧
      Sig.step .stopOwn s1 (.wakeSig l.id) = some s2 ∧
      Sig.find l.id s2.ls = some l2 ∧ l2.intr = (!l.done) ∧ l2.exited = true := by
  have hi := Sig.inv_run h
  obtain ⟨s1, hs1, hk1, hf1⟩ := Sig.deliver_reaches hi hl hx sg
  obtain ⟨s2, hs2, hf2⟩ := Sig.wakeSig_intr (l1 := { l with pend := true }) hk1 hf1 rfl hx
  exact ⟨s1, s2, _, hs1, hs2, hf2, rfl, rfl⟩

/-- The script semantics of the `sig` ops (what the driver prints for them): with the cleanup of
the code no script ends `KILLED` — a token is executed or refused (`unhandled`: a signal while
nothing is supposed to handle it; `bad-script`). -/
theorem C19_signal_script_never_killed (ts : List Sig.Tok) (j : Nat) :
    Sig.runToks .stopOwn {} 0 ts ≠ .inr (j, .killed) :=
  Sig.runToks_not_killed ts {} 0 [] Sig.Run.init j

/-- `signal.Reset(syscall.SIGINT, syscall.SIGQUIT)` in the cleanup (and its sibling `signal.Ignore`) breaks exactly
this.  (a) session channel installed, one evaluation ends,
its listener cleans up, Ctrl-C: the process is KILLED although the session channel is installed;
(b) two overlapping listeners, the second evaluation ends, Ctrl-C while the first one is still
running: KILLED while a listener is live; (c) with `Ignore` the process survives but the signal is
dropped and the running evaluation is never interrupted.  All three runs are guarded (a handler was
expected at every `deliver`).  `harness/corpus/C19.txt` replays the scripts on the real code. -/
theorem C19_signal_reset_counterexample :
    (∃ tr s, Sig.Run (.resetSigs Sig.Reg.all) tr s ∧ s.sess.isSome = true ∧ s.killed = some .int) ∧
    (∃ tr s, Sig.Run (.resetSigs Sig.Reg.all) tr s ∧
      (∃ l ∈ s.ls, l.exited = false ∧ l.done = false) ∧ s.killed = some .int) ∧
    (∃ tr s, Sig.Run (.ignoreSigs Sig.Reg.all) tr s ∧
      (∃ l ∈ s.ls, l.exited = false ∧ l.done = false ∧ l.pend = false) ∧ s.lost = 1) := by
  refine ⟨⟨[.session, .listen 1, .done 1, .wakeDone 1, .deliver .int], _,
      Sig.run_of_replayG rfl, rfl, rfl⟩,
    ⟨[.listen 1, .listen 2, .done 2, .wakeDone 2, .deliver .int], _,
      Sig.run_of_replayG rfl, ⟨_, List.mem_cons_of_mem _ List.mem_cons_self, rfl, rfl⟩, rfl⟩,
    ⟨[.listen 1, .listen 2, .done 2, .wakeDone 2, .deliver .int], _,
      Sig.run_of_replayG rfl, ⟨_, List.mem_cons_of_mem _ List.mem_cons_self, rfl, rfl, rfl⟩, rfl⟩⟩

/-- the same as scripts of the harness: `S B1:while I W1 Z I` (second Ctrl-C after the command
stopped) and `B1:while B2:gate F2 W2 Z I W1` (overlap), run with the three cleanups -/
example :
    (match Sig.runToks (.resetSigs Sig.Reg.all) {} 0 [.sess, .begin 1 false, .sig .int, .wait 1, .delay, .sig .int] with
      | .inr (5, .killed) => true | _ => false) = true ∧
    (match Sig.runToks (.resetSigs Sig.Reg.all) {} 0
        [.begin 1 false, .begin 2 true, .fin 2, .wait 2, .delay, .sig .int, .wait 1] with
      | .inr (5, .killed) => true | _ => false) = true ∧
    (match Sig.runToks .stopOwn {} 0 [.sess, .begin 1 false, .sig .int, .wait 1, .delay, .sig .int] with
      | .inl x => x.res == [(1, true)] && x.st.sessSeen == 2 | _ => false) = true ∧
    (match Sig.runToks .stopOwn {} 0
        [.begin 1 false, .begin 2 true, .fin 2, .wait 2, .delay, .sig .int, .wait 1] with
      | .inl x => x.res == [(2, false), (1, true)] | _ => false) = true := by
  refine ⟨?_, ?_, ?_, ?_⟩ <;> decide

/-- non-vacuity of the signal theorems: a guarded run of the code's cleanup with the session
channel, two overlapping listeners, one finishing, a SIGQUIT reaching the other -/
example : ∃ s, Sig.Run .stopOwn [.session, .listen 1, .listen 2, .done 2, .wakeDone 2, .deliver .quit,
      .wakeSig 1, .done 1, .deliver .int] s ∧ s.sessSeen = 2 ∧ s.killed = none ∧
    (Sig.find 1 s.ls).map (·.intr) = some true ∧ (Sig.find 2 s.ls).map (·.intr) = some false :=
  ⟨_, Sig.run_of_replayG rfl, rfl, rfl, rfl, rfl⟩

/-- `for i [(range 3)] { -vstep; try { -vstep } finally { -vstep } }` interrupted at step 4 -/
example : exec 4 (.loop 3 (.step (.tryFinally (.step .done) (.step .done) .done)) .done) {} =
    (.int, { steps := 4, cancelled := true }) := by decide

/-- an evaluation `range 2 | peach &num-workers=1 {…}` interrupted while a callback runs: the
interrupt arrives (`cancel`), `Acquire` fails, the callback's pipeline check aborts, `Eval`
returns the interrupted exception -/
def C19.sample : List Label :=
  [.cbegin true, .pstart 1 false false, .pform 1 false, .pform 1 false, .pbegin 2 (some 1) 2 false,
   .pformdone 1 false, .peach 2 (.chk1 false), .peach 2 .acqOk, .peach 2 (.chk2 false), .peach 2 .spawn,
   .peach 2 (.chk1 false), .peach 2 (.start 0), .cbegin false, .cancel, .pabort 3 false,
   .cexit false false .cexc, .peach 2 .acqErr, .peach 2 .eof, .peach 2 (.finish 0 .exc), .peach 2 (.mark 0),
   .peach 2 (.done 0), .peach 2 .waitRet, .peach 2 (.release 0), .pformdone 1 false, .pend 1 false,
   .cexit true false .cexc, .ret .int]

example : ∃ s, Run C19.sample s ∧ s.result = some .int ∧ s.pipes = [] ∧ s.cancelled = true ∧
    s.topExit = some (.cexc, true) :=
  ⟨_, run_of_replay rfl, rfl, rfl, rfl, rfl⟩

/-- a foreground pipeline start is enabled before the interrupt (hypothesis of theorem 1) -/
example : ∃ s s', Run (C19.sample.take 1) s ∧ step s (.pstart 1 false false) = some s' :=
  ⟨_, _, run_of_replay rfl, rfl⟩

/-- an uninterrupted evaluation returns OK -/
example : ∃ s, Run [.cbegin true, .pstart 1 false false, .pform 1 false, .sleepOk, .pformdone 1 false,
    .pend 1 false, .cexit true false .cok, .cancel, .ret .ok] s ∧ s.result = some .ok ∧
    s.topExit = some (.cok, false) :=
  ⟨_, run_of_replay rfl, rfl, rfl⟩

/-- `peach {|_| for _ [1 2] { { -vstep } | { sleep; -vstep } } } [1 2]`, interrupt delivered at
time 5 (inside the first callback's second loop round): the executable schedule ends `interrupted`;
delivered at time 50 (after the end) or never: OK -/
def C19.sampleN : Chunk :=
  .pipe (.peach 2 (.pipe (.loop 2 (.pipe (.par (.call (.pipe .step .done))
    (.call (.pipe .sleep (.pipe .step .done)))) .done)) .done)) .done

example : runP (some 5) C19.sampleN 0 = (.int, 8) ∧ runP (some 50) C19.sampleN 0 = (.ok, 46) ∧
    runP none C19.sampleN 0 = (.ok, 46) := by decide

example : evP (some 5) C19.sampleN 0 .int 8 := by
  have h := C19_nested_schedule_exists (some 5) C19.sampleN 0
  rwa [show runP (some 5) C19.sampleN 0 = (.int, 8) by decide] at h

/-- a genuinely overlapping execution of `sleep | -vstep`: both forms start at time 1, the step
ends at 2, the interrupt arrives at 2, the sleep notices it and ends at 3; the pipeline's error is
`interrupted` and so is the chunk's (hypotheses of `C19_nested_interrupt` /
`C19_nested_no_spurious_interrupt` with real concurrency) -/
example : evP (some 2) (.pipe (.par .sleep .step) .done) 0 .int 3 := by
  simp only [evP]
  refine ⟨0, Nat.le_refl _, Or.inr ⟨by decide, .int, 3, ?_, Or.inl ⟨by simp, rfl, rfl⟩⟩⟩
  simp only [evC]
  exact ⟨1, .int, 3, 1, .ok, 2, by omega, by omega, by omega, by omega,
    ⟨by omega, fun _ => by decide⟩, ⟨by omega, rfl⟩, rfl⟩

/-- the same pipeline when the interrupt arrives only after both forms and the final check: OK -/
example : evP (some 9) (.pipe (.par .sleep .step) .done) 0 .ok 4 := by
  simp only [evP]
  refine ⟨0, Nat.le_refl _, Or.inr ⟨by decide, .ok, 3, ?_, Or.inr ⟨rfl, by omega, by decide⟩⟩⟩
  simp only [evC]
  exact ⟨1, .ok, 3, 1, .ok, 2, by omega, by omega, by omega, by omega,
    ⟨by omega, fun h => by cases h⟩, ⟨by omega, rfl⟩, rfl⟩

/-- the sequential sample of `C19_sequential_interrupt` seen through the nested semantics -/
example : evP (syncT 4) (emb (.loop 3 (.step (.tryFinally (.step .done) (.step .done) .done)) .done)) 0 .int 4 := by
  have h := C19_nested_extends_sequential 4 (.loop 3 (.step (.tryFinally (.step .done) (.step .done) .done)) .done)
  rwa [show exec 4 (.loop 3 (.step (.tryFinally (.step .done) (.step .done) .done)) .done) {} =
    (.int, { steps := 4, cancelled := true }) by decide] at h
