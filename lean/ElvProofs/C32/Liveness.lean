/-
C32 — liveness over infinite executions: under explicit fairness assumptions
every pending redraw request is followed by the start of a redraw callback,
unless the loop has returned.
-/
import ElvProofs.C32.Progress
namespace C32

def Idle (s : State) : Prop :=
  (s.pc = .sel ∧ s.inputCh = [] ∧ s.returnCh = none ∧ s.token = false) ∨ ∃ r, s.pc = .done r

/-- An infinite execution of the model with the fairness the statement needs.

* `loopFair`: from every point on, the loop goroutine eventually takes a step
  unless it is idle.  This is scheduler fairness plus starvation-freedom of
  `redrawMutex` (Go's `sync.Mutex` hands the lock over to a waiter that has
  waited for more than 1 ms).
* `inputsStop`: the environment eventually stops sending input events.  `Run`
  consumes every queued event before it redraws ("to minimize redraws"), so a
  never-ending stream of events that always finds the buffer non-empty
  postpones the redraw for ever; this is the loop's design, not modelled away. -/
structure FairExec (σ : Nat → State) (lab : Nat → Label) : Prop where
  start : Reachable (σ 0)
  steps : ∀ i, step (σ i) (lab i) = some (σ (i + 1))
  loopFair : ∀ i, ∃ j, i ≤ j ∧ ((lab j).isLoop = true ∨ Idle (σ j))
  inputsStop : ∃ N, ∀ j, N ≤ j → (lab j).isInput = false

theorem FairExec.reachable {σ : Nat → State} {lab : Nat → Label} (hf : FairExec σ lab) :
    ∀ i, Reachable (σ i)
  | 0 => hf.start
  | i + 1 => Reachable.step (hf.reachable i) (hf.steps i)

theorem always_from {P : Nat → Prop} {i : Nat} (h0 : P i) (hstep : ∀ j, i ≤ j → P j → P (j + 1)) :
    ∀ j, i ≤ j → P j := by
  intro j hj
  induction hj with
  | refl => exact h0
  | step hj ih => exact hstep _ hj ih

/-- A measure that never goes up from `k` on, and goes down at every index where
`p` holds, leaves only finitely many such indices. -/
theorem eventually_false_of_measure (f : Nat → Nat) (p : Nat → Bool) :
    ∀ n k, f k < n → (∀ j, k ≤ j → f (j + 1) + (if p j then 1 else 0) ≤ f j) →
      ∃ M, k ≤ M ∧ ∀ j, M ≤ j → p j = false := by
  intro n
  induction n with
  | zero => exact fun k hk => absurd hk (Nat.not_lt_zero _)
  | succ n ih =>
    intro k hk hdec
    have hmono : ∀ j, k ≤ j → f j ≤ f k :=
      always_from (Nat.le_refl _) fun j hj ih => Nat.le_trans (Nat.le_trans (Nat.le_add_right _ _) (hdec j hj)) ih
    by_cases hex : ∃ j, k ≤ j ∧ p j = true
    · obtain ⟨j, hj, hp⟩ := hex
      have hle := hmono j hj
      have hlt := hdec j hj
      rw [hp, if_pos rfl] at hlt
      obtain ⟨M, hM, hMp⟩ := ih (j + 1) (by omega) fun j' hj' => hdec j' (by omega)
      exact ⟨M, by omega, hMp⟩
    · exact ⟨k, Nat.le_refl _, fun j hj => eq_false_of_ne_true fun hp => hex ⟨j, hj, hp⟩⟩

/-- A pending request stays pending until the flag is extracted, and then the
loop sits at `draw b` until the redraw starts. -/
theorem pend_or_draw_step {s s' : State} {l : Label} (h : Step s l s') (hn : l.isRedrawStart = false)
    (hp : pending s.log = true ∨ ∃ b, s.pc = .draw b) :
    pending s'.log = true ∨ ∃ b, s'.pc = .draw b := by
  cases h
  case drawStart | fStart => cases hn
  case r1 | inp | retOk | retDrop => exact hp
  case r2 => exact .inl rfl
  case extract => exact .inr ⟨_, rfl⟩
  all_goals exact .inl (hp.resolve_right nofun)

theorem redraw_eventually (σ : Nat → State) (lab : Nat → Label) (hf : FairExec σ lab)
    (i : Nat) (hp : pending (σ i).log = true ∨ ∃ b, (σ i).pc = .draw b) :
    ∃ j, i ≤ j ∧ ((lab j).isRedrawStart = true ∨ ∃ r, (σ j).pc = .done r) := by
  apply Classical.byContradiction
  intro hcon
  have hno : ∀ j, i ≤ j → (lab j).isRedrawStart = false :=
    fun j hj => eq_false_of_ne_true fun hb => hcon ⟨j, hj, .inl hb⟩
  have hpd := always_from (P := fun j => pending (σ j).log = true ∨ ∃ b, (σ j).pc = .draw b) hp
    fun j hj => pend_or_draw_step (Step_of_step (hf.steps j)) (hno j hj)
  -- once the inputs have stopped no step raises the rank and every loop step
  -- lowers it, so the loop goroutine takes only finitely many more steps
  obtain ⟨N, hN⟩ := hf.inputsStop
  obtain ⟨M, hM, hMl⟩ := eventually_false_of_measure (fun j => rank (σ j)) (fun j => (lab j).isLoop) _ (max i N)
    (Nat.lt_succ_self _) fun j hj => by
      have := rank_step (Step_of_step (hf.steps j)) (hno j (by omega))
      rwa [hN j (by omega), if_neg Bool.false_ne_true] at this
  -- so it is idle at some later `j`: at the outer `select` with no token although a request is pending
  obtain ⟨j, hj, hstep | ⟨hsel, _, _, htok⟩ | ⟨r, hr⟩⟩ := hf.loopFair M
  · rw [hMl j hj] at hstep; cases hstep
  · rcases hpd j (by omega) with hpj | ⟨b, hb⟩
    · rcases (Inv_of_reachable (hf.reachable j)).pend hpj with h | h | h
      · rw [htok] at h; cases h
      · rw [hsel] at h; cases h
      · rw [hsel] at h; cases h
    · rw [hsel] at hb; cases hb
  · exact hcon ⟨j, by omega, .inr ⟨r, hr⟩⟩

theorem pending_of_pendingFull : ∀ {log : List Obs}, pendingFull log = true → pending log = true
  | [], h => nomatch h
  | o :: rest, h => by
    cases o <;> first | rfl | exact pending_of_pendingFull (log := rest) h | cases h

def FullServed (s : State) (l : Label) : Prop :=
  (l = .drawStart ∧ s.pc = .draw true) ∨ l = .fStart ∨ ∃ r, s.pc = .done r

/-- Until it is served, a full request is pending or already extracted as `true`. -/
theorem fullQ_step {s s' : State} {l : Label} (h : Step s l s') (hfull : InvFull s) (hn : ¬ FullServed s l)
    (hq : pendingFull s.log = true ∨ s.pc = .draw true) :
    pendingFull s'.log = true ∨ s'.pc = .draw true := by
  cases h
  case fStart => exact absurd (.inr (.inl rfl)) hn
  case drawStart => exact .inl (hq.resolve_right fun hb => hn (.inl ⟨rfl, hb⟩))
  case extract => exact .inr (congrArg Pc.draw (hfull (hq.resolve_right nofun)))
  case r1 | inp | retOk | retDrop => exact hq
  case r2 => exact hq.imp_left fun h => Bool.or_eq_true_iff.mpr (.inr h)
  all_goals exact .inl (hq.resolve_right nofun)

/-- While a full request is pending the loop does not get to `draw false`: the
extraction yields `true`. -/
theorem not_draw_false_step {s s' : State} {l : Label} (h : Step s l s') (hfull : InvFull s)
    (hq : pendingFull s.log = true ∨ s.pc = .draw true) (hd : s.pc ≠ .draw false) :
    s'.pc ≠ .draw false := by
  cases h
  case extract => cases hfull (hq.resolve_right nofun); exact nofun
  case r1 | r2 | inp | retOk | retDrop => exact hd
  all_goals exact nofun

theorem redrawStart_cases {s s' : State} {l : Label} (h : Step s l s') (hl : l.isRedrawStart = true) :
    (l = .drawStart ∧ ∃ b, s.pc = .draw b ∧ s'.pc = .drawing) ∨ l = .fStart := by
  cases h
  case drawStart => exact .inl ⟨rfl, _, rfl, rfl⟩
  case fStart => exact .inr rfl
  all_goals cases hl

theorem full_redraw_eventually (σ : Nat → State) (lab : Nat → Label) (hf : FairExec σ lab)
    (i : Nat) (hp : pendingFull (σ i).log = true) :
    ∃ j, i ≤ j ∧ FullServed (σ j) (lab j) := by
  apply Classical.byContradiction
  intro hcon
  have hno : ∀ j, i ≤ j → ¬ FullServed (σ j) (lab j) := fun j hj hs => hcon ⟨j, hj, hs⟩
  have hinv : ∀ j, InvFull (σ j) := fun j => (Inv_of_reachable (hf.reachable j)).full
  have hq := always_from (P := fun j => pendingFull (σ j).log = true ∨ (σ j).pc = .draw true) (.inl hp)
    fun j hj => fullQ_step (Step_of_step (hf.steps j)) (hinv j) (hno j hj)
  -- a redraw start that does not serve the request is an ordinary one at `draw false`
  have hstart : ∀ j, i ≤ j → (lab j).isRedrawStart = true ∨ (∃ r, (σ j).pc = .done r) →
      (σ j).pc = .draw false ∧ (σ (j + 1)).pc = .drawing := by
    intro j hj h
    rcases h with h | h
    rotate_left
    · exact absurd (.inr (.inr h)) (hno j hj)
    rcases redrawStart_cases (Step_of_step (hf.steps j)) h with ⟨hl, b, hb, hb'⟩ | hl
    rotate_left
    · exact absurd (.inr (.inl hl)) (hno j hj)
    cases b
    · exact ⟨hb, hb'⟩
    · exact absurd (.inl ⟨hl, hb⟩) (hno j hj)
  -- the first one was extracted before the request, which is still pending after it
  obtain ⟨j1, hj1, h1⟩ := redraw_eventually σ lab hf i (.inl (pending_of_pendingFull hp))
  obtain ⟨-, hd1⟩ := hstart j1 hj1 h1
  -- from then on the loop cannot get to `draw false` again
  have hnd := always_from (P := fun j => (σ j).pc ≠ .draw false) (i := j1 + 1) (by rw [hd1]; exact nofun)
    fun j hj => not_draw_false_step (Step_of_step (hf.steps j)) (hinv j) (hq j (by omega))
  have hp2 : pending (σ (j1 + 1)).log = true ∨ ∃ b, (σ (j1 + 1)).pc = .draw b :=
    (hq (j1 + 1) (by omega)).imp pending_of_pendingFull fun h => ⟨_, h⟩
  obtain ⟨j2, hj2, h2⟩ := redraw_eventually σ lab hf (j1 + 1) hp2
  exact hnd j2 hj2 (hstart j2 (by omega) h2).1

end C32
