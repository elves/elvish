/-
The trace acceptor only ever holds reachable model states: every candidate is produced from `Cand.init` by
`step`.  Hence a recorded trace that the driver accepts is (up to the documented log windows) an execution of
the model, and every invariant proved for `Reachable` states applies to it.
-/
import ElvModel.C32.Accept
import ElvProofs.C32.Inv
namespace C32

def CandsOK (cs : List Cand) : Prop := ∀ c ∈ cs, Reachable c.s

theorem CandsOK.nil : CandsOK [] := fun _ h => absurd h List.not_mem_nil

theorem CandsOK.cons {c : Cand} {cs : List Cand} (hc : Reachable c.s) (h : CandsOK cs) : CandsOK (c :: cs) :=
  List.forall_mem_cons.mpr ⟨hc, h⟩

theorem insertNew_ok {acc : List Cand} {c : Cand} (ha : CandsOK acc) (hc : Reachable c.s) :
    CandsOK (insertNew acc c).1 := by
  unfold insertNew
  split
  · exact ha
  · exact ha.cons hc

theorem commitAt_ok (c : Cand) (hc : Reachable c.s) :
    ∀ (post pre : List (EnvOp × Option Bool)), CandsOK (commitAt c pre post) := by
  intro post
  induction post with
  | nil => exact fun _ => .nil
  | cons p post ih =>
    intro pre
    obtain ⟨op, _ | o⟩ := p
    · intro x hx
      simp only [commitAt, List.mem_append] at hx
      rcases hx with hx | hx
      · split at hx
        · next s' hs => cases List.mem_singleton.mp hx; exact hc.step hs
        · cases hx
      · exact ih _ x hx
    · exact ih _

theorem succs_ok (c : Cand) (hc : Reachable c.s) : CandsOK c.succs := by
  intro x hx
  simp only [Cand.succs, List.mem_append] at hx
  rcases hx with hx | hx
  · exact commitAt_ok c hc _ _ x hx
  · split at hx
    · cases hx
    · obtain ⟨l, _, hl⟩ := List.mem_filterMap.mp hx
      split at hl
      · next s' hs => cases hl; exact hc.step hs
      · cases hl

/-- The state of the folds in `closure`: the set found so far and the next frontier. -/
def PairOK (st : List Cand × List Cand) : Prop := CandsOK st.1 ∧ CandsOK st.2

theorem closure_ok : ∀ (fuel : Nat) (frontier acc : List Cand),
    CandsOK frontier → CandsOK acc → CandsOK (closure fuel frontier acc) := by
  intro fuel
  induction fuel with
  | zero => exact fun _ _ _ ha => ha
  | succ n ih =>
    intro frontier acc hf ha
    simp only [closure]
    generalize hres : frontier.foldl _ (acc, []) = res
    have key : PairOK res := by
      rw [← hres]
      refine List.foldlRecOn (motive := PairOK) frontier _ ⟨ha, .nil⟩ fun st hst c hc => ?_
      refine List.foldlRecOn (motive := PairOK) c.succs _ hst fun st hst c' hc' => ?_
      have hc' := succs_ok c (hf c hc) c' hc'
      have h1 := insertNew_ok hst.1 hc'
      split
      · exact ⟨h1, hst.2.cons hc'⟩
      · exact ⟨h1, hst.2⟩
    obtain ⟨acc', _ | ⟨y, ys⟩⟩ := res
    · exact key.1
    · exact ih _ _ key.2 key.1

theorem closeAll_ok {cs : List Cand} (h : CandsOK cs) : CandsOK (closeAll cs) :=
  closure_ok _ _ _ h h

theorem exact_ok {c c' : Cand} {l : Label} (hc : Reachable c.s) (h : exact c l = some c') :
    Reachable c'.s := by
  unfold exact at h
  split at h
  · cases h
  · obtain ⟨s', hs, rfl⟩ := Option.map_eq_some_iff.mp h
    exact hc.step hs

theorem endOp_ok {c c' : Cand} {op : EnvOp} {o : Bool} (hc : Reachable c.s) (h : endOp c op o = some c') :
    Reachable c'.s := by
  unfold endOp at h
  split at h <;> cases h
  exact hc

theorem confirm_ok {c c' : Cand} {l : Label} (hc : Reachable c.s) (h : confirm c l = some c') :
    Reachable c'.s := by
  unfold confirm at h
  split at h <;> cases h
  exact hc

/-- Every entry is applied through `step` (`R1`, `exact`), or leaves the state
as it is (`endOp`, `confirm`, the begin of an `Input` or `Return` call), behind
guards that can only reject. -/
theorem applyEntry_ok {c c' : Cand} {e : Entry} (hc : Reachable c.s) (h : applyEntry c e = some c') :
    Reachable c'.s := by
  cases e <;> dsimp only [applyEntry] at h
  case R1 =>
    obtain ⟨s', hs, rfl⟩ := Option.map_eq_some_iff.mp h
    exact hc.step hs
  case R2 | I2 | T2 => exact endOp_ok hc h
  case I1 | T1 => split at h <;> cases h; exact hc
  case SI | SR | ST | PR | PR0 | PI | PI0 => exact confirm_ok hc h
  case X | D2 | H2 | F2 | RET => exact exact_ok hc h
  case D1 | H1 | F1 => (repeat' split at h) <;> first | cases h | exact exact_ok hc h

theorem accept_ok {cs : List Cand} (e : Entry) (h : CandsOK cs) : CandsOK (accept cs e) := by
  unfold accept
  refine List.foldlRecOn (motive := CandsOK) _ _ .nil fun acc hacc c hc => ?_
  have hc := closeAll_ok h c hc
  split
  · next c' hc' => exact insertNew_ok hacc (applyEntry_ok hc hc')
  · exact hacc

theorem init_ok : CandsOK [Cand.init] := CandsOK.nil.cons Reachable.init

theorem acceptAll_ok (es : List Entry) : CandsOK (es.foldl accept [Cand.init]) :=
  List.foldlRecOn es accept init_ok fun _ h e _ => accept_ok e h

end C32
