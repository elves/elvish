/-
C32 — the step function as a relation on explicit records: one constructor
per enabled case of `step`, proved equivalent to `step`. Invariant proofs do
case analysis on this relation.
-/
import ElvModel.C32.Model
namespace C32

inductive Step : State → Label → State → Prop
  | r1 {pc ch tok rc fl log} (full : Bool) :
      Step ⟨pc, ch, tok, rc, fl, none, log⟩ (.r1 full) ⟨pc, ch, tok, rc, fl || full, some full, log⟩
  | r2 {pc ch tok rc fl log} (full : Bool) :
      Step ⟨pc, ch, tok, rc, fl, some full, log⟩ (.r2 (!tok)) ⟨pc, ch, true, rc, fl, none, .req full :: log⟩
  | inp {pc ch tok rc fl mu log} (e : Ev) (hc : ch.length < inputCap) :
      Step ⟨pc, ch, tok, rc, fl, mu, log⟩ (.inp e) ⟨pc, ch ++ [e], tok, rc, fl, mu, .sent e :: log⟩
  | retOk {pc ch tok fl mu log} (r : Ret) :
      Step ⟨pc, ch, tok, none, fl, mu, log⟩ (.ret r true) ⟨pc, ch, tok, some r, fl, mu, .retCommit r :: log⟩
  | retDrop {pc ch tok fl mu log} (r r0 : Ret) :
      Step ⟨pc, ch, tok, some r0, fl, mu, log⟩ (.ret r false) ⟨pc, ch, tok, some r0, fl, mu, .retDrop r :: log⟩
  | extract {ch tok rc fl log} :
      Step ⟨.top, ch, tok, rc, fl, none, log⟩ (.extract fl) ⟨.draw fl, ch, tok, rc, false, none, .extract fl :: log⟩
  | drawStart {ch tok rc fl mu log} (b : Bool) :
      Step ⟨.draw b, ch, tok, rc, fl, mu, log⟩ .drawStart ⟨.drawing, ch, tok, rc, fl, mu, .drawStart b :: log⟩
  | drawEnd {ch tok rc fl mu log} :
      Step ⟨.drawing, ch, tok, rc, fl, mu, log⟩ .drawEnd ⟨.sel, ch, tok, rc, fl, mu, .drawEnd :: log⟩
  | selIn {ch tok rc fl mu log} (e : Ev) :
      Step ⟨.sel, e :: ch, tok, rc, fl, mu, log⟩ (.selIn e) ⟨.handle e, ch, tok, rc, fl, mu, log⟩
  | selRet {ch tok fl mu log} (r : Ret) :
      Step ⟨.sel, ch, tok, some r, fl, mu, log⟩ (.selRet r) ⟨.final r, ch, tok, none, fl, mu, log⟩
  | selTok {ch rc fl mu log} :
      Step ⟨.sel, ch, true, rc, fl, mu, log⟩ .selTok ⟨.top, ch, false, rc, fl, mu, log⟩
  | hStart {ch tok rc fl mu log} (e : Ev) :
      Step ⟨.handle e, ch, tok, rc, fl, mu, log⟩ .hStart ⟨.handling, ch, tok, rc, fl, mu, .handleStart e :: log⟩
  | hEnd {ch tok rc fl mu log} :
      Step ⟨.handling, ch, tok, rc, fl, mu, log⟩ .hEnd ⟨.pollRet, ch, tok, rc, fl, mu, .handleEnd :: log⟩
  | pollRetSome {ch tok fl mu log} (r : Ret) :
      Step ⟨.pollRet, ch, tok, some r, fl, mu, log⟩ (.pollRet (some r)) ⟨.final r, ch, tok, none, fl, mu, log⟩
  | pollRetNone {ch tok fl mu log} :
      Step ⟨.pollRet, ch, tok, none, fl, mu, log⟩ (.pollRet none) ⟨.pollIn, ch, tok, none, fl, mu, log⟩
  | pollInSome {ch tok rc fl mu log} (e : Ev) :
      Step ⟨.pollIn, e :: ch, tok, rc, fl, mu, log⟩ (.pollIn (some e)) ⟨.handle e, ch, tok, rc, fl, mu, log⟩
  | pollInNone {tok rc fl mu log} :
      Step ⟨.pollIn, [], tok, rc, fl, mu, log⟩ (.pollIn none) ⟨.top, [], tok, rc, fl, mu, log⟩
  | fStart {ch tok rc fl mu log} (r : Ret) :
      Step ⟨.final r, ch, tok, rc, fl, mu, log⟩ .fStart ⟨.finalDrawing r, ch, tok, rc, fl, mu, .finalStart :: log⟩
  | fEnd {ch tok rc fl mu log} (r : Ret) :
      Step ⟨.finalDrawing r, ch, tok, rc, fl, mu, log⟩ .fEnd ⟨.finalDone r, ch, tok, rc, fl, mu, .finalEnd :: log⟩
  | retn {ch tok rc fl mu log} (r : Ret) :
      Step ⟨.finalDone r, ch, tok, rc, fl, mu, log⟩ (.retn r) ⟨.done r, ch, tok, rc, fl, mu, .returned r :: log⟩

/-- Inversion of `step`. For each label, `step` is a `match` on the fields it reads,
sometimes followed by an `if`: splitting along these leaves `none = some s'` for
the disabled cases and one goal per constructor of `Step`, in that order. -/
theorem Step_of_step {s s' : State} {l : Label} (h : step s l = some s') : Step s l s' := by
  obtain ⟨pc, ch, tok, rc, fl, mu, log⟩ := s
  cases l <;> dsimp only [step] at h <;> (repeat' split at h) <;> cases h
  · exact .r1 _
  · rename_i hs; cases hs; exact .r2 _
  · rename_i hc; exact .inp _ hc
  · rename_i hok; cases hok; exact .retOk _
  · rename_i hok; cases hok; exact .retDrop _ _
  · rename_i hb; cases hb; exact .extract
  · exact .drawStart _
  · exact .drawEnd
  · rename_i he; cases he; exact .selIn _
  · rename_i hr; cases hr; exact .selRet _
  · exact .selTok
  · exact .hStart _
  · exact .hEnd
  · rename_i hr; cases hr; exact .pollRetSome _
  · exact .pollRetNone
  · rename_i he; cases he; exact .pollInSome _
  · exact .pollInNone
  · exact .fStart _
  · exact .fEnd _
  · rename_i hr; cases hr; exact .retn _

theorem step_of_Step {s s' : State} {l : Label} (h : Step s l s') : step s l = some s' := by
  cases h
  case inp hc => exact if_pos hc
  case r2 | extract | selIn | selRet | pollRetSome | pollInSome | retn => exact if_pos rfl
  all_goals rfl

end C32
