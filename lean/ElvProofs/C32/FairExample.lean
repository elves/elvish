/-
C32 — non-vacuity of the liveness theorems: a concrete infinite fair
execution in which a full redraw request is pending.
-/
import ElvProofs.C32.Liveness
namespace C32

/-- Redraw(true) is requested and Return(1) accepted before the loop starts;
the loop redraws (full), takes the result, does the final redraw and returns;
then the environment keeps calling `Return`, which has no effect. -/
def demoPrefix : List Label :=
  [.r1 true, .r2 true, .ret 1 true, .extract true, .drawStart, .drawEnd, .selRet 1, .fStart, .fEnd, .retn 1,
   .ret 2 true]

def demoLab (i : Nat) : Label :=
  match demoPrefix[i]? with
  | some l => l
  | none => .ret 3 false

def demoState : Nat → State
  | 0 => init
  | i + 1 => match step (demoState i) (demoLab i) with
    | some s => s
    | none => demoState i

theorem demoState_succ {i : Nat} {s : State} (h : step (demoState i) (demoLab i) = some s) :
    demoState (i + 1) = s := by
  simp only [demoState, h]

theorem demoLab_tail {i : Nat} (h : 11 ≤ i) : demoLab i = .ret 3 false := by
  unfold demoLab
  rw [List.getElem?_eq_none h]

theorem step_retDrop (s : State) (r : Ret) {r0 : Ret} (h : s.returnCh = some r0) :
    step s (.ret r false) = some { s with log := .retDrop r :: s.log } := by
  obtain ⟨pc, ch, tok, rc, fl, mu, log⟩ := s
  cases h
  exact step_of_Step (.retDrop r r0)

theorem demo_tail (d : Nat) :
    (demoState (11 + d)).pc = .done 1 ∧ (demoState (11 + d)).returnCh = some 2 := by
  induction d with
  | zero => exact ⟨rfl, rfl⟩
  | succ d ih =>
    have hs := step_retDrop (demoState (11 + d)) 3 ih.2
    rw [← demoLab_tail (Nat.le_add_right 11 d)] at hs
    rw [← Nat.add_assoc, demoState_succ hs]
    exact ih

theorem demo_steps (i : Nat) : step (demoState i) (demoLab i) = some (demoState (i + 1)) := by
  suffices h : (step (demoState i) (demoLab i)).isSome = true by
    obtain ⟨s, hs⟩ := Option.isSome_iff_exists.mp h
    rw [hs, demoState_succ hs]
  by_cases h : i < 11
  · exact (by decide : ∀ i < 11, (step (demoState i) (demoLab i)).isSome = true) i h
  · obtain ⟨d, rfl⟩ := Nat.exists_eq_add_of_le (Nat.le_of_not_lt h)
    rw [demoLab_tail (Nat.le_add_right 11 d), step_retDrop _ 3 (demo_tail d).2]
    rfl

theorem demo_fair : FairExec demoState demoLab where
  start := Reachable.init
  steps := demo_steps
  loopFair i := ⟨11 + i, Nat.le_add_left i 11, .inr (.inr ⟨1, (demo_tail i).1⟩)⟩
  inputsStop := by
    refine ⟨0, fun j _ => ?_⟩
    by_cases h : j < 11
    · exact (by decide : ∀ j < 11, (demoLab j).isInput = false) j h
    · rw [demoLab_tail (Nat.le_of_not_lt h)]
      rfl

theorem demo_pending : pendingFull (demoState 2).log = true := by decide

end C32
