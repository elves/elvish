/-
C32 — inductive invariants of the loop protocol model, over all reachable
states (= all interleavings and all resolutions of `select`).

Each invariant reads a few fields of the state and one or two readings of the
ghost log.  Its preservation proof names the steps that touch what it reads;
for every other step the invariant of the new state is, after evaluation of
the log readings and pc classes on the new head, the invariant of the old one
(`exact hi`).
-/
import ElvProofs.C32.Step
namespace C32

/-- From these pcs the loop reaches `top` (or the final redraw) without blocking. -/
def nonBlockingPc : Pc → Bool
  | .top | .handle _ | .handling | .pollRet | .pollIn => true
  | _ => false

/-- The loop has taken a result out of `returnCh`. -/
def returningPc : Pc → Bool
  | .final _ | .finalDrawing _ | .finalDone _ | .done _ => true
  | _ => false

def inCallback : Pc → Bool
  | .drawing | .handling | .finalDrawing _ => true
  | _ => false

/-- The event taken out of `inputCh` whose handler has not started yet. -/
def cur : Pc → List Ev
  | .handle e => [e]
  | _ => []

/-- The result taken out of `returnCh`. -/
def retOf : Pc → List Ret
  | .final r | .finalDrawing r | .finalDone r | .done r => [r]
  | _ => []

theorem retOf_of_mem {pc : Pc} {r : Ret} (h : r ∈ retOf pc) : retOf pc = [r] := by
  cases pc
  case final | finalDrawing | finalDone | done => cases List.mem_singleton.mp h; rfl
  all_goals cases h

def InvMu (s : State) : Prop := s.mu = some true → s.flag = true

theorem InvMu_step {s s' : State} {l : Label} (hi : InvMu s) (h : Step s l s') : InvMu s' := by
  cases h
  case r1 => intro hm; cases hm; exact Bool.or_true _
  case r2 | extract => exact nofun
  all_goals exact hi

def InvFull (s : State) : Prop := pendingFull s.log = true → s.flag = true

theorem InvFull_step {s s' : State} {l : Label} (hm : InvMu s) (hi : InvFull s)
    (h : Step s l s') : InvFull s' := by
  cases h
  case r1 => exact fun hp => Bool.or_eq_true_iff.mpr (.inl (hi hp))
  case r2 =>
    intro hp
    rcases Bool.or_eq_true_iff.mp hp with hf | hp
    · exact hm (congrArg some hf)
    · exact hi hp
  case extract => exact nofun
  all_goals exact hi

def InvPend (s : State) : Prop :=
  pending s.log = true → s.token = true ∨ nonBlockingPc s.pc = true ∨ returningPc s.pc = true

theorem InvPend_step {s s' : State} {l : Label} (hi : InvPend s) (h : Step s l s') : InvPend s' := by
  cases h
  case r1 | inp | retOk | retDrop => exact hi
  case r2 => exact fun _ => .inl rfl
  case extract => exact nofun
  case drawStart | drawEnd => exact fun hp => (hi hp).imp_right nofun
  case selRet | pollRetSome | fStart | fEnd | retn => exact fun _ => .inr (.inr rfl)
  all_goals exact fun _ => .inr (.inl rfl)

def InvExtract (s : State) : Prop := ∀ b, s.pc = .draw b → lastExtract s.log = some b

theorem InvExtract_step {s s' : State} {l : Label} (hi : InvExtract s) (h : Step s l s') :
    InvExtract s' := by
  cases h
  case r1 | r2 | inp | retOk | retDrop => exact hi
  case extract => intro b hb; cases hb; rfl
  all_goals exact fun _ hb => nomatch hb

/-- Log-level statement: every extraction that follows a full request yields
`true`, and every ordinary redraw carries exactly the flag extracted for it. -/
def NoDowngrade : List Obs → Prop
  | [] => True
  | .extract b :: rest => (pendingFull rest = true → b = true) ∧ NoDowngrade rest
  | .drawStart b :: rest => lastExtract rest = some b ∧ NoDowngrade rest
  | _ :: rest => NoDowngrade rest

theorem NoDowngrade_step {s s' : State} {l : Label} (hf : InvFull s) (he : InvExtract s)
    (hi : NoDowngrade s.log) (h : Step s l s') : NoDowngrade s'.log := by
  cases h
  case extract => exact ⟨hf, hi⟩
  case drawStart b => exact ⟨he b rfl, hi⟩
  all_goals exact hi

def InvArrival (s : State) : Prop :=
  arrived s.log = handled s.log ++ cur s.pc ++ s.inputCh ∧ s.inputCh.length ≤ inputCap

theorem InvArrival_step {s s' : State} {l : Label} (hi : InvArrival s) (h : Step s l s') :
    InvArrival s' := by
  cases h
  case inp e hc =>
    exact ⟨(congrArg (· ++ [e]) hi.1).trans (List.append_assoc _ _ _), by rw [List.length_append]; exact hc⟩
  case selIn | pollInSome => exact ⟨by simpa [cur] using hi.1, Nat.le_of_succ_le hi.2⟩
  case hStart => exact ⟨by simpa [arrived, handled, cur] using hi.1, hi.2⟩
  all_goals exact hi

/-- The newest callback observation is a begin. -/
def cbOpen : List Obs → Bool
  | [] => false
  | .drawStart _ :: _ => true
  | .handleStart _ :: _ => true
  | .finalStart :: _ => true
  | .drawEnd :: _ => false
  | .handleEnd :: _ => false
  | .finalEnd :: _ => false
  | _ :: rest => cbOpen rest

/-- Callback begins and ends alternate: no callback begins while another runs. -/
def Serial : List Obs → Prop
  | [] => True
  | .drawStart _ :: rest => cbOpen rest = false ∧ Serial rest
  | .handleStart _ :: rest => cbOpen rest = false ∧ Serial rest
  | .finalStart :: rest => cbOpen rest = false ∧ Serial rest
  | .drawEnd :: rest => cbOpen rest = true ∧ Serial rest
  | .handleEnd :: rest => cbOpen rest = true ∧ Serial rest
  | .finalEnd :: rest => cbOpen rest = true ∧ Serial rest
  | _ :: rest => Serial rest

def InvSerial (s : State) : Prop := cbOpen s.log = inCallback s.pc ∧ Serial s.log

theorem InvSerial_step {s s' : State} {l : Label} (hi : InvSerial s) (h : Step s l s') :
    InvSerial s' := by
  cases h
  case drawStart | drawEnd | hStart | hEnd | fStart | fEnd => exact ⟨rfl, hi⟩
  all_goals exact hi

def InvRet (s : State) : Prop := commits s.log = retOf s.pc ++ s.returnCh.toList

theorem InvRet_step {s s' : State} {l : Label} (hi : InvRet s) (h : Step s l s') : InvRet s' := by
  cases h
  case retOk r => exact congrArg (· ++ [r]) (hi.trans (List.append_nil _))
  all_goals exact hi

/-- Final redraws: none before the loop takes a result, then exactly one, and
it is the newest callback. -/
def InvFinal (s : State) : Prop :=
  match s.pc with
  | .finalDrawing _ => finals s.log = 1 ∧ ∃ rest, callbacks s.log = .finalStart :: rest
  | .finalDone _ => finals s.log = 1 ∧ ∃ rest, callbacks s.log = .finalEnd :: .finalStart :: rest
  | .done _ => finals s.log = 1 ∧ ∃ rest, callbacks s.log = .finalEnd :: .finalStart :: rest
  | _ => finals s.log = 0

theorem InvFinal_step {s s' : State} {l : Label} (hi : InvFinal s) (h : Step s l s') :
    InvFinal s' := by
  cases h
  case fStart => exact ⟨congrArg (· + 1) hi, _, rfl⟩
  case fEnd => exact ⟨hi.1, hi.2.imp fun _ h => congrArg _ h⟩
  all_goals exact hi

structure Inv (s : State) : Prop where
  mu : InvMu s
  full : InvFull s
  pend : InvPend s
  extract : InvExtract s
  noDowngrade : NoDowngrade s.log
  arrival : InvArrival s
  serial : InvSerial s
  ret : InvRet s
  final : InvFinal s

theorem Inv_init : Inv init :=
  ⟨nofun, nofun, nofun, nofun, trivial, ⟨rfl, Nat.zero_le _⟩, ⟨rfl, trivial⟩, rfl, rfl⟩

theorem Inv_step {s s' : State} {l : Label} (hi : Inv s) (h : Step s l s') : Inv s' :=
  ⟨InvMu_step hi.mu h, InvFull_step hi.mu hi.full h, InvPend_step hi.pend h, InvExtract_step hi.extract h,
   NoDowngrade_step hi.full hi.extract hi.noDowngrade h, InvArrival_step hi.arrival h,
   InvSerial_step hi.serial h, InvRet_step hi.ret h, InvFinal_step hi.final h⟩

theorem Inv_of_reachable {s : State} (h : Reachable s) : Inv s := by
  induction h with
  | init => exact Inv_init
  | step _ hs ih => exact Inv_step ih (Step_of_step hs)

end C32
