/-
C32 — progress: the loop is not blocked while a redraw request is pending,
and a ranking function bounds the number of loop steps before the next redraw
starts.
-/
import ElvProofs.C32.Inv
namespace C32

/-- Upper bound on the number of loop steps before the next redraw callback (ordinary or final) starts. -/
def rank (s : State) : Nat :=
  match s.pc with
  | .top => 2
  | .draw _ => 1
  | .drawing => 4 * s.inputCh.length + 4
  | .sel => 4 * s.inputCh.length + 3
  | .handle _ => 4 * s.inputCh.length + 6
  | .handling => 4 * s.inputCh.length + 5
  | .pollRet => 4 * s.inputCh.length + 4
  | .pollIn => 4 * s.inputCh.length + 3
  | .final _ => 1
  | .finalDrawing _ => 2
  | .finalDone _ => 1
  | .done _ => 0

def Label.isRedrawStart : Label → Bool
  | .drawStart | .fStart => true
  | _ => false

def Label.isInput : Label → Bool
  | .inp _ => true
  | _ => false

/-- Every loop step other than a redraw start lowers the rank; an `Input`
raises it by at most 4; the other environment steps leave it unchanged. -/
theorem rank_step {s s' : State} {l : Label} (h : Step s l s') (hn : l.isRedrawStart = false) :
    rank s' + (if l.isLoop then 1 else 0) ≤ rank s + (if l.isInput then 4 else 0) := by
  cases h
  case drawStart | fStart => cases hn
  case inp pc ch tok rc fl mu log e hc => cases pc <;> simp [rank, Label.isLoop, Label.isInput] <;> omega
  -- the steps that take an event off the queue or leave the inner loop
  case selIn | selRet | selTok | pollRetSome | pollInSome => simp [rank, Label.isLoop, Label.isInput] <;> omega
  all_goals exact Nat.le_refl _

def run (s : State) : List Label → Option State
  | [] => some s
  | l :: ls => match step s l with
    | some s' => run s' ls
    | none => none

theorem run_cons {s s' : State} {l : Label} {ls : List Label} (h : run s (l :: ls) = some s') :
    ∃ s1, step s l = some s1 ∧ run s1 ls = some s' := by
  simp only [run] at h
  split at h
  · next s1 h1 => exact ⟨s1, h1, h⟩
  · cases h

theorem reachable_run {s s' : State} {ls : List Label} (hr : Reachable s) (h : run s ls = some s') :
    Reachable s' := by
  induction ls generalizing s with
  | nil => cases h; exact hr
  | cons l ls ih =>
    obtain ⟨s1, h1, h2⟩ := run_cons h
    exact ih (hr.step h1) h2

theorem run_bound {s s' : State} {ls : List Label} (h : run s ls = some s')
    (hn : ∀ l ∈ ls, l.isRedrawStart = false) :
    ls.countP Label.isLoop + rank s' ≤ rank s + 4 * ls.countP Label.isInput := by
  induction ls generalizing s with
  | nil => cases h; exact Nat.le_of_eq (Nat.zero_add _)
  | cons l ls ih =>
    obtain ⟨s1, h1, h2⟩ := run_cons h
    have h2 := ih h2 (fun l hl => hn l (List.mem_cons_of_mem _ hl))
    have h3 := rank_step (Step_of_step h1) (hn l List.mem_cons_self)
    have h4 : (if l.isInput then 4 else 0) = 4 * (if l.isInput then 1 else 0) := by split <;> rfl
    simp only [List.countP_cons]
    omega

theorem enabled_of_Step {s s' : State} {l : Label} (h : Step s l s') : (step s l).isSome = true := by
  rw [step_of_Step h]
  rfl

theorem loop_enabled (s : State)
    (h1 : s.pc = .top → s.mu = none)
    (h2 : s.pc = .sel → s.inputCh ≠ [] ∨ s.returnCh ≠ none ∨ s.token = true)
    (h3 : ∀ r, s.pc ≠ .done r) :
    ∃ l, l.isLoop = true ∧ (step s l).isSome = true := by
  obtain ⟨pc, ch, tok, rc, fl, mu, log⟩ := s
  cases pc with
  | top => cases h1 rfl; exact ⟨_, rfl, enabled_of_Step .extract⟩
  | draw b => exact ⟨_, rfl, enabled_of_Step (.drawStart b)⟩
  | drawing => exact ⟨_, rfl, enabled_of_Step .drawEnd⟩
  | sel =>
    rcases h2 rfl with h | h | h
    · cases ch with
      | nil => exact absurd rfl h
      | cons e rest => exact ⟨_, rfl, enabled_of_Step (.selIn e)⟩
    · cases rc with
      | none => exact absurd rfl h
      | some r => exact ⟨_, rfl, enabled_of_Step (.selRet r)⟩
    · cases h; exact ⟨_, rfl, enabled_of_Step .selTok⟩
  | handle e => exact ⟨_, rfl, enabled_of_Step (.hStart e)⟩
  | handling => exact ⟨_, rfl, enabled_of_Step .hEnd⟩
  | pollRet =>
    cases rc with
    | none => exact ⟨_, rfl, enabled_of_Step .pollRetNone⟩
    | some r => exact ⟨_, rfl, enabled_of_Step (.pollRetSome r)⟩
  | pollIn =>
    cases ch with
    | nil => exact ⟨_, rfl, enabled_of_Step .pollInNone⟩
    | cons e rest => exact ⟨_, rfl, enabled_of_Step (.pollInSome e)⟩
  | final r => exact ⟨_, rfl, enabled_of_Step (.fStart r)⟩
  | finalDrawing r => exact ⟨_, rfl, enabled_of_Step (.fEnd r)⟩
  | finalDone r => exact ⟨_, rfl, enabled_of_Step (.retn r)⟩
  | done r => exact absurd rfl (h3 r)

theorem mutex_released (s : State) (full : Bool) (h : s.mu = some full) :
    ∃ s', step s (.r2 (!s.token)) = some s' ∧ s'.mu = none := by
  obtain ⟨pc, ch, tok, rc, fl, mu, log⟩ := s
  cases h
  exact ⟨_, step_of_Step (.r2 full), rfl⟩

end C32
