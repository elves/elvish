/-
C16 — Code with static errors never runs, and the static check agrees.

Theorems over the model of `Evaler.Eval` / `Evaler.Check` / `compile`
(`ElvModel/C16/Model.lean`).  They hold for EVERY parser, every execution
phase (`Runtime.exec` is an arbitrary function that may do anything to the
evaler it is given), every `unicode.IsPrint`, every fuel and every module
table, and for every evaler state and source text.
-/
import ElvProofs.C16.Lemmas
import ElvProofs.C16.Mono
import ElvProofs.C16.Safe2
import ElvProofs.C16.ParserShape3
import ElvProofs.C16.Alias
open C16 Go

/-- The first sentence of the property at full strength on the model: if
evaluation reports a parse or compilation error, the trace of observable
effects (value output, byte output, assignments, file writes, builtin calls —
whatever `exec` can do) is empty and the evaler — both namespaces, in
particular the global one, and the whole run-time state `rt` with every
variable's value — is exactly what it was. -/
def C16_full_no_effect : Prop :=
  ∀ {W Eff Exc : Type} (R : Runtime W Eff Exc) (ev : Evaler W) (src : Bytes),
    (eval R ev src).2.2.isStaticError = true →
      (eval R ev src).2.1 = [] ∧ (eval R ev src).1 = ev

theorem C16_static_error_no_effect : C16_full_no_effect := by
  intro W Eff Exc R ev src h
  exact C16.eval_static_error R ev src h

/-- The same for the crashes of the static phase (a Go panic of parser or
compiler, fuel exhaustion of the model): nothing ran either. -/
theorem C16_crash_no_effect {W Eff Exc : Type} (R : Runtime W Eff Exc) (ev : Evaler W) (src : Bytes)
    (w : String) (h : (eval R ev src).2.2 = .crashed w) :
    (eval R ev src).2.1 = [] ∧ (eval R ev src).1 = ev :=
  C16.eval_crashed R ev src w h

/-- Phase order, positively: code is executed only after the parser reported no
error and `compile` — run on the evaler's own builtin and global static
namespaces, with no module names — reported none; execution starts from the
evaler whose global namespace is the template `compile` returned, and what
`Eval` leaves behind is what that execution leaves behind. -/
theorem C16_runs_only_after_clean_compile {W Eff Exc : Type} (R : Runtime W Eff Exc) (ev : Evaler W)
    (src : Bytes) (exc : Option Exc) (h : (eval R ev src).2.2 = .ran exc) :
    ∃ tree c, R.parse src = .ok tree [] ∧
      compile { builtin := ev.builtin, isPrint := R.isPrint } (R.fuel src) ev.global [] tree = .ok c ∧
      c.errors = [] ∧
      eval R ev src =
        ((R.exec tree { ev with global := c.template }).1,
         (R.exec tree { ev with global := c.template }).2.1,
         .ran (R.exec tree { ev with global := c.template }).2.2) :=
  C16.eval_ran R ev src exc h

/-- The second sentence at full strength on the model: whenever `Check`
returns (does not crash), it reports a parse or compilation error if and only
if `Eval` of the same source on the same evaler reports one. -/
def C16_full_check_agrees : Prop :=
  ∀ {W Eff Exc : Type} (R : Runtime W Eff Exc) (ev : Evaler W) (src : Bytes) (r : CheckResult),
    check R ev src = .ok r →
      ((CheckOut.ok r).reportsError = true ↔ (eval R ev src).2.2.isStaticError = true)

theorem C16_check_iff_eval : C16_full_check_agrees := by
  intro W Eff Exc R ev src r h
  exact C16.check_iff_eval R ev src r h

/-- More than the property asks: the errors are the same ones.  A parse error
of `Eval` is the list `Check` returns; without parse errors the compilation
errors of `Eval` are the list `Check` returns (although `Check` compiles with
the module names for its autofixes). -/
theorem C16_check_same_errors {W Eff Exc : Type} (R : Runtime W Eff Exc) (ev : Evaler W) (src : Bytes)
    (r : CheckResult) (h : check R ev src = .ok r) :
    (∀ pe, (eval R ev src).2.2 = .parseError pe → r.parseErrors = pe) ∧
    (∀ ce, (eval R ev src).2.2 = .compileError ce → r.parseErrors = [] ∧ r.compileErrors = ce) ∧
    (∀ exc, (eval R ev src).2.2 = .ran exc → r.parseErrors = [] ∧ r.compileErrors = []) :=
  C16.check_same_errors R ev src r h

/-- Without parse errors `Check` crashes exactly when `Eval` does (with parse
errors `Eval` stops before compiling and `Check` goes on with the partial tree,
so only `Check` can crash; the correspondence run reports every `PANIC`). -/
theorem C16_check_crash_iff_eval_crash {W Eff Exc : Type} (R : Runtime W Eff Exc) (ev : Evaler W)
    (src : Bytes) (tree : Node) (hp : R.parse src = .ok tree []) :
    (∃ w, check R ev src = .crashed w) ↔ (∃ w, (eval R ev src).2.2 = .crashed w) :=
  C16.check_crash_iff R ev src tree hp

/-- The errors, the template and the crash behaviour of `compile` do not depend
on the module names (they only select autofixes) — the reason `Check` and
`Eval` agree although they call `compile` differently. -/
theorem C16_compile_ignores_modules (env : Env) (fuel : Nat) (g : StaticNs) (m₁ m₂ : List Bytes) (tree : Node) :
    CompileAgree (compile env fuel g m₁ tree) (compile env fuel g m₂ tree) :=
  C16.compile_modules env fuel g m₁ m₂ tree

/-! `C16_check_iff_eval` above is stated for EVERY parser and every fuel, hence for runs of `Check` that
return.  For the front end the code actually has — the C01 model of `pkg/parse` with the same
`unicode.IsPrint`, and a compiler fuel of at least the parser's nesting fuel — the hypothesis is
discharged: the parser returns a tree for every byte string (C01), every tree it returns, ALSO the
partial tree it returns next to parse errors, has the shape the compiler dereferences without
checking (`C16.shape`: heads, right operands, keys, chunks of lambdas and captures, non-empty
arguments, no `BadPrimary`, `~` only first in a compound), and on such trees no compiler function of
the model panics or runs out of fuel. -/

/-- The front end of the real pipeline (and of the driver): `parse.Parse` as modelled by C01 with the
evaler's `unicode.IsPrint`; the compiler's nesting bound is at least the parser's. -/
def C16_StdFrontEnd {W Eff Exc : Type} (R : Runtime W Eff Exc) : Prop :=
  R.parse = C01.parse R.isPrint ∧ ∀ src, C01.defaultFuel src ≤ R.fuel src

/-- Every tree `Parse` returns — with or without parse errors, for every byte string — is a `Chunk` of
the shape the compiler relies on and nests at most as deep as the parser's fuel. -/
theorem C16_parser_output_has_shape (isPrint : Int → Bool) (src : Bytes) (t : C16.Node) (errs : List C01.PErr)
    (h : C01.parse isPrint src = .ok t errs) :
    C16.shape t = true ∧ t.kind = .chunk ∧ C16.nest t ≤ C01.defaultFuel src :=
  C16P.parse_shape isPrint src t errs h

/-- **Panic-freedom and fuel sufficiency of `compile`** on trees of that shape (any namespaces, any
`IsPrint`, any module list): it returns, and none of the errors it reports is of one of the three
kinds claimed dead. -/
theorem C16_compile_total_on_shaped (env : Env) (fuel : Nat) (g : StaticNs) (modules : List Bytes) (tree : C16.Node)
    (hs : C16.shape tree = true) (hk : tree.kind = .chunk) (hf : C16.nest tree ≤ fuel) :
    ∃ c, compile env fuel g modules tree = .ok c ∧
      ∀ x ∈ c.errors, x.kind ≠ .exactlyOneLvalue ∧ x.kind ≠ .tildeBug ∧ x.kind ≠ .badPrimary :=
  C16.compile_ok env fuel g modules tree hs hk hf

/-- … hence on everything the parser returns, partial trees included. -/
theorem C16_compile_total_on_parsed (isPrint : Int → Bool) (src : Bytes) (t : C16.Node) (errs : List C01.PErr)
    (h : C01.parse isPrint src = .ok t errs) (env : Env) (fuel : Nat) (hf : C01.defaultFuel src ≤ fuel)
    (g : StaticNs) (modules : List Bytes) :
    ∃ c, compile env fuel g modules t = .ok c ∧
      ∀ x ∈ c.errors, x.kind ≠ .exactlyOneLvalue ∧ x.kind ≠ .tildeBug ∧ x.kind ≠ .badPrimary := by
  obtain ⟨hs, hk, hn⟩ := C16P.parse_shape isPrint src t errs h
  exact C16.compile_ok env fuel g modules t hs hk (Nat.le_trans hn hf)

/-- The static phase with a standard front end: every source parses, and the tree, partial or not, compiles
against any namespace `g` with any module names, reporting no dead kind.  What `Check` and `Eval` do with
that is said by `check_of_compiled` and `evalIn_of_compiled`. -/
theorem C16.std_compiles {W Eff Exc : Type} (R : Runtime W Eff Exc) (hR : C16_StdFrontEnd R) (ev : Evaler W)
    (src : Bytes) (g : StaticNs) (modules : List Bytes) :
    ∃ t errs c, R.parse src = .ok t errs ∧
      compile { builtin := ev.builtin, isPrint := R.isPrint } (R.fuel src) g modules t = .ok c ∧
      ∀ x ∈ c.errors, x.kind ≠ .exactlyOneLvalue ∧ x.kind ≠ .tildeBug ∧ x.kind ≠ .badPrimary := by
  obtain ⟨t, errs, hp, _⟩ := C01_total_lossless R.isPrint src
  obtain ⟨c, hc, hcl⟩ := C16_compile_total_on_parsed R.isPrint src t errs hp
    { builtin := ev.builtin, isPrint := R.isPrint } (R.fuel src) (hR.2 src) g modules
  exact ⟨t, errs, c, hR.1 ▸ hp, hc, hcl⟩

/-- **`Check` always returns** (no hypothesis left): for every evaler, every source. -/
theorem C16_check_returns {W Eff Exc : Type} (R : Runtime W Eff Exc) (hR : C16_StdFrontEnd R) (ev : Evaler W)
    (src : Bytes) : ∃ r, check R ev src = .ok r := by
  obtain ⟨t, errs, c, hp, hc, _⟩ := C16.std_compiles R hR ev src ev.global (R.modules ev.rt)
  exact ⟨_, C16.check_of_compiled R ev src hp hc⟩

/-- The second sentence of the property with NO hypothesis about `Check`: the static check reports a
parse or compilation error if and only if evaluation of the same source would. -/
theorem C16_check_iff_eval_total {W Eff Exc : Type} (R : Runtime W Eff Exc) (hR : C16_StdFrontEnd R) (ev : Evaler W)
    (src : Bytes) : (check R ev src).reportsError = true ↔ (eval R ev src).2.2.isStaticError = true := by
  obtain ⟨r, hr⟩ := C16_check_returns R hR ev src
  rw [hr]
  exact C16_check_iff_eval R ev src r hr

/-- The static phase of `Eval` never crashes either: the outcome is a parse error, a compilation
error, or the code ran. -/
theorem C16_eval_static_phase_total {W Eff Exc : Type} (R : Runtime W Eff Exc) (hR : C16_StdFrontEnd R) (ev : Evaler W)
    (src : Bytes) (w : String) : (eval R ev src).2.2 ≠ .crashed w := by
  obtain ⟨t, errs, c, hp, hc, _⟩ := C16.std_compiles R hR ev src ev.global []
  rw [C16.eval_eq_evalIn, C16.evalIn_of_compiled R _ ev ev.global src hp hc]
  split
  · exact fun h => by cases h
  · split <;> exact fun h => by cases h

/-- **Dead code**: `compileOneLValue`'s "must be exactly one lvalue", `primaryOp`'s "compiler bug:
Tilde not handled in .compound" and its "bad PrimaryType" cannot be reported for any source text —
neither by `Check` (which also compiles partial trees) nor by `Eval`. -/
theorem C16_dead_error_kinds {W Eff Exc : Type} (R : Runtime W Eff Exc) (hR : C16_StdFrontEnd R) (ev : Evaler W)
    (src : Bytes) :
    (∀ r, check R ev src = .ok r → ∀ x ∈ r.compileErrors,
        x.kind ≠ .exactlyOneLvalue ∧ x.kind ≠ .tildeBug ∧ x.kind ≠ .badPrimary) ∧
    (∀ ce, (eval R ev src).2.2 = .compileError ce → ∀ x ∈ ce,
        x.kind ≠ .exactlyOneLvalue ∧ x.kind ≠ .tildeBug ∧ x.kind ≠ .badPrimary) := by
  constructor
  · intro r hr
    obtain ⟨t, errs, c, hp, hc, hcl⟩ := C16.std_compiles R hR ev src ev.global (R.modules ev.rt)
    rw [C16.check_of_compiled R ev src hp hc] at hr
    cases hr
    exact hcl
  · intro ce hce
    obtain ⟨t, errs, c, hp, hc, hcl⟩ := C16.std_compiles R hR ev src ev.global []
    rw [C16.eval_eq_evalIn, C16.evalIn_of_compiled R _ ev ev.global src hp hc] at hce
    split at hce
    · cases hce
    · split at hce <;> cases hce
      exact hcl

/-- Sentence 1 for `Eval` with an explicit `cfg.Global` and for `Frame.Eval(src, r, ns)` (the `eval`
builtin; `evalModule` for `use` of a file module): a parse or compilation error ⇒ no effect, and the
evaler — including its own global namespace, which this entry point never replaces — is unchanged. -/
theorem C16_explicit_global_static_error_no_effect {W Eff Exc : Type} (R : Runtime W Eff Exc)
    (execIn : C16.Node → StaticNs → Evaler W → Evaler W × List Eff × Option Exc)
    (ev : Evaler W) (g : StaticNs) (src : Bytes)
    (h : (evalIn R execIn ev g src).2.2.isStaticError = true) :
    (evalIn R execIn ev g src).2.1 = [] ∧ (evalIn R execIn ev g src).1 = ev :=
  C16.evalIn_static_error R execIn ev g src h

/-- … and the code runs only after a clean parse and a clean compile against the GIVEN namespace, with
the template handed to the execution phase as the frame's local namespace. -/
theorem C16_explicit_global_runs_only_after_clean_compile {W Eff Exc : Type} (R : Runtime W Eff Exc)
    (execIn : C16.Node → StaticNs → Evaler W → Evaler W × List Eff × Option Exc)
    (ev : Evaler W) (g : StaticNs) (src : Bytes) (exc : Option Exc)
    (h : (evalIn R execIn ev g src).2.2 = .ran exc) :
    ∃ tree c, R.parse src = .ok tree [] ∧
      compile { builtin := ev.builtin, isPrint := R.isPrint } (R.fuel src) g [] tree = .ok c ∧
      c.errors = [] ∧
      evalIn R execIn ev g src =
        ((execIn tree c.template ev).1, (execIn tree c.template ev).2.1, .ran (execIn tree c.template ev).2.2) :=
  C16.evalIn_ran R execIn ev g src exc h

/-- Sentence 2 for that entry point: the static check of an evaler whose global namespace is `g`
reports an error iff evaluation against `g` would (no hypothesis about `Check`). -/
theorem C16_explicit_global_check_iff {W Eff Exc : Type} (R : Runtime W Eff Exc) (hR : C16_StdFrontEnd R)
    (execIn : C16.Node → StaticNs → Evaler W → Evaler W × List Eff × Option Exc)
    (ev : Evaler W) (g : StaticNs) (src : Bytes) :
    (check R { ev with global := g } src).reportsError = true ↔
      (evalIn R execIn ev g src).2.2.isStaticError = true := by
  rw [C16.evalIn_static_eq_eval]
  exact C16_check_iff_eval_total R hR { ev with global := g } src

/-- The source of a FILE MODULE (`use` → `evalModule` → `fm.Eval(src, r, new(Ns))`): with a parse or
compilation error nothing of it runs and the evaler is unchanged (so `evalModule` fails and, by C22,
the module is not cached). -/
theorem C16_module_source_static_error_never_runs {W Eff Exc : Type} (R : Runtime W Eff Exc)
    (execIn : C16.Node → StaticNs → Evaler W → Evaler W × List Eff × Option Exc)
    (ev : Evaler W) (src : Bytes)
    (h : (evalModuleSource R execIn ev src).2.2.isStaticError = true) :
    (evalModuleSource R execIn ev src).2.1 = [] ∧ (evalModuleSource R execIn ev src).1 = ev :=
  C16.evalIn_static_error R execIn ev [] src h

/-! In `Model.lean` the compiler's namespaces are values; that is faithful because `compile` starts with
`g = g.clone()` and `(*staticNs).clone` copies the array.  `ElvModel/C16/Alias.lean` models the
operations the compiler performs on a scope (`add` = shadow + append, `del`, `infos[i].deleted = true`
— in the model these are exactly `addName` and the `markDeleted` of `compileDel`, the only callers of
`setThisScope`) over a heap of backing arrays and slice headers. -/

/-- After the clone of the code (a copy), NO sequence of scope operations — in particular none of a
compilation that later fails, and none of a mere `Check` — changes what the live global namespace
reads: names, `readOnly` and `deleted` flags. -/
theorem C16_compile_does_not_touch_global (h : Alias.Heap) (live : Alias.Ref) (ops : List Alias.NsOp)
    (hlt : live.arr < h.length) :
    Alias.liveAfter Alias.cloneCopy h live ops = Alias.read h live :=
  Alias.liveAfter_cloneCopy h live ops hlt

/-- The seeded change `C16-staticns-clone-shares-array` (`clone` = `slices.Clip`, a view of the same
array): one `del g` on the clone sets the `deleted` flag of the LIVE namespace's `g` — whether or not
the compilation goes on to fail, and for a mere `Check`. -/
theorem C16_clipped_clone_touches_global :
    ∃ (h : Alias.Heap) (live : Alias.Ref) (ops : List Alias.NsOp), live.arr < h.length ∧
      Alias.read h live = some [{ name := [103] }] ∧
      Alias.liveAfter Alias.cloneClip h live ops = some [{ name := [103], deleted := true }] :=
  ⟨[[{ name := [103] }]], { arr := 0, len := 1, cap := 1 }, [.del [103]], by decide, by decide, by decide⟩

/-- Errors are only ever appended: whatever any compiler function does to the
state, the errors reported before are a prefix of the errors afterwards.  So a
static error anywhere in the source makes the whole compilation fail, no matter
what precedes or follows it. -/
theorem C16_errors_only_grow (fuel : Nat) (nt : NT) (n : Node) (env : Env) (s s' : CSt)
    (h : compileNT fuel nt n env s = .ok () s') : s.errors <+: s'.errors :=
  C16.compileNT_mono fuel nt n env s s' h

namespace C16Ex
/-- an execution phase that always has an effect, so "no effect" is not vacuous -/
def R0 : Runtime Unit Nat Unit :=
  { parse := C01.parse (fun _ => false), isPrint := fun _ => false, fuel := C01.defaultFuel,
    modules := fun _ => [], exec := fun _ ev => ({ ev with rt := () }, [1], none) }
/-- no builtins, one global `g` -/
def ev0 : Evaler Unit := { builtin := [], global := [{ name := [103] }], rt := () }
/-- `a $g` -/ def srcOk : Bytes := [97, 32, 36, 103]
/-- `a;$x` (a command, then an undefined variable) -/ def srcBad : Bytes := [97, 59, 36, 120]
/-- `a;'` (a command, then an unterminated string) -/ def srcParse : Bytes := [97, 59, 39]
/-- `var x` -/ def srcVar : Bytes := [118, 97, 114, 32, 120]
end C16Ex
open C16Ex

set_option maxRecDepth 100000 in
/-- a valid program runs (and the execution has its effect) … -/
example : (eval R0 ev0 srcOk).2.1 = [1] := by decide +kernel
set_option maxRecDepth 100000 in
/-- … `a;$x` has a compilation error (hypothesis of `C16_static_error_no_effect`) … -/
example : (eval R0 ev0 srcBad).2.2.isStaticError = true := by decide +kernel
set_option maxRecDepth 100000 in
/-- … `a;'` a parse error … -/
example : (eval R0 ev0 srcParse).2.2.isStaticError = true := by decide +kernel
set_option maxRecDepth 100000 in
/-- … `Check` returns on both and reports (hypothesis of `C16_check_iff_eval`) … -/
example : (∃ r, check R0 ev0 srcBad = .ok r) ∧ (check R0 ev0 srcBad).reportsError = true ∧
    (check R0 ev0 srcParse).reportsError = true ∧ (check R0 ev0 srcOk).reportsError = false := by
  have h : (check R0 ev0 srcBad).reportsError = true := by decide +kernel
  refine ⟨?_, h, by decide +kernel, by decide +kernel⟩
  cases hc : check R0 ev0 srcBad with
  | ok r => exact ⟨r, rfl⟩
  | crashed w => rw [hc] at h; cases h
set_option maxRecDepth 100000 in
/-- … and a successful `var x` installs the new global namespace (`g`, `x`). -/
example : (eval R0 ev0 srcVar).1.global.names = [[103], [120]] := by decide +kernel

/-- the driver's front end is a standard one -/
example : C16_StdFrontEnd R0 := ⟨rfl, fun _ => Nat.le_refl _⟩

set_option maxRecDepth 100000 in
/-- `a;'` is returned WITH a parse error, and its partial tree has the shape (hypothesis of
`C16_compile_total_on_shaped` through `C16_parser_output_has_shape`) -/
example : ∃ t e1 es, C01.parse (fun _ => false) srcParse = .ok t (e1 :: es) ∧ C16.shape t = true := by
  obtain ⟨t, errs, h, _⟩ := C01_total_lossless (fun _ => false) srcParse
  cases errs with
  | nil =>
    have : (match C01.parse (fun _ => false) srcParse with | .ok _ [] => true | _ => false) = false := by
      decide +kernel
    rw [h] at this; cases this
  | cons e1 es => exact ⟨t, e1, es, h, (C16_parser_output_has_shape _ _ _ _ h).1⟩

namespace C16Ex
/-- hand-made trees the parser cannot produce: `a` followed by a SECOND `~` indexing, and a primary of type 0 -/
def pA : C16.Node := .mk .primary 0 1 [97] { ptype := 1, value := [97] } []
def pT : C16.Node := .mk .primary 1 2 [126] { ptype := 6, value := [126] } []
def pBad : C16.Node := .mk .primary 1 2 [126] { ptype := 0 } []
def treeWith (p : C16.Node) : C16.Node :=
  .mk .chunk 0 2 [97, 126] {} [.mk .pipeline 0 2 [97, 126] {} [.mk .form 0 2 [97, 126] {}
    [.mk .compound 0 2 [97, 126] {} [.mk .indexing 0 1 [97] {} [pA], .mk .indexing 1 2 [126] {} [p]]]]]
def kindsOf : COut → List EK
  | .ok c => c.errors.map (·.kind)
  | _ => []
end C16Ex

/-- the two shape-dependent dead kinds ARE reported by the model on trees outside the parser's range,
and `shape` rejects exactly those trees: the dead-code theorem is not vacuous -/
example : kindsOf (compile { builtin := [], isPrint := fun _ => false } 10 [] [] (treeWith pT)) = [.tildeBug] ∧
    C16.shape (treeWith pT) = false ∧
    kindsOf (compile { builtin := [], isPrint := fun _ => false } 10 [] [] (treeWith pBad)) = [.badPrimary] ∧
    C16.shape (treeWith pBad) = false ∧ C16.shape (treeWith pA) = true := by decide +kernel

namespace C16Ex
/-- an execution phase for `evalIn` that always has an effect -/
def execIn0 : C16.Node → StaticNs → Evaler Unit → Evaler Unit × List Nat × Option Unit :=
  fun _ _ ev => (ev, [1], none)
end C16Ex

set_option maxRecDepth 100000 in
/-- `a;$x` against an explicit EMPTY namespace (a file module's source) is a static error; `a $g`
against the explicit namespace `{g}` runs, and `ev0.global` is not replaced -/
example : (evalModuleSource R0 execIn0 ev0 srcBad).2.2.isStaticError = true ∧
    (evalIn R0 execIn0 { ev0 with global := [] } [{ name := [103] }] srcOk).2.1 = [1] ∧
    (evalIn R0 execIn0 { ev0 with global := [] } [{ name := [103] }] srcOk).1.global = [] := by decide +kernel

/-- the copy: the same `del g`, and `g` re-declared afterwards, leave the live namespace alone -/
example : Alias.liveAfter Alias.cloneCopy [[{ name := [103] }]] { arr := 0, len := 1, cap := 1 }
    [.del [103], .add [103], .mark 0] = some [{ name := [103] }] := by decide
