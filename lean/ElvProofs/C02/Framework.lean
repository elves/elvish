/-
The judgments of the prefix proof.

A *cut* is a source `s` and a position `k`; the parser is run on `s` (the
s-run, environment `es`) and on the prefix `s.take k` (the p-run, `ep`).

* `Mono e m`   — `m` only appends errors, and each appended error carries the
                 flag `Partial ⇔ From = len(src)` (`errorp` is the only writer).
* `UU e m`     — started at the end of the input (`pos = len`), `m` stays there and
                 appends only partial errors, and never takes back more `EOF`
                 reads than it made itself (`AtEOF e n E`: `overEOF ≥ n`).
* `Sy c m m' Q` — lock step: from a common state in which nothing at or beyond the
                 cut has been observed (`Sync`), if the s-run of `m` returns without
                 having recorded an error, the p-run of `m'` returns the same value
                 and state (still `Sync`), or has diverged into a state `Q`.
* `JL c Q m m'` — `Mono` of `m` and `Sy … Q` together: what a function that uses
                 `backup` is walked with (`backup` has no `UU`: how many `EOF`
                 reads there are to take back depends on the runes read).
* `J2 c m m'`  — all three, with `Q` = "at the end of the prefix, all errors
                 partial".  Closed under `bind`, so a grammar function that
                 uses no `backup` is handled by walking its text.
* `JQ c X m m'` — `J2` with one more state `X` the p-run may have diverged into.
-/
import ElvProofs.C02.Prefix
namespace C02
open Go
open C01
open Gen.C01Chars

structure Cut where
  ip : Int → Bool
  s : Bytes
  k : Nat

namespace Cut
def es (c : Cut) : Env := { isPrint := c.ip, src := c.s }
def ep (c : Cut) : Env := { isPrint := c.ip, src := c.s.take c.k }

structure Good (c : Cut) : Prop where
  lt : c.k < c.s.length
  bnd : Bnd c.s c.k

@[simp] theorem es_src (c : Cut) : c.es.src = c.s := rfl
@[simp] theorem ep_src (c : Cut) : c.ep.src = c.s.take c.k := rfl
@[simp] theorem es_ip (c : Cut) : c.es.isPrint = c.ip := rfl
@[simp] theorem ep_ip (c : Cut) : c.ep.isPrint = c.ip := rfl

theorem Good.plen {c : Cut} (g : c.Good) : (c.s.take c.k).length = c.k :=
  List.length_take_of_le (Nat.le_of_lt g.lt)
end Cut

theorem ite_intro₂ {β γ} {R : β → γ → Prop} {p : Prop} [Decidable p] {a b : β} {a' b' : γ}
    (h1 : p → R a a') (h2 : ¬p → R b b') : R (if p then a else b) (if p then a' else b') := by
  by_cases h : p
  · rw [if_pos h, if_pos h]; exact h1 h
  · rw [if_neg h, if_neg h]; exact h2 h

variable {α β : Type} {c : Cut} {e : Env}

theorem bind_ok {m : M α} {f : α → M β} {st st2 : St} {b : β} :
    (m >>= f) e st = .ok b st2 ↔ ∃ a st1, m e st = .ok a st1 ∧ f a e st1 = .ok b st2 := by
  rw [bind_apply]
  cases h : m e st with
  | ok a s' =>
    constructor
    · intro h2; exact ⟨a, s', rfl, h2⟩
    · rintro ⟨a1, s1, h1, h2⟩
      simp only [Out.ok.injEq] at h1
      obtain ⟨rfl, rfl⟩ := h1
      exact h2
  | panic w => simp
  | fuel => simp

def Flagged (e : Env) (l : List PErr) : Prop :=
  ∀ x ∈ l, (x.partial_ = true ↔ x.frm = e.src.length)

def Mono {α} (e : Env) (m : M α) : Prop :=
  ∀ st a st', m e st = .ok a st' → ∃ l, st'.errors = st.errors ++ l ∧ Flagged e l

def Pure {α} (m : M α) : Prop := ∀ e st a st', m e st = .ok a st' → st' = st

theorem Mono.of_errors_eq {m : M α} (h : ∀ st a st', m e st = .ok a st' → st'.errors = st.errors) :
    Mono e m :=
  fun st a st' hr => ⟨[], by rw [h st a st' hr, List.append_nil], fun _ hx => nomatch hx⟩

theorem Mono.of_pure {m : M α} (h : Pure m) : Mono e m :=
  Mono.of_errors_eq fun st a st' hr => by rw [h e st a st' hr]

theorem Mono.bind {m : M α} {f : α → M β} (hm : Mono e m) (hf : ∀ a, Mono e (f a)) :
    Mono e (m >>= f) := by
  intro st b st2 hr
  obtain ⟨a, st1, h1, h2⟩ := bind_ok.1 hr
  obtain ⟨l1, e1, f1⟩ := hm st a st1 h1
  obtain ⟨l2, e2, f2⟩ := hf a st1 b st2 h2
  refine ⟨l1 ++ l2, by rw [e2, e1, List.append_assoc], ?_⟩
  intro x hx
  rcases List.mem_append.1 hx with h | h
  · exact f1 x h
  · exact f2 x h

theorem Mono.nil_of_nil {m : M α} (hm : Mono e m) {st st' : St} {a : α}
    (hr : m e st = .ok a st') (h : st'.errors = []) : st.errors = [] := by
  obtain ⟨l, e1, _⟩ := hm st a st' hr
  rw [h] at e1
  exact (List.append_eq_nil_iff.1 e1.symm).1

def AtEOF (e : Env) (n : Nat) (E : List PErr) (st : St) : Prop :=
  st.pos = e.src.length ∧ n ≤ st.overEOF ∧ ∃ l, st.errors = E ++ l ∧ ∀ x ∈ l, x.partial_ = true

theorem AtEOF.weaken {n n' : Nat} {E : List PErr} {st : St} (h : AtEOF e n E st) (hn : n' ≤ n) :
    AtEOF e n' E st := ⟨h.1, Nat.le_trans hn h.2.1, h.2.2⟩

def Tr {α} (e : Env) (P : St → Prop) (m : M α) (Q : α → St → Prop) : Prop :=
  ∀ st, P st → ∀ a st', m e st = .ok a st' → Q a st'

theorem Tr.bind {P : St → Prop} {m : M α} {f : α → M β} {Q1 : α → St → Prop}
    {Q : β → St → Prop} (hm : Tr e P m Q1) (hf : ∀ a, Tr e (Q1 a) (f a) Q) : Tr e P (m >>= f) Q := by
  intro st hp b st2 hr
  obtain ⟨a, st1, h1, h2⟩ := bind_ok.1 hr
  exact hf a st1 (hm st hp a st1 h1) b st2 h2

theorem Tr.pure {P : St → Prop} {a : α} {Q : α → St → Prop} (h : ∀ st, P st → Q a st) :
    Tr e P (pure a : M α) Q := by
  intro st hp a' st' hr
  simp only [pure_apply, Out.ok.injEq] at hr
  obtain ⟨rfl, rfl⟩ := hr
  exact h _ hp

theorem Tr.conseq {P P' : St → Prop} {m : M α} {Q Q' : α → St → Prop}
    (h : Tr e P m Q) (hp : ∀ st, P' st → P st) (hq : ∀ a st, Q a st → Q' a st) : Tr e P' m Q' :=
  fun st hp' a st' hr => hq a st' (h st (hp st hp') a st' hr)

theorem Tr.of_pure {P : St → Prop} {m : M α} (h : Pure m) : Tr e P m (fun _ => P) := by
  intro st hp a st' hr
  rw [h e st a st' hr]
  exact hp

theorem Tr.pre {P : St → Prop} {m : M α} {Q : α → St → Prop} {R : Prop}
    (hr : ∀ st, P st → R) (h : R → Tr e P m Q) : Tr e P m Q :=
  fun st hp => h (hr st hp) st hp

theorem Tr.false {m : M α} {Q : α → St → Prop} : Tr e (fun _ => False) m Q :=
  fun _ h => h.elim

theorem Tr.ite {P : St → Prop} {p : Prop} [Decidable p] {a b : M α} {Q : α → St → Prop}
    (h1 : p → Tr e P a Q) (h2 : ¬p → Tr e P b Q) : Tr e P (if p then a else b) Q :=
  iteInduction (motive := fun m => Tr e P m Q) h1 h2

def UU {α} (e : Env) (m : M α) : Prop := ∀ n E, Tr e (AtEOF e n E) m (fun _ => AtEOF e n E)

theorem UU.bind {m : M α} {f : α → M β} (hm : UU e m) (hf : ∀ a, UU e (f a)) :
    UU e (m >>= f) := fun n E => Tr.bind (hm n E) (fun a => hf a n E)

theorem UU.of_pure {m : M α} (h : Pure m) : UU e m := fun _ _ => Tr.of_pure h

def Sync (c : Cut) (st : St) : Prop :=
  st.errors = [] ∧ st.overEOF = 0 ∧ st.pos ≤ c.k ∧ Bnd c.s st.pos

def Sy {α} (c : Cut) (m m' : M α) (Q : α → St → Prop) : Prop :=
  ∀ st, Sync c st → ∀ a st1, m c.es st = .ok a st1 → st1.errors = [] →
    ∀ a' st1', m' c.ep st = .ok a' st1' → (a' = a ∧ st1' = st1 ∧ Sync c st1) ∨ Q a' st1'

/-- Diverged: the p-run is at the end of the prefix and has only partial errors. -/
def Dv {α} (c : Cut) : α → St → Prop := fun _ st => AtEOF c.ep 0 [] st

theorem Sy.bind {m m' : M α} {f f' : α → M β} {Q1 : α → St → Prop} {Q : β → St → Prop}
    (hm : Sy c m m' Q1) (hmono : ∀ a, Mono c.es (f a)) (hf : ∀ a, Sy c (f a) (f' a) Q)
    (hu : ∀ a, Tr c.ep (Q1 a) (f' a) Q) : Sy c (m >>= f) (m' >>= f') Q := by
  intro st hs b st2 hr hnil b' st2' hr'
  obtain ⟨a, st1, h1, h2⟩ := bind_ok.1 hr
  obtain ⟨a', st1', h1', h2'⟩ := bind_ok.1 hr'
  have hnil1 := (hmono a).nil_of_nil h2 hnil
  rcases hm st hs a st1 h1 hnil1 a' st1' h1' with ⟨rfl, rfl, hs1⟩ | hq
  · exact hf a' st1' hs1 b st2 h2 hnil b' st2' h2'
  · exact Or.inr (hu a' st1' hq b' st2' h2')

theorem Sy.conseq {m m' : M α} {Q Q' : α → St → Prop} (h : Sy c m m' Q)
    (hq : ∀ a st, Q a st → Q' a st) : Sy c m m' Q' := by
  intro st hs a st1 hr hnil a' st1' hr'
  rcases h st hs a st1 hr hnil a' st1' hr' with h | h
  · exact Or.inl h
  · exact Or.inr (hq _ _ h)

structure JL {α} (c : Cut) (Q : α → St → Prop) (m m' : M α) : Prop where
  mono : Mono c.es m
  sy : c.Good → Sy c m m' Q

structure J2 {α} (c : Cut) (m m' : M α) : Prop where
  mono : Mono c.es m
  uu : UU c.ep m'
  sy : c.Good → Sy c m m' (Dv c)

structure JQ {α} (c : Cut) (X : α → St → Prop) (m m' : M α) : Prop where
  mono : Mono c.es m
  uu : UU c.ep m'
  sy : c.Good → Sy c m m' (fun a st => Dv c a st ∨ X a st)

theorem JL.conseq {Q Q' : α → St → Prop} {m m' : M α} (h : JL c Q m m')
    (hq : ∀ a st, Q a st → Q' a st) : JL c Q' m m' :=
  ⟨h.mono, fun g => (h.sy g).conseq hq⟩

theorem JL.bind {Q1 : α → St → Prop} {Q : β → St → Prop} {m m' : M α} {f f' : α → M β}
    (hm : JL c Q1 m m') (hf : ∀ a, JL c Q (f a) (f' a)) (hu : c.Good → ∀ a, Tr c.ep (Q1 a) (f' a) Q) :
    JL c Q (m >>= f) (m' >>= f') where
  mono := hm.mono.bind (fun a => (hf a).mono)
  sy := fun g => (hm.sy g).bind (fun a => (hf a).mono) (fun a => (hf a).sy g) (hu g)

theorem JL.ite {Q : α → St → Prop} {p : Prop} [Decidable p] {a b a' b' : M α}
    (h1 : p → JL c Q a a') (h2 : ¬p → JL c Q b b') : JL c Q (if p then a else b) (if p then a' else b') :=
  ite_intro₂ (R := JL c Q) h1 h2

theorem J2.jl {m m' : M α} (h : J2 c m m') : JL c (Dv c) m m' := ⟨h.mono, h.sy⟩

theorem J2.of_jl {m m' : M α} (hu : UU c.ep m') (h : JL c (Dv c) m m') : J2 c m m' :=
  ⟨h.mono, hu, h.sy⟩

theorem JQ.jl {X : α → St → Prop} {m m' : M α} (h : JQ c X m m') :
    JL c (fun a st => Dv c a st ∨ X a st) m m' := ⟨h.mono, h.sy⟩

theorem JQ.of_jl {X : α → St → Prop} {m m' : M α} (hu : UU c.ep m')
    (h : JL c (fun a st => Dv c a st ∨ X a st) m m') : JQ c X m m' := ⟨h.mono, hu, h.sy⟩

theorem J2.jq {X : α → St → Prop} {m m' : M α} (h : J2 c m m') : JQ c X m m' :=
  JQ.of_jl h.uu (h.jl.conseq fun _ _ => Or.inl)

theorem JQ.weaken {X X' : α → St → Prop} {m m' : M α} (h : JQ c X m m')
    (hx : ∀ a st, X a st → X' a st) : JQ c X' m m' :=
  JQ.of_jl h.uu (h.jl.conseq fun a st hq => hq.imp_right (hx a st))

theorem JQ.j2 {X : α → St → Prop} {m m' : M α} (h : JQ c X m m')
    (hx : ∀ a st, X a st → False) : J2 c m m' :=
  J2.of_jl h.uu (h.jl.conseq fun a st hq => hq.elim id fun hxx => (hx a st hxx).elim)

/-- After the p-run of `m'` has diverged into `X1`, the p-run of `f'` has to be
followed from there (`hx`); from the end of the input `UU` of `f'` does it. -/
theorem JQ.bind {X1 : α → St → Prop} {X : β → St → Prop} {m m' : M α} {f f' : α → M β}
    (hm : JQ c X1 m m') (hf : ∀ a, JQ c X (f a) (f' a))
    (hx : c.Good → ∀ a, Tr c.ep (X1 a) (f' a) (fun b st => Dv c b st ∨ X b st)) :
    JQ c X (m >>= f) (m' >>= f') :=
  JQ.of_jl (hm.uu.bind fun a => (hf a).uu) <| JL.bind hm.jl (fun a => (hf a).jl) fun g a st hp b st' hr =>
    hp.elim (fun hp => Or.inl ((hf a).uu 0 [] st hp b st' hr)) (fun hp => hx g a st hp b st' hr)

theorem JQ.bind_j2 {X : β → St → Prop} {m m' : M α} {f f' : α → M β}
    (hm : J2 c m m') (hf : ∀ a, JQ c X (f a) (f' a)) : JQ c X (m >>= f) (m' >>= f') :=
  JQ.bind (X1 := fun _ _ => False) hm.jq hf (fun _ _ => Tr.false)

theorem J2.bind {m m' : M α} {f f' : α → M β} (hm : J2 c m m')
    (hf : ∀ a, J2 c (f a) (f' a)) : J2 c (m >>= f) (m' >>= f') :=
  (JQ.bind_j2 hm fun a => (hf a).jq).j2 fun _ _ h => h

theorem JQ.ite {X : α → St → Prop} {p : Prop} [Decidable p] {a b a' b' : M α}
    (h1 : p → JQ c X a a') (h2 : ¬p → JQ c X b b') : JQ c X (if p then a else b) (if p then a' else b') :=
  ite_intro₂ (R := JQ c X) h1 h2

theorem J2.ite {p : Prop} [Decidable p] {a b a' b' : M α}
    (h1 : p → J2 c a a') (h2 : ¬p → J2 c b b') : J2 c (if p then a else b) (if p then a' else b') :=
  ite_intro₂ (R := J2 c) h1 h2

theorem Pure.pure (a : α) : Pure (pure a : M α) := by
  intro e st a' st' h
  simp only [pure_apply, Out.ok.injEq] at h
  exact h.2.symm

theorem Pure.getPos : Pure C01.getPos := by
  intro e st a st' h; simp only [C01.getPos, Out.ok.injEq] at h; exact h.2.symm
theorem Pure.getEnv : Pure C01.getEnv := by
  intro e st a st' h; simp only [C01.getEnv, Out.ok.injEq] at h; exact h.2.symm
theorem Pure.loopFuel : Pure C01.loopFuel := by
  intro e st a st' h; simp only [C01.loopFuel, Out.ok.injEq] at h; exact h.2.symm
theorem Pure.sliceSrc (a b : Nat) : Pure (C01.sliceSrc a b) := by
  intro e st x st' h
  unfold C01.sliceSrc at h
  split at h <;> simp_all
theorem Pure.peek : Pure C01.peek := by
  intro e st x st' h
  unfold C01.peek at h
  split at h
  · simp_all
  · split at h <;> simp_all
theorem Pure.hasPrefix (p : Bytes) : Pure (C01.hasPrefix p) := by
  intro e st x st' h
  unfold C01.hasPrefix at h
  split at h <;> simp_all
theorem Pure.panic (w : String) : Pure (C01.panic w : M α) := by
  intro e st a st' h; simp [C01.panic] at h
theorem Pure.outOfFuel {α} : Pure (C01.outOfFuel : M α) := by
  intro e st a st' h; simp [C01.outOfFuel] at h

theorem errorp_ok {a b : Nat} {m : Msg} {st : St} {x : Unit} {st' : St}
    (h : errorp a b m e st = .ok x st') :
    st' = { st with errors := st.errors ++ [{ frm := a, to := b, partial_ := a == e.src.length, msg := m }] } := by
  unfold errorp at h
  split at h <;> simp_all

theorem Mono.errorp (e : Env) (a b : Nat) (m : Msg) : Mono e (C01.errorp a b m) := by
  intro st x st' h
  have := errorp_ok h
  subst this
  refine ⟨_, rfl, ?_⟩
  intro y hy
  simp only [List.mem_singleton] at hy
  subst hy
  simp

theorem Mono.error (e : Env) (m : Msg) : Mono e (C01.error m) :=
  fun st => Mono.errorp e _ _ m st

theorem Mono.next (e : Env) : Mono e C01.next := by
  refine Mono.of_errors_eq fun st x st' h => ?_
  unfold C01.next at h
  split at h
  · simp only [Out.ok.injEq] at h; rw [← h.2]
  · split at h
    · simp only [Out.ok.injEq] at h; rw [← h.2]
    · simp at h

theorem Mono.backup (e : Env) : Mono e C01.backup := by
  refine Mono.of_errors_eq fun st x st' h => ?_
  unfold C01.backup at h
  split at h
  · simp only [Out.ok.injEq] at h; rw [← h.2]
  · split at h
    · simp only at h
      split at h
      · simp only [Out.ok.injEq] at h; rw [← h.2]
      · simp at h
    · simp at h

theorem peek_at_eof {st : St} (h : st.pos = e.src.length) : peek e st = .ok eof st := by
  unfold peek; simp [h]

theorem next_at_eof {st : St} (h : st.pos = e.src.length) :
    next e st = .ok eof { st with overEOF := st.overEOF + 1 } := by
  unfold next; simp [h]

theorem backup_at_eof {st : St} (h : 0 < st.overEOF) :
    backup e st = .ok () { st with overEOF := st.overEOF - 1 } := by
  unfold backup; simp [h]

theorem Tr.peek_eof (e : Env) (n : Nat) (E : List PErr) :
    Tr e (AtEOF e n E) peek (fun r st => r = eof ∧ AtEOF e n E st) := by
  intro st hp a st' hr
  rw [peek_at_eof hp.1] at hr
  simp only [Out.ok.injEq] at hr
  obtain ⟨rfl, rfl⟩ := hr
  exact ⟨rfl, hp⟩

theorem Tr.next_eof (e : Env) (n : Nat) (E : List PErr) :
    Tr e (AtEOF e n E) next (fun r st => r = eof ∧ AtEOF e (n + 1) E st) := by
  intro st hp a st' hr
  rw [next_at_eof hp.1] at hr
  simp only [Out.ok.injEq] at hr
  obtain ⟨rfl, rfl⟩ := hr
  exact ⟨rfl, hp.1, Nat.succ_le_succ hp.2.1, hp.2.2⟩

theorem Tr.backup_eof (e : Env) (n : Nat) (E : List PErr) :
    Tr e (AtEOF e (n + 1) E) backup (fun _ st => AtEOF e n E st) := by
  intro st hp a st' hr
  rw [backup_at_eof (by have := hp.2.1; omega)] at hr
  simp only [Out.ok.injEq] at hr
  obtain ⟨_, rfl⟩ := hr
  exact ⟨hp.1, by have := hp.2.1; simp only; omega, hp.2.2⟩

theorem AtEOF.push {n : Nat} {E : List PErr} {st : St} (h : AtEOF e n E st) (x : PErr)
    (hx : x.partial_ = true) : AtEOF e n E { st with errors := st.errors ++ [x] } := by
  obtain ⟨h1, h2, l, h3, h4⟩ := h
  refine ⟨h1, h2, l ++ [x], by simp only [h3, List.append_assoc], ?_⟩
  intro y hy
  rcases List.mem_append.1 hy with h | h
  · exact h4 y h
  · simp only [List.mem_singleton] at h
    subst h
    exact hx

theorem Tr.error_eof (e : Env) (n : Nat) (E : List PErr) (m : Msg) :
    Tr e (AtEOF e n E) (C01.error m) (fun _ st => AtEOF e n E st) := by
  intro st hp a st' hr
  unfold C01.error at hr
  have hst := errorp_ok hr
  rw [hst]
  exact hp.push _ (by simp [hp.1])

theorem UU.next (e : Env) : UU e C01.next :=
  fun n E => (Tr.next_eof e n E).conseq (fun _ h => h) (fun _ _ h => h.2.weaken (Nat.le_succ n))

theorem Sync.inv_s (g : c.Good) {st : St} (h : Sync c st) : Inv c.es st := by
  obtain ⟨h1, h2, h3, h4⟩ := h
  refine ⟨?_, h4, ?_, ?_⟩
  · have := g.lt; simp only [Cut.es_src]; omega
  · intro h0; omega
  · intro x hx; rw [h1] at hx; cases hx

theorem Sync.inv_p (g : c.Good) {st : St} (h : Sync c st) : Inv c.ep st := by
  obtain ⟨h1, h2, h3, h4⟩ := h
  refine ⟨?_, ?_, ?_, ?_⟩
  · simp only [Cut.ep_src, g.plen]; exact h3
  · exact Bnd_take g.bnd (Nat.le_of_lt g.lt) h4 h3
  · intro h0; omega
  · intro x hx; rw [h1] at hx; cases hx

theorem sync_lt (g : c.Good) {st : St} (h : Sync c st) (hlt : st.pos < c.k) :
    peekRune c.ep st = peekRune c.es st ∧ nextSt c.ep st = nextSt c.es st ∧ Sync c (nextSt c.es st) := by
  obtain ⟨h1, h2, h3, h4⟩ := h
  have hk := g.lt
  obtain ⟨hfit, hdec⟩ := decode_prefix (p := st.pos) g.bnd hlt (Nat.le_of_lt hk)
  have hne1 : st.pos ≠ c.s.length := by omega
  have hne2 : st.pos ≠ (c.s.take c.k).length := by rw [g.plen]; omega
  refine ⟨?_, ?_, ?_⟩
  · unfold peekRune; simp only [Cut.ep_src, Cut.es_src, hne1, hne2, if_false, hdec]
  · unfold nextSt; simp only [Cut.ep_src, Cut.es_src, hne1, hne2, if_false, hdec]
  · unfold nextSt; simp only [Cut.es_src, hne1, if_false]
    exact ⟨h1, h2, hfit, Bnd.step h4 (by omega)⟩

theorem Sync.atEOF (g : c.Good) {st : St} (h : Sync c st) (hk : c.k ≤ st.pos) :
    AtEOF c.ep 0 [] st :=
  ⟨by simp only [Cut.ep_src, g.plen]; exact Nat.le_antisymm h.2.2.1 hk, Nat.zero_le _, [], by simp [h.1],
    fun _ hx => nomatch hx⟩

theorem Sy.peek (g : c.Good) :
    Sy c C01.peek C01.peek (fun r st => r = eof ∧ AtEOF c.ep 0 [] st) := by
  intro st hs a st1 hr _ a' st1' hr'
  rw [peek_eq (hs.inv_s g)] at hr
  rw [peek_eq (hs.inv_p g)] at hr'
  simp only [Out.ok.injEq] at hr hr'
  obtain ⟨rfl, rfl⟩ := hr
  obtain ⟨rfl, rfl⟩ := hr'
  rcases Nat.lt_or_ge st.pos c.k with hlt | hge
  · exact Or.inl ⟨(sync_lt g hs hlt).1, rfl, hs⟩
  · have hp := hs.atEOF g hge
    exact Or.inr ⟨peekRune_eof.2 hp.1, hp⟩

theorem Sy.next (g : c.Good) :
    Sy c C01.next C01.next (fun r st => r = eof ∧ AtEOF c.ep 1 [] st) := by
  intro st hs a st1 hr _ a' st1' hr'
  rw [next_eq (hs.inv_s g)] at hr
  simp only [Out.ok.injEq] at hr
  obtain ⟨rfl, rfl⟩ := hr
  rcases Nat.lt_or_ge st.pos c.k with hlt | hge
  · rw [next_eq (hs.inv_p g)] at hr'
    simp only [Out.ok.injEq] at hr'
    obtain ⟨rfl, rfl⟩ := hr'
    exact Or.inl (sync_lt g hs hlt)
  · exact Or.inr (Tr.next_eof c.ep 0 [] st (hs.atEOF g hge) a' st1' hr')

theorem backup_at_zero {st : St} (h0 : st.pos = 0) (h : st.overEOF = 0) : backup e st = .ok () st := by
  cases st
  simp_all [C01.backup, decodeLastRune]

theorem Sync.cases {st : St} (h : Sync c st) :
    st.pos = 0 ∨ ∃ sq, Sync c sq ∧ sq.pos < c.k ∧ st = nextSt c.es sq := by
  obtain ⟨h1, h2, h3, h4⟩ := h
  generalize hp : st.pos = p at h4
  cases h4 with
  | zero => exact Or.inl rfl
  | @step q hq hql =>
    have := Go.decodeRune_size_pos (drop_ne_nil hql)
    refine Or.inr ⟨{ st with pos := q }, ⟨h1, h2, by simp only; omega, hq⟩, by simp only; omega, ?_⟩
    have hne : q ≠ c.s.length := by omega
    cases st
    simp_all [nextSt]

theorem Sy.backup (g : c.Good) : Sy c C01.backup C01.backup (fun _ _ => False) := by
  intro st hs a st1 hr _ a' st1' hr'
  rcases hs.cases with h0 | ⟨sq, hsq, hlt, rfl⟩
  · rw [backup_at_zero h0 hs.2.1] at hr hr'
    cases hr; cases hr'
    exact Or.inl ⟨rfl, rfl, hs⟩
  · rw [backup_nextSt (hsq.inv_s g)] at hr
    rw [← (sync_lt g hsq hlt).2.1, backup_nextSt (hsq.inv_p g)] at hr'
    cases hr; cases hr'
    exact Or.inl ⟨rfl, rfl, hsq⟩

theorem Sy.of_pure {m m' : M α} {Q : α → St → Prop} (h : Pure m) (h' : Pure m')
    (heq : ∀ st, Sync c st → ∀ a a' st1 st1', m c.es st = .ok a st1 → m' c.ep st = .ok a' st1' → a' = a) :
    Sy c m m' Q := by
  intro st hs a st1 hr _ a' st1' hr'
  have e1 := h _ _ _ _ hr
  have e2 := h' _ _ _ _ hr'
  rw [e1, e2]
  exact Or.inl ⟨heq st hs a a' _ _ hr hr', rfl, hs⟩

end C02
