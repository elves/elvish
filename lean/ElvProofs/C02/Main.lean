/-
From the judgments to statements about `parse`: the flag criterion, the run
from the end of the input, the prefix theorem, and the editor's decision.
-/
import ElvProofs.C02.Grammar2
import ElvProofs.C01
import ElvModel.C02.Model
namespace C02
open Go
open C01
open Gen.C01Chars

def st0 : St := { pos := 0, overEOF := 0, errors := [] }

theorem parseAsFuel_entry (ip : Int → Bool) (fuel : Nat) (nt : NT) (src : Bytes) :
    parseAsFuel ip fuel nt src =
      (match entry fuel nt { isPrint := ip, src := src } st0 with
        | .ok n s => .ok n s.errors
        | .panic w => .panic w
        | .fuel => .fuel) := rfl

theorem parse_ok_entry {ip : Int → Bool} {src : Bytes} {t : Node} {errs : List PErr}
    (h : parse ip src = .ok t errs) :
    ∃ st, entry (defaultFuel src) .chunk { isPrint := ip, src := src } st0 = .ok t st ∧ st.errors = errs := by
  unfold parse parseAs at h
  rw [parseAsFuel_entry] at h
  cases hr : entry (defaultFuel src) .chunk { isPrint := ip, src := src } st0 with
  | ok n s =>
    rw [hr] at h
    simp only [ParseResult.ok.injEq] at h
    exact ⟨s, by rw [h.1], h.2⟩
  | panic w => rw [hr] at h; cases h
  | fuel => rw [hr] at h; cases h

theorem parse_total (ip : Int → Bool) (src : Bytes) : ∃ t errs, parse ip src = .ok t errs := by
  obtain ⟨t, errs, h, _⟩ := C01_total_lossless ip src
  exact ⟨t, errs, h⟩

/-! The two unary judgments do not speak of a cut: every environment is the `es` of
the cut at 0 of its source, and the `ep` of a cut of a longer source. -/

theorem parseNT_mono (e : Env) (fuel : Nat) (nt : NT) : Mono e (parseNT fuel nt) :=
  (parseNT_JQ { ip := e.isPrint, s := e.src, k := 0 } fuel 0 nt).mono

theorem parseNT_uu (e : Env) (fuel : Nat) (nt : NT) : UU e (parseNT fuel nt) := by
  have h := (parseNT_JQ { ip := e.isPrint, s := e.src ++ [0], k := e.src.length } 0 fuel nt).uu
  rwa [show Cut.ep { ip := e.isPrint, s := e.src ++ [0], k := e.src.length } = e by simp [Cut.ep]] at h

theorem flag_iff_at_end {ip : Int → Bool} {src : Bytes} {t : Node} {errs : List PErr}
    (h : parse ip src = .ok t errs) : ∀ x ∈ errs, (x.partial_ = true ↔ x.frm = src.length) := by
  obtain ⟨st, hr, he⟩ := parse_ok_entry h
  obtain ⟨l, hl, hf⟩ := (entry_J2 { ip := ip, s := src, k := 0 } (defaultFuel src) 0 .chunk rfl).mono st0 t st hr
  rw [← he, hl]
  exact hf

theorem at_eof_partial (ip : Int → Bool) (src : Bytes) (fuel : Nat) (nt : NT) (st st' : St) (a : Node)
    (hpos : st.pos = src.length) (hr : parseNT fuel nt { isPrint := ip, src := src } st = .ok a st') :
    st'.pos = src.length ∧ st.overEOF ≤ st'.overEOF ∧
      ∃ l, st'.errors = st.errors ++ l ∧ ∀ x ∈ l, x.partial_ = true ∧ x.frm = src.length := by
  obtain ⟨h1, h2, l, h3, h4⟩ := parseNT_uu _ fuel nt st.overEOF st.errors st
    ⟨hpos, Nat.le_refl _, [], (List.append_nil _).symm, nofun⟩ a st' hr
  refine ⟨h1, h2, l, h3, fun x hx => ⟨h4 x hx, ?_⟩⟩
  -- the position of the new errors: the flag criterion
  obtain ⟨l', hl', hf'⟩ := parseNT_mono _ fuel nt st a st' hr
  obtain rfl : l' = l := List.append_cancel_left (hl'.symm.trans h3)
  exact (hf' x hx).1 (h4 x hx)

/-- Lock step of one parser action on a source `s` and on its prefix cut at
`k`, from a common state in which nothing at or beyond `k` has been observed:
if the run on `s` returns without an error, the run on the prefix returns the
same value and state, or it has reached the end of the prefix having recorded
only partial errors. -/
def LockStep {α} (ip : Int → Bool) (s : Bytes) (k : Nat) (m : M α) : Prop :=
  ∀ st : St, st.errors = [] → st.overEOF = 0 → st.pos ≤ k → Bnd s st.pos →
    ∀ a st1, m { isPrint := ip, src := s } st = .ok a st1 → st1.errors = [] →
      ∀ a' st1', m { isPrint := ip, src := s.take k } st = .ok a' st1' →
        (a' = a ∧ st1' = st1) ∨ (st1'.pos = k ∧ ∀ x ∈ st1'.errors, x.partial_ = true)

theorem J2.lockStep {α} {c : Cut} {m : M α} (h : J2 c m m) (g : c.Good) : LockStep c.ip c.s c.k m := by
  intro st h1 h2 h3 h4 a st1 hr hnil a' st1' hr'
  rcases h.sy g st ⟨h1, h2, h3, h4⟩ a st1 hr hnil a' st1' hr' with ⟨e1, e2, _⟩ | hq
  · exact Or.inl ⟨e1, e2⟩
  · obtain ⟨q1, _, l, q3, q4⟩ := hq
    refine Or.inr ⟨by rw [q1]; simp only [Cut.ep_src]; exact g.plen, ?_⟩
    rw [q3]; simpa using q4

theorem prefix_partial {ip : Int → Bool} {s : Bytes} {k : Nat} {t : Node}
    (hs : parse ip s = .ok t []) (hk : k < s.length) (hb : Bnd s k) {t' : Node} {errs' : List PErr}
    (hp : parse ip (s.take k) = .ok t' errs') : ∀ x ∈ errs', x.partial_ = true := by
  obtain ⟨st, hr, he⟩ := parse_ok_entry hs
  obtain ⟨st', hr', he'⟩ := parse_ok_entry hp
  let c : Cut := { ip := ip, s := s, k := k }
  have g : c.Good := ⟨hk, hb⟩
  have hj := entry_J2 c (defaultFuel s) (defaultFuel (s.take k)) .chunk rfl
  rcases hj.sy g st0 ⟨rfl, rfl, Nat.zero_le _, Bnd.zero⟩ t st hr he t' st' hr' with ⟨_, e2, _⟩ | hq
  · rw [← he', e2, he]; intro x hx; cases hx
  · obtain ⟨_, _, l, q3, q4⟩ := hq
    rw [← he', q3]; simpa using q4

/-- The offsets `for i := range s` yields are boundaries. -/
theorem runesFrom_bnd (s : Bytes) : ∀ (fuel off : Nat), Bnd s off →
    ∀ x ∈ runesFrom fuel off (s.drop off), Bnd s x.1 ∧ x.1 < s.length
  | 0, _, _ => by intro x hx; simp [runesFrom] at hx
  | fuel + 1, off, hb => by
    intro x hx
    match hd : s.drop off with
    | [] => rw [hd] at hx; simp [runesFrom] at hx
    | b :: t =>
      have hlt : off < s.length := by
        rcases Nat.lt_or_ge off s.length with h | h
        · exact h
        · rw [List.drop_eq_nil_of_le h] at hd; cases hd
      rw [hd] at hx
      simp only [runesFrom, List.mem_cons] at hx
      rcases hx with rfl | hx
      · exact ⟨hb, hlt⟩
      · have hstep := Bnd.step hb hlt
        rw [hd] at hstep
        have hdrop : (b :: t).drop (decodeRune (b :: t)).2 = s.drop (off + (decodeRune (b :: t)).2) := by
          rw [← hd, List.drop_drop]
        rw [hdrop] at hx
        exact runesFrom_bnd s fuel _ hstep x hx

theorem runes_bnd (s : Bytes) : ∀ x ∈ runes s, Bnd s x.1 ∧ x.1 < s.length := by
  have := runesFrom_bnd s s.length 0 Bnd.zero
  simpa [runes] using this

theorem noErrorAtEnd_eq (n : Nat) : ∀ errs : List PErr,
    noErrorAtEnd n errs = !errs.any (fun e => e.frm == n)
  | [] => rfl
  | e :: rest => by
    simp only [noErrorAtEnd, List.any_cons]
    by_cases h : (e.frm == n) = true
    · simp [h]
    · simp only [h, Bool.false_eq_true, if_false, Bool.false_or]
      exact noErrorAtEnd_eq n rest

theorem any_eq_of_forall {α} (p q : α → Bool) : ∀ l : List α, (∀ x ∈ l, p x = q x) → l.any p = l.any q
  | [], _ => rfl
  | a :: l, h => by
    simp only [List.any_cons]
    rw [h a (List.mem_cons_self ..), any_eq_of_forall p q l (fun x hx => h x (List.mem_cons_of_mem _ hx))]

theorem isSyntaxComplete_iff {ip : Int → Bool} {code : Bytes} {t : Node} {errs : List PErr}
    (h : parse ip code = .ok t errs) :
    isSyntaxComplete ip code = .ok (!errs.any (fun e => e.partial_)) := by
  unfold isSyntaxComplete parseErrors
  rw [h]
  simp only [noErrorAtEnd_eq]
  congr 2
  apply any_eq_of_forall
  intro x hx
  have := flag_iff_at_end h x hx
  by_cases hp : x.partial_ = true
  · rw [hp]; simpa using this.1 hp
  · have hn : ¬ x.frm = code.length := fun he => hp (this.2 he)
    simp only [Bool.not_eq_true] at hp
    rw [hp]; simpa using hn

theorem insertAtDot_ok (buf : CodeBuffer) (text : Bytes) (h0 : 0 ≤ buf.dot) (h1 : buf.dot ≤ buf.content.length) :
    insertAtDot buf text =
      .ok { content := buf.content.take buf.dot.toNat ++ text ++ buf.content.drop buf.dot.toNat,
            dot := buf.dot + text.length } := by
  unfold insertAtDot slice
  have ha : (0 : Int) ≤ 0 ∧ (0 : Int) ≤ buf.dot ∧ buf.dot ≤ (buf.content.length : Int) := ⟨Int.le_refl 0, h0, h1⟩
  have hb : (0 : Int) ≤ buf.dot ∧ buf.dot ≤ (buf.content.length : Int) ∧
      ((buf.content.length : Int) ≤ (buf.content.length : Int)) := ⟨h0, h1, Int.le_refl _⟩
  simp only [ha, hb, and_self, if_true, Int.toNat_zero, List.drop_zero, Nat.sub_zero, Int.toNat_natCast]
  have : List.take (buf.content.length - buf.dot.toNat) (List.drop buf.dot.toNat buf.content) =
      List.drop buf.dot.toNat buf.content := List.take_of_length_le (by simp)
  rw [this]

end C02
