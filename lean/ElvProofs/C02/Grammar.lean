/-
The grammar functions (open recursion through `rec`) other than `Form` and
`Pipeline`: `J2` for each body, given the judgment of the `parse` they call back.
-/
import ElvProofs.C02.Leaf
import ElvProofs.C02.Amp
namespace C02
open Go
open C01
open Gen.C01Chars

def isFormNT : NT → Bool
  | .form => true
  | _ => false

/-- The extra post-divergence state of `parse(ps, nt)`: `&`-pending, only for a `Form`. -/
def XF {α} (c : Cut) (nt : NT) : α → St → Prop := fun _ st => isFormNT nt = true ∧ AmpP c st

/-- What is assumed of the `parse` a grammar function calls back (`rec` in the
s-run, `rec'` in the p-run: they differ in fuel only). -/
def Rec (c : Cut) (rec rec' : NT → M Node) : Prop := ∀ nt, JQ c (XF c nt) (rec nt) (rec' nt)

theorem Rec.j2 {c : Cut} {rec rec' : NT → M Node} (h : Rec c rec rec') {nt : NT} (hn : isFormNT nt = false) :
    J2 c (rec nt) (rec' nt) :=
  (h nt).j2 (fun _ _ hx => by have h1 : isFormNT nt = true := hx.1; rw [hn] at h1; cases h1)

variable {c : Cut} {rec rec' : NT → M Node}

theorem parseSepsLoop_J2 {n n' k : Nat} {nb : NB} : J2 c (parseSepsLoop n k nb) (parseSepsLoop n' k nb) := by
  refine J2.loop2 (L := fun n (x : Nat × NB) => parseSepsLoop n x.1 x.2) (L' := fun n x => parseSepsLoop n x.1 x.2)
    (fun _ => rfl) (fun _ => rfl) (fun a b ih x => ?_) n n' (k, nb)
  show J2 c (parseSepsLoop (a + 1) x.1 x.2) (parseSepsLoop (b + 1) x.1 x.2)
  unfold parseSepsLoop
  exact .bind .peek fun _ => .ite (fun _ => .bind parseSep_J2 fun (_, nb) => ih (_, nb)) fun _ =>
    .ite (fun _ => .bind parseSpaces_J2 fun nb => ih (_, nb)) fun _ => .pure

theorem parseSeps_J2 {nb : NB} : J2 c (parseSeps nb) (parseSeps nb) := by
  unfold parseSeps
  exact .loopFuel_bind parseSepsLoop_J2

theorem chunkLoop_J2 (hrec : Rec c rec rec') {n n' : Nat} {nb : NB} :
    J2 c (chunkLoop rec n nb) (chunkLoop rec' n' nb) := by
  refine J2.loop2 (fun _ => rfl) (fun _ => rfl) (fun a b ih nb => ?_) n n' nb
  unfold chunkLoop
  exact .getEnv_bind <| .bind .peek fun _ => .ite (fun _ => .bind (hrec.j2 rfl) fun _ => .bind parseSeps_J2 fun (_, _) =>
    .ite (fun _ => .pure) fun _ => ih _) fun _ => .pure

theorem chunkBody_J2 (hrec : Rec c rec rec') {nb : NB} : J2 c (chunkBody rec nb) (chunkBody rec' nb) := by
  unfold chunkBody
  exact .bind parseSeps_J2 fun (_, _) => .loopFuel_bind (chunkLoop_J2 hrec)

theorem setMode_J2 {nb : NB} {sign : Bytes} : J2 c (setMode nb sign) (setMode nb sign) := by
  unfold setMode
  split
  · exact .pure
  · exact .bind .error fun _ => .pure

theorem redirRest_J2 (hrec : Rec c rec rec') {nb : NB} : J2 c (redirRest rec nb) (redirRest rec' nb) := by
  unfold redirRest
  exact .bind .getPos fun _ => .loopFuel_bind <| .bind skipWhile_J2 fun _ => .bind .getPos fun _ => .bind .sliceSrc fun _ =>
    .bind setMode_J2 fun _ => .bind addSep_J2 fun _ => .bind parseSpaces_J2 fun _ => .bind parseSep_J2 fun (_, _) =>
    .bind (hrec.j2 rfl) fun _ => .ite (fun _ => .bind (.ite (fun _ => .error) fun _ => .error) fun _ => .pure) fun _ => .pure

theorem redirBody_J2 (hrec : Rec c rec rec') {left : Option Node} {nb : NB} :
    J2 c (redirBody rec left nb) (redirBody rec' left nb) := by
  unfold redirBody
  exact redirRest_J2 hrec

theorem filterLoop_J2 (hrec : Rec c rec rec') {n n' : Nat} {nb : NB} :
    J2 c (filterLoop rec n nb) (filterLoop rec' n' nb) := by
  refine J2.loop2 (fun _ => rfl) (fun _ => rfl) (fun a b ih nb => ?_) n n' nb
  unfold filterLoop
  exact .getEnv_bind <| .bind .peek fun _ => .ite (fun _ => .bind (hrec.j2 rfl) fun _ => .bind parseSpaces_J2 fun _ => ih _)
    fun _ => .ite (fun _ => .bind (hrec.j2 rfl) fun _ => .bind parseSpaces_J2 fun _ => ih _) fun _ => .pure

theorem filterBody_J2 (hrec : Rec c rec rec') {nb : NB} : J2 c (filterBody rec nb) (filterBody rec' nb) := by
  unfold filterBody
  exact .bind parseSpaces_J2 fun _ => .loopFuel_bind (filterLoop_J2 hrec)

theorem tilde_J2 {nb : NB} : J2 c (tilde nb) (tilde nb) := by
  unfold tilde
  exact .bind .peek fun _ => .ite (fun _ => .bind .next fun _ => .bind .getPos fun _ => .ite (fun _ => .pure) fun _ => .panic)
    fun _ => .pure

theorem compoundLoop_J2 (hrec : Rec c rec rec') {ctx : Int} {n n' : Nat} {nb : NB} :
    J2 c (compoundLoop rec ctx n nb) (compoundLoop rec' ctx n' nb) := by
  refine J2.loop2 (fun _ => rfl) (fun _ => rfl) (fun a b ih nb => ?_) n n' nb
  unfold compoundLoop
  exact .getEnv_bind <| .bind .peek fun _ => .ite (fun _ => .bind (hrec.j2 rfl) fun _ => ih _) fun _ => .pure

theorem compoundBody_J2 (hrec : Rec c rec rec') {nb : NB} : J2 c (compoundBody rec nb) (compoundBody rec' nb) := by
  unfold compoundBody
  exact .bind tilde_J2 fun _ => .loopFuel_bind (compoundLoop_J2 hrec)

theorem indexingLoop_J2 (hrec : Rec c rec rec') {n n' : Nat} {nb : NB} :
    J2 c (indexingLoop rec n nb) (indexingLoop rec' n' nb) := by
  refine J2.loop2 (fun _ => rfl) (fun _ => rfl) (fun a b ih nb => ?_) n n' nb
  unfold indexingLoop
  exact .getEnv_bind <| .bind parseSep_J2 fun (_, _) => .ite (fun _ => .bind .peek fun _ =>
    .bind (.ite (fun _ => .error) fun _ => .pure) fun _ => .bind (hrec.j2 rfl) fun _ => .bind parseSep_J2 fun (_, _) =>
    .ite (fun _ => .bind .error fun _ => .pure) fun _ => ih _) fun _ => .pure

theorem indexingBody_J2 (hrec : Rec c rec rec') {nb : NB} : J2 c (indexingBody rec nb) (indexingBody rec' nb) := by
  unfold indexingBody
  exact .bind (hrec.j2 rfl) fun _ => .loopFuel_bind (indexingLoop_J2 hrec)

theorem arrayLoop_J2 (hrec : Rec c rec rec') {n n' : Nat} {nb : NB} :
    J2 c (arrayLoop rec n nb) (arrayLoop rec' n' nb) := by
  refine J2.loop2 (fun _ => rfl) (fun _ => rfl) (fun a b ih nb => ?_) n n' nb
  unfold arrayLoop
  exact .getEnv_bind <| .bind .peek fun _ => .ite (fun _ => .bind (hrec.j2 rfl) fun _ =>
    .bind parseSpacesAndNewlines_J2 fun _ => ih _) fun _ => .pure

theorem arrayBody_J2 (hrec : Rec c rec rec') {nb : NB} : J2 c (arrayBody rec nb) (arrayBody rec' nb) := by
  unfold arrayBody
  exact .bind parseSpacesAndNewlines_J2 fun _ => .loopFuel_bind (arrayLoop_J2 hrec)

theorem exitusCapture_J2 (hrec : Rec c rec rec') {nb : NB} :
    J2 c (exitusCapture rec nb) (exitusCapture rec' nb) := by
  unfold exitusCapture
  exact .bind .next fun _ => .bind .next fun _ => .bind addSep_J2 fun _ => .bind (hrec.j2 rfl) fun _ =>
    .bind parseSep_J2 fun (_, _) => .ite (fun _ => .bind .error fun _ => .pure) fun _ => .pure

theorem outputCapture_J2 (hrec : Rec c rec rec') {nb : NB} :
    J2 c (outputCapture rec nb) (outputCapture rec' nb) := by
  unfold outputCapture
  exact .bind parseSep_J2 fun (_, _) => .bind (hrec.j2 rfl) fun _ => .bind parseSep_J2 fun (_, _) =>
    .ite (fun _ => .bind .error fun _ => .pure) fun _ => .pure

theorem lambdaLoop_J2 (hrec : Rec c rec rec') {n n' : Nat} {nb : NB} :
    J2 c (lambdaLoop rec n nb) (lambdaLoop rec' n' nb) := by
  refine J2.loop2 (fun _ => rfl) (fun _ => rfl) (fun a b ih nb => ?_) n n' nb
  unfold lambdaLoop
  exact .getEnv_bind <| .bind .peek fun _ => .ite (fun _ => .bind (hrec.j2 rfl) fun _ =>
    .bind parseSpacesAndNewlines_J2 fun _ => ih _) fun _ => .ite (fun _ => .bind (hrec.j2 rfl) fun _ =>
    .bind parseSpacesAndNewlines_J2 fun _ => ih _) fun _ => .pure

theorem lambda_J2 (hrec : Rec c rec rec') {nb : NB} : J2 c (lambda rec nb) (lambda rec' nb) := by
  unfold lambda
  exact .bind parseSpacesAndNewlines_J2 fun _ => .bind parseSep_J2 fun (_, _) =>
    .bind (.ite (fun _ => .bind parseSpacesAndNewlines_J2 fun _ => .loopFuel_bind <| .bind (lambdaLoop_J2 hrec) fun _ =>
      .bind parseSep_J2 fun (_, _) => .bind (.ite (fun _ => .error) fun _ => .pure) fun _ => .pure) fun _ => .pure) fun _ =>
    .bind (hrec.j2 rfl) fun _ => .bind parseSep_J2 fun (_, _) => .ite (fun _ => .bind .error fun _ => .pure) fun _ => .pure

theorem bracedLoop_J2 (hrec : Rec c rec rec') {n n' : Nat} {nb : NB} :
    J2 c (bracedLoop rec n nb) (bracedLoop rec' n' nb) := by
  refine J2.loop2 (fun _ => rfl) (fun _ => rfl) (fun a b ih nb => ?_) n n' nb
  unfold bracedLoop
  exact .bind .peek fun _ => .ite (fun _ => .bind parseSpacesAndNewlines_J2 fun _ => .bind parseSep_J2 fun (_, _) =>
    .bind parseSpacesAndNewlines_J2 fun _ => .bind (hrec.j2 rfl) fun _ => ih _) fun _ => .pure

theorem lbrace_J2 (hrec : Rec c rec rec') {nb : NB} : J2 c (lbrace rec nb) (lbrace rec' nb) := by
  unfold lbrace
  exact .bind parseSep_J2 fun (_, _) => .bind .peek fun _ => .ite (fun _ => lambda_J2 hrec) fun _ =>
    .bind (hrec.j2 rfl) fun _ => .loopFuel_bind <| .bind (bracedLoop_J2 hrec) fun _ => .bind parseSep_J2 fun (_, _) =>
    .ite (fun _ => .bind .error fun _ => .pure) fun _ => .pure

theorem mapPairBody_J2 (hrec : Rec c rec rec') {nb : NB} : J2 c (mapPairBody rec nb) (mapPairBody rec' nb) := by
  unfold mapPairBody
  exact .bind parseSep_J2 fun (_, _) => .bind (hrec.j2 rfl) fun _ => .bind (.ite (fun _ => .error) fun _ => .pure) fun _ =>
    .bind parseSep_J2 fun (_, _) => .ite (fun _ => .bind parseSpacesAndNewlines_J2 fun _ => .bind (hrec.j2 rfl) fun _ => .pure)
    fun _ => .pure

theorem lbracketLoop_J2 (hrec : Rec c rec rec') {n n' : Nat} {nb : NB} :
    J2 c (lbracketLoop rec n nb) (lbracketLoop rec' n' nb) := by
  refine J2.loop2 (fun _ => rfl) (fun _ => rfl) (fun a b ih nb => ?_) n n' nb
  unfold lbracketLoop
  refine .getEnv_bind <| .bind .peek fun _ => .ite (fun _ => ?_) fun _ =>
    .ite (fun _ => .bind (hrec.j2 rfl) fun _ => .bind parseSpacesAndNewlines_J2 fun _ => ih _) fun _ => .pure
  have hlone : ∀ nb : NB, J2 c (do let nb ← addSep nb; parseSpacesAndNewlines nb)
      (do let nb ← addSep nb; parseSpacesAndNewlines nb) := fun _ => .bind addSep_J2 fun _ => parseSpacesAndNewlines_J2
  refine .next_bind (fun _ => .peek_bind (fun r2 => ?_) (fun _ => ?_)) (fun N E => Tr.peek_bind_eof ?_)
  · exact .ite (fun _ => (hlone _).jl) fun _ => .backup_bind <| J2.jl <| .bind (hrec.j2 rfl) fun _ =>
      .bind parseSpacesAndNewlines_J2 fun _ => ih _
  · simp only [Cut.ep_ip, eof_startsCompound, Bool.not_false, if_true]
    exact (hlone _).uu 0 []
  · simp only [Cut.ep_ip, eof_startsCompound, Bool.not_false, if_true]
    exact Tr.uu (hlone _).uu (Nat.le_succ _)

theorem lbracket_J2 (hrec : Rec c rec rec') {nb : NB} : J2 c (lbracket rec nb) (lbracket rec' nb) := by
  unfold lbracket
  exact .bind parseSep_J2 fun (_, _) => .bind parseSpacesAndNewlines_J2 fun _ => .loopFuel_bind <|
    .bind (lbracketLoop_J2 hrec) fun _ => .bind parseSep_J2 fun (_, _) => .bind (.ite (fun _ => .error) fun _ => .pure) fun _ =>
    .ite (fun _ => .bind (.ite (fun _ => .error) fun _ => .pure) fun _ => .pure) fun _ => .pure

theorem ascii_at {e : Env} {st : St} {b : UInt8} {t : Bytes} (hd : e.src.drop st.pos = b :: t) (hb : b.toNat < 128) :
    peekRune e st = b.toNat ∧ (nextSt e st).pos = st.pos + 1 := by
  have hne : st.pos ≠ e.src.length := fun h => by rw [h, List.drop_length] at hd; cases hd
  unfold peekRune nextSt
  simp only [hne, if_false, hd, decodeRune_one b t hb, and_self]

theorem questionWildcard_state {e : Env} {st st' : St} {nb a : NB} (hi : Inv e st)
    (h : questionWildcard nb e st = .ok a st') :
    st' = if (peekRune e st == 63) = true then nextSt e st else st := by
  unfold questionWildcard at h
  rw [bind_of_eq (peek_eq hi)] at h
  obtain ⟨u, st1, h1, h2⟩ := bind_ok.1 h
  have htail : st' = st1 := by
    refine Pure.bind Pure.getPos (fun _ => Pure.bind (Pure.sliceSrc _ _) (fun _ => Pure.pure _)) _ _ _ _ h2
  rw [htail]
  by_cases hc : (peekRune e st == 63) = true
  · rw [if_pos hc] at h1 ⊢
    rw [bind_of_eq (next_eq hi)] at h1
    simp only [pure_apply, Out.ok.injEq] at h1
    exact h1.2.symm
  · rw [if_neg hc] at h1 ⊢
    simp only [pure_apply, Out.ok.injEq] at h1
    exact h1.2.symm

theorem isPrefixOf2_take (a b : UInt8) (l : Bytes) (n : Nat) :
    [a, b].isPrefixOf (l.take n) = (decide (2 ≤ n) && [a, b].isPrefixOf l) := by
  match l, n with
  | _, 0 => simp
  | [], _ + 1 => simp
  | [x], _ + 1 => simp
  | x :: y :: t, 1 => simp [List.isPrefixOf]
  | x :: y :: t, n + 2 => simp [List.isPrefixOf]

/-- `?` followed by `(` starts an exception capture, otherwise `?` is a wildcard.
When the cut falls between the two, the p-run takes the `?` for a wildcard and
is at its end. -/
theorem exitusOrQuestion_J2 (hrec : Rec c rec rec') {nb : NB} :
    J2 c (do let cap ← hasPrefix [63, 40]; if cap then exitusCapture rec nb else questionWildcard nb)
      (do let cap ← hasPrefix [63, 40]; if cap then exitusCapture rec' nb else questionWildcard nb) := by
  have hbr : ∀ cap : Bool, J2 c (if cap then exitusCapture rec nb else questionWildcard nb)
      (if cap then exitusCapture rec' nb else questionWildcard nb) :=
    fun _ => .ite (fun _ => exitusCapture_J2 hrec) fun _ => questionWildcard_J2
  refine ⟨(Mono.of_pure (Pure.hasPrefix _)).bind fun cap => (hbr cap).mono,
    (UU.of_pure (Pure.hasPrefix _)).bind fun cap => (hbr cap).uu, fun g st hs b st2 hr hnil b' st2' hr' => ?_⟩
  rw [bind_of_eq (hasPrefix_eq (hs.inv_s g) _)] at hr
  rw [bind_of_eq (hasPrefix_eq (hs.inv_p g) _)] at hr'
  have hdrop : c.ep.src.drop st.pos = (c.es.src.drop st.pos).take (c.k - st.pos) := by
    simp only [Cut.ep_src, Cut.es_src, List.drop_take]
  rw [hdrop, isPrefixOf2_take] at hr'
  by_cases h2 : 2 ≤ c.k - st.pos
  · rw [decide_eq_true h2, Bool.true_and] at hr'
    exact (hbr _).sy g st hs b st2 hr hnil b' st2' hr'
  rw [decide_eq_false h2, Bool.false_and, if_neg Bool.false_ne_true] at hr'
  cases hcap : [63, 40].isPrefixOf (c.es.src.drop st.pos) with
  | false =>
    rw [hcap, if_neg Bool.false_ne_true] at hr
    exact questionWildcard_J2.sy g st hs b st2 hr hnil b' st2' hr'
  | true =>
    -- the source has `?(` here and the prefix at most the `?`
    right
    rcases Nat.lt_or_ge st.pos c.k with hlt | hge
    · have hd := (List.prefix_iff_eq_append.1 (List.isPrefixOf_iff_prefix.1 hcap)).symm
      have hd' : c.ep.src.drop st.pos = [63] := by
        rw [hdrop, hd, show c.k - st.pos = 1 by omega]; rfl
      obtain ⟨hp, hn⟩ := ascii_at hd' (by decide)
      have hst := questionWildcard_state (hs.inv_p g) hr'
      rw [hp, if_pos (by decide)] at hst
      rw [hst]
      exact ⟨by rw [hn, Cut.ep_src, g.plen]; omega, Nat.zero_le _, [], by rw [nextSt_errors, hs.1]; rfl, nofun⟩
    · exact questionWildcard_J2.uu 0 [] st (hs.atEOF g hge) b' st2' hr'

theorem primaryBody_J2 (hrec : Rec c rec rec') {nb : NB} : J2 c (primaryBody rec nb) (primaryBody rec' nb) := by
  unfold primaryBody
  exact .getEnv_bind <| .bind .peek fun _ => .ite (fun _ => .bind .error fun _ => .pure) fun _ =>
    .ite (fun _ => bareword_J2) fun _ => .ite (fun _ => singleQuoted_J2) fun _ => .ite (fun _ => doubleQuoted_J2) fun _ =>
    .ite (fun _ => variableP_J2) fun _ => .ite (fun _ => starWildcard_J2) fun _ => .ite (fun _ => exitusOrQuestion_J2 hrec) fun _ =>
    .ite (fun _ => outputCapture_J2 hrec) fun _ => .ite (fun _ => lbracket_J2 hrec) fun _ => .ite (fun _ => lbrace_J2 hrec) fun _ => .pure

end C02
