/-
The judgments of the primitives, the rules for `next`/`peek`/`backup` in
functions that look ahead, fuel-indexed loops, and the value-aware rules at the
end of the input (`Tr.…_eof`).
-/
import ElvProofs.C02.Framework
namespace C02
open Go
open C01
open Gen.C01Chars

@[simp] theorem eof_isInlineWhitespace : IsInlineWhitespace eof = false := by decide
@[simp] theorem eof_isWhitespace : IsWhitespace eof = false := by decide
@[simp] theorem eof_isPipelineSep : isPipelineSep eof = false := by decide
@[simp] theorem eof_isRedirSign : isRedirSign eof = false := by decide
@[simp] theorem eof_isBracedSep : isBracedSep eof = false := by decide
@[simp] theorem eof_allowedInVariableName (ip : Int → Bool) : allowedInVariableName ip eof = false := by
  simp [allowedInVariableName, eof]
@[simp] theorem eof_allowedInBareword (ip : Int → Bool) (ctx : Int) : allowedInBareword ip eof ctx = false := by
  simp [allowedInBareword, allowedInVariableName, eof]
@[simp] theorem eof_startsPrimary (ip : Int → Bool) (ctx : Int) : startsPrimary ip eof ctx = false := by
  simp [startsPrimary, allowedInBareword, allowedInVariableName, eof]
@[simp] theorem eof_startsIndexing (ip : Int → Bool) (ctx : Int) : startsIndexing ip eof ctx = false := by
  simp [startsIndexing]
@[simp] theorem eof_startsCompound (ip : Int → Bool) (ctx : Int) : startsCompound ip eof ctx = false := by
  simp [startsCompound]
@[simp] theorem eof_startsArray (ip : Int → Bool) : startsArray ip eof = false := by
  simp [startsArray]
@[simp] theorem eof_startsForm (ip : Int → Bool) : startsForm ip eof = false := by
  simp [startsForm]
@[simp] theorem eof_startsPipeline (ip : Int → Bool) : startsPipeline ip eof = false := by
  simp [startsPipeline]
@[simp] theorem eof_hexToDigit : hexToDigit eof = (-1, false) := by decide
@[simp] theorem eof_doubleEscape : doubleEscape.lookup eof = none := by decide

theorem eof_beq_of_nonneg {n : Int} (h : 0 ≤ n) : (eof == n) = false := by
  simp only [eof, beq_eq_false_iff_ne, ne_eq]; omega

variable {α β : Type} {c : Cut} {e : Env}

theorem Pure.bind {m : M α} {f : α → M β} (hm : Pure m) (hf : ∀ a, Pure (f a)) : Pure (m >>= f) := by
  intro e st b st2 hr
  obtain ⟨a, st1, h1, h2⟩ := bind_ok.1 hr
  have := hm e st a st1 h1
  subst this
  exact hf a e _ b st2 h2

theorem Pure.ite {p : Prop} [Decidable p] {a b : M α} (h1 : p → Pure a) (h2 : ¬p → Pure b) :
    Pure (if p then a else b) :=
  iteInduction (motive := Pure) h1 h2

theorem JL.of_pure {Q : α → St → Prop} {m : M α} (h : Pure m)
    (heq : c.Good → ∀ st, Sync c st → ∀ a a' st1 st1', m c.es st = .ok a st1 → m c.ep st = .ok a' st1' → a' = a) :
    JL c Q m m :=
  ⟨Mono.of_pure h, fun g => Sy.of_pure h h (heq g)⟩

theorem J2.of_pure {α} {c : Cut} {m : M α} (h : Pure m)
    (heq : c.Good → ∀ st, Sync c st → ∀ a a' st1 st1', m c.es st = .ok a st1 → m c.ep st = .ok a' st1' → a' = a) :
    J2 c m m :=
  J2.of_jl (UU.of_pure h) (JL.of_pure h heq)

theorem JL.pure {Q : α → St → Prop} {a : α} : JL c Q (pure a : M α) (pure a) :=
  JL.of_pure (Pure.pure a) fun _ _ _ _ _ _ _ h h' => by
    simp only [pure_apply, Out.ok.injEq] at h h'
    rw [← h.1, ← h'.1]

theorem J2.pure {a : α} : J2 c (pure a : M α) (pure a) :=
  J2.of_jl (UU.of_pure (Pure.pure a)) JL.pure

theorem JL.getPos {Q : Nat → St → Prop} : JL c Q C01.getPos C01.getPos :=
  JL.of_pure Pure.getPos fun _ _ _ _ _ _ _ h h' => by
    simp only [C01.getPos, Out.ok.injEq] at h h'
    rw [← h.1, ← h'.1]

theorem J2.getPos : J2 c C01.getPos C01.getPos :=
  J2.of_jl (UU.of_pure Pure.getPos) JL.getPos

theorem J2.peek : J2 c C01.peek C01.peek where
  mono := Mono.of_pure Pure.peek
  uu := UU.of_pure Pure.peek
  sy := fun g => (Sy.peek g).conseq (fun _ _ h => h.2)

theorem J2.next : J2 c C01.next C01.next where
  mono := Mono.next _
  uu := UU.next _
  sy := fun g => (Sy.next g).conseq (fun _ _ h => h.2.weaken (Nat.zero_le _))

/-- The s-run records an error: nothing to show. -/
theorem JL.errorp_bind {Q : β → St → Prop} {a b : Nat} {m : Msg} {g : Unit → M β} {m' : M β}
    (hmono : Mono c.es (g ())) : JL c Q (C01.errorp a b m >>= g) m' where
  mono := (Mono.errorp _ a b m).bind fun _ => hmono
  sy := fun _ st _ x st2 hr hnil => by
    obtain ⟨u, st1, h1, h2⟩ := bind_ok.1 hr
    have hnil1 := hmono.nil_of_nil h2 hnil
    rw [errorp_ok h1] at hnil1
    simp at hnil1

theorem JL.error_bind {Q : β → St → Prop} {m : Msg} {g : Unit → M β} {m' : M β}
    (hmono : Mono c.es (g ())) : JL c Q (C01.error m >>= g) m' where
  mono := (Mono.error _ m).bind fun _ => hmono
  -- `error m` run at `st` is `errorp` run at `st` with the range at `st.pos`
  sy := fun gd st hs => (JL.errorp_bind (Q := Q) (m' := m') hmono).sy gd st hs

theorem J2.error {m : Msg} : J2 c (C01.error m) (C01.error m) where
  mono := Mono.error _ m
  uu := fun n E => Tr.error_eof _ n E m
  sy := fun _ st _ x st1 hr hnil => by
    unfold C01.error at hr
    rw [errorp_ok hr] at hnil
    simp at hnil

theorem JL.panic {Q : α → St → Prop} {w : String} {m' : M α} : JL c Q (C01.panic w) m' where
  mono := Mono.of_pure (Pure.panic w)
  sy := fun _ st _ a st1 hr => by simp [C01.panic] at hr

theorem J2.panic {w : String} : J2 c (C01.panic w : M α) (C01.panic w) :=
  J2.of_jl (UU.of_pure (Pure.panic w)) JL.panic

theorem sliceSrc_ok_bounds {a b : Nat} {st st' : St} {x : Bytes}
    (h : C01.sliceSrc a b e st = .ok x st') : a ≤ b ∧ b ≤ e.src.length := by
  unfold C01.sliceSrc slice at h
  by_cases hc : (0 : Int) ≤ (a : Int) ∧ (a : Int) ≤ (b : Int) ∧ (b : Int) ≤ (e.src.length : Int)
  · omega
  · simp only [hc, if_false] at h
    cases h

/-- `ps.src[a:b]` is the same text in both runs whenever the prefix contains it
(otherwise the p-run does not return). -/
theorem J2.sliceSrc {a b : Nat} : J2 c (C01.sliceSrc a b) (C01.sliceSrc a b) :=
  J2.of_pure (Pure.sliceSrc a b) fun g _ _ x x' _ _ h h' => by
    have hb1 := sliceSrc_ok_bounds h
    have hb2 := sliceSrc_ok_bounds h'
    rw [sliceSrc_eq hb1.1 hb1.2] at h
    rw [sliceSrc_eq hb2.1 hb2.2] at h'
    simp only [Out.ok.injEq] at h h'
    simp only [Cut.ep_src, g.plen] at hb2
    rw [← h.1, ← h'.1]
    unfold srcSlice
    simp only [Cut.ep_src, Cut.es_src]
    rw [List.drop_take, List.take_take]
    congr 1
    omega

/-- `getEnv`: only `isPrint` is ever read from the environment.  (`getEnv >>= f`
run in `e` is `f e` run in `e`, by computation.) -/
theorem J2.getEnv_bind {f f' : Env → M β} (h : J2 c (f c.es) (f' c.ep)) :
    J2 c (getEnv >>= f) (getEnv >>= f') := ⟨h.mono, h.uu, h.sy⟩

theorem JQ.getEnv_bind {X : β → St → Prop} {f f' : Env → M β} (h : JQ c X (f c.es) (f' c.ep)) :
    JQ c X (getEnv >>= f) (getEnv >>= f') := ⟨h.mono, h.uu, h.sy⟩

/-- `loopFuel`: the two runs get different iteration bounds. -/
theorem J2.loopFuel_bind {f f' : Nat → M β}
    (h : J2 c (f (c.s.length + 2)) (f' ((c.s.take c.k).length + 2))) :
    J2 c (loopFuel >>= f) (loopFuel >>= f') := ⟨h.mono, h.uu, h.sy⟩

theorem JQ.loopFuel_bind {X : β → St → Prop} {f f' : Nat → M β}
    (h : JQ c X (f (c.s.length + 2)) (f' ((c.s.take c.k).length + 2))) :
    JQ c X (loopFuel >>= f) (loopFuel >>= f') := ⟨h.mono, h.uu, h.sy⟩

theorem JL.bind_j2 {m m' : M α} {f f' : α → M β} (hm : JL c (Dv c) m m')
    (hf : ∀ a, J2 c (f a) (f' a)) : JL c (Dv c) (m >>= f) (m' >>= f') :=
  JL.bind hm (fun a => (hf a).jl) (fun _ a => (hf a).uu 0 [])

theorem Tr.of_eof {P : St → Prop} {f : Int → M β} {Q : β → St → Prop} (h : Tr e P (f eof) Q)
    (r : Int) : Tr e (fun st => r = eof ∧ P st) (f r) Q := by
  rintro st ⟨rfl, hp⟩
  exact h st hp

theorem JL.backup_bind {Q : β → St → Prop} {g g' : Unit → M β} (h : JL c Q (g ()) (g' ())) :
    JL c Q (C01.backup >>= g) (C01.backup >>= g') :=
  JL.bind ⟨Mono.backup _, Sy.backup⟩ (fun _ => h) (fun _ _ => Tr.false)

/-- `next` in lock step: before the cut both runs go on with the same rune; at the
cut the p-run goes on alone with `EOF`, one `EOF` read to its credit. -/
theorem JL.next_bind {Q : β → St → Prop} {f f' : Int → M β} (h : ∀ r, JL c Q (f r) (f' r))
    (heof : c.Good → Tr c.ep (AtEOF c.ep 1 []) (f' eof) Q) : JL c Q (C01.next >>= f) (C01.next >>= f') :=
  JL.bind ⟨Mono.next _, Sy.next⟩ h fun g => Tr.of_eof (heof g)

theorem JL.peek_bind {Q : β → St → Prop} {f f' : Int → M β} (h : ∀ r, JL c Q (f r) (f' r))
    (heof : c.Good → Tr c.ep (AtEOF c.ep 0 []) (f' eof) Q) : JL c Q (C01.peek >>= f) (C01.peek >>= f') :=
  JL.bind ⟨Mono.of_pure Pure.peek, Sy.peek⟩ h fun g => Tr.of_eof (heof g)

theorem Tr.peek_bind_eof {n : Nat} {E : List PErr} {f : Int → M β} {Q : β → St → Prop}
    (h : Tr e (AtEOF e n E) (f eof) Q) : Tr e (AtEOF e n E) (C01.peek >>= f) Q :=
  Tr.bind (Tr.peek_eof e n E) (Tr.of_eof h)

theorem Tr.next_bind_eof {n : Nat} {E : List PErr} {f : Int → M β} {Q : β → St → Prop}
    (h : Tr e (AtEOF e (n + 1) E) (f eof) Q) : Tr e (AtEOF e n E) (C01.next >>= f) Q :=
  Tr.bind (Tr.next_eof e n E) (Tr.of_eof h)

theorem Tr.backup_bind_eof {n : Nat} {E : List PErr} {g : Unit → M β} {Q : β → St → Prop}
    (h : Tr e (AtEOF e n E) (g ()) Q) : Tr e (AtEOF e (n + 1) E) (C01.backup >>= g) Q :=
  Tr.bind (Tr.backup_eof e n E) (fun _ => h)

theorem Tr.error_bind_eof {n : Nat} {E : List PErr} {m : Msg} {g : Unit → M β}
    {Q : β → St → Prop} (h : Tr e (AtEOF e n E) (g ()) Q) : Tr e (AtEOF e n E) (C01.error m >>= g) Q :=
  Tr.bind (Tr.error_eof e n E m) (fun _ => h)

theorem Tr.uu_bind {n : Nat} {E : List PErr} {m : M α} {f : α → M β} {Q : β → St → Prop}
    (hm : UU e m) (h : ∀ a, Tr e (AtEOF e n E) (f a) Q) : Tr e (AtEOF e n E) (m >>= f) Q :=
  Tr.bind (hm n E) h

theorem Tr.pure_eof {n n' : Nat} {E : List PErr} {a : α} (h : n' ≤ n) :
    Tr e (AtEOF e n E) (_root_.Pure.pure a : M α) (fun _ => AtEOF e n' E) :=
  Tr.pure (fun _ hp => hp.weaken h)

theorem Tr.uu {α} {e : Env} {n n' : Nat} {E : List PErr} {m : M α} (hm : UU e m) (h : n' ≤ n) :
    Tr e (AtEOF e n E) m (fun _ => AtEOF e n' E) :=
  (hm n E).conseq (fun _ hp => hp) (fun _ _ hq => hq.weaken h)

/-- A function that reads a rune and may put it back: in lock step its rest is
followed with `JL`; from the end of the input its rest is run on `EOF`. -/
theorem J2.next_bind {f f' : Int → M β} (h : ∀ r, JL c (Dv c) (f r) (f' r))
    (heof : ∀ n E, Tr c.ep (AtEOF c.ep (n + 1) E) (f' eof) (fun _ => AtEOF c.ep n E)) :
    J2 c (C01.next >>= f) (C01.next >>= f') :=
  J2.of_jl (fun n E => Tr.next_bind_eof (heof n E)) (JL.next_bind h fun _ => heof 0 [])

theorem J2.fuel_left {m' : M α} (h : UU c.ep m') : J2 c C01.outOfFuel m' where
  mono := Mono.of_pure Pure.outOfFuel
  uu := h
  sy := fun _ => by intro st _ a st1 hr; simp [C01.outOfFuel] at hr

theorem J2.fuel_right {m : M α} (h : Mono c.es m) : J2 c m C01.outOfFuel where
  mono := h
  uu := UU.of_pure Pure.outOfFuel
  sy := fun _ => by intro st _ a st1 _ _ a' st1' hr'; simp [C01.outOfFuel] at hr'

theorem J2.outOfFuel {α} (c : Cut) : J2 c (C01.outOfFuel : M α) C01.outOfFuel :=
  J2.fuel_left (UU.of_pure Pure.outOfFuel)

/-- A fuel-indexed loop whose step preserves the judgment (at any pair of fuels)
satisfies it at every pair of fuels.  (`L` is the loop of the s-run, `L'` of the
p-run: they differ in the `parse` they call back.) -/
theorem JQ.loop2 {α Y} {X : Y → α → St → Prop} {L L' : Nat → Y → M α}
    (h0 : ∀ x, L 0 x = C01.outOfFuel) (h0' : ∀ x, L' 0 x = C01.outOfFuel)
    (step : ∀ a b, (∀ x, JQ c (X x) (L a x) (L' b x)) → ∀ x, JQ c (X x) (L (a + 1) x) (L' (b + 1) x)) :
    ∀ n n' x, JQ c (X x) (L n x) (L' n' x) := by
  have diag : ∀ n x, JQ c (X x) (L n x) (L' n x) := by
    intro n
    induction n with
    | zero => intro x; rw [h0, h0']; exact (J2.outOfFuel c).jq
    | succ n ih => exact step n n ih
  intro n
  induction n with
  | zero => intro n' x; rw [h0]; exact (J2.fuel_left (diag n' x).uu).jq
  | succ n ih =>
    intro n' x
    cases n' with
    | zero => rw [h0' x]; exact (J2.fuel_right (diag (n + 1) x).mono).jq
    | succ n' => exact step n n' (ih n') x

theorem J2.loop2 {α X} {L L' : Nat → X → M α} (h0 : ∀ x, L 0 x = C01.outOfFuel)
    (h0' : ∀ x, L' 0 x = C01.outOfFuel)
    (step : ∀ a b, (∀ x, J2 c (L a x) (L' b x)) → ∀ x, J2 c (L (a + 1) x) (L' (b + 1) x)) :
    ∀ n n' x, J2 c (L n x) (L' n' x) := fun n n' x =>
  (JQ.loop2 (X := fun _ _ _ => False) h0 h0'
    (fun a b ih x => (step a b (fun x => (ih x).j2 fun _ _ h => h) x).jq) n n' x).j2 fun _ _ h => h


theorem J2.loop1 {L L' : Nat → M α} (h0 : L 0 = C01.outOfFuel) (h0' : L' 0 = C01.outOfFuel)
    (step : ∀ a b, J2 c (L a) (L' b) → J2 c (L (a + 1)) (L' (b + 1))) (n n' : Nat) : J2 c (L n) (L' n') :=
  J2.loop2 (L := fun n (_ : Unit) => L n) (L' := fun n _ => L' n) (fun _ => h0) (fun _ => h0')
    (fun a b ih _ => step a b (ih ())) n n' ()

def SyAt {α} (c : Cut) (m m' : M α) (Q : α → St → Prop) (st : St) : Prop :=
  ∀ a st1, m c.es st = .ok a st1 → st1.errors = [] →
    ∀ a' st1', m' c.ep st = .ok a' st1' → (a' = a ∧ st1' = st1 ∧ Sync c st1) ∨ Q a' st1'

/-- At the cut the whole p-run is a run from the end of the input: only the
states strictly before the cut are left to look at. -/
theorem JQ.of_lt {X : α → St → Prop} {m m' : M α} (hmono : Mono c.es m) (huu : UU c.ep m')
    (h : c.Good → ∀ st, Sync c st → st.pos < c.k → SyAt c m m' (fun a st => Dv c a st ∨ X a st) st) :
    JQ c X m m' :=
  ⟨hmono, huu, fun g st hs => (Nat.lt_or_ge st.pos c.k).elim (h g st hs) fun hge _ _ _ _ a' st1' hr' =>
    Or.inr (Or.inl (huu 0 [] st (hs.atEOF g hge) a' st1' hr'))⟩

theorem SyAt.of_eq {α} {c : Cut} {m m' n n' : M α} {Q : α → St → Prop} {st : St}
    (h : SyAt c n n' Q st) (e1 : m = n) (e2 : m' = n') : SyAt c m m' Q st := by
  subst e1 e2; exact h

end C02
