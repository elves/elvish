/-
The `&`-pending state of `Form.parse`: how the p-run gets into it, and how it
runs from it.
-/
import ElvProofs.C02.Rules
namespace C02
open Go
open C01
open Gen.C01Chars

variable {c : Cut}

/-! `Form.parse` looks one rune past a `&` (`next`, `peek`, `backup`).  When the cut is
right after that `&`, the p-run comes back from the look-ahead to the position of
the `&`, with nothing recorded: not at the end of the prefix yet, but everything
before the cut has been read in lock step and the only thing left is that `&`. -/

def AmpP (c : Cut) (st : St) : Prop :=
  st.errors = [] ∧ st.overEOF = 0 ∧ st.pos + 1 = c.k ∧ (c.s.take c.k).drop st.pos = [38]

theorem nextSt_ascii {e : Env} {st : St} (hlt : st.pos < e.src.length) (h : peekRune e st < 128) :
    (nextSt e st).pos = st.pos + 1 ∧
      ∃ b t, e.src.drop st.pos = b :: t ∧ (b.toNat : Int) = peekRune e st := by
  have hne : st.pos ≠ e.src.length := by omega
  match hd : e.src.drop st.pos with
  | [] => exact absurd hd (drop_ne_nil hlt)
  | b :: t =>
    unfold peekRune at h
    simp only [hne, if_false, hd] at h
    have := decodeRune_ascii b t (by exact_mod_cast h)
    refine ⟨?_, b, t, rfl, ?_⟩
    · unfold nextSt; simp only [hne, if_false, hd, this.2]
    · unfold peekRune; simp only [hne, if_false, hd, this.1]

theorem AmpP.of_next (g : c.Good) {st : St} (hs : Sync c st) (hlt : st.pos < c.k)
    (h38 : peekRune c.es st = 38) (hk : (nextSt c.es st).pos = c.k) : AmpP c st := by
  have hlen : st.pos < c.es.src.length := by have := g.lt; simp only [Cut.es_src]; omega
  obtain ⟨hpos, b, t, hd, hb⟩ := nextSt_ascii hlen (by rw [h38]; decide)
  rw [hk] at hpos
  refine ⟨hs.1, hs.2.1, hpos.symm, ?_⟩
  rw [List.drop_take, show c.k - st.pos = 1 by omega]
  simp only [Cut.es_src] at hd
  have hb' : b = 38 := UInt8.toNat_inj.1 (by rw [h38] at hb; exact_mod_cast hb)
  rw [hd, hb']
  rfl

/-- The look-ahead past a `&`: `next`, `peek`, `backup`, and on with the rune seen
(`k`).  In lock step both runs come back to the `&` and go on alike, unless the
cut is right after the `&`: then the p-run goes on with `EOF`, from `AmpP`. -/
theorem JQ.amp_lookahead {β} {X : β → St → Prop} {k k' g g' : Int → M β} (hk : ∀ r2, JQ c X (k r2) (k' r2))
    (heof : c.Good → Tr c.ep (AmpP c) (k' eof) (fun b st => Dv c b st ∨ X b st))
    (hg : ∀ r, JQ c X (g r) (g' r)) :
    JQ c X
      (peek >>= fun r => if r == 38 then next >>= fun _ => peek >>= fun r2 => backup >>= fun _ => k r2 else g r)
      (peek >>= fun r => if r == 38 then next >>= fun _ => peek >>= fun r2 => backup >>= fun _ => k' r2 else g' r) := by
  refine .of_lt ?_ (fun N E => Tr.peek_bind_eof ?_) fun gd st hs hlt x st2 hr hnil x' st2' hr' => ?_
  · exact (Mono.of_pure Pure.peek).bind fun r => iteInduction (fun _ => (Mono.next _).bind fun _ =>
      (Mono.of_pure Pure.peek).bind fun r2 => (Mono.backup _).bind fun _ => (hk r2).mono) fun _ => (hg r).mono
  · rw [if_neg (by decide)]
    exact (hg eof).uu N E
  obtain ⟨e1, e2, e3⟩ := sync_lt gd hs hlt
  rw [bind_of_eq (peek_eq (hs.inv_s gd))] at hr
  rw [bind_of_eq (peek_eq (hs.inv_p gd)), e1] at hr'
  by_cases h38 : (peekRune c.es st == 38) = true
  · have hb := backup_nextSt (hs.inv_p gd)
    rw [e2] at hb
    rw [if_pos h38, bind_of_eq (next_eq (hs.inv_s gd)), bind_of_eq (peek_eq (e3.inv_s gd)),
      bind_of_eq (backup_nextSt (hs.inv_s gd))] at hr
    rw [if_pos h38, bind_of_eq (next_eq (hs.inv_p gd)), e2, bind_of_eq (peek_eq (e3.inv_p gd)), bind_of_eq hb] at hr'
    rcases Nat.lt_or_ge (nextSt c.es st).pos c.k with hlt1 | hge1
    · rw [(sync_lt gd e3 hlt1).1] at hr'
      exact (hk _).sy gd st hs x st2 hr hnil x' st2' hr'
    · rw [peekRune_eof.2 (e3.atEOF gd hge1).1] at hr'
      exact Or.inr (heof gd st (.of_next gd hs hlt (by simpa using h38) (Nat.le_antisymm e3.2.2.1 hge1)) x' st2' hr')
  · rw [if_neg h38] at hr hr'
    exact (hg _).sy gd st hs x st2 hr hnil x' st2' hr'

theorem AmpP.peek_next (g : c.Good) {st : St} (h : AmpP c st) :
    peek c.ep st = .ok 38 st ∧ next c.ep st = .ok 38 { st with pos := c.k } := by
  obtain ⟨_, _, h3, h4⟩ := h
  have h1 : ¬ (st.pos = c.k) := by omega
  have h2 : st.pos ≤ c.k := by omega
  unfold C01.peek C01.next
  simp [g.plen, h4, decodeRune_one 38 [] (by decide), h1, h2, h3]

theorem Tr.amp_peek_bind {β} (g : c.Good) {f : Int → M β} {Q : β → St → Prop}
    (h : Tr c.ep (AmpP c) (f 38) Q) : Tr c.ep (AmpP c) (peek >>= f) Q := by
  intro st hp b st' hr
  rw [bind_of_eq (hp.peek_next g).1] at hr
  exact h st hp b st' hr

theorem Tr.amp_next_bind {β} (g : c.Good) {f : Int → M β} {Q : β → St → Prop}
    (h : Tr c.ep (AtEOF c.ep 0 []) (f 38) Q) : Tr c.ep (AmpP c) (next >>= f) Q := by
  intro st hp b st' hr
  rw [bind_of_eq (hp.peek_next g).2] at hr
  refine h _ ?_ b st' hr
  refine ⟨by simp [g.plen], Nat.zero_le _, [], by simp [hp.1], by intro x hx; cases hx⟩

theorem Pure.addSep (nb : NB) : Pure (C01.addSep nb) := by
  unfold C01.addSep
  refine Pure.bind Pure.getPos (fun _ => Pure.ite (fun _ => ?_) (fun _ => Pure.pure _))
  exact Pure.bind (Pure.sliceSrc _ _) (fun _ => Pure.pure _)

theorem spacesLoop_amp (g : c.Good) : ∀ n, Tr c.ep (AmpP c) (spacesLoop false n) (fun _ => AmpP c)
  | 0 => by
    intro st _ a st' hr
    simp only [spacesLoop] at hr
    exact absurd hr (by simp [C01.outOfFuel])
  | n + 1 => by
    unfold spacesLoop
    refine Tr.amp_peek_bind g ?_
    simp [IsInlineWhitespace]
    exact Tr.pure (fun _ h => h)

theorem parseSpaces_amp (g : c.Good) (nb : NB) :
    Tr c.ep (AmpP c) (parseSpaces nb) (fun _ => AmpP c) := by
  unfold parseSpaces parseSpacesInner
  refine Tr.bind (Tr.of_pure Pure.loopFuel) (fun k => ?_)
  refine Tr.bind (spacesLoop_amp g k) (fun _ => Tr.of_pure (Pure.addSep nb))

end C02
