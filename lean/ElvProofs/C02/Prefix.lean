/-
UTF-8 facts about a source cut at a boundary: decoding inside the cut does not
see the cut, and the boundaries of the prefix are the boundaries of the whole
text up to the cut.
-/
import ElvProofs.C01.Hoare
namespace C02
open Go
open C01

theorem decode_prefix {s : Bytes} {p k : Nat} (hk : Bnd s k) (hlt : p < k)
    (hkl : k ≤ s.length) :
    p + (decodeRune (s.drop p)).2 ≤ k ∧ decodeRune ((s.take k).drop p) = decodeRune (s.drop p) := by
  have hple : p < s.length := by omega
  have hn1 := Go.decodeRune_size_pos (drop_ne_nil hple)
  have hfit : p + (decodeRune (s.drop p)).2 ≤ k := by
    by_cases h2 : 2 ≤ (decodeRune (s.drop p)).2
    · have := hk.not_inside p _ rfl h2
      omega
    · omega
  refine ⟨hfit, ?_⟩
  have : (s.take k).drop p = (s.drop p).take (k - p) := by
    rw [List.drop_take]
  rw [this]
  exact decodeRune_take _ _ (by omega)

theorem Bnd_take {s : Bytes} {k : Nat} (hk : Bnd s k) (hkl : k ≤ s.length) :
    ∀ {p : Nat}, Bnd s p → p ≤ k → Bnd (s.take k) p := by
  intro p hp
  induction hp with
  | zero => intro _; exact Bnd.zero
  | @step q hq hql ih =>
    intro hle
    have hn1 := Go.decodeRune_size_pos (drop_ne_nil hql)
    have hqk : q < k := by omega
    have ih' := ih (by omega)
    obtain ⟨_, hdec⟩ := decode_prefix hk hqk hkl
    have hlen : q < (s.take k).length := by simp; omega
    have := Bnd.step ih' hlen
    rw [hdec] at this
    exact this

end C02
