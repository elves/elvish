/-
The scanning functions (no recursion through `parse`): `J2` for each, by the
rules of the constructs its text is made of, in the order of the text.
-/
import ElvProofs.C02.Rules
namespace C02
open Go
open C01
open Gen.C01Chars

variable {c : Cut}

theorem addSep_J2 {nb : NB} : J2 c (addSep nb) (addSep nb) := by
  unfold addSep
  exact .bind .getPos fun _ => .ite (fun _ => .bind .sliceSrc fun _ => .pure) fun _ => .pure

theorem parseSep_J2 {nb : NB} {sep : Int} : J2 c (parseSep nb sep) (parseSep nb sep) := by
  unfold parseSep
  exact .bind .peek fun _ => .ite (fun _ => .bind .next fun _ => .bind addSep_J2 fun _ => .pure) fun _ => .pure

theorem commentLoop_J2 {n n' : Nat} : J2 c (commentLoop n) (commentLoop n') := by
  refine J2.loop1 rfl rfl (fun a b ih => ?_) n n'
  unfold commentLoop
  exact .bind .peek fun _ => .ite (fun _ => .pure) fun _ => .bind .next fun _ => ih

theorem skipWhile_J2 {p : Int → Bool} {n n' : Nat} : J2 c (skipWhile p n) (skipWhile p n') := by
  refine J2.loop1 rfl rfl (fun a b ih => ?_) n n'
  unfold skipWhile
  exact .bind .peek fun _ => .ite (fun _ => .bind .next fun _ => ih) fun _ => .pure

theorem singleQuotedLoop_J2 {n n' : Nat} {buf : Bytes} : J2 c (singleQuotedLoop n buf) (singleQuotedLoop n' buf) := by
  refine J2.loop2 (fun _ => rfl) (fun _ => rfl) (fun a b ih buf => ?_) n n' buf
  unfold singleQuotedLoop
  exact .bind .next fun _ => .ite (fun _ => .bind .error fun _ => .pure) fun _ =>
    .ite (fun _ => .bind .peek fun _ => .ite (fun _ => .bind .next fun _ => ih _) fun _ => .pure) fun _ => ih _

theorem singleQuotedInner_J2 : J2 c singleQuotedInner singleQuotedInner := by
  unfold singleQuotedInner
  exact .loopFuel_bind singleQuotedLoop_J2

theorem hexLoop_J2 : ∀ {n : Nat} {rr : Int}, J2 c (hexLoop n rr) (hexLoop n rr)
  | 0, rr => by unfold hexLoop; exact .pure
  | n + 1, rr => by
    unfold hexLoop
    refine .next_bind (fun r => ?_) (fun N E => ?_)
    · exact .ite (fun _ => .backup_bind (J2.jl (.bind .error fun _ => .pure))) fun _ => hexLoop_J2.jl
    · simp only [eof_hexToDigit, Bool.not_false, if_true]
      exact Tr.backup_bind_eof (Tr.error_bind_eof (Tr.pure_eof (Nat.le_refl _)))

/-- values `octLoop n v` can return when it ran into the end of the input -/
def octReach : Nat → Int → Int → Prop
  | 0, _, _ => False
  | n + 1, v, rr => rr = v ∨ ∃ d, 0 ≤ d ∧ d ≤ 7 ∧ octReach n (v * 8 + d) rr

/-- The value the p-run returns matters to the caller (it is compared with 255). -/
theorem octLoop_JL : ∀ n v,
    JL c (fun rr st => octReach n v rr ∧ AtEOF c.ep 0 [] st) (octLoop n v) (octLoop n v)
  | 0, v => by unfold octLoop; exact .pure
  | n + 1, v => by
    unfold octLoop
    refine .next_bind (fun r => .ite (fun _ => ?_) (fun hc => ?_)) (fun _ => ?_)
    · exact .backup_bind (.error_bind (Mono.of_pure (Pure.pure v)))
    · refine (octLoop_JL n _).conseq (fun rr st h => ⟨Or.inr ⟨r - 48, ?_, ?_, h.1⟩, h.2⟩)
      all_goals simp only [Bool.or_eq_true, decide_eq_true_eq, not_or, Int.not_lt] at hc; omega
    · simp only [eof, Int.reduceNeg, Int.reduceLT, Bool.true_or, decide_true, if_true]
      exact Tr.backup_bind_eof (Tr.error_bind_eof (Tr.pure (fun _ h => ⟨Or.inl rfl, h⟩)))

theorem octReach2_le {v rr : Int} (h : octReach 2 v rr) (h0 : 0 ≤ v) (h7 : v ≤ 7) : rr ≤ 63 := by
  simp only [octReach] at h
  rcases h with h | ⟨d, hd0, hd7, h | ⟨d', hd0', hd7', ⟨⟩⟩⟩ <;> omega

theorem doubleQuotedEscape_J2 : J2 c doubleQuotedEscape doubleQuotedEscape := by
  unfold doubleQuotedEscape
  refine .next_bind (fun r => .ite (fun _ => J2.jl ?_) fun _ => .ite (fun _ => J2.jl ?_) fun _ =>
    .ite (fun hoct => ?_) fun _ => ?_) (fun N E => ?_)
  · -- \c, \^
    refine .next_bind (fun r2 => ?_) (fun N E => ?_)
    · exact .bind_j2 (.ite (fun _ => .backup_bind (J2.jl (.bind .error fun _ => .bind .next fun _ => .pure)))
        fun _ => .pure) fun _ => .ite (fun _ => .pure) fun _ => .pure
    · simp [eof]
      refine Tr.bind (Q1 := fun _ => AtEOF c.ep N E) ?_ (fun _ => ?_)
      · exact Tr.backup_bind_eof (Tr.error_bind_eof (Tr.next_bind_eof (Tr.pure_eof (Nat.le_succ _))))
      · exact Tr.ite (fun _ => Tr.pure_eof (Nat.le_refl _)) (fun _ => Tr.pure_eof (Nat.le_refl _))
  · -- \x, \u, \U
    exact .bind hexLoop_J2 fun _ => .ite (fun _ => .pure) fun _ => .pure
  · -- octal: the p-run may return fewer digits, which keeps the value below 256
    refine .bind (octLoop_JL 2 (r - 48)) (fun rr => ?_) (fun _ rr => ?_)
    · exact .ite (fun _ => .pure) fun _ => .bind (Q1 := fun _ _ => False) .getPos
        (fun _ => .ite (fun _ => .errorp_bind (Mono.of_pure (Pure.pure _))) fun _ => .panic) fun _ _ => Tr.false
    · refine Tr.pre (R := rr ≤ 63) (fun _ h => ?_) (fun hrr => ?_)
      · simp only [Bool.and_eq_true, decide_eq_true_eq] at hoct
        exact octReach2_le h.1 (by omega) (by omega)
      · rw [if_pos (show rr ≤ 255 by omega)]
        exact Tr.pure (fun _ h => h.2)
  · -- single-character escapes
    split
    · exact .pure
    · exact .backup_bind (J2.jl (.bind .error fun _ => .bind .next fun _ => .pure))
  · simp only [eof_doubleEscape]
    simp [eof]
    exact Tr.backup_bind_eof (Tr.error_bind_eof (Tr.next_bind_eof (Tr.pure_eof (Nat.le_succ _))))

theorem doubleQuotedLoop_J2 {n n' : Nat} {buf : Bytes} : J2 c (doubleQuotedLoop n buf) (doubleQuotedLoop n' buf) := by
  refine J2.loop2 (fun _ => rfl) (fun _ => rfl) (fun a b ih buf => ?_) n n' buf
  unfold doubleQuotedLoop
  exact .bind .next fun _ => .ite (fun _ => .bind .error fun _ => .pure) fun _ => .ite (fun _ => .pure) fun _ =>
    .ite (fun _ => .bind doubleQuotedEscape_J2 fun _ => ih _) fun _ => ih _

theorem doubleQuotedInner_J2 : J2 c doubleQuotedInner doubleQuotedInner := by
  unfold doubleQuotedInner
  exact .loopFuel_bind doubleQuotedLoop_J2

theorem bareword_J2 {nb : NB} : J2 c (bareword nb) (bareword nb) := by
  unfold bareword
  exact .getEnv_bind <| .loopFuel_bind <| .bind skipWhile_J2 fun _ => .bind .getPos fun _ => .bind .sliceSrc fun _ => .pure

theorem singleQuoted_J2 {nb : NB} : J2 c (singleQuoted nb) (singleQuoted nb) := by
  unfold singleQuoted
  exact .bind .next fun _ => .bind singleQuotedInner_J2 fun _ => .pure

theorem doubleQuoted_J2 {nb : NB} : J2 c (doubleQuoted nb) (doubleQuoted nb) := by
  unfold doubleQuoted
  exact .bind .next fun _ => .bind doubleQuotedInner_J2 fun _ => .pure

theorem starWildcard_J2 {nb : NB} : J2 c (starWildcard nb) (starWildcard nb) := by
  unfold starWildcard
  exact .loopFuel_bind <| .bind skipWhile_J2 fun _ => .bind .getPos fun _ => .bind .sliceSrc fun _ => .pure

theorem questionWildcard_J2 {nb : NB} : J2 c (questionWildcard nb) (questionWildcard nb) := by
  unfold questionWildcard
  exact .bind .peek fun _ => .bind (.ite (fun _ => .bind .next fun _ => .pure) fun _ => .pure) fun _ =>
    .bind .getPos fun _ => .bind .sliceSrc fun _ => .pure

theorem variableP_J2 {nb : NB} : J2 c (variableP nb) (variableP nb) := by
  unfold variableP
  refine .getEnv_bind <| .bind .next fun _ => .next_bind (fun r => ?_) (fun N E => ?_)
  · refine .ite (fun _ => .backup_bind (J2.jl (.bind .error fun _ => .bind .next fun _ => .pure))) fun _ =>
      .ite (fun _ => J2.jl (.bind singleQuotedInner_J2 fun _ => .pure)) fun _ =>
      .ite (fun _ => J2.jl (.bind doubleQuotedInner_J2 fun _ => .pure)) fun _ => ?_
    exact .bind_j2 (.ite (fun _ => .backup_bind (J2.jl .error)) fun _ => .pure) fun _ =>
      .loopFuel_bind <| .bind skipWhile_J2 fun _ => .bind .getPos fun _ => .bind .sliceSrc fun _ => .pure
  · simp only [beq_self_eq_true, if_true]
    exact Tr.backup_bind_eof (Tr.error_bind_eof (Tr.next_bind_eof (Tr.pure_eof (Nat.le_succ _))))

theorem spacesLoop_J2 {nl : Bool} {n n' : Nat} : J2 c (spacesLoop nl n) (spacesLoop nl n') := by
  refine J2.loop1 rfl rfl (fun a b ih => ?_) n n'
  unfold spacesLoop
  refine .bind .peek fun r => .ite (fun _ => .bind .next fun _ => ih) fun _ => .ite (fun _ => .bind .next fun _ => ih) fun _ =>
    .ite (fun _ => .bind .next fun _ => .loopFuel_bind <| .bind commentLoop_J2 fun _ => ih) fun _ => .ite (fun _ => ?_) fun _ => .pure
  -- `^`: the rune after it decides; at the end of the input it is an error
  refine .next_bind (fun _ => .peek_bind (fun r2 => ?_) (fun _ => ?_)) (fun N E => Tr.peek_bind_eof ?_)
  · exact .ite (fun _ => J2.jl (.bind .next fun _ => .bind .peek fun _ => .ite (fun _ => .bind .next fun _ => ih) fun _ => ih))
      fun _ => .ite (fun _ => J2.jl (.bind .next fun _ => ih)) fun _ => .ite (fun _ => J2.jl (.bind .error fun _ => ih)) fun _ =>
      .backup_bind .pure
  · simp [eof]
    exact Tr.error_bind_eof (ih.uu 0 [])
  · simp [eof]
    exact Tr.error_bind_eof (Tr.uu ih.uu (Nat.le_succ _))

theorem parseSpacesInner_J2 {nb : NB} {nl : Bool} : J2 c (parseSpacesInner nb nl) (parseSpacesInner nb nl) := by
  unfold parseSpacesInner
  exact .loopFuel_bind <| .bind spacesLoop_J2 fun _ => addSep_J2

theorem parseSpaces_J2 {nb : NB} : J2 c (parseSpaces nb) (parseSpaces nb) := by
  unfold parseSpaces; exact parseSpacesInner_J2

theorem parseSpacesAndNewlines_J2 {nb : NB} : J2 c (parseSpacesAndNewlines nb) (parseSpacesAndNewlines nb) := by
  unfold parseSpacesAndNewlines; exact parseSpacesInner_J2

end C02
