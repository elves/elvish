/-
`Form.parse` (whose look-ahead past `&` can leave the p-run one `&` before its
end), `Pipeline.parse` (which takes that pending `&` as the background marker),
the dispatch `body`, the wrapper `parse[N]` and the recursion.
-/
import ElvProofs.C02.Grammar
namespace C02
open Go
open C01
open Gen.C01Chars

variable {c : Cut} {rec rec' : NT → M Node}

/-- extra post-divergence state of the functions that return with the `&` pending -/
def XA {α} (c : Cut) : α → St → Prop := fun _ st => AmpP c st

theorem formLoop_JQ (hrec : Rec c rec rec') {n n' : Nat} {nb : NB} :
    JQ c (XA c) (formLoop rec n nb) (formLoop rec' n' nb) := by
  refine JQ.loop2 (X := fun _ => XA c) (fun _ => rfl) (fun _ => rfl) (fun a b ih nb => ?_) n n' nb
  have hadd (x : Node) : JQ c (XA c) _ _ := .bind_j2 (parseSpaces_J2 (nb := nb.add x)) fun nb => ih nb
  unfold formLoop
  refine .getEnv_bind <| .amp_lookahead
    (fun _ => .ite (fun _ => J2.pure.jq) fun _ => .bind_j2 (hrec.j2 rfl) hadd) (fun _ => ?_)
    (fun _ => .ite (fun _ => .bind_j2 (hrec.j2 rfl) fun _ => .bind_j2 .peek fun _ =>
        .ite (fun _ => .bind_j2 (hrec.j2 rfl) hadd) fun _ => hadd _)
      fun _ => .ite (fun _ => .bind_j2 (hrec.j2 rfl) hadd) fun _ => J2.pure.jq)
  -- nothing that starts a map pair follows the pending `&`: `Form.parse` returns
  rw [if_pos (by simp only [eof_startsCompound, Bool.not_false])]
  exact Tr.pure fun _ h => Or.inr h

theorem formBody_JQ (hrec : Rec c rec rec') {nb : NB} : JQ c (XA c) (formBody rec nb) (formBody rec' nb) := by
  unfold formBody
  exact .bind_j2 (hrec.j2 rfl) fun _ => .bind_j2 parseSpaces_J2 fun _ => .loopFuel_bind (formLoop_JQ hrec)

/-- extra post-divergence state of `pipelineLoop`: `&`-pending, not "returned" -/
def XPL (c : Cut) : Bool × NB → St → Prop := fun a st => AmpP c st ∧ a.1 = false

theorem pipelineLoop_amp (g : c.Good) :
    ∀ n nb, Tr c.ep (AmpP c) (pipelineLoop rec' n nb) (XPL c)
  | 0, nb => by
    intro st _ a st' hr
    simp only [pipelineLoop] at hr
    exact absurd hr (by simp [C01.outOfFuel])
  | n + 1, nb => by
    unfold pipelineLoop parseSep
    refine Tr.bind (Tr.of_pure Pure.getEnv) (fun env => ?_)
    refine Tr.bind (Q1 := fun a st => AmpP c st ∧ a = (false, nb)) ?_ (fun a => ?_)
    · refine Tr.amp_peek_bind g ?_
      rw [if_neg (by decide)]
      exact Tr.pure (fun _ h => ⟨h, rfl⟩)
    · refine Tr.pre (R := a = (false, nb)) (fun _ h => h.2) (fun ha => ?_)
      subst ha
      exact Tr.pure (fun _ h => ⟨h.1, rfl⟩)

theorem pipelineLoop_JQ (hrec : Rec c rec rec') {n n' : Nat} {nb : NB} :
    JQ c (XPL c) (pipelineLoop rec n nb) (pipelineLoop rec' n' nb) := by
  refine JQ.loop2 (X := fun _ => XPL c) (fun _ => rfl) (fun _ => rfl) (fun a b ih nb => ?_) n n' nb
  unfold pipelineLoop
  refine .getEnv_bind <| .bind_j2 parseSep_J2 fun (_, _) => .ite (fun _ => ?_) fun _ => J2.pure.jq
  refine .bind_j2 parseSpacesAndNewlines_J2 fun _ => .bind_j2 .peek fun _ =>
    .ite (fun _ => J2.jq (.bind .error fun _ => .pure)) fun _ => .bind (hrec .form) (fun _ => ih _) fun g f => ?_
  -- the `Form` left the `&` pending: the next turn of the loop sees it and stops
  exact (pipelineLoop_amp g _ _).conseq (fun _ h => h.2) (fun _ _ h => Or.inr h)

/-- the rest of `Pipeline.parse` after the loop -/
def pipelineTail (x : Bool × NB) : M NB :=
  match x with
  | (returned, nb) =>
    if returned then pure nb
    else do
      let nb ← parseSpaces nb
      let r ← peek
      if r == 38 then do
        let _ ← next
        let nb ← addSep nb
        let nb := { nb with f := { nb.f with flag := true } }
        parseSpaces nb
      else pure nb

theorem pipelineTail_J2 {x : Bool × NB} : J2 c (pipelineTail x) (pipelineTail x) := by
  unfold pipelineTail
  exact .ite (fun _ => .pure) fun _ => .bind parseSpaces_J2 fun _ => .bind .peek fun _ =>
    .ite (fun _ => .bind .next fun _ => .bind addSep_J2 fun _ => parseSpaces_J2) fun _ => .pure

theorem pipelineTail_amp (g : c.Good) (x : Bool × NB) :
    Tr c.ep (XPL c x) (pipelineTail x) (fun _ st => AtEOF c.ep 0 [] st) := by
  obtain ⟨returned, nb⟩ := x
  refine Tr.pre (R := returned = false) (fun _ h => h.2) (fun hr => ?_)
  subst hr
  unfold pipelineTail
  simp only [Bool.false_eq_true, if_false]
  refine Tr.bind ((parseSpaces_amp g nb).conseq (fun _ h => h.1) (fun _ _ h => h)) (fun nb' => ?_)
  refine Tr.amp_peek_bind g ?_
  rw [if_pos (by decide)]
  refine Tr.amp_next_bind g ?_
  exact Tr.uu_bind addSep_J2.uu (fun _ => parseSpaces_J2.uu 0 [])

theorem pipelineBody_J2 (hrec : Rec c rec rec') {nb : NB} : J2 c (pipelineBody rec nb) (pipelineBody rec' nb) := by
  refine JQ.j2 (X := fun _ _ => False) ?_ (fun _ _ hx => hx)
  unfold pipelineBody
  refine .bind (hrec .form) (fun f => .loopFuel_bind ?_) (fun g f => ?_)
  · refine .bind (pipelineLoop_JQ hrec) (fun _ => pipelineTail_J2.jq) (fun g x => ?_)
    exact (pipelineTail_amp g x).conseq (fun _ h => h) (fun _ _ h => Or.inl h)
  · refine Tr.bind (Tr.of_pure Pure.loopFuel) (fun k => ?_)
    refine Tr.bind ((pipelineLoop_amp g _ _).conseq (fun _ h => h.2) (fun _ _ h => h)) (fun x => ?_)
    exact (pipelineTail_amp g x).conseq (fun _ h => h) (fun _ _ h => Or.inl h)

theorem body_JQ (hrec : Rec c rec rec') (nt : NT) {nb : NB} :
    JQ c (XF c nt) (body rec nt nb) (body rec' nt nb) := by
  cases nt with
  | chunk => simp only [body]; exact (chunkBody_J2 hrec).jq
  | pipeline => simp only [body]; exact (pipelineBody_J2 hrec).jq
  | form => simp only [body]; exact (formBody_JQ hrec).weaken (fun _ _ h => ⟨rfl, h⟩)
  | redir left => simp only [body]; exact (redirBody_J2 hrec).jq
  | filter => simp only [body]; exact (filterBody_J2 hrec).jq
  | compound _ => simp only [body]; exact (compoundBody_J2 hrec).jq
  | indexing _ => simp only [body]; exact (indexingBody_J2 hrec).jq
  | array => simp only [body]; exact (arrayBody_J2 hrec).jq
  | primary _ => simp only [body]; exact (primaryBody_J2 hrec).jq
  | mapPair => simp only [body]; exact (mapPairBody_J2 hrec).jq

theorem wrap_JQ (hrec : Rec c rec rec') (nt : NT) : JQ c (XF c nt) (wrap rec nt) (wrap rec' nt) := by
  unfold wrap
  refine .bind_j2 .getPos fun _ => .bind (body_JQ hrec nt)
    (fun _ => J2.jq (.bind .getPos fun _ => .bind .sliceSrc fun _ => .pure)) fun g nb => ?_
  -- with the `&` pending, what is left of the wrapper does not move
  refine (Tr.of_pure (P := XF c nt nb) ?_).conseq (fun _ h => h) (fun _ _ h => Or.inr h)
  exact Pure.bind Pure.getPos (fun _ => Pure.bind (Pure.sliceSrc _ _) (fun _ => Pure.pure _))

theorem parseNT_JQ (c : Cut) (n n' : Nat) (nt : NT) : JQ c (XF c nt) (parseNT n nt) (parseNT n' nt) := by
  refine JQ.loop2 (fun _ => rfl) (fun _ => rfl) (fun a b ih nt => ?_) n n' nt
  unfold parseNT
  exact wrap_JQ (rec := fun nt' => parseNT a nt') (rec' := fun nt' => parseNT b nt') ih nt

theorem parseNT_J2 (c : Cut) (n n' : Nat) (nt : NT) (h : isFormNT nt = false) :
    J2 c (parseNT n nt) (parseNT n' nt) :=
  Rec.j2 (rec := parseNT n) (rec' := parseNT n') (fun nt => parseNT_JQ c n n' nt) h

theorem done_J2 (c : Cut) : J2 c done done where
  mono := fun st a st' hr => by
    unfold C01.done at hr
    split at hr
    · split at hr
      · exact Mono.error _ _ st a st' hr
      · cases hr
    · cases hr
      exact ⟨[], (List.append_nil _).symm, nofun⟩
  uu := fun n E st hp a st' hr => by
    unfold C01.done at hr
    rw [if_neg (not_not_intro hp.1)] at hr
    cases hr
    exact hp
  sy := fun g st hs a st1 hr hnil => by
    -- in lock step the s-run is not at its end: `done` records an error
    have hlt : st.pos < c.es.src.length := by
      have := g.lt; have := hs.2.2.1; simp only [Cut.es_src]; omega
    unfold C01.done C01.error at hr
    rw [if_pos (Nat.ne_of_lt hlt), if_pos (Nat.le_of_lt hlt)] at hr
    rw [errorp_ok hr] at hnil
    simp at hnil

/-- the computation `ParseAs` runs -/
def entry (fuel : Nat) (nt : NT) : M Node := do
  let n ← parseNT fuel nt
  done
  pure n

theorem entry_J2 (c : Cut) (n n' : Nat) (nt : NT) (h : isFormNT nt = false) :
    J2 c (entry n nt) (entry n' nt) := by
  unfold entry
  exact .bind (parseNT_J2 c n n' nt h) fun _ => .bind (done_J2 c) fun _ => .pure

end C02
