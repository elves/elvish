/-
strconv's `special` accepts (entirely) exactly `inf`, `infinity` with an
optional sign and `nan`, in any letter case (`specialValue`).
-/
import ElvProofs.C05.Scan
namespace C05
open Go

/-- the bytes that fold to the first bytes of the special spellings -/
theorem lowerAscii_inv : ∀ c : UInt8,
    (lowerAscii c = 0x2B → c = 0x2B) ∧ (lowerAscii c = 0x2D → c = 0x2D) ∧
    (lowerAscii c = 0x69 → (c = 0x69 ∨ c = 0x49)) ∧ (lowerAscii c = 0x6E → (c = 0x6E ∨ c = 0x4E)) := by
  apply forall_uint8; decide +kernel

theorem specialValue_iff (s : Bytes) (b : Nat) : specialValue s = some b ↔
    ((s.map lowerAscii = infLit ∨ s.map lowerAscii = 0x2B :: infLit ∨ s.map lowerAscii = infinityLit ∨
      s.map lowerAscii = 0x2B :: infinityLit) ∧ b = infBits) ∨
    ((s.map lowerAscii = 0x2D :: infLit ∨ s.map lowerAscii = 0x2D :: infinityLit) ∧ b = signBit + infBits) ∨
    (s.map lowerAscii = nanLit ∧ b = nanBits) := by
  unfold specialValue
  generalize s.map lowerAscii = t
  simp only
  split
  · rename_i h
    have : ¬ (t = 0x2D :: infLit ∨ t = 0x2D :: infinityLit) ∧ t ≠ nanLit := by
      rcases h with h | h | h | h <;> subst h <;> decide
    simp [h, this, eq_comm]
  · rename_i h
    split
    · rename_i h2
      have : t ≠ nanLit := by rcases h2 with h2 | h2 <;> subst h2 <;> decide
      simp [h, h2, this, eq_comm]
    · rename_i h2
      split
      · rename_i h3; subst h3; simp [infLit, infinityLit, nanLit]; exact eq_comm
      · simp [*]

theorem commonPrefixLen_le : ∀ (s p : Bytes), commonPrefixLen s p ≤ s.length
  | [], _ => by simp [commonPrefixLen]
  | _ :: _, [] => by simp [commonPrefixLen]
  | c :: cs, q :: ps => by
    simp only [commonPrefixLen]
    generalize (if 0x41 ≤ c ∧ c ≤ 0x5A then c + 0x20 else c) = c'
    by_cases h : c' = q
    · have := commonPrefixLen_le cs ps; simp [h]; omega
    · simp [h]

theorem cpl_eq (c : UInt8) (cs : Bytes) (q : UInt8) (ps : Bytes) :
    commonPrefixLen (c :: cs) (q :: ps) = if lowerAscii c = q then commonPrefixLen cs ps + 1 else 0 := by
  simp only [commonPrefixLen, lowerAscii]
  rfl

theorem cpl_full : ∀ (s p : Bytes), commonPrefixLen s p = s.length ↔
    (s.length ≤ p.length ∧ s.map lowerAscii = p.take s.length)
  | [], p => by simp [commonPrefixLen]
  | c :: cs, [] => by simp [commonPrefixLen]
  | c :: cs, q :: ps => by
    rw [cpl_eq]
    have ih := cpl_full cs ps
    by_cases h : lowerAscii c = q
    · simp only [h, if_true, List.length_cons, Nat.add_right_cancel_iff, List.map_cons, List.take_succ_cons,
        List.cons.injEq, true_and, Nat.add_le_add_iff_right]
      exact ih
    · simp [h]

theorem specialInf_iff (neg : Bool) (nsign : Nat) (cs : Bytes) (b : Nat) :
    specialInf neg nsign cs = some (b, nsign + cs.length) ↔
      ((cs.map lowerAscii = infLit ∨ cs.map lowerAscii = infinityLit) ∧
        b = (if neg then signBit + infBits else infBits)) := by
  have hle := commonPrefixLen_le cs infinityLit
  have hfull := cpl_full cs infinityLit
  unfold specialInf
  simp only
  generalize hn : commonPrefixLen cs infinityLit = n at hle hfull
  constructor
  · intro h
    by_cases hc : 3 < n ∧ n < 8
    · simp only [hc, and_self, if_true] at h
      simp at h
      omega
    · simp only [hc, if_false] at h
      by_cases h2 : n = 3 ∨ n = 8
      · simp only [h2, if_true, Option.some.injEq, Prod.mk.injEq] at h
        obtain ⟨hb, hl⟩ := h
        have hnl : n = cs.length := by omega
        have hm := (hfull.mp hnl).2
        refine ⟨?_, hb.symm⟩
        rcases h2 with h2 | h2
        · left; rw [hm, ← hnl, h2]; rfl
        · right; rw [hm, ← hnl, h2]; rfl
      · simp [h2] at h
  · rintro ⟨hm, hb⟩
    have hlen : cs.length = (cs.map lowerAscii).length := by simp
    rcases hm with hm | hm
    · have h3 : cs.length = 3 := by rw [hlen, hm]; rfl
      have : n = 3 := by
        have := hfull.mpr ⟨by rw [h3]; decide, by rw [hm, h3]; rfl⟩
        omega
      subst this
      simp [hb, h3]
    · have h8 : cs.length = 8 := by rw [hlen, hm]; rfl
      have : n = 8 := by
        have := hfull.mpr ⟨by rw [h8]; decide, by rw [hm, h8]; rfl⟩
        omega
      subst this
      simp [hb, h8]

theorem cpl_nan (s : Bytes) :
    (commonPrefixLen s nanLit = 3 ∧ s.length = 3) ↔ s.map lowerAscii = nanLit := by
  constructor
  · rintro ⟨h1, h2⟩
    rw [((cpl_full s nanLit).mp (h1.trans h2.symm)).2, h2]; rfl
  · intro h
    have hl : s.length = 3 := by simpa [nanLit] using congrArg List.length h
    have := (cpl_full s nanLit).mpr ⟨by rw [hl]; decide, by rw [h, hl]; rfl⟩
    exact ⟨this.trans hl, hl⟩

theorem special_full (s : Bytes) (b : Nat) : special s = some (b, s.length) ↔ specialValue s = some b := by
  rw [specialValue_iff]
  cases s with
  | nil => simp [special, infLit, infinityLit, nanLit]
  | cons c cs =>
    obtain ⟨f1, f2, f3, f4⟩ := lowerAscii_inv c
    have hlen : (c :: cs).length = 1 + cs.length := by simp; omega
    have hlen0 : (c :: cs).length = 0 + (c :: cs).length := by simp
    unfold special
    by_cases h1 : c = 0x2B
    · subst h1
      simp only [if_true, hlen, specialInf_iff]
      simp [infLit, infinityLit, nanLit, show lowerAscii 0x2B = 0x2B from by decide]
    · by_cases h2 : c = 0x2D
      · subst h2
        simp only [if_true, hlen, specialInf_iff, show ((0x2D : UInt8) = 0x2B) = False by decide, if_false]
        simp [infLit, infinityLit, nanLit, show lowerAscii 0x2D = 0x2D from by decide]
      · by_cases h3 : c = 0x69 ∨ c = 0x49
        · simp only [h1, h2, h3, if_false, if_true]
          rw [hlen0, specialInf_iff]
          have hq : lowerAscii c = 0x69 := by rcases h3 with e | e <;> subst e <;> decide
          simp [hq, infLit, infinityLit, nanLit]
        · have n1 : lowerAscii c ≠ 0x2B := fun e => h1 (f1 e)
          have n2 : lowerAscii c ≠ 0x2D := fun e => h2 (f2 e)
          have n3 : lowerAscii c ≠ 0x69 := fun e => h3 (f3 e)
          simp only [h1, h2, h3, if_false]
          have e1 : ¬ ((c :: cs).map lowerAscii = infLit ∨ (c :: cs).map lowerAscii = 0x2B :: infLit ∨
              (c :: cs).map lowerAscii = infinityLit ∨ (c :: cs).map lowerAscii = 0x2B :: infinityLit) := by
            simp [n1, n3, infLit, infinityLit]
          have e2 : ¬ ((c :: cs).map lowerAscii = 0x2D :: infLit ∨ (c :: cs).map lowerAscii = 0x2D :: infinityLit) := by
            simp [n2]
          simp only [e1, e2, false_and, false_or]
          by_cases h4 : c = 0x6E ∨ c = 0x4E
          · simp only [h4, if_true]
            rw [← cpl_nan]
            by_cases hc : commonPrefixLen (c :: cs) nanLit = 3
            · simp only [hc, if_true, Option.some.injEq, Prod.mk.injEq, true_and]
              exact ⟨fun h => ⟨h.2.symm, h.1.symm⟩, fun h => ⟨h.2.symm, h.1.symm⟩⟩
            · simp [hc]
          · have n4 : lowerAscii c ≠ 0x6E := fun e => h4 (f4 e)
            simp [h4, n4, nanLit]

def SpecialByte (c : UInt8) : Prop :=
  (0x61 ≤ lowerAscii c ∧ lowerAscii c ≤ 0x7A) ∨ lowerAscii c = 0x2B ∨ lowerAscii c = 0x2D

theorem specialByte_facts : ∀ c : UInt8, SpecialByte c →
    NumByte c ∧ c ≠ 0x2F ∧ c ≠ 0x5F ∧ isDec c = false := by
  apply forall_uint8; unfold SpecialByte NumByte ScanByte; decide +kernel

theorem special_bytes {s : Bytes} {b : Nat} (h : specialValue s = some b) : ∀ c ∈ s, SpecialByte c := by
  intro c hc
  have hm : lowerAscii c ∈ s.map lowerAscii := List.mem_map_of_mem hc
  unfold SpecialByte
  generalize lowerAscii c = q at hm
  rcases (specialValue_iff s b).mp h with ⟨e | e | e | e, _⟩ | ⟨e | e, _⟩ | ⟨e, _⟩ <;>
    (rw [e] at hm; revert q; decide)

end C05
