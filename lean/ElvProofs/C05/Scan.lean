/-
math/big's `nat.scan(base 0)` and `Int.SetString(s, 0)` accept exactly the
renderings of the well-formed integer literals (`GNat`, `GInt` of Grammar.lean),
with their values; what follows for `ParseNum` on integers and rationals.
-/
import ElvProofs.C05.Bytes
namespace C05
open Go

/-- the state the loop starts in after a base prefix -/
def st0 : ScanSt := { prev := .digit, invalSep := false, count := 0, acc := 0 }

theorem scanLoop_us {b : Nat} {st : ScanSt} {cs : Bytes} :
    scanLoop b st (0x5F :: cs) =
      scanLoop b { st with invalSep := st.invalSep || (st.prev != .digit), prev := .us } cs := by
  simp [scanLoop]

theorem scanLoop_digit {b : Nat} {st : ScanSt} {c : UInt8} {cs : Bytes}
    (h1 : c ≠ 0x5F) (h2 : digitVal c < b) :
    scanLoop b st (c :: cs) =
      scanLoop b { st with prev := .digit, count := st.count + 1, acc := st.acc * b + digitVal c } cs := by
  simp [scanLoop, h1, Nat.not_le.mpr h2]

theorem scanLoop_renderRest (b : Nat) (hb : b ≤ 16) :
    ∀ (rest : List (Bool × Dig)) (st : ScanSt), st.prev = .digit → (∀ x ∈ rest, x.2.val < b) →
    scanLoop b st (renderRest rest) =
      ({ prev := .digit, invalSep := st.invalSep, count := st.count + rest.length,
         acc := valRest b st.acc rest }, [])
  | [], st, hp, _ => by
    cases st; simp_all [renderRest, valRest, scanLoop]
  | (us, d) :: r, st, hp, h => by
    have hd : d.val < b := h (us, d) (by simp)
    obtain ⟨hv, hne, _⟩ := dig_facts d (by omega)
    have hr : ∀ x ∈ r, x.2.val < b := fun x hx => h x (by simp [hx])
    cases us with
    | true =>
      simp only [renderRest, if_true, List.cons_append, List.nil_append]
      rw [scanLoop_us, scanLoop_digit hne (hv ▸ hd), scanLoop_renderRest b hb r _ rfl hr]
      simp only [hp, valRest, hv, List.length_cons]
      congr 2
      · simp
      · omega
    | false =>
      simp only [renderRest, Bool.false_eq_true, if_false, List.nil_append]
      rw [scanLoop_digit hne (hv ▸ hd), scanLoop_renderRest b hb r _ rfl hr]
      simp only [valRest, hv, List.length_cons]
      congr 2
      omega

theorem scanLoop_invalSep_mono (b : Nat) : ∀ (s : Bytes) (st : ScanSt),
    st.invalSep = true → (scanLoop b st s).1.invalSep = true
  | [], st, hi => hi
  | c :: cs, st, hi => by
    rw [scanLoop]
    split
    · exact scanLoop_invalSep_mono b cs _ (by simp [hi])
    · split
      · exact hi
      · exact scanLoop_invalSep_mono b cs _ hi

/-- If the loop consumed everything without a separator error, the text is
`(_? d)*` (with the pending `_` in front when the previous byte was one). -/
theorem scanLoop_inv (b : Nat) (hb : b ≤ 36) : ∀ (s : Bytes) (st st' : ScanSt),
    scanLoop b st s = (st', []) → st'.invalSep = false → st'.prev ≠ .us → st.prev ≠ .dot →
    ∃ rest : List (Bool × Dig),
      (if st.prev = .us then [0x5F] else []) ++ s = renderRest rest ∧
      (∀ x ∈ rest, x.2.val < b) ∧ st'.count = st.count + rest.length
  | [], st, st', h, _, hu, hd => by
    simp only [scanLoop, Prod.mk.injEq] at h
    have hp : st.prev = .digit := by
      rw [← h.1] at hu
      cases hq : st.prev <;> simp_all
    exact ⟨[], by simp [hp, renderRest], by simp, by rw [← h.1]; simp⟩
  | c :: cs, st, st', h, hi, hu, hd => by
    rw [scanLoop] at h
    by_cases h1 : c = 0x5F
    · simp only [h1, if_true] at h
      have hp : st.prev = .digit := by
        cases hq : st.prev with
        | dot => exact absurd hq hd
        | digit => rfl
        | us =>
          have := scanLoop_invalSep_mono b cs
            { st with invalSep := st.invalSep || (st.prev != .digit), prev := .us } (by simp [hq])
          rw [h, hi] at this; exact absurd this (by simp)
      obtain ⟨rest, e, hr, hc⟩ := scanLoop_inv b hb cs _ st' h hi hu (by simp)
      refine ⟨rest, ?_, hr, ?_⟩
      · rw [hp, h1]; simpa using e
      · simpa using hc
    · simp only [h1, if_false] at h
      by_cases h2 : b ≤ digitVal c
      · simp [h2] at h
      · simp only [h2, if_false] at h
        obtain ⟨rest, e, hr, hc⟩ := scanLoop_inv b hb cs _ st' h hi hu (by simp)
        simp only [reduceCtorEq, if_false, List.nil_append] at e
        have f1 := ofByte_byte (c := c) (by omega)
        refine ⟨(decide (st.prev = .us), Dig.ofByte c) :: rest, ?_, ?_, ?_⟩
        · by_cases hq : st.prev = .us <;> simp [hq, renderRest, f1, e]
        · intro x hx
          rcases List.mem_cons.mp hx with e1 | e1
          · rw [e1]; exact Nat.not_le.mp h2
          · exact hr x e1
        · have hc' : st'.count = st.count + 1 + rest.length := hc
          simp only [List.length_cons]
          omega

theorem scanFinish_some {o : Bool} {r : ScanSt × Bytes} {n : Nat} (h : scanFinish o r = some (n, [])) :
    r.1.invalSep = false ∧ r.1.prev ≠ .us ∧ r.2 = [] ∧ (o = false → r.1.count ≠ 0) := by
  unfold scanFinish at h
  cases hs : (r.1.invalSep || r.1.prev == .us) with
  | true => simp [hs] at h
  | false =>
    simp only [hs, Bool.false_eq_true, if_false] at h
    simp only [Bool.or_eq_false_iff, beq_eq_false_iff_ne] at hs
    by_cases hc : r.1.count = 0
    · cases o <;> simp [hc] at h
      exact ⟨hs.1, hs.2, h.2, by simp⟩
    · simp only [hc, if_false, Option.some.injEq, Prod.mk.injEq] at h
      exact ⟨hs.1, hs.2, h.2, fun _ => hc⟩

def IsPfxLetter (c : UInt8) : Prop := (c = 0x62 ∨ c = 0x42) ∨ (c = 0x6F ∨ c = 0x4F) ∨ (c = 0x78 ∨ c = 0x58)

theorem pfxLetter_digitVal {c : UInt8} (h : IsPfxLetter c) : 11 ≤ digitVal c ∧ c ≠ 0x5F := by
  rcases h with (h | h) | (h | h) | (h | h) <;> subst h <;> decide

theorem natScan_pfx (base : Base) (up : Bool) (t : Bytes) (hb : base ≠ .dec) :
    natScan (base.pfx up ++ t) = scanFinish false (scanLoop base.radix st0 t) := by
  cases base <;> cases up <;> first | exact absurd rfl hb | simp [Base.pfx, Base.radix, natScan, st0]

theorem natScan_oct0 {c1 : UInt8} {cs : Bytes} (h : ¬ IsPfxLetter c1) :
    natScan (0x30 :: c1 :: cs) = scanFinish true (scanLoop 8 st0 (c1 :: cs)) := by
  simp only [IsPfxLetter, not_or] at h
  simp [natScan, h, st0]

theorem natScan_dec {c : UInt8} {cs : Bytes} (h : c ≠ 0x30) :
    natScan (c :: cs) =
      scanFinish false (scanLoop 10 { prev := .dot, invalSep := false, count := 0, acc := 0 } (c :: cs)) := by
  simp [natScan, h]

theorem natScan_cases (s : Bytes) :
    s = [] ∨ s = [0x30] ∨ (∃ (base : Base) (up : Bool) (t : Bytes), base ≠ .dec ∧ s = base.pfx up ++ t) ∨
    (∃ c1 cs, s = 0x30 :: c1 :: cs ∧ ¬ IsPfxLetter c1) ∨ (∃ c cs, s = c :: cs ∧ c ≠ 0x30) := by
  match s with
  | [] => exact Or.inl rfl
  | c :: rest =>
    by_cases hc : c = 0x30
    · subst hc
      match rest with
      | [] => exact Or.inr (Or.inl rfl)
      | c1 :: cs =>
        by_cases hp : IsPfxLetter c1
        · refine Or.inr (Or.inr (Or.inl ?_))
          rcases hp with (h | h) | (h | h) | (h | h) <;> subst h
          · exact ⟨.bin, false, cs, by simp, rfl⟩
          · exact ⟨.bin, true, cs, by simp, rfl⟩
          · exact ⟨.oct, false, cs, by simp, rfl⟩
          · exact ⟨.oct, true, cs, by simp, rfl⟩
          · exact ⟨.hex, false, cs, by simp, rfl⟩
          · exact ⟨.hex, true, cs, by simp, rfl⟩
        · exact Or.inr (Or.inr (Or.inr (Or.inl ⟨c1, cs, rfl, hp⟩)))
    · exact Or.inr (Or.inr (Or.inr (Or.inr ⟨c, rest, rfl, hc⟩)))

theorem radix_le (base : Base) : base.radix ≤ 16 := by cases base <;> decide

/-- an unsigned literal is its base prefix and `(_? d)+`, the first underscore only after a prefix -/
theorem NatLit.render_eq (l : NatLit) :
    l.render = l.base.pfx l.upPfx ++
      renderRest ((l.usAfterPfx && l.base != .dec, l.digits.first) :: l.digits.rest) := by
  simp [NatLit.render, renderRest, Digits.render]

theorem natLit_wf (l : NatLit) : l.wf = true ↔
    (∀ u, ∀ x ∈ (u, l.digits.first) :: l.digits.rest, x.2.val < l.base.radix) ∧
    (l.base ≠ .dec ∨ l.digits.first.val ≠ 0 ∨ l.digits.rest = []) := by
  simp [NatLit.wf, Digits.all]

theorem all_lt_flag {b : Nat} {us : Bool} {d : Dig} {r : List (Bool × Dig)}
    (h : ∀ x ∈ (us, d) :: r, x.2.val < b) (u : Bool) : ∀ x ∈ (u, d) :: r, x.2.val < b := by
  intro x hx
  rcases List.mem_cons.mp hx with e | e
  · rw [e]; exact h (us, d) (by simp)
  · exact h x (by simp [e])

theorem natScan_natLit (l : NatLit) (h : l.wf = true) : natScan l.render = some (l.value, []) := by
  obtain ⟨hd, hlead⟩ := (natLit_wf l).mp h
  rw [NatLit.render_eq]
  by_cases hb : l.base = .dec
  · -- no prefix: the literal `0`, or a first digit other than `0`
    simp only [hb, Base.pfx, bne_self_eq_false, Bool.and_false, List.nil_append, Base.radix] at hd hlead ⊢
    have hf : l.digits.first.val < 10 := hd false (false, l.digits.first) (by simp)
    obtain ⟨hv, hne, _⟩ := dig_facts l.digits.first (by omega)
    simp only [renderRest, Bool.false_eq_true, if_false, List.nil_append]
    by_cases hz : l.digits.first.val = 0
    · have hrest : l.digits.rest = [] := by simpa [hz] using hlead
      have : l.digits.first.byte = 0x30 := by simp [Dig.byte, hz]
      simp [hrest, renderRest, this, natScan, NatLit.value, Digits.value, valRest, hz]
    · have hne0 : l.digits.first.byte ≠ 0x30 := fun e => hz (by rw [← hv, e]; decide)
      rw [natScan_dec hne0, scanLoop_digit hne (hv ▸ hf),
        scanLoop_renderRest 10 (by omega) _ _ rfl (fun x hx => hd false x (by simp [hx]))]
      simp [scanFinish, hv, NatLit.value, Digits.value, hb, Base.radix]
  · rw [natScan_pfx _ _ _ hb, scanLoop_renderRest _ (radix_le _) _ st0 rfl (hd _)]
    simp [scanFinish, st0, NatLit.value, Digits.value, valRest]

theorem natScan_gnat (g : GNat) (h : g.wf = true) : natScan g.render = some (g.value, []) := by
  cases g with
  | lit l => exact natScan_natLit l h
  | oct0 r =>
    simp only [GNat.wf, Bool.and_eq_true, Bool.not_eq_true', List.all_eq_true, decide_eq_true_eq] at h
    obtain ⟨hne, hr⟩ := h
    match r, hne with
    | (us, d) :: r, _ =>
      have hc1 : ∃ c1 cs, renderRest ((us, d) :: r) = c1 :: cs ∧ ¬ IsPfxLetter c1 := by
        cases us with
        | true => exact ⟨0x5F, d.byte :: renderRest r, by simp [renderRest], fun hp => (pfxLetter_digitVal hp).2 rfl⟩
        | false =>
          have hd : d.val < 8 := hr (false, d) (by simp)
          refine ⟨d.byte, renderRest r, by simp [renderRest], fun hp => ?_⟩
          have := (pfxLetter_digitVal hp).1
          rw [dig_digitVal d (by omega)] at this
          omega
      obtain ⟨c1, cs, e, hp⟩ := hc1
      simp only [GNat.render, GNat.value]
      rw [e, natScan_oct0 hp, ← e, scanLoop_renderRest 8 (by omega) _ st0 rfl hr]
      simp [scanFinish, st0]

theorem scan_pfx_inv {b : Nat} (hb : b ≤ 36) {o : Bool} {t : Bytes} {n : Nat}
    (h : scanFinish o (scanLoop b st0 t) = some (n, [])) :
    ∃ rest : List (Bool × Dig), t = renderRest rest ∧ (∀ x ∈ rest, x.2.val < b) ∧ (o = false → rest ≠ []) := by
  obtain ⟨h1, h2, h3, h4⟩ := scanFinish_some h
  obtain ⟨rest, e, hr, hc⟩ := scanLoop_inv b hb t st0 _ (Prod.ext rfl h3) h1 h2 (by simp [st0])
  refine ⟨rest, by simpa [st0] using e, hr, ?_⟩
  intro ho hn
  apply h4 ho
  rw [hc, hn]; rfl

theorem natScan_inv {s : Bytes} {n : Nat} (h : natScan s = some (n, [])) :
    ∃ g : GNat, g.wf = true ∧ g.render = s := by
  rcases natScan_cases s with rfl | rfl | ⟨base, up, t, hb, rfl⟩ | ⟨c1, cs, rfl, hp⟩ | ⟨c, cs, rfl, hc⟩
  · simp [natScan] at h
  · exact ⟨.lit ⟨.dec, false, false, ⟨⟨0, false⟩, []⟩⟩, by decide, by decide⟩
  · rw [natScan_pfx _ _ _ hb] at h
    obtain ⟨r, e, hr, hnn⟩ := scan_pfx_inv (by have := radix_le base; omega) h
    match r, hnn rfl with
    | (us, d) :: r, _ =>
      refine ⟨.lit ⟨base, up, us, ⟨d, r⟩⟩, (natLit_wf _).mpr ⟨all_lt_flag hr, Or.inl hb⟩, ?_⟩
      have hb' : (base != .dec) = true := by simpa using hb
      rw [GNat.render, NatLit.render_eq]; simp [hb', e]
  · rw [natScan_oct0 hp] at h
    obtain ⟨r, e, hr, _⟩ := scan_pfx_inv (by omega) h
    refine ⟨.oct0 r, ?_, by simp [GNat.render, e]⟩
    simp only [GNat.wf, Bool.and_eq_true, Bool.not_eq_true', List.all_eq_true, decide_eq_true_eq]
    refine ⟨?_, hr⟩
    cases r with
    | nil => simp [renderRest] at e
    | cons _ _ => rfl
  · -- decimal: the first byte is a digit other than `0`
    rw [natScan_dec hc] at h
    obtain ⟨h1, h2, h3, _⟩ := scanFinish_some h
    have h3' := h3
    rw [scanLoop] at h1 h2 h3'
    by_cases hu : c = 0x5F
    · simp only [hu, if_true] at h1
      rw [scanLoop_invalSep_mono _ _ _ (by decide)] at h1
      exact absurd h1 (by simp)
    · by_cases hd : 10 ≤ digitVal c
      · simp [hu, hd] at h3'
      · simp only [hu, hd, if_false] at h1 h2 h3'
        obtain ⟨r, e, hr, _⟩ := scanLoop_inv 10 (by omega) cs _ _ (Prod.ext rfl h3') h1 h2 (by simp)
        simp only [reduceCtorEq, if_false, List.nil_append] at e
        obtain ⟨f1, f3⟩ := ofByte_facts c (by omega)
        refine ⟨.lit ⟨.dec, false, false, ⟨Dig.ofByte c, r⟩⟩,
          (natLit_wf _).mpr ⟨all_lt_flag (us := false) ?_, Or.inr (Or.inl fun hz => hc (f3 hz))⟩, ?_⟩
        · intro x hx
          rcases List.mem_cons.mp hx with e1 | e1
          · rw [e1]; exact Nat.not_le.mp hd
          · exact hr x e1
        · rw [GNat.render, NatLit.render_eq]; simp [Base.pfx, renderRest, f1, e]

theorem natScan_iff (s : Bytes) (n : Nat) :
    natScan s = some (n, []) ↔ ∃ g : GNat, g.wf = true ∧ g.render = s ∧ g.value = n := by
  constructor
  · intro h
    obtain ⟨g, hw, hr⟩ := natScan_inv h
    refine ⟨g, hw, hr, ?_⟩
    have := natScan_gnat g hw
    rw [hr, h] at this
    simpa using this.symm
  · rintro ⟨g, hw, hr, hv⟩
    rw [← hr, ← hv]; exact natScan_gnat g hw

/-- bytes the scan loop can consume in some base: `_` or an alphanumeric -/
def ScanByte (c : UInt8) : Prop := c = 0x5F ∨ digitVal c < 63

/-- the number alphabet: alphanumerics and `_ + - . /` -/
def NumByte (c : UInt8) : Prop := ScanByte c ∨ c = 0x2B ∨ c = 0x2D ∨ c = 0x2E ∨ c = 0x2F

theorem numByte_isNumByte (c : UInt8) (h : NumByte c) : isNumByte c = true := by
  rcases h with (h | h) | h | h | h | h
  · subst h; decide
  · -- an alphanumeric lies in one of the three ranges of `digitVal`, which `isNumByte` tests too
    unfold digitVal at h
    unfold isNumByte isDec
    simp only [Bool.or_eq_true, Bool.and_eq_true, decide_eq_true_eq, UInt8.le_iff_toNat_le]
    simp only [UInt8.toNat_ofNat] at *
    split at h
    · omega
    split at h
    · omega
    split at h <;> omega
  all_goals (subst h; decide)

theorem digits_renderRest {b : Nat} (hb : b ≤ 16) {r : List (Bool × Dig)} (h : ∀ x ∈ r, x.2.val < b) :
    ∀ c ∈ renderRest r, c = 0x5F ∨ digitVal c < b := by
  intro c hc
  rcases mem_renderRest hc with e | ⟨x, hx, e⟩
  · exact Or.inl e
  · right; rw [e, dig_digitVal x.2 (by have := h x hx; omega)]; exact h x hx

theorem gnat_bytes (g : GNat) (h : g.wf = true) :
    (∃ (base : Base) (up : Bool) (t : Bytes), base ≠ .dec ∧ g.render = base.pfx up ++ t ∧
      ∀ c ∈ t, c = 0x5F ∨ digitVal c < base.radix) ∨
    (∀ c ∈ g.render, c = 0x5F ∨ digitVal c < 10) := by
  cases g with
  | oct0 r =>
    simp only [GNat.wf, Bool.and_eq_true, List.all_eq_true, decide_eq_true_eq] at h
    right
    intro c hc
    rcases List.mem_cons.mp hc with e | e
    · subst e; exact Or.inr (by decide)
    · rcases digits_renderRest (by omega) h.2 c e with e | e
      · exact Or.inl e
      · exact Or.inr (by omega)
  | lit l =>
    obtain ⟨hd, _⟩ := (natLit_wf l).mp h
    have hdig := fun u => digits_renderRest (radix_le l.base) (hd u)
    rw [GNat.render, NatLit.render_eq]
    by_cases hb : l.base = .dec
    · rw [hb] at hdig ⊢
      exact Or.inr (hdig _)
    · exact Or.inl ⟨l.base, l.upPfx, _, hb, rfl, hdig _⟩

theorem pfx_scanByte (base : Base) (up : Bool) : ∀ c ∈ base.pfx up, ScanByte c := by
  unfold ScanByte; cases base <;> cases up <;> decide

theorem pfx_eq (base : Base) (up : Bool) (hb : base ≠ .dec) : ∃ L, base.pfx up = [0x30, L] ∧ IsPfxLetter L := by
  cases base <;> cases up <;> first | exact absurd rfl hb | exact ⟨_, rfl, by simp [IsPfxLetter]⟩

theorem gnat_scanByte (g : GNat) (h : g.wf = true) : ∀ c ∈ g.render, ScanByte c := by
  intro c hc
  rcases gnat_bytes g h with ⟨base, up, t, _, e, ht⟩ | hd
  · rw [e] at hc
    rcases List.mem_append.mp hc with h1 | h1
    · exact pfx_scanByte base up c h1
    · rcases ht c h1 with e | e
      · exact Or.inl e
      · exact Or.inr (by have := radix_le base; omega)
  · rcases hd c hc with e | e
    · exact Or.inl e
    · exact Or.inr (by omega)

theorem natScan_all {s : Bytes} {n : Nat} (h : natScan s = some (n, [])) : ∀ c ∈ s, ScanByte c := by
  obtain ⟨g, hw, rfl⟩ := natScan_inv h
  exact gnat_scanByte g hw

theorem not_scanByte_dot : ¬ ScanByte 0x2E := by unfold ScanByte; decide
theorem not_scanByte_plus : ¬ ScanByte 0x2B := by unfold ScanByte; decide
theorem not_scanByte_minus : ¬ ScanByte 0x2D := by unfold ScanByte; decide
theorem not_scanByte_slash : ¬ ScanByte 0x2F := by unfold ScanByte; decide

theorem gnat_render_head (g : GNat) (h : g.wf = true) :
    ∃ c cs, g.render = c :: cs ∧ c ≠ 0x2D ∧ c ≠ 0x2B := by
  have hs := natScan_gnat g h
  have hb := gnat_scanByte g h
  match hr : g.render with
  | [] => rw [hr] at hs; simp [natScan] at hs
  | c :: cs =>
    have hc := hb c (by simp [hr])
    exact ⟨c, cs, rfl, fun e => not_scanByte_minus (e ▸ hc), fun e => not_scanByte_plus (e ▸ hc)⟩

theorem intSetString_gint (l : GInt) (h : l.wf = true) : intSetString l.render = some l.value := by
  obtain ⟨sign, mag⟩ := l
  obtain ⟨c, cs, e, h1, h2⟩ := gnat_render_head mag h
  have hs := natScan_gnat mag h
  simp only [GInt.render, GInt.value]
  rw [e] at hs ⊢
  cases sign <;> simp [Sign.bytes, Sign.isNeg, intSetString, h1, h2, hs]

theorem sign_append_inj {sg sg' : Sign} {c c' : UInt8} {t t' : Bytes} (hc : c ≠ 0x2D ∧ c ≠ 0x2B)
    (hc' : c' ≠ 0x2D ∧ c' ≠ 0x2B) (h : sg.bytes ++ c :: t = sg'.bytes ++ c' :: t') : c :: t = c' :: t' := by
  cases sg <;> cases sg' <;> simp_all [Sign.bytes]

theorem intSetString_inv {s : Bytes} {z : Int} (h : intSetString s = some z) :
    ∃ g : GInt, g.wf = true ∧ g.render = s := by
  cases s with
  | nil => simp [intSetString] at h
  | cons c cs =>
    simp only [intSetString] at h
    split at h
    · rename_i n hn
      by_cases hs : c = 0x2D ∨ c = 0x2B
      · simp only [hs, if_true] at hn
        obtain ⟨g, hw, hr⟩ := natScan_inv hn
        rcases hs with hs | hs
        · exact ⟨⟨.minus, g⟩, hw, by simp [GInt.render, Sign.bytes, hr, hs]⟩
        · exact ⟨⟨.plus, g⟩, hw, by simp [GInt.render, Sign.bytes, hr, hs]⟩
      · simp only [hs, if_false] at hn
        obtain ⟨g, hw, hr⟩ := natScan_inv hn
        exact ⟨⟨.none, g⟩, hw, by simp [GInt.render, Sign.bytes, hr]⟩
    · simp at h

theorem intSetString_iff (s : Bytes) (z : Int) :
    intSetString s = some z ↔ ∃ g : GInt, g.wf = true ∧ g.render = s ∧ g.value = z := by
  constructor
  · intro h
    obtain ⟨g, hw, hr⟩ := intSetString_inv h
    refine ⟨g, hw, hr, ?_⟩
    have := intSetString_gint g hw
    rw [hr, h] at this
    simpa using this.symm
  · rintro ⟨g, hw, hr, hv⟩
    rw [← hr, ← hv]; exact intSetString_gint g hw

theorem intSetString_none_of_natScan {c : UInt8} {cs : Bytes}
    (h : ∀ n, natScan (if c = 0x2D ∨ c = 0x2B then cs else c :: cs) ≠ some (n, [])) :
    intSetString (c :: cs) = none := by
  cases hr : intSetString (c :: cs) with
  | none => rfl
  | some z =>
    -- the match on `natScan …` reduces to its default arm: `h` discharges the overlap condition
    simp only [intSetString] at hr
    cases hr

theorem intSetString_tail {c : UInt8} {cs : Bytes} {z : Int} (h : intSetString (c :: cs) = some z) :
    ∀ x ∈ cs, ScanByte x := by
  obtain ⟨⟨sign, mag⟩, hw, hr⟩ := intSetString_inv h
  have hb := gnat_scanByte mag hw
  intro x hx
  cases sign <;> simp only [GInt.render, Sign.bytes, List.nil_append, List.cons_append] at hr
  · exact hb x (by rw [hr]; exact List.mem_cons_of_mem _ hx)
  · exact hb x (by rw [(List.cons.inj hr).2]; exact hx)
  · exact hb x (by rw [(List.cons.inj hr).2]; exact hx)

theorem intSetString_all {s : Bytes} {z : Int} (h : intSetString s = some z) :
    ∀ x ∈ s, x = 0x2D ∨ x = 0x2B ∨ ScanByte x := by
  obtain ⟨⟨sign, mag⟩, hw, rfl⟩ := intSetString_inv h
  have hb := gnat_scanByte mag hw
  intro x hx
  rcases List.mem_append.mp hx with h1 | h1
  · cases sign <;> simp [Sign.bytes] at h1
    · exact Or.inr (Or.inl h1)
    · exact Or.inl h1
  · exact Or.inr (Or.inr (hb x h1))

theorem intSetString_none_of_dot {s : Bytes} (h : (0x2E : UInt8) ∈ s) : intSetString s = none := by
  cases hr : intSetString s with
  | none => rfl
  | some z =>
    rcases intSetString_all hr _ h with e | e | e
    · exact absurd e (by decide)
    · exact absurd e (by decide)
    · exact absurd e not_scanByte_dot

theorem intSetString_none_of_inner_sign {c : UInt8} {cs : Bytes}
    (h : (0x2B : UInt8) ∈ cs ∨ (0x2D : UInt8) ∈ cs) : intSetString (c :: cs) = none := by
  cases hr : intSetString (c :: cs) with
  | none => rfl
  | some z =>
    rcases h with h | h
    · exact absurd (intSetString_tail hr _ h) not_scanByte_plus
    · exact absurd (intSetString_tail hr _ h) not_scanByte_minus

theorem slash_not_mem_of_intSetString {s : Bytes} {z : Int} (h : intSetString s = some z) :
    (0x2F : UInt8) ∉ s := by
  intro hm
  rcases intSetString_all h _ hm with e | e | e
  · exact absurd e (by decide)
  · exact absurd e (by decide)
  · exact not_scanByte_slash e

theorem slash_not_mem_gint (g : GInt) (h : g.wf = true) : (0x2F : UInt8) ∉ g.render :=
  slash_not_mem_of_intSetString (intSetString_gint g h)

theorem parseNum_no_slash {s : Bytes} (h : (0x2F : UInt8) ∉ s) :
    parseNum s = match intSetString s with
      | some z => some (normalizeBigInt z)
      | none => (parseFloat s).map Num.float := by
  unfold parseNum splitSlash
  rw [splitByte_none h]
  cases intSetString s with
  | some z => rfl
  | none => cases parseFloat s <;> rfl

theorem parseNum_of_intSetString {s : Bytes} {z : Int} (h : intSetString s = some z) :
    parseNum s = some (normalizeBigInt z) := by
  rw [parseNum_no_slash (slash_not_mem_of_intSetString h), h]

theorem parseNum_gint (g : GInt) (h : g.wf = true) : parseNum g.render = some (normalizeBigInt g.value) :=
  parseNum_of_intSetString (intSetString_gint g h)

theorem parseNum_slash {a : Bytes} (b : Bytes) (ha : (0x2F : UInt8) ∉ a) :
    parseNum (a ++ 0x2F :: b) = (ratSetFrac a b).map normalizeBigRat := by
  unfold parseNum splitSlash
  rw [splitByte_append _ ha]
  show (match ratSetFrac a b with | some q => some (normalizeBigRat q) | none => none) = _
  cases ratSetFrac a b <;> rfl

theorem parseNum_grat (g : GRat) (h : g.wf = true) : parseNum g.render = some (normalizeBigRat g.value) := by
  simp only [GRat.wf, Bool.and_eq_true, bne_iff_ne, ne_eq] at h
  obtain ⟨⟨hn, hd⟩, hz⟩ := h
  rw [GRat.render, parseNum_slash _ (slash_not_mem_gint _ hn)]
  simp [ratSetFrac, intSetString_gint g.num hn, natScan_gnat g.den hd, hz, GRat.value]

theorem parseNum_zero_den (a : GInt) (b : GNat) (ha : a.wf = true) (hb : b.wf = true) (hz : b.value = 0) :
    parseNum (a.render ++ 0x2F :: b.render) = none := by
  rw [parseNum_slash _ (slash_not_mem_gint a ha)]
  simp [ratSetFrac, intSetString_gint a ha, natScan_gnat b hb, hz]

end C05
