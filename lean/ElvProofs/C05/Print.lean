/-
The decimal printer (`strconv.Itoa`, `big.Int.String`, `big.Rat.String`) is
read back by `ParseNum` with the value printed.
-/
import ElvProofs.C05.Scan
namespace C05
open Go

def digitsVal (a : Nat) (ds : Bytes) : Nat := ds.foldl (fun a c => a * 10 + digitVal c) a

theorem digitsVal_append (a : Nat) (xs ys : Bytes) :
    digitsVal a (xs ++ ys) = digitsVal (digitsVal a xs) ys := by
  simp [digitsVal, List.foldl_append]

theorem scanLoop_decs : ∀ (ds : Bytes) (st : ScanSt), (∀ c ∈ ds, IsDecByte c) →
    scanLoop 10 st ds =
      ({ st with prev := if ds = [] then st.prev else .digit, count := st.count + ds.length,
                 acc := digitsVal st.acc ds }, [])
  | [], st, _ => rfl
  | c :: cs, st, h => by
    have hc := h c (by simp)
    have hv : digitVal c < 10 := by rw [digitVal_dec hc]; unfold IsDecByte at hc; omega
    rw [scanLoop_digit (hc.ne (by decide)) hv, scanLoop_decs cs _ (fun x hx => h x (by simp [hx]))]
    simp only [List.length_cons, digitsVal, List.foldl_cons, reduceCtorEq, if_false]
    congr 2
    · split <;> rfl
    · omega

theorem natToDec_lt {n : Nat} (h : n < 10) : natToDec n = [UInt8.ofNat (48 + n)] := by
  rw [natToDec]; simp [h]

theorem natToDec_ge {n : Nat} (h : ¬ n < 10) :
    natToDec n = natToDec (n / 10) ++ [UInt8.ofNat (48 + n % 10)] := by
  rw [natToDec]; simp [h]

theorem natToDec_dec (n : Nat) : ∀ c ∈ natToDec n, IsDecByte c := by
  induction n using natToDec.induct with
  | case1 n h =>
    rw [natToDec_lt h]; intro c hc
    rw [List.mem_singleton.mp hc]; exact isDecByte_ofNat h
  | case2 n h ih =>
    rw [natToDec_ge h]; intro c hc
    rcases List.mem_append.mp hc with hc | hc
    · exact ih c hc
    · rw [List.mem_singleton.mp hc]; exact isDecByte_ofNat (Nat.mod_lt _ (by omega))

theorem natToDec_ne_nil (n : Nat) : natToDec n ≠ [] := by
  by_cases h : n < 10
  · rw [natToDec_lt h]; simp
  · rw [natToDec_ge h]; simp

theorem digitVal_ofNat {d : Nat} (h : d < 10) : digitVal (UInt8.ofNat (48 + d)) = d := by
  rw [digitVal_dec (isDecByte_ofNat h), toNat_ofNat_of_lt (by omega)]; omega

theorem natToDec_val (n : Nat) : digitsVal 0 (natToDec n) = n := by
  induction n using natToDec.induct with
  | case1 n h =>
    rw [natToDec_lt h]
    show 0 * 10 + digitVal (UInt8.ofNat (48 + n)) = n
    rw [digitVal_ofNat h]; omega
  | case2 n h ih =>
    rw [natToDec_ge h, digitsVal_append, ih]
    show n / 10 * 10 + digitVal (UInt8.ofNat (48 + n % 10)) = n
    rw [digitVal_ofNat (Nat.mod_lt n (by omega : 10 > 0))]
    omega

theorem natToDec_head (n : Nat) (hn : 0 < n) : ∃ c cs, natToDec n = c :: cs ∧ c ≠ 0x30 := by
  induction n using natToDec.induct with
  | case1 n h =>
    refine ⟨_, [], natToDec_lt h, ?_⟩
    apply ne_of_toNat_ne; rw [toNat_ofNat_of_lt (by omega)]; simp; omega
  | case2 n h ih =>
    obtain ⟨c, cs, e, hz⟩ := ih (by omega)
    exact ⟨c, cs ++ [UInt8.ofNat (48 + n % 10)], by rw [natToDec_ge h, e]; rfl, hz⟩

theorem natScan_natToDec (n : Nat) : natScan (natToDec n) = some (n, []) := by
  by_cases hn : n = 0
  · subst hn; rw [natToDec_lt (by omega)]; rfl
  · obtain ⟨c, cs, e, hz⟩ := natToDec_head n (by omega)
    have hd := natToDec_dec n
    rw [e] at hd
    rw [e, natScan_dec hz, scanLoop_decs _ _ hd, ← e]
    simp [scanFinish, natToDec_val, natToDec_ne_nil]

theorem intSetString_intToDec (z : Int) : intSetString (intToDec z) = some z := by
  unfold intToDec
  by_cases hz : z < 0
  · simp [hz, intSetString, natScan_natToDec]
    omega
  · simp only [hz, if_false]
    have hd := natToDec_dec z.natAbs
    match e : natToDec z.natAbs with
    | [] => exact absurd e (natToDec_ne_nil _)
    | c :: cs =>
      have hc : IsDecByte c := hd c (by simp [e])
      have h1 : c ≠ 0x2D := hc.ne (by decide)
      have h2 : c ≠ 0x2B := hc.ne (by decide)
      rw [intSetString]
      simp only [h1, h2, or_self, if_false]
      rw [← e, natScan_natToDec]
      simp; omega

theorem parseNum_intToDec (z : Int) : parseNum (intToDec z) = some (normalizeBigInt z) :=
  parseNum_of_intSetString (intSetString_intToDec z)

theorem parseNum_ratToString (q : Rat) : parseNum (ratToString q) = some (normalizeBigRat q) := by
  rw [ratToString, parseNum_slash _ (slash_not_mem_of_intSetString (intSetString_intToDec q.num))]
  simp [ratSetFrac, intSetString_intToDec, natScan_natToDec, q.den_nz, Rat.mkRat_self]

end C05
