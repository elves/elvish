/-
A rejection class derived from the characterisation: in every accepted string each
underscore stands between two alphanumeric bytes.
-/
import ElvProofs.C05.Classify
namespace C05
open Go

/-- `0-9 a-z A-Z` -/
def isAlnum (c : UInt8) : Bool := decide (digitVal c < 63)

def nextAlnum : Bytes → Bool
  | d :: _ => isAlnum d
  | [] => false

/-- Every underscore of the text stands between two alphanumeric bytes
(`p`: the byte before the text was alphanumeric). -/
def flank : Bool → Bytes → Bool
  | _, [] => true
  | p, c :: cs => if c = 0x5F then p && nextAlnum cs && flank false cs else flank (isAlnum c) cs

theorem flank_cons_ne {p : Bool} {c : UInt8} {t : Bytes} (h : c ≠ 0x5F) :
    flank p (c :: t) = flank (isAlnum c) t := by
  simp [flank, h]

theorem dig_alnum (d : Dig) (h : d.val < 16) : isAlnum d.byte = true ∧ d.byte ≠ 0x5F := by
  refine ⟨?_, (dig_facts d h).2.1⟩
  unfold isAlnum
  rw [dig_digitVal d h]
  simp; omega

theorem flank_dig {p : Bool} {d : Dig} {t : Bytes} (h : d.val < 16) : flank p (d.byte :: t) = flank true t := by
  obtain ⟨h1, h2⟩ := dig_alnum d h
  rw [flank_cons_ne h2, h1]

theorem flank_renderRest : ∀ (r : List (Bool × Dig)) (p : Bool) (t : Bytes), (∀ x ∈ r, x.2.val < 16) →
    (p = true ∨ ∀ x ∈ r.head?, x.1 = false) → flank p (renderRest r ++ t) = flank (p || !r.isEmpty) t
  | [], p, t, _, _ => by simp [renderRest]
  | (u, d) :: r, p, t, h, hp => by
    have hd := h (u, d) (by simp)
    have ih := flank_renderRest r true t (fun x hx => h x (by simp [hx])) (Or.inl rfl)
    obtain ⟨h1, _⟩ := dig_alnum d hd
    cases u with
    | true =>
      have : p = true := hp.elim id (fun h => by simpa using h (true, d) (by simp))
      subst this
      simp only [renderRest, if_true, List.cons_append, List.nil_append]
      rw [flank]
      simp only [if_true, nextAlnum, h1, Bool.true_and]
      rw [flank_dig hd, ih]; rfl
    | false =>
      simp only [renderRest, Bool.false_eq_true, if_false, List.cons_append, List.nil_append]
      rw [flank_dig hd, ih]; simp

theorem lt16 {b : Nat} (hb : b ≤ 16) {r : List (Bool × Dig)} (h : ∀ x ∈ r, x.2.val < b) :
    ∀ x ∈ r, x.2.val < 16 := fun x hx => by have := h x hx; omega

theorem flank_gnat (p : Bool) (g : GNat) (t : Bytes) (h : g.wf = true) :
    flank p (g.render ++ t) = flank true t := by
  cases g with
  | oct0 r =>
    simp only [GNat.wf, Bool.and_eq_true, List.all_eq_true, decide_eq_true_eq] at h
    simp only [GNat.render, List.cons_append]
    rw [flank_cons_ne (by decide), show isAlnum 0x30 = true by decide,
      flank_renderRest r true t (lt16 (by omega) h.2) (Or.inl rfl)]
    rfl
  | lit l =>
    obtain ⟨hd, _⟩ := (natLit_wf l).mp h
    have hall := fun u => lt16 (radix_le l.base) (hd u)
    rw [GNat.render, NatLit.render_eq]
    by_cases hb : l.base = .dec
    · simp only [hb, Base.pfx, bne_self_eq_false, Bool.and_false, List.nil_append]
      rw [flank_renderRest _ p t (hall false) (Or.inr (by simp))]; simp
    · -- the two bytes of the base prefix are alphanumeric
      obtain ⟨L, eL, hL⟩ := pfx_eq l.base l.upPfx hb
      have hLa : isAlnum L = true := by
        rcases hL with (h | h) | (h | h) | (h | h) <;> subst h <;> decide
      simp only [eL, List.cons_append, List.nil_append]
      rw [flank_cons_ne (by decide), flank_cons_ne (pfxLetter_digitVal hL).2, hLa,
        flank_renderRest _ true t (hall _) (Or.inl rfl)]
      rfl

theorem flank_sign (p : Bool) (sg : Sign) (t : Bytes) (h : ∀ q, flank q t = flank false t) :
    flank p (sg.bytes ++ t) = flank false t := by
  cases sg with
  | none => simpa [Sign.bytes] using h p
  | plus =>
    simp only [Sign.bytes, List.cons_append, List.nil_append]
    rw [flank_cons_ne (by decide)]; exact h _
  | minus =>
    simp only [Sign.bytes, List.cons_append, List.nil_append]
    rw [flank_cons_ne (by decide)]; exact h _

theorem flank_gint (p : Bool) (g : GInt) (t : Bytes) (h : g.wf = true) :
    flank p (g.render ++ t) = flank true t := by
  obtain ⟨sg, mag⟩ := g
  simp only [GInt.render, List.append_assoc]
  rw [flank_sign p sg _ (fun q => by rw [flank_gnat q mag t h, flank_gnat false mag t h]), flank_gnat false mag t h]

theorem flank_no_us : ∀ (s : Bytes) (p : Bool), (0x5F : UInt8) ∉ s → flank p s = true
  | [], _, _ => rfl
  | c :: cs, p, h => by
    rw [flank_cons_ne (fun e => h (by simp [e]))]
    exact flank_no_us cs _ (fun e => h (by simp [e]))

theorem flank_mono : ∀ {t : Bytes} {p : Bool}, flank false t = true → flank p t = true
  | [], _, _ => rfl
  | c :: cs, p, h => by
    by_cases hc : c = 0x5F
    · simp [flank, hc] at h
    · rw [flank_cons_ne hc] at h ⊢; exact h

theorem digB_alnum {hex : Bool} {c : UInt8} (h : isDigB hex c = true) : isAlnum c = true ∧ c ≠ 0x5F := by
  have := (isDigB_iff hex c).mp h
  have := radixOf_le hex
  exact ⟨by unfold isAlnum; simp; omega, fun e => by rw [e] at h; exact absurd h (by cases hex <;> decide)⟩

/-- strconv's own check of the underscores (`underscoreOK`) is at least as strict. -/
theorem flank_of_usLoop (hex : Bool) : ∀ (t : Bytes) (saw : Saw), usLoop hex saw t = true →
    flank (saw == .digit) t = true
  | [], _, _ => rfl
  | c :: cs, saw, h => by
    by_cases hd : isDigB hex c = true
    · obtain ⟨ha, hu⟩ := digB_alnum hd
      rw [usLoop_digB hd] at h
      rw [flank_cons_ne hu, ha]
      exact flank_of_usLoop hex cs .digit h
    · have hd' : isDigB hex c = false := by simpa using hd
      have hd'' := hd'
      unfold isDigB at hd''
      by_cases hc : c = 0x5F
      · subst hc
        have hsd : saw = .digit := by
          rw [usLoop] at h
          cases saw <;> simp [hd''] at h ⊢
        subst hsd
        rw [usLoop_us] at h
        -- after an underscore the loop insists on a digit
        match cs, h with
        | [], h => simp [usLoop] at h
        | c' :: cs', h =>
          have hd2 : isDigB hex c' = true := by
            cases hd2 : isDigB hex c' with
            | true => rfl
            | false => rw [usLoop] at h; unfold isDigB at hd2; simp [hd2] at h
          have ih := flank_of_usLoop hex (c' :: cs') .us h
          rw [flank]
          simp only [if_true, nextAlnum, (digB_alnum hd2).1, Bool.and_true, Bool.true_and]
          exact ih
      · have hs : saw ≠ .us := by
          intro e; subst e
          rw [usLoop] at h
          simp [hd'', hc] at h
        rw [usLoop_other hd' hc hs] at h
        rw [flank_cons_ne hc]
        exact flank_mono (flank_of_usLoop hex cs .bang h)

theorem flank_of_uokBody {body : Bytes} (h : uokBody body = true) : flank false body = true := by
  unfold uokBody at h
  split at h
  · rename_i c0 c1 cs
    split at h
    · -- the two bytes of a base prefix are alphanumeric
      rename_i hc
      obtain ⟨f1, _⟩ := pfxLetter_facts c1 hc.2
      have ha : isAlnum c1 = true := by
        rcases (pfxLetter_iff c1).mpr hc.2 with (e | e) | (e | e) | (e | e) <;> subst e <;> decide
      rw [hc.1, flank_cons_ne (by decide), flank_cons_ne f1, ha]
      exact flank_of_usLoop _ cs .digit h
    · exact flank_of_usLoop false _ .start h
  · exact flank_of_usLoop false _ .start h

theorem flank_gfloat (l : GFloatLit) (h : l.wf = true) : flank false l.render = true := by
  have hb := flank_of_uokBody (uokBody_body l (gparts_of_wf l h))
  rw [grender_eq, flank_sign false l.sign _ (fun q => by rw [flank_mono hb, hb])]
  exact hb

theorem flank_of_isNumber {s : Bytes} (h : IsNumber s) : flank false s = true := by
  rcases h with ⟨g, hw, hr⟩ | ⟨g, hw, hr⟩ | ⟨g, hw, hr, _⟩ | h
  · have := flank_gint false g [] hw
    rw [List.append_nil, hr] at this
    rw [this]; rfl
  · simp only [GRat.wf, Bool.and_eq_true] at hw
    rw [← hr, GRat.render, flank_gint false g.num _ hw.1.1, flank_cons_ne (by decide)]
    have := flank_gnat (isAlnum 0x2F) g.den [] hw.1.2
    rw [List.append_nil] at this
    rw [this]; rfl
  · rw [← hr]; exact flank_gfloat g hw
  · obtain ⟨b, hb⟩ := Option.isSome_iff_exists.mp h
    exact flank_no_us s _ (fun hm => (specialByte_facts _ (special_bytes hb _ hm)).2.2.1 rfl)

theorem flank_trailing : ∀ (x : Bytes) (p : Bool), flank p (x ++ [0x5F]) = false
  | [], p => by simp [flank, nextAlnum]
  | c :: cs, p => by
    have ih := flank_trailing cs
    simp only [List.cons_append, flank]
    split
    · simp [ih]
    · exact ih _

theorem flank_double : ∀ (x y : Bytes) (p : Bool), flank p (x ++ 0x5F :: 0x5F :: y) = false
  | [], y, p => by simp [flank, nextAlnum, isAlnum]
  | c :: cs, y, p => by
    have ih := flank_double cs y
    simp only [List.cons_append, flank]
    split
    · simp [ih]
    · exact ih _

end C05
