/-
Each class of bytes the scanners distinguish
is settled once here, by a table over the sixteen digit values or over all 256
bytes; the lemmas about texts refer to these tables only.
-/
import ElvModel.C05.Grammar
import ElvProofs.Lemmas.List
namespace C05
open Go

theorem ne_of_toNat_ne {a b : UInt8} (h : a.toNat ≠ b.toNat) : a ≠ b := fun e => h (e ▸ rfl)

def IsDecByte (c : UInt8) : Prop := 48 ≤ c.toNat ∧ c.toNat ≤ 57

theorem IsDecByte.ne {c x : UInt8} (h : IsDecByte c) (hx : x.toNat < 48 ∨ 57 < x.toNat) : c ≠ x := by
  intro e; subst e; unfold IsDecByte at h; omega

theorem isDec_iff {c : UInt8} : isDec c = true ↔ IsDecByte c := by
  unfold isDec IsDecByte
  simp [UInt8.le_iff_toNat_le]

theorem digitVal_dec {c : UInt8} (h : IsDecByte c) : digitVal c = c.toNat - 48 := by
  unfold digitVal IsDecByte at *; simp [h]

theorem isDecByte_ofNat {d : Nat} (h : d < 10) : IsDecByte (UInt8.ofNat (48 + d)) := by
  unfold IsDecByte; rw [toNat_ofNat_of_lt (by omega)]; omega

/-- what the scanners ask about the byte `c` of a digit of value `v` -/
def DigFacts (c : UInt8) (v : Nat) : Prop :=
  digitVal c = v ∧ c ≠ 0x5F ∧ c ≠ 0x2E ∧ c ≠ 0x2B ∧ c ≠ 0x2D ∧ lower c ≠ 0x70 ∧ lower c ≠ 0x78 ∧
  (v < 10 → isDec c = true ∧ c.toNat - 48 = v) ∧
  (¬ v < 10 → isDec c = false ∧ isHexLetter c = true ∧ (lower c).toNat - 87 = v)

theorem dig_facts_fin : ∀ (v : Fin 16) (up : Bool), DigFacts (Dig.byte ⟨v.val, up⟩) v.val := by
  unfold DigFacts; decide

theorem dig_facts (d : Dig) (h : d.val < 16) : DigFacts d.byte d.val := by
  obtain ⟨v, up⟩ := d; exact dig_facts_fin ⟨v, h⟩ up

theorem dig_digitVal (d : Dig) (h : d.val < 16) : digitVal d.byte = d.val := (dig_facts d h).1

/-- the digit a byte denotes (inverse of `Dig.byte` on alphanumerics) -/
def Dig.ofByte (c : UInt8) : Dig := ⟨digitVal c, decide (0x41 ≤ c ∧ c ≤ 0x5A)⟩

theorem ofByte_facts : ∀ c : UInt8, digitVal c < 63 →
    (Dig.ofByte c).byte = c ∧ (digitVal c = 0 → c = 0x30) := by
  apply forall_uint8; decide +kernel

theorem ofByte_byte {c : UInt8} (h : digitVal c < 63) : (Dig.ofByte c).byte = c := (ofByte_facts c h).1

theorem mem_renderRest {c : UInt8} : ∀ {r : List (Bool × Dig)}, c ∈ renderRest r →
    c = 0x5F ∨ ∃ x ∈ r, c = x.2.byte
  | [], h => by simp [renderRest] at h
  | (us, d) :: r, h => by
    simp only [renderRest, List.mem_append, List.mem_cons] at h
    rcases h with h | h | h
    · left; cases us <;> simp at h; exact h
    · exact Or.inr ⟨(us, d), by simp, h⟩
    · rcases mem_renderRest h with e | ⟨x, hx, e⟩
      · exact Or.inl e
      · exact Or.inr ⟨x, by simp [hx], e⟩

theorem byte_mem_renderRest : ∀ (r : List (Bool × Dig)) (x : Bool × Dig), x ∈ r → x.2.byte ∈ renderRest r
  | [], _, h => by simp at h
  | (u, d) :: r, x, h => by
    rcases List.mem_cons.mp h with e | e
    · rw [e]; cases u <;> simp [renderRest]
    · have := byte_mem_renderRest r x e
      cases u <;> simp [renderRest, this]

theorem splitByte_none {x : UInt8} : ∀ {s : Bytes}, x ∉ s → splitByte x s = none
  | [], _ => rfl
  | c :: cs, h => by
    have h1 : c ≠ x := fun e => h (by simp [e])
    have h2 : x ∉ cs := fun e => h (by simp [e])
    simp [splitByte, h1, splitByte_none h2]

theorem splitByte_append {x : UInt8} : ∀ {a : Bytes} (b : Bytes), x ∉ a →
    splitByte x (a ++ x :: b) = some (a, b)
  | [], b, _ => by simp [splitByte]
  | c :: cs, b, h => by
    have h1 : c ≠ x := fun e => h (by simp [e])
    have h2 : x ∉ cs := fun e => h (by simp [e])
    simp [splitByte, h1, splitByte_append b h2]

theorem splitByte_some {x : UInt8} : ∀ {s a b : Bytes}, splitByte x s = some (a, b) →
    s = a ++ x :: b ∧ x ∉ a
  | [], a, b, h => by simp [splitByte] at h
  | c :: cs, a, b, h => by
    unfold splitByte at h
    by_cases hc : c = x
    · simp [hc] at h; obtain ⟨rfl, rfl⟩ := h; simp [hc]
    · simp only [hc, if_false] at h
      cases hr : splitByte x cs with
      | none => simp [hr] at h
      | some p =>
        obtain ⟨a', b'⟩ := p
        simp [hr] at h
        obtain ⟨rfl, rfl⟩ := h
        obtain ⟨e, hn⟩ := splitByte_some hr
        refine ⟨by simp [e], ?_⟩
        intro hm
        rcases List.mem_cons.mp hm with h1 | h1
        · exact hc h1.symm
        · exact hn h1

end C05
