/-
`vals.ParseNum` accepts exactly the renderings of the structured literals
of Grammar.lean — integers, rationals, float literals whose rounded value is
finite, and the inf/nan spellings — and gives each its value.
-/
import ElvProofs.C05.FloatInv
namespace C05
open Go

/-- "a number in some syntax": the union of the three library grammars and the
inf/nan spellings.  (A float literal whose rounded value overflows is excluded:
the code rejects it — the known finding `literal-float-overflow`.) -/
def IsNumber (s : Bytes) : Prop :=
  (∃ g : GInt, g.wf = true ∧ g.render = s) ∨
  (∃ g : GRat, g.wf = true ∧ g.render = s) ∨
  (∃ g : GFloatLit, g.wf = true ∧ g.render = s ∧ g.lit.overflows = false) ∨
  (specialValue s).isSome = true

theorem gnat_head_dec (g : GNat) (h : g.wf = true) : ∃ c cs, g.render = c :: cs ∧ IsDecByte c := by
  have zero : IsDecByte 0x30 := by unfold IsDecByte; decide
  cases g with
  | oct0 r => exact ⟨0x30, _, rfl, zero⟩
  | lit l =>
    obtain ⟨hd, _⟩ := (natLit_wf l).mp h
    rw [GNat.render, NatLit.render_eq]
    by_cases hb : l.base = .dec
    · have h10 : l.digits.first.val < 10 := by
        simpa [hb, Base.radix] using hd false (false, l.digits.first) (by simp)
      exact ⟨l.digits.first.byte, renderRest l.digits.rest, by simp [hb, Base.pfx, renderRest],
        isDec_iff.mp ((dig_facts l.digits.first (by omega)).2.2.2.2.2.2.2.1 h10).1⟩
    · obtain ⟨L, eL, _⟩ := pfx_eq l.base l.upPfx hb
      exact ⟨0x30, _, by rw [eL]; rfl, zero⟩

theorem special_not_int {s : Bytes} {b : Nat} (h : specialValue s = some b) : intSetString s = none := by
  cases hi : intSetString s with
  | none => rfl
  | some z =>
    obtain ⟨g, hw, rfl⟩ := intSetString_inv hi
    obtain ⟨c, cs, e, hc⟩ := gnat_head_dec g.mag hw
    have := (specialByte_facts c (special_bytes h c (by simp [GInt.render, e]))).2.2.2
    rw [isDec_iff.mpr hc] at this
    exact absurd this (by simp)

theorem parseFloat_special {s : Bytes} {b : Nat} (h : specialValue s = some b) : parseFloat s = some b := by
  unfold parseFloat
  rw [(special_full s b).mpr h]
  simp

theorem bits_of_not_overflows {l : FloatLit} (h : l.overflows = false) : l.bits = some l.ieeeBits := by
  simp only [FloatLit.overflows, decide_eq_false_iff_not] at h
  simp [FloatLit.bits, FloatLit.ieeeBits, h]

theorem bits_of_overflows {l : FloatLit} (h : l.overflows = true) : l.bits = none := by
  simp only [FloatLit.overflows, decide_eq_true_eq] at h
  simp [FloatLit.bits, h]

theorem overflows_of_bits {l : FloatLit} {f : Nat} (h : l.bits = some f) : l.overflows = false := by
  cases ho : l.overflows with
  | false => rfl
  | true => rw [bits_of_overflows ho] at h; exact absurd h (by simp)

/-- A float literal with a point or an exponent is no integer: the integer
grammar has no point, and the exponent letter is no digit of the base the
integer scanner would read the text in. -/
theorem intSetString_gfloat_marked (l : GFloatLit) (hp : GParts l) (hm : l.marked = true) :
    intSetString l.render = none := by
  cases hi : intSetString l.render with
  | none => rfl
  | some z =>
    exfalso
    cases hpt : l.point with
    | true =>
      have : (0x2E : UInt8) ∈ l.render := by simp [GFloatLit.render, GFloatLit.mantBytes, hpt]
      rw [intSetString_none_of_dot this] at hi
      exact absurd hi (by simp)
    | false =>
      rcases expBytes_cases l hp with ⟨hx, _, _⟩ | ⟨up, sg, ds, _, e, _⟩
      · simp [GFloatLit.marked, hpt, hx] at hm
      · obtain ⟨f1, f2, _⟩ := expLetter_facts _ _ (lower_expLetter l up)
        have hv : radixOf l.isHex ≤ digitVal (l.expLetter up) :=
          Nat.not_lt.mp (fun h => by rw [(isDigB_iff _ _).mpr h] at f1; exact absurd f1 (by simp))
        have hlet : l.expLetter up ∈ l.tailBytes := by simp [GFloatLit.tailBytes, e]
        -- the unsigned integer literal that the text after the sign would be
        obtain ⟨c0, t0, eb, hb⟩ := body_head l hp
        obtain ⟨b1, b2, _⟩ := headByte_facts c0 hb
        obtain ⟨⟨sg', g⟩, hw, hr⟩ := intSetString_inv hi
        obtain ⟨c', t', e', hc'⟩ := gnat_render_head g hw
        rw [GInt.render, grender_eq, eb, e'] at hr
        have hr : g.render = l.body := by rw [e', eb]; exact sign_append_inj hc' ⟨b1, b2⟩ hr
        have h10 := le_radixOf l.isHex
        rcases gnat_bytes g hw with ⟨base, up', t, hb', e', ht⟩ | hd
        · obtain ⟨L, eL, hL⟩ := pfx_eq base up' hb'
          rw [hr, eL] at e'
          cases hh : l.hex with
          | none =>
            -- a decimal float literal has no letter of a base prefix
            have hhex : l.isHex = false := by simp [GFloatLit.isHex, hh]
            have : L ∈ l.tailBytes := by
              simp only [GFloatLit.body, GFloatLit.pfx, hh, List.nil_append] at e'
              rw [e']; simp
            exact (decLitByte_facts _ (hhex ▸ litByte_tail l hp L this)).2.2.2 hL
          | some x =>
            -- a hexadecimal one is scanned in a base of at most 16, and `p` is the digit 25
            obtain ⟨upx, us⟩ := x
            have hhex : l.isHex = true := by simp [GFloatLit.isHex, hh]
            have : l.expLetter up ∈ t := by
              simp only [GFloatLit.body, GFloatLit.pfx, hh, List.cons_append, List.nil_append, List.cons.injEq] at e'
              rw [← e'.2.2]; simp [hlet]
            have hr16 := radix_le base
            rw [hhex] at hv
            rcases ht _ this with h | h
            · exact f2 h
            · simp only [radixOf, if_true] at hv; omega
        · rcases hd (l.expLetter up) (by rw [hr]; exact List.mem_append_right _ hlet) with h | h
          · exact f2 h
          · omega

theorem parseNum_gfloat (l : GFloatLit) (h : l.wf = true) (hm : l.marked = true) :
    parseNum l.render = l.lit.bits.map Num.float := by
  have hp := gparts_of_wf l h
  rw [parseNum_no_slash (slash_not_mem_glit l hp), intSetString_gfloat_marked l hp hm, parseFloat_glit l h]

/-- Accepted as an integer if the integer grammar takes the text (`123`), else as a float. -/
theorem parseNum_gfloat_some (l : GFloatLit) (h : l.wf = true) (hfin : l.lit.overflows = false) :
    (parseNum l.render).isSome = true := by
  have hp := gparts_of_wf l h
  rw [parseNum_no_slash (slash_not_mem_glit l hp)]
  cases intSetString l.render with
  | some z => rfl
  | none =>
    show ((parseFloat l.render).map Num.float).isSome = true
    rw [parseFloat_glit l h, bits_of_not_overflows hfin]
    rfl

theorem parseFloat_inv {s : Bytes} {f : Nat} (h : parseFloat s = some f) :
    specialValue s = some f ∨ ∃ g : GFloatLit, g.wf = true ∧ g.render = s ∧ g.lit.bits = some f := by
  unfold parseFloat at h
  split at h
  · rename_i bits n hsp
    by_cases hn : n = s.length
    · simp only [hn, if_true, Option.some.injEq] at h
      rw [hn, h] at hsp
      exact Or.inl ((special_full s f).mp hsp)
    · simp [hn] at h
  · split at h
    · simp at h
    · rename_i l hl
      obtain ⟨g, hw, hr, hv⟩ := (readFloat_iff s l).mp hl
      exact Or.inr ⟨g, hw, hr, hv ▸ h⟩

theorem slash_not_mem_of_parseFloat {s : Bytes} {f : Nat} (h : parseFloat s = some f) : (0x2F : UInt8) ∉ s := by
  rcases parseFloat_inv h with h | ⟨g, hw, rfl, _⟩
  · exact fun hm => (specialByte_facts _ (special_bytes h _ hm)).2.1 rfl
  · exact slash_not_mem_glit g (gparts_of_wf g hw)

theorem parseNum_float {r : Bytes} {f : Nat} (h2 : intSetString r = none) (h3 : parseFloat r = some f) :
    parseNum r = some (.float f) := by
  rw [parseNum_no_slash (slash_not_mem_of_parseFloat h3), h2, h3]
  rfl

theorem parseNum_special {s : Bytes} {b : Nat} (h : specialValue s = some b) : parseNum s = some (.float b) :=
  parseNum_float (special_not_int h) (parseFloat_special h)

theorem isNumber_of_parseNum {s : Bytes} {v : Num} (h : parseNum s = some v) : IsNumber s := by
  unfold parseNum at h
  split at h
  · rename_i a b hs
    obtain ⟨e, _⟩ := splitByte_some hs
    split at h
    · rename_i q hq
      unfold ratSetFrac at hq
      split at hq
      · rename_i n d hn hd
        obtain ⟨ga, hwa, hra⟩ := intSetString_inv hn
        obtain ⟨gb, hwb, hrb, hvb⟩ := (natScan_iff b d).mp hd
        by_cases hz : d = 0
        · simp [hz] at hq
        · right; left
          refine ⟨⟨ga, gb⟩, ?_, by rw [GRat.render, hra, hrb, e]⟩
          simp [GRat.wf, hwa, hwb, hvb, hz]
      · simp at hq
    · simp at h
  · split at h
    · rename_i z hz
      obtain ⟨g, hw, hr⟩ := intSetString_inv hz
      exact Or.inl ⟨g, hw, hr⟩
    · split at h
      · rename_i f hf
        rcases parseFloat_inv hf with hsp | ⟨g, hw, hr, hb⟩
        · exact Or.inr (Or.inr (Or.inr (by rw [hsp]; rfl)))
        · exact Or.inr (Or.inr (Or.inl ⟨g, hw, hr, overflows_of_bits hb⟩))
      · simp at h

theorem parseNum_of_isNumber {s : Bytes} (h : IsNumber s) : (parseNum s).isSome = true := by
  rcases h with ⟨g, hw, hr⟩ | ⟨g, hw, hr⟩ | ⟨g, hw, hr, hf⟩ | h
  · rw [← hr, parseNum_gint g hw]; rfl
  · rw [← hr, parseNum_grat g hw]; rfl
  · rw [← hr]; exact parseNum_gfloat_some g hw hf
  · obtain ⟨b, hb⟩ := Option.isSome_iff_exists.mp h
    rw [parseNum_special hb]; rfl

theorem parseNum_isSome_iff (s : Bytes) : (parseNum s).isSome = true ↔ IsNumber s := by
  constructor
  · intro h
    obtain ⟨v, hv⟩ := Option.isSome_iff_exists.mp h
    exact isNumber_of_parseNum hv
  · exact parseNum_of_isNumber

theorem parseNum_none_of_not_isNumber {s : Bytes} (h : ¬ IsNumber s) : parseNum s = none := by
  cases hp : parseNum s with
  | none => rfl
  | some v => exact absurd (isNumber_of_parseNum hp) h

theorem gint_numByte (g : GInt) (h : g.wf = true) : ∀ c ∈ g.render, NumByte c := by
  intro c hc
  rcases intSetString_all (intSetString_gint g h) c hc with h2 | h2 | h2
  · exact Or.inr (Or.inr (Or.inl h2))
  · exact Or.inr (Or.inl h2)
  · exact Or.inl h2

theorem gfloat_numByte (g : GFloatLit) (h : g.wf = true) : ∀ c ∈ g.render, NumByte c := by
  intro c hc
  rw [grender_eq, GFloatLit.body] at hc
  rcases List.mem_append.mp hc with hc | hc
  · cases hs : g.sign <;> simp [hs, Sign.bytes] at hc <;> subst hc
    · exact Or.inr (Or.inl rfl)
    · exact Or.inr (Or.inr (Or.inl rfl))
  · rcases List.mem_append.mp hc with hc | hc
    · have : ∀ x ∈ g.pfx, ScanByte x := by
        unfold GFloatLit.pfx ScanByte
        cases g.hex with
        | none => simp
        | some x => obtain ⟨up, us⟩ := x; cases up <;> cases us <;> decide
      exact Or.inl (this c hc)
    · exact (litByte_numByte (litByte_tail g (gparts_of_wf g h) c hc)).1

theorem parseNum_all {s : Bytes} {v : Num} (h : parseNum s = some v) : ∀ c ∈ s, NumByte c := by
  rcases isNumber_of_parseNum h with ⟨g, hw, rfl⟩ | ⟨g, hw, rfl⟩ | ⟨g, hw, rfl, _⟩ | hsp
  · exact gint_numByte g hw
  · simp only [GRat.wf, Bool.and_eq_true] at hw
    intro c hc
    rcases List.mem_append.mp hc with h1 | h1
    · exact gint_numByte g.num hw.1.1 c h1
    · rcases List.mem_cons.mp h1 with h2 | h2
      · exact Or.inr (Or.inr (Or.inr (Or.inr h2)))
      · exact Or.inl (gnat_scanByte g.den hw.1.2 c h2)
  · exact gfloat_numByte g hw
  · obtain ⟨b, hb⟩ := Option.isSome_iff_exists.mp hsp
    exact fun c hc => (specialByte_facts c (special_bytes hb c hc)).1

def DecFloatLit.toG (l : DecFloatLit) : GFloatLit := ⟨l.sign, none, some l.int, l.frac.isSome, l.frac, l.exp⟩

theorem toG_render (l : DecFloatLit) : l.toG.render = l.render := by
  obtain ⟨sign, int, frac, exp⟩ := l
  cases frac <;> cases exp <;>
    simp [DecFloatLit.toG, GFloatLit.render, GFloatLit.pfx, GFloatLit.mantBytes, GFloatLit.expBytes,
      GFloatLit.expLetter, GFloatLit.isHex, optRender, DecFloatLit.render]

theorem valRest_lt : ∀ (r : List (Bool × Dig)) (a : Nat), (∀ x ∈ r, x.2.val < 10) →
    valRest 10 a r < (a + 1) * 10 ^ r.length
  | [], a, _ => by simp [valRest]
  | (u, d) :: r, a, h => by
    have hd : d.val < 10 := h (u, d) (by simp)
    have ih := valRest_lt r (a * 10 + d.val) (fun x hx => h x (by simp [hx]))
    have : (a * 10 + d.val + 1) * 10 ^ r.length ≤ (a + 1) * 10 * 10 ^ r.length :=
      Nat.mul_le_mul_right _ (by omega)
    simp only [valRest, List.length_cons, Nat.pow_succ]
    rw [Nat.mul_comm (10 ^ r.length) 10, ← Nat.mul_assoc]
    omega

/-- at most four exponent digits: Go's cap does not bite -/
theorem capExp_of_len {e : Digits} (he : e.all isDecDig = true) (hl : e.len ≤ 4) : capExp e = e.value 10 := by
  apply capExp_eq
  have hd := digits_dec_of_all he
  have h1 := valRest_lt e.rest e.first.val (fun x hx => hd x (by simp [optList, hx]))
  have h2 : e.first.val < 10 := hd (false, e.first) (by simp [optList])
  have h3 : 10 ^ e.rest.length ≤ 10 ^ 3 := Nat.pow_le_pow_right (by omega) (by simp [Digits.len] at hl; omega)
  have h4 : (e.first.val + 1) * 10 ^ e.rest.length ≤ 10 * 10 ^ 3 := Nat.mul_le_mul (by omega) h3
  simp only [Digits.value]
  omega

theorem toG_of_wf (l : DecFloatLit) (h : l.wf = true) :
    l.toG.wf = true ∧ l.toG.marked = true ∧ l.toG.lit = l.lit := by
  obtain ⟨sign, int, frac, exp⟩ := l
  simp only [DecFloatLit.wf, Bool.and_eq_true, Bool.or_eq_true] at h
  obtain ⟨⟨⟨h1, h2⟩, h3⟩, h4⟩ := h
  have e10 : (fun d : Dig => decide (d.val < 10)) = isDecDig := rfl
  refine ⟨?_, ?_, ?_⟩
  · simp only [DecFloatLit.toG, GFloatLit.wf, GFloatLit.radix, GFloatLit.isHex, Option.isSome_none,
      Bool.false_eq_true, if_false, e10]
    cases frac <;> cases exp <;> simp_all [optAll]
  · cases frac <;> cases exp <;> simp_all [DecFloatLit.toG, GFloatLit.marked]
  · cases exp with
    | none =>
      cases frac <;>
        simp [DecFloatLit.toG, GFloatLit.lit, DecFloatLit.lit, GFloatLit.radix, GFloatLit.isHex, optVal, optLen,
          valRest, Digits.value]
    | some x =>
      obtain ⟨up, sg, e⟩ := x
      simp only [Bool.and_eq_true, decide_eq_true_eq] at h3
      have := capExp_of_len h3.1 h3.2
      cases frac <;>
        simp [DecFloatLit.toG, GFloatLit.lit, DecFloatLit.lit, GFloatLit.radix, GFloatLit.isHex, optVal, optLen,
          valRest, Digits.value, this]

theorem parseNum_decFloatLit (l : DecFloatLit) (h : l.wf = true) :
    parseNum l.render = l.lit.bits.map Num.float := by
  obtain ⟨hw, hm, hl⟩ := toG_of_wf l h
  rw [← toG_render, parseNum_gfloat _ hw hm, hl]

end C05
