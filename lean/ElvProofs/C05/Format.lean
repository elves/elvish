/-
elvish's `formatFloat64` over strconv's two shortest-digit outputs: the
`'f'`/`'e'` switch and the `.0` suffix.  What the shapes of those outputs give:
the integer grammar takes none of the strings produced, and `.0` does not
change the value.
-/
import ElvProofs.C05.Classify
namespace C05
open Go

theorem isDigits_mem {s : Bytes} (h : isDigits s = true) : ∀ c ∈ s, IsDecByte c := by
  intro c hc
  simp only [isDigits, Bool.and_eq_true, List.all_eq_true] at h
  exact isDec_iff.mp (h.2 c hc)

theorem renderRest_ofByte : ∀ (cs : Bytes), (∀ c ∈ cs, IsDecByte c) →
    renderRest (cs.map fun c => (false, Dig.ofByte c)) = cs ∧
    ∀ x ∈ cs.map (fun c => (false, Dig.ofByte c)), x.2.val < 10
  | [], _ => by simp [renderRest]
  | c :: cs, h => by
    obtain ⟨ih1, ih2⟩ := renderRest_ofByte cs (fun x hx => h x (by simp [hx]))
    have hc := h c (by simp)
    have hv : digitVal c < 10 := by rw [digitVal_dec hc]; unfold IsDecByte at hc; omega
    refine ⟨by simp [renderRest, ofByte_byte (c := c) (by omega), ih1], ?_⟩
    intro x hx
    rcases List.mem_cons.mp hx with e | e
    · rw [e]; exact hv
    · exact ih2 x e

theorem digits_of_isDigits {s : Bytes} (h : isDigits s = true) :
    ∃ ds : Digits, ds.render = s ∧ ds.all isDecDig = true := by
  have hd := isDigits_mem h
  match s, h with
  | c :: cs, _ =>
    obtain ⟨e, hr⟩ := renderRest_ofByte (c :: cs) hd
    refine ⟨⟨Dig.ofByte c, cs.map fun c => (false, Dig.ofByte c)⟩, by simpa [renderRest, Digits.render] using e, ?_⟩
    simp only [Digits.all, isDecDig, Bool.and_eq_true, decide_eq_true_eq, List.all_eq_true]
    exact ⟨hr (false, Dig.ofByte c) (by simp), fun x hx => hr x (by simp only [List.map_cons]; exact List.mem_cons_of_mem _ hx)⟩

theorem floatLit_value_dot0 (neg : Bool) (m : Nat) :
    ({ neg := neg, hex := false, mant := m * 10, frac := 1, exp := 0 } : FloatLit).value =
    ({ neg := neg, hex := false, mant := m, frac := 0, exp := 0 } : FloatLit).value := by
  simp [FloatLit.value]
  rw [Rat.mkRat_eq_iff (by omega) (by omega)]
  simp

theorem stripMinus_cases (s : Bytes) : s = stripMinus s ∨ s = 0x2D :: stripMinus s := by
  cases s with
  | nil => exact Or.inl rfl
  | cons c cs =>
    by_cases h : c = 0x2D
    · subst h; exact Or.inr (by simp [stripMinus])
    · exact Or.inl (by simp [stripMinus, h])

/-- Both texts are float literals, with mantissas `m·10` (one fraction digit) and `m`. -/
theorem parseFloat_dot0 (s : Bytes) (h : isDigits (stripMinus s) = true) :
    parseFloat (s ++ [0x2E, 0x30]) = parseFloat s := by
  obtain ⟨ds, er, hd⟩ := digits_of_isDigits h
  obtain ⟨sg, es⟩ : ∃ sg : Sign, s = sg.bytes ++ ds.render := by
    rcases stripMinus_cases s with e | e
    · exact ⟨.none, by rw [er]; exact e⟩
    · exact ⟨.minus, by rw [er]; exact e⟩
  have e10 : (fun d : Dig => decide (d.val < 10)) = isDecDig := rfl
  have w0 : (⟨sg, none, some ds, false, none, none⟩ : GFloatLit).wf = true := by
    simp [GFloatLit.wf, GFloatLit.radix, GFloatLit.isHex, optAll, e10, hd]
  have w1 : (⟨sg, none, some ds, true, some ⟨⟨0, false⟩, []⟩, none⟩ : GFloatLit).wf = true := by
    simp [GFloatLit.wf, GFloatLit.radix, GFloatLit.isHex, optAll, e10, hd]
    rfl
  have p0 := parseFloat_glit _ w0
  have p1 := parseFloat_glit _ w1
  have r0 : (⟨sg, none, some ds, false, none, none⟩ : GFloatLit).render = s := by
    simp [es, GFloatLit.render, GFloatLit.pfx, GFloatLit.mantBytes, GFloatLit.expBytes, optRender]
  have r1 : (⟨sg, none, some ds, true, some ⟨⟨0, false⟩, []⟩, none⟩ : GFloatLit).render = s ++ [0x2E, 0x30] := by
    simp [es, GFloatLit.render, GFloatLit.pfx, GFloatLit.mantBytes, GFloatLit.expBytes, optRender, Digits.render,
      renderRest, Dig.byte]
  rw [r0] at p0
  rw [r1] at p1
  rw [p0, p1]
  unfold FloatLit.bits
  simp only [GFloatLit.lit, GFloatLit.radix, GFloatLit.isHex, Option.isSome_none, Bool.false_eq_true, if_false,
    optVal, optLen, valRest, Digits.len, List.length_nil, Nat.zero_add, Nat.add_zero]
  rw [floatLit_value_dot0]

theorem fshape_no_dot {s : Bytes} (h : isFShape s = true) (hd : (0x2E : UInt8) ∉ s) :
    isDigits (stripMinus s) = true := by
  have hb : (0x2E : UInt8) ∉ stripMinus s := by
    rcases stripMinus_cases s with e | e
    · rw [← e]; exact hd
    · intro hm; exact hd (by rw [e]; exact List.mem_cons_of_mem _ hm)
  unfold isFShape at h
  simp only [splitByte_none hb] at h
  exact h

theorem eshape_inner_sign {s : Bytes} (h : isEShape s = true) :
    ∃ c cs, s = c :: cs ∧ ((0x2B : UInt8) ∈ cs ∨ (0x2D : UInt8) ∈ cs) := by
  unfold isEShape at h
  simp only at h
  split at h
  · simp at h
  · rename_i m ex hs
    obtain ⟨e, _⟩ := splitByte_some hs
    simp only [Bool.and_eq_true] at h
    obtain ⟨hm, hex⟩ := h
    match ex, hex with
    | sg :: ds, hex =>
      simp only [Bool.and_eq_true, Bool.or_eq_true, beq_iff_eq] at hex
      have hsign : ∀ pre : Bytes,
          (0x2B : UInt8) ∈ pre ++ 0x65 :: sg :: ds ∨ (0x2D : UInt8) ∈ pre ++ 0x65 :: sg :: ds := by
        intro pre
        rcases hex.1.1 with hsg | hsg <;> subst hsg <;> simp
      match m, hm with
      | m0 :: mt, _ =>
        rcases stripMinus_cases s with e1 | e1
        · exact ⟨m0, mt ++ 0x65 :: sg :: ds, by rw [e1, e]; rfl, hsign mt⟩
        · exact ⟨0x2D, stripMinus s, e1, by rw [e]; exact hsign (m0 :: mt)⟩

theorem wrapper_nan (sE : Bytes) (f : Nat) (h : isNaN f = true) : formatFloat64W nanStr sE f = nanStr := by
  simp [formatFloat64W, nanStr, h, hasPrefix, zeroPrefix]

theorem wrapper_pinf (sE : Bytes) : formatFloat64W pInfStr sE infBits = pInfStr := by
  simp [formatFloat64W, pInfStr, hasPrefix, zeroPrefix]; decide

theorem wrapper_ninf (sE : Bytes) : formatFloat64W nInfStr sE (signBit + infBits) = nInfStr := by
  simp [formatFloat64W, nInfStr, hasPrefix, zeroPrefix]; decide

theorem isInf_iff {f : Nat} (hf : f < 2 ^ 64) : isInf f = true ↔ (f = infBits ∨ f = signBit + infBits) := by
  unfold isInf infBits signBit
  simp only [decide_eq_true_eq]
  omega

theorem wrapper_finite (sF sE : Bytes) (f : Nat) (hn : isNaN f = false) (hi : isInf f = false) :
    formatFloat64W sF sE f =
      if ((!sF.contains 0x2E) && decide (14 < sF.length) && sF.getLast? == some 0x30) || hasPrefix sF zeroPrefix then sE
      else if !sF.contains 0x2E then sF ++ [0x2E, 0x30] else sF := by
  simp [formatFloat64W, hn, hi]

end C05
