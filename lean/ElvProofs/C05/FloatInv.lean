/-
Whatever `readFloat` accepts entirely is the rendering of a well-formed float literal
(`GFloatLit` of Grammar.lean).

`readFloat` itself lets underscores stand anywhere and only asks
`underscoreOK` at the end, when it has seen one.  So either the text has no
underscore, or `underscoreOK`'s loop holds of it; in both cases that loop cuts
the text into runs `d (_? d)*`, and the forward lemmas say what `readFloat`'s
loops do on such runs.
-/
import ElvProofs.C05.Float
namespace C05
open Go

theorem ofByte_digB {hex : Bool} {c : UInt8} (h : isDigB hex c = true) :
    (Dig.ofByte c).byte = c ∧ (Dig.ofByte c).val < radixOf hex := by
  have hv := (isDigB_iff hex c).mp h
  exact ⟨ofByte_byte (by have := radixOf_le hex; omega), hv⟩

theorem pfxLetter_facts (c : UInt8) (h : lower c = 0x62 ∨ lower c = 0x6F ∨ lower c = 0x78) :
    c ≠ 0x5F ∧ c ≠ 0x2E ∧ isDec c = false ∧ lower c ≠ 0x65 ∧ (lower c = 0x78 → c = 0x78 ∨ c = 0x58) := by
  refine ⟨?_, ?_, ?_, ?_, (lower_inv c).2.2.2.2⟩ <;>
    rcases (pfxLetter_iff c).mpr h with (e | e) | (e | e) | (e | e) <;> subst e <;> decide

def NoRunHead (hex : Bool) (t : Bytes) : Prop := ∀ c ∈ t.head?, isDigB hex c = false ∧ c ≠ 0x5F

/-- A text that `underscoreOK`'s loop accepts from state `saw` begins with a run `(_? d)*` (with
the pending `_` in front when `saw = .us`, and then not empty); the rest `t'` starts with neither
a digit nor `_`, and the loop accepts it from the state after the run. -/
theorem usLoop_run (hex : Bool) : ∀ (t : Bytes) (saw : Saw), usLoop hex saw t = true →
    ∃ (rest : List (Bool × Dig)) (t' : Bytes),
      (if saw = .us then [0x5F] else []) ++ t = renderRest rest ++ t' ∧
      (∀ x ∈ rest, x.2.val < radixOf hex) ∧
      (saw = .us → rest ≠ []) ∧
      (saw ≠ .digit → saw ≠ .us → ∀ x ∈ rest.head?, x.1 = false) ∧
      NoRunHead hex t' ∧
      usLoop hex (if rest.isEmpty then saw else .digit) t' = true
  | [], saw, h => by
    have hs : saw ≠ .us := by
      intro e; subst e; simp [usLoop] at h
    exact ⟨[], [], by simp [hs, renderRest], by simp, fun e => absurd e hs, by simp, by simp [NoRunHead], by simpa using h⟩
  | c :: cs, saw, h => by
    by_cases hd : isDigB hex c = true
    · rw [usLoop_digB hd] at h
      obtain ⟨r, t', e, hr, _, _, hn, hu⟩ := usLoop_run hex cs .digit h
      simp only [reduceCtorEq, if_false, List.nil_append] at e
      obtain ⟨g1, g2⟩ := ofByte_digB hd
      refine ⟨(decide (saw = .us), Dig.ofByte c) :: r, t', ?_, ?_, by simp, ?_, hn, ?_⟩
      · by_cases hq : saw = .us <;> simp [hq, renderRest, g1, e]
      · intro x hx
        rcases List.mem_cons.mp hx with e1 | e1
        · rw [e1]; exact g2
        · exact hr x e1
      · intro _ h2 x hx
        simp only [List.head?_cons, Option.mem_def, Option.some.injEq] at hx
        rw [← hx]; simp [h2]
      · have : (if r.isEmpty = true then Saw.digit else Saw.digit) = Saw.digit := by split <;> rfl
        rw [this] at hu
        simpa using hu
    · have hd' : isDigB hex c = false := by simpa using hd
      by_cases hc : c = 0x5F
      · subst hc
        have hsd : saw = .digit := by
          rw [usLoop] at h
          unfold isDigB at hd'
          cases saw <;> simp [hd'] at h ⊢
        rw [hsd, usLoop_us] at h
        obtain ⟨r, t', e, hr, hne, _, hn, hu⟩ := usLoop_run hex cs .us h
        have hne' := hne rfl
        refine ⟨r, t', ?_, hr, fun e' => by rw [hsd] at e'; exact absurd e' (by decide), ?_, hn, ?_⟩
        · simpa [hsd] using e
        · intro h1; exact absurd hsd h1
        · have : r.isEmpty = false := by cases r with
            | nil => exact absurd rfl hne'
            | cons _ _ => rfl
          simpa [this] using hu
      · have hs : saw ≠ .us := by
          intro e; subst e
          rw [usLoop] at h
          unfold isDigB at hd'
          simp [hd', hc] at h
        refine ⟨[], c :: cs, by simp [hs, renderRest], by simp, fun e => absurd e hs, by simp, ?_, by simpa using h⟩
        intro x hx
        simp only [List.head?_cons, Option.mem_def, Option.some.injEq] at hx
        rw [← hx]; exact ⟨hd', hc⟩

theorem usLoop_of_no_us (hex : Bool) : ∀ (t : Bytes) (saw : Saw), (0x5F : UInt8) ∉ t → saw ≠ .us →
    usLoop hex saw t = true
  | [], saw, _, hs => by simp [usLoop, hs]
  | c :: cs, saw, hn, hs => by
    have hc : c ≠ 0x5F := fun e => hn (by simp [e])
    have hn' : (0x5F : UInt8) ∉ cs := fun e => hn (by simp [e])
    by_cases hd : isDigB hex c = true
    · rw [usLoop_digB hd]; exact usLoop_of_no_us hex cs _ hn' (by decide)
    · rw [usLoop_other (by simpa using hd) hc hs]
      exact usLoop_of_no_us hex cs _ hn' (by decide)

def toOpt : List (Bool × Dig) → Option Digits
  | [] => none
  | (_, d) :: r => some ⟨d, r⟩

def headUs : List (Bool × Dig) → Bool
  | (u, _) :: _ => u
  | [] => false

theorem renderRest_toOpt (r : List (Bool × Dig)) :
    renderRest r = (if headUs r then [0x5F] else []) ++ optRender (toOpt r) := by
  cases r with
  | nil => simp [renderRest, headUs, toOpt, optRender]
  | cons x r => obtain ⟨u, d⟩ := x; cases u <;> simp [renderRest, headUs, toOpt, optRender, Digits.render]

theorem headUs_false {r : List (Bool × Dig)} (h : ∀ x ∈ r.head?, x.1 = false) : headUs r = false := by
  cases r with
  | nil => rfl
  | cons x r => exact h x (by simp)

theorem optAll_toOpt {b : Nat} {r : List (Bool × Dig)} (h : ∀ x ∈ r, x.2.val < b) :
    optAll (fun d => decide (d.val < b)) (toOpt r) = true := by
  cases r with
  | nil => rfl
  | cons x r =>
    simp only [toOpt, optAll, Digits.all, Bool.and_eq_true, decide_eq_true_eq, List.all_eq_true]
    exact ⟨h x (by simp), fun y hy => h y (by simp [hy])⟩

theorem toOpt_isSome (r : List (Bool × Dig)) : (toOpt r).isSome = !r.isEmpty := by
  cases r <;> simp [toOpt]

theorem mantLoop_step (hex : Bool) (st : MantSt) (c : UInt8) (cs : Bytes) :
    mantLoop hex st (c :: cs) = (st, c :: cs) ∨
    ∃ st2 : MantSt, mantLoop hex st (c :: cs) = mantLoop hex st2 cs ∧
      st2.underscores = (st.underscores || (0x5F : UInt8) == c) := by
  by_cases h1 : c = 0x5F
  · subst h1; exact Or.inr ⟨_, mantLoop_us, by simp⟩
  · have hb : ((0x5F : UInt8) == c) = false := by rw [beq_eq_false_iff_ne]; exact fun e => h1 e.symm
    rw [hb, Bool.or_false]
    by_cases hd : isDigB hex c = true
    · obtain ⟨g1, g2⟩ := ofByte_digB hd
      have := mantLoop_dig (st := st) (t := cs) g2
      rw [g1] at this
      exact Or.inr ⟨_, this, rfl⟩
    · by_cases h2 : c = 0x2E
      · subst h2
        cases hs : st.sawdot with
        | true => exact Or.inl (mantLoop_stop (dot_not_digB hex) (by decide) (Or.inr hs))
        | false => exact Or.inr ⟨_, mantLoop_dot hs, rfl⟩
      · exact Or.inl (mantLoop_stop (by simpa using hd) h1 (Or.inl h2))

theorem mantLoop_flag (hex : Bool) : ∀ (t : Bytes) (st : MantSt),
    ∃ pre, t = pre ++ (mantLoop hex st t).2 ∧
      (mantLoop hex st t).1.underscores = (st.underscores || pre.contains 0x5F)
  | [], st => ⟨[], by simp [mantLoop]⟩
  | c :: cs, st => by
    rcases mantLoop_step hex st c cs with e | ⟨st2, e, h2⟩
    · exact ⟨[], by rw [e]; simp⟩
    · obtain ⟨pre, e1, e2⟩ := mantLoop_flag hex cs st2
      exact ⟨c :: pre, by rw [e, List.cons_append, ← e1], by rw [e, e2, h2, List.contains_cons, Bool.or_assoc]⟩

theorem expLoop_flag : ∀ (t : Bytes) (e : Nat) (us : Bool), (expLoop e us t).2.2 = [] →
    (∀ c ∈ t, isDec c = true ∨ c = 0x5F) ∧ (expLoop e us t).2.1 = (us || t.contains 0x5F)
  | [], e, us, _ => by simp [expLoop]
  | c :: cs, e, us, h => by
    rw [expLoop] at h ⊢
    by_cases h1 : c = 0x5F
    · simp only [h1, if_true] at h ⊢
      obtain ⟨ih1, ih2⟩ := expLoop_flag cs e true h
      exact ⟨by simpa using ih1, by rw [ih2]; simp⟩
    · simp only [h1, if_false] at h ⊢
      by_cases h3 : isDec c = true
      · simp only [h3, if_true] at h ⊢
        obtain ⟨ih1, ih2⟩ := expLoop_flag cs _ us h
        have hb : ((0x5F : UInt8) == c) = false := by rw [beq_eq_false_iff_ne]; exact fun e => h1 e.symm
        exact ⟨by simpa [h3] using ih1, by rw [ih2, List.contains_cons, hb, Bool.false_or]⟩
      · simp [h3] at h

theorem readExp_shape {neg hex : Bool} {st : MantSt} {rest s : Bytes} {l : FloatLit}
    (h : readExp neg hex st rest s = some l) :
    (rest = [] ∧ hex = false) ∨
    ∃ (e : UInt8) (sg : Sign) (d : UInt8) (more : Bytes),
      rest = e :: (sg.bytes ++ d :: more) ∧ lower e = (if hex then 0x70 else 0x65) ∧ isDec d = true ∧
      ∀ c ∈ d :: more, isDec c = true ∨ c = 0x5F := by
  cases rest with
  | nil =>
    refine Or.inl ⟨rfl, ?_⟩
    cases hex with
    | false => rfl
    | true => simp [readExp] at h
  | cons e r =>
    obtain ⟨he, sg, d, more, rfl, hd⟩ := readExp_some_cons h
    rw [readExp_exp sg he hd] at h
    by_cases hr : (expLoop 0 st.underscores (d :: more)).2.2 = []
    · exact Or.inr ⟨e, sg, d, more, rfl, he, hd, (expLoop_flag _ _ _ hr).1⟩
    · simp [hr] at h

theorem readExp_uok {neg hex : Bool} {st : MantSt} {rest s : Bytes} {l : FloatLit}
    (h : readExp neg hex st rest s = some l) (hus : st.underscores = true ∨ (0x5F : UInt8) ∈ rest) :
    underscoreOK s = true := by
  cases hk : underscoreOK s with
  | true => rfl
  | false =>
    exfalso
    cases rest with
    | nil =>
      have hu : st.underscores = true := hus.elim id (by simp)
      simp [readExp, hu, hk] at h
    | cons e r =>
      obtain ⟨he, sg, d, more, rfl, hd⟩ := readExp_some_cons h
      rw [readExp_exp sg he hd] at h
      by_cases hr : (expLoop 0 st.underscores (d :: more)).2.2 = []
      · have hf : (expLoop 0 st.underscores (d :: more)).2.1 = true := by
          rw [(expLoop_flag _ _ _ hr).2]
          rcases hus with hu | hm
          · simp [hu]
          · have : (0x5F : UInt8) ∈ d :: more := by
              rcases List.mem_cons.mp hm with h1 | h1
              · exact absurd h1.symm (expLetter_facts hex e he).2.1
              · rcases List.mem_append.mp h1 with h2 | h2
                · cases sg <;> simp [Sign.bytes] at h2
                · exact h2
            rw [List.contains_iff_mem.mpr this, Bool.or_true]
        simp [hr, hf, hk] at h
      · simp [hr] at h

theorem mantLoop_stop_norun {hex : Bool} {st : MantSt} {t : Bytes} (hn : NoRunHead hex t)
    (hd : st.sawdot = true ∨ ∀ c ∈ t.head?, c ≠ 0x2E) : mantLoop hex st t = (st, t) := by
  cases t with
  | nil => rfl
  | cons c cs =>
    obtain ⟨h1, h2⟩ := hn c (by simp)
    exact mantLoop_stop h1 h2 (hd.elim Or.inr (fun h => Or.inl (h c (by simp))))

theorem usLoop_of_read (hex : Bool) {neg : Bool} {T s rest : Bytes} {st : MantSt} {l : FloatLit} {saw0 : Saw}
    (hs0 : saw0 ≠ .us) (hm : mantLoop hex st00 T = (st, rest))
    (hre : readExp neg hex st rest s = some l)
    (hU : underscoreOK s = true → usLoop hex saw0 T = true) : usLoop hex saw0 T = true := by
  by_cases hT : (0x5F : UInt8) ∈ T
  · apply hU
    apply readExp_uok hre
    obtain ⟨pre, eT, hf⟩ := mantLoop_flag hex T st00
    simp only [hm] at eT hf
    rw [eT] at hT
    rcases List.mem_append.mp hT with h | h
    · exact Or.inl (by rw [hf, List.contains_iff_mem.mpr h, Bool.or_true])
    · exact Or.inr h
  · exact usLoop_of_no_us hex T saw0 hT hs0

theorem mant_shape (hex : Bool) {T rest : Bytes} {st : MantSt} {saw0 : Saw} (hs0 : saw0 ≠ .us)
    (hm : mantLoop hex st00 T = (st, rest)) (hus : usLoop hex saw0 T = true) :
    ∃ (r1 r2 : List (Bool × Dig)) (point : Bool) (saw2 : Saw),
      T = renderRest r1 ++ ((if point then [0x2E] else []) ++ (renderRest r2 ++ rest)) ∧
      (∀ x ∈ r1, x.2.val < radixOf hex) ∧ (∀ x ∈ r2, x.2.val < radixOf hex) ∧
      (saw0 ≠ .digit → headUs r1 = false) ∧ headUs r2 = false ∧ (point = false → r2 = []) ∧
      st.sawdigits = (!r1.isEmpty || !r2.isEmpty) ∧
      saw2 ≠ .us ∧ usLoop hex saw2 rest = true := by
  obtain ⟨r1, t1, e1, hr1, _, hh1, hn1, hu1⟩ := usLoop_run hex T saw0 hus
  simp only [hs0, if_false, List.nil_append] at e1
  have hsaw1 : (if r1.isEmpty = true then saw0 else Saw.digit) ≠ .us := by
    split
    · exact hs0
    · decide
  have hm1 := hm
  rw [e1, mantLoop_renderRest hex t1 r1 _ hr1] at hm1
  by_cases hdot : ∃ t1', t1 = 0x2E :: t1'
  · obtain ⟨t1', et⟩ := hdot
    rw [et] at hu1 hm1
    rw [usLoop_other (dot_not_digB hex) (by decide) hsaw1] at hu1
    obtain ⟨r2, t2, e2, hr2, _, hh2, hn2, hu2⟩ := usLoop_run hex t1' .bang hu1
    simp only [reduceCtorEq, if_false, List.nil_append] at e2
    rw [mantLoop_dot rfl, e2, mantLoop_renderRest hex t2 r2 _ hr2, mantLoop_stop_norun hn2 (Or.inl rfl)] at hm1
    simp only [Prod.mk.injEq] at hm1
    obtain ⟨hst, hrest⟩ := hm1
    refine ⟨r1, r2, true, (if r2.isEmpty then .bang else .digit), ?_, hr1, hr2, ?_,
      headUs_false (hh2 (by decide) (by decide)), by simp, ?_, by split <;> decide, by rw [← hrest]; exact hu2⟩
    · rw [e1, et, e2, hrest]; simp
    · intro h; exact headUs_false (hh1 h hs0)
    · rw [← hst]; simp [st00]
  · have hnd : ∀ c ∈ t1.head?, c ≠ 0x2E := by
      intro c hc e
      cases t1 with
      | nil => simp at hc
      | cons a t =>
        simp only [List.head?_cons, Option.mem_def, Option.some.injEq] at hc
        exact hdot ⟨t, by rw [hc, e]⟩
    rw [mantLoop_stop_norun hn1 (Or.inr hnd)] at hm1
    simp only [Prod.mk.injEq] at hm1
    obtain ⟨hst, hrest⟩ := hm1
    refine ⟨r1, [], false, _, ?_, hr1, by simp, ?_, rfl, fun _ => rfl, ?_, hsaw1, by rw [← hrest]; exact hu1⟩
    · rw [e1, hrest]; simp [renderRest]
    · intro h; exact headUs_false (hh1 h hs0)
    · rw [← hst]; simp [st00]

theorem exp_shape (hex : Bool) {neg : Bool} {st : MantSt} {rest s : Bytes} {l : FloatLit}
    (hre : readExp neg hex st rest s = some l) {saw2 : Saw} (hs2 : saw2 ≠ .us)
    (hus : usLoop hex saw2 rest = true) :
    (rest = [] ∧ hex = false) ∨
    ∃ (e : UInt8) (sg : Sign) (ds : Digits), rest = e :: (sg.bytes ++ ds.render) ∧
      lower e = (if hex then 0x70 else 0x65) ∧ ds.all isDecDig = true := by
  rcases readExp_shape hre with h | ⟨e, sg, d, more, hr, hle, hd, hall⟩
  · exact Or.inl h
  · right
    obtain ⟨hedig, he_us, _⟩ := expLetter_facts hex e hle
    rw [hr, usLoop_other hedig he_us hs2] at hus
    rw [usLoop_sign] at hus
    obtain ⟨r3, t3, e3, hr3, _, hh3, hn3, _⟩ := usLoop_run hex (d :: more) .bang hus
    simp only [reduceCtorEq, if_false, List.nil_append] at e3
    have ht3 : t3 = [] := by
      cases t3 with
      | nil => rfl
      | cons c t =>
        exfalso
        obtain ⟨n1, n2⟩ := hn3 c (by simp)
        have hc : c ∈ d :: more := by rw [e3]; simp
        rcases hall c hc with h | h
        · unfold isDigB at n1; simp [h] at n1
        · exact n2 h
    rw [ht3, List.append_nil] at e3
    -- the digits of the run are decimal: their bytes are among those the exponent loop took
    have hdec : ∀ x ∈ r3, x.2.val < 10 := by
      intro x hx
      have hb := byte_mem_renderRest r3 x hx
      rw [← e3] at hb
      have h16 : x.2.val < 16 := by have := hr3 x hx; have := radixOf_le hex; omega
      obtain ⟨hv, f1, _⟩ := dig_facts x.2 h16
      rcases hall _ hb with h | h
      · have := (isDigB_iff false x.2.byte).mp (by unfold isDigB; simp [h])
        rw [hv] at this; exact this
      · exact absurd h f1
    cases r3 with
    | nil => simp [renderRest] at e3
    | cons x r3' =>
      obtain ⟨u, d3⟩ := x
      have hu : u = false := hh3 (by decide) (by decide) (u, d3) (by simp)
      subst hu
      refine ⟨e, sg, ⟨d3, r3'⟩, ?_, hle, ?_⟩
      · rw [hr, e3]; simp [renderRest, Digits.render]
      · simp only [Digits.all, isDecDig, Bool.and_eq_true, decide_eq_true_eq, List.all_eq_true]
        exact ⟨hdec (false, d3) (by simp), fun y hy => hdec y (by simp [hy])⟩

/-- the core of the inversion: the text after sign and base prefix -/
theorem read_core (sign : Sign) (hxo : Option Bool) {neg : Bool} {T s rest : Bytes} {st : MantSt} {l : FloatLit}
    (hm : mantLoop hxo.isSome st00 T = (st, rest)) (hsd : st.sawdigits = true)
    (hre : readExp neg hxo.isSome st rest s = some l)
    (hU : underscoreOK s = true → usLoop hxo.isSome (if hxo.isSome then .digit else .start) T = true) :
    ∃ g : GFloatLit, g.wf = true ∧ g.sign = sign ∧ (∃ usp, g.hex = hxo.map (fun up => (up, usp))) ∧
      (if g.usPfx then [0x5F] else []) ++ g.tailBytes = T := by
  have hs0 : (if hxo.isSome = true then Saw.digit else Saw.start) ≠ .us := by split <;> decide
  have hus := usLoop_of_read hxo.isSome hs0 hm hre hU
  obtain ⟨r1, r2, point, saw2, eT, hr1, hr2, hh1, hh2, hpt, hsawd, hs2, hus2⟩ := mant_shape hxo.isSome hs0 hm hus
  have hexp := exp_shape hxo.isSome hre hs2 hus2
  -- the exponent of the literal and its bytes
  obtain ⟨exp, hexpb, hexpd, hexph⟩ : ∃ exp : Option (Bool × Sign × Digits),
      (∀ g : GFloatLit, g.isHex = hxo.isSome → g.exp = exp → g.expBytes = rest) ∧
      (match exp with | some (_, _, e) => e.all isDecDig | none => true) = true ∧
      (hxo.isSome = true → exp.isSome = true) := by
    rcases hexp with ⟨hr, hh⟩ | ⟨e, sg, ds, hr, hle, hd⟩
    · exact ⟨none, fun g _ hg => by simp [GFloatLit.expBytes, hg, hr], rfl, fun h => by rw [hh] at h; exact absurd h (by simp)⟩
    · refine ⟨some (decide (e = 0x45 ∨ e = 0x50), sg, ds), ?_, hd, fun _ => rfl⟩
      intro g hg hge
      simp only [GFloatLit.expBytes, hge, hr, List.cons.injEq, and_true]
      unfold GFloatLit.expLetter
      rw [hg]
      have := (expLetter_facts _ e hle).2.2.2
      cases hx : hxo.isSome <;> rw [hx] at this <;> rcases this with h | h <;> subst h <;> decide
  let g : GFloatLit := ⟨sign, hxo.map (fun up => (up, headUs r1)), toOpt r1, point, toOpt r2, exp⟩
  have gh : g.isHex = hxo.isSome := by simp [g, GFloatLit.isHex]
  have gus : g.usPfx = headUs r1 := by
    cases hx : hxo with
    | none =>
      have : headUs r1 = false := hh1 (by simp [hx])
      simp [g, GFloatLit.usPfx, hx, this]
    | some up => cases hu : headUs r1 <;> simp [g, GFloatLit.usPfx, hx, hu]
  refine ⟨g, ?_, rfl, ⟨headUs r1, rfl⟩, ?_⟩
  ·
    simp only [GFloatLit.wf, Bool.and_eq_true, Bool.or_eq_true, Bool.not_eq_true']
    have hrad : g.radix = radixOf hxo.isSome := by simp [GFloatLit.radix, gh, radixOf]
    refine ⟨⟨⟨⟨⟨⟨?_, ?_⟩, hexpd⟩, ?_⟩, ?_⟩, ?_⟩, ?_⟩
    · rw [hrad]; exact optAll_toOpt hr1
    · rw [hrad]; exact optAll_toOpt hr2
    · show (toOpt r1).isSome = true ∨ (toOpt r2).isSome = true
      rw [toOpt_isSome, toOpt_isSome]
      rw [hsd] at hsawd
      simpa [Bool.or_eq_true] using hsawd.symm
    · show (toOpt r2).isSome = false ∨ point = true
      cases hp : point with
      | true => exact Or.inr rfl
      | false => left; rw [hpt hp]; rfl
    · show g.isHex = false ∨ exp.isSome = true
      rw [gh]
      cases hx : hxo.isSome with
      | false => exact Or.inl rfl
      | true => exact Or.inr (hexph hx)
    · cases hx : hxo with
      | none => simp [g, hx]
      | some up =>
        cases hu : headUs r1 with
        | false => simp [g, hx, hu]
        | true =>
          simp only [g, hx, hu, Option.map_some]
          cases r1 with
          | nil => simp [headUs] at hu
          | cons _ _ => simp [toOpt]
  · rw [gus, eT]
    have e1 := renderRest_toOpt r1
    have e2 := renderRest_toOpt r2
    rw [hh2] at e2
    simp only [Bool.false_eq_true, if_false, List.nil_append] at e2
    rw [e1, e2]
    simp only [GFloatLit.tailBytes, GFloatLit.mantBytes, hexpb g gh rfl, List.append_assoc]
    rfl

theorem readBody_inv {neg : Bool} {body s : Bytes} {l : FloatLit} (sign : Sign) (hs : s = sign.bytes ++ body)
    (hns : sign = .none → ∀ c ∈ body.head?, c ≠ 0x2D ∧ c ≠ 0x2B)
    (h : readBody neg body s = some l) : ∃ g : GFloatLit, g.wf = true ∧ g.render = s := by
  have huok : underscoreOK s = uokBody body := by rw [hs]; exact underscoreOK_sign sign body hns
  rw [readBody_eq] at h
  split at h
  · simp at h
  rename_i hsd
  simp only [Bool.not_eq_true, Bool.not_eq_false'] at hsd
  rcases hexPrefix_cases body with hx | ⟨c1, T, eb, hl, hx⟩
  ·
    rw [hx] at h hsd
    have hU : underscoreOK s = true → usLoop false .start body = true := by
      intro hu
      rw [huok] at hu
      unfold uokBody at hu
      split at hu
      · rename_i c0 c1 cs
        split at hu
        · -- a `0b`/`0o` prefix is no float: the mantissa loop stops at the letter, which is no exponent letter
          rename_i hc
          exfalso
          obtain ⟨f1, f2, f3, f4, _⟩ := pfxLetter_facts c1 hc.2
          have hm : mantLoop false st00 (c0 :: c1 :: cs) =
              ({ st00 with sawdigits := true, mant := st00.mant * radixOf false + 0 }, c1 :: cs) := by
            rw [hc.1, show (0x30 : UInt8) = (⟨0, false⟩ : Dig).byte from rfl, mantLoop_dig (by decide),
              mantLoop_stop (by unfold isDigB; simp [f3]) f1 (Or.inl f2)]
            rfl
          rw [hm] at h
          exact f4 (readExp_some_cons h).1
        · exact hu
      · exact hu
    obtain ⟨g, hw, hsg, ⟨usp, hgh⟩, hT⟩ := read_core sign none (T := body) (s := s)
      (show mantLoop (none : Option Bool).isSome st00 body = (_, _) from Prod.ext rfl rfl) hsd h
      (by simpa using hU)
    refine ⟨g, hw, ?_⟩
    simp only [Option.map_none] at hgh
    have hus : g.usPfx = false := by simp [GFloatLit.usPfx, hgh]
    rw [hus] at hT
    simp only [Bool.false_eq_true, if_false, List.nil_append] at hT
    rw [hs, GFloatLit.render, hsg, ← hT]
    simp [GFloatLit.pfx, hgh, GFloatLit.tailBytes]
  ·
    rw [hx] at h hsd
    have hU : underscoreOK s = true → usLoop true .digit T = true := by
      intro hu
      rw [huok, eb] at hu
      simpa [uokBody, hl] using hu
    obtain ⟨g, hw, hsg, ⟨usp, hgh⟩, hT⟩ := read_core sign (some (decide (c1 = 0x58))) (T := T) (s := s)
      (show mantLoop (some (decide (c1 = 0x58))).isSome st00 T = (_, _) from Prod.ext rfl rfl) hsd h
      (by simpa using hU)
    refine ⟨g, hw, ?_⟩
    simp only [Option.map_some] at hgh
    have hus : g.usPfx = usp := by cases usp <;> simp [GFloatLit.usPfx, hgh]
    rw [hus] at hT
    have hc1 : (if c1 = 0x58 then (0x58 : UInt8) else 0x78) = c1 := by
      rcases (pfxLetter_facts c1 (Or.inr (Or.inr hl))).2.2.2.2 hl with h' | h' <;> subst h' <;> decide
    rw [hs, GFloatLit.render, hsg, eb, ← hT]
    simp [GFloatLit.pfx, hgh, GFloatLit.tailBytes, hc1]

theorem readFloat_inv {s : Bytes} {l : FloatLit} (h : readFloat s = some l) :
    ∃ g : GFloatLit, g.wf = true ∧ g.render = s := by
  cases s with
  | nil => simp [readFloat] at h
  | cons c cs =>
    simp only [readFloat] at h
    by_cases h1 : c = 0x2D
    · subst h1
      simp only [true_or, if_true] at h
      exact readBody_inv (body := cs) .minus rfl (by simp) h
    · by_cases h2 : c = 0x2B
      · subst h2
        simp only [or_true, if_true] at h
        exact readBody_inv (body := cs) .plus rfl (by simp) h
      · simp only [h1, h2, or_self, if_false] at h
        exact readBody_inv (body := c :: cs) .none rfl (fun _ x hx => by
          simp only [List.head?_cons, Option.mem_def, Option.some.injEq] at hx
          rw [← hx]; exact ⟨h1, h2⟩) h

theorem readFloat_iff (s : Bytes) (l : FloatLit) :
    readFloat s = some l ↔ ∃ g : GFloatLit, g.wf = true ∧ g.render = s ∧ g.lit = l := by
  constructor
  · intro h
    obtain ⟨g, hw, hr⟩ := readFloat_inv h
    refine ⟨g, hw, hr, ?_⟩
    have := readFloat_glit g hw
    rw [hr, h] at this
    simpa using this.symm
  · rintro ⟨g, hw, hr, hv⟩
    rw [← hr, ← hv]; exact readFloat_glit g hw

end C05
