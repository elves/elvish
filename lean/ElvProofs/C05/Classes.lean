/-
Rejection classes proved directly on the model: sign errors and malformed fractions.
-/
import ElvProofs.C05.Classify
namespace C05
open Go

theorem ratSetFrac_none_of_den {a b : Bytes} (h : ∀ d, natScan b ≠ some (d, [])) : ratSetFrac a b = none := by
  unfold ratSetFrac
  split
  · rename_i n d hn hd; exact absurd hd (h d)
  · rfl

theorem ratSetFrac_none_of_num {a b : Bytes} (h : intSetString a = none) : ratSetFrac a b = none := by
  unfold ratSetFrac
  split
  · rename_i n d hn hd; rw [h] at hn; exact absurd hn (by simp)
  · rfl

theorem parseNum_frac {a b : Bytes} (ha : (0x2F : UInt8) ∉ a) (h : ratSetFrac a b = none) :
    parseNum (a ++ 0x2F :: b) = none := by
  rw [parseNum_slash _ ha, h]; rfl

theorem natScan_sign (sg : UInt8) (hs : sg = 0x2B ∨ sg = 0x2D) (x : Bytes) (d : Nat) :
    natScan (sg :: x) ≠ some (d, []) := by
  rcases hs with hs | hs <;> subst hs <;>
    simp [natScan, scanLoop, scanFinish, show digitVal 0x2B = 63 by decide, show digitVal 0x2D = 63 by decide]

theorem strip_sign {a : UInt8} (ha : a = 0x2B ∨ a = 0x2D) {t : Bytes} :
    (if a = 0x2D ∨ a = 0x2B then t else a :: t) = t := by
  rcases ha with ha | ha <;> simp [ha]

theorem intSetString_double_sign (a b : UInt8) (ha : a = 0x2B ∨ a = 0x2D) (hb : b = 0x2B ∨ b = 0x2D)
    (x : Bytes) : intSetString (a :: b :: x) = none := by
  apply intSetString_none_of_natScan
  rw [strip_sign ha]
  exact natScan_sign b hb x

theorem readBody_sign (neg : Bool) (sg : UInt8) (hs : sg = 0x2B ∨ sg = 0x2D) (x s : Bytes) :
    readBody neg (sg :: x) s = none := by
  have hx : hexPrefix (sg :: x) = (false, sg :: x) := by
    rcases hexPrefix_cases (sg :: x) with h | ⟨c1, t, e, _, _⟩
    · exact h
    · simp only [List.cons.injEq] at e
      rcases hs with hs | hs <;> rw [hs] at e <;> exact absurd e.1 (by decide)
  have : mantLoop false st00 (sg :: x) = (st00, sg :: x) := by
    rcases hs with hs | hs <;> subst hs
    · exact mantLoop_stop (sign_not_digB _).1 (by decide) (Or.inl (by decide))
    · exact mantLoop_stop (sign_not_digB _).2 (by decide) (Or.inl (by decide))
  rw [readBody_eq, hx, this]
  rfl

theorem parseFloat_double_sign (a b : UInt8) (ha : a = 0x2B ∨ a = 0x2D) (hb : b = 0x2B ∨ b = 0x2D)
    (x : Bytes) : parseFloat (a :: b :: x) = none := by
  have hsp : special (a :: b :: x) = none := by
    rcases ha with ha | ha <;> rcases hb with hb | hb <;> subst ha <;> subst hb <;>
      simp [special, specialInf, commonPrefixLen, infinityLit]
  unfold parseFloat
  rw [hsp]
  simp only [readFloat]
  rw [strip_sign ha, readBody_sign _ b hb]

theorem parseNum_double_sign (a b : UInt8) (ha : a = 0x2B ∨ a = 0x2D) (hb : b = 0x2B ∨ b = 0x2D)
    (x : Bytes) : parseNum (a :: b :: x) = none := by
  have na : a ≠ 0x2F := by rcases ha with h | h <;> rw [h] <;> decide
  have nb : b ≠ 0x2F := by rcases hb with h | h <;> rw [h] <;> decide
  unfold parseNum splitSlash
  cases hsp : splitByte 0x2F (a :: b :: x) with
  | none =>
    simp only
    rw [intSetString_double_sign a b ha hb, parseFloat_double_sign a b ha hb]
  | some p =>
    obtain ⟨p1, p2⟩ := p
    obtain ⟨e, hn⟩ := splitByte_some hsp
    simp only
    -- the numerator starts with the two signs
    have : ∃ p', p1 = a :: b :: p' := by
      cases p1 with
      | nil => simp at e; exact absurd e.1 na
      | cons c1 r1 =>
        cases r1 with
        | nil => simp at e; exact absurd e.2.1 nb
        | cons c2 r2 => simp at e; exact ⟨r2, by rw [e.1, e.2.1]⟩
    obtain ⟨p', hp⟩ := this
    rw [ratSetFrac_none_of_num (by rw [hp]; exact intSetString_double_sign a b ha hb p')]

theorem parseNum_signed_den (a : Bytes) (ha : (0x2F : UInt8) ∉ a) (sg : UInt8) (hs : sg = 0x2B ∨ sg = 0x2D)
    (x : Bytes) : parseNum (a ++ 0x2F :: sg :: x) = none :=
  parseNum_frac ha (ratSetFrac_none_of_den (natScan_sign sg hs x))

theorem parseNum_empty_den (a : Bytes) (ha : (0x2F : UInt8) ∉ a) : parseNum (a ++ [0x2F]) = none :=
  parseNum_frac ha (ratSetFrac_none_of_den (by simp [natScan]))

theorem parseNum_empty_num (b : Bytes) : parseNum (0x2F :: b) = none := by
  have := parseNum_frac (a := []) (b := b) (by simp) (ratSetFrac_none_of_num (by simp [intSetString]))
  simpa using this

theorem parseNum_second_slash (a b : Bytes) (ha : (0x2F : UInt8) ∉ a) (hb : (0x2F : UInt8) ∈ b) :
    parseNum (a ++ 0x2F :: b) = none := by
  apply parseNum_frac ha
  apply ratSetFrac_none_of_den
  intro d hd
  exact not_scanByte_slash (natScan_all hd _ hb)

end C05
