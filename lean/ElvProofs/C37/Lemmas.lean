/-
The model's `lastLine`/`countNL`/`firstLine`/`endsNL` against the structurally recursive spec
functions of `ElvModel/C37/Spec.lean`, and what the spec functions compute on an appended text.
-/
import ElvModel.C37.Model
import ElvModel.C37.Spec
import ElvProofs.Lemmas.Res
namespace C37
open Go C37.Spec


theorem countNL_eq (s : Bytes) : countNL s = newlines s := by
  induction s with
  | nil => rfl
  | cons b s ih =>
    rw [countNL, List.count_cons, ← countNL, ih]
    by_cases h : b = 10 <;> simp [newlines, NL, h]

theorem newlines_append (a b : Bytes) : newlines (a ++ b) = newlines a + newlines b := by
  simp only [← countNL_eq, countNL, List.count_append]

theorem newlines_eq_zero_iff (s : Bytes) : newlines s = 0 ↔ ∀ x ∈ s, x ≠ 10 := by
  rw [← countNL_eq, countNL, List.count_eq_zero, NL]
  exact ⟨fun h x hx e => h (e ▸ hx), fun h hm => h 10 hm rfl⟩


theorem takeWhile_length_eq_iff {α} (p : α → Bool) (l : List α) :
    (l.takeWhile p).length = l.length ↔ ∀ x ∈ l, p x = true := by
  induction l with
  | nil => simp
  | cons x l ih => by_cases hx : p x = true <;> simp [hx, ih]

theorem lastLine_append (a b : Bytes) :
    lastLine (a ++ b) = if newlines b = 0 then lastLine a ++ b else lastLine b := by
  have hc : (b.reverse.takeWhile (· != NL)).length = b.reverse.length ↔ newlines b = 0 := by
    rw [takeWhile_length_eq_iff, newlines_eq_zero_iff]
    simp [NL]
  unfold lastLine
  rw [List.reverse_append, List.takeWhile_append]
  by_cases h0 : newlines b = 0
  · rw [if_pos (hc.mpr h0), if_pos h0, List.reverse_append, List.reverse_reverse]
  · rw [if_neg (mt hc.mp h0), if_neg h0]

theorem lastLine_nil : lastLine [] = [] := rfl

theorem lastLine_snoc_nl (a : Bytes) : lastLine (a ++ [10]) = [] := by
  rw [lastLine_append]; rfl

theorem lastLine_suffix (s : Bytes) : ∃ pre, s = pre ++ lastLine s := by
  refine ⟨(s.reverse.dropWhile (· != NL)).reverse, ?_⟩
  unfold lastLine
  rw [← List.reverse_append, List.takeWhile_append_dropWhile, List.reverse_reverse]

theorem firstLine_prefix (s : Bytes) : ∃ post, s = firstLine s ++ post :=
  ⟨s.dropWhile (· != NL), List.takeWhile_append_dropWhile.symm⟩

theorem firstLine_no_nl (s : Bytes) : ∀ x ∈ firstLine s, x ≠ 10 := by
  intro x hx
  simpa [NL] using List.all_eq_true.mp List.all_takeWhile x hx

theorem lastLine_no_nl (s : Bytes) : ∀ x ∈ lastLine s, x ≠ 10 := by
  intro x hx
  exact firstLine_no_nl s.reverse x (List.mem_reverse.mp hx)

theorem endsNL_iff (s : Bytes) : endsNL s = true ↔ ∃ b, s = b ++ [10] := by
  simp [endsNL, NL, List.getLast?_eq_some_iff]


@[simp] theorem afterNL_zero (s : Bytes) : afterNL s 0 = 0 := by cases s <;> rfl

theorem afterNL_append_le (a b : Bytes) (n : Nat) (h : n ≤ newlines a) :
    afterNL (a ++ b) n = afterNL a n := by
  induction a generalizing n with
  | nil => simp [Nat.le_zero.mp h]
  | cons x a ih =>
    cases n with
    | zero => rfl
    | succ n =>
      by_cases hx : x = 10 <;> simp only [newlines, hx, if_true, if_false] at h
      · simp [afterNL, hx, ih n (by omega)]
      · simp [afterNL, hx, ih (n + 1) h]

theorem afterNL_lastLine (a : Bytes) :
    afterNL a (newlines a) + (lastLine a).length = a.length := by
  induction a with
  | nil => rfl
  | cons b t ih =>
    have hl : lastLine (b :: t) = _ := lastLine_append [b] t
    by_cases h0 : newlines t = 0
    · -- no newline after `b`: the last line is all of `t`, preceded by `b` unless `b` is the newline
      rw [hl, if_pos h0]
      by_cases hb : b = 10 <;> simp [newlines, afterNL, lastLine, NL, hb, h0] <;> omega
    · -- a newline after `b`: same last line, all offsets shifted by one
      obtain ⟨m, hm⟩ := Nat.exists_eq_add_one_of_ne_zero h0
      rw [hl, if_neg h0]
      by_cases hb : b = 10
      · simp only [newlines, afterNL, hb, if_true, List.length_cons]; omega
      · simp only [newlines, hb, if_false, List.length_cons]
        rw [hm, afterNL, if_neg hb, ← hm]; omega

theorem lineStart_append (a b : Bytes) :
    lineStart (a ++ b) (newlines a + 1) + (lastLine a).length = a.length := by
  rw [lineStart, Nat.add_sub_cancel, afterNL_append_le a b _ (Nat.le_refl _), afterNL_lastLine]

theorem afterNL_pos (s : Bytes) (k : Nat) (hk : 0 < k) (h : k ≤ newlines s) : 0 < afterNL s k := by
  obtain ⟨k, rfl⟩ := Nat.exists_eq_succ_of_ne_zero (Nat.ne_of_gt hk)
  cases s with
  | nil => simp [newlines] at h
  | cons c s => rw [afterNL]; split <;> omega

theorem afterNL_spec (s : Bytes) (k : Nat) (h : k ≤ newlines s) :
    afterNL s k ≤ s.length ∧ newlines (s.take (afterNL s k)) = k ∧
    (0 < k → s[afterNL s k - 1]? = some 10) := by
  induction s generalizing k with
  | nil => simp [Nat.le_zero.mp h, newlines]
  | cons b s ih =>
    cases k with
    | zero => simp [newlines]
    | succ k =>
      by_cases hb : b = 10 <;> simp only [newlines, hb, if_true, if_false] at h
      · obtain ⟨i1, i2, i3⟩ := ih k (by omega)
        refine ⟨by simp [afterNL, hb]; omega, by simp [afterNL, newlines, hb, i2], fun _ => ?_⟩
        rw [afterNL, if_pos hb, Nat.add_sub_cancel, List.getElem?_cons]
        cases k with
        | zero => simp [hb]
        | succ k =>
          rw [if_neg (Nat.ne_of_gt (afterNL_pos s _ (by omega) (by omega)))]
          exact i3 (by omega)
      · obtain ⟨i1, i2, i3⟩ := ih (k + 1) h
        refine ⟨by simp [afterNL, hb]; omega, by simp [afterNL, newlines, hb, i2], fun _ => ?_⟩
        rw [afterNL, if_neg hb, Nat.add_sub_cancel, List.getElem?_cons,
          if_neg (Nat.ne_of_gt (afterNL_pos s _ (by omega) h))]
        exact i3 (by omega)


theorem lineEnd_zero (s : Bytes) : lineEnd s 0 = (firstLine s).length := by
  induction s with
  | nil => rfl
  | cons b s ih =>
    by_cases hb : b = 10 <;> simp [lineEnd, firstLine, NL, hb] at ih ⊢
    exact ih

theorem lineEnd_append (a b : Bytes) :
    lineEnd (a ++ b) a.length = a.length + (firstLine b).length := by
  induction a with
  | nil => simp [lineEnd_zero]
  | cons x a ih => simp [lineEnd, ih]; omega


theorem sub_prefix (a b : Bytes) : sub (a ++ b) 0 a.length = a := by simp [sub]

theorem sub_mid (a m b : Bytes) : sub (a ++ m ++ b) a.length (a.length + m.length) = m := by
  simp [sub]
