/-
`getContextDetails` in normal form.  An in-range call splits the source as `before ++ body ++ rest`,
where `body` is the range without its trailing newline (if it has one, `rest` begins with it), and
every field of the result is written in terms of these three pieces (`detailsAt`).  The theorems of
`ElvProofs/C37.lean` are read off this form.
-/
import ElvProofs.C37.Lemmas
namespace C37
open Go C37.Spec

/-- The body of `getContextDetails` after the three slice expressions. -/
def detailsOf (before body0 after : Bytes) : Details :=
  let head := lastLine before
  let bt : Bytes × Bytes :=
    if endsNL body0 then (body0.dropLast, ([] : Bytes)) else (body0, firstLine after)
  let startLine : Int := countNL before + 1
  let startCol : Int := 1 + head.length
  let endLine : Int := startLine + countNL bt.1
  let endCol : Int :=
    if startLine = endLine then startCol + bt.1.length - 1 else (lastLine bt.1).length
  { startLine, startCol, endLine, endCol, body := bt.1, head, tail := bt.2 }

theorem take_append_mid (before body0 after : Bytes) :
    (before ++ body0 ++ after).take before.length = before := by simp

theorem getContextDetails_append (before body0 after : Bytes) (f t : Int)
    (hf : f = before.length) (ht : t = before.length + body0.length) :
    getContextDetails (before ++ body0 ++ after) f t = .ok (detailsOf before body0 after) := by
  have s1 : slice (before ++ body0 ++ after) 0 f = .ok before :=
    slice_prefix (List.append_assoc ..) hf
  have s2 : slice (before ++ body0 ++ after) f t = .ok body0 := slice_of_append rfl hf ht
  have s3 : slice (before ++ body0 ++ after) t (before ++ body0 ++ after).length = .ok after :=
    slice_suffix rfl (by simp [ht]) rfl
  simp only [getContextDetails, s1, s2, s3, bind, Res.bind, pure]
  rfl

def detailsAt (before body rest : Bytes) : Details :=
  { startLine := 1 + newlines before
    startCol := 1 + (lastLine before).length
    endLine := 1 + newlines (before ++ body)
    endCol := (lastLine (before ++ body)).length
    body := body
    head := lastLine before
    tail := firstLine rest }

/-- Line numbers are `Int`s in the model and `Nat`s in the spec. -/
theorem toNat_one_add (n : Nat) : (1 + (n : Int)).toNat = n + 1 := by omega

/-- The end column as the code computes it (by cases on whether the range spans lines) is the length
of the last line of everything up to the end. -/
theorem endCol_eq (before body : Bytes) :
    (if (countNL before + 1 : Int) = countNL before + 1 + countNL body
      then (1 + (lastLine before).length : Int) + body.length - 1
      else (lastLine body).length)
    = (lastLine (before ++ body)).length := by
  rw [lastLine_append, countNL_eq body]
  by_cases h0 : newlines body = 0
  · simp [h0]; omega
  · rw [if_neg (by omega), if_neg h0]

theorem detailsOf_eq (before body0 after body rest : Bytes)
    (h : (if endsNL body0 then (body0.dropLast, ([] : Bytes)) else (body0, firstLine after))
      = (body, firstLine rest)) :
    detailsOf before body0 after = detailsAt before body rest := by
  simp only [detailsOf, detailsAt, h, endCol_eq, Details.mk.injEq, true_and, and_true]
  rw [countNL_eq, countNL_eq, newlines_append]
  omega

/-- The spec's "range ends in a newline" agrees with `strings.HasSuffix(body, "\n")`. -/
theorem endsInNL_eq (before body0 after : Bytes) :
    endsInNL (before ++ body0 ++ after) before.length (before.length + body0.length)
      = endsNL body0 := by
  rcases List.eq_nil_or_concat body0 with rfl | ⟨b, c, rfl⟩
  · simp [endsInNL, endsNL]
  · simp [endsInNL, endsNL, NL]

theorem adjTo_eq (before body0 after : Bytes) :
    adjTo (before ++ body0 ++ after) before.length (before.length + body0.length)
      = if endsNL body0 then before.length + body0.length - 1 else before.length + body0.length := by
  rw [← endsInNL_eq before body0 after]; rfl

theorem split_range (src : Bytes) (f t : Int) (h0 : 0 ≤ f) (h1 : f ≤ t) (h2 : t ≤ src.length) :
    ∃ before body0 after : Bytes, src = before ++ body0 ++ after ∧ f = (before.length : Nat) ∧
      t = ((before.length + body0.length : Nat) : Int) := by
  obtain ⟨f, rfl⟩ := Int.eq_ofNat_of_zero_le h0
  obtain ⟨t, rfl⟩ := Int.eq_ofNat_of_zero_le (Int.le_trans h0 h1)
  have h1 : f ≤ t := Int.ofNat_le.mp h1
  have h2 : t ≤ src.length := Int.ofNat_le.mp h2
  have hf : (src.take f).length = f := by
    rw [List.length_take, Nat.min_eq_left (Nat.le_trans h1 h2)]
  have hb : ((src.drop f).take (t - f)).length = t - f := by
    rw [List.length_take, List.length_drop, Nat.min_eq_left (Nat.sub_le_sub_right h2 f)]
  refine ⟨src.take f, (src.drop f).take (t - f), src.drop t, ?_, by rw [hf],
    by rw [hf, hb, Nat.add_sub_cancel' h1]⟩
  have e : src.drop t = (src.drop f).drop (t - f) := by
    rw [List.drop_drop, Nat.add_sub_cancel' h1]
  rw [e, List.append_assoc, List.take_append_drop, List.take_append_drop]

theorem transfer (src : Bytes) (f t : Int) (h0 : 0 ≤ f) (h1 : f ≤ t) (h2 : t ≤ src.length)
    (d : Details) (hd : getContextDetails src f t = .ok d) :
    ∃ before body rest, src = before ++ body ++ rest ∧ f = (before.length : Nat) ∧
      adjTo src before.length t.toNat = before.length + body.length ∧
      (endsInNL src before.length t.toNat = true → ∃ after, rest = 10 :: after) ∧
      d = detailsAt before body rest := by
  obtain ⟨before, body0, after, rfl, rfl, rfl⟩ := split_range src f t h0 h1 h2
  rw [getContextDetails_append before body0 after _ _ rfl (by simp)] at hd
  injection hd with hd
  subst hd
  simp only [Int.toNat_natCast]
  by_cases hnl : endsNL body0 = true
  · obtain ⟨b, rfl⟩ := (endsNL_iff body0).mp hnl
    refine ⟨before, b, 10 :: after, by simp, rfl, ?_, fun _ => ⟨after, rfl⟩, ?_⟩
    · rw [adjTo_eq, if_pos hnl, List.length_append, List.length_singleton]; omega
    · exact detailsOf_eq _ _ _ _ _ (by simp [hnl, firstLine, NL])
  · refine ⟨before, body0, after, rfl, rfl, ?_, fun h => absurd (endsInNL_eq .. ▸ h) hnl, ?_⟩
    · rw [adjTo_eq, if_neg hnl]
    · exact detailsOf_eq _ _ _ _ _ (by simp [hnl])

/-- Which of its three formats `describeRange` uses, given what the two tests it makes mean. -/
theorem describeRange_eq (d : Details) (e n : Prop) [Decidable e] [Decidable n]
    (h1 : d.startLine = d.endLine ↔ n)
    (h2 : (d.startLine = d.endLine ∧ d.endCol < d.startCol) ↔ e) :
    describeRange d =
      if e then s!"{d.startLine}:{d.startCol}"
      else if n then s!"{d.startLine}:{d.startCol}-{d.endCol}"
      else s!"{d.startLine}:{d.startCol}-{d.endLine}:{d.endCol}" := by
  unfold describeRange
  by_cases he : e
  · obtain ⟨hl, hc⟩ := h2.mpr he
    rw [if_pos he, if_pos hl, if_pos hc]
  · rw [if_neg he]
    by_cases hn : n
    · have hl := h1.mpr hn
      rw [if_pos hn, if_pos hl, if_neg (fun hc => he (h2.mp ⟨hl, hc⟩))]
    · rw [if_neg hn, if_neg (mt h1.mp hn)]
