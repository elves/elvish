import ElvModel.C22.Spec
/-!
C22: what `filepath.Clean(dir + "/" + spec)` means — walking from `dir`.
-/
namespace C22

theorem foldl_cleanStep_walk (sp : Str) : ∀ stk : List Comp,
    (sp.foldl cleanStep stk).reverse = walk stk.reverse sp := by
  induction sp with
  | nil => intro stk; rfl
  | cons c cs ih =>
    intro stk
    simp only [List.foldl_cons, walk, cleanStep]
    split
    · exact ih stk
    · split
      · rw [ih]; congr 1
        cases stk with
        | nil => rfl
        | cons a r => simp
      · rw [ih]; simp

theorem foldl_cleanStep_plain (d : List Comp) (h : ∀ c ∈ d, Plain c) : ∀ stk : List Comp,
    d.foldl cleanStep stk = d.reverse ++ stk := by
  induction d with
  | nil => intro stk; rfl
  | cons c d ih =>
    intro stk
    have hc := h c List.mem_cons_self
    have : cleanStep stk c = c :: stk := by
      unfold cleanStep
      simp [hc.1, hc.2.1, hc.2.2]
    simp only [List.foldl_cons, this]
    rw [ih (fun x hx => h x (List.mem_cons_of_mem _ hx))]
    simp

theorem foldl_cleanStep_pathStr (d : List Comp) (h : ∀ c ∈ d, Plain c) :
    (pathStr d).foldl cleanStep [] = d.reverse := by
  unfold pathStr
  split
  · rename_i e; subst e; simp [cleanStep]
  · simp only [List.foldl_cons]
    have : cleanStep [] "" = [] := by simp [cleanStep]
    rw [this, foldl_cleanStep_plain d h]; simp

theorem cleanAbs_pathStr (d : List Comp) (h : ∀ c ∈ d, Plain c) : cleanAbs (pathStr d) = d := by
  unfold cleanAbs; rw [foldl_cleanStep_pathStr d h]; simp

theorem joinClean_walk (d : List Comp) (h : ∀ c ∈ d, Plain c) (sp : Str) :
    joinClean d sp = walk d sp := by
  unfold joinClean cleanAbs
  rw [List.foldl_append, foldl_cleanStep_pathStr d h, foldl_cleanStep_walk]; simp

theorem walk_plain_result (sp : Str) : ∀ d : List Comp, (∀ c ∈ d, Plain c) → ∀ c ∈ walk d sp, Plain c := by
  induction sp with
  | nil => intro d h; exact h
  | cons c cs ih =>
    intro d h
    simp only [walk]
    split
    · exact ih d h
    · rename_i h1
      split
      · exact ih _ (fun x hx => h x ((List.dropLast_sublist d).subset hx))
      · rename_i h2
        apply ih
        intro x hx
        rcases List.mem_append.mp hx with hx | hx
        · exact h x hx
        · simp only [List.mem_singleton] at hx; subst hx
          exact ⟨fun e => h1 (.inl e), fun e => h1 (.inr e), h2⟩

end C22
