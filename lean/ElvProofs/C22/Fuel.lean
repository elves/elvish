import ElvProofs.C22.Inv
/-!
C22: termination of the import recursion.  Measure: `missing w s` = how many of the keys that can ever be evaluated
(`allKeys w`: files with code, bundled modules) are NOT in the cache.  A nested evaluation starts only for a key that
is absent, installs it first, and nothing that runs inside removes an entry that was there before (`Keeps`).  So the
nesting depth of evaluations is bounded by `missing`, and `missing + 1` levels of fuel are never exhausted.
-/
namespace C22

def absent (s : St) (k : Key) : Bool := (mget s.mods k).isNone

def missing (w : World) (s : St) : Nat := (allKeys w).countP (absent s)

def Keeps (s s' : St) : Prop := ∀ k t, mget s.mods k = some t → mget s'.mods k = some t

theorem Keeps.refl (s : St) : Keeps s s := fun _ _ h => h
theorem Keeps.trans {a b c : St} (h1 : Keeps a b) (h2 : Keeps b c) : Keeps a c :=
  fun k t h => h2 k t (h1 k t h)
theorem Keeps.emit (s : St) (e : Ev) : Keeps s (s.emit e) := fun _ _ h => h

def RecKeeps (rec : Rec) : Prop := ∀ cx s sp, Keeps s (rec cx s sp).1

theorem runBody_keeps (rec : Rec) (hrec : RecKeeps rec) (cx : Cx) (acts : List Act) :
    ∀ s, Keeps s (runBody rec cx acts s).1 := by
  induction acts with
  | nil => intro s; exact Keeps.refl s
  | cons a as ih =>
    intro s
    rcases runBody_cons rec cx a as s with h | h | h | ⟨sp, ⟨k, t, _, h⟩ | ⟨d, c, _, h⟩ | ⟨d, c, _, _, h⟩⟩
      <;> rw [h]
    · exact Keeps.refl s
    · exact ih s
    · exact (Keeps.emit s _).trans (ih _)
    · exact (hrec cx s sp).trans ((Keeps.emit _ _).trans (ih _))
    · exact hrec cx s sp
    · exact (hrec cx s sp).trans ((Keeps.emit _ _).trans (ih _))

/-- an evaluation installs and, on failure, removes its own key only — and that key was absent -/
theorem evalModule_keeps (rec : Rec) (hrec : RecKeeps rec) (key : Key) (base : Option (List Comp))
    (body : List Act) (s : St) (habs : mget s.mods key = none) :
    Keeps s (evalModule rec key base body s).1 := by
  obtain ⟨s2, c, hb, h⟩ := evalModule_cases rec key base body s
  have hk := runBody_keeps rec hrec { base := base, tok := some s.next, key := key } body (entered s key)
  rw [hb] at hk
  have hne : ∀ k t, mget s.mods k = some t → key ≠ k := by
    rintro k t h rfl; rw [habs] at h; cases h
  have h1 : Keeps s s2 := fun k t h => hk k t ((mget_mset_other _ _ _ _ (hne k t h)).trans h)
  rcases h with ⟨_, h⟩ | ⟨c', _, h⟩ <;> rw [h]
  · exact h1
  · exact fun k t h => (mget_mdel_other _ _ _ (hne k t h)).trans (h1 k t h)

theorem countP_lt_of_imp {α} (p q : α → Bool) (l : List α) (h : ∀ x, x ∈ l → p x = true → q x = true)
    (a : α) (ha : a ∈ l) (hq : q a = true) (hp : p a = false) : l.countP p < l.countP q := by
  obtain ⟨pre, post, rfl⟩ := List.append_of_mem ha
  have h1 : pre.countP p ≤ pre.countP q :=
    List.countP_mono_left fun x hx => h x (List.mem_append_left _ hx)
  have h2 : post.countP p ≤ post.countP q :=
    List.countP_mono_left fun x hx => h x (List.mem_append_right _ (List.mem_cons_of_mem _ hx))
  simp only [List.countP_append, List.countP_cons, hp, hq, if_true, Bool.false_eq_true, if_false]
  omega

theorem missing_le_of_keeps (w : World) {s s' : St} (h : Keeps s s') : missing w s' ≤ missing w s := by
  apply List.countP_mono_left
  intro k _ hk
  simp only [absent, Option.isNone_iff_eq_none] at hk ⊢
  cases hm : mget s.mods k with
  | none => rfl
  | some t => rw [h k t hm] at hk; cases hk

theorem missing_lt_of_install (w : World) (s s1 : St) (key : Key) (t : Nat) (hk : key ∈ allKeys w)
    (habs : mget s.mods key = none) (h1 : s1.mods = mset s.mods key t) : missing w s1 < missing w s := by
  apply countP_lt_of_imp _ _ _ _ key hk
  · simp [absent, habs]
  · simp [absent, h1, mget_mset_same]
  · intro k _ hk'
    simp only [absent, Option.isNone_iff_eq_none, h1] at hk' ⊢
    by_cases e : key = k
    · subst e; exact habs
    · rw [mget_mset_other _ _ _ _ e] at hk'; exact hk'

def NF (w : World) (rec : Rec) (n : Nat) : Prop :=
  ∀ cx s sp, missing w s < n → ∀ d, (rec cx s sp).2 ≠ .err d .fuel

theorem runBody_nf (w : World) (rec : Rec) (n : Nat) (hk : RecKeeps rec) (hnf : NF w rec n) (cx : Cx)
    (acts : List Act) : ∀ s, missing w s < n → (runBody rec cx acts s).2 ≠ some .fuel := by
  induction acts with
  | nil => intro s _; nofun
  | cons a as ih =>
    intro s hm
    have after : ∀ sp, missing w (rec cx s sp).1 < n := fun sp =>
      Nat.lt_of_le_of_lt (missing_le_of_keeps w (hk cx s sp)) hm
    rcases runBody_cons rec cx a as s with h | h | h | ⟨sp, ⟨k, t, _, h⟩ | ⟨d, c, hr, h⟩ | ⟨d, c, _, _, h⟩⟩
      <;> rw [h]
    · nofun
    · exact ih s hm
    · exact ih _ hm
    · exact ih _ (after sp)
    · intro e; cases e; exact hnf cx s sp hm d hr
    · exact ih _ (after sp)

theorem evalModule_nf (w : World) (rec : Rec) (n : Nat) (hk : RecKeeps rec) (hnf : NF w rec n)
    (key : Key) (base : Option (List Comp)) (body : List Act) (s : St)
    (habs : mget s.mods key = none) (hkey : key ∈ allKeys w) (hm : missing w s < n + 1) :
    ∀ d, (evalModule rec key base body s).2 ≠ .err d .fuel := by
  obtain ⟨s2, c, hb, h⟩ := evalModule_cases rec key base body s
  have hlt : missing w (entered s key) < n :=
    Nat.lt_of_lt_of_le (missing_lt_of_install w s _ key s.next hkey habs rfl) (Nat.le_of_lt_succ hm)
  have hc := runBody_nf w rec n hk hnf { base := base, tok := some s.next, key := key } body _ hlt
  rw [hb] at hc
  rcases h with ⟨_, h⟩ | ⟨c', rfl, h⟩ <;> rw [h]
  · nofun
  · intro d e; cases e; exact hc rfl

theorem useStep_keeps_nf (w : World) (cwd : List Comp) (rec : Rec) (n : Nat) (hk : RecKeeps rec)
    (hnf : NF w rec n) : RecKeeps (useStep w cwd rec) ∧ NF w (useStep w cwd rec) (n + 1) := by
  have key : ∀ cx s sp, Keeps s (useStep w cwd rec cx s sp).1 ∧
      (missing w s < n + 1 → ∀ d, (useStep w cwd rec cx s sp).2 ≠ .err d .fuel) := by
    intro cx s sp
    refine useStep_cases w rec
      (fun s r => Keeps s r.1 ∧ (missing w s < n + 1 → ∀ d, r.2 ≠ .err d .fuel)) ?_ ?_ ?_ ?_ cwd cx s sp
    · intro s k t _; exact ⟨Keeps.emit s _, fun _ => nofun⟩
    · intro s c hc; exact ⟨Keeps.refl s, fun _ d e => by cases e; exact hc rfl⟩
    · intro s key base body habs hkey
      exact ⟨evalModule_keeps rec hk key base body s habs,
        evalModule_nf w rec n hk hnf key base body s habs hkey⟩
    · -- the probe before kept what was there, so no more keys are missing for the next attempt
      intro s s' r g g2
      exact ⟨g.1.trans g2.1, fun hm => g2.2 (Nat.lt_of_le_of_lt (missing_le_of_keeps w g.1) hm)⟩
  exact ⟨fun cx s sp => (key cx s sp).1, fun cx s sp => (key cx s sp).2⟩

theorem useSpec_keeps_nf (w : World) (cwd : List Comp) :
    ∀ f, RecKeeps (useSpec w cwd f) ∧ NF w (useSpec w cwd f) f
  | 0 => ⟨fun _ s _ => Keeps.refl s, fun _ _ _ h => absurd h (Nat.not_lt_zero _)⟩
  | f + 1 => useStep_keeps_nf w cwd _ f (useSpec_keeps_nf w cwd f).1 (useSpec_keeps_nf w cwd f).2

theorem useSpec_keeps (w : World) (cwd : List Comp) (f : Nat) : RecKeeps (useSpec w cwd f) :=
  (useSpec_keeps_nf w cwd f).1

theorem useSpec_nf (w : World) (cwd : List Comp) (f : Nat) : NF w (useSpec w cwd f) f :=
  (useSpec_keeps_nf w cwd f).2

theorem missing_lt_enough (w : World) (s : St) : missing w s < enough w := by
  unfold missing enough
  exact Nat.lt_succ_of_le (List.countP_le_length)

end C22
