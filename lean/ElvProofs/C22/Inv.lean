import ElvProofs.C22.Trace
import ElvModel.C22.Spec
/-! C22: the invariant of guarded steps. -/
namespace C22

theorem mget_mdel_same (m : Mods) (k : Key) : mget (mdel m k) k = none := by
  induction m with
  | nil => rfl
  | cons p m ih =>
    obtain ⟨k', v⟩ := p
    by_cases h : k' = k
    · simp [mdel, h] at ih ⊢; exact ih
    · simp [mdel, h, mget, assoc] at ih ⊢; exact ih

theorem mget_mdel_other (m : Mods) (k k' : Key) (h : k ≠ k') : mget (mdel m k) k' = mget m k' := by
  induction m with
  | nil => rfl
  | cons p m ih =>
    obtain ⟨k1, v⟩ := p
    by_cases h1 : k1 = k
    · subst h1
      simp [mdel, mget, assoc, h] at ih ⊢; exact ih
    · by_cases h2 : k1 = k'
      · subst h2; simp [mdel, mget, assoc, h1]
      · simp [mdel, mget, assoc, h1, h2] at ih ⊢; exact ih

theorem mget_mset_same (m : Mods) (k : Key) (v : Nat) : mget (mset m k v) k = some v := by
  simp [mset, mget, assoc]

theorem mget_mset_other (m : Mods) (k k' : Key) (v : Nat) (h : k ≠ k') :
    mget (mset m k v) k' = mget m k' := by
  simp only [mset, mget, assoc, h, if_false]
  exact mget_mdel_other m k k' h

/-- What every state reachable by guarded steps satisfies: the cache is what the history says is live and holds
what is in progress; tokens are fresh, so an evaluation in progress has neither completed nor failed and none does
both; what is installed is in progress or completed; top-level code only ever received completed namespaces. -/
structure Inv (s : St) : Prop where
  stackIn : ∀ k t, (k, t) ∈ s.stack → mget s.mods k = some t
  nodup : (s.stack.map Prod.fst).Nodup
  coherent : ∀ k, mget s.mods k = live s.log k
  doneIn : ∀ k t, Ev.done k t ∈ s.log → mget s.mods k = some t
  wf : WF s.log
  tokLt : ∀ k t, (k, t) ∈ s.stack → t < s.next
  evLt : ∀ k t, (Ev.done k t ∈ s.log ∨ Ev.failed k t ∈ s.log) → t < s.next
  nodupTok : (s.stack.map Prod.snd).Nodup
  openClean : ∀ k t, (k, t) ∈ s.stack → ∀ k', Ev.done k' t ∉ s.log ∧ Ev.failed k' t ∉ s.log
  excl : ∀ k k' t, Ev.done k t ∈ s.log → Ev.failed k' t ∈ s.log → False
  openOrDone : ∀ k t, mget s.mods k = some t → (k, t) ∈ s.stack ∨ Ev.done k t ∈ s.log
  topDone : ∀ sp k t n l, (Ev.got none sp k t n :: l) <:+ s.log → Ev.done k t ∈ l

theorem countDone_zero_of {l : List Ev} {k : Key} (h : ∀ t, Ev.done k t ∉ l) : countDone l k = 0 := by
  unfold countDone
  rw [List.countP_eq_zero]
  intro e he
  cases e <;> simp
  rename_i k' t
  intro hk; subst hk; exact h t he

theorem WF.live_of_head {l : List Ev} {k : Key} {t : Nat} (hwf : WF l)
    (h : l.head? = some (.hit k t) ∨ l.head? = some (.done k t)) : live l k = some t := by
  cases l with
  | nil => simp at h
  | cons e l =>
    simp only [List.head?_cons, Option.some.injEq] at h
    rcases h with rfl | rfl
    · exact hwf.2
    · exact hwf.2.1

theorem Inv.topDone_cons {s : St} (inv : Inv s) (e : Ev)
    (h : ∀ sp k t n, e = .got none sp k t n → Ev.done k t ∈ s.log)
    (sp : Str) (k : Key) (t n : Nat) (l : List Ev) (hs : (Ev.got none sp k t n :: l) <:+ e :: s.log) :
    Ev.done k t ∈ l := by
  rcases List.suffix_cons_iff.mp hs with h1 | h1
  · injection h1 with h1 h2; subst h2; exact h sp k t n h1.symm
  · exact inv.topDone sp k t n l h1

/-- An event that is neither `start`, `done` nor `failed` leaves everything but the history as it is. -/
theorem Inv.emit {s : St} (inv : Inv s) (e : Ev) (hd : ∀ k t, Ev.done k t ≠ e) (hf : ∀ k t, Ev.failed k t ≠ e)
    (hl : ∀ k, live (e :: s.log) k = live s.log k) (hw : WF (e :: s.log))
    (ht : ∀ sp k t n, e = .got none sp k t n → Ev.done k t ∈ s.log) : Inv (s.emit e) where
  stackIn := inv.stackIn
  nodup := inv.nodup
  coherent k := (inv.coherent k).trans (hl k).symm
  doneIn k t hm := inv.doneIn k t (List.mem_of_ne_of_mem (hd k t) hm)
  wf := hw
  tokLt := inv.tokLt
  evLt k t h := inv.evLt k t (h.imp (List.mem_of_ne_of_mem (hd k t)) (List.mem_of_ne_of_mem (hf k t)))
  nodupTok := inv.nodupTok
  openClean k t hm k' := ⟨fun h => (inv.openClean k t hm k').1 (List.mem_of_ne_of_mem (hd k' t) h),
    fun h => (inv.openClean k t hm k').2 (List.mem_of_ne_of_mem (hf k' t) h)⟩
  excl k k' t a b := inv.excl k k' t (List.mem_of_ne_of_mem (hd k t) a) (List.mem_of_ne_of_mem (hf k' t) b)
  openOrDone k t hm := (inv.openOrDone k t hm).imp_right (List.mem_cons_of_mem _)
  topDone := inv.topDone_cons e ht

/-- What the invariant says about the innermost evaluation in progress. -/
theorem Inv.top {s : St} (inv : Inv s) {k : Key} {t : Nat} {rest : List (Key × Nat)}
    (h : s.stack = (k, t) :: rest) :
    mget s.mods k = some t ∧ t < s.next ∧ (∀ k', Ev.done k' t ∉ s.log ∧ Ev.failed k' t ∉ s.log) ∧
    (∀ t', Ev.done k t' ∉ s.log) ∧
    (∀ k' t', (k', t') ∈ rest → k ≠ k' ∧ t' ≠ t ∧ (k', t') ∈ s.stack) ∧
    (rest.map Prod.fst).Nodup ∧ (rest.map Prod.snd).Nodup := by
  have hhead : (k, t) ∈ s.stack := by rw [h]; exact List.mem_cons_self
  have hnd := inv.nodup
  have hndT := inv.nodupTok
  rw [h] at hnd hndT
  obtain ⟨hnot, hnd⟩ := List.nodup_cons.mp hnd
  obtain ⟨hnotT, hndT⟩ := List.nodup_cons.mp hndT
  refine ⟨inv.stackIn _ _ hhead, inv.tokLt _ _ hhead, inv.openClean _ _ hhead, ?_, ?_, hnd, hndT⟩
  · intro t' hd
    have := inv.doneIn k t' hd
    rw [inv.stackIn _ _ hhead] at this
    cases this
    exact (inv.openClean _ _ hhead k).1 hd
  · intro k' t' hm
    refine ⟨?_, ?_, by rw [h]; exact List.mem_cons_of_mem _ hm⟩
    · rintro rfl; exact hnot (List.mem_map.mpr ⟨(k, t'), hm, rfl⟩)
    · rintro rfl; exact hnotT (List.mem_map.mpr ⟨(k', t'), hm, rfl⟩)

theorem Inv.step {s s' : St} (inv : Inv s) (st : Step s s') : Inv s' := by
  cases st with
  | start k h =>
    have hfresh : ∀ k' t', mget s.mods k' = some t' → k ≠ k' := by
      rintro k' t' hm rfl; rw [h] at hm; cases hm
    refine ⟨?_, ?_, ?_, ?_, ⟨inv.wf, (?_ : live s.log k = none)⟩, ?_, ?_, ?_, ?_, ?_, ?_, inv.topDone_cons _ nofun⟩
    · intro k' t' hm
      rcases List.mem_cons.mp hm with e | hm
      · cases e; exact mget_mset_same _ _ _
      · have := inv.stackIn k' t' hm
        rw [mget_mset_other _ _ _ _ (hfresh _ _ this)]; exact this
    · refine List.nodup_cons.mpr ⟨?_, inv.nodup⟩
      intro hmem
      obtain ⟨⟨k', t'⟩, hm, rfl⟩ := List.mem_map.mp hmem
      exact hfresh _ _ (inv.stackIn k' t' hm) rfl
    · intro k'
      by_cases e : k = k'
      · subst e; simp [live, mget_mset_same]
      · simp [live, e, mget_mset_other _ _ _ _ e, inv.coherent k']
    · intro k' t' hm
      have := inv.doneIn k' t' (by simpa using hm)
      rw [mget_mset_other _ _ _ _ (hfresh _ _ this)]; exact this
    · rw [← inv.coherent k]; exact h
    · intro k' t' hm
      rcases List.mem_cons.mp hm with e | hm
      · cases e; exact Nat.lt_succ_self _
      · exact Nat.lt_succ_of_lt (inv.tokLt k' t' hm)
    · intro k' t' hm
      exact Nat.lt_succ_of_lt (inv.evLt k' t' (by simpa using hm))
    · refine List.nodup_cons.mpr ⟨?_, inv.nodupTok⟩
      intro hmem
      obtain ⟨⟨k', t'⟩, hm, (hh : t' = s.next)⟩ := List.mem_map.mp hmem
      exact Nat.lt_irrefl _ (hh ▸ inv.tokLt k' t' hm)
    · intro k' t' hm k''
      simp only [List.mem_cons, reduceCtorEq, false_or]
      rcases List.mem_cons.mp hm with e | hm
      · cases e
        exact ⟨fun hd => Nat.lt_irrefl _ (inv.evLt k'' _ (.inl hd)),
          fun hd => Nat.lt_irrefl _ (inv.evLt k'' _ (.inr hd))⟩
      · exact inv.openClean k' t' hm k''
    · intro k1 k2 t a b
      exact inv.excl k1 k2 t (by simpa using a) (by simpa using b)
    · intro k' t' hm
      by_cases e : k = k'
      · subst e
        rw [show mget (mset s.mods k s.next) k = some s.next from mget_mset_same _ _ _] at hm
        cases hm; exact .inl List.mem_cons_self
      · rw [show mget (mset s.mods k s.next) k' = mget s.mods k' from mget_mset_other _ _ _ _ e] at hm
        exact (inv.openOrDone k' t' hm).imp (List.mem_cons_of_mem _) (List.mem_cons_of_mem _)
  | done k t rest h =>
    obtain ⟨hin, hlt, hopen, hnotdone, hrest, hnd, hndT⟩ := inv.top h
    refine ⟨?_, hnd, inv.coherent, ?_, ⟨inv.wf, (?_ : live s.log k = some t), countDone_zero_of hnotdone⟩,
      ?_, ?_, hndT, ?_, ?_, ?_, inv.topDone_cons _ nofun⟩
    · intro k' t' hm; exact inv.stackIn k' t' (hrest k' t' hm).2.2
    · intro k' t' hm
      rcases List.mem_cons.mp hm with e | hm
      · cases e; exact hin
      · exact inv.doneIn k' t' hm
    · rw [← inv.coherent k]; exact hin
    · intro k' t' hm; exact inv.tokLt k' t' (hrest k' t' hm).2.2
    · intro k' t' hm
      simp only [List.mem_cons, reduceCtorEq, false_or] at hm
      rcases hm with (hm | hm) | hm
      · cases hm; exact hlt
      · exact inv.evLt k' t' (.inl hm)
      · exact inv.evLt k' t' (.inr hm)
    · intro k' t' hm k''
      have hc := inv.openClean k' t' (hrest k' t' hm).2.2 k''
      simp only [List.mem_cons, reduceCtorEq, false_or]
      refine ⟨?_, hc.2⟩
      rintro (hd | hd)
      · cases hd; exact (hrest _ _ hm).2.1 rfl
      · exact hc.1 hd
    · intro k1 k2 t1 a b
      have b : Ev.failed k2 t1 ∈ s.log := by simpa using b
      rcases List.mem_cons.mp a with e | a
      · cases e; exact (hopen k2).2 b
      · exact inv.excl k1 k2 t1 a b
    · intro k' t' hm
      rcases inv.openOrDone k' t' hm with h1 | h1
      · rw [h] at h1
        rcases List.mem_cons.mp h1 with h2 | h2
        · cases h2; exact .inr List.mem_cons_self
        · exact .inl h2
      · exact .inr (List.mem_cons_of_mem _ h1)
  | failed k t rest h =>
    obtain ⟨hin, hlt, hopen, hnotdone, hrest, hnd, hndT⟩ := inv.top h
    refine ⟨?_, hnd, ?_, ?_, ⟨inv.wf, (?_ : live s.log k = some t), hnotdone t⟩,
      ?_, ?_, hndT, ?_, ?_, ?_, inv.topDone_cons _ nofun⟩
    · intro k' t' hm
      rw [mget_mdel_other _ _ _ (hrest k' t' hm).1]
      exact inv.stackIn k' t' (hrest k' t' hm).2.2
    · intro k'
      by_cases e : k = k'
      · subst e; simp [live, mget_mdel_same]
      · simp [live, e, mget_mdel_other _ _ _ e, inv.coherent k']
    · intro k' t' hm
      have hm : Ev.done k' t' ∈ s.log := by simpa using hm
      have hk : k ≠ k' := by rintro rfl; exact hnotdone t' hm
      rw [mget_mdel_other _ _ _ hk]; exact inv.doneIn k' t' hm
    · rw [← inv.coherent k]; exact hin
    · intro k' t' hm; exact inv.tokLt k' t' (hrest k' t' hm).2.2
    · intro k' t' hm
      simp only [List.mem_cons, reduceCtorEq, false_or] at hm
      rcases hm with hm | hm | hm
      · exact inv.evLt k' t' (.inl hm)
      · cases hm; exact hlt
      · exact inv.evLt k' t' (.inr hm)
    · intro k' t' hm k''
      have hc := inv.openClean k' t' (hrest k' t' hm).2.2 k''
      simp only [List.mem_cons, reduceCtorEq, false_or]
      refine ⟨hc.1, ?_⟩
      rintro (hd | hd)
      · cases hd; exact (hrest _ _ hm).2.1 rfl
      · exact hc.2 hd
    · intro k1 k2 t1 a b
      have a : Ev.done k1 t1 ∈ s.log := by simpa using a
      rcases List.mem_cons.mp b with e | b
      · cases e; exact (hopen k1).1 a
      · exact inv.excl k1 k2 t1 a b
    · intro k' t' hm
      by_cases e : k = k'
      · subst e; rw [show mget (mdel s.mods k) k = none from mget_mdel_same _ _] at hm; cases hm
      · rw [show mget (mdel s.mods k) k' = mget s.mods k' from mget_mdel_other _ _ _ e] at hm
        rcases inv.openOrDone k' t' hm with h1 | h1
        · rw [h] at h1
          rcases List.mem_cons.mp h1 with h2 | h2
          · cases h2; exact absurd rfl e
          · exact .inl h2
        · exact .inr (List.mem_cons_of_mem _ h1)
  | hit k t h =>
    exact inv.emit (.hit k t) nofun nofun (fun _ => rfl) ⟨inv.wf, (inv.coherent k).symm.trans h⟩ nofun
  | got b sp k t n h hb =>
    refine inv.emit (.got b sp k t n) nofun nofun (fun _ => rfl) ⟨inv.wf, inv.wf.live_of_head h⟩ ?_
    -- top level: nothing is in progress, so the namespace received is a completed one
    intro sp' k' t' n' he
    cases he
    have hstack : s.stack = [] := by
      cases hs' : s.stack with
      | nil => rfl
      | cons a r => rw [hs'] at hb; cases hb
    have hm : mget s.mods k = some t := by rw [inv.coherent]; exact inv.wf.live_of_head h
    rcases inv.openOrDone k t hm with h3 | h3
    · rw [hstack] at h3; cases h3
    · exact h3
  | def_ b => exact inv.emit (.def_ b) nofun nofun (fun _ => rfl) ⟨inv.wf, trivial⟩ nofun
  | caught b => exact inv.emit (.caught b) nofun nofun (fun _ => rfl) ⟨inv.wf, trivial⟩ nofun

theorem Inv.steps {s s' : St} (inv : Inv s) (st : Steps s s') : Inv s' := by
  induction st with
  | refl => exact inv
  | tail _ h ih => exact ih.step h

theorem Inv.empty : Inv St.empty :=
  ⟨nofun, List.nodup_nil, fun _ => rfl, nofun, trivial, nofun, (by intro k t h; rcases h with h | h <;> cases h),
   List.nodup_nil, nofun, nofun, nofun, (by
    intro sp k t n l h
    have := List.IsSuffix.length_le h
    simp [St.empty] at this)⟩

end C22
