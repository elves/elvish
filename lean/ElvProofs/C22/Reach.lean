import ElvProofs.C22.Inv
/-!
C22: the states of a history are reachable by guarded steps from the empty state with nothing in progress, hence
satisfy the invariant.
-/
namespace C22

def AtRest (s : St) : Prop := Steps St.empty s ∧ s.stack = []

theorem initSt_steps (w : World) : Steps St.empty (initSt w) ∧ (initSt w).stack = [] := by
  refine List.foldlRecOn (motive := AtRest) w.predefined _ ⟨.refl _, rfl⟩ ?_
  intro s ⟨h1, h2⟩ k _
  split
  · exact ⟨h1, h2⟩
  · rename_i hn
    exact ⟨(h1.tail (.start s k hn)).tail (.done _ k s.next s.stack rfl), h2⟩

theorem runOp_steps (w : World) (s : St) (o : Op) (hs : s.stack = []) :
    Steps s (runOp w s o).1 ∧ (runOp w s o).1.stack = [] := by
  have := runBody_good (useSpec w o.cwd (enough w)) (useSpec_good w o.cwd _) (topCx o) o.acts s
    (by rw [hs]; rfl)
  exact ⟨this.1, by rw [← hs]; exact this.2⟩

theorem run_steps (w : World) (ops : List Op) :
    Steps St.empty (run w ops) ∧ (run w ops).stack = [] := by
  refine List.foldlRecOn (motive := AtRest) ops _ (initSt_steps w) ?_
  intro s ⟨h1, h2⟩ o _
  have := runOp_steps w s o h2
  exact ⟨h1.trans this.1, this.2⟩

theorem run_inv (w : World) (ops : List Op) : Inv (run w ops) :=
  Inv.empty.steps (run_steps w ops).1

end C22
