import ElvProofs.C22.Trace
import ElvModel.C22.Spec
/-! C22: consequences of a well-formed history, as pure list lemmas. -/
namespace C22

theorem WF.suffix {l l' : List Ev} (h : WF l) (hs : l' <:+ l) : WF l' := by
  obtain ⟨t, rfl⟩ := hs
  induction t with
  | nil => exact h
  | cons a t ih => exact ih h.1

theorem live_stable (k : Key) (t : Nat) (l' : List Ev) : ∀ mid : List Ev, WF (mid ++ l') →
    (∀ t', Ev.failed k t' ∉ mid) → live l' k = some t → live (mid ++ l') k = some t := by
  intro mid
  induction mid with
  | nil => intro _ _ h; exact h
  | cons e mid ih =>
    intro hwf hnf hl
    have ih' := ih hwf.1 (fun t' hm => hnf t' (List.mem_cons_of_mem _ hm)) hl
    cases e with
    | start k' t' =>
      have hw : live (mid ++ l') k' = none := hwf.2
      have e : k' ≠ k := by rintro rfl; rw [ih'] at hw; cases hw
      simpa [live, e] using ih'
    | failed k' t' =>
      have e : k' ≠ k := by rintro rfl; exact hnf t' List.mem_cons_self
      simpa [live, e] using ih'
    | _ => exact ih'

theorem countDone_cons_done (l : List Ev) (k k' : Key) (t' : Nat) :
    countDone (.done k' t' :: l) k = countDone l k + (if k' = k then 1 else 0) := by
  simp only [countDone, List.countP_cons, decide_eq_true_eq]

theorem countDone_le_one {l : List Ev} (h : WF l) (k : Key) : countDone l k ≤ 1 := by
  induction l with
  | nil => exact Nat.zero_le _
  | cons e l ih =>
    have ih' := ih h.1
    cases e with
    | done k' t' =>
      rw [countDone_cons_done]
      by_cases e : k' = k
      · subst e
        have : countDone l k' = 0 := h.2.2
        simp [this]
      · simpa [e] using ih'
    | _ => exact ih'

theorem got_live_final {l : List Ev} (h : WF l) (k : Key) (hnf : ∀ t', Ev.failed k t' ∉ l)
    (b : Option Nat) (sp : Str) (t n : Nat) (hm : Ev.got b sp k t n ∈ l) : live l k = some t := by
  obtain ⟨pre, post, rfl⟩ := List.append_of_mem hm
  have h1 : live (Ev.got b sp k t n :: post) k = some t := (h.suffix ⟨pre, rfl⟩).2
  exact live_stable k t _ pre h (fun t' hm' => hnf t' (List.mem_append_left _ hm')) h1

theorem countStarts_cons_start (l : List Ev) (k k' : Key) (t' : Nat) :
    countStarts (.start k' t' :: l) k = countStarts l k + (if k' = k then 1 else 0) := by
  simp only [countStarts, List.countP_cons, decide_eq_true_eq]

theorem countStarts_cons_other (l : List Ev) (k : Key) (e : Ev) (h : ∀ k' t', e ≠ .start k' t') :
    countStarts (e :: l) k = countStarts l k := by
  unfold countStarts
  rw [List.countP_cons]
  cases e with
  | start k' t' => exact absurd rfl (h k' t')
  | _ => rfl

def countFailed (log : List Ev) (k : Key) : Nat :=
  log.countP fun e => match e with
    | .failed k' _ => decide (k' = k)
    | _ => false

theorem countFailed_cons_failed (l : List Ev) (k k' : Key) (t' : Nat) :
    countFailed (.failed k' t' :: l) k = countFailed l k + (if k' = k then 1 else 0) := by
  simp only [countFailed, List.countP_cons, decide_eq_true_eq]

theorem countFailed_cons_other (l : List Ev) (k : Key) (e : Ev) (h : ∀ k' t', e ≠ .failed k' t') :
    countFailed (e :: l) k = countFailed l k := by
  unfold countFailed
  rw [List.countP_cons]
  cases e with
  | failed k' t' => exact absurd rfl (h k' t')
  | _ => rfl

theorem countFailed_zero_of {l : List Ev} {k : Key} (h : ∀ t, Ev.failed k t ∉ l) : countFailed l k = 0 := by
  unfold countFailed
  rw [List.countP_eq_zero]
  intro e he
  cases e <;> simp
  rename_i k' t
  intro hk; subst hk; exact h t he

/-- Conservation: every evaluation of `k` that started has failed since, except the live one. -/
theorem starts_eq {l : List Ev} (h : WF l) (k : Key) :
    countStarts l k = countFailed l k + (if live l k = none then 0 else 1) := by
  induction l with
  | nil => rfl
  | cons e l ih =>
    have ih := ih h.1
    cases e with
    | start k' t' =>
      rw [countStarts_cons_start, countFailed_cons_other _ _ _ (by nofun), ih]
      by_cases e : k' = k
      · subst e
        have hl : live l k' = none := h.2
        simp [live, hl]
      · simp [live, e]
    | failed k' t' =>
      rw [countStarts_cons_other _ _ _ (by nofun), countFailed_cons_failed, ih]
      by_cases e : k' = k
      · subst e
        have hl : live l k' = some t' := h.2.1
        simp [live, hl]
      · simp [live, e]
    | _ => rw [countStarts_cons_other _ _ _ (by nofun), countFailed_cons_other _ _ _ (by nofun)]; exact ih

theorem countStarts_le_one {l : List Ev} (h : WF l) (k : Key) (hnf : ∀ t', Ev.failed k t' ∉ l) :
    countStarts l k ≤ 1 := by
  rw [starts_eq h, countFailed_zero_of hnf]
  split <;> omega

theorem Step.log_suffix {s s' : St} (h : Step s s') : s.log <:+ s'.log := by
  cases h <;> exact List.suffix_cons _ _

theorem Steps.log_suffix {s s' : St} (h : Steps s s') : s.log <:+ s'.log := by
  induction h with
  | refl => exact List.suffix_refl _
  | tail _ st ih => exact ih.trans st.log_suffix

end C22
