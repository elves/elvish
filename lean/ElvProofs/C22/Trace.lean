import ElvModel.C22.Model
/-!
C22: every run of the model is a sequence of guarded primitive transitions (`Step`).  The guards are exactly what
the code checks locally (`modules[k]` absent before an evaluation starts, present for a cache hit) or what the call
structure gives (the evaluation that completes / fails is the innermost one in progress).  All history theorems are
then invariants of `Step`, proved without looking at the recursive functions again.
-/
namespace C22

inductive Step : St → St → Prop
  | start (s : St) (k : Key) (h : mget s.mods k = none) :
      Step s ⟨mset s.mods k s.next, s.next + 1, (k, s.next) :: s.stack, .start k s.next :: s.log⟩
  | done (s : St) (k : Key) (t : Nat) (rest : List (Key × Nat)) (h : s.stack = (k, t) :: rest) :
      Step s ⟨s.mods, s.next, rest, .done k t :: s.log⟩
  | failed (s : St) (k : Key) (t : Nat) (rest : List (Key × Nat)) (h : s.stack = (k, t) :: rest) :
      Step s ⟨mdel s.mods k, s.next, rest, .failed k t :: s.log⟩
  | hit (s : St) (k : Key) (t : Nat) (h : mget s.mods k = some t) : Step s (s.emit (.hit k t))
  | got (s : St) (b : Option Nat) (sp : Str) (k : Key) (t n : Nat)
      (h : s.log.head? = some (.hit k t) ∨ s.log.head? = some (.done k t))
      (hb : b = (s.stack.head?).map Prod.snd) :
      Step s (s.emit (.got b sp k t n))
  | def_ (s : St) (b : Option Nat) : Step s (s.emit (.def_ b))
  | caught (s : St) (b : Option Nat) : Step s (s.emit (.caught b))

inductive Steps : St → St → Prop
  | refl (s : St) : Steps s s
  | tail {a b c : St} : Steps a b → Step b c → Steps a c

theorem Steps.trans {a b c : St} (h1 : Steps a b) (h2 : Steps b c) : Steps a c := by
  induction h2 with
  | refl => exact h1
  | tail _ st ih => exact .tail ih st

theorem Steps.one {a b : St} (h : Step a b) : Steps a b := .tail (.refl a) h

structure Good (s s' : St) (r : R) : Prop where
  steps : Steps s s'
  stack : s'.stack = s.stack
  head : ∀ k t, r = .ok k t → s'.log.head? = some (.hit k t) ∨ s'.log.head? = some (.done k t)

def RecOK (rec : Rec) : Prop := ∀ cx s sp, Good s (rec cx s sp).1 (rec cx s sp).2

theorem runBody_cons (rec : Rec) (cx : Cx) (a : Act) (as : List Act) (s : St) :
    runBody rec cx (a :: as) s = (s, some .fail) ∨
    runBody rec cx (a :: as) s = runBody rec cx as s ∨
    runBody rec cx (a :: as) s = runBody rec cx as (s.emit (.def_ cx.tok)) ∨
    ∃ sp,
      (∃ k t, (rec cx s sp).2 = .ok k t ∧ runBody rec cx (a :: as) s =
        runBody rec cx as ((rec cx s sp).1.emit (.got cx.tok sp k t (seenDefs (rec cx s sp).1.log t)))) ∨
      (∃ d c, (rec cx s sp).2 = .err d c ∧ runBody rec cx (a :: as) s = ((rec cx s sp).1, some c)) ∨
      (∃ d c, (rec cx s sp).2 = .err d c ∧ c ≠ .fuel ∧ runBody rec cx (a :: as) s =
        runBody rec cx as ((rec cx s sp).1.emit (.caught cx.tok))) := by
  cases a with
  | def_ => exact .inr (.inr (.inl rfl))
  | fail => exact .inl rfl
  | failUntil n =>
    simp only [runBody]
    split
    · exact .inl rfl
    · exact .inr (.inl rfl)
  | use sp =>
    refine .inr (.inr (.inr ⟨sp, ?_⟩))
    simp only [runBody]
    rcases rec cx s sp with ⟨s', _ | ⟨d, c⟩⟩
    · exact .inl ⟨_, _, rfl, rfl⟩
    · exact .inr (.inl ⟨d, c, rfl, rfl⟩)
  | tryUse sp =>
    refine .inr (.inr (.inr ⟨sp, ?_⟩))
    simp only [runBody]
    rcases rec cx s sp with ⟨s', _ | ⟨d, c⟩⟩
    · exact .inl ⟨_, _, rfl, rfl⟩
    · cases c with
      | fuel => exact .inr (.inl ⟨d, _, rfl, rfl⟩)
      | nosuch | bad | fail => exact .inr (.inr ⟨d, _, rfl, nofun, rfl⟩)

def entered (s : St) (key : Key) : St :=
  ⟨mset s.mods key s.next, s.next + 1, (key, s.next) :: s.stack, .start key s.next :: s.log⟩

theorem evalModule_cases (rec : Rec) (key : Key) (base : Option (List Comp)) (body : List Act) (s : St) :
    ∃ s2 c, runBody rec { base := base, tok := some s.next, key := key } body (entered s key) = (s2, c) ∧
      ((c = none ∧ evalModule rec key base body s =
          (⟨s2.mods, s2.next, s2.stack.drop 1, .done key s.next :: s2.log⟩, .ok key s.next)) ∨
       (∃ c', c = some c' ∧ evalModule rec key base body s =
          (⟨mdel s2.mods key, s2.next, s2.stack.drop 1, .failed key s.next :: s2.log⟩, .err false c'))) := by
  unfold evalModule entered
  simp only
  split
  · rename_i s2 heq; exact ⟨s2, none, heq, .inl ⟨rfl, rfl⟩⟩
  · rename_i s2 c' heq; exact ⟨s2, some c', heq, .inr ⟨c', rfl, rfl⟩⟩

theorem mem_allKeys_file (w : World) (p : List Comp) (body : List Act)
    (h : assoc p w.files = some (.code body)) : pathStr p ∈ allKeys w := by
  unfold allKeys
  apply List.mem_append_left
  rw [List.mem_filterMap]
  refine ⟨(p, .code body), ?_, rfl⟩
  generalize w.files = l at h
  induction l with
  | nil => cases h
  | cons a l ih =>
    obtain ⟨p', f⟩ := a
    simp only [assoc] at h
    split at h
    · rename_i e; subst e; injection h with h; subst h; exact List.mem_cons_self
    · exact List.mem_cons_of_mem _ (ih h)

theorem mem_allKeys_bundled (w : World) (sp : Str) (body : List Act)
    (h : assoc sp w.bundled = some body) : sp ∈ allKeys w := by
  unfold allKeys
  apply List.mem_append_right
  rw [List.mem_map]
  refine ⟨(sp, body), ?_, rfl⟩
  generalize w.bundled = l at h
  induction l with
  | nil => cases h
  | cons a l ih =>
    obtain ⟨p', f⟩ := a
    simp only [assoc] at h
    split at h
    · rename_i e; subst e; injection h with h; subst h; exact List.mem_cons_self
    · exact List.mem_cons_of_mem _ (ih h)

section
variable (w : World) (rec : Rec) (P : St → St × R → Prop)
  (hit : ∀ s k t, mget s.mods k = some t → P s (s.emit (.hit k t), .ok k t))
  (err : ∀ s c, c ≠ .fuel → P s (s, .err true c))
  (eval : ∀ s key base body, mget s.mods key = none → key ∈ allKeys w →
    P s (evalModule rec key base body s))
  (next : ∀ s s' r, P s (s', .err true .nosuch) → P s' r → P s r)
include hit err eval

theorem useFromFile_cases (s : St) (p : List Comp) : P s (useFromFile w rec s p) := by
  unfold useFromFile
  simp only
  split
  · rename_i t ht; exact hit s _ t ht
  · rename_i hn
    split
    · exact err s _ nofun
    · exact err s _ nofun
    · rename_i body hf; exact eval s _ _ body hn (mem_allKeys_file w p body hf)

include next

theorem useLib_cases (sp : Str) (ds : List (List Comp)) : ∀ s, P s (useLib w rec sp ds s) := by
  induction ds with
  | nil => intro s; exact err s _ nofun
  | cons d ds ih =>
    intro s
    have g := useFromFile_cases w rec P hit err eval s (joinClean d sp)
    simp only [useLib]
    split
    · rename_i heq; rw [heq] at g; exact next s _ _ g (ih _)
    · exact g

/-- How `use` comes by its result: a cache hit, a direct error, one evaluation of an evaluable key that is absent, or
a lib dir that has no such module followed by a further attempt. -/
theorem useStep_cases (cwd : List Comp) (cx : Cx) (s : St) (sp : Str) : P s (useStep w cwd rec cx s sp) := by
  unfold useStep
  split
  · exact useFromFile_cases w rec P hit err eval s _
  · split
    · rename_i t ht; exact hit s sp t ht
    · rename_i hn
      split
      · rename_i body hb; exact eval s sp none body hn (mem_allKeys_bundled w sp body hb)
      · exact useLib_cases w rec P hit err eval next sp _ s
end

theorem runBody_good (rec : Rec) (hrec : RecOK rec) (cx : Cx) (acts : List Act) :
    ∀ s : St, cx.tok = (s.stack.head?).map Prod.snd →
      Steps s (runBody rec cx acts s).1 ∧ (runBody rec cx acts s).1.stack = s.stack := by
  induction acts with
  | nil => intro s _; exact ⟨.refl s, rfl⟩
  | cons a as ih =>
    intro s hcx
    -- the rest of the body, run after `use` returned in `s'` and one event `e` was emitted
    have cont : ∀ s' e, Steps s s' → s'.stack = s.stack → Step s' (s'.emit e) →
        Steps s (runBody rec cx as (s'.emit e)).1 ∧ (runBody rec cx as (s'.emit e)).1.stack = s.stack := by
      intro s' e h1 h2 h3
      have := ih (s'.emit e) (by rw [hcx, ← h2]; rfl)
      exact ⟨(h1.tail h3).trans this.1, this.2.trans h2⟩
    rcases runBody_cons rec cx a as s with h | h | h | ⟨sp, ⟨k, t, hr, h⟩ | ⟨d, c, hr, h⟩ | ⟨d, c, hr, _, h⟩⟩
      <;> rw [h]
    · exact ⟨.refl s, rfl⟩
    · exact ih s hcx
    · exact cont s _ (.refl s) rfl (.def_ s cx.tok)
    · have g := hrec cx s sp
      exact cont _ _ g.steps g.stack (.got _ cx.tok sp k t _ (g.head k t hr) (by rw [g.stack]; exact hcx))
    · exact ⟨(hrec cx s sp).steps, (hrec cx s sp).stack⟩
    · exact cont _ _ (hrec cx s sp).steps (hrec cx s sp).stack (.caught _ cx.tok)

theorem evalModule_good (rec : Rec) (hrec : RecOK rec) (key : Key) (base : Option (List Comp))
    (body : List Act) (s : St) (habs : mget s.mods key = none) :
    Good s (evalModule rec key base body s).1 (evalModule rec key base body s).2 := by
  obtain ⟨s2, c, hb, h⟩ := evalModule_cases rec key base body s
  have hg := runBody_good rec hrec { base := base, tok := some s.next, key := key } body (entered s key) rfl
  rw [hb] at hg
  obtain ⟨hsteps, hstack : s2.stack = (key, s.next) :: s.stack⟩ := hg
  have h0 : Steps s s2 := (Steps.one (Step.start s key habs)).trans hsteps
  rcases h with ⟨_, h⟩ | ⟨c', _, h⟩ <;> rw [h, hstack]
  · exact ⟨h0.tail (.done s2 key s.next s.stack hstack), rfl, fun k t e => by cases e; exact .inr rfl⟩
  · exact ⟨h0.tail (.failed s2 key s.next s.stack hstack), rfl, nofun⟩

theorem useStep_good (w : World) (cwd : List Comp) (rec : Rec) (hrec : RecOK rec) :
    RecOK (useStep w cwd rec) := by
  intro cx s sp
  refine useStep_cases w rec (fun s r => Good s r.1 r.2) ?_ ?_ ?_ ?_ cwd cx s sp
  · intro s k t ht
    exact ⟨Steps.one (.hit s k t ht), rfl, fun k' t' e => by cases e; exact .inl rfl⟩
  · intro s c _; exact ⟨.refl s, rfl, nofun⟩
  · intro s key base body habs _; exact evalModule_good rec hrec key base body s habs
  · intro s s' r g g2
    exact ⟨g.steps.trans g2.steps, g2.stack.trans g.stack, g2.head⟩

theorem useSpec_good (w : World) (cwd : List Comp) : ∀ f, RecOK (useSpec w cwd f)
  | 0 => fun _ s _ => ⟨.refl s, rfl, nofun⟩
  | f + 1 => useStep_good w cwd _ (useSpec_good w cwd f)

end C22
