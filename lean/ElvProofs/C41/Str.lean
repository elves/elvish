/-
`str:split` / `str:join` (joining a split gives the string back), `strings.Replace`
(the slice that would panic is never taken) and `str:repeat` (decided on the true
product of length and count).
-/
import ElvModel.C41.Spec
import ElvProofs.Lemmas.Utf8
namespace C41
open Go

theorem strIndex_spec {s sub : Bytes} {m : Nat} (h : strIndex s sub = some m) :
    s = s.take m ++ sub ++ s.drop (m + sub.length) := by
  fun_induction strIndex s sub generalizing m with
  | case1 s hp =>
    obtain ⟨r, rfl⟩ := List.isPrefixOf_iff_prefix.mp hp
    cases h
    simp
  | case2 => cases h
  | case3 b t hp ih =>
    obtain ⟨m', hm', rfl⟩ := Option.map_eq_some_iff.mp h
    rw [show m' + 1 + sub.length = (m' + sub.length) + 1 by omega, List.take_succ_cons,
      List.drop_succ_cons, List.cons_append, List.cons_append, ← ih hm']

theorem intercal_cons_of_ne_nil (sep x : Bytes) {l : List Bytes} (h : l ≠ []) :
    intercal sep (x :: l) = x ++ sep ++ intercal sep l := by
  cases l with
  | nil => exact absurd rfl h
  | cons y l => rfl

theorem splitLoop_ne_nil (sep : Bytes) (n : Nat) (s : Bytes) : splitLoop sep n s ≠ [] := by
  cases n with
  | zero => simp [splitLoop]
  | succ n => unfold splitLoop; split <;> simp

theorem intercal_splitLoop (sep : Bytes) (n : Nat) (s : Bytes) :
    intercal sep (splitLoop sep n s) = s := by
  induction n generalizing s with
  | zero => rfl
  | succ n ih =>
    unfold splitLoop
    split
    · rfl
    · rename_i m hm
      rw [intercal_cons_of_ne_nil _ _ (splitLoop_ne_nil _ _ _), ih]
      exact (strIndex_spec hm).symm

theorem explodeLoop_ne_nil (k : Nat) (s : Bytes) : explodeLoop k s ≠ [] := by
  cases k <;> simp [explodeLoop]

theorem intercal_explodeLoop (k : Nat) (s : Bytes) : intercal [] (explodeLoop k s) = s := by
  induction k generalizing s with
  | zero => rfl
  | succ k ih =>
    simp only [explodeLoop]
    rw [intercal_cons_of_ne_nil _ _ (explodeLoop_ne_nil _ _), ih]
    simp

theorem intercal_splitN (s sep : Bytes) (n : Int) (hn : n ≠ 0) :
    intercal sep (splitN s sep n) = s := by
  unfold splitN
  rw [if_neg hn]
  split
  · rename_i hsep
    have hsep : sep = [] := by simpa using hsep
    subst hsep
    -- `explode` makes `k` pieces, and `k = 0` only for the empty string
    have key : ∀ k : Nat, (k = 0 → s = []) →
        intercal [] (if k = 0 then [] else explodeLoop (k - 1) s) = s := by
      intro k hk
      by_cases h0 : k = 0
      · simp [h0, hk h0, intercal]
      · rw [if_neg h0]; exact intercal_explodeLoop _ _
    have hz : runeCount s = 0 → s = [] := fun hl =>
      (runes_eq_nil_iff s).mp (List.length_eq_zero_iff.mp hl)
    unfold explode
    simp only
    by_cases hc : n < 0 ∨ n > (runeCount s : Int)
    · rw [if_pos hc]; exact key _ hz
    · rw [if_neg hc]; exact key _ (fun h => by omega)
  · exact intercal_splitLoop _ _ _

theorem joinLoop_strs (sep : Bytes) (l : List Bytes) (buf : Bytes) :
    joinLoop sep (l.map Val.str) buf false = .ok (intercal sep (buf :: l)) := by
  induction l generalizing buf with
  | nil => rfl
  | cons y l ih =>
    simp only [List.map_cons, joinLoop, ih]
    cases l <;> simp [intercal]

theorem join_strs (sep : Bytes) (l : List Bytes) :
    join sep (l.map Val.str) = .ok (intercal sep l) := by
  cases l with
  | nil => rfl
  | cons x l => simp [join, joinLoop, joinLoop_strs]

theorem join_type_error (sep : Bytes) (pre : List Bytes) (k : String) (rest : List Val) :
    join sep (pre.map Val.str ++ Val.other k :: rest) =
      .exc (badValue "input to str:join" "string" k) := by
  have : ∀ (buf : Bytes) (first : Bool),
      joinLoop sep (pre.map Val.str ++ Val.other k :: rest) buf first =
        .exc (badValue "input to str:join" "string" k) := by
    induction pre with
    | nil => intro buf first; simp [joinLoop]
    | cons x l ih => intro buf first; simp [joinLoop, ih]
  exact this _ _

theorem replaceLoop_empty_ok (new : Bytes) : ∀ (k : Nat) (first : Bool) (rest : Bytes),
    ∃ r, replaceLoop [] new k first rest = .ok r
  | 0, _, rest => ⟨rest, rfl⟩
  | k + 1, first, rest => by
    unfold replaceLoop
    cases first
    · obtain ⟨r, hr⟩ := replaceLoop_empty_ok new k false (rest.drop ((decodeRune rest).2))
      simp [hr]
    · obtain ⟨r, hr⟩ := replaceLoop_empty_ok new k false rest
      simp [hr]

/-- `k` replacements find `k` occurrences when `Count` has found as many -/
theorem replaceLoop_count_ok (old new : Bytes) (ho : old.isEmpty = false) :
    ∀ (k fuel : Nat) (first : Bool) (rest : Bytes), k ≤ countLoop old fuel rest →
      ∃ r, replaceLoop old new k first rest = .ok r
  | 0, _, _, rest, _ => ⟨rest, rfl⟩
  | k + 1, fuel, first, rest, h => by
    cases fuel with
    | zero => simp [countLoop] at h
    | succ f =>
      unfold countLoop at h
      cases hi : strIndex rest old with
      | none => simp [hi] at h
      | some i =>
        simp only [hi] at h
        obtain ⟨r, hr⟩ := replaceLoop_count_ok old new ho k f false (rest.drop (i + old.length)) (by omega)
        unfold replaceLoop
        simp [ho, hi, hr]

theorem replace_no_panic (s old new : Bytes) (n : Int) : ∃ r, replace s old new n = .ok r := by
  unfold replace
  split
  · exact ⟨s, rfl⟩
  · simp only
    split
    · exact ⟨s, rfl⟩
    · by_cases ho : old.isEmpty = true
      · have : old = [] := by simpa using ho
        subst this
        exact replaceLoop_empty_ok new _ _ _
      · have ho : old.isEmpty = false := by simpa using ho
        apply replaceLoop_count_ok old new ho _ s.length
        have hc : count s old = countLoop old s.length s := by simp [count, ho]
        rw [← hc]
        split <;> omega

theorem length_flatten_replicate (k : Nat) (s : Bytes) :
    (List.replicate k s).flatten.length = k * s.length := by
  induction k with
  | zero => simp
  | succ k ih => simp [List.replicate_succ, ih, Nat.succ_mul, Nat.add_comm]

theorem stringsRepeat_ok (s : Bytes) (n : Int) (_h0 : 0 ≤ n) (h : (s.length : Int) * n ≤ maxInt) :
    stringsRepeat s n = .ok (List.replicate n.toNat s).flatten := by
  unfold stringsRepeat
  by_cases h1 : n = 0
  · simp [h1]
  by_cases h2 : n = 1
  · simp [h2]
  rw [if_neg h1, if_neg h2, if_neg (by omega)]
  have hle : (s.length : Int) ≤ maxInt / n := (Int.le_ediv_iff_mul_le (by omega)).mpr h
  rw [if_neg (by omega)]
  cases s <;> simp

theorem stringsRepeatA_of_le (maxAlloc : Int) (s : Bytes) (n : Int) (h : (s.length : Int) * n ≤ maxAlloc) :
    stringsRepeatA maxAlloc s n = stringsRepeat s n := by
  unfold stringsRepeatA stringsRepeat
  rw [if_neg (show ¬ (s.length : Int) * n > maxAlloc by omega)]

theorem wrap64_id (x : Int) (h0 : 0 ≤ x) (h1 : x ≤ maxInt) : wrap64 x = x := by
  unfold wrap64
  unfold maxInt at h1
  omega

/-- the guard of fixes/C41-repeat-overflow.patch, `len(s) > 0 && n > math.MaxInt/len(s)`, decides the true product -/
theorem guard_iff (s : Bytes) (n : Int) :
    (s.length > 0 ∧ n > maxInt / (s.length : Int)) ↔ (s.length : Int) * n > maxInt := by
  rcases Nat.eq_zero_or_pos s.length with hz | hp
  · simp [hz, maxInt]
  · have := Int.le_ediv_iff_mul_le (a := n) (b := maxInt) (show (0 : Int) < s.length by omega)
    rw [Int.mul_comm] at this
    omega

theorem strRepeatA_eq (maxAlloc : Int) (hA : maxRepeatLen ≤ maxAlloc) (s : Bytes) (n : Int) :
    strRepeatA maxAlloc s n =
      if n < 0 then .exc (badValue "n" "non-negative number" (toString n))
      else if (s.length : Int) * n > maxInt then
        .exc (badValue "n" "small enough not to overflow result" (toString n))
      else if (s.length : Int) * n > maxRepeatLen then
        .exc (badValue "n" "small enough for the result not to exceed 2147483647 bytes" (toString n))
      else .ok (List.replicate n.toNat s).flatten := by
  unfold strRepeatA
  by_cases h0 : n < 0
  · rw [if_pos h0, if_pos h0]
  rw [if_neg h0, if_neg h0]
  have hn : 0 ≤ n := by omega
  simp only [guard_iff s n]
  by_cases hp : (s.length : Int) * n > maxInt
  · rw [if_pos hp, if_pos hp]
  rw [if_neg hp, if_neg hp, wrap64_id _ (Int.mul_nonneg (by omega) hn) (by omega)]
  by_cases hc : (s.length : Int) * n > maxRepeatLen
  · rw [if_pos hc, if_pos hc]
  rw [if_neg hc, if_neg hc, stringsRepeatA_of_le _ _ _ (by omega), stringsRepeat_ok s n hn (by omega)]

end C41
