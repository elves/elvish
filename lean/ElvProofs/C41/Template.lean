/-
Replacement templates (`Regexp.Expand`).  `extract` and `cutDollar` are characterised by the shape of their
input; that makes every round of the tokenizer and of Go's `expand` loop one equation per kind of token, and
the theorems about templates are inductions (`tokenizeLoop_induction`) that use those equations only.
-/
import ElvModel.C41.Template
import ElvProofs.C41.Re
import ElvProofs.Lemmas.Utf8.Basic
namespace C41
open Go

theorem isDigits_cons (c : UInt8) (rest : Bytes) :
    isDigits (c :: rest) = true ↔ (48 ≤ c.toNat ∧ c.toNat ≤ 57) ∧ isDigits rest = true := by
  simp [isDigits, UInt8.le_iff_toNat_le]

/-- the value so far is checked against `1e8` before the digit is taken (`num >= 1e8` in Go's `extract`) -/
theorem numLoop_digit (c : UInt8) (rest : Bytes) (acc : Nat) (hc : 48 ≤ c.toNat ∧ c.toNat ≤ 57) :
    numLoop (c :: rest) acc =
      if acc < 10 ^ 8 then numLoop rest ((acc * 10 + (c.toNat - 48) : Nat) : Int) else -1 := by
  have h1 : ¬ c < 48 := fun h => by have := UInt8.lt_iff_toNat_lt.mp h; simp at this; omega
  have h2 : ¬ 57 < c := fun h => by have := UInt8.lt_iff_toNat_lt.mp h; simp at this; omega
  rw [numLoop]
  simp only [h1, h2, false_or]
  by_cases ha : acc < 10 ^ 8
  · rw [if_pos ha, if_neg (by omega)]
    rfl
  · rw [if_neg ha, if_pos (by omega)]

/-- at most nine digits: the check never fires -/
theorem numLoop_small : ∀ (ds : Bytes) (k acc : Nat), isDigits ds = true → ds.length + k ≤ 9 → acc < 10 ^ k →
    numLoop ds (acc : Int) = (decVal ds acc : Nat)
  | [], _, _, _, _, _ => rfl
  | c :: rest, k, acc, hd, hl, ha => by
    obtain ⟨hc, hr⟩ := (isDigits_cons c rest).mp hd
    have hk : 10 ^ k ≤ 10 ^ 8 := Nat.pow_le_pow_right (by omega) (by simp at hl; omega)
    rw [numLoop_digit c rest acc hc, if_pos (by omega)]
    exact numLoop_small rest (k + 1) _ hr (by simp at hl; omega) (by rw [Nat.pow_succ]; omega)

/-- a value of `j + 1` digits followed by enough digits to make ten: the check fires -/
theorem numLoop_big : ∀ (ds : Bytes) (j acc : Nat), isDigits ds = true → j ≤ 8 → 10 ^ j ≤ acc → 9 ≤ j + ds.length →
    numLoop ds (acc : Int) = -1
  | [], _, _, _, _, _, hl => by simp at hl; omega
  | c :: rest, j, acc, hd, hj, ha, hl => by
    obtain ⟨hc, hr⟩ := (isDigits_cons c rest).mp hd
    rw [numLoop_digit c rest acc hc]
    split
    · have hj' : j < 8 := by
        rcases Nat.lt_or_ge j 8 with h | h
        · exact h
        · have := Nat.pow_le_pow_right (n := 10) (by omega) h; omega
      exact numLoop_big rest (j + 1) _ hr (by omega) (by rw [Nat.pow_succ]; omega) (by simp at hl; omega)
    · rfl

theorem numLoop_nondigit : ∀ (ds : Bytes) (acc : Int), isDigits ds = false → numLoop ds acc = -1
  | [], _, h => by simp [isDigits] at h
  | c :: rest, acc, h => by
    rw [numLoop]
    split
    · rfl
    · rename_i hc
      apply numLoop_nondigit rest
      have h1 : 48 ≤ c := UInt8.not_lt.mp fun h => hc (Or.inl h)
      have h2 : c ≤ 57 := UInt8.not_lt.mp fun h => hc (Or.inr (Or.inl h))
      simpa [isDigits, h1, h2] using h

theorem refNum_spec (name : Bytes) :
    refNum name =
      if isDigits name = true ∧ name.length ≤ 9 ∧ ¬ (name.head? = some 48 ∧ name.length > 1)
      then ((decVal name 0 : Nat) : Int) else -1 := by
  unfold refNum
  by_cases hz : name.head? = some 48 ∧ name.length > 1
  · rw [if_pos hz, if_neg (fun h => h.2.2 hz)]
  rw [if_neg hz]
  by_cases hd : isDigits name = true
  · by_cases hl : name.length ≤ 9
    · rw [if_pos ⟨hd, hl, hz⟩]
      exact numLoop_small name (9 - name.length) 0 hd (by omega) (Nat.pow_pos (by omega))
    · rw [if_neg (fun h => hl h.2.1)]
      -- ten or more digits, the first not `0`: the value reaches 1e8 before the last digit
      cases name with
      | nil => simp at hl
      | cons c rest =>
        obtain ⟨hc, hr⟩ := (isDigits_cons c rest).mp hd
        have hc0 : c.toNat ≠ 48 := fun h => hz
          ⟨by rw [show c = 48 from UInt8.toNat_inj.mp h]; rfl, by simp at hl ⊢; omega⟩
        rw [show (0 : Int) = ((0 : Nat) : Int) from rfl, numLoop_digit c rest 0 hc, if_pos (by omega)]
        exact numLoop_big rest 0 _ hr (by omega) (by simp; omega) (by simp at hl; omega)
  · rw [if_neg (fun h => hd h.1)]
    exact numLoop_nondigit name 0 (by simpa using hd)

theorem noDollar_cons (c : UInt8) (b : Bytes) : noDollar (c :: b) = true ↔ c ≠ 36 ∧ noDollar b = true := by
  simp [noDollar]

theorem cutDollar_noDollar {b : Bytes} (h : noDollar b = true) : cutDollar b = none := by
  induction b with
  | nil => rfl
  | cons c b ih =>
    obtain ⟨hc, hb⟩ := (noDollar_cons c b).mp h
    simp [cutDollar, hc, ih hb]

theorem cutDollar_append {b : Bytes} (h : noDollar b = true) (x : Bytes) :
    cutDollar (b ++ 36 :: x) = some (b, x) := by
  induction b with
  | nil => simp [cutDollar]
  | cons c b ih =>
    obtain ⟨hc, hb⟩ := (noDollar_cons c b).mp h
    simp [cutDollar, hc, ih hb]

theorem noDollar_or_split (t : Bytes) :
    noDollar t = true ∨ ∃ b x, t = b ++ 36 :: x ∧ noDollar b = true := by
  induction t with
  | nil => exact Or.inl rfl
  | cons c t ih =>
    by_cases hc : c = 36
    · exact Or.inr ⟨[], t, by rw [hc]; rfl, rfl⟩
    · rcases ih with h | ⟨b, x, rfl, h⟩
      · exact Or.inl ((noDollar_cons c t).mpr ⟨hc, h⟩)
      · exact Or.inr ⟨c :: b, x, rfl, (noDollar_cons c b).mpr ⟨hc, h⟩⟩

theorem scanName_le (isName : Rune → Bool) : ∀ (f : Nat) (s : Bytes), scanName isName f s ≤ s.length
  | 0, _ => by simp [scanName]
  | f + 1, [] => by simp [scanName]
  | f + 1, c :: t => by
    unfold scanName
    simp only
    split
    · have h1 := decodeRune_size_le (c :: t)
      have h2 := scanName_le isName f ((c :: t).drop (decodeRune (c :: t)).2)
      simp only [List.length_drop] at h2
      omega
    · omega

theorem extract_plain (isName : Rune → Bool) {x : Bytes} (h : x.head? ≠ some 123) {i : Nat}
    (hi : scanName isName x.length x = i) :
    extract isName x = if i = 0 then none else some (x.take i, refNum (x.take i), x.drop i) := by
  subst hi
  cases x with
  | nil => rfl
  | cons c t =>
    have hc : ¬ c = 123 := by simpa using h
    simp only [extract, hc, if_false]

theorem extract_brace (isName : Rune → Bool) (str : Bytes) {i : Nat} (hi : scanName isName str.length str = i) :
    extract isName (123 :: str) =
      if i = 0 then none
      else if str[i]? = some 125 then some (str.take i, refNum (str.take i), str.drop (i + 1))
      else none := by
  subst hi
  simp only [extract, if_true]
  split
  · rfl
  · by_cases h : str[scanName isName str.length str]? = some 125 <;> simp [h]

theorem head?_append_of_ne_nil {α} {l : List α} (h : l ≠ []) (l' : List α) : (l ++ l').head? = l.head? := by
  cases l with
  | nil => exact absurd rfl h
  | cons a l => rfl

theorem take_drop_iff {α} (str name rest : List α) (i : Nat) (hi : i ≤ str.length) :
    (str.take i = name ∧ str.drop i = rest) ↔ (str = name ++ rest ∧ name.length = i) := by
  constructor
  · rintro ⟨rfl, rfl⟩
    exact ⟨(List.take_append_drop i str).symm, by simp; omega⟩
  · rintro ⟨rfl, rfl⟩
    simp

theorem take_getElem_drop_iff {α} (str name rest : List α) (c : α) (i : Nat) :
    (str[i]? = some c ∧ str.take i = name ∧ str.drop (i + 1) = rest) ↔
      (str = name ++ c :: rest ∧ name.length = i) := by
  constructor
  · rintro ⟨hc, rfl, rfl⟩
    obtain ⟨hlt, rfl⟩ := List.getElem?_eq_some_iff.mp hc
    exact ⟨by rw [List.getElem_cons_drop, List.take_append_drop], by simp; omega⟩
  · rintro ⟨rfl, rfl⟩
    simp [← List.drop_drop]

theorem extract_eq_some_iff (isName : Rune → Bool) (x name rest : Bytes) (num : Int) :
    extract isName x = some (name, num, rest) ↔ num = refNum name ∧
      ((x.head? ≠ some 123 ∧ x = name ++ rest ∧ NameBefore isName name rest) ∨
       (x = 123 :: (name ++ 125 :: rest) ∧ NameBefore isName name (125 :: rest))) := by
  unfold NameBefore
  by_cases hb : x.head? = some 123
  · obtain ⟨str, rfl⟩ : ∃ str, x = 123 :: str := by
      cases x with
      | nil => simp at hb
      | cons c t => exact ⟨t, by simpa using hb⟩
    rw [extract_brace isName str rfl]
    simp only [hb, ne_eq, not_true_eq_false, false_and, false_or, List.cons.injEq, true_and]
    constructor
    · intro h
      split at h
      · cases h
      · rename_i hi
        split at h
        · rename_i h125
          simp only [Option.some.injEq, Prod.mk.injEq] at h
          obtain ⟨h1, h2, h3⟩ := h
          obtain ⟨rfl, hl⟩ := (take_getElem_drop_iff str name rest 125 _).mp ⟨h125, h1, h3⟩
          exact ⟨by rw [← h2, h1], rfl, fun h0 => hi (by rw [← hl, h0]; rfl), hl.symm⟩
        · cases h
    · rintro ⟨rfl, rfl, hne, hscan⟩
      rw [hscan, if_neg (fun h => hne (List.length_eq_zero_iff.mp h))]
      simp [← List.drop_drop]
  · rw [extract_plain isName hb rfl]
    simp only [hb, ne_eq, not_false_eq_true, true_and]
    constructor
    · intro h
      split at h
      · cases h
      · rename_i hi
        simp only [Option.some.injEq, Prod.mk.injEq] at h
        obtain ⟨h1, h2, h3⟩ := h
        obtain ⟨rfl, hl⟩ := (take_drop_iff x name rest _ (scanName_le isName _ _)).mp ⟨h1, h3⟩
        exact ⟨by rw [← h2, h1], Or.inl ⟨rfl, fun h0 => hi (by rw [← hl, h0]; rfl), hl.symm⟩⟩
    · rintro ⟨rfl, ⟨rfl, hne, hscan⟩ | ⟨rfl, _⟩⟩
      · rw [hscan, if_neg (fun h => hne (List.length_eq_zero_iff.mp h))]
        simp
      · exact absurd rfl hb

theorem extract_rest_le {isName : Rune → Bool} {x name rest : Bytes} {num : Int}
    (h : extract isName x = some (name, num, rest)) : rest.length ≤ x.length := by
  obtain ⟨_, ⟨_, rfl, _⟩ | ⟨rfl, _⟩⟩ := (extract_eq_some_iff isName x name rest num).mp h <;> simp <;> omega

theorem tokenizeLoop_text (isName : Rune → Bool) (f : Nat) {t : Bytes} (h : noDollar t = true) :
    tokenizeLoop isName (f + 1) t = litTok t := by
  rw [tokenizeLoop, cutDollar_noDollar h]

theorem tokenizeLoop_dollar (isName : Rune → Bool) (f : Nat) {b : Bytes} (h : noDollar b = true) (x : Bytes) :
    tokenizeLoop isName (f + 1) (b ++ 36 :: 36 :: x) = litTok b ++ .dollar :: tokenizeLoop isName f x := by
  rw [tokenizeLoop, cutDollar_append h]
  rfl

theorem tokenizeLoop_raw (isName : Rune → Bool) (f : Nat) {b x : Bytes} (h : noDollar b = true)
    (h36 : x.head? ≠ some 36) (he : extract isName x = none) :
    tokenizeLoop isName (f + 1) (b ++ 36 :: x) = litTok b ++ .raw :: tokenizeLoop isName f x := by
  rw [tokenizeLoop, cutDollar_append h]
  dsimp only
  split
  · exact absurd rfl h36
  · simp only [he]

theorem tokenizeLoop_ref (isName : Rune → Bool) (f : Nat) {b x name rest : Bytes} {num : Int}
    (h : noDollar b = true) (h36 : x.head? ≠ some 36) (he : extract isName x = some (name, num, rest)) :
    tokenizeLoop isName (f + 1) (b ++ 36 :: x) =
      litTok b ++ .ref (decide (x.head? = some 123)) name :: tokenizeLoop isName f rest := by
  rw [tokenizeLoop, cutDollar_append h]
  dsimp only
  split
  · exact absurd rfl h36
  · simp only [he]

theorem tokenizeLoop_induction (isName : Rune → Bool) (P : Nat → Bytes → List Tok → Prop)
    (text : ∀ f t, noDollar t = true → P (f + 1) t (litTok t))
    (dollar : ∀ f b x toks, noDollar b = true → P f x toks →
      P (f + 1) (b ++ 36 :: 36 :: x) (litTok b ++ .dollar :: toks))
    (raw : ∀ f b x toks, noDollar b = true → x.head? ≠ some 36 → extract isName x = none → P f x toks →
      P (f + 1) (b ++ 36 :: x) (litTok b ++ .raw :: toks))
    (ref : ∀ f b x name rest toks, noDollar b = true → x.head? ≠ some 36 →
      extract isName x = some (name, refNum name, rest) → P f rest toks →
      P (f + 1) (b ++ 36 :: x) (litTok b ++ .ref (decide (x.head? = some 123)) name :: toks)) :
    ∀ (f : Nat) (t : Bytes), t.length < f → P f t (tokenizeLoop isName f t)
  | 0, _, hf => by omega
  | f + 1, t, hf => by
    have ih := tokenizeLoop_induction isName P text dollar raw ref f
    rcases noDollar_or_split t with h | ⟨b, x, rfl, h⟩
    · rw [tokenizeLoop_text isName f h]
      exact text f t h
    have hx : x.length < f := by simp at hf; omega
    by_cases h36 : x.head? = some 36
    · obtain ⟨x', rfl⟩ : ∃ x', x = 36 :: x' := by
        cases x with
        | nil => simp at h36
        | cons c x' => exact ⟨x', by simpa using h36⟩
      rw [tokenizeLoop_dollar isName f h]
      exact dollar f b x' _ h (ih x' (by simp at hx; omega))
    cases he : extract isName x with
    | none =>
      rw [tokenizeLoop_raw isName f h h36 he]
      exact raw f b x _ h h36 he (ih x hx)
    | some q =>
      obtain ⟨name, num, rest⟩ := q
      obtain rfl := ((extract_eq_some_iff isName x name rest num).mp he).1
      rw [tokenizeLoop_ref isName f h h36 he]
      exact ref f b x name rest _ h h36 he (ih rest (by have := extract_rest_le he; omega))

theorem groupsOk_pair {len : Nat} : ∀ (k : Nat) (m : Match), GroupsOk len m → 2 * k + 1 < m.length →
    ∃ a b, m[2 * k]? = some a ∧ m[2 * k + 1]? = some b ∧
      ((a = -1 ∧ b = -1) ∨ (0 ≤ a ∧ a ≤ b ∧ b ≤ len))
  | _, [], _, hl => by simp at hl
  | _, [_], h, _ => h.elim
  | 0, s :: e :: rest, h, _ => ⟨s, e, rfl, rfl, h.1⟩
  -- `(s :: e :: rest)[2 * (k + 1)]?` reduces to `rest[2 * k]?`
  | k + 1, s :: e :: rest, h, hl => groupsOk_pair k rest h.2 (by simp at hl; omega)

theorem appendGroup_ok (src : Bytes) (m : Match) (k : Nat) (dst : Bytes) (h : GroupsOk src.length m) :
    appendGroup src m (k : Int) dst = .ok ((groupText src m k).map (dst ++ ·)) := by
  unfold appendGroup groupText
  by_cases hl : 2 * k + 1 < m.length
  · obtain ⟨a, b, ha, hb, hab⟩ := groupsOk_pair k m h hl
    have i1 : index m (2 * (k : Int)) = .ok a := index_nat ha
    have i2 : index m (2 * (k : Int) + 1) = .ok b := index_nat hb
    rw [if_pos (by omega), ha, hb, i1]
    rcases hab with ⟨rfl, rfl⟩ | ⟨h0, h1, h2⟩
    · simp
    · simp [h0, i2, slice_ok src a b h0 h1 h2]
  · rw [if_neg (by omega), List.getElem?_eq_none (i := 2 * k + 1) (by omega)]
    cases m[2 * k]? <;> rfl

theorem appendNamed_ok (src : Bytes) (m : Match) (name : Bytes) (h : GroupsOk src.length m) :
    ∀ (names : List Bytes) (i : Nat) (dst : Bytes),
      appendNamed src m name names (i : Int) dst = .ok (dst ++ namedText src m name names i)
  | [], _, dst => by simp [appendNamed, namedText]
  | namei :: rest, i, dst => by
    have ih : appendNamed src m name rest ((i : Int) + 1) dst = _ := appendNamed_ok src m name h rest (i + 1) dst
    unfold appendNamed namedText
    by_cases hn : name = namei
    · rw [if_pos hn, if_pos hn, appendGroup_ok src m i dst h]
      cases hg : groupText src m i with
      | none => exact ih
      | some t => rfl
    · rw [if_neg hn, if_neg hn, ih]

theorem tokValues_litTok_append (names : List Bytes) (src : Bytes) (m : Match) (b : Bytes) (toks : List Tok) :
    ((litTok b ++ toks).map (tokValue names src m)).flatten = b ++ (toks.map (tokValue names src m)).flatten := by
  unfold litTok
  split
  · rename_i h; simp [h]
  · simp [tokValue]

section
variable (isName : Rune → Bool) (names : List Bytes) (src : Bytes) (m : Match)

theorem expandLoop_text (f : Nat) {t : Bytes} (h : noDollar t = true) (dst : Bytes) :
    expandLoop isName names src m (f + 1) t dst = .ok (dst ++ t) := by
  rw [expandLoop, cutDollar_noDollar h]

theorem expandLoop_dollar (f : Nat) {b : Bytes} (h : noDollar b = true) (x dst : Bytes) :
    expandLoop isName names src m (f + 1) (b ++ 36 :: 36 :: x) dst =
      expandLoop isName names src m f x (dst ++ b ++ [36]) := by
  rw [expandLoop, cutDollar_append h]
  rfl

theorem expandLoop_raw (f : Nat) {b x : Bytes} (h : noDollar b = true) (h36 : x.head? ≠ some 36)
    (he : extract isName x = none) (dst : Bytes) :
    expandLoop isName names src m (f + 1) (b ++ 36 :: x) dst =
      expandLoop isName names src m f x (dst ++ b ++ [36]) := by
  rw [expandLoop, cutDollar_append h]
  dsimp only
  split
  · exact absurd rfl h36
  · simp only [he]

theorem expandLoop_ref (hg : GroupsOk src.length m) (f : Nat) {b x name rest : Bytes} (h : noDollar b = true)
    (h36 : x.head? ≠ some 36) (he : extract isName x = some (name, refNum name, rest)) (braced : Bool)
    (dst : Bytes) :
    expandLoop isName names src m (f + 1) (b ++ 36 :: x) dst =
      expandLoop isName names src m f rest (dst ++ b ++ tokValue names src m (.ref braced name)) := by
  rw [expandLoop, cutDollar_append h]
  dsimp only
  split
  · exact absurd rfl h36
  simp only [he, tokValue]
  by_cases hn : refNum name ≥ 0
  · obtain ⟨k, hk⟩ := Int.eq_ofNat_of_zero_le hn
    rw [if_pos hn, if_pos hn, hk, appendGroup_ok src m k _ hg, Int.toNat_natCast]
    cases groupText src m k <;> simp
  · rw [if_neg hn, if_neg hn]
    exact congrArg (· >>= _) (appendNamed_ok src m name hg names 0 (dst ++ b))

theorem expandLoop_eq (hg : GroupsOk src.length m) (fuel : Nat) (t : Bytes) (hf : t.length < fuel) (dst : Bytes) :
    expandLoop isName names src m fuel t dst =
      .ok (dst ++ ((tokenizeLoop isName fuel t).map (tokValue names src m)).flatten) := by
  refine tokenizeLoop_induction isName
    (fun f t toks => ∀ dst, expandLoop isName names src m f t dst =
      .ok (dst ++ (toks.map (tokValue names src m)).flatten))
    ?_ ?_ ?_ ?_ fuel t hf dst
  · intro f t h dst
    rw [expandLoop_text isName names src m f h]
    simpa using congrArg (dst ++ ·) (tokValues_litTok_append names src m t []).symm
  · intro f b x toks h ih dst
    rw [expandLoop_dollar isName names src m f h, ih, tokValues_litTok_append]
    simp [tokValue]
  · intro f b x toks h h36 he ih dst
    rw [expandLoop_raw isName names src m f h h36 he, ih, tokValues_litTok_append]
    simp [tokValue]
  · intro f b x name rest toks h h36 he ih dst
    rw [expandLoop_ref isName names src m hg f h h36 he (decide (x.head? = some 123)), ih,
      tokValues_litTok_append]
    simp

theorem expand_eq (t : Bytes) (h : MatchOk src.length m) :
    expand isName names t src m = .ok (expandSpec isName names t src m) := by
  unfold expand expandSpec tokenize
  rw [expandLoop_eq isName names src m h.groupsOk _ t (by omega) []]
  rfl

end

theorem renderToks_append (a b : List Tok) : renderToks (a ++ b) = renderToks a ++ renderToks b := by
  induction a with
  | nil => rfl
  | cons t a ih => simp [renderToks, ih]

theorem renderToks_litTok (b : Bytes) : renderToks (litTok b) = b := by
  unfold litTok
  split
  · rename_i h; simp [h, renderToks]
  · simp [renderToks, Tok.render]

theorem renderToks_litTok_cons (b : Bytes) (t : Tok) (toks : List Tok) :
    renderToks (litTok b ++ t :: toks) = b ++ t.render ++ renderToks toks := by
  rw [renderToks_append, renderToks_litTok, renderToks, List.append_assoc]

theorem normal_litTok_append (isName : Rune → Bool) (b : Bytes) (l : List Tok) (hb : noDollar b = true)
    (hl : match l with | .lit _ :: _ => False | _ => True) (hn : NormalToks isName l) :
    NormalToks isName (litTok b ++ l) := by
  unfold litTok
  split
  · exact hn
  · rename_i hne
    exact ⟨hne, hb, hl, hn⟩

theorem tokenizeLoop_render_normal (isName : Rune → Bool) (fuel : Nat) (t : Bytes) (hf : t.length < fuel) :
    renderToks (tokenizeLoop isName fuel t) = t ∧ NormalToks isName (tokenizeLoop isName fuel t) := by
  refine tokenizeLoop_induction isName (fun _ t toks => renderToks toks = t ∧ NormalToks isName toks)
    ?_ ?_ ?_ ?_ fuel t hf
  · intro _ t h
    exact ⟨renderToks_litTok t, by simpa using normal_litTok_append isName t [] h trivial trivial⟩
  · intro _ b x toks h ⟨hr, hn⟩
    exact ⟨by rw [renderToks_litTok_cons, hr]; simp [Tok.render], normal_litTok_append isName b _ h trivial hn⟩
  · intro _ b x toks h h36 he ⟨hr, hn⟩
    exact ⟨by rw [renderToks_litTok_cons, hr]; simp [Tok.render],
      normal_litTok_append isName b _ h trivial ⟨hr ▸ h36, hr ▸ he, hn⟩⟩
  · intro _ b x name rest toks h h36 he ⟨hr, hn⟩
    obtain ⟨_, ⟨h123, rfl, hnb⟩ | ⟨rfl, hnb⟩⟩ := (extract_eq_some_iff isName x name rest _).mp he
    · -- `$name`: the name starts like `x`, with neither `{` nor `$`
      have hh := head?_append_of_ne_nil hnb.1 rest
      rw [decide_eq_false h123]
      exact ⟨by rw [renderToks_litTok_cons, hr]; simp [Tok.render],
        normal_litTok_append isName b _ h trivial ⟨hh ▸ h123, hh ▸ h36, hr ▸ hnb, hn⟩⟩
    · rw [show decide ((123 :: (name ++ 125 :: rest)).head? = some 123) = true from rfl]
      exact ⟨by rw [renderToks_litTok_cons, hr]; simp [Tok.render],
        normal_litTok_append isName b _ h trivial ⟨hr ▸ hnb, hn⟩⟩

theorem tokenizeLoop_lit_prefix (isName : Rune → Bool) (fuel : Nat) (b x : Bytes) (h : noDollar b = true) :
    tokenizeLoop isName (fuel + 1) (b ++ 36 :: x) = litTok b ++ tokenizeLoop isName (fuel + 1) (36 :: x) := by
  rw [tokenizeLoop, tokenizeLoop, cutDollar_append h, show cutDollar (36 :: x) = _ from cutDollar_append (b := []) rfl x]
  rfl

theorem tokenizeLoop_renderToks (isName : Rune → Bool) :
    ∀ (toks : List Tok) (fuel : Nat), NormalToks isName toks → (renderToks toks).length < fuel →
      tokenizeLoop isName fuel (renderToks toks) = toks
  | _, 0, _, hf => by omega
  | [], fuel + 1, _, _ => rfl
  | .lit b :: l, fuel + 1, hn, hf => by
    obtain ⟨hb, hnd, hl, hn'⟩ := hn
    have ih := tokenizeLoop_renderToks isName l (fuel + 1) hn' (by simp [renderToks] at hf; omega)
    have hlit : litTok b = [.lit b] := by simp [litTok, hb]
    cases l with
    | nil =>
      simp only [renderToks, Tok.render, List.append_nil]
      rw [tokenizeLoop_text isName fuel hnd, hlit]
    | cons t l' =>
      -- the next token is not a text: its rendering starts with `$`
      obtain ⟨x, hx⟩ : ∃ x, renderToks (t :: l') = 36 :: x := by
        cases t with
        | lit _ => exact hl.elim
        | dollar => exact ⟨_, rfl⟩
        | raw => exact ⟨_, rfl⟩
        | ref br n => cases br <;> exact ⟨_, rfl⟩
      rw [renderToks.eq_2 (.lit b)]
      rw [hx] at ih ⊢
      rw [Tok.render, tokenizeLoop_lit_prefix isName fuel b x hnd, ih, hlit]
      rfl
  | .dollar :: l, fuel + 1, hn, hf => by
    have ih := tokenizeLoop_renderToks isName l fuel hn (by simp [renderToks, Tok.render] at hf; omega)
    have := tokenizeLoop_dollar isName fuel (b := []) rfl (renderToks l)
    rw [ih] at this
    exact this
  | .raw :: l, fuel + 1, hn, hf => by
    obtain ⟨h36, hex, hn'⟩ := hn
    have ih := tokenizeLoop_renderToks isName l fuel hn' (by simp [renderToks, Tok.render] at hf; omega)
    have := tokenizeLoop_raw isName fuel (b := []) rfl h36 hex
    rw [ih] at this
    exact this
  | .ref false n :: l, fuel + 1, hn, hf => by
    obtain ⟨h123, h36, hnb, hn'⟩ := hn
    have ih := tokenizeLoop_renderToks isName l fuel hn' (by simp [renderToks, Tok.render] at hf; omega)
    have hh := head?_append_of_ne_nil hnb.1 (renderToks l)
    have h123' := hh ▸ h123
    have := tokenizeLoop_ref isName fuel (b := []) rfl (hh ▸ h36)
      ((extract_eq_some_iff isName _ n (renderToks l) _).mpr ⟨rfl, Or.inl ⟨h123', rfl, hnb⟩⟩)
    rw [decide_eq_false h123', ih] at this
    exact this
  | .ref true n :: l, fuel + 1, hn, hf => by
    obtain ⟨hnb, hn'⟩ := hn
    have ih := tokenizeLoop_renderToks isName l fuel hn' (by simp [renderToks, Tok.render] at hf; omega)
    have := tokenizeLoop_ref isName fuel (b := []) rfl (by simp)
      ((extract_eq_some_iff isName _ n (renderToks l) _).mpr ⟨rfl, Or.inr ⟨rfl, hnb⟩⟩)
    rw [ih] at this
    simpa [renderToks, Tok.render, litTok] using this

end C41
