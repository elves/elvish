/-
`str:to-codepoints` / `from-codepoints` and `to-utf8-bytes` / `from-utf8-bytes`: the
printed `0x…` numerals read back as the numbers, and the conversions invert each other.
-/
import ElvModel.C41.Spec
import ElvProofs.Lemmas.Utf8
namespace C41
open Go

theorem hexVal_hexDigit : ∀ d, d < 16 → hexVal (hexDigit d) = some d := by decide

theorem hexRev_lt (f n : Nat) : ∀ d ∈ hexRev f n, d < 16 := by
  induction f generalizing n with
  | zero => simp [hexRev]
  | succ f ih =>
    unfold hexRev
    split
    · intro d hd; simp at hd; omega
    · intro d hd
      simp only [List.mem_cons] at hd
      rcases hd with rfl | hd
      · omega
      · exact ih _ d hd

theorem hexRev_ne_nil (f n : Nat) : hexRev (f + 1) n ≠ [] := by
  unfold hexRev; split <;> simp

theorem hexRev_eval (f n : Nat) (h : n < 16 ^ f) :
    (hexRev f n).foldr (fun d a => a * 16 + d) 0 = n := by
  induction f generalizing n with
  | zero => simp at h; simp [hexRev, h]
  | succ f ih =>
    unfold hexRev
    split
    · simp
    · have : n / 16 < 16 ^ f := by
        apply Nat.div_lt_of_lt_mul
        rw [Nat.pow_succ] at h; omega
      simp only [List.foldr_cons, ih _ this]
      omega

theorem foldlM_hexDigits (ds : List Nat) (h : ∀ d ∈ ds, d < 16) (acc : Nat) :
    (ds.map hexDigit).foldlM (fun acc c => (hexVal c).map fun d => acc * 16 + d) acc =
      some (ds.foldl (fun a d => a * 16 + d) acc) := by
  induction ds generalizing acc with
  | nil => rfl
  | cons d ds ih =>
    simp only [List.map_cons, List.foldlM_cons, List.foldl_cons]
    rw [hexVal_hexDigit d (h d (by simp))]
    simp only [Option.map_some, Option.bind_eq_bind, Option.bind_some]
    exact ih (fun x hx => h x (by simp [hx])) _

theorem parseHexChars_fmtHex (n : Nat) (h : n < 16 ^ 16) : parseHexChars (fmtHex n) = some n := by
  unfold fmtHex hexChars parseHexChars
  have hne : ((hexRev 16 n).reverse.map hexDigit).isEmpty = false := by
    have := hexRev_ne_nil 15 n
    cases hr : hexRev 16 n with
    | nil => exact absurd hr this
    | cons a l => simp
  simp only [hne]
  rw [foldlM_hexDigits _ (fun d hd => hexRev_lt 16 n d (by simpa using hd))]
  rw [List.foldl_reverse]
  simp only [Bool.false_eq_true, if_false]
  exact congrArg some (hexRev_eval 16 n h)

theorem mapM_parse_fmtHex (l : List Nat) (h : ∀ n ∈ l, n < 16 ^ 16) :
    (l.map fmtHex).mapM parseHexChars = some l := by
  induction l with
  | nil => rfl
  | cons a l ih =>
    simp only [List.map_cons, List.mapM_cons]
    rw [parseHexChars_fmtHex a (h a (by simp)), ih (fun n hn => h n (by simp [hn]))]
    rfl

theorem mapM_parse_toCodepoints (s : Bytes) :
    (toCodepoints s).mapM parseHexChars = some (toRunes s) := by
  refine mapM_parse_fmtHex _ fun n hn => ?_
  have := validRune_iff.mp (toRunes_validRune s n hn)
  omega

def GoodCp (n : Int) : Prop := 0 ≤ n ∧ n ≤ 0x10FFFF ∧ ¬ isSurrogate n

theorem fromCodepointsLoop_cons_good {n : Int} (h : GoodCp n) (rest : List Int) (buf : Bytes) :
    fromCodepointsLoop (n :: rest) buf = fromCodepointsLoop rest (buf ++ encodeRune n.toNat) := by
  obtain ⟨h0, h1, h2⟩ := h
  have hv : validRune n.toNat = true := by
    simp only [isSurrogate] at h2
    rw [validRune_iff]
    omega
  rw [fromCodepointsLoop, if_neg (by omega), hv]
  rfl

theorem fromCodepointsLoop_cons_bad {n : Int} (h : ¬ GoodCp n) (rest : List Int) (buf : Bytes) :
    fromCodepointsLoop (n :: rest) buf = .exc
      (if n < 0 ∨ n > 0x10FFFF then outOfRange "codepoint" "0" "1114111" (String.ofList (hexOfInt n))
       else badValue "argument to str:from-codepoints" "valid Unicode codepoint" (String.ofList (hexOfInt n))) := by
  rw [fromCodepointsLoop]
  by_cases hr : n < 0 ∨ n > 0x10FFFF
  · rw [if_pos hr, if_pos hr]
  · have hv : validRune n.toNat = false := Bool.eq_false_iff.mpr fun hv => h
      ⟨by omega, by omega, by have := validRune_iff.mp hv; simp only [isSurrogate]; omega⟩
    rw [if_neg hr, if_neg hr, hv]
    rfl

theorem fromCodepointsLoop_ok_iff (nums : List Int) (buf : Bytes) :
    (∃ b, fromCodepointsLoop nums buf = .ok b) ↔ ∀ n ∈ nums, GoodCp n := by
  induction nums generalizing buf with
  | nil => simp [fromCodepointsLoop]
  | cons n rest ih =>
    rw [List.forall_mem_cons]
    by_cases hn : GoodCp n
    · rw [fromCodepointsLoop_cons_good hn, ih]
      simp [hn]
    · rw [fromCodepointsLoop_cons_bad hn]
      simp [hn]

theorem fromCodepointsLoop_good (pre rest : List Int) (h : ∀ n ∈ pre, GoodCp n) (buf : Bytes) :
    fromCodepointsLoop (pre ++ rest) buf =
      fromCodepointsLoop rest (buf ++ encodeRunes (pre.map Int.toNat)) := by
  induction pre generalizing buf with
  | nil => simp [encodeRunes]
  | cons n pre ih =>
    obtain ⟨hn, hpre⟩ := List.forall_mem_cons.mp h
    rw [List.cons_append, fromCodepointsLoop_cons_good hn, ih hpre]
    simp [encodeRunes]

theorem fromCodepoints_runes (rs : List Nat) (h : ∀ r ∈ rs, validRune r = true) :
    fromCodepoints (rs.map Int.ofNat) = .ok (encodeRunes rs) := by
  have hg : ∀ n ∈ rs.map Int.ofNat, GoodCp n := by
    intro n hn
    obtain ⟨r, hr, rfl⟩ := List.mem_map.mp hn
    have hv := validRune_iff.mp (h r hr)
    simp only [GoodCp, isSurrogate, Int.ofNat_eq_natCast]
    omega
  have := fromCodepointsLoop_good (rs.map Int.ofNat) [] hg []
  simp only [List.append_nil, List.nil_append, List.map_map] at this
  unfold fromCodepoints
  rw [this]
  simp [fromCodepointsLoop, Function.comp_def]

theorem fromUtf8BytesLoop_bytes (bs : Bytes) (buf : Bytes) :
    fromUtf8BytesLoop (bs.map fun b => (b.toNat : Int)) buf = fromUtf8BytesLoop [] (buf ++ bs) := by
  induction bs generalizing buf with
  | nil => simp
  | cons b bs ih =>
    simp only [List.map_cons, fromUtf8BytesLoop]
    have hb : b.toNat < 256 := b.toNat_lt
    rw [if_neg (by omega)]
    simp only [Int.toNat_natCast, UInt8.ofNat_toNat]
    rw [ih]; simp [fromUtf8BytesLoop]

theorem mapM_parse_toUtf8Bytes (s : Bytes) :
    (toUtf8Bytes s).mapM parseHexChars = some (s.map UInt8.toNat) := by
  have := mapM_parse_fmtHex (s.map UInt8.toNat) (by
    intro n hn
    simp only [List.mem_map] at hn
    obtain ⟨b, _, rfl⟩ := hn
    have : b.toNat < 256 := b.toNat_lt
    omega)
  simpa [toUtf8Bytes, List.map_map, Function.comp_def] using this

end C41
