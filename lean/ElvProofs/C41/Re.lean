/-
The `re:` wrappers under the engine contract: `find`, `replaceAll`, `Regexp.Split`
and `awk` as functions of the match list (no slice or index out of range), the
fresh `*Regexp` object of `makePattern`, and the lexical reading of `QuoteMeta`.
-/
import ElvModel.C41.History
import ElvProofs.C41.Str
import ElvProofs.Lemmas.Res
namespace C41
open Go

theorem bind_ok {α β} (a : α) (f : α → Res β) : (Res.ok a >>= f) = f a := Res.ok_bind a f

theorem slice_ok (src : Bytes) (s e : Int) (h0 : 0 ≤ s) (h1 : s ≤ e) (h2 : e ≤ src.length) :
    slice src s e = .ok (sub src s e) :=
  slice_eq_ok src h0 h1 h2

theorem sub_append_sub (src : Bytes) (a b c : Int) (h0 : 0 ≤ a) (h1 : a ≤ b) (h2 : b ≤ c) :
    sub src a b ++ sub src b c = sub src a c := by
  unfold sub
  obtain ⟨a, rfl⟩ := Int.eq_ofNat_of_zero_le h0
  obtain ⟨b, rfl⟩ := Int.eq_ofNat_of_zero_le (Int.le_trans h0 h1)
  obtain ⟨c, rfl⟩ := Int.eq_ofNat_of_zero_le (Int.le_trans (Int.le_trans h0 h1) h2)
  simp only [Int.toNat_natCast]
  rw [show src.drop b = (src.drop a).drop (b - a) by rw [List.drop_drop]; congr 1; omega,
    show c - a = (b - a) + (c - b) by omega, List.take_add]

theorem sub_to_end (src : Bytes) (a : Int) : sub src a src.length = src.drop a.toNat := by
  unfold sub
  exact List.take_of_length_le (by simp)

theorem MatchOk.elim {len : Nat} {m : Match} (h : MatchOk len m) :
    ∃ s e gs, m = s :: e :: gs ∧ 0 ≤ s ∧ s ≤ e ∧ e ≤ len ∧ GroupsOk len gs := by
  rcases m with _ | ⟨s, _ | ⟨e, gs⟩⟩
  · exact False.elim h
  · exact False.elim h
  · exact ⟨s, e, gs, rfl, h.1.1, h.1.2.1, h.1.2.2, h.2⟩

theorem MatchOk.groupsOk {len : Nat} {m : Match} (h : MatchOk len m) : GroupsOk len m := by
  obtain ⟨s, e, gs, rfl, h0, h1, h2, hg⟩ := h.elim
  exact ⟨Or.inr ⟨h0, h1, h2⟩, hg⟩

/-- `EngineOk` (`EngineOk.contract`) as seen from position `last`: the shape the loops of `replaceAll` and
`Regexp.Split` recurse on. -/
inductive Contract (len : Nat) : Int → List Match → Prop
  | nil {last : Int} : 0 ≤ last → last ≤ len → Contract len last []
  | cons {last s e : Int} {gs : Match} {rest : List Match} : 0 ≤ last → last ≤ s → s ≤ e → e ≤ len →
      Contract len e rest → Contract len last ((s :: e :: gs) :: rest)

theorem Contract.of {len : Nat} : ∀ {full : List Match} {last : Int}, (∀ m ∈ full, MatchOk len m) →
    Asc last full → 0 ≤ last → last ≤ len → Contract len last full
  | [], _, _, _, h0, h1 => .nil h0 h1
  | m :: rest, last, hm, ha, h0, _ => by
    obtain ⟨hmo, hm'⟩ := List.forall_mem_cons.mp hm
    obtain ⟨s, e, gs, rfl, _, hse, he, _⟩ := hmo.elim
    obtain ⟨hl, _, ha'⟩ := ha
    exact .cons h0 hl hse he (Contract.of hm' ha' (by omega) he)

theorem EngineOk.contract {len : Nat} {full : List Match} (h : EngineOk len full) : Contract len 0 full :=
  .of h.shape h.asc (Int.le_refl _) (by omega)

theorem gaps_ne_nil (src : Bytes) {len : Nat} {full : List Match} {last : Int} (hc : Contract len last full) :
    gaps src last full ≠ [] := by
  cases hc <;> simp [gaps]

theorem groupsOf_ok (src : Bytes) : ∀ m : Match, GroupsOk src.length m →
    groupsOf src m = .ok (groupsSpec src m)
  | [], _ => rfl
  | [_], h => h.elim
  | s :: e :: rest, h => by
    obtain ⟨hse, hrest⟩ := h
    have ih := groupsOf_ok src rest hrest
    unfold groupsOf groupsSpec groupSpec
    rcases hse with ⟨rfl, rfl⟩ | ⟨h0, h1, h2⟩
    · simp [ih]
    · have hs : ¬ s = -1 := by omega
      have he : 0 ≤ e := by omega
      simp [ih, h0, he, hs, slice_ok src s e h0 h1 h2]

theorem findOne_ok (src : Bytes) (m : Match) (h : MatchOk src.length m) :
    findOne src m = .ok (matchSpec src m) := by
  have hg := groupsOf_ok src m h.groupsOk
  obtain ⟨s, e, gs, rfl, h0, h1, h2, _⟩ := h.elim
  unfold findOne matchSpec
  simp [index, hg, slice_ok src s e h0 h1 h2]

theorem mapRes_ok {α β} (f : α → Res β) (g : α → β) (l : List α) (h : ∀ a ∈ l, f a = .ok (g a)) :
    mapRes f l = .ok (l.map g) := by
  induction l with
  | nil => rfl
  | cons a l ih =>
    obtain ⟨ha, hl⟩ := List.forall_mem_cons.mp h
    simp [mapRes, ha, ih hl]

theorem mem_takeMax {full : List Match} {n : Int} {m : Match} (h : m ∈ takeMax full n) : m ∈ full := by
  unfold takeMax at h
  split at h
  · exact h
  · exact List.mem_of_mem_take h

theorem replaceAllLoop_ok {σ : Type} (src : Bytes) (repl : σ → Match → Res (Bytes × σ))
    (g : Match → Bytes) (st : σ) {full : List Match} {last : Int} (hc : Contract src.length last full)
    (hr : ∀ m ∈ full, repl st m = .ok (g m, st)) (buf : Bytes) :
    replaceAllLoop src repl full last buf st = .ok (buf ++ spliceSpec src g last full, st) := by
  induction hc generalizing buf with
  | nil h0 h1 =>
    simp [replaceAllLoop, spliceSpec, slice_ok src _ src.length h0 h1 (Int.le_refl _)]
  | cons h0 hl hse he _ ih =>
    obtain ⟨hr0, hr'⟩ := List.forall_mem_cons.mp hr
    simp [replaceAllLoop, spliceSpec, index, slice_ok src _ _ h0 hl (by omega), hr0, ih hr']

theorem replaceAll_ok {σ : Type} (src : Bytes) (repl : σ → Match → Res (Bytes × σ))
    (g : Match → Bytes) (st : σ) (full : List Match) (h : EngineOk src.length full)
    (hr : ∀ m ∈ full, MatchOk src.length m → repl st m = .ok (g m, st)) :
    replaceAllLoop src repl full 0 [] st = .ok (spliceSpec src g 0 full, st) :=
  replaceAllLoop_ok src repl g st h.contract (fun m hm => hr m hm (h.shape m hm)) []

theorem spliceSpec_self (src : Bytes) {full : List Match} {last : Int} (hc : Contract src.length last full) :
    spliceSpec src (fun m => (matchSpec src m).text) last full = src.drop last.toNat := by
  induction hc with
  | nil => exact sub_to_end src _
  | @cons last s e _ _ h0 hl hse he _ ih =>
    simp only [spliceSpec, ih]
    show sub src last s ++ sub src s e ++ src.drop e.toNat = src.drop last.toNat
    rw [← sub_to_end, ← sub_to_end, List.append_assoc, sub_append_sub src s e _ (by omega) hse he,
      sub_append_sub src last s _ h0 hl (by omega)]

theorem spliceSpec_gaps (src : Bytes) (r : Bytes) {full : List Match} {last : Int}
    (hc : Contract src.length last full) :
    spliceSpec src (fun _ => r) last full = intercal r (gaps src last full) := by
  induction hc with
  | nil => rfl
  | cons _ _ _ _ hc' ih =>
    simp only [spliceSpec, gaps]
    rw [intercal_cons_of_ne_nil _ _ (gaps_ne_nil src hc'), ih]

theorem reSplitLoop_nil (src : Bytes) (n beg end_ : Int) (acc : List Bytes) (h0 : 0 ≤ beg)
    (h1 : beg ≤ src.length) :
    reSplitLoop src n [] beg end_ acc =
      .ok (acc ++ if end_ = src.length then [] else [sub src beg src.length]) := by
  unfold reSplitLoop splitFinish
  by_cases he : end_ = src.length
  · simp [he]
  · simp [he, slice_ok src beg src.length h0 h1 (Int.le_refl _)]

theorem reSplitLoop_cons (src : Bytes) (n : Int) (hn : n < 0) (s e : Int) (gs : Match) (rest : List Match)
    (beg end_ : Int) (acc : List Bytes) (h0 : 0 ≤ beg) (hl : beg ≤ s) (hs : s ≤ src.length) :
    reSplitLoop src n ((s :: e :: gs) :: rest) beg end_ acc =
      reSplitLoop src n rest e s (acc ++ if e = 0 then [] else [sub src beg s]) := by
  rw [reSplitLoop, if_neg (by omega)]
  by_cases he : e = 0
  · simp [index, he]
  · simp [index, he, slice_ok src beg s h0 hl hs]

/-- `hs` with `hp`: no match ends at 0, so every round emits the piece before its match. -/
theorem reSplitLoop_gaps (src : Bytes) (n : Int) (hn : n < 0) {full : List Match} {beg : Int}
    (hc : Contract src.length beg full) (end_ prev : Int) (acc : List Bytes)
    (hs : EndsIncrease prev full) (hp : 0 ≤ prev) :
    reSplitLoop src n full beg end_ acc = .ok (acc ++
      if lastStart end_ full = src.length then (gaps src beg full).dropLast else gaps src beg full) := by
  induction hc generalizing end_ prev acc with
  | nil h0 h1 =>
    rw [reSplitLoop_nil src n _ end_ acc h0 h1]
    rfl
  | @cons beg s e gs rest h0 hl hse he hc' ih =>
    rw [reSplitLoop_cons src n hn s e gs rest beg end_ acc h0 hl (by omega), if_neg (by have := hs.1; omega),
      ih s e _ hs.2 (by omega)]
    by_cases hl : lastStart s rest = src.length
    · simp [lastStart, gaps, hl, List.dropLast_cons_of_ne_nil (gaps_ne_nil src hc')]
    · simp [lastStart, gaps, hl]

theorem regexpSplit_pieces (exprEmpty : Bool) (src : Bytes) (n : Int) (full : List Match)
    (hn : n < 0) (hc : EngineOk src.length full) (hne : exprEmpty = true ∨ src ≠ []) :
    regexpSplit exprEmpty src n full = .ok (piecesSpec src full) := by
  have h2 : ¬ ((!exprEmpty) = true ∧ src.isEmpty = true) := by
    rcases hne with h | h <;> simp [h]
  have htm : takeMax full n = full := by simp [takeMax, hn]
  rw [regexpSplit, if_neg (by omega), if_neg h2, htm]
  unfold piecesSpec
  cases hc.contract with
  | nil h0 h1 =>
    rw [reSplitLoop_nil src n 0 0 [] h0 h1]
    rfl
  | @cons _ s e gs rest h0 hl hse he hc' =>
    -- the first match alone may end at 0; the others end later
    rw [reSplitLoop_cons src n hn s e gs rest 0 0 [] h0 hl (by omega),
      reSplitLoop_gaps src n hn hc' s e _ hc.strict.2 (by omega)]
    have hd := List.dropLast_cons_of_ne_nil (x := sub src 0 s) (gaps_ne_nil src hc')
    simp only [lastStart, gaps, List.nil_append]
    by_cases he0 : e = 0
    · subst he0
      by_cases hl : lastStart s rest = src.length <;> simp [hl, hd]
    · by_cases hl : lastStart s rest = src.length <;> simp [hl, he0, hd]

theorem awkLoop_broken (exprEmpty : Bool) (call : List Bytes → Flow) (st : AwkSt) (hb : st.broken = true) :
    ∀ ins : List AwkIn, awkLoop exprEmpty call st ins = .ok st
  | [] => rfl
  | v :: rest => by
    have ih := awkLoop_broken exprEmpty call st hb rest
    unfold awkLoop
    cases v <;> simp [awkStep, hb, ih]

theorem awkFields_ok (exprEmpty : Bool) (b : Bytes) (ms : List Match)
    (h : EngineOk (trim b awkCutset).length ms) :
    regexpSplit exprEmpty (trim b awkCutset) (-1) ms = .ok (awkFields exprEmpty b ms) := by
  unfold awkFields
  by_cases hc : (!exprEmpty) = true ∧ trim b awkCutset = []
  · simp only [hc, and_self, if_true]
    unfold regexpSplit
    simp [hc.1]
  · rw [if_neg hc]
    apply regexpSplit_pieces exprEmpty _ (-1) ms (by omega) h
    cases exprEmpty with
    | true => exact Or.inl rfl
    | false => exact Or.inr (fun h => hc ⟨rfl, h⟩)

/-- while the latch is open the loop makes the calls of `awkSpec`; once it is set the
remaining inputs change nothing (`awkLoop_broken`) -/
theorem awkLoop_spec (exprEmpty : Bool) (call : List Bytes → Flow) :
    ∀ (ins : List AwkIn) (st : AwkSt), AwkInputsOk ins → st.broken = false → st.err = none →
      ∃ st', awkLoop exprEmpty call st ins = .ok st' ∧
        st'.calls = st.calls ++ (awkSpec exprEmpty call ins).1 ∧ st'.err = (awkSpec exprEmpty call ins).2
  | [], st, _, _, he => ⟨st, rfl, by simp [awkSpec], by simp [awkSpec, he]⟩
  | .other k :: rest, st, _, hb, _ => by
    refine ⟨{ st with broken := true, err := some errAwkInput }, ?_, by simp [awkSpec], by simp [awkSpec]⟩
    unfold awkLoop
    simp only [awkStep, hb, Bool.false_eq_true, if_false, Res.ok_bind, Res.pure_eq_ok]
    exact awkLoop_broken exprEmpty call _ rfl rest
  | .line b ms :: rest, st, hin, hb, he => by
    obtain ⟨hm, hin'⟩ := hin
    unfold awkLoop
    simp only [awkStep, hb, Bool.false_eq_true, if_false, Res.ok_bind, awkFields_ok exprEmpty b ms hm]
    simp only [awkSpec]
    cases hc : call (b :: awkFields exprEmpty b ms)
    case ok | cont =>
      obtain ⟨st', h1, h2, h3⟩ := awkLoop_spec exprEmpty call rest
        { broken := false, err := st.err, calls := st.calls ++ [b :: awkFields exprEmpty b ms] } hin' rfl he
      exact ⟨st', h1, by simp [h2], h3⟩
    case brk => exact ⟨_, awkLoop_broken exprEmpty call _ rfl rest, rfl, by simp [he]⟩
    case err e => exact ⟨_, awkLoop_broken exprEmpty call _ rfl rest, rfl, rfl⟩

theorem setLongest_append_new (h : Heap) (o : ReObj) :
    setLongest (h ++ [o]) h.length = h ++ [{ o with longest := true }] := by
  induction h with
  | nil => rfl
  | cons a h ih => simp [setLongest, ih]

theorem getElem?_append_new (h : Heap) (o : ReObj) : (h ++ [o])[h.length]? = some o := by
  simp

theorem withPatternH_eq {β : Type} (E : Engine) (h : Heap) (p : Bytes) (posix longest : Bool) (src : Bytes)
    (bad nilDeref : β) (k : List Match → β) :
    (withPatternH E h p posix longest src bad nilDeref k).2 = withPattern E p posix longest src bad k := by
  unfold withPatternH makePatternH compileH withPattern
  cases hp : E.patOk p posix with
  | false => simp
  | true =>
    simp only [if_true]
    cases longest with
    | false => simp
    | true => simp [setLongest_append_new]

theorem special_92 : special 92 = true := by decide

theorem hasUnescapedMeta_esc (c : UInt8) (t : Bytes) :
    hasUnescapedMeta (92 :: c :: t) = hasUnescapedMeta t := by
  simp [hasUnescapedMeta]

theorem hasUnescapedMeta_plain (b : UInt8) (t : Bytes) (h : b ≠ 92) :
    hasUnescapedMeta (b :: t) = (special b || hasUnescapedMeta t) := by
  cases t <;> simp [hasUnescapedMeta, h]

theorem unquote_esc (c : UInt8) (t : Bytes) : unquote (92 :: c :: t) = c :: unquote t := by
  simp [unquote]

theorem unquote_plain (b : UInt8) (t : Bytes) (h : b ≠ 92) : unquote (b :: t) = b :: unquote t := by
  cases t <;> simp [unquote, h]

theorem hasUnescapedMeta_quoteMeta (s : Bytes) : hasUnescapedMeta (quoteMeta s) = false := by
  induction s with
  | nil => rfl
  | cons b t ih =>
    unfold quoteMeta
    split
    · rw [hasUnescapedMeta_esc, ih]
    · rename_i hb
      have hne : b ≠ 92 := fun h => hb (h ▸ special_92)
      rw [hasUnescapedMeta_plain b _ hne, ih]
      simp [hb]

theorem unquote_quoteMeta (s : Bytes) : unquote (quoteMeta s) = s := by
  induction s with
  | nil => rfl
  | cons b t ih =>
    unfold quoteMeta
    split
    · rw [unquote_esc, ih]
    · rename_i hb
      have hne : b ≠ 92 := fun h => hb (h ▸ special_92)
      rw [unquote_plain b _ hne, ih]

theorem quoteMeta_length (s : Bytes) :
    (quoteMeta s).length = s.length + (s.filter special).length := by
  induction s with
  | nil => simp [quoteMeta]
  | cons b t ih =>
    unfold quoteMeta
    by_cases hb : special b = true <;> simp [hb, ih] <;> omega

end C41
