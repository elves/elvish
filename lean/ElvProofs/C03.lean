import ElvModel.C03.Model
import ElvProofs.C03.Quote
open Go C01 C03 Gen.C01Chars

/-!
C03 — quoted strings evaluate back to the exact original string.  The theorems compose the model of
`pkg/parse/quote.go` with the C01 parser model (`C01.parseAs` = `parse.ParseAs`) and the literal fragment
`evalLit` of `pkg/eval/compile_value.go`, for every byte string (invalid UTF-8 included) and every
`unicode.IsPrint` (a parameter).
-/

/-- `q` parses as ONE WORD with value `s`: no error (so `parser.done` found nothing left over), one
`Compound` > one `Indexing` > one childless string-literal `Primary`, all spanning the whole text (hence no
indices, separators, Tilde node, wildcard, variable or capture), and evaluation as a literal
(`compoundOp` → `indexingOp` → `primaryOp` → `literalValues`) gives `s`. -/
def C03_IsWord (r : ParseResult) (ctx : Int) (q s : Bytes) : Prop :=
  ∃ tree idx head, r = .ok tree [] ∧
    tree.kind = .compound ∧ tree.ctx = ctx ∧ tree.frm = 0 ∧ tree.to = q.length ∧ tree.text = q ∧
    tree.children = [idx] ∧
    idx.kind = .indexing ∧ idx.frm = 0 ∧ idx.to = q.length ∧ idx.children = [head] ∧
    head.kind = .primary ∧ head.frm = 0 ∧ head.to = q.length ∧ head.children = [] ∧
    (head.ptype = Bareword ∨ head.ptype = SingleQuoted ∨ head.ptype = DoubleQuoted) ∧
    head.ptype ≠ Tilde ∧ head.value = s ∧
    evalLit tree = some s

/-- `src` parses as a use of the variable named `s`. -/
def C03_IsVariable (r : ParseResult) (src s : Bytes) : Prop :=
  ∃ tree, r = .ok tree [] ∧ tree.kind = .primary ∧ tree.frm = 0 ∧ tree.to = src.length ∧
    tree.text = src ∧ tree.children = [] ∧ tree.ptype = Variable ∧ tree.value = s ∧
    variableName tree = some s

/-- C03 in full.  For every byte string and every `IsPrint`:
1. `QuoteAs s q` returns (no panic, fuel suffices) for every preference `q`, `Quote s` is
   `QuoteAs s Bareword`, and the text is one word with value `s` in argument (`NormalExpr`), map-key /
   assignment (`LHSExpr`), braced-element (`BracedElemExpr`) and command (`CmdExpr`) context;
2. `QuoteCommandName s` is one word with value `s` in command-head context;
3. `$` followed by `QuoteVariableName s` is a use of the variable named `s`, in every expression context.
Clause (4), evaluation gives `s`, is part of `C03_IsWord`. -/
def C03_full : Prop :=
  ∀ (isPrint : Int → Bool) (s : Bytes),
    (∀ q : Int, ∃ text ty, QuoteAs isPrint s q = .ok (text, ty) ∧
      (q = Bareword → Quote isPrint s = .ok text) ∧
      ∀ ctx, ctx = NormalExpr ∨ ctx = LHSExpr ∨ ctx = BracedElemExpr ∨ ctx = CmdExpr →
        C03_IsWord (parseAs isPrint (.compound ctx) text) ctx text s) ∧
    (∃ text, QuoteCommandName isPrint s = .ok text ∧
      C03_IsWord (parseAs isPrint (.compound CmdExpr) text) CmdExpr text s) ∧
    (∃ text, QuoteVariableName isPrint s = .ok text ∧
      ∀ ctx : Int, C03_IsVariable (parseAs isPrint (.primary ctx) (36 :: text)) (36 :: text) s)

theorem C03_wordTree_isWord (ctx : Int) (q : Bytes) (ty : Int) (s : Bytes)
    (hty : ty = Bareword ∨ ty = SingleQuoted ∨ ty = DoubleQuoted) :
    C03_IsWord (.ok (wordTree ctx q ty s) []) ctx q s := by
  have hnt : ty ≠ Tilde := by
    rcases hty with h | h | h <;> subst h <;> decide
  refine ⟨_, _, _, rfl, rfl, rfl, rfl, rfl, rfl, rfl, rfl, rfl, rfl, rfl, rfl, rfl, rfl, rfl, hty, hnt,
    rfl, ?_⟩
  rcases hty with h | h | h <;> subst h <;> rfl

/-- C03, explicit-tree form: the text `quoteAs` produces when deciding for context `ctxQ` parses, in every
context `ctxP` whose bareword class contains `ctxQ`'s, to exactly the one-word tree with value `s`, no errors. -/
theorem C03_quoteAs_tree (isPrint : Int → Bool) (s : Bytes) (q ctxQ ctxP : Int)
    (hle : ∀ r : Int, allowedInBareword isPrint r ctxQ = true → allowedInBareword isPrint r ctxP = true) :
    ∃ text ty, quoteAs isPrint s q ctxQ = .ok (text, ty) ∧
      (ty = Bareword ∨ ty = SingleQuoted ∨ ty = DoubleQuoted) ∧
      parseAs isPrint (.compound ctxP) text = .ok (wordTree ctxP text ty s) [] :=
  quoteAs_parse isPrint s q ctxQ ctxP hle

/-- `Quote` / `QuoteAs` never panic and never run out of fuel. -/
theorem C03_quote_total (isPrint : Int → Bool) (s : Bytes) (q : Int) :
    (∃ text ty, QuoteAs isPrint s q = .ok (text, ty)) ∧ (∃ text, Quote isPrint s = .ok text) ∧
    (∃ text, QuoteCommandName isPrint s = .ok text) ∧ (∃ text, QuoteVariableName isPrint s = .ok text) := by
  obtain ⟨t1, ty1, h1, _⟩ := quoteAs_parse isPrint s q strictExpr strictExpr (CtxLe.refl _ _)
  obtain ⟨t2, ty2, h2, _⟩ := quoteAs_parse isPrint s Bareword strictExpr strictExpr (CtxLe.refl _ _)
  obtain ⟨t3, ty3, h3, _⟩ := quoteAs_parse isPrint s Bareword CmdExpr CmdExpr (CtxLe.refl _ _)
  obtain ⟨t4, h4, _⟩ := quoteVariableName_parse isPrint s NormalExpr
  refine ⟨⟨t1, ty1, h1⟩, ⟨t2, ?_⟩, ⟨t3, ?_⟩, ⟨t4, h4⟩⟩
  · simp [Quote, QuoteAs, h2, QRes.map]
  · simp [QuoteCommandName, h3, QRes.map]

/-- C03 clause 1 (here for every `ctx`, not only the four of `C03_full`). -/
theorem C03_quote_roundtrip (isPrint : Int → Bool) (s : Bytes) (q : Int) :
    ∃ text ty, QuoteAs isPrint s q = .ok (text, ty) ∧
      (q = Bareword → Quote isPrint s = .ok text) ∧
      ∀ ctx : Int, C03_IsWord (parseAs isPrint (.compound ctx) text) ctx text s := by
  obtain ⟨text, ty, hq, hty, _⟩ := quoteAs_parse isPrint s q strictExpr strictExpr (CtxLe.refl _ _)
  refine ⟨text, ty, hq, ?_, ?_⟩
  · intro hb
    subst hb
    simp [Quote, QuoteAs, hq, QRes.map]
  · intro ctx
    obtain ⟨text', ty', hq', hty', hp⟩ := quoteAs_parse isPrint s q strictExpr ctx (CtxLe.strict _ _)
    rw [hq] at hq'
    cases hq'
    rw [hp]
    exact C03_wordTree_isWord ctx text ty s hty

/-- C03 clause 2: the command-name form in command-head position. -/
theorem C03_quoteCommandName_roundtrip (isPrint : Int → Bool) (s : Bytes) :
    ∃ text, QuoteCommandName isPrint s = .ok text ∧
      C03_IsWord (parseAs isPrint (.compound CmdExpr) text) CmdExpr text s := by
  obtain ⟨text, ty, hq, hty, hp⟩ := quoteAs_parse isPrint s Bareword CmdExpr CmdExpr (CtxLe.refl _ _)
  refine ⟨text, by simp [QuoteCommandName, hq, QRes.map], ?_⟩
  rw [hp]
  exact C03_wordTree_isWord CmdExpr text ty s hty

/-- C03 clause 3: the variable-name form after `$`. -/
theorem C03_quoteVariableName_roundtrip (isPrint : Int → Bool) (s : Bytes) :
    ∃ text, QuoteVariableName isPrint s = .ok text ∧
      ∀ ctx : Int, C03_IsVariable (parseAs isPrint (.primary ctx) (36 :: text)) (36 :: text) s := by
  obtain ⟨text, hq, _⟩ := quoteVariableName_parse isPrint s NormalExpr
  refine ⟨text, hq, ?_⟩
  intro ctx
  obtain ⟨text', hq', hp⟩ := quoteVariableName_parse isPrint s ctx
  rw [hq] at hq'
  cases hq'
  rw [hp]
  exact ⟨_, rfl, rfl, rfl, Nat.zero_add _, rfl, rfl, rfl, rfl, rfl⟩

/-- C03 in full. -/
theorem C03_roundtrip : C03_full := by
  intro isPrint s
  refine ⟨?_, C03_quoteCommandName_roundtrip isPrint s, C03_quoteVariableName_roundtrip isPrint s⟩
  intro q
  obtain ⟨text, ty, h1, h2, h3⟩ := C03_quote_roundtrip isPrint s q
  exact ⟨text, ty, h1, h2, fun ctx _ => h3 ctx⟩

/-- The double-quoted form, the one every other form falls back to, round-trips every byte string. -/
theorem C03_quoteDouble_roundtrip (isPrint : Int → Bool) (s : Bytes) (ctx : Int) :
    ∃ text, quoteDouble isPrint s = .ok text ∧
      C03_IsWord (parseAs isPrint (.compound ctx) text) ctx text s := by
  obtain ⟨body, hq, hd⟩ := quoteDouble_spec isPrint s
  refine ⟨_, hq, ?_⟩
  rw [(Lit.double hd).parseAs (by rw [List.cons_append, firstRune_byte _ _ (by decide)]; decide)]
  exact C03_wordTree_isWord ctx _ DoubleQuoted s (Or.inr (Or.inr rfl))

/-- Go's unspecified iteration order over `doubleEscape` in `init()` cannot
change `doubleUnescape`: the values of the (generated) table are pairwise
distinct, and the derived table inverts it. -/
theorem C03_doubleUnescape_inverse :
    (doubleEscape.map (·.2)).Nodup ∧
    ∀ kv ∈ doubleEscape, doubleUnescape.lookup kv.2 = some kv.1 := by decide

-- Non-vacuity: concrete instances.

def C03_asciiPrint : Int → Bool := fun r => decide (32 ≤ r) && decide (r ≤ 126)

/-- `a b` → `'a b'` -/
example : Quote C03_asciiPrint [97, 32, 98] = .ok [39, 97, 32, 98, 39] := by decide
/-- `~a` is quoted because of the leading tilde; `a~` is a bareword -/
example : Quote C03_asciiPrint [126, 97] = .ok [39, 126, 97, 39] ∧
    Quote C03_asciiPrint [97, 126] = .ok [97, 126] := by decide
/-- `\xff`, newline, `'` → `"\xff\n'"` -/
example : Quote C03_asciiPrint [255, 10, 39] = .ok [34, 92, 120, 102, 102, 92, 110, 39, 34] := by decide
/-- `a=b` is a bareword as a command name, quoted elsewhere -/
example : QuoteCommandName C03_asciiPrint [97, 61, 98] = .ok [97, 61, 98] ∧
    Quote C03_asciiPrint [97, 61, 98] = .ok [39, 97, 61, 98, 39] := by decide
/-- `a/b` must be quoted after `$` -/
example : QuoteVariableName C03_asciiPrint [97, 47, 98] = .ok [39, 97, 47, 98, 39] := by decide
/-- the parse of `"\xff\n'"` really is the word `\xff`, newline, `'` -/
example : ∃ t, parseAs C03_asciiPrint (.compound NormalExpr) [34, 92, 120, 102, 102, 92, 110, 39, 34] = .ok t [] ∧
    evalLit t = some [255, 10, 39] := by
  obtain ⟨text, ty, h1, _, h3⟩ := C03_quote_roundtrip C03_asciiPrint [255, 10, 39] Bareword
  have h1' : QuoteAs C03_asciiPrint [255, 10, 39] Bareword =
      .ok ([34, 92, 120, 102, 102, 92, 110, 39, 34], DoubleQuoted) := by decide
  rw [h1'] at h1
  cases h1
  obtain ⟨tree, _, _, hr, rest⟩ := h3 NormalExpr
  exact ⟨tree, hr, rest.2.2.2.2.2.2.2.2.2.2.2.2.2.2.2.2.2⟩
/-- an unquoted leading tilde is NOT a word (so the `bare := s[0] != '~'` test matters):
`~a` parses to two indexings, the first a Tilde node, and is outside the literal fragment -/
example : (match parseAs C03_asciiPrint (.compound NormalExpr) [126, 97] with
    | .ok t [] => (t.childrenOf .indexing).length == 2 && (evalLit t).isNone
    | _ => false) = true := by decide
