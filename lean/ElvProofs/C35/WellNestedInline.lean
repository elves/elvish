/-
`inlHtml` writes a `Frag` (`inl_frag`).  Attribute values are `ValSafe` because `escHtml`, `escUrl` and decimal
numbers never write `<`, `>` or `"`.
-/
import ElvProofs.C35.WellNestedDefs
namespace C35
open Go

theorem escHtml_valSafe (s : Bytes) : ValSafe (escHtml s) := escHtml_safe s

theorem urlSafe_ne {b : UInt8} (h : urlSafe b = true) : b ≠ 0x3C ∧ b ≠ 0x3E ∧ b ≠ 0x22 := by
  refine ⟨?_, ?_, ?_⟩ <;> (rintro rfl; revert h; decide +kernel)

theorem hexUp_ne : ∀ n < 16, hexUp n ≠ 0x3C ∧ hexUp n ≠ 0x3E ∧ hexUp n ≠ 0x22 := by decide

/-- A byte is copied only if it is URL-safe or an apostrophe, the entities are literals, the rest is `%` and
two hex digits. -/
theorem escUrl_safe (loose : Bool) (s : Bytes) : ValSafe (escUrl loose s) := by
  intro x hx
  rcases List.mem_flatMap.mp hx with ⟨b, _, hb⟩
  refine (?_ : ValSafe _) x hb
  split
  · exact ValSafe.single (urlSafe_ne ‹_›)
  · split
    · decide +kernel
    · split
      · rename_i h27
        rw [eq_of_beq h27]
        split <;> decide +kernel
      · have h1 := hexUp_ne (b.toNat / 16) (by have := b.toNat_lt; omega)
        have h2 := hexUp_ne (b.toNat % 16) (Nat.mod_lt _ (by decide))
        intro x hx
        simp only [List.mem_cons, List.not_mem_nil, or_false] at hx
        rcases hx with rfl | rfl | rfl
        · decide
        · exact h1
        · exact h2

private theorem ba_toList_loop (ba : ByteArray) (i : Nat) (r : List UInt8) :
    ByteArray.toList.loop ba i r = r.reverse ++ ba.data.toList.drop i := by
  fun_induction ByteArray.toList.loop ba i r with
  | case1 i r h ih =>
    rw [ih]
    have h' : i < ba.data.toList.length := by rw [Array.length_toList]; exact h
    rw [List.drop_eq_getElem_cons h']
    have h2 : i < ba.data.size := h
    simp [ByteArray.get!]
    exact getElem!_pos ba.data i h2
  | case2 i r h =>
    have h' : ba.data.toList.length ≤ i := by rw [Array.length_toList]; exact Nat.le_of_not_lt h
    simp [List.drop_eq_nil_of_le h']

theorem ba_toList (ba : ByteArray) : ba.toList = ba.data.toList := by
  simp [ByteArray.toList, ba_toList_loop]

/-- for the `start` attribute of `<ol>` -/
theorem digits_safe (n : Nat) : ValSafe (bs (toString n)) := by
  intro b hb
  have h1 : bs (toString n) = (Nat.toDigits 10 n).flatMap String.utf8EncodeChar := by
    simp [bs, String.toUTF8, Nat.repr_eq_ofList_toDigits, List.utf8Encode, ba_toList]
  rw [h1] at hb
  rcases List.mem_flatMap.mp hb with ⟨c, hc, hbc⟩
  have hd := Nat.isDigit_of_mem_toDigits (by decide) (by decide) hc
  simp only [Char.isDigit, Bool.and_eq_true, decide_eq_true_eq] at hd
  have h48 : 48 ≤ c.val.toNat := UInt32.le_iff_toNat_le.mp hd.1
  have h57 : c.val.toNat ≤ 57 := UInt32.le_iff_toNat_le.mp hd.2
  unfold String.utf8EncodeChar at hbc
  simp only [] at hbc
  rw [if_pos (by omega)] at hbc
  simp only [List.mem_singleton] at hbc
  have hb' : b.toNat = c.val.toNat := by
    rw [hbc, UInt8.toNat_ofNat']; omega
  refine ⟨?_, ?_, ?_⟩ <;>
    (intro h; rw [h] at hb'
     first | (change 60 = _ at hb'; omega) | (change 62 = _ at hb'; omega) | (change 34 = _ at hb'; omega))

-- `bs "…"` does not reduce under `simp`: the literals the renderer writes, as token serialisations
theorem lit_q : bs "\"" = [0x22] := by decide +kernel
theorem lit_gt : bs ">" = [0x3E] := by decide +kernel
theorem lit_qgt : bs "\">" = [0x22, 0x3E] := by decide +kernel
theorem lit_title : bs " title=\"" = [SP] ++ bs "title" ++ [0x3D, 0x22] := by decide +kernel
theorem lit_a_href : bs "<a href=\"" = [0x3C] ++ bs "a" ++ ([SP] ++ bs "href" ++ [0x3D, 0x22]) := by
  decide +kernel
theorem lit_a_close : bs "</a>" = Ev.bytes (.close (bs "a")) := by decide +kernel
theorem lit_img : bs "<img src=\"" = [0x3C] ++ bs "img" ++ ([SP] ++ bs "src" ++ [0x3D, 0x22]) := by
  decide +kernel
theorem lit_alt : bs "\" alt=\"" = [0x22] ++ ([SP] ++ bs "alt" ++ [0x3D, 0x22]) := by decide +kernel
theorem lit_void_end : bs " />" = [0x20, 0x2F, 0x3E] := by decide +kernel
theorem lit_br : bs "<br />\n" = Ev.bytes (.void (bs "br") []) ++ [NL] := by decide +kernel
theorem lit_code : bs "<code>" = Ev.bytes (.open (bs "code") []) := by decide +kernel
theorem lit_code_close : bs "</code>" = Ev.bytes (.close (bs "code")) := by decide +kernel
theorem lit_em : bs "<em>" = Ev.bytes (.open (bs "em") []) := by decide +kernel
theorem lit_em_close : bs "</em>" = Ev.bytes (.close (bs "em")) := by decide +kernel
theorem lit_strong : bs "<strong>" = Ev.bytes (.open (bs "strong") []) := by decide +kernel
theorem lit_strong_close : bs "</strong>" = Ev.bytes (.close (bs "strong")) := by decide +kernel
theorem fuel_textSafe : TextSafe (bs "FUEL") := by decide +kernel

def titleAttrs (t : Bytes) : List (Bytes × Bytes) :=
  if t.isEmpty then [] else [(bs "title", escHtml t)]

theorem titleAttr_eq (t : Bytes) : titleAttr t = attrsBytes (titleAttrs t) := by
  unfold titleAttr titleAttrs
  split
  · rfl
  · rw [lit_title, lit_q]; simp [attrsBytes, attrBytes]

theorem titleAttrs_safe (t : Bytes) : AttrsSafe (titleAttrs t) := by
  unfold titleAttrs
  split
  · exact AttrsSafe.nil
  · exact AttrsSafe.single (by simp [attrNames]) (escHtml_valSafe t)

/-- the body of the `flatMap` in `inlHtml`, named -/
def inlStep (loose : Bool) (fuel : Nat) : Inl → Bytes
  | .text s => escHtml s
  | .code s => bs "<code>" ++ escHtml s ++ bs "</code>"
  | .emph c => bs "<em>" ++ inlHtml loose fuel c ++ bs "</em>"
  | .strong c => bs "<strong>" ++ inlHtml loose fuel c ++ bs "</strong>"
  | .link d t c => bs "<a href=\"" ++ escUrl loose d ++ bs "\"" ++ titleAttr t ++ bs ">" ++ inlHtml loose fuel c ++ bs "</a>"
  | .image d t c =>
    bs "<img src=\"" ++ escUrl loose d ++ bs "\" alt=\"" ++ escHtml (plainText fuel c) ++ bs "\"" ++ titleAttr t ++ bs " />"
  | .autolink d t => bs "<a href=\"" ++ escUrl loose d ++ bs "\">" ++ escHtml t ++ bs "</a>"
  | .hardbreak => bs "<br />\n"
  | .softbreak => [NL]

theorem inlHtml_zero (loose : Bool) (l : List Inl) : inlHtml loose 0 l = bs "FUEL" := rfl

theorem inlHtml_succ (loose : Bool) (fuel : Nat) (l : List Inl) :
    inlHtml loose (fuel + 1) l = l.flatMap (inlStep loose fuel) := by
  rw [inlHtml]
  congr 1

theorem inlStep_frag (loose : Bool) (fuel : Nat) (ih : ∀ l, Frag (inlHtml loose fuel l)) (x : Inl) :
    Frag (inlStep loose fuel x) := by
  cases x with
  | text s => exact Frag.text (escHtml_valSafe s).textSafe
  | code s =>
    exact Frag.wrapLit (t := bs "code") (a := []) (by simp [tagNames]) AttrsSafe.nil lit_code
      lit_code_close (Frag.text (escHtml_valSafe s).textSafe)
  | emph c =>
    exact Frag.wrapLit (t := bs "em") (a := []) (by simp [tagNames]) AttrsSafe.nil lit_em
      lit_em_close (ih c)
  | strong c =>
    exact Frag.wrapLit (t := bs "strong") (a := []) (by simp [tagNames]) AttrsSafe.nil lit_strong
      lit_strong_close (ih c)
  | link d t c =>
    have e : inlStep loose fuel (.link d t c) =
        Ev.bytes (.open (bs "a") ((bs "href", escUrl loose d) :: titleAttrs t)) ++ inlHtml loose fuel c ++
          Ev.bytes (.close (bs "a")) := by
      simp only [inlStep]
      rw [lit_a_href, lit_q, lit_gt, lit_a_close, titleAttr_eq]
      simp [Ev.bytes, attrsBytes, attrBytes]
    rw [e]
    refine Frag.wrap (by simp [tagNames]) ?_ (ih c)
    exact AttrsSafe.append (x := [_]) (AttrsSafe.single (by simp [attrNames]) (escUrl_safe loose d))
      (titleAttrs_safe t)
  | image d t c =>
    have e : inlStep loose fuel (.image d t c) =
        Ev.bytes (.void (bs "img") ((bs "src", escUrl loose d) :: (bs "alt", escHtml (plainText fuel c)) ::
          titleAttrs t)) := by
      simp only [inlStep]
      rw [lit_img, lit_q, lit_alt, lit_void_end, titleAttr_eq]
      simp [Ev.bytes, attrsBytes, attrBytes]
    rw [e]
    refine Frag.void (by simp [voidNames]) ?_
    exact AttrsSafe.append (x := [_, _])
      (AttrsSafe.append (x := [_]) (AttrsSafe.single (by simp [attrNames]) (escUrl_safe loose d))
        (AttrsSafe.single (by simp [attrNames]) (escHtml_valSafe _)))
      (titleAttrs_safe t)
  | autolink d t =>
    have e : inlStep loose fuel (.autolink d t) =
        Ev.bytes (.open (bs "a") [(bs "href", escUrl loose d)]) ++ escHtml t ++ Ev.bytes (.close (bs "a")) := by
      simp only [inlStep]
      rw [lit_a_href, lit_qgt, lit_a_close]
      simp [Ev.bytes, attrsBytes, attrBytes]
    rw [e]
    exact Frag.wrap (by simp [tagNames]) (AttrsSafe.single (by simp [attrNames]) (escUrl_safe loose d))
      (Frag.text (escHtml_valSafe t).textSafe)
  | hardbreak =>
    simp only [inlStep]
    rw [lit_br]
    exact Frag.append (Frag.void (by simp [voidNames]) AttrsSafe.nil) nl_frag
  | softbreak => exact nl_frag

theorem flatMap_frag {α : Type} (f : α → Bytes) (l : List α) (h : ∀ x ∈ l, Frag (f x)) :
    Frag (l.flatMap f) := by
  induction l with
  | nil => exact Frag.nil
  | cons x xs ih =>
    rw [List.flatMap_cons]
    exact Frag.append (h x (List.mem_cons_self ..)) (ih (fun y hy => h y (List.mem_cons_of_mem _ hy)))

theorem inl_frag (loose : Bool) : ∀ (fuel : Nat) (l : List Inl), Frag (inlHtml loose fuel l) := by
  intro fuel
  induction fuel with
  | zero => intro l; rw [inlHtml_zero]; exact Frag.text fuel_textSafe
  | succ n ih =>
    intro l
    rw [inlHtml_succ]
    exact flatMap_frag _ _ (fun x _ => inlStep_frag loose n ih x)

end C35
