/-
Tokens `Ev` of the HTML the reference writes, the Dyck language `WellNested` over them, and `Ev.Safe`: the
serialisation of a safe token cannot be mistaken for another token.  `Frag b`: `b` serialises a well-nested
list of safe tokens; the well-nestedness proofs are compositions of `Frag` lemmas.
-/
import ElvModel.C35.RefHtml
import ElvProofs.C35.Ref
namespace C35
open Go

inductive Ev where
  | open (tag : Bytes) (attrs : List (Bytes × Bytes))
  | close (tag : Bytes)
  | void (tag : Bytes) (attrs : List (Bytes × Bytes))
  | text (s : Bytes)
  deriving Repr, DecidableEq

def attrBytes (a : Bytes × Bytes) : Bytes := [SP] ++ a.1 ++ [0x3D, 0x22] ++ a.2 ++ [0x22]

def attrsBytes (as : List (Bytes × Bytes)) : Bytes := as.flatMap attrBytes

def Ev.bytes : Ev → Bytes
  | .open t a => [0x3C] ++ t ++ attrsBytes a ++ [0x3E]
  | .close t => [0x3C, 0x2F] ++ t ++ [0x3E]
  | .void t a => [0x3C] ++ t ++ attrsBytes a ++ [0x20, 0x2F, 0x3E]
  | .text s => s

def flat (evs : List Ev) : Bytes := evs.flatMap Ev.bytes

inductive WellNested : List Ev → Prop where
  | nil : WellNested []
  | text (s : Bytes) : WellNested [.text s]
  | void (t : Bytes) (a : List (Bytes × Bytes)) : WellNested [.void t a]
  | wrap (t : Bytes) (a : List (Bytes × Bytes)) {w : List Ev} :
      WellNested w → WellNested (.open t a :: w ++ [.close t])
  | append {w1 w2 : List Ev} : WellNested w1 → WellNested w2 → WellNested (w1 ++ w2)

/-- The Go oracle `malformedHTML` (harness/c35/c35.go) is this automaton run on the bytes. -/
def balanced : List Bytes → List Ev → Bool
  | st, [] => st.isEmpty
  | st, .open t _ :: w => balanced (t :: st) w
  | t' :: st, .close t :: w => t == t' && balanced st w
  | [], .close _ :: _ => false
  | st, .void _ _ :: w => balanced st w
  | st, .text _ :: w => balanced st w

theorem balanced_append_of_wellNested {w : List Ev} (h : WellNested w) :
    ∀ st rest, balanced st (w ++ rest) = balanced st rest := by
  induction h with
  | nil => intro st rest; rfl
  | text s => intro st rest; rfl
  | void t a => intro st rest; rfl
  | wrap t a _ ih =>
    intro st rest
    simp only [List.cons_append, List.append_assoc, balanced, ih, List.nil_append, beq_self_eq_true,
      Bool.true_and]
  | append _ _ ih1 ih2 => intro st rest; rw [List.append_assoc, ih1, ih2]

theorem balanced_of_wellNested {w : List Ev} (h : WellNested w) : balanced [] w = true := by
  have := balanced_append_of_wellNested h [] []
  simpa [balanced] using this

def tagNames : List Bytes :=
  [bs "p", bs "h1", bs "h2", bs "h3", bs "h4", bs "h5", bs "h6", bs "pre", bs "code",
   bs "blockquote", bs "ul", bs "ol", bs "li", bs "em", bs "strong", bs "a"]

def voidNames : List Bytes := [bs "img", bs "hr", bs "br"]

def attrNames : List Bytes := [bs "href", bs "title", bs "src", bs "alt", bs "start", bs "class"]

/-- no `<`, `>`, `"`: the reference writes them as entities -/
def TextSafe (s : Bytes) : Prop := ∀ b ∈ s, b ≠ 0x3C ∧ b ≠ 0x3E ∧ b ≠ 0x22

def ValSafe (s : Bytes) : Prop := ∀ b ∈ s, b ≠ 0x3C ∧ b ≠ 0x3E ∧ b ≠ 0x22

def AttrsSafe (as : List (Bytes × Bytes)) : Prop := ∀ a ∈ as, a.1 ∈ attrNames ∧ ValSafe a.2

def Ev.Safe : Ev → Prop
  | .open t a => t ∈ tagNames ∧ AttrsSafe a
  | .close t => t ∈ tagNames
  | .void t a => t ∈ voidNames ∧ AttrsSafe a
  | .text s => TextSafe s

instance (s : Bytes) : Decidable (TextSafe s) := by unfold TextSafe; infer_instance
instance (s : Bytes) : Decidable (ValSafe s) := by unfold ValSafe; infer_instance
instance (as : List (Bytes × Bytes)) : Decidable (AttrsSafe as) := by unfold AttrsSafe; infer_instance
instance (e : Ev) : Decidable e.Safe := by cases e <;> (unfold Ev.Safe; infer_instance)

theorem ValSafe.textSafe {s : Bytes} (h : ValSafe s) : TextSafe s := h

theorem ValSafe.single {b : UInt8} (h : b ≠ 0x3C ∧ b ≠ 0x3E ∧ b ≠ 0x22) : ValSafe [b] := by
  intro x hx
  rw [List.mem_singleton.mp hx]
  exact h

theorem ValSafe.append {s t : Bytes} (hs : ValSafe s) (ht : ValSafe t) : ValSafe (s ++ t) := by
  intro b hb
  rcases List.mem_append.mp hb with h | h
  · exact hs b h
  · exact ht b h

theorem TextSafe.append {s t : Bytes} (hs : TextSafe s) (ht : TextSafe t) : TextSafe (s ++ t) := by
  intro b hb
  rcases List.mem_append.mp hb with h | h
  · exact hs b h
  · exact ht b h

theorem AttrsSafe.nil : AttrsSafe [] := by intro a ha; cases ha

theorem AttrsSafe.append {x y : List (Bytes × Bytes)} (hx : AttrsSafe x) (hy : AttrsSafe y) :
    AttrsSafe (x ++ y) := by
  intro a ha
  rcases List.mem_append.mp ha with h | h
  · exact hx a h
  · exact hy a h

theorem AttrsSafe.single {n v : Bytes} (hn : n ∈ attrNames) (hv : ValSafe v) : AttrsSafe [(n, v)] := by
  intro a ha
  simp only [List.mem_singleton] at ha
  subst ha; exact ⟨hn, hv⟩

def Frag (b : Bytes) : Prop := ∃ d : List Ev, flat d = b ∧ WellNested d ∧ ∀ e ∈ d, e.Safe

theorem flat_append (x y : List Ev) : flat (x ++ y) = flat x ++ flat y := by
  simp [flat]

theorem Frag.nil : Frag [] := ⟨[], rfl, .nil, by intro e he; cases he⟩

theorem Frag.append {x y : Bytes} (hx : Frag x) (hy : Frag y) : Frag (x ++ y) := by
  obtain ⟨dx, ex, wx, sx⟩ := hx
  obtain ⟨dy, ey, wy, sy⟩ := hy
  refine ⟨dx ++ dy, by rw [flat_append, ex, ey], .append wx wy, ?_⟩
  intro e he
  rcases List.mem_append.mp he with h | h
  · exact sx e h
  · exact sy e h

theorem Frag.text {s : Bytes} (h : TextSafe s) : Frag s :=
  ⟨[.text s], by simp [flat, Ev.bytes], .text s, by
    intro e he; simp only [List.mem_singleton] at he; subst he; exact h⟩

theorem Frag.void {t : Bytes} {a : List (Bytes × Bytes)} (ht : t ∈ voidNames) (ha : AttrsSafe a) :
    Frag (Ev.bytes (.void t a)) :=
  ⟨[.void t a], by simp [flat], .void t a, by
    intro e he; simp only [List.mem_singleton] at he; subst he; exact ⟨ht, ha⟩⟩

theorem Frag.wrap {t : Bytes} {a : List (Bytes × Bytes)} {b : Bytes} (ht : t ∈ tagNames)
    (ha : AttrsSafe a) (hb : Frag b) : Frag (Ev.bytes (.open t a) ++ b ++ Ev.bytes (.close t)) := by
  obtain ⟨d, e, w, s⟩ := hb
  refine ⟨.open t a :: d ++ [.close t], ?_, .wrap t a w, ?_⟩
  · subst e; simp [flat]
  · intro e he
    simp only [List.cons_append, List.mem_cons, List.mem_append, List.not_mem_nil, or_false] at he
    rcases he with h | h | h
    · subst h; exact ⟨ht, ha⟩
    · exact s e h
    · subst h; exact ht

/-- `Frag.wrap` with the tags given as byte literals, as the renderer writes them -/
theorem Frag.wrapLit {t : Bytes} {a : List (Bytes × Bytes)} {o c b : Bytes} (ht : t ∈ tagNames)
    (ha : AttrsSafe a) (ho : o = Ev.bytes (.open t a)) (hc : c = Ev.bytes (.close t)) (hb : Frag b) :
    Frag (o ++ b ++ c) := by
  subst ho; subst hc; exact Frag.wrap ht ha hb

theorem nl_frag : Frag [NL] := Frag.text (by decide)

end C35
