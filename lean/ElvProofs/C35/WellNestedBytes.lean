/-
`scanB` mirrors the Go oracle `malformedHTML` (harness/c35/c35.go): at `<` read `/`?, the tag name, skip to `>`
(`/>` = void), push or pop-and-compare; in text `>` and `"` are errors.  On the serialisation of `Safe` tokens it
computes what `balanced` computes on the tokens (`scanB_flat`): the sense in which `Safe` makes token boundaries visible.
-/
import ElvProofs.C35.WellNestedDefs
namespace C35
open Go

inductive LexSt where
  | text
  | name (closing : Bool) (acc : Bytes)
  | attrs (closing : Bool) (name : Bytes) (lastSlash : Bool)

def endTag (st : List Bytes) (closing void : Bool) (name : Bytes) : Option (List Bytes) :=
  if void then some st
  else if closing then
    (match st with
     | t :: st' => if name == t then some st' else none
     | [] => none)
  else some (name :: st)

def scanB : List Bytes → LexSt → Bytes → Bool
  | st, .text, [] => st.isEmpty
  | _, .name _ _, [] => false
  | _, .attrs _ _ _, [] => false
  | st, .text, b :: r =>
    if b == 0x3C then scanB st (.name false []) r
    else if b == 0x3E || b == 0x22 then false
    else scanB st .text r
  | st, .name cl acc, b :: r =>
    if b == 0x2F && acc.isEmpty && !cl then scanB st (.name true []) r
    else if isAlnumB b then scanB st (.name cl (acc ++ [b])) r
    else if b == 0x3E then
      (match endTag st cl false acc with
       | some st' => scanB st' .text r
       | none => false)
    else if b == 0x20 then scanB st (.attrs cl acc false) r
    else false
  | st, .attrs cl name ls, b :: r =>
    if b == 0x3E then
      (match endTag st cl ls name with
       | some st' => scanB st' .text r
       | none => false)
    else if b == 0x3C then false
    else scanB st (.attrs cl name (b == 0x2F)) r

theorem scan_text {s : Bytes} (hs : TextSafe s) (st : List Bytes) (r : Bytes) :
    scanB st .text (s ++ r) = scanB st .text r := by
  induction s with
  | nil => rfl
  | cons b s ih =>
    have hb := hs b (List.mem_cons_self ..)
    have h1 : (b == 0x3C) = false := by simp [hb.1]
    have h2 : (b == 0x3E) = false := by simp [hb.2.1]
    have h3 : (b == 0x22) = false := by simp [hb.2.2]
    rw [List.cons_append, scanB]
    simp only [h1, h2, h3, Bool.false_eq_true, if_false, Bool.or_self]
    exact ih (fun x hx => hs x (List.mem_cons_of_mem _ hx))

theorem scan_name {t : Bytes} (ht : t.all isAlnumB = true) (st : List Bytes) (cl : Bool) (acc r : Bytes) :
    scanB st (.name cl acc) (t ++ r) = scanB st (.name cl (acc ++ t)) r := by
  induction t generalizing acc with
  | nil => simp
  | cons b t ih =>
    simp only [List.all_cons, Bool.and_eq_true] at ht
    have h1 : (b == 0x2F) = false := beq_false_of_class ht.1 (by decide)
    rw [List.cons_append, scanB]
    simp only [h1, ht.1, Bool.false_and, Bool.false_eq_true, if_false, if_true]
    rw [ih ht.2]
    simp

/-- is the last byte of `x` a `/` (`ls` for empty `x`): what `scanB` remembers to tell `/>` from `>` -/
def lastSl : Bool → Bytes → Bool
  | ls, [] => ls
  | _, b :: x => lastSl (b == 0x2F) x

theorem lastSl_concat (ls : Bool) (x : Bytes) (c : UInt8) : lastSl ls (x ++ [c]) = (c == 0x2F) := by
  induction x generalizing ls with
  | nil => rfl
  | cons b x ih => exact ih _

def NoAngle (x : Bytes) : Prop := ∀ b ∈ x, b ≠ 0x3C ∧ b ≠ 0x3E

theorem scan_attrs {x : Bytes} (hx : NoAngle x) (st : List Bytes) (cl : Bool) (n : Bytes) (ls : Bool)
    (r : Bytes) : scanB st (.attrs cl n ls) (x ++ r) = scanB st (.attrs cl n (lastSl ls x)) r := by
  induction x generalizing ls with
  | nil => rfl
  | cons b x ih =>
    have hb := hx b (List.mem_cons_self ..)
    have h1 : (b == 0x3C) = false := by simp [hb.1]
    have h2 : (b == 0x3E) = false := by simp [hb.2]
    rw [List.cons_append, scanB]
    simp only [h1, h2, Bool.false_eq_true, if_false]
    exact ih (fun y hy => hx y (List.mem_cons_of_mem _ hy)) _

theorem names_alnum : ∀ t ∈ tagNames ++ voidNames, t.all isAlnumB = true := by decide +kernel

theorem attrNames_noAngle : ∀ n ∈ attrNames, ∀ b ∈ n, b ≠ 0x3C ∧ b ≠ 0x3E := by decide +kernel

theorem attrsBytes_cons (h : Bytes × Bytes) (tl : List (Bytes × Bytes)) :
    attrsBytes (h :: tl) = [0x20] ++ (h.1 ++ [0x3D, 0x22] ++ h.2) ++ [0x22] ++ attrsBytes tl := by
  simp [attrsBytes, attrBytes, SP]

theorem attrsBytes_noAngle {a : List (Bytes × Bytes)} (ha : AttrsSafe a) : NoAngle (attrsBytes a) := by
  induction a with
  | nil => intro b hb; cases hb
  | cons h tl ih =>
    have hh := ha h (List.mem_cons_self ..)
    have htl := ih (fun x hx => ha x (List.mem_cons_of_mem _ hx))
    intro b hb
    rw [attrsBytes_cons] at hb
    simp only [List.mem_append, List.mem_cons, List.not_mem_nil, or_false] at hb
    rcases hb with ((hb | (hb | hb | hb) | hb) | hb) | hb
    · subst hb; decide
    · exact attrNames_noAngle _ hh.1 b hb
    · subst hb; decide
    · subst hb; decide
    · exact ⟨(hh.2 b hb).1, (hh.2 b hb).2.1⟩
    · subst hb; decide
    · exact htl b hb

/-- It ends in `"`, not `/`: so the `>` after it is not read as `/>`. -/
theorem attrsBytes_shape (h : Bytes × Bytes) (tl : List (Bytes × Bytes)) :
    ∃ y, attrsBytes (h :: tl) = 0x20 :: (y ++ [0x22]) := by
  have key : ∀ (tl : List (Bytes × Bytes)) (pre : Bytes), ∃ y, pre ++ [0x22] ++ attrsBytes tl = y ++ [0x22] := by
    intro tl
    induction tl with
    | nil => intro pre; exact ⟨pre, by simp [attrsBytes]⟩
    | cons g tl ih =>
      intro pre
      obtain ⟨y, ey⟩ := ih (pre ++ [0x22] ++ [0x20] ++ (g.1 ++ [0x3D, 0x22] ++ g.2))
      refine ⟨y, ?_⟩
      rw [← ey, attrsBytes_cons]
      simp only [List.append_assoc]
  obtain ⟨y, ey⟩ := key tl (h.1 ++ [0x3D, 0x22] ++ h.2)
  refine ⟨y, ?_⟩
  rw [attrsBytes_cons, ← ey]
  simp only [List.append_assoc, List.cons_append, List.nil_append]

theorem scan_enter (st : List Bytes) (r : Bytes) :
    scanB st .text (0x3C :: r) = scanB st (.name false []) r := by
  rw [scanB]; simp

theorem scan_name_gt (st : List Bytes) (cl : Bool) (t r : Bytes) :
    scanB st (.name cl t) (0x3E :: r) =
      (match endTag st cl false t with
       | some st' => scanB st' .text r
       | none => false) := by
  rw [scanB]
  have h1 : isAlnumB 0x3E = false := by decide
  simp [h1]

theorem scan_name_sp (st : List Bytes) (cl : Bool) (t r : Bytes) :
    scanB st (.name cl t) (0x20 :: r) = scanB st (.attrs cl t false) r := by
  rw [scanB]
  have h1 : isAlnumB 0x20 = false := by decide
  simp [h1]

theorem scan_attrs_gt (st : List Bytes) (cl : Bool) (t : Bytes) (ls : Bool) (r : Bytes) :
    scanB st (.attrs cl t ls) (0x3E :: r) =
      (match endTag st cl ls t with
       | some st' => scanB st' .text r
       | none => false) := by
  rw [scanB]; simp

theorem scan_open {t : Bytes} {a : List (Bytes × Bytes)} (ht : t ∈ tagNames) (ha : AttrsSafe a)
    (st : List Bytes) (r : Bytes) :
    scanB st .text (Ev.bytes (.open t a) ++ r) = scanB (t :: st) .text r := by
  have hal := names_alnum t (List.mem_append_left _ ht)
  simp only [Ev.bytes, List.append_assoc, List.cons_append, List.nil_append]
  rw [scan_enter, scan_name hal, List.nil_append]
  cases a with
  | nil =>
    simp only [attrsBytes, List.flatMap_nil, List.nil_append]
    rw [scan_name_gt]
    simp [endTag]
  | cons h tl =>
    obtain ⟨y, ey⟩ := attrsBytes_shape h tl
    have hna := attrsBytes_noAngle ha
    rw [ey] at hna ⊢
    have hy : NoAngle (y ++ [0x22]) := fun b hb => hna b (List.mem_cons_of_mem _ hb)
    rw [List.cons_append, scan_name_sp, scan_attrs hy, lastSl_concat, scan_attrs_gt]
    simp [endTag]

theorem scan_void {t : Bytes} {a : List (Bytes × Bytes)} (ht : t ∈ voidNames) (ha : AttrsSafe a)
    (st : List Bytes) (r : Bytes) :
    scanB st .text (Ev.bytes (.void t a) ++ r) = scanB st .text r := by
  have hal := names_alnum t (List.mem_append_right _ ht)
  simp only [Ev.bytes, List.append_assoc, List.cons_append, List.nil_append]
  rw [scan_enter, scan_name hal, List.nil_append]
  cases a with
  | nil =>
    simp only [attrsBytes, List.flatMap_nil, List.nil_append]
    have e : (0x2F : UInt8) :: 0x3E :: r = [0x2F] ++ (0x3E :: r) := rfl
    rw [scan_name_sp, e,
      scan_attrs (x := [0x2F]) (by intro b hb; simp only [List.mem_singleton] at hb; subst hb; decide),
      scan_attrs_gt]
    simp [endTag, lastSl]
  | cons h tl =>
    obtain ⟨y, ey⟩ := attrsBytes_shape h tl
    have hna := attrsBytes_noAngle ha
    rw [ey] at hna ⊢
    have hy : NoAngle ((y ++ [0x22, 0x20]) ++ [0x2F]) := by
      intro b hb
      simp only [List.mem_append, List.mem_cons, List.not_mem_nil, or_false] at hb
      rcases hb with (hb | hb | hb) | hb
      · exact hna b (List.mem_cons_of_mem _ (List.mem_append_left _ hb))
      · subst hb; decide
      · subst hb; decide
      · subst hb; decide
    have e : (0x20 :: (y ++ [0x22])) ++ (0x20 :: 0x2F :: 0x3E :: r) =
        0x20 :: (((y ++ [0x22, 0x20]) ++ [0x2F]) ++ (0x3E :: r)) := by simp
    rw [e, scan_name_sp, scan_attrs hy, lastSl_concat, scan_attrs_gt]
    simp [endTag]

theorem scan_close {t : Bytes} (ht : t ∈ tagNames) (st : List Bytes) (r : Bytes) :
    scanB st .text (Ev.bytes (.close t) ++ r) =
      (match st with
       | t' :: st' => t == t' && scanB st' .text r
       | [] => false) := by
  have hal := names_alnum t (List.mem_append_left _ ht)
  simp only [Ev.bytes, List.append_assoc, List.cons_append, List.nil_append]
  rw [scan_enter]
  have h2 : scanB st (.name false []) (0x2F :: (t ++ 0x3E :: r)) = scanB st (.name true []) (t ++ 0x3E :: r) := by
    rw [scanB]; simp
  rw [h2, scan_name hal, List.nil_append, scan_name_gt]
  cases st with
  | nil => simp [endTag]
  | cons t' st' =>
    by_cases htt : t = t'
    · subst htt; simp [endTag]
    · have : (t == t') = false := by simp [htt]
      simp [endTag, this]

theorem scanB_flat {evs : List Ev} (hs : ∀ e ∈ evs, e.Safe) :
    ∀ st, scanB st .text (flat evs) = balanced st evs := by
  induction evs with
  | nil => intro st; rfl
  | cons e evs ih =>
    intro st
    have he := hs e (List.mem_cons_self ..)
    have ih' := ih (fun x hx => hs x (List.mem_cons_of_mem _ hx))
    have hf : flat (e :: evs) = Ev.bytes e ++ flat evs := by simp [flat]
    rw [hf]
    cases e with
    | text s => rw [balanced]; exact (scan_text he st _).trans (ih' st)
    | void t a => rw [balanced, scan_void he.1 he.2]; exact ih' st
    | «open» t a => rw [balanced, scan_open he.1 he.2]; exact ih' _
    | close t =>
      rw [scan_close he]
      cases st with
      | nil => rfl
      | cons t' st' =>
        rw [balanced]
        show (t == t' && scanB st' .text (flat evs)) = _
        rw [ih' st']

theorem scanB_of_wellNested {evs : List Ev} (hw : WellNested evs) (hs : ∀ e ∈ evs, e.Safe) :
    scanB [] .text (flat evs) = true := by
  rw [scanB_flat hs]; exact balanced_of_wellNested hw

end C35
