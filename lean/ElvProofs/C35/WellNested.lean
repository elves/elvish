/-
The output of the reference `render` is `flat evs` for a Dyck word `evs` of `Safe` tokens: no byte of a text
or attribute value can be mistaken for markup, so the token boundaries in the bytes are where `evs` puts them.
The same check on elvish's real output is `malformedHTML` in harness/c35/c35.go.
-/
import ElvProofs.C35.WellNestedParse
import ElvProofs.C35.WellNestedBytes
namespace C35
open Go

theorem ref_inline_well_nested (loose : Bool) (fuel : Nat) (l : List Inl) :
    ∃ evs : List Ev, flat evs = inlHtml loose fuel l ∧ WellNested evs ∧ (∀ e ∈ evs, e.Safe) :=
  inl_frag loose fuel l

theorem ref_blocks_well_nested (U : UClass) (loose : Bool) (fuel : Nat) (tight : Bool) (rs : List Raw)
    (o : ROut) (hl : lvlOKs rs = true) :
    ∃ evs : List Ev, (renderRaws U loose fuel tight rs o).out = o.out ++ flat evs ∧ WellNested evs ∧
      (∀ e ∈ evs, e.Safe) := by
  obtain ⟨b, eb, d, ed, wd, sd⟩ := renderRaws_ext U loose fuel tight rs o hl
  exact ⟨d, by rw [eb, ed], wd, sd⟩

-- `lvlOKs` is satisfiable
example : lvlOKs [.quote [.heading 2 (bs "x"), .list true 3 0x2E [.item [.para [bs "a"]]]]] = true := by
  decide +kernel

-- `lvlOKs` is needed: level 14 would write the tag name `h>`
example : (renderRaws stdU true 3 false [.heading 14 []] { out := [], bad := false }).out =
    [0x3C, 0x68, 0x3E, 0x3E, 0x3C, 0x2F, 0x68, 0x3E, 0x3E, 0x0A] := by decide +kernel

theorem ref_well_nested (U : UClass) (loose : Bool) (doc h : Bytes) (hr : render U loose doc = some h) :
    ∃ evs : List Ev, flat evs = h ∧ WellNested evs ∧ (∀ e ∈ evs, e.Safe) := by
  unfold render at hr
  split at hr
  · cases hr
  · rename_i rs hrs
    simp only [] at hr
    split at hr
    · cases hr
    · injection hr with hr
      obtain ⟨d, ed, wd, sd⟩ := ref_blocks_well_nested U loose (doc.length + 2) false rs
        { out := [], bad := false } (parseBlocks_lvlOK hrs)
      exact ⟨d, by rw [← hr, ed]; rfl, wd, sd⟩

theorem ref_balanced (U : UClass) (loose : Bool) (doc h : Bytes) (hr : render U loose doc = some h) :
    ∃ evs : List Ev, flat evs = h ∧ balanced [] evs = true ∧ (∀ e ∈ evs, e.Safe) := by
  obtain ⟨d, ed, wd, sd⟩ := ref_well_nested U loose doc h hr
  exact ⟨d, ed, balanced_of_wellNested wd, sd⟩

theorem ref_bytes_balanced (U : UClass) (loose : Bool) (doc h : Bytes) (hr : render U loose doc = some h) :
    scanB [] .text h = true := by
  obtain ⟨d, ed, wd, sd⟩ := ref_well_nested U loose doc h hr
  rw [← ed]; exact scanB_of_wellNested wd sd

def exDoc : Bytes := bs "> - *a*\n"

def exHtml : Bytes := bs "<blockquote>\n<ul>\n<li>\n<p><em>a</em></p>\n</li>\n</ul>\n</blockquote>\n"

def exEvs : List Ev :=
  [.open (bs "blockquote") [], .text [NL], .open (bs "ul") [], .text [NL], .open (bs "li") [], .text [NL],
   .open (bs "p") [], .open (bs "em") [], .text (bs "a"), .close (bs "em"), .close (bs "p"), .text [NL],
   .close (bs "li"), .text [NL], .close (bs "ul"), .text [NL], .close (bs "blockquote"), .text [NL]]

example : render stdU true exDoc = some exHtml := by decide +kernel

example : flat exEvs = exHtml ∧ balanced [] exEvs = true ∧ (∀ e ∈ exEvs, e.Safe) := by decide +kernel

-- attributes, a void element and a code block
example : render stdU true (bs "3. ![x](/u \"t\")\n\n# h\n```go\n<\n```\n") = some (flat
    [.open (bs "ol") [(bs "start", bs "3")], .text [NL], .open (bs "li") [], .text [NL], .open (bs "p") [],
     .void (bs "img") [(bs "src", bs "/u"), (bs "alt", bs "x"), (bs "title", bs "t")], .close (bs "p"),
     .text [NL], .close (bs "li"), .text [NL], .close (bs "ol"), .text [NL],
     .open (bs "h1") [], .text (bs "h"), .close (bs "h1"), .text [NL],
     .open (bs "pre") [], .open (bs "code") [(bs "class", bs "language-go")], .text (bs "&lt;\n"),
     .close (bs "code"), .close (bs "pre"), .text [NL]]) := by decide +kernel

-- crossed tags are not `WellNested`
example : ¬ WellNested [.open (bs "p") [], .open (bs "em") [], .close (bs "p"), .close (bs "em")] := by
  intro h
  have := balanced_of_wellNested h
  revert this
  decide +kernel

-- `scanB` rejects crossed tags, an unclosed tag, a stray end tag and a bare `>`
example : scanB [] .text exHtml = true ∧
    scanB [] .text (bs "<p><em>a</p></em>") = false ∧
    scanB [] .text (bs "<ul>\n<li>a\n</ul>\n") = false ∧
    scanB [] .text (bs "a</p>") = false ∧
    scanB [] .text (bs "a > b") = false ∧
    scanB [] .text (bs "<p>a <img src=\"/u\" alt=\"\" /><br />\nb</p>\n") = true := by decide +kernel

example : ¬ (Ev.text (bs "a<b")).Safe := by decide +kernel

example : ¬ (Ev.open (bs "a") [(bs "href", bs "\"><script>")]).Safe := by decide +kernel

end C35
