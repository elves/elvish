import ElvModel.C35.Model
namespace C35
open Go

theorem drop_lt (line : Bytes) (l : Nat) (h1 : 1 ≤ l) (h2 : line ≠ []) :
    (line.drop l).length < line.length := by
  have : 0 < line.length := List.length_pos_iff.mpr h2
  simp only [List.length_drop]; omega

theorem head?_some_ne_nil {α} (l : List α) (a : α) (h : l.head? = some a) : l ≠ [] := by
  intro hl; subst hl; simp at h

theorem ne_nil_of_drop_eq_cons {α} {l : List α} {n : Nat} {a : α} {r : List α} (h : l.drop n = a :: r) :
    l ≠ [] := by
  intro hl; subst hl; simp at h

theorem blockquoteMarkerLen_pos (line : Bytes) (l : Nat) (h : blockquoteMarkerLen line = some l) :
    1 ≤ l ∧ line ≠ [] := by
  revert h
  fun_cases blockquoteMarkerLen line
  case case1 hc =>
    intro h
    injection h with h
    simp only [Bool.and_eq_true, beq_iff_eq] at hc
    refine ⟨by split at h <;> omega, ?_⟩
    intro hl; subst hl; simp at hc
  case case2 => intro h; cases h

theorem itemPrefix_pos (line : Bytes) (l : Nat) (b : Option UInt8) (s : Nat) (p : UInt8)
    (h : itemPrefix line = some (l, b, s, p)) : 1 ≤ l ∧ line ≠ [] := by
  revert h
  fun_cases itemPrefix line
  case case2 hd _ | case4 hd _ _ _ _ _ _ _ =>
    intro h
    injection h with h; injection h with h
    exact ⟨by omega, ne_nil_of_drop_eq_cons hd⟩
  all_goals intro h; cases h

theorem itemMarkerRe_pos (line : Bytes) (m : ItemM) (h : itemMarkerRe line = some m) :
    line ≠ [] ∧ 1 ≤ m.len ∧ m.spaces ≤ m.len := by
  unfold itemMarkerRe at h
  split at h
  · cases h
  · rename_i l b s p hp
    have := itemPrefix_pos line l b s p hp
    simp only [] at h
    split at h
    · injection h with h
      subst h
      exact ⟨this.2, by simp only []; omega, by simp only []; omega⟩
    · cases h

theorem itemMarkerBlankRe_pos (line : Bytes) (m : ItemM) (h : itemMarkerBlankRe line = some m) :
    line ≠ [] ∧ 1 ≤ m.len ∧ m.spaces = 0 := by
  unfold itemMarkerBlankRe at h
  split at h
  · cases h
  · rename_i l b s p hp
    have := itemPrefix_pos line l b s p hp
    split at h
    · injection h with h
      subst h
      have : 0 < line.length := List.length_pos_iff.mpr this.2
      exact ⟨‹_ ∧ _›.2, by simp only []; omega, rfl⟩
    · cases h

/-- the `if` is `markerLen` of `parseStartingMarkers`: what the loop removes for a list item -/
theorem itemMarker_pos {line : Bytes} {np : Bool} {m : ItemM}
    (h : (match itemMarkerRe line with
          | some m => some m
          | none => if np then itemMarkerBlankRe line else none) = some m) :
    line ≠ [] ∧ 1 ≤ (if m.spaces ≥ 5 then m.len - m.spaces + 1 else m.len) := by
  have hpos : line ≠ [] ∧ 1 ≤ m.len ∧ m.spaces ≤ m.len := by
    split at h
    · cases h
      exact itemMarkerRe_pos line _ ‹_›
    · split at h
      · have := itemMarkerBlankRe_pos line m h
        exact ⟨this.1, this.2.1, by omega⟩
      · cases h
  exact ⟨hpos.1, by split <;> omega⟩

/-- The common part of the three continuing cases of `startingMarkers_spec`: `d ≥ 1` bytes are dropped and
one container is recorded. -/
theorem startingMarkers_more {fuel d : Nat} {line : Bytes} {np : Bool} {c : Cont} {acc : List Cont}
    (hd : 1 ≤ d) (hl : line ≠ []) (h : line.length < fuel + 1)
    (ih : (line.drop d).length < fuel → ∃ rest cs,
      startingMarkers fuel (line.drop d) np (c :: acc) = some (rest, cs) ∧
        cs.length + rest.length ≤ (c :: acc).length + (line.drop d).length) :
    ∃ rest cs, startingMarkers fuel (line.drop d) np (c :: acc) = some (rest, cs) ∧
      cs.length + rest.length ≤ acc.length + line.length := by
  have hlt := drop_lt line d hd hl
  obtain ⟨rest, cs, e, hc⟩ := ih (by omega)
  exact ⟨rest, cs, e, by simp only [List.length_cons] at hc; omega⟩

theorem startingMarkers_spec (fuel : Nat) (line : Bytes) (np : Bool) (acc : List Cont)
    (h : line.length < fuel) :
    ∃ rest cs, startingMarkers fuel line np acc = some (rest, cs) ∧
      cs.length + rest.length ≤ acc.length + line.length := by
  fun_induction startingMarkers fuel line np acc
  case case1 => omega
  case case3 hq ih =>
    have := blockquoteMarkerLen_pos _ _ hq
    exact startingMarkers_more this.1 this.2 h ih
  case case6 hm _ _ _ _ _ _ _ ih | case8 hm _ _ _ _ _ _ _ ih =>
    have := itemMarker_pos hm
    exact startingMarkers_more this.2 this.1 h ih
  all_goals exact ⟨_, _, rfl, by simp⟩

theorem startingMarkers_fuel (fuel : Nat) (line : Bytes) (np : Bool) (acc : List Cont)
    (h : line.length < fuel) : startingMarkers fuel line np acc ≠ none := by
  obtain ⟨_, _, e, _⟩ := startingMarkers_spec fuel line np acc h
  simp [e]

theorem startingMarkers_count {fuel : Nat} {line : Bytes} {np : Bool} {acc : List Cont} {rest : Bytes}
    {cs : List Cont} (hf : line.length < fuel) (h : startingMarkers fuel line np acc = some (rest, cs)) :
    cs.length + rest.length ≤ acc.length + line.length := by
  obtain ⟨_, _, e, hc⟩ := startingMarkers_spec fuel line np acc hf
  rw [e] at h
  cases h
  exact hc

end C35
