/-
One relation describes every piece of trace of the block phase, `Moves a g ops b`: the ops hold no
`panic`/`fuel` marker, lead `balance` from the containers `a` to `b`, and `b` has at most `g` more containers
than `a`.  Pieces compose (`Moves.trans`), so each function of the model needs one lemma; totality,
well-nestedness of the trace and the stack bound are read off `runLines_moves` and `blockLoop_moves`.
-/
import ElvModel.C35.Block
import ElvProofs.C35.Markers
import ElvProofs.C35.BlockConcat
namespace C35
open Go

def BOp.bad : BOp → Bool
  | .fuel => true
  | .panic => true
  | _ => false

def Clean (ops : List BOp) : Prop := ∀ o ∈ ops, o.bad = false

def BOp.isContent : BOp → Bool
  | .hr .. | .heading .. | .code .. | .html .. | .para .. => true
  | _ => false

/-- The stack holds the open containers, innermost first. -/
def balance : List CT → List BOp → Option (List CT)
  | s, [] => some s
  | s, .opn _ t _ :: r => balance (t :: s) r
  | [], .cls _ _ :: _ => none
  | t' :: s, .cls _ t :: r => if t = t' then balance s r else none
  | s, .hr _ :: r => balance s r
  | s, .heading _ _ _ _ :: r => balance s r
  | s, .code _ _ _ :: r => balance s r
  | s, .html _ _ :: r => balance s r
  | s, .para _ _ :: r => balance s r
  | s, .fuel :: r => balance s r
  | s, .panic :: r => balance s r

def stack (st : BSt) : List CT := (st.ctrs.map (·.typ)).reverse

theorem stack_mode (st : BSt) (m : Mode) : stack { st with mode := m } = stack st := rfl
theorem stack_para (st : BSt) (p : List Bytes) : stack { st with para := p } = stack st := rfl

def stackOf (c : List Ctr) : List CT := (c.map (·.typ)).reverse

theorem balance_append : ∀ (a b : List BOp) (s : List CT),
    balance s (a ++ b) = (balance s a).bind (fun s' => balance s' b) := by
  intro a
  induction a with
  | nil => intro b s; simp [balance]
  | cons o a ih =>
    intro b s
    cases o with
    | cls ln t =>
      cases s with
      | nil => simp [balance]
      | cons t' s =>
        simp only [List.cons_append, balance]
        split
        · exact ih b _
        · rfl
    | _ => simp only [List.cons_append, balance]; exact ih b _

theorem balance_content {o : BOp} (h : o.isContent = true) (s : List CT) (r : List BOp) :
    balance s (o :: r) = balance s r := by
  cases o <;> first | rfl | cases h

structure Moves (a : List Ctr) (g : Nat) (ops : List BOp) (b : List Ctr) : Prop where
  clean : Clean ops
  bal : balance (stackOf a) ops = some (stackOf b)
  len : b.length ≤ a.length + g

theorem Moves.nil {c : List Ctr} : Moves c 0 [] c := ⟨(fun _ h => nomatch h), rfl, Nat.le_refl _⟩

theorem Moves.trans {a b c : List Ctr} {g g' : Nat} {ops ops' : List BOp}
    (h1 : Moves a g ops b) (h2 : Moves b g' ops' c) : Moves a (g + g') (ops ++ ops') c := by
  refine ⟨?_, ?_, ?_⟩
  · intro o ho
    rcases List.mem_append.mp ho with h | h
    · exact h1.clean o h
    · exact h2.clean o h
  · rw [balance_append, h1.bal]; exact h2.bal
  · have := h1.len; have := h2.len; omega

theorem Moves.weaken {a b : List Ctr} {g g' : Nat} {ops : List BOp} (h : Moves a g ops b) (hg : g ≤ g') :
    Moves a g' ops b :=
  ⟨h.clean, h.bal, Nat.le_trans h.len (Nat.add_le_add_left hg _)⟩

theorem Moves.cons {a b : List Ctr} {g : Nat} {o : BOp} {ops : List BOp} (ho : o.isContent = true)
    (h : Moves a g ops b) : Moves a g (o :: ops) b := by
  refine ⟨?_, by rw [balance_content ho]; exact h.bal, h.len⟩
  intro o' ho'
  rcases List.mem_cons.mp ho' with rfl | h'
  · cases o' <;> first | rfl | cases ho
  · exact h.clean o' h'

theorem Moves.content {c : List Ctr} : ∀ {ops : List BOp}, (∀ o ∈ ops, o.isContent = true) → Moves c 0 ops c
  | [], _ => Moves.nil
  | o :: _, h => (Moves.content fun o' ho' => h o' (List.mem_cons_of_mem _ ho')).cons (h o List.mem_cons_self)

theorem Moves.guard {c : List Ctr} {b : Bool} (h : b = true) : Moves c 0 (guard b) c := by
  subst h; exact Moves.nil

theorem closePara_content (st : BSt) (ln : Int) : ∀ o ∈ closePara st ln, o.isContent = true := by
  unfold closePara
  split <;> simp [BOp.isContent]

theorem balance_cls (ln : Int) : ∀ (d : List Ctr) (s : List CT),
    balance (d.map (·.typ) ++ s) (d.map fun c => BOp.cls ln c.typ) = some s := by
  intro d
  induction d with
  | nil => intro s; rfl
  | cons c d ih =>
    intro s
    simp only [List.map_cons, List.cons_append, balance, if_true]
    exact ih s

theorem Moves.cls (ln : Int) (a d : List Ctr) :
    Moves (a ++ d) 0 (d.reverse.map fun c => BOp.cls ln c.typ) a := by
  refine ⟨?_, ?_, by simp⟩
  · intro o ho
    rcases List.mem_map.mp ho with ⟨c, _, rfl⟩
    rfl
  · have e : stackOf (a ++ d) = d.reverse.map (·.typ) ++ stackOf a := by
      simp [stackOf, List.map_reverse]
    rw [e]
    exact balance_cls ln _ _

theorem closeBlocks_moves (st : BSt) {keep : Nat} (ln : Int) (h : keep ≤ st.ctrs.length) :
    Moves st.ctrs 0 (closeBlocks st keep ln).2 (closeBlocks st keep ln).1.ctrs := by
  exact ((Moves.content (c := st.ctrs) (closePara_content st ln)).trans
    (List.take_append_drop keep st.ctrs ▸ Moves.cls ln (st.ctrs.take keep) (st.ctrs.drop keep))).trans
    (Moves.guard (b := decide (keep ≤ st.ctrs.length)) (by simpa using h))

theorem closeBlocks_ctrs (st : BSt) (keep : Nat) (ln : Int) :
    (closeBlocks st keep ln).1.ctrs = st.ctrs.take keep := rfl

theorem matchCont_bounds (cs : List Ctr) (line : Bytes) (i : Nat) :
    (matchCont cs line i).2 ≤ i + cs.length ∧ (matchCont cs line i).1.length ≤ line.length := by
  fun_induction matchCont cs line i
  case case2 ih | case4 ih | case5 ih | case6 ih =>
    simp only [List.length_cons, List.length_drop] at ih ⊢
    omega
  all_goals simp

theorem Moves.opn {c b : List Ctr} {g : Nat} {ops : List BOp} (ln : Int) (x : Ctr) (n : Nat)
    (h : Moves (c ++ [x]) g ops b) : Moves c (g + 1) (.opn ln x.typ n :: ops) b := by
  refine ⟨?_, ?_, ?_⟩
  · intro o ho
    rcases List.mem_cons.mp ho with rfl | h'
    · rfl
    · exact h.clean o h'
  · have := h.bal
    simpa [stackOf, balance] using this
  · have := h.len
    simp only [List.length_append, List.length_cons, List.length_nil] at this
    omega

def opnOf (ln : Int) (c : Ctr) : BOp := .opn ln c.typ (if c.typ = .orderedList then c.start else 0)

theorem Moves.opens (ln : Int) (l : List Ctr) : ∀ c : List Ctr, Moves c l.length (l.map (opnOf ln)) (c ++ l) := by
  induction l with
  | nil => intro c; simpa using (Moves.nil : Moves c 0 [] c)
  | cons x l ih =>
    intro c
    have := ih (c ++ [x])
    rw [List.append_assoc] at this
    exact Moves.opn ln x _ this

theorem openNew_ops (ln : Int) (cl : Bool) (cs : List Cont) :
    (openNew ln cl cs).2 = (openNew ln cl cs).1.map (opnOf ln) := by
  fun_induction openNew ln cl cs <;> simp_all [opnOf] <;> rfl

theorem openNew_len (ln : Int) (cl : Bool) (cs : List Cont) : (openNew ln cl cs).1.length ≤ 2 * cs.length := by
  fun_induction openNew ln cl cs <;> simp_all <;> omega

theorem openNew_moves (ln : Int) (cs : List Cont) (cl : Bool) (c : List Ctr) :
    Moves c (2 * cs.length) (openNew ln cl cs).2 (c ++ (openNew ln cl cs).1) := by
  rw [openNew_ops]
  exact (Moves.opens ln _ c).weaken (openNew_len ln cl cs)

theorem unmatchedQuote_lt (cs : List Ctr) (i m j : Nat) (h : unmatchedQuote cs i m = some j) :
    j < i + cs.length := by
  fun_induction unmatchedQuote cs i m
  case case1 => cases h
  case case2 => cases h; simp
  case case3 ih => have := ih h; simp only [List.length_cons]; omega

theorem openNew_pos (ln : Int) (cl : Bool) (cs : List Cont) (h : cs ≠ []) : 1 ≤ (openNew ln cl cs).1.length := by
  fun_cases openNew ln cl cs <;> simp_all

theorem adjustMatched_le (last : Option Ctr) (newCs : List Cont) (matched : Nat) :
    (adjustMatched last newCs matched).2 ≤ matched := by
  fun_cases adjustMatched last newCs matched
  case case1 => dsimp only; split <;> omega
  all_goals exact Nat.le_refl _

/-- What the main loop uses of `processContainerMarkers`; `2 * line0.length`: a list and an item per marker,
each marker at least one byte (`startingMarkers_count`). -/
structure PMok (st : BSt) (line0 : Bytes) (pm : PM) : Prop where
  moves : Moves st.ctrs (2 * line0.length) pm.ops pm.st.ctrs
  le : pm.matched ≤ pm.st.ctrs.length
  item : pm.newItem = true → 1 ≤ pm.st.ctrs.length

/-- the bound check of `t.containers[matched-1]` -/
theorem Moves.lastGuard (st : BSt) {m : Nat} (h : m ≤ st.ctrs.length) :
    Moves st.ctrs 0 (C35.guard (m == 0 || (if m > 0 then st.ctrs[m - 1]? else none).isSome)) st.ctrs := by
  apply Moves.guard
  by_cases h0 : m = 0
  · simp [h0]
  · have hlt : m - 1 < st.ctrs.length := by omega
    have hpos : m > 0 := by omega
    simp [hpos, hlt]

theorem processMarkers_ok (st : BSt) (ln : Int) (line0 : Bytes) : PMok st line0 (processMarkers st ln line0) := by
  fun_cases processMarkers st ln line0
  case case1 hsm => exact absurd hsm (startingMarkers_fuel _ _ _ _ (Nat.lt_succ_self _))
  case case2 mc sm _ _ _ adj _ =>
    have hmc : mc.2 ≤ 0 + st.ctrs.length ∧ mc.1.length ≤ line0.length := matchCont_bounds _ _ _
    have hg := Moves.lastGuard st (m := mc.2) (by omega)
    have hadj : adj.2 ≤ mc.2 := adjustMatched_le _ _ _
    exact ⟨hg.weaken (Nat.zero_le _), by show adj.2 ≤ st.ctrs.length; omega, fun h => nomatch h⟩
  case case3 mc sm hsm _ _ adj he _ _ =>
    have hmc : mc.2 ≤ 0 + st.ctrs.length ∧ mc.1.length ≤ line0.length := matchCont_bounds _ _ _
    have hg := Moves.lastGuard st (m := mc.2) (by omega)
    have hadj : adj.2 ≤ mc.2 := adjustMatched_le _ _ _
    have hc := startingMarkers_count (Nat.lt_succ_self _) hsm
    refine ⟨?_, Nat.le_refl _, fun _ => ?_⟩
    · refine ((hg.trans (closeBlocks_moves st ln (keep := adj.2) (by omega))).trans
        (openNew_moves ln sm.2 adj.1 _)).weaken ?_
      simp only [List.length_nil] at hc
      omega
    · have := openNew_pos ln adj.1 sm.2 (by intro h; rw [h] at he; exact he rfl)
      show 1 ≤ (_ ++ (openNew ln adj.1 sm.2).1).length
      simp only [List.length_append]
      omega

section
variable {st : BSt} {line0 : Bytes} {pm : PM} (h : PMok st line0 pm)
include h

theorem leafStep_moves (ln : Int) (m : Mode) {ops : List BOp} (ho : ∀ o ∈ ops, o.isContent = true) :
    Moves st.ctrs (2 * line0.length) (leafStep pm ln m ops).2 (leafStep pm ln m ops).1.ctrs :=
  (h.moves.trans (closeBlocks_moves pm.st ln h.le)).trans (Moves.content ho)

theorem blankStep_moves (ln : Int) (next : Option Bytes) :
    Moves st.ctrs (2 * line0.length) (blankStep pm ln next).2 (blankStep pm ln next).1.ctrs := by
  unfold blankStep
  simp only []
  refine (h.moves.trans (g' := 0) ?_).trans (Moves.content (closePara_content _ _))
  split
  · split
    · exact (Moves.guard (by simpa using h.item ‹_›)).trans (closeBlocks_moves _ _ (Nat.sub_le _ _))
    · exact Moves.nil
  · exact Moves.nil
end

theorem headingOp_content (ln : Int) (line : Bytes) (e l : Nat) : (headingOp ln line e l).isContent = true := by
  unfold headingOp
  simp only []
  split <;> rfl

theorem stepNormal_moves (st : BSt) (ln : Int) (line0 : Bytes) (next : Option Bytes) :
    Moves st.ctrs (2 * line0.length) (stepNormal st ln line0 next).2 (stepNormal st ln line0 next).1.ctrs := by
  have h := processMarkers_ok st ln line0
  fun_cases stepNormal st ln line0 next
  case case1 pm _ _ l hq =>  -- a blank line that ends a block quote
    have := unmatchedQuote_lt pm.st.ctrs 0 pm.matched l hq
    exact h.moves.trans (closeBlocks_moves pm.st ln (keep := l) (by omega))
  case case2 => exact blankStep_moves h ln next
  case case4 => exact leafStep_moves h ln _ (by simp [headingOp_content])
  case case7 => exact h.moves.trans (closeBlocks_moves _ ln h.le)  -- a paragraph starts
  case case8 => exact h.moves  -- a paragraph goes on
  all_goals exact leafStep_moves h ln _ (by simp [BOp.isContent])

theorem endWith_moves (st : BSt) (ln : Int) (m : Nat) {op : BOp} (ho : op.isContent = true) :
    Moves st.ctrs 0 (endWith st ln (unmatchedQuote st.ctrs 0 m) op).2
      (endWith st ln (unmatchedQuote st.ctrs 0 m) op).1.ctrs := by
  unfold endWith
  split
  · rename_i i hi
    have := unmatchedQuote_lt _ _ _ _ hi
    exact (closeBlocks_moves { st with mode := .normal } ln (keep := i) (by simp only []; omega)).cons ho
  · exact Moves.nil.cons ho

theorem again_moves (st : BSt) (ln : Int) (line0 : Bytes) (next : Option Bytes) {op : BOp}
    (ho : op.isContent = true) :
    Moves st.ctrs (2 * line0.length) (again st ln line0 next op).2 (again st ln line0 next op).1.ctrs :=
  (stepNormal_moves { st with mode := .normal } ln line0 next).cons ho

theorem stepBlk_moves (st : BSt) (ln : Int) (line0 : Bytes) (next : Option Bytes) :
    Moves st.ctrs (2 * line0.length) (stepBlk st ln line0 next).2 (stepBlk st ln line0 next).1.ctrs := by
  fun_cases stepBlk st ln line0 next
  case case1 => exact stepNormal_moves st ln line0 next
  -- in a leaf block: the line ends it, ends it and is read again, closes it, or is collected
  case case2 | case7 | case11 | case16 => exact (endWith_moves st ln _ rfl).weaken (Nat.zero_le _)
  case case3 | case9 | case13 | case17 => exact again_moves st ln line0 next rfl
  case case4 | case14 => exact (Moves.nil.cons rfl).weaken (Nat.zero_le _)
  all_goals exact Moves.nil.weaken (Nat.zero_le _)

theorem finish_moves (st : BSt) (ln : Int) : Moves st.ctrs 0 (finish st ln) [] := by
  unfold finish
  refine (Moves.content ?_).trans (closeBlocks_moves st ln (Nat.zero_le _))
  split <;> simp [BOp.isContent]

/-- `Moves` for any number of lines: the one induction over the lines.  `2 * Σ len`: see `PMok`. -/
theorem runLines_moves : ∀ (a : List Bytes) (st : BSt) (ln : Int) (nx : Option Bytes),
    Moves st.ctrs (2 * (a.map List.length).sum) (runLines st ln a nx).2 (runLines st ln a nx).1.ctrs := by
  intro a
  induction a with
  | nil => intro st ln nx; exact Moves.nil
  | cons l a ih =>
    intro st ln nx
    simp only [runLines, List.map_cons, List.sum_cons, Nat.mul_add]
    exact (stepBlk_moves st ln l _).trans (ih _ _ nx)

theorem blockLoop_moves (lines : List Bytes) (st : BSt) (ln : Int) :
    Moves st.ctrs (2 * (lines.map List.length).sum) (blockLoop st ln lines) [] := by
  rw [blockLoop_eq_runLines]
  exact (runLines_moves lines st ln none).trans (finish_moves _ (ln + (lines.length : Int)))

end C35
