/-
The reference's block phase builds only headings of level 1…6 (`parseBlocks_lvlOK`): `lvlOKs` of the children
collected in every open frame is an invariant (`SOK`) of `stepLine`; the level comes from `atxHeading_lvl`.
-/
import ElvProofs.C35.WellNestedBlocks
namespace C35
open Go

theorem lvlOKs_append (a b : List Raw) : lvlOKs (a ++ b) = (lvlOKs a && lvlOKs b) := by
  simp [lvlOKs_eq_all]

theorem lvlOKs_reverse (a : List Raw) : lvlOKs a.reverse = lvlOKs a := by
  simp [lvlOKs_eq_all]

theorem lvlOKs_cons (r : Raw) (a : List Raw) : lvlOKs (r :: a) = (r.lvlOK && lvlOKs a) := by
  simp [lvlOKs]

theorem lvlOKs_replicate_blank (n : Nat) : lvlOKs (List.replicate n .blank) = true := by
  induction n with
  | zero => simp [lvlOKs]
  | succ n ih => simp [List.replicate_succ, lvlOKs, ih, Raw.lvlOK]

def FOK (fs : List Frame) : Prop := ∀ f ∈ fs, lvlOKs f.kids = true

def SOK (st : BState) : Prop := FOK st.frames

theorem FOK.pushKid {r : List Raw} {fs : List Frame} (hr : lvlOKs r = true) (h : FOK fs) :
    FOK (pushKid r fs) := by
  cases fs with
  | nil => exact h
  | cons f fs =>
    intro g hg
    simp only [C35.pushKid, List.mem_cons] at hg
    rcases hg with rfl | hg
    · simp [lvlOKs_append, hr, h f (List.mem_cons_self ..)]
    · exact h g (List.mem_cons_of_mem _ hg)

theorem SOK.addKids {st : BState} {r : List Raw} (hr : lvlOKs r = true) (h : SOK st) :
    SOK (addKids st r) := FOK.pushKid hr h

theorem SOK.pushFrame {st : BState} (k : FKind) (h : SOK st) : SOK (pushFrame st k) := by
  intro g hg
  simp only [C35.pushFrame, List.mem_cons] at hg
  rcases hg with rfl | hg
  · rfl
  · exact h g hg

theorem SOK.closeLeaf {st : BState} (h : SOK st) : SOK (closeLeaf st) := by
  unfold C35.closeLeaf
  split
  · exact h
  · exact FOK.pushKid (by simp [lvlOKs, Raw.lvlOK]) h
  · exact FOK.pushKid (by simp [lvlOKs, Raw.lvlOK]) h
  · exact FOK.pushKid (by simp [lvlOKs_append, lvlOKs_replicate_blank, lvlOKs, Raw.lvlOK]) h

theorem frameToRaw_ok {f : Frame} (h : lvlOKs f.kids = true) : (frameToRaw f).lvlOK = true := by
  unfold frameToRaw
  split <;> simp [Raw.lvlOK, lvlOKs_reverse, h]

theorem SOK.closeTop {st : BState} (h : SOK st) : SOK (closeTop st) := by
  unfold C35.closeTop
  split
  · rename_i f g fs hfs
    have hf := h f (by rw [hfs]; simp)
    have hg := h g (by rw [hfs]; simp)
    intro x hx
    simp only [List.mem_cons] at hx
    rcases hx with rfl | hx
    · simp [lvlOKs_cons, frameToRaw_ok hf, hg]
    · exact h x (by rw [hfs]; simp [hx])
  · exact h

theorem SOK.closeDown : ∀ (fuel : Nat) {st : BState} (keep : Nat), SOK st → SOK (closeDown fuel st keep) := by
  intro fuel
  induction fuel with
  | zero => intro st keep h; exact h
  | succ n ih =>
    intro st keep h
    rw [C35.closeDown]
    split
    · exact ih keep h.closeLeaf.closeTop
    · exact h

theorem SOK.closeUnmatched {st : BState} (m : Nat) (h : SOK st) : SOK (closeUnmatched st m) :=
  SOK.closeDown _ _ h

theorem SOK.prepareBlock {st : BState} (m : Nat) (h : SOK st) : SOK (prepareBlock st m) := by
  have h1 : SOK (C35.closeLeaf (C35.closeUnmatched st m)) := (h.closeUnmatched m).closeLeaf
  unfold C35.prepareBlock
  simp only []
  split
  · split
    · exact h1.closeTop
    · exact h1
  · exact h1

theorem SOK.addText {st : BState} (m : Nat) (rest : Bytes) (h : SOK st) : SOK (addText st m rest) := by
  unfold C35.addText
  split
  · exact h
  · exact h.prepareBlock m

theorem SOK.finishBlank {st : BState} (m : Nat) (h : SOK st) : SOK (finishBlank st m) := by
  have h1 : SOK (C35.closeLeaf (C35.closeUnmatched st m)) := (h.closeUnmatched m).closeLeaf
  have hb : lvlOKs [.blank] = true := by simp [lvlOKs, Raw.lvlOK]
  unfold C35.finishBlank
  simp only []
  split
  · split
    · split
      · exact h1
      · exact h1.addKids hb
    · exact h1.addKids hb
  · exact h1

theorem atxHeading_lvl {line : Bytes} {k : Nat} {c : Bytes} (h : atxHeading line = some (k, c)) :
    1 ≤ k ∧ k ≤ 6 := by
  revert h
  fun_cases atxHeading line
  case case3 hk _ _ | case5 hk _ _ _ _ _ _ _ _ _ =>
    intro h
    injection h with h; injection h with h _
    simp only [Bool.or_eq_true, decide_eq_true_eq, not_or] at hk
    omega
  all_goals intro h; cases h

theorem SOK.openBlocks (fuel : Nat) {st : BState} (m : Nat) (rest : Bytes) (h : SOK st) :
    SOK (openBlocks fuel st m rest) := by
  fun_induction C35.openBlocks fuel st m rest
  case case1 => exact h
  case case2 => exact h.finishBlank _
  case case3 | case9 | case10 => exact h.addText _ _
  case case4 | case7 => exact h.prepareBlock _
  case case5 ih => exact ih ((h.prepareBlock _).pushFrame _)
  case case6 hat =>
    have := atxHeading_lvl hat
    exact (h.prepareBlock _).addKids (by simp [lvlOKs, Raw.lvlOK, this.1, this.2])
  case case8 => exact (h.prepareBlock _).addKids (by simp [lvlOKs, Raw.lvlOK])
  case case11 st2 st1 _ ih =>
    -- a new list item: `st2` = unmatched containers and the leaf closed, `st1` = a list on top
    have h2 : SOK st2 := (h.closeUnmatched _).closeLeaf
    apply ih
    apply SOK.pushFrame
    show SOK st1
    unfold st1
    split
    · split
      · split
        · exact h2
        · exact h2.closeTop.pushFrame _
      · exact h2.pushFrame _
    · exact h2

theorem SOK.stepLine {st : BState} (line : Bytes) (h : SOK st) : SOK (stepLine st line) := by
  fun_cases C35.stepLine st line
  case case1 => exact h.closeLeaf
  case case2 | case4 | case5 => exact h
  case case3 | case7 => exact (h.closeUnmatched _).openBlocks _ _ _
  case case6 => exact h.closeLeaf.openBlocks _ _ _
  case case8 => exact h.openBlocks _ _ _

theorem parseBlocks_lvlOK {doc : Bytes} {rs : List Raw} (h : parseBlocks doc = some rs) :
    lvlOKs rs = true := by
  unfold parseBlocks at h
  simp only [] at h
  have h0 : SOK { frames := [{ kind := .doc, kids := [] }], leaf := .none, fuelOut := false } := by
    intro f hf
    simp only [List.mem_singleton] at hf
    subst hf; rfl
  have h1 := ((List.foldlRecOn (motive := SOK) (docLines doc) C35.stepLine h0 fun _ h l _ => h.stepLine l).closeUnmatched 0).closeLeaf
  split at h
  · cases h
  · split at h
    · rename_i f hf
      injection h with h
      subst h
      rw [lvlOKs_reverse]
      exact h1 f (by rw [hf]; simp)
    · cases h

end C35
