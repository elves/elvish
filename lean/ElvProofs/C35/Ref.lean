import ElvModel.C35.RefHtml
namespace C35
open Go

theorem beq_false_of_class {p : UInt8 → Bool} {b k : UInt8} (hb : p b = true) (hk : p k = false) :
    (b == k) = false := by
  cases h : b == k
  · rfl
  · rw [eq_of_beq h, hk] at hb; cases hb

def procMeasure (right : List Item) : Nat := (right.map delimLen).sum + right.length

theorem procMeasure_cons (it : Item) (right : List Item) :
    procMeasure (it :: right) = delimLen it + procMeasure right + 1 := by
  simp [procMeasure]; omega

theorem refUse_pos (on cn : Nat) : 1 ≤ refUse on cn := by unfold refUse; split <;> omega

theorem procEmph_fuel (fuel : Nat) (left right : List Item) (h : procMeasure right < fuel) :
    procEmph fuel left right ≠ none := by
  fun_induction procEmph fuel left right
  case case1 => omega
  case case2 => simp
  case case4 cn _ _ _ on _ _ _ _ _ _ ih =>
    -- the closer stays at the head of `right`, at least one character shorter
    have := refUse_pos on cn
    rw [procMeasure_cons] at h ih
    exact ih (by simp only [delimLen] at h ⊢; omega)
  case case3 ih | case5 ih | case6 ih =>
    rw [procMeasure_cons] at h
    exact ih (by omega)

theorem resolveEmph_total (items : List Item) : resolveEmph items ≠ none := by
  unfold resolveEmph
  have := procEmph_fuel (emphFuel items) [] items (by simp [procMeasure, emphFuel])
  split
  · rename_i h; exact absurd h this
  · simp

theorem escHtml_safe (s : Bytes) : ∀ b ∈ escHtml s, b ≠ 0x3C ∧ b ≠ 0x3E ∧ b ≠ 0x22 := by
  intro b hb
  rcases List.mem_flatMap.mp hb with ⟨a, _, hba⟩
  clear hb
  revert b
  -- `&`, `<`, `>`, `"` are written as entities; any other byte is copied and is none of them
  by_cases h26 : a = 0x26
  · subst h26; decide
  by_cases h3c : a = 0x3C
  · subst h3c; decide
  by_cases h3e : a = 0x3E
  · subst h3e; decide
  by_cases h22 : a = 0x22
  · subst h22; decide
  intro b hba
  simp only [beq_iff_eq, h26, h3c, h3e, h22, if_false, List.mem_singleton] at hba
  rw [hba]
  exact ⟨h3c, h3e, h22⟩

end C35
