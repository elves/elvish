/-
The block phase commutes with a shift of the line numbers (`blockLoop_shift`); hence, when the parser is back
in `initSt` after the lines `a`, the ops of `a ++ b` are those of `a` then those of `b` shifted (`blockLoop_concat`).
-/
import ElvModel.C35.Block
namespace C35
open Go

def BOp.shift (k : Int) : BOp → BOp
  | .hr ln => .hr (ln + k)
  | .heading ln lvl t a => .heading (ln + k) lvl t a
  | .code ln i ls => .code (ln + k) i ls
  | .html ln ls => .html (ln + k) ls
  | .para ln t => .para (ln + k) t
  | .opn ln t n => .opn (ln + k) t n
  | .cls ln t => .cls (ln + k) t
  | .fuel => .fuel
  | .panic => .panic

def Mode.shift (k : Int) : Mode → Mode
  | .normal => .normal
  | .fenced sl i c n info ls => .fenced (sl + k) i c n info ls
  | .indented sl ls sv => .indented (sl + k) ls sv
  | .htmlC sl kd ls sv => .htmlC (sl + k) kd ls sv
  | .htmlB sl ls => .htmlB (sl + k) ls

def BSt.shift (k : Int) (st : BSt) : BSt := { st with mode := st.mode.shift k }

def shiftR (k : Int) (r : BSt × List BOp) : BSt × List BOp := (r.1.shift k, r.2.map (BOp.shift k))

@[simp] theorem BSt.shift_ctrs (k : Int) (st : BSt) : (st.shift k).ctrs = st.ctrs := rfl
@[simp] theorem BSt.shift_para (k : Int) (st : BSt) : (st.shift k).para = st.para := rfl
@[simp] theorem BSt.shift_mode (k : Int) (st : BSt) : (st.shift k).mode = st.mode.shift k := rfl

theorem guard_shift (k : Int) (b : Bool) : (guard b).map (BOp.shift k) = guard b := by
  cases b <;> rfl

theorem closePara_shift (k : Int) (st : BSt) (ln : Int) :
    closePara (st.shift k) (ln + k) = (closePara st ln).map (BOp.shift k) := by
  unfold closePara
  by_cases h : st.para.isEmpty = true
  · simp [h]
  · have e : ln + k - (st.para.length : Int) = ln - (st.para.length : Int) + k := by omega
    simp [h, BOp.shift, e]

theorem closeBlocks_shift (k : Int) (st : BSt) (keep : Nat) (ln : Int) :
    closeBlocks (st.shift k) keep (ln + k) = shiftR k (closeBlocks st keep ln) := by
  unfold closeBlocks shiftR
  simp only [BSt.shift_ctrs, closePara_shift, List.map_append, guard_shift, List.map_map]
  rfl

theorem openNew_shift (k : Int) (ln : Int) : ∀ (cs : List Cont) (cl : Bool),
    openNew (ln + k) cl cs = ((openNew ln cl cs).1, (openNew ln cl cs).2.map (BOp.shift k)) := by
  intro cs
  induction cs with
  | nil => intro cl; rfl
  | cons c cs ih =>
    intro cl
    cases c with
    | quote =>
      simp only [openNew]
      rw [ih cl]
      rfl
    | bullet p ind =>
      simp only [openNew]
      rw [ih false]
      cases cl <;> rfl
    | ordered p s ind =>
      simp only [openNew]
      rw [ih false]
      cases cl <;> rfl

def PM.shift (k : Int) (pm : PM) : PM :=
  { pm with st := pm.st.shift k, ops := pm.ops.map (BOp.shift k) }

theorem processMarkers_shift (k : Int) (st : BSt) (ln : Int) (line0 : Bytes) :
    processMarkers (st.shift k) (ln + k) line0 = (processMarkers st ln line0).shift k := by
  unfold processMarkers
  dsimp only [BSt.shift_ctrs, BSt.shift_para]
  generalize matchCont st.ctrs line0 0 = mc
  generalize startingMarkers _ _ _ _ = r
  cases r with
  | none => rfl
  | some sm =>
    simp only []
    by_cases he : sm.2.isEmpty = true
    · simp only [he, if_true, PM.shift, guard_shift]
    · simp only [he, Bool.false_eq_true, if_false, PM.shift, closeBlocks_shift, openNew_shift, shiftR,
        List.map_append, guard_shift]
      rfl

theorem leafStep_shift (k : Int) (pm : PM) (ln : Int) (m : Mode) (ops : List BOp) :
    leafStep (pm.shift k) (ln + k) (m.shift k) (ops.map (BOp.shift k)) = shiftR k (leafStep pm ln m ops) := by
  unfold leafStep
  simp only [PM.shift, closeBlocks_shift, shiftR, List.map_append]
  rfl

theorem blankStep_shift (k : Int) (pm : PM) (ln : Int) (next : Option Bytes) :
    blankStep (pm.shift k) (ln + k) next = shiftR k (blankStep pm ln next) := by
  unfold blankStep
  cases hni : pm.newItem <;> cases next <;>
    simp only [PM.shift, hni, shiftR, List.map_append, closePara_shift, BSt.shift_ctrs,
      List.append_nil] <;> try rfl
  split
  · simp only [closeBlocks_shift, shiftR, List.map_append, guard_shift, closePara_shift]
    rfl
  · simp only [List.map_nil, List.append_nil, closePara_shift]
    rfl

theorem headingOp_shift (k : Int) (ln : Int) (line : Bytes) (e l : Nat) :
    headingOp (ln + k) line e l = (headingOp ln line e l).shift k := by
  unfold headingOp
  simp only []
  split <;> rfl

theorem stepNormal_shift (k : Int) (st : BSt) (ln : Int) (line0 : Bytes) (next : Option Bytes) :
    stepNormal (st.shift k) (ln + k) line0 next = shiftR k (stepNormal st ln line0 next) := by
  unfold stepNormal
  rw [processMarkers_shift]
  generalize processMarkers st ln line0 = pm
  have e1 : (pm.shift k).line = pm.line := rfl
  have e2 : (pm.shift k).matched = pm.matched := rfl
  have e3 : (pm.shift k).st = pm.st.shift k := rfl
  have e4 : (pm.shift k).ops = pm.ops.map (BOp.shift k) := rfl
  simp only [e1, e2]
  by_cases hb : isBlank pm.line = true
  · simp only [hb, if_true]
    rw [e3, BSt.shift_ctrs]
    cases unmatchedQuote pm.st.ctrs 0 pm.matched with
    | some i => simp only [e4, closeBlocks_shift, shiftR, List.map_append]
    | none => exact blankStep_shift k pm ln next
  · simp only [hb, Bool.false_eq_true, if_false]
    by_cases ht : thematicBreakRe pm.line = true
    · simp only [ht, if_true]
      exact leafStep_shift k pm ln .normal [.hr ln]
    · simp only [ht, Bool.false_eq_true, if_false]
      cases atxHeadingRe pm.line with
      | some p =>
        obtain ⟨e, l⟩ := p
        simp only [headingOp_shift]
        exact leafStep_shift k pm ln .normal [headingOp ln pm.line e l]
      | none =>
        simp only []
        cases codeFenceRe pm.line with
        | some p =>
          obtain ⟨a, b, c, d⟩ := p
          exact leafStep_shift k pm ln (.fenced ln a c b (trimSpTab (processInfo 0 d)) []) []
        | none =>
          simp only [e3, BSt.shift_para]
          by_cases hi : (pm.st.para.isEmpty && startsWith pm.line (bs "    ")) = true
          · simp only [hi, if_true]
            exact leafStep_shift k pm ln (.indented ln [pm.line.drop 4] []) []
          · simp only [hi, Bool.false_eq_true, if_false]
            generalize htk : htmlStartKind pm.line pm.st.para.isEmpty = hk
            match hk with
            | 0 =>
              simp only []
              by_cases hp : pm.st.para.isEmpty = true
              · simp only [hp, if_true, e4, closeBlocks_shift, shiftR, List.map_append]
                rfl
              · simp only [hp, Bool.false_eq_true, if_false, e4, shiftR]
                rfl
            | 6 => exact leafStep_shift k pm ln (.htmlB ln [pm.line]) []
            | 1 | 2 | 3 | 4 | 5 | (n + 7) =>
              simp only []
              split
              · exact leafStep_shift k pm ln .normal [.html ln [pm.line]]
              · exact leafStep_shift k pm ln (.htmlC ln _ [pm.line] []) []

theorem endWith_shift (k : Int) (st : BSt) (ln : Int) (uq : Option Nat) (op : BOp) :
    endWith (st.shift k) (ln + k) uq (op.shift k) = shiftR k (endWith st ln uq op) := by
  unfold endWith
  cases uq with
  | none => rfl
  | some i =>
    have e : ({ st.shift k with mode := Mode.normal } : BSt) = BSt.shift k { st with mode := .normal } := rfl
    simp only [e, closeBlocks_shift, shiftR, List.map_cons]

theorem again_shift (k : Int) (st : BSt) (ln : Int) (line0 : Bytes) (next : Option Bytes) (op : BOp) :
    again (st.shift k) (ln + k) line0 next (op.shift k) = shiftR k (again st ln line0 next op) := by
  unfold again
  have e : ({ st.shift k with mode := Mode.normal } : BSt) = BSt.shift k { st with mode := .normal } := rfl
  simp only [e, stepNormal_shift, shiftR, List.map_cons]

theorem stepBlk_shift (k : Int) (st : BSt) (ln : Int) (line0 : Bytes) (next : Option Bytes) :
    stepBlk (st.shift k) (ln + k) line0 next = shiftR k (stepBlk st ln line0 next) := by
  obtain ⟨ctrs, para, mode⟩ := st
  -- in a leaf mode both sides are the same decision tree; `shiftR` goes to its leaves, where
  -- `endWith`, `again` and the constructors commute with the shift
  cases mode
  case normal => exact stepNormal_shift k _ ln line0 next
  case fenced sl indent ch n info lines =>
    rcases hfc : fenceCloserRe (matchCont ctrs line0 0).1 with _ | ⟨c, kk⟩ <;>
      simp only [stepBlk, BSt.shift, Mode.shift, hfc, apply_ite (shiftR k), ← endWith_shift, ← again_shift] <;>
      rfl
  all_goals
    simp only [stepBlk, BSt.shift, Mode.shift, apply_ite (shiftR k), ← endWith_shift, ← again_shift]
    rfl

theorem finish_shift (k : Int) (st : BSt) (ln : Int) :
    finish (st.shift k) (ln + k) = (finish st ln).map (BOp.shift k) := by
  unfold finish
  simp only [closeBlocks_shift, shiftR, List.map_append]
  congr 1
  obtain ⟨ctrs, para, mode⟩ := st
  cases mode <;> rfl

theorem blockLoop_shift (k : Int) : ∀ (lines : List Bytes) (st : BSt) (ln : Int),
    blockLoop (st.shift k) (ln + k) lines = (blockLoop st ln lines).map (BOp.shift k) := by
  intro lines
  induction lines with
  | nil => intro st ln; exact finish_shift k st ln
  | cons l rest ih =>
    intro st ln
    unfold blockLoop
    simp only [stepBlk_shift, shiftR, List.map_append]
    have e : ln + k + 1 = ln + 1 + k := by omega
    rw [e, ih]

/-- The loop over the lines `a` when the line after them is `nx`: one line is the only look-ahead of the
block phase. -/
def runLines : BSt → Int → List Bytes → Option Bytes → BSt × List BOp
  | st, _, [], _ => (st, [])
  | st, ln, l :: rest, nx =>
    let r := stepBlk st ln l (rest.head?.or nx)
    let r2 := runLines r.1 (ln + 1) rest nx
    (r2.1, r.2 ++ r2.2)

theorem blockLoop_append : ∀ (a b : List Bytes) (st : BSt) (ln : Int),
    blockLoop st ln (a ++ b) =
      (runLines st ln a b.head?).2 ++ blockLoop (runLines st ln a b.head?).1 (ln + (a.length : Int)) b := by
  intro a
  induction a with
  | nil => intro b st ln; simp [runLines]
  | cons l a ih =>
    intro b st ln
    have hh : (a ++ b).head? = a.head?.or b.head? := by cases a <;> simp
    simp only [List.cons_append, blockLoop, runLines, hh, ih, List.append_assoc, List.length_cons]
    have e : ln + 1 + (a.length : Int) = ln + ((a.length + 1 : Nat) : Int) := by omega
    rw [e]

/-- The whole loop is the loop over the lines followed by `finish`. -/
theorem blockLoop_eq_runLines (a : List Bytes) (st : BSt) (ln : Int) :
    blockLoop st ln a =
      (runLines st ln a none).2 ++ finish (runLines st ln a none).1 (ln + (a.length : Int)) := by
  simpa [blockLoop] using blockLoop_append a [] st ln

theorem finish_init (ln : Int) : finish initSt ln = [] := rfl

theorem initSt_shift (k : Int) : initSt.shift k = initSt := rfl

theorem blockLoop_concat (a b : List Bytes) (opsA : List BOp)
    (h : runLines initSt 1 a b.head? = (initSt, opsA)) :
    blockLoop initSt 1 (a ++ b) = opsA ++ (blockLoop initSt 1 b).map (BOp.shift a.length) := by
  rw [blockLoop_append, h]
  simp only []
  have := blockLoop_shift (a.length : Int) b initSt 1
  rw [initSt_shift] at this
  rw [this]

theorem blockLoop_alone (a : List Bytes) (opsA : List BOp)
    (h : runLines initSt 1 a none = (initSt, opsA)) : blockLoop initSt 1 a = opsA := by
  rw [blockLoop_eq_runLines, h, finish_init, List.append_nil]

theorem splitNL_ne_nil : ∀ s : Bytes, splitNL s ≠ [] := by
  intro s
  induction s with
  | nil => simp [splitNL]
  | cons b t ih =>
    unfold splitNL
    split
    · simp
    · split <;> simp

theorem splitNL_append_nl : ∀ (x y : Bytes), splitNL (x ++ NL :: y) = splitNL x ++ splitNL y := by
  intro x y
  induction x with
  | nil =>
    simp only [List.nil_append]
    rw [splitNL]
    cases h : splitNL y with
    | nil => exact absurd h (splitNL_ne_nil y)
    | cons l ls => simp [splitNL, h]
  | cons c x ih =>
    simp only [List.cons_append]
    rw [splitNL, ih]
    cases h : splitNL x with
    | nil => exact absurd h (splitNL_ne_nil x)
    | cons l ls =>
      simp only [List.cons_append]
      rw [splitNL, h]
      by_cases hc : (c == NL) = true <;> simp [hc]

theorem docLines_snoc_nl (x : Bytes) : docLines (x ++ [NL]) = splitNL x := by
  unfold docLines
  have h1 : (x ++ [NL]).isEmpty = false := by cases x <;> rfl
  have h2 : (x ++ [NL]).getLast? = some NL := by simp
  simp only [h1, Bool.false_eq_true, if_false, h2]
  have := splitNL_append_nl x []
  simp only [splitNL] at this
  rw [this]
  simp

theorem docLines_append (x y : Bytes) :
    docLines (x ++ [NL] ++ y) = docLines (x ++ [NL]) ++ docLines y := by
  rw [docLines_snoc_nl]
  cases y with
  | nil => rw [List.append_nil, docLines_snoc_nl]; simp [docLines]
  | cons c y =>
    unfold docLines
    have h1 : (x ++ [NL] ++ c :: y).isEmpty = false := by cases x <;> rfl
    have h2 : (x ++ [NL] ++ c :: y).getLast? = (c :: y).getLast? := by
      rw [List.getLast?_append]
      cases hg : (c :: y).getLast? with
      | none => simp at hg
      | some v => rfl
    simp only [h1, Bool.false_eq_true, if_false, h2, List.isEmpty_cons]
    have e : x ++ [NL] ++ c :: y = x ++ NL :: (c :: y) := by simp
    rw [e, splitNL_append_nl]
    split
    · rw [List.dropLast_append_of_ne_nil (splitNL_ne_nil _)]
    · rfl

/-- After the lines of `d1` the parser is back in `initSt` (no open container, paragraph or leaf block),
whether the look-ahead is the first line of `d2` or the end of input. -/
def Separable (d1 d2 : Bytes) : Prop :=
  ∃ ops, runLines initSt 1 (docLines d1) (docLines d2).head? = (initSt, ops) ∧
         runLines initSt 1 (docLines d1) none = (initSt, ops)

theorem renderBlocks_concat (x d2 : Bytes) (h : Separable (x ++ [NL]) d2) :
    renderBlocks (x ++ [NL] ++ d2) =
      renderBlocks (x ++ [NL]) ++ (renderBlocks d2).map (BOp.shift (docLines (x ++ [NL])).length) := by
  obtain ⟨ops, h1, h2⟩ := h
  unfold renderBlocks
  rw [docLines_append, blockLoop_concat _ _ ops h1, blockLoop_alone _ ops h2]

end C35
