/-
`renderRaws` only appends `Frag`s to its accumulator (`renderRaws_ext`), for every `Raw` forest whose heading
levels are 1…6 (`lvlOKs`: level 14 would write the tag `h>`; `parseBlocks` builds only such forests, `parseBlocks_lvlOK`).
-/
import ElvProofs.C35.WellNestedInline
namespace C35
open Go

mutual
def Raw.lvlOK : Raw → Bool
  | .heading lvl _ => decide (1 ≤ lvl) && decide (lvl ≤ 6)
  | .quote c => lvlOKs c
  | .list _ _ _ items => lvlOKs items
  | .item c => lvlOKs c
  | _ => true
def lvlOKs : List Raw → Bool
  | [] => true
  | r :: rs => r.lvlOK && lvlOKs rs
end

theorem lvlOKs_eq_all (rs : List Raw) : lvlOKs rs = rs.all Raw.lvlOK := by
  induction rs with
  | nil => simp [lvlOKs]
  | cons r rs ih => simp [lvlOKs, ih]

theorem lvlOKs_mem {rs : List Raw} (h : lvlOKs rs = true) {r : Raw} (hr : r ∈ rs) : r.lvlOK = true := by
  rw [lvlOKs_eq_all, List.all_eq_true] at h
  exact h r hr

theorem lit_lt : bs "<" = [0x3C] := by decide +kernel
theorem lit_lts : bs "</" = [0x3C, 0x2F] := by decide +kernel
theorem lit_gtnl : bs ">\n" = [0x3E, NL] := by decide +kernel
theorem lit_p : bs "<p>" = Ev.bytes (.open (bs "p") []) := by decide +kernel
theorem lit_p_close : bs "</p>\n" = Ev.bytes (.close (bs "p")) ++ [NL] := by decide +kernel
theorem lit_hr : bs "<hr />\n" = Ev.bytes (.void (bs "hr") []) ++ [NL] := by decide +kernel
theorem lit_precode : bs "<pre><code" = Ev.bytes (.open (bs "pre") []) ++ ([0x3C] ++ bs "code") := by
  decide +kernel
theorem lit_precode_close :
    bs "</code></pre>\n" = Ev.bytes (.close (bs "code")) ++ (Ev.bytes (.close (bs "pre")) ++ [NL]) := by
  decide +kernel
theorem lit_class :
    bs " class=\"language-" = [SP] ++ bs "class" ++ [0x3D, 0x22] ++ bs "language-" := by decide +kernel
theorem language_valSafe : ValSafe (bs "language-") := by decide +kernel
theorem lit_bq : bs "<blockquote>\n" = Ev.bytes (.open (bs "blockquote") []) ++ [NL] := by decide +kernel
theorem lit_bq_close : bs "</blockquote>\n" = Ev.bytes (.close (bs "blockquote")) ++ [NL] := by
  decide +kernel
theorem lit_ul : bs "<ul>\n" = Ev.bytes (.open (bs "ul") []) ++ [NL] := by decide +kernel
theorem lit_ul_close : bs "</ul>\n" = Ev.bytes (.close (bs "ul")) ++ [NL] := by decide +kernel
theorem lit_ol : bs "<ol>\n" = Ev.bytes (.open (bs "ol") []) ++ [NL] := by decide +kernel
theorem lit_ol_close : bs "</ol>\n" = Ev.bytes (.close (bs "ol")) ++ [NL] := by decide +kernel
theorem lit_ol_start : bs "<ol start=\"" = [0x3C] ++ bs "ol" ++ ([SP] ++ bs "start" ++ [0x3D, 0x22]) := by
  decide +kernel
theorem lit_qgtnl : bs "\">\n" = [0x22, 0x3E, NL] := by decide +kernel
theorem lit_li : bs "<li>" = Ev.bytes (.open (bs "li") []) := by decide +kernel
theorem lit_li_close : bs "</li>\n" = Ev.bytes (.close (bs "li")) ++ [NL] := by decide +kernel

theorem heading_tag_mem {lvl : Nat} (h1 : 1 ≤ lvl) (h6 : lvl ≤ 6) :
    [0x68, UInt8.ofNat (48 + lvl)] ∈ tagNames := by
  obtain rfl | rfl | rfl | rfl | rfl | rfl : lvl = 1 ∨ lvl = 2 ∨ lvl = 3 ∨ lvl = 4 ∨ lvl = 5 ∨ lvl = 6 := by
    omega
  all_goals decide +kernel

theorem infoClass_attrs {info cls : Bytes} (h : infoClass info = some cls) :
    ∃ a, cls = attrsBytes a ∧ AttrsSafe a := by
  unfold infoClass at h
  split at h
  · cases h
  · rename_i i _
    simp only [Option.some.injEq] at h
    generalize List.takeWhile _ i = w at h
    subst h
    split
    · exact ⟨[], rfl, AttrsSafe.nil⟩
    · refine ⟨[(bs "class", bs "language-" ++ escHtml w)], ?_, ?_⟩
      · rw [lit_class, lit_q]; simp [attrsBytes, attrBytes]
      · exact AttrsSafe.single (by simp [attrNames]) (language_valSafe.append (escHtml_valSafe w))

def Ext (o o' : ROut) : Prop := ∃ b, o'.out = o.out ++ b ∧ Frag b

theorem Ext.refl' {o o' : ROut} (h : o'.out = o.out) : Ext o o' := ⟨[], by simp [h], Frag.nil⟩

theorem Ext.trans {a b c : ROut} (h1 : Ext a b) (h2 : Ext b c) : Ext a c := by
  obtain ⟨x, ex, fx⟩ := h1
  obtain ⟨y, ey, fy⟩ := h2
  exact ⟨x ++ y, by rw [ey, ex, List.append_assoc], fx.append fy⟩

theorem cr_frag (out : Bytes) : ∃ c, cr out = out ++ c ∧ Frag c := by
  unfold cr
  split
  · exact ⟨[], by simp, Frag.nil⟩
  · split
    · exact ⟨[], by simp, Frag.nil⟩
    · exact ⟨[NL], rfl, nl_frag⟩

theorem Ext.leaf {o o' : ROut} {x : Bytes} (h : o'.out = cr o.out ++ x) (hx : Frag x) : Ext o o' := by
  obtain ⟨c, ec, fc⟩ := cr_frag o.out
  exact ⟨c ++ x, by rw [h, ec, List.append_assoc], fc.append hx⟩

/-- a container block: `cr`, start tag, `pre`, what the inner rendering appends, `mid`, end tag, `post` -/
theorem Ext.container {o oin o1 o2 : ROut} {t : Bytes} {a : List (Bytes × Bytes)} {pre mid post : Bytes}
    (ht : t ∈ tagNames) (ha : AttrsSafe a) (hpre : Frag pre) (hmid : Frag mid) (hpost : Frag post)
    (hin : oin.out = cr o.out ++ (Ev.bytes (.open t a) ++ pre))
    (h : Ext oin o1)
    (hout : o2.out = o1.out ++ (mid ++ (Ev.bytes (.close t) ++ post))) : Ext o o2 := by
  obtain ⟨c, ec, fc⟩ := cr_frag o.out
  obtain ⟨b, eb, fb⟩ := h
  refine ⟨c ++ ((Ev.bytes (.open t a) ++ (pre ++ b ++ mid) ++ Ev.bytes (.close t)) ++ post), ?_, ?_⟩
  · rw [hout, eb, hin, ec]; simp only [List.append_assoc]
  · exact fc.append ((Frag.wrap ht ha ((hpre.append fb).append hmid)).append hpost)

theorem foldl_ext {α : Type} (f : ROut → α → ROut) (l : List α)
    (h : ∀ o, ∀ r ∈ l, Ext o (f o r)) (o : ROut) : Ext o (l.foldl f o) :=
  List.foldlRecOn (motive := Ext o) l f (Ext.refl' rfl) fun o' ho r hr => ho.trans (h o' r hr)

-- `itemStep`, `rawStep`: the bodies of the folds in `renderRaws`, named so that lemmas can speak of them
-- (`renderRaws_succ` holds by `rfl`).
def itemStep (U : UClass) (loose : Bool) (fuel : Nat) (t : Bool) (o : ROut) (it : Raw) : ROut :=
  match it with
  | .item c =>
    let o2 := renderRaws U loose fuel t c
      { o with out := cr o.out ++ bs "<li>" ++ (if loose then [NL] else []) }
    { o2 with out := (if loose then cr o2.out else o2.out) ++ bs "</li>\n" }
  | _ => o

def olOpen (start : Nat) : Bytes :=
  if start == 1 then bs "<ol>\n" else bs "<ol start=\"" ++ bs (toString start) ++ bs "\">\n"

def rawStep (U : UClass) (loose : Bool) (fuel : Nat) (tight : Bool) (o : ROut) (r : Raw) : ROut :=
  match r with
  | .blank => o
  | .para lines =>
    match parseInlines U (paraText lines) with
    | none => { o with bad := true }
    | some inl =>
      let h := inlHtml loose (fuel + (paraText lines).length) inl
      if tight then { o with out := o.out ++ h }
      else { o with out := cr o.out ++ bs "<p>" ++ h ++ bs "</p>\n" }
  | .heading lvl raw =>
    match parseInlines U raw with
    | none => { o with bad := true }
    | some inl =>
      let tag := [0x68, UInt8.ofNat (48 + lvl)]
      { o with out := cr o.out ++ bs "<" ++ tag ++ bs ">" ++ inlHtml loose (fuel + raw.length) inl ++
                      bs "</" ++ tag ++ bs ">\n" }
  | .hr => { o with out := cr o.out ++ bs "<hr />\n" }
  | .code info lines =>
    match infoClass info with
    | none => { o with bad := true }
    | some cls =>
      { o with out := cr o.out ++ bs "<pre><code" ++ cls ++ bs ">" ++
                      lines.flatMap (fun l => escHtml l ++ [NL]) ++ bs "</code></pre>\n" }
  | .quote c =>
    let o1 := renderRaws U loose fuel false c { o with out := cr o.out ++ bs "<blockquote>\n" }
    { o1 with out := cr o1.out ++ bs "</blockquote>\n" }
  | .list ordered start _ items =>
    let t := !loose && !(looseItems fuel items)
    let openTag := if ordered then olOpen start else bs "<ul>\n"
    let o1 := items.foldl (itemStep U loose fuel t) { o with out := cr o.out ++ openTag }
    { o1 with out := cr o1.out ++ (if ordered then bs "</ol>\n" else bs "</ul>\n") }
  | .item _ => o

theorem renderRaws_zero (U : UClass) (loose tight : Bool) (rs : List Raw) (o : ROut) :
    renderRaws U loose 0 tight rs o = { o with bad := true } := by
  rw [renderRaws]

theorem renderRaws_succ (U : UClass) (loose : Bool) (fuel : Nat) (tight : Bool) (rs : List Raw) (o : ROut) :
    renderRaws U loose (fuel + 1) tight rs o = rs.foldl (rawStep U loose fuel tight) o := by
  rw [renderRaws]
  rfl

section
variable (U : UClass) (loose : Bool) (n : Nat)
  (ih : ∀ (tight : Bool) (rs : List Raw) (o : ROut), lvlOKs rs = true → Ext o (renderRaws U loose n tight rs o))
include ih

theorem itemStep_ext (t : Bool) (o : ROut) (it : Raw) (hit : it.lvlOK = true) :
    Ext o (itemStep U loose n t o it) := by
  cases it with
  | item c =>
    have hc : lvlOKs c = true := by simpa [Raw.lvlOK] using hit
    simp only [itemStep]
    obtain ⟨c1, ec1, fc1⟩ := cr_frag
      (renderRaws U loose n t c { o with out := cr o.out ++ bs "<li>" ++ (if loose then [NL] else []) }).out
    refine Ext.container (t := bs "li") (a := []) (pre := if loose then [NL] else [])
      (mid := if loose then c1 else []) (post := [NL]) (by simp [tagNames]) AttrsSafe.nil ?_ ?_ nl_frag
      ?_ (ih t c { o with out := cr o.out ++ bs "<li>" ++ (if loose then [NL] else []) } hc) ?_
    · split
      · exact nl_frag
      · exact Frag.nil
    · split
      · exact fc1
      · exact Frag.nil
    · simp only [lit_li, List.append_assoc]
    · cases loose
      · simp only [lit_li_close, Bool.false_eq_true, if_false, List.nil_append]
      · simp only [if_true, List.append_assoc] at ec1
        simp only [lit_li_close, if_true, List.append_assoc]
        rw [ec1, List.append_assoc]
  | _ => exact Ext.refl' rfl

theorem rawStep_ext (tight : Bool) (o : ROut) (r : Raw) (hr : r.lvlOK = true) :
    Ext o (rawStep U loose n tight o r) := by
  cases r with
  | blank => exact Ext.refl' rfl
  | item c => exact Ext.refl' rfl
  | hr =>
    refine Ext.leaf (x := bs "<hr />\n") rfl ?_
    rw [lit_hr]
    exact (Frag.void (by simp [voidNames]) AttrsSafe.nil).append nl_frag
  | para lines =>
    simp only [rawStep]
    split
    · exact Ext.refl' rfl
    · rename_i inl _
      split
      · exact ⟨_, rfl, inl_frag loose _ inl⟩
      · refine Ext.leaf (x := bs "<p>" ++ inlHtml loose (n + (paraText lines).length) inl ++ bs "</p>\n")
          (by simp only [List.append_assoc]) ?_
        rw [lit_p, lit_p_close, ← List.append_assoc]
        exact (Frag.wrap (by simp [tagNames]) AttrsSafe.nil (inl_frag loose _ inl)).append nl_frag
  | heading lvl raw =>
    have h16 : 1 ≤ lvl ∧ lvl ≤ 6 := by simpa [Raw.lvlOK] using hr
    simp only [rawStep]
    split
    · exact Ext.refl' rfl
    · rename_i inl _
      refine Ext.leaf (x := (Ev.bytes (.open [0x68, UInt8.ofNat (48 + lvl)] []) ++
          inlHtml loose (n + raw.length) inl ++ Ev.bytes (.close [0x68, UInt8.ofNat (48 + lvl)])) ++ [NL])
        ?_ ?_
      · simp only [lit_lt, lit_lts, lit_gt, lit_gtnl]
        simp [Ev.bytes, attrsBytes]
      · exact (Frag.wrap (heading_tag_mem h16.1 h16.2) AttrsSafe.nil (inl_frag loose _ inl)).append nl_frag
  | code info lines =>
    simp only [rawStep]
    split
    · exact Ext.refl' rfl
    · rename_i cls hcls
      obtain ⟨a, ea, sa⟩ := infoClass_attrs hcls
      refine Ext.leaf (x := (Ev.bytes (.open (bs "pre") []) ++ (Ev.bytes (.open (bs "code") a) ++
          lines.flatMap (fun l => escHtml l ++ [NL]) ++ Ev.bytes (.close (bs "code"))) ++
          Ev.bytes (.close (bs "pre"))) ++ [NL]) ?_ ?_
      · simp only [lit_precode, lit_precode_close, lit_gt, ea]
        simp [Ev.bytes, attrsBytes]
      · refine (Frag.wrap (by simp [tagNames]) AttrsSafe.nil
          (Frag.wrap (by simp [tagNames]) sa (flatMap_frag _ _ (fun l _ => ?_)))).append nl_frag
        exact Frag.text ((escHtml_valSafe l).textSafe.append (by decide))
  | quote c =>
    have hc : lvlOKs c = true := by simpa [Raw.lvlOK] using hr
    simp only [rawStep]
    obtain ⟨c1, ec1, fc1⟩ := cr_frag
      (renderRaws U loose n false c { o with out := cr o.out ++ bs "<blockquote>\n" }).out
    refine Ext.container (t := bs "blockquote") (a := []) (pre := [NL]) (mid := c1) (post := [NL])
      (by simp [tagNames]) AttrsSafe.nil nl_frag fc1 nl_frag ?_
      (ih false c { o with out := cr o.out ++ bs "<blockquote>\n" } hc) ?_
    · simp only [lit_bq]
    · simp only [lit_bq_close, ec1, List.append_assoc]
  | list ordered start delim items =>
    have hitems : lvlOKs items = true := by simpa [Raw.lvlOK] using hr
    simp only [rawStep]
    generalize (!loose && !looseItems n items) = t
    have hfold : ∀ o, Ext o (items.foldl (itemStep U loose n t) o) :=
      foldl_ext _ _ (fun o it hit => itemStep_ext U loose n ih t o it (lvlOKs_mem hitems hit))
    cases ordered
    · -- bullet list
      simp only [Bool.false_eq_true, if_false]
      obtain ⟨c1, ec1, fc1⟩ := cr_frag
        (items.foldl (itemStep U loose n t) { o with out := cr o.out ++ bs "<ul>\n" }).out
      refine Ext.container (t := bs "ul") (a := []) (pre := [NL]) (mid := c1) (post := [NL])
        (by simp [tagNames]) AttrsSafe.nil nl_frag fc1 nl_frag ?_
        (hfold { o with out := cr o.out ++ bs "<ul>\n" }) ?_
      · simp only [lit_ul]
      · simp only [lit_ul_close, ec1, List.append_assoc]
    · simp only [if_true]
      obtain ⟨c1, ec1, fc1⟩ := cr_frag
        (items.foldl (itemStep U loose n t) { o with out := cr o.out ++ olOpen start }).out
      by_cases hs : (start == 1) = true
      · refine Ext.container (t := bs "ol") (a := []) (pre := [NL]) (mid := c1) (post := [NL])
          (by simp [tagNames]) AttrsSafe.nil nl_frag fc1 nl_frag ?_
          (hfold { o with out := cr o.out ++ olOpen start }) ?_
        · simp only [olOpen, hs, if_true, lit_ol]
        · simp only [lit_ol_close, ec1, List.append_assoc]
      · refine Ext.container (t := bs "ol") (a := [(bs "start", bs (toString start))]) (pre := [NL])
          (mid := c1) (post := [NL]) (by simp [tagNames])
          (AttrsSafe.single (by simp [attrNames]) (digits_safe start)) nl_frag fc1 nl_frag ?_
          (hfold { o with out := cr o.out ++ olOpen start }) ?_
        · simp only [olOpen, hs, lit_ol_start, lit_qgtnl]
          simp [Ev.bytes, attrsBytes, attrBytes]
        · simp only [lit_ol_close, ec1, List.append_assoc]

end

theorem renderRaws_ext (U : UClass) (loose : Bool) : ∀ (fuel : Nat) (tight : Bool) (rs : List Raw) (o : ROut),
    lvlOKs rs = true → Ext o (renderRaws U loose fuel tight rs o) := by
  intro fuel
  induction fuel with
  | zero => intro tight rs o _; rw [renderRaws_zero]; exact Ext.refl' rfl
  | succ n ih =>
    intro tight rs o hrs
    rw [renderRaws_succ]
    exact foldl_ext _ _ (fun o r hr => rawStep_ext U loose n ih tight o r (lvlOKs_mem hrs hr)) o

end C35
