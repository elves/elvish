import ElvModel.C35.Model
namespace C35
open Go

theorem useOf_pos (o c : D) : 1 ≤ useOf o c := by unfold useOf; split <;> omega

theorem useOf_le (o c : D) (ho : 1 ≤ o.rem) (hc : 1 ≤ c.rem) :
    useOf o c ≤ o.rem ∧ useOf o c ≤ c.rem := by
  unfold useOf
  split
  · rename_i h; simp at h; omega
  · omega

theorem peMeasure_cons {s : PE} {c : D} {right : List D} (h : s.right = c :: right) :
    peMeasure s = c.rem + 1 + (right.map (fun d => d.rem + 1)).sum := by
  simp [peMeasure, h]

/-- Every iteration moves past the closer at the head of `right` or takes at least one character from it. -/
theorem peLoop_fuel (fuel : Nat) (s : PE) (h : peMeasure s < fuel) : peLoop fuel s ≠ .fuel := by
  fun_induction peLoop fuel s
  case case1 => omega
  case case2 | case6 => simp
  case case8 c _ hr _ o _ _ _ _ hne ih =>
    have := useOf_pos o c
    have : ¬ (c.rem - useOf o c = 0) := by simpa using hne
    rw [peMeasure_cons hr] at h
    exact ih (by simp only [peMeasure, List.map_cons, List.sum_cons]; omega)
  case case3 hr _ ih | case4 hr _ _ _ _ _ ih | case5 hr _ _ _ _ _ ih | case7 hr _ _ _ _ _ _ _ ih =>
    rw [peMeasure_cons hr] at h
    exact ih (by simp only [peMeasure]; omega)

/-- Every live delimiter still has text, so `Text[1:]` / `Text[2:]` in `processEmphasis` stay in range. -/
def PEInv (s : PE) : Prop := (∀ d ∈ s.left, 1 ≤ d.rem) ∧ (∀ d ∈ s.right, 1 ≤ d.rem)

theorem findOp_mem (c : D) (bot : Bot) : ∀ (l : List D) (o : D) (rest : List D),
    findOp c bot l = some (o, rest) → o ∈ l ∧ (∀ d ∈ rest, d ∈ l) := by
  intro l
  induction l with
  | nil => intro o rest h; simp [findOp] at h
  | cons p ps ih =>
    intro o rest h
    unfold findOp at h
    split at h
    · cases h
    · split at h
      · injection h with h; injection h with h1 h2
        subst h1; subst h2
        exact ⟨List.mem_cons_self, fun d hd => List.mem_cons_of_mem _ hd⟩
      · have := ih o rest h
        exact ⟨List.mem_cons_of_mem _ this.1, fun d hd => List.mem_cons_of_mem _ (this.2 d hd)⟩

theorem leftAfter_inv (o : D) (use : Nat) (rest : List D) (hrest : ∀ d ∈ rest, 1 ≤ d.rem) :
    ∀ d ∈ leftAfter o use rest, 1 ≤ d.rem := by
  intro d hd
  unfold leftAfter at hd
  split at hd
  · exact hrest d hd
  · rename_i hne
    rcases List.mem_cons.mp hd with h | h
    · subst h
      have : ¬ (o.rem - use = 0) := by simpa using hne
      show 1 ≤ o.rem - use
      omega
    · exact hrest d h

theorem cons_inv (c : D) (l : List D) (hc : 1 ≤ c.rem) (hl : ∀ d ∈ l, 1 ≤ d.rem) :
    ∀ d ∈ c :: l, 1 ≤ d.rem := by
  intro d hd
  rcases List.mem_cons.mp hd with h | h
  · subst h; exact hc
  · exact hl d h

theorem peLoop_no_panic (fuel : Nat) (s : PE) (hinv : PEInv s) : peLoop fuel s ≠ .panic := by
  fun_induction peLoop fuel s
  case case1 | case2 => simp
  case case3 c right hr _ ih | case4 c right hr _ _ _ _ _ ih =>
    have hR : ∀ d ∈ c :: right, 1 ≤ d.rem := hr ▸ hinv.2
    exact ih ⟨cons_inv c _ (hR c List.mem_cons_self) hinv.1, fun d hd => hR d (List.mem_cons_of_mem _ hd)⟩
  case case5 c right hr _ _ _ _ _ ih =>
    have hR : ∀ d ∈ c :: right, 1 ≤ d.rem := hr ▸ hinv.2
    exact ih ⟨hinv.1, fun d hd => hR d (List.mem_cons_of_mem _ hd)⟩
  case case6 c right hr _ o rest hfo hp =>
    -- the opener found is in `left` and the closer in `right`: both still have text
    have ho := hinv.1 o (findOp_mem c _ _ o rest hfo).1
    have hc := hinv.2 c (hr ▸ List.mem_cons_self)
    have h1 : (o.rem == 0) = false := by simp; omega
    have h2 : (c.rem == 0) = false := by simp; omega
    simp [h1, h2] at hp
  case case7 c right hr _ o rest hfo _ _ _ ih =>
    have hR : ∀ d ∈ c :: right, 1 ≤ d.rem := hr ▸ hinv.2
    have hrest : ∀ d ∈ rest, 1 ≤ d.rem := fun d hd => hinv.1 d ((findOp_mem c _ _ o rest hfo).2 d hd)
    exact ih ⟨leftAfter_inv o _ rest hrest, fun d hd => hR d (List.mem_cons_of_mem _ hd)⟩
  case case8 c right hr _ o rest hfo _ _ hne ih =>
    have hR : ∀ d ∈ c :: right, 1 ≤ d.rem := hr ▸ hinv.2
    have hrest : ∀ d ∈ rest, 1 ≤ d.rem := fun d hd => hinv.1 d ((findOp_mem c _ _ o rest hfo).2 d hd)
    refine ih ⟨leftAfter_inv o _ rest hrest, cons_inv _ _ ?_ (fun d hd => hR d (List.mem_cons_of_mem _ hd))⟩
    have : ¬ (c.rem - useOf o c = 0) := by simpa using hne
    show 1 ≤ c.rem - useOf o c
    omega

/-- the tokenizer establishes `PEInv`: every delimiter run has length ≥ 1 -/
theorem tokStep_delims_pos (G : GoU) (st : Tok) (b : UInt8) (t : Bytes)
    (h : ∀ d ∈ st.delims, 1 ≤ d.rem) : ∀ d ∈ (tokStep G st b t).delims, 1 ≤ d.rem := by
  unfold tokStep
  split
  · rename_i hb
    intro d hd
    simp only [] at hd
    rcases List.mem_cons.mp hd with hd | hd
    · subst hd
      show 1 ≤ countWhile (fun x => x == b) (b :: t)
      simp [countWhile]
    · exact h d hd
  · split
    · exact h
    · exact h

theorem tokScan_delims_pos (G : GoU) : ∀ (s : Bytes) (st : Tok),
    (∀ d ∈ st.delims, 1 ≤ d.rem) → ∀ d ∈ (tokScan G st s).delims, 1 ≤ d.rem := by
  intro s
  induction s with
  | nil => intro st h; simpa [tokScan] using h
  | cons b t ih =>
    intro st h
    unfold tokScan
    split
    · exact ih _ h
    · exact ih _ (tokStep_delims_pos G st b t h)

end C35
