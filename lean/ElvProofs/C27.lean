/-
C27 — daemon activation yields one live daemon per socket.

Model: `ElvModel/C27/Model.lean` (interleaving semantics of `Activate` and `Serve` over the shared
socket path and database lock, any number of shells); the property: `ElvModel/C27/Spec.lean` (`Safe`).
At full strength it is FALSE for the code, also after fixes/C27-no-unlink-on-close.patch
(`C27_counterexample`); it is proved for the schedules that exclude the counterexample's class.
-/
import ElvProofs.C27.Inv
import ElvProofs.C27.Sched
import ElvProofs.C27.Cex
import ElvProofs.C27.AcceptSound
open C27

/-- C27 at full strength: every state of every interleaving is safe. -/
def C27_full : Prop := ∀ s, Reachable s → Safe s

/-- Concurrent activation over a stale socket breaks it: after the schedule
`cexA` two daemons serve the socket path (I1) and daemon 1 is orphaned on an
unlinked socket (I1own); after `cexB` shell 2's `Activate` has returned nil with
a client to daemon 2, which serves without the database (I2s, L); after `cexC`
daemon 1's exit has removed daemon 2's socket file (I4). -/
theorem C27_counterexample :
    (∃ s, Reachable s ∧ ¬ I1 s ∧ ¬ I1own s) ∧
    (∃ s, Reachable s ∧ ¬ I2s s ∧ ¬ L s) ∧
    (∃ s, Reachable s ∧ ¬ I4 s ∧ ¬ I1own s) ∧
    ¬ C27_full := by
  obtain ⟨sA, reachA, -, hA⟩ := run_eq cexA_facts
  obtain ⟨sB, reachB, -, hB⟩ := run_eq cexB_facts
  obtain ⟨sC, reachC, -, hC⟩ := run_eq cexC_facts
  have sockA : sA.sock = some 2 := congrArg Facts.sock hA
  have pc1A : (sA.dm 1).pc = .serving := congrArg Facts.pc1 hA
  have pc2A : (sA.dm 2).pc = .listened := congrArg Facts.pc2 hA
  have pc2B : (sB.dm 2).pc = .serving := congrArg Facts.pc2 hB
  have db2B : (sB.dm 2).hasDB = false := congrArg Facts.db2 hB
  have killed2B : (sB.dm 2).killed = false := congrArg Facts.killed2 hB
  have sh2B : sB.sh 2 = .done (.ok 2) := congrArg Facts.sh2 hB
  have sockC : sC.sock = none := congrArg Facts.sock hC
  have pc2C : (sC.dm 2).pc = .serving := congrArg Facts.pc2 hC
  have foreignC : sC.foreign = true := congrArg Facts.foreign hC
  have nI1 : ¬ I1 sA := fun h => by
    have := h 1 2 (by simp [pc1A, DPc.ownsPath]) (by simp [pc2A, DPc.ownsPath])
    omega
  have nOwnA : ¬ I1own sA := fun h => by
    have := h 1 (by simp [pc1A, DPc.ownsPath])
    simp [sockA] at this
  have nI2s : ¬ I2s sB := fun h => by
    have := h 2 (by simp [pc2B, DPc.answers])
    simp [db2B] at this
  have nL : ¬ L sB := fun h => by
    have := h 2 2 (.inl sh2B)
    simp [goodDaemon, db2B, killed2B] at this
  have nI4 : ¬ I4 sC := by simp [I4, foreignC]
  have nOwnC : ¬ I1own sC := fun h => by
    have := h 2 (by simp [pc2C, DPc.ownsPath])
    simp [sockC] at this
  exact ⟨⟨sA, reachA, nI1, nOwnA⟩, ⟨sB, reachB, nI2s, nL⟩, ⟨sC, reachC, nI4, nOwnC⟩,
    fun h => nI1 (h sA reachA).1⟩

/-- In the counterexample a shell removed a live daemon's socket file
(ghost flag `liveRm`): the schedule is outside the hypothesis of `C27_safe_partial`. -/
theorem C27_counterexample_class : ∃ s, run init cexA = some s ∧ s.liveRm = true := by
  obtain ⟨sA, -, rA, hA⟩ := run_eq cexA_facts
  exact ⟨sA, rA, congrArg Facts.liveRm hA⟩

/-- Schedules whose every `os.Remove(sockpath)` by a shell removes a genuinely
stale socket file (its creator is dead) are safe: I1–I4 and L hold in every state. -/
theorem C27_safe_atomic_removal (s : State) (h : ReachableG AtomicRemoval s) : Safe s :=
  safe_of_inv (inv_of_reachableG h)

example : ∃ s, ReachableG AtomicRemoval s ∧ s.sh 0 = .detected false .missing 0 :=
  ⟨_, .step (.step (.step .init (by intro k h; cases h) (l := .sh 0 .start) rfl)
        (by intro k h; cases h) (l := .sh 0 .begin) rfl) (by intro k h; cases h) (l := .sh 0 .lstat) rfl, rfl⟩

/-- Partial form of `C27_full`: every reachable state in whose history no shell removed the socket
file of a live daemon satisfies the whole property.  The missing part is the class of
`C27_counterexample` (finding `concurrent-activation-over-stale-socket`): `detectDaemon …
connectionRefused` and `os.Remove(sockpath)` are separate steps and the removal is by path. -/
theorem C27_safe_partial (s : State) (h : Reachable s) (hl : s.liveRm = false) : Safe s := by
  apply C27_safe_atomic_removal
  induction h with
  | init => exact .init
  | step hr hs ih => exact .step (ih (liveRm_step hs hl).1) (liveRm_step hs hl).2 hs

/-- non-vacuity: the stale-socket case with one activating shell (daemon 0 killed, shell 1 removes
the stale socket and ends connected to daemon 1, which holds the database) is inside the hypothesis. -/
example : ∃ s, Reachable s ∧ s.liveRm = false ∧ connectedTo s 1 1 ∧ (s.dm 0).pc = .dead .crashed ∧
    (s.dm 1).hasDB = true := by
  obtain ⟨s, reach, -, h⟩ := run_eq seqTrace_facts
  simp only [Prod.mk.injEq] at h
  exact ⟨s, reach, h.1, .inl h.2.1, h.2.2.1, h.2.2.2⟩

/-- The concurrent case under the hypothesis that stale-socket removal is not
concurrent with another activation (`Exclusive`: while a shell is between its
"connection refused" and its `os.Remove`, no other shell takes a step of
`Activate`; a shell enters that window only when no other shell is activating;
nobody dials inside a starting daemon's bind→listen window).  Daemons, exits,
SIGKILLs and SIGTERMs interleave freely. -/
theorem C27_safe_exclusive (s : State) (h : ReachableG Exclusive s) : Safe s :=
  safe_of_inv (invX_of_window (fun _ _ g => ⟨g.1, g.2.2⟩) h).toInv

/-- The single-shell case: any number of activations one after the other (a
shell starts `Activate` only when no other shell is inside it), with crashes of
shells and daemons, signals and exits at any time, and slow daemons left over
from earlier activations. -/
theorem C27_safe_sequential (s : State) (h : ReachableG Sequential s) : Safe s :=
  C27_safe_exclusive s (exclusive_of_reachable_sequential h).1

example : ∃ s, ReachableG Sequential s ∧ s.sh 0 = .spawn :=
  ⟨_, .step (.step (.step (.step .init
      ⟨(by intro k _ j; rfl), (by intro k h; cases h)⟩ (l := .sh 0 .start) rfl)
      ⟨(by intro k h; cases h), (by intro k h; cases h)⟩ (l := .sh 0 .begin) rfl)
      ⟨(by intro k h; cases h), (by intro k h; cases h)⟩ (l := .sh 0 .lstat) rfl)
      ⟨(by intro k h; cases h), (by intro k h; cases h)⟩ (l := .sh 0 .branch) rfl, rfl⟩

/-- Consequences in the property's own words, for safe states: at most one
daemon serves the socket and it is the one whose file is at the path; a shell
whose `Activate` returned nil is connected to a serving daemon that holds the
database (unless that daemon was signalled or killed), which cannot leave its
loop while the shell lives. -/
theorem C27_activation_outcome (s : State) (h : Safe s) (k d : Nat) (hk : s.sh k = .done (.ok d))
    (hd : (s.dm d).killed = false) :
    (s.dm d).pc = .serving ∧ (s.dm d).hasDB = true ∧ k ∈ (s.dm d).conns ∧ s.sock = some d ∧
      ∀ d', (s.dm d').pc.ownsPath = true → d' = d := by
  obtain ⟨h1, h1o, _, _, _, _, hL⟩ := h
  have hg := hL k d (Or.inl hk)
  simp only [goodDaemon, hd, Bool.false_eq_true, false_or] at hg
  have hown : (s.dm d).pc.ownsPath = true := by simp [hg.1, DPc.ownsPath]
  exact ⟨hg.1, hg.2.2, hg.2.1, h1o d hown, fun d' hd' => h1 d' d hd' hown⟩

/-- Every candidate state the driver's trace acceptor ever holds is reachable:
a log of real processes that the acceptor accepts entry by entry is an
execution of the model. -/
theorem C27_acceptor_sound (n : Nat) (es : List Entry) :
    ∀ c ∈ es.foldl (process n) [Cand.init n], Reachable c.s :=
  List.foldlRecOn (motive := AllReach) es (process n) (init_reach n) fun cs h e _ => process_reach n cs e h
