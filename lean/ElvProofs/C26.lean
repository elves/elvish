/-
C26 — concurrent clients of the storage daemon see a linearizable history.

In the model (ElvModel/C26/Model.lean) each service method is ONE atomic store operation; the order of
these commits is the witness.  The theorems about the model are generic in the sequential specification
`spec : σ → Op → σ × Out`; `C26.seqStep` from `C24.Store.fresh` is the one the real daemon is validated against.
-/
import ElvProofs.C26.Checker
import ElvProofs.C26.Retry
import ElvProofs.C26.Unique
import ElvProofs.C26.Trace
open C26 Go

/-- C26 (3), soundness of the checker: an order accepted by the executable function
`isLinearization` is a proof that the history is linearizable.  (The harness
searches a witness order for every recorded history of the real daemon —
untrusted —; the Lean driver validates it with this function.) -/
theorem C26_checker_sound {σ Op Out : Type} [DecidableEq Out] (step : σ → Op → σ × Out) (init : σ)
    (h : History Op Out) (order : List Nat) (hb : isLinearization step init h order = true) :
    Linearizable step init h :=
  let ⟨hw, S, _, hS⟩ := isLinearization_sound step init h order hb
  ⟨hw, S, hS⟩

/-- two overlapping AddCmd calls that took effect in the order opposite to their invocation,
then a listing: accepted in that order, rejected in the order of invocation -/
def C26_demoHist : History Op Out :=
  [.inv 0 (.cmd (.add [97])), .inv 1 (.cmd (.add [98])), .res 1 (.cmd (.seq (.ok 1))), .res 0 (.cmd (.seq (.ok 2))),
   .inv 2 (.cmd (.list 0 (-1))), .res 2 (.cmd (.cmds (.ok [⟨[98], 1⟩, ⟨[97], 2⟩])))]

set_option maxRecDepth 100000 in
example : isLinearization seqStep C24.Store.fresh C26_demoHist [1, 0, 2] = true ∧
    isLinearization seqStep C24.Store.fresh C26_demoHist [0, 1, 2] = false ∧
    isLinearization seqStep C24.Store.fresh C26_demoHist [1, 2, 0] = false := by decide +kernel

/-- C26 (1) on the model, for schedules in which clients only issue history operations
(`Label.noReset`: connections may die at any moment, nobody calls `ResetConn`/`Close` on a client in use) -/
def C26_full : Prop :=
  ∀ {σ Op Out : Type} (spec : σ → Op → σ × Out) (s0 : σ) (s : State σ Op Out),
    Reachable spec s0 Label.noReset s → Linearizable spec s0 s.hist

/-- C26 (1), the commit points are linearization points.  In every reachable state (any interleaving
of any number of clients, shared or not, any number of connection failures) the history the callers
have seen so far is well formed and the commit order `s.lin` — each operation where its service
method ran as one atomic store operation — is a linearization of it. -/
theorem C26_commit_order_is_linearization {σ Op Out : Type} (spec : σ → Op → σ × Out) (s0 : σ)
    (s : State σ Op Out) (hr : Reachable spec s0 Label.noReset s) :
    WellFormed s.hist ∧ Linearization spec s0 s.hist s.lin :=
  let h := inv_reachable hr
  ⟨h.W, h.L⟩

theorem C26_linearizable : C26_full := by
  intro σ Op Out spec s0 s hr
  obtain ⟨hw, hl⟩ := C26_commit_order_is_linearization spec s0 s hr
  exact ⟨hw, s.lin, hl⟩

/-- the statement of DESIGN §8 C26 (1): "no connection shutdown during the history" as the explicit hypothesis -/
theorem C26_linearizable_without_shutdown {σ Op Out : Type} (spec : σ → Op → σ × Out) (s0 : σ)
    (s : State σ Op Out) (hr : Reachable spec s0 Label.noShutdown s) : Linearizable spec s0 s.hist :=
  C26_linearizable spec s0 s (reachable_mono (by intro l hl; cases l <;> first | exact hl | trivial) hr)

/-- two clients, own connections, overlapping AddCmd calls committed in the order opposite
to their invocation, one connection then dies; no ResetConn -/
def C26_demoRun : List (Label Op) :=
  [.newClient, .newClient, .invoke 0 (.cmd (.add [97])), .invoke 1 (.cmd (.add [98])), .dial 0, .dial 1,
   .send 0, .send 1, .read 1, .read 0, .commit 1, .commit 0, .lock 0, .lock 1, .writeHdr 1, .serverClose 0,
   .writeHdr 0, .writeBody 0, .writeBody 1, .recv 1, .ret 1, .inputEOF 0, .retErr 0]

set_option maxRecDepth 100000 in
example : ∃ s, Reachable seqStep C24.Store.fresh Label.noReset s ∧
    s.hist = [.inv 0 (.cmd (.add [97])), .inv 1 (.cmd (.add [98])), .res 1 (.cmd (.seq (.ok 1)))] ∧
    s.lin.map (·.1) = [1, 0] := by
  have h : (run seqStep (State.init C24.Store.fresh) C26_demoRun).map (fun s => (s.hist, s.lin.map (·.1))) =
      some ([.inv 0 (.cmd (.add [97])), .inv 1 (.cmd (.add [98])), .res 1 (.cmd (.seq (.ok 1)))], [1, 0]) := by
    decide +kernel
  obtain ⟨s, hs, he⟩ := Option.map_eq_some_iff.1 h
  simp only [Prod.mk.injEq] at he
  exact ⟨s, reachable_run seqStep _ _ C26_demoRun _ s .init (by decide) hs, he.1, he.2⟩

/-- "No added command is lost or duplicated", on the model: every operation
whose caller got a reply took effect EXACTLY once (one entry in the commit
order, with that reply), and no operation took effect twice. -/
theorem C26_effect_exactly_once {σ Op Out : Type} (spec : σ → Op → σ × Out) (s0 : σ) (s : State σ Op Out)
    (hr : Reachable spec s0 Label.noReset s) :
    (s.lin.map (·.1)).Nodup ∧
    ∀ id out, Event.res id out ∈ s.hist →
      ∃ op, (id, op, out) ∈ s.lin ∧ ∀ op' out', (id, op', out') ∈ s.lin → op' = op ∧ out' = out := by
  obtain ⟨_, hl⟩ := C26_commit_order_is_linearization spec s0 s hr
  refine ⟨hl.nodup, ?_⟩
  intro id out hm
  obtain ⟨op, ho⟩ := hl.complete id out hm
  refine ⟨op, ho, ?_⟩
  intro op' out' ho'
  exact Prod.mk.inj (eq_of_nodup_map_fst hl.nodup ho' ho)

/-- "Sequence numbers are unique across all clients": in any history that is
linearizable with respect to the store of C24, two different AddCmd calls that
returned got different numbers (and the one that returned first in real
time, if any, the smaller one — see `C24_seq_strictly_increasing_never_reused`).
Hypothesis: fewer than 2^63 operations (the uint64 sequence stays inside `int`). -/
theorem C26_unique_sequence_numbers (h : History Op Out) (S : List (Nat × Op × Out))
    (hS : Linearization seqStep C24.Store.fresh h S) (hlen : S.length + 1 < C24.two63)
    (a b : Nat) (n m : Int) (hab : a ≠ b)
    (ha : Event.res a (.cmd (.seq (.ok n))) ∈ h) (hb : Event.res b (.cmd (.seq (.ok m))) ∈ h) : n ≠ m := by
  obtain ⟨opa, hma⟩ := hS.complete a _ ha
  obtain ⟨opb, hmb⟩ := hS.complete b _ hb
  have hinc := issued_increasing (S.map (·.2.1)) (by simpa using hlen)
  rw [hS.legal] at hinc
  have hne : (a, opa, Out.cmd (.seq (.ok n))) ≠ (b, opb, Out.cmd (.seq (.ok m))) := by
    intro he
    exact hab (Prod.mk.inj he).1
  rcases split_two hma hmb hne with ⟨_, _, _, hl⟩ | ⟨_, _, _, hl⟩
  · exact Int.ne_of_lt (seq_lt_of_earlier hinc hl)
  · exact (Int.ne_of_lt (seq_lt_of_earlier hinc hl)).symm

set_option maxRecDepth 100000 in
example : ∃ S, Linearization seqStep C24.Store.fresh C26_demoHist S ∧ S.length + 1 < C24.two63 := by
  obtain ⟨_, S, h1, hS⟩ := isLinearization_sound seqStep C24.Store.fresh C26_demoHist [1, 0, 2] (by decide +kernel)
  have hlen : S.length = 3 := by simpa using congrArg List.length h1
  exact ⟨S, hS, by rw [hlen]; decide⟩

/-- C26 (2), the retry path is at-least-once.  A run of the model WITH a concurrent `ResetConn`
(`clientReset`): the daemon commits an AddCmd, the connection dies before the reply is written, the
pending call fails with `ErrShutdown` (EOF ∧ `closing`), `client.call` re-sends it on a new
connection and the daemon commits it again: one invocation (id 0) occurs twice in the commit order,
the caller is told 2, a listing shows the text under 1 and 2 — and that history is not linearizable. -/
theorem C26_retry_duplicates_add :
    ∃ s, Reachable seqStep C24.Store.fresh (fun _ => True) s ∧ s.hist = retryHist ∧
      s.lin.map (·.1) = [0, 0, 1] ∧ ¬ Linearizable seqStep C24.Store.fresh s.hist := by
  obtain ⟨s, hs, he⟩ := Option.map_eq_some_iff.1 retryRun_result
  simp only [Prod.mk.injEq] at he
  refine ⟨s, reachable_run seqStep _ _ retryRun _ s .init (fun _ _ => trivial) hs, he.1, he.2, ?_⟩
  rw [he.1]
  exact retryHist_not_linearizable

/-- The hypothesis `Label.noReset` of `C26_linearizable` cannot be dropped: over ALL schedules of
the model (including `ResetConn` racing with a dying connection) the property fails.  The validation
runs (notes/C26.md) drive the real client there only by calling `ResetConn` on a client that has
calls in flight, which no code path of elvish does. -/
theorem C26_not_linearizable_under_reset :
    ¬ ∀ s, Reachable seqStep C24.Store.fresh (fun _ => True) s → Linearizable seqStep C24.Store.fresh s.hist := by
  intro hall
  obtain ⟨s, hr, _, _, hn⟩ := C26_retry_duplicates_add
  exact hn (hall s hr)

/-- Trace refinement, soundness of the acceptor.  The hook (hooks/C26-daemon-trace.patch) records
one entry per hook point in the real `daemon.client`, `rpc.Client`, `rpc.Server` and the daemon's
accept loop.  `acceptAll` (ElvModel/C26/Trace.lean) interprets every entry as ONE label of the LTS,
runs the model's `step`, and compares what the real code reported with what the model computes.
If it accepts, the recorded trace is a run of the model without `clientReset`: the final acceptor
state is reachable. -/
theorem C26_acceptor_sound {σ Op Out : Type} [DecidableEq Op] [DecidableEq Out]
    (spec : σ → Op → σ × Out) (s0 : σ) (es : List (Entry Op Out)) (a : AState σ Op Out)
    (h : acceptAll spec s0 es = .ok a) : Reachable spec s0 Label.noReset a.s :=
  acceptFrom_reachable es (AState.init s0) a 0 .init h

/-- The history of invocations and responses inside an accepted trace (the `invoke` and `ret`
entries, i.e. what the callers of `client.call` saw) is linearizable, with the recorded commit
order as the witness. -/
theorem C26_accepted_trace_linearizable {σ Op Out : Type} [DecidableEq Op] [DecidableEq Out]
    (spec : σ → Op → σ × Out) (s0 : σ) (es : List (Entry Op Out)) (a : AState σ Op Out)
    (h : acceptAll spec s0 es = .ok a) :
    WellFormed a.s.hist ∧ Linearization spec s0 a.s.hist a.s.lin :=
  C26_commit_order_is_linearization spec s0 a.s (C26_acceptor_sound spec s0 es a h)

/-- a recorded trace of the shape the hook produces: two clients with their own
connections, overlapping AddCmd calls that the daemon commits in the order
opposite to their invocation -/
def C26_demoTrace : List (Entry Op Out) :=
  [.newClient 0, .invoke 0 0 (.cmd (.add [97])), .newClient 1, .invoke 1 1 (.cmd (.add [98])),
   .dial 0 0, .send 0 0 0, .dial 1 1, .send 1 1 0,
   .read 1 0 (.cmd (.add [98])), .read 0 0 (.cmd (.add [97])),
   .commit 1 0 (.cmd (.seq (.ok 1))), .commit 0 0 (.cmd (.seq (.ok 2))),
   .lock 0 0, .writeHdr 0 0, .writeBody 0 0, .lock 1 0, .writeHdr 1 0, .writeBody 1 0,
   .recv 1 0, .ret 1 (.cmd (.seq (.ok 1))), .recv 0 0, .ret 0 (.cmd (.seq (.ok 2)))]

/-- the same, but the daemon claims to have given number 1 to both -/
def C26_badTrace : List (Entry Op Out) :=
  [.newClient 0, .invoke 0 0 (.cmd (.add [97])), .newClient 1, .invoke 1 1 (.cmd (.add [98])),
   .dial 0 0, .send 0 0 0, .dial 1 1, .send 1 1 0,
   .read 1 0 (.cmd (.add [98])), .read 0 0 (.cmd (.add [97])),
   .commit 1 0 (.cmd (.seq (.ok 1))), .commit 0 0 (.cmd (.seq (.ok 1)))]

def C26_verdict (es : List (Entry Op Out)) : Option (Nat × String) :=
  match acceptAll seqStep C24.Store.fresh es with
  | .ok _ => none
  | .error w => some w

-- Non-vacuity: the first trace is accepted; the second is rejected at entry 11, the second commit.
set_option maxRecDepth 100000 in
example : C26_verdict C26_demoTrace = none ∧
    C26_verdict C26_badTrace =
      some (11, "the reply of the service method is not the reply of the sequential specification") := by
  decide +kernel
