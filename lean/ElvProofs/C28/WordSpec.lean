/-
The word motions land on the nearest word start: what they skip is a run of one category
followed by a run of whitespace, and no word starts strictly inside such a stretch.
-/
import ElvProofs.C28.Movers
namespace C28
open Go

/-- `WordStart` on runes, at the split `P | S`; category 0 is whitespace -/
def WordStartR (cat : Categorizer) (P S : List Nat) : Prop :=
  ∃ x ∈ S.head?, cat x ≠ 0 ∧ ∀ y ∈ P.getLast?, cat y ≠ cat x

theorem runeAt_zip (P S' : List Nat) (x : Nat) (hx : validRune x = true) :
    runeAt (enc (P ++ x :: S')) (enc P).length = x := by
  unfold runeAt
  rw [enc_append, List.drop_left' rfl, enc_cons, decodeRune_encodeRune_append x hx]

theorem runeBefore_zip (P' S : List Nat) (y : Nat) (hy : validRune y = true) :
    runeBefore (enc ((P' ++ [y]) ++ S)) (enc (P' ++ [y])).length = y := by
  unfold runeBefore
  rw [enc_append (P' ++ [y]) S, List.take_left' rfl, enc_append, enc_singleton,
    decodeLastRune_append_encodeRune hy _]

theorem wordStart_iff (cat : Categorizer) (P S : List Nat) (hP : VR P) (hS : VR S) :
    WordStart cat (enc (P ++ S)) (enc P).length ↔ WordStartR cat P S := by
  unfold WordStart WordStartR
  cases S with
  | nil => simp
  | cons x S' =>
    have hlen : (enc P).length < (enc (P ++ x :: S')).length := by
      have := blen_lt_of_append P (x :: S') (by simp); simp only [blen] at this; omega
    rw [runeAt_zip P S' x (hS x (by simp))]
    rcases List.eq_nil_or_concat P with rfl | ⟨P', y, rfl⟩
    · constructor
      · rintro ⟨-, h1, -⟩; exact ⟨x, by simp, h1, by simp⟩
      · rintro ⟨x', hx', h1, -⟩
        obtain rfl : x = x' := by simpa using hx'
        exact ⟨hlen, h1, Or.inl rfl⟩
    · rw [List.concat_eq_append] at hlen hP ⊢
      have hpos : (enc (P' ++ [y])).length ≠ 0 := by
        have := blen_pos y []; simp only [blen, enc_append, List.length_append] at this ⊢; omega
      rw [runeBefore_zip P' (x :: S') y (hP y (by simp))]
      constructor
      · rintro ⟨-, h1, h2⟩
        refine ⟨x, by simp, h1, fun z hz => ?_⟩
        obtain rfl : y = z := by simpa using hz
        exact h2.resolve_left hpos
      · rintro ⟨x', hx', h1, h2⟩
        obtain rfl : x = x' := by simpa using hx'
        exact ⟨hlen, h1, Or.inr (h2 y (by simp))⟩

theorem adjacent_in_append (W S X' Y' : List Nat) (y x' : Nat) (h : W ++ S = X' ++ y :: x' :: Y') :
    (y ∈ W ∧ x' ∈ W) ∨ x' ∈ S := by
  rcases List.append_eq_append_iff.1 h with ⟨as, -, hS⟩ | ⟨bs, hW, hS⟩
  · right; rw [hS]; simp
  · match bs, hW, hS with
    | [], _, hS => right; rw [← List.nil_append S, ← hS]; simp
    | [b], _, hS => right; simp at hS; rw [← hS.2]; simp
    | b :: b' :: bs', hW, hS =>
      simp at hS
      left; rw [hW, hS.1, hS.2.1]; simp

theorem no_start_inside (cat : Categorizer) (c : Nat) (W S X Y P R : List Nat)
    (hW : Run cat c W) (hS : Run cat 0 S) (hM : W ++ S = X ++ Y)
    (hX : X ≠ []) (hY : Y ≠ []) : ¬ WordStartR cat (P ++ X) (Y ++ R) := by
  obtain ⟨X', y, rfl⟩ : ∃ X' y, X = X' ++ [y] := by
    rcases List.eq_nil_or_concat X with h | ⟨X', y, h⟩
    · exact absurd h hX
    · exact ⟨X', y, by rw [h]; simp⟩
  cases Y with
  | nil => exact absurd rfl hY
  | cons x' Y' =>
    rintro ⟨x, hx, h1, h2⟩
    obtain rfl : x' = x := by simpa using hx
    have h2 : cat y ≠ cat x' := h2 y (by simp)
    rcases adjacent_in_append W S X' Y' y x' (by rw [hM]; simp) with ⟨hy, hx⟩ | hx
    · exact h2 (by rw [hW y hy, hW x' hx])
    · exact h1 (hS x' hx)

theorem wordStartR_after (cat : Categorizer) (A W : List Nat) (y : Nat) (t : List Nat) (hy : cat y ≠ 0)
    (hW : Run cat 0 W) (hA : W = [] → ∀ z ∈ A.getLast?, cat z ≠ cat y) :
    WordStartR cat (A ++ W) (y :: t) := by
  refine ⟨y, by simp, hy, ?_⟩
  rcases List.eq_nil_or_concat W with rfl | ⟨W1, w, rfl⟩
  · rw [List.append_nil]; exact hA rfl
  · intro z hz
    obtain rfl : w = z := by simpa using hz
    rw [hW w (by simp)]; exact fun e => hy e.symm

/-- `moveDotLeftGeneralWord` goes back over whitespace `S` and then over a run `W` of one category,
to a word start -/
theorem wordLeft_zip (cat : Categorizer) (L R : List Nat) (hL : VR L) :
    ∃ L' W S c, L = L' ++ W ++ S ∧ Run cat c W ∧ Run cat 0 S ∧ (L ≠ [] → W ++ S ≠ []) ∧
      (L' = [] ∨ WordStartR cat L' (W ++ S ++ R)) ∧
      moveDotLeftGeneralWord cat (enc (L ++ R)) (blen L) = .ok (blen L') := by
  unfold moveDotLeftGeneralWord skipWsLeft
  obtain ⟨K, S, rfl, hS, hK, h1⟩ := skipCatLeft_spec cat 0 (T := L ++ R) rfl hL
  obtain ⟨L', W, c, rfl, hW, hL', hc, hne, h2⟩ :=
    skipSameCatLeft_spec cat (T := K ++ S ++ R) (S := S ++ R) (List.append_assoc ..) hL.left
  rw [h1, ok_bind, h2]
  have empty : W = [] → L' ++ W = [] := fun h => Classical.byContradiction fun h' => hne h' h
  refine ⟨L', W, S, c, rfl, hW, hS, ?_, ?_, rfl⟩
  · intro h hnil
    obtain ⟨rfl, rfl⟩ := List.append_eq_nil_iff.1 hnil
    exact h (by simpa using empty rfl)
  · cases W with
    | nil => left; simpa using empty rfl
    | cons w W' =>
      right
      have hw : cat w = c := hW w (by simp)
      refine ⟨w, by simp, ?_, fun y hy => by rw [hw]; exact hL' y hy⟩
      -- the run ends in the rune before the whitespace, which is not whitespace
      rw [hw]; intro h0
      obtain ⟨K0, x, hx⟩ := (List.eq_nil_or_concat (L' ++ w :: W')).resolve_left (by simp)
      rw [List.concat_eq_append] at hx
      exact hK x (by rw [hx]; simp) (by rw [hc x (by rw [hx]; simp), h0])

/-- `moveDotRightGeneralWord` goes over whitespace, or over a run `C` of one category and the
whitespace `W` after it, to a word start -/
theorem wordRight_zip (cat : Categorizer) (L R : List Nat) (hR : VR R) :
    ∃ C W R' c, R = C ++ W ++ R' ∧ Run cat c C ∧ Run cat 0 W ∧ (R ≠ [] → C ++ W ≠ []) ∧
      (R' = [] ∨ WordStartR cat (L ++ C ++ W) R') ∧
      moveDotRightGeneralWord cat (enc (L ++ R)) (blen L) = .ok (blen (L ++ C ++ W)) := by
  unfold moveDotRightGeneralWord skipWsRight
  obtain ⟨W0, R1, rfl, hW0, hR1, h1⟩ := skipCatRight_spec cat 0 (T := L ++ R) rfl hR
  rw [h1, ok_bind]
  -- the rune after a stretch that ends in whitespace, or in a run it does not belong to, starts a word
  have start : ∀ (A W R' : List Nat), Run cat 0 W → (∀ y ∈ R'.head?, cat y ≠ 0) →
      (W = [] → ∀ y ∈ R'.head?, ∀ z ∈ A.getLast?, cat z ≠ cat y) → R' = [] ∨ WordStartR cat (A ++ W) R' := by
    intro A W R' hW hy hA
    cases R' with
    | nil => exact Or.inl rfl
    | cons y t => exact Or.inr (wordStartR_after cat A W y t (hy y rfl) hW fun h => hA h y rfl)
  by_cases hW : W0 = []
  · -- the dot is at a word (or at the end): over the word `C`, then over the whitespace after it
    subst hW
    rw [List.nil_append] at hR ⊢
    obtain ⟨C, R2, c, rfl, hC, hR2, hc, hne, h2⟩ := skipSameCatRight_spec cat (T := L ++ R1) rfl hR
    obtain ⟨W, R', rfl, hW, hR', h3⟩ := skipCatRight_spec cat 0 (T := L ++ (C ++ R2)) (P := L ++ C)
      (List.append_assoc ..).symm hR.right
    rw [List.append_nil, if_neg (Int.lt_irrefl _), h2, ok_bind, h3]
    refine ⟨C, W, R', c, by simp, hC, hW, fun h hnil => hne h (List.append_eq_nil_iff.1 hnil).1, ?_, rfl⟩
    refine start (L ++ C) W R' hW hR' fun hnil y hy z hz => ?_
    -- no whitespace in between: `y` is the first rune not in the category of the run `C`
    subst hnil
    cases C with
    | nil => exact absurd rfl (hne (by rintro h; simp at h; subst h; simp at hy))
    | cons x C' =>
      have : z ∈ (x :: C').getLast? := by simpa [List.getLast?_append] using hz
      rw [hC z (List.mem_of_getLast? this)]
      exact fun e => hR2 y (by simpa using hy) e.symm
  · -- the dot is in whitespace
    rw [if_pos (blen_lt_of_append L _ hW)]
    refine ⟨[], W0, R1, 0, by simp, by simp [Run], hW0, fun _ => by simpa using hW, ?_, by simp⟩
    rw [List.append_nil]
    exact start L W0 R1 hW0 hR1 fun h => absurd h hW

theorem prefix_of_blen_le (P S Q U : List Nat) (h : P ++ S = Q ++ U) (hle : blen P ≤ blen Q) :
    ∃ X, Q = P ++ X := by
  rcases List.append_eq_append_iff.1 h with ⟨as, hQ, -⟩ | ⟨bs, hP, -⟩
  · exact ⟨as, hQ⟩
  · have : bs = [] := Classical.byContradiction fun hne => by
      have := blen_lt_of_append Q bs hne; rw [← hP] at this; omega
    exact ⟨[], by rw [hP, this]; simp⟩

theorem split_between (K M R P' S' : List Nat) (h : K ++ M ++ R = P' ++ S')
    (h1 : blen K < blen P') (h2 : blen P' < blen (K ++ M)) :
    ∃ X Y, P' = K ++ X ∧ M = X ++ Y ∧ S' = Y ++ R ∧ X ≠ [] ∧ Y ≠ [] := by
  obtain ⟨X, hX⟩ := prefix_of_blen_le K (M ++ R) P' S' (by rw [← List.append_assoc]; exact h) (by omega)
  obtain ⟨Y, hY⟩ := prefix_of_blen_le P' S' (K ++ M) R h.symm (by omega)
  rw [hX, List.append_assoc] at hY
  have hM : M = X ++ Y := List.append_cancel_left hY
  refine ⟨X, Y, hX, hM, ?_, ?_, ?_⟩
  · rw [hX, hM] at h
    have : K ++ (X ++ Y) ++ R = (K ++ X) ++ (Y ++ R) := by simp
    rw [this] at h
    exact (List.append_cancel_left h).symm
  · rintro rfl; rw [hX] at h1; simp at h1
  · rintro rfl; rw [hM, hX] at h2; simp at h2

theorem no_wordStart_between (cat : Categorizer) (c : Nat) (K W S R : List Nat) (hv : VR (K ++ (W ++ S) ++ R))
    (hW : Run cat c W) (hS : Run cat 0 S) (p : Int)
    (hp : Boundary (enc (K ++ (W ++ S) ++ R)) p) (h1 : blen K < p) (h2 : p < blen (K ++ (W ++ S))) :
    ¬ WordStart cat (enc (K ++ (W ++ S) ++ R)) p.toNat := by
  obtain ⟨P', S', hPS, rfl⟩ := boundary_split _ hv p hp
  obtain ⟨X, Y, hX, hM, hS', hXne, hYne⟩ := split_between K (W ++ S) R P' S' hPS h1 h2
  have hv' : VR (P' ++ S') := by rw [← hPS]; exact hv
  rw [hPS, show (blen P').toNat = (enc P').length from Int.toNat_natCast _,
    wordStart_iff cat P' S' hv'.left hv'.right, hX, hS']
  exact no_start_inside cat c W S X Y _ R hW hS hM hXne hYne

theorem wordLeft_spec (cat : Categorizer) (buf : Bytes) (dot : Int) (h : Boundary buf dot) :
    ∃ d', moveDotLeftGeneralWord cat buf dot = .ok d' ∧ 0 ≤ d' ∧ d' ≤ dot ∧ (0 < dot → d' < dot) ∧
      (d' = 0 ∨ WordStart cat buf d'.toNat) ∧
      (∀ p : Int, Boundary buf p → d' < p → p < dot → ¬ WordStart cat buf p.toNat) := by
  obtain ⟨L, R, hL, hR, rfl, rfl⟩ := h.zipper
  obtain ⟨L', W, S, c, hsplit, hW, hS, hne, hstart, hm⟩ := wordLeft_zip cat L R hL
  have hT : L ++ R = L' ++ (W ++ S) ++ R := by
    conv => lhs; rw [hsplit, List.append_assoc L']
  have hv : VR (L' ++ (W ++ S) ++ R) := by rw [← hT]; exact hL.append hR
  have hlen : blen L = blen L' + blen (W ++ S) := by
    conv => lhs; rw [hsplit, List.append_assoc, blen_append]
  rw [← enc_append]
  refine ⟨blen L', hm, Int.natCast_nonneg _, ?_, ?_, ?_, ?_⟩
  · have := Int.natCast_nonneg (enc (W ++ S)).length; simp only [blen] at hlen ⊢; omega
  · intro hpos
    have := blen_lt_of_append L' (W ++ S) (hne (by rintro rfl; simp at hpos))
    rw [blen_append] at this; simp only [blen] at this hlen ⊢; omega
  · rcases hstart with h0 | hws
    · left; rw [h0]; rfl
    · right
      rw [hT, List.append_assoc, show (blen L').toNat = (enc L').length from Int.toNat_natCast _]
      rw [List.append_assoc] at hv
      exact (wordStart_iff cat _ _ hv.left hv.right).mpr hws
  · intro p hp h1 h2
    rw [hT] at hp ⊢
    exact no_wordStart_between cat c _ W S R hv hW hS p hp h1 (by
      rw [blen_append]; simp only [blen] at h2 hlen ⊢; omega)

theorem wordRight_spec (cat : Categorizer) (buf : Bytes) (dot : Int) (h : Boundary buf dot) :
    ∃ d', moveDotRightGeneralWord cat buf dot = .ok d' ∧ dot ≤ d' ∧ d' ≤ buf.length ∧
      (dot < buf.length → dot < d') ∧
      (d' = buf.length ∨ WordStart cat buf d'.toNat) ∧
      (∀ p : Int, Boundary buf p → dot < p → p < d' → ¬ WordStart cat buf p.toNat) := by
  obtain ⟨L, R, hL, hR, rfl, rfl⟩ := h.zipper
  obtain ⟨C, W, R', c, hsplit, hC, hW, hne, hstart, hm⟩ := wordRight_zip cat L R hR
  have hT : L ++ R = L ++ (C ++ W) ++ R' := by rw [hsplit]; simp only [List.append_assoc]
  have hv : VR (L ++ (C ++ W) ++ R') := by rw [← hT]; exact hL.append hR
  have hd : blen (L ++ C ++ W) = blen L + blen (C ++ W) := by rw [List.append_assoc, blen_append]
  have htot : ((enc L ++ enc R).length : Int) = blen L + blen (C ++ W) + blen R' := by
    rw [← enc_append, hT, ← blen_append, ← blen_append]
  rw [← enc_append]
  refine ⟨blen (L ++ C ++ W), hm, ?_, ?_, ?_, ?_, ?_⟩
  · have := Int.natCast_nonneg (enc (C ++ W)).length; simp only [blen] at hd ⊢; omega
  · have := Int.natCast_nonneg (enc R').length; rw [enc_append, htot, hd]; simp only [blen]; omega
  · intro hlt
    have := blen_lt_of_append L (C ++ W) (hne (by rintro rfl; simp at hlt))
    rw [hd]; rw [blen_append] at this; exact this
  · rcases hstart with h0 | hws
    · left; rw [enc_append, htot, hd, h0]; simp [blen]
    · right
      rw [hT, ← List.append_assoc L C W,
        show (blen (L ++ C ++ W)).toNat = (enc (L ++ C ++ W)).length from Int.toNat_natCast _]
      rw [← List.append_assoc L C W] at hv
      exact (wordStart_iff cat _ _ hv.left hv.right).mpr hws
  · intro p hp h1 h2
    rw [hT] at hp ⊢
    exact no_wordStart_between cat c L C W R' hv hC hW p hp h1 (by rw [← List.append_assoc]; exact h2)

end C28
