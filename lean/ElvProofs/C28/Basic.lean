/-
`Go.slice` on concatenations and on encoded rune lists; the zipper view of a buffer with its dot
on a boundary: `buf = enc L ++ enc R`, `dot = blen L`.
-/
import ElvModel.C28.Spec
import ElvProofs.C28.Runes
import ElvProofs.Lemmas.Res
namespace C28
open Go

@[simp] theorem pure_eq_ok {α} (a : α) : (pure a : Res α) = .ok a := Res.pure_eq_ok a
@[simp] theorem ok_bind {α β} (a : α) (f : α → Res β) : (Res.ok a >>= f) = f a := Res.ok_bind a f
@[simp] theorem panic_bind {α β} (w : String) (f : α → Res β) : (Res.panic w >>= f) = .panic w := Res.panic_bind w f
@[simp] theorem exc_bind {α β} (e : String) (f : α → Res β) : (Res.exc e >>= f) = .exc e := Res.exc_bind e f

theorem slice_all {α} (a : List α) : slice a 0 (a.length : Int) = .ok a :=
  slice_prefix (List.append_nil a).symm rfl

abbrev blen (rs : List Nat) : Int := ((enc rs).length : Int)

theorem blen_nil : blen [] = 0 := rfl

theorem blen_append (a b : List Nat) : blen (a ++ b) = blen a + blen b := by
  simp only [blen, enc_append, List.length_append, Int.natCast_add]

theorem blen_pos (r : Nat) (rs : List Nat) : 0 < blen (r :: rs) := by
  have := encodeRune_length_pos r
  simp only [blen, enc_cons, List.length_append]; omega

theorem blen_inj_nil {P : List Nat} : blen P = 0 ↔ P = [] := by
  cases P with
  | nil => simp
  | cons r rs => have := blen_pos r rs; exact ⟨fun h => by omega, fun h => nomatch h⟩

theorem blen_lt_of_append (P S : List Nat) (h : S ≠ []) : blen P < blen (P ++ S) := by
  cases S with
  | nil => exact absurd rfl h
  | cons x t => have := blen_pos x t; rw [blen_append]; omega

theorem slice_enc_left {T A S : List Nat} (hT : T = A ++ S) : slice (enc T) 0 (blen A) = .ok (enc A) :=
  slice_prefix (by rw [hT, enc_append]) rfl

theorem slice_enc_right {T P S : List Nat} (hT : T = P ++ S) :
    slice (enc T) (blen P) ((enc T).length : Int) = .ok (enc S) :=
  slice_suffix (by rw [hT, enc_append]) rfl rfl

theorem slice_enc_mid {T A B C : List Nat} (hT : T = A ++ B ++ C) :
    slice (enc T) (blen A) (blen (A ++ B)) = .ok (enc B) :=
  slice_of_append (by rw [hT, enc_append, enc_append]) rfl (by rw [blen_append])

theorem boundary_concat (a b : Bytes) (ha : validUtf8 a = true) (hb : validUtf8 b = true) :
    Boundary (a ++ b) (a.length : Int) := by
  refine ⟨by omega, by simp only [List.length_append]; omega, ?_, ?_⟩
  · rw [Int.toNat_natCast, List.take_left' rfl]; exact ha
  · rw [Int.toNat_natCast, List.drop_left' rfl]; exact hb

theorem Boundary.zipper {buf : Bytes} {dot : Int} (h : Boundary buf dot) :
    ∃ L R, VR L ∧ VR R ∧ buf = enc L ++ enc R ∧ dot = ((enc L).length : Int) := by
  obtain ⟨h0, h1, hl, hr⟩ := h
  obtain ⟨L, hL, eL⟩ := valid_exists_runes _ hl
  obtain ⟨R, hR, eR⟩ := valid_exists_runes _ hr
  refine ⟨L, R, hL, hR, ?_, ?_⟩
  · rw [← eL, ← eR, List.take_append_drop]
  · rw [← eL, List.length_take]; omega

theorem Boundary.valid {buf : Bytes} {dot : Int} (h : Boundary buf dot) : validUtf8 buf = true := by
  obtain ⟨L, R, -, -, rfl, -⟩ := h.zipper
  rw [← enc_append]; exact validUtf8_enc _

theorem Boundary.slices {buf : Bytes} {dot : Int} (h : Boundary buf dot) :
    slice buf 0 dot = .ok (buf.take dot.toNat) ∧ slice buf dot buf.length = .ok (buf.drop dot.toNat) :=
  ⟨slice_take buf h.1 h.2.1, slice_drop buf h.1 h.2.1⟩

theorem boundary_split (T : List Nat) (hT : VR T) (p : Int) (h : Boundary (enc T) p) :
    ∃ P S, T = P ++ S ∧ p = blen P := by
  obtain ⟨P, S, hP, hS, he, hp⟩ := h.zipper
  rw [← enc_append] at he
  exact ⟨P, S, enc_injective hT (hP.append hS) he, hp⟩

theorem boundary_enc {T P S : List Nat} (hT : T = P ++ S) : Boundary (enc T) (blen P) := by
  subst hT; rw [enc_append]; exact boundary_concat _ _ (validUtf8_enc P) (validUtf8_enc S)

theorem boundary_cut (buf : Bytes) (lo hi : Int) (hlo : Boundary buf lo) (hhi : Boundary buf hi) :
    Boundary (buf.take lo.toNat ++ buf.drop hi.toNat) lo := by
  have hlen : ((buf.take lo.toNat).length : Int) = lo := by
    have := hlo.1; have := hlo.2.1; rw [List.length_take]; omega
  have := boundary_concat _ _ hlo.2.2.1 hhi.2.2.2
  rwa [hlen] at this

theorem boundary_iff_runeStart (buf : Bytes) (dot : Int) :
    Boundary buf dot ↔
      validUtf8 buf = true ∧ 0 ≤ dot ∧ dot ≤ buf.length ∧
        (dot = buf.length ∨ ∃ b, buf[dot.toNat]? = some b ∧ runeStart b = true) := by
  constructor
  · intro h
    refine ⟨h.valid, h.1, h.2.1, ?_⟩
    obtain ⟨L, R, -, -, rfl, rfl⟩ := h.zipper
    cases hR' : enc R with
    | nil => left; simp
    | cons b t =>
      right
      refine ⟨b, ?_, enc_head_runeStart R b t hR'⟩
      rw [Int.toNat_natCast, List.getElem?_append_right (Nat.le_refl _), Nat.sub_self]; rfl
  · rintro ⟨hv, h0, h1, h2⟩
    obtain ⟨T, -, rfl⟩ := valid_exists_runes buf hv
    obtain ⟨P, S, hPS, hd⟩ := split_of_runeStart T dot.toNat (by omega) (by
      rcases h2 with h2 | h2
      · left; omega
      · right; exact h2)
    rw [show dot = blen P by simp only [blen]; omega]
    exact boundary_enc hPS

end C28
