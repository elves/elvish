/-
`transposeRunes`: the two runes around the dot (the first two at the start of the buffer, the
last two at its end) change places.  Stated on bytes: whatever surrounds the two encoded runes.
-/
import ElvProofs.C28.MoverSpec
namespace C28
open Go

theorem tr_start (eZ : Bytes) {r1 r2 : Nat} (h1 : validRune r1 = true) (h2 : validRune r2 = true) :
    transposeRunes (encodeRune r1 ++ (encodeRune r2 ++ eZ)) 0 =
      .ok (encodeRune r2 ++ (encodeRune r1 ++ eZ), (((encodeRune r2).length + (encodeRune r1).length : Nat) : Int)) := by
  have l1 := encodeRune_length_pos r1
  have l2 := encodeRune_length_pos r2
  have hd1 := decodeRune_encodeRune_append r1 h1 (encodeRune r2 ++ eZ)
  generalize hs : encodeRune r1 ++ (encodeRune r2 ++ eZ) = s at hd1 ⊢
  have hlen : s.length = (encodeRune r1).length + (encodeRune r2).length + eZ.length := by
    rw [← hs]; simp only [List.length_append]; omega
  have hs2 : s = (encodeRune r1 ++ encodeRune r2) ++ eZ := by rw [← hs, List.append_assoc]
  unfold transposeRunes
  rw [if_neg (by omega), if_pos rfl, hd1]
  simp only []
  rw [if_neg (by omega), slice_suffix hs.symm rfl rfl, ok_bind, decodeRune_encodeRune_append r2 h2]
  simp only []
  rw [slice_suffix hs2 (by rw [List.length_append]; omega) rfl, ok_bind, pure_eq_ok, List.append_assoc,
    show (((encodeRune r1).length : Nat) : Int) + ((encodeRune r2).length : Nat) =
      (((encodeRune r2).length + (encodeRune r1).length : Nat) : Int) by omega]

theorem tr_end (eA : Bytes) {r1 r2 : Nat} (h1 : validRune r1 = true) (h2 : validRune r2 = true) :
    transposeRunes (eA ++ (encodeRune r1 ++ encodeRune r2)) ((eA ++ (encodeRune r1 ++ encodeRune r2)).length : Int) =
      .ok (eA ++ (encodeRune r2 ++ encodeRune r1), ((eA ++ (encodeRune r2 ++ encodeRune r1)).length : Int)) := by
  have l1 := encodeRune_length_pos r1
  have l2 := encodeRune_length_pos r2
  have hd2 := decodeLastRune_append_encodeRune h2 (eA ++ encodeRune r1)
  rw [List.append_assoc] at hd2
  generalize hs : eA ++ (encodeRune r1 ++ encodeRune r2) = s at hd2 ⊢
  have hlen : s.length = eA.length + (encodeRune r1).length + (encodeRune r2).length := by
    rw [← hs]; simp only [List.length_append]; omega
  have hs1 : s = (eA ++ encodeRune r1) ++ encodeRune r2 := by rw [← hs, List.append_assoc]
  unfold transposeRunes
  rw [if_neg (by omega), if_neg (by omega), if_pos rfl, hd2]
  simp only []
  rw [if_neg (by omega), slice_prefix hs1 (by rw [List.length_append]; omega), ok_bind,
    decodeLastRune_append_encodeRune h1]
  simp only []
  rw [slice_prefix hs.symm (by omega), ok_bind, pure_eq_ok, List.append_assoc]

theorem tr_mid (eA eZ : Bytes) {r1 r2 : Nat} (h1 : validRune r1 = true) (h2 : validRune r2 = true) :
    transposeRunes (eA ++ (encodeRune r1 ++ (encodeRune r2 ++ eZ))) ((eA ++ encodeRune r1).length : Int) =
      .ok (eA ++ (encodeRune r2 ++ (encodeRune r1 ++ eZ)),
        ((eA ++ (encodeRune r2 ++ encodeRune r1)).length : Int)) := by
  have l1 := encodeRune_length_pos r1
  have l2 := encodeRune_length_pos r2
  generalize hs : eA ++ (encodeRune r1 ++ (encodeRune r2 ++ eZ)) = s
  have hlen : s.length = eA.length + (encodeRune r1).length + (encodeRune r2).length + eZ.length := by
    rw [← hs]; simp only [List.length_append]; omega
  have hs1 : s = (eA ++ encodeRune r1) ++ (encodeRune r2 ++ eZ) := by rw [← hs, List.append_assoc]
  have hs2 : s = (eA ++ (encodeRune r1 ++ encodeRune r2)) ++ eZ := by rw [← hs]; simp only [List.append_assoc]
  simp only [List.length_append]
  unfold transposeRunes
  rw [if_neg (by omega), if_neg (by omega), if_neg (by omega),
    slice_prefix hs1 (by rw [List.length_append]), ok_bind, decodeLastRune_append_encodeRune h1]
  simp only []
  rw [slice_suffix hs1 (by rw [List.length_append]) rfl, ok_bind, decodeRune_encodeRune_append r2 h2]
  simp only []
  rw [slice_prefix hs.symm (by omega), ok_bind,
    slice_suffix hs2 (by simp only [List.length_append]; omega) rfl, ok_bind, pure_eq_ok, List.append_assoc,
    List.append_assoc, show ((eA.length + (encodeRune r1).length : Nat) : Int) + ((encodeRune r2).length : Nat) =
      ((eA.length + ((encodeRune r2).length + (encodeRune r1).length) : Nat) : Int) by omega]

theorem tr_single {r : Nat} (hr : validRune r = true) (d : Int) (hd : d = 0 ∨ d = (encodeRune r).length) :
    transposeRunes (encodeRune r) d = .ok (encodeRune r, d) := by
  have l := encodeRune_length_pos r
  unfold transposeRunes
  rw [if_neg (by omega)]
  rcases hd with rfl | rfl
  · rw [if_pos rfl, decodeRune_encodeRune r hr]
    simp
  · rw [if_neg (by omega), if_pos rfl, decodeLastRune_encodeRune hr]
    simp

theorem tr_empty (d : Int) : transposeRunes [] d = .ok ([], d) := by
  simp [transposeRunes]

/-- what every transformer returns -/
def Swapped (T : List Nat) (res : Res (Bytes × Int)) : Prop :=
  ∃ a l m r z : List Nat, T = a ++ l ++ m ++ r ++ z ∧
    res = .ok (enc (a ++ r ++ m ++ l ++ z), blen (a ++ r ++ m ++ l))

/-- leaving buffer and dot alone is the exchange of two empty pieces at the dot -/
theorem Swapped.unchanged {L R : List Nat} {res : Res (Bytes × Int)} (h : res = .ok (enc (L ++ R), blen L)) :
    Swapped (L ++ R) res :=
  ⟨L, [], [], [], R, by simp, by simpa using h⟩

theorem transposeRunes_zip (L R : List Nat) (hL : VR L) (hR : VR R) :
    Swapped (L ++ R) (transposeRunes (enc (L ++ R)) (blen L)) := by
  rcases List.eq_nil_or_concat L with rfl | ⟨A, r1, rfl⟩
  · cases R with
    | nil => exact .unchanged (tr_empty _)
    | cons r1 R =>
      have h1 : validRune r1 = true := hR r1 (by simp)
      cases R with
      | nil =>
        exact .unchanged (by simpa [blen] using tr_single h1 0 (Or.inl rfl))
      | cons r2 Z =>
        exact ⟨[], [r1], [], [r2], Z, rfl, by simpa [blen] using tr_start (enc Z) h1 (hR r2 (by simp))⟩
  · rw [List.concat_eq_append] at hL ⊢
    have h1 : validRune r1 = true := hL r1 (by simp)
    cases R with
    | nil =>
      rcases List.eq_nil_or_concat A with rfl | ⟨A0, r0, rfl⟩
      · exact .unchanged (by simpa [blen] using tr_single h1 _ (Or.inr rfl))
      · rw [List.concat_eq_append] at hL ⊢
        exact ⟨A0, [r0], [], [r1], [], by simp, by
          simpa [blen] using tr_end (enc A0) (hL r0 (by simp)) h1⟩
    | cons r2 Z =>
      exact ⟨A, [r1], [], [r2], Z, by simp, by
        simpa [blen] using tr_mid (enc A) (enc Z) h1 (hR r2 (by simp))⟩

end C28
