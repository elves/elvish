/-
Every pure mover re-splits the zipper, so it maps boundaries to boundaries; `makeKill` is exact.
-/
import ElvProofs.C28.WordSpec
namespace C28
open Go

theorem Mover.fn_split (E : Env) (m : Mover) (L R : List Nat) (hL : VR L) (hR : VR R) :
    ∃ L', (∃ R', L ++ R = L' ++ R') ∧ m.fn E (enc (L ++ R)) (blen L) = .ok (blen L') := by
  have pre : ∀ {L' : List Nat}, (∃ S, L = L' ++ S) → ∃ R', L ++ R = L' ++ R' :=
    fun ⟨S, h⟩ => ⟨S ++ R, by rw [← List.append_assoc, ← h]⟩
  have ext : ∀ {S : List Nat}, (∃ Z, R = S ++ Z) → ∃ R', L ++ R = (L ++ S) ++ R' :=
    fun ⟨Z, h⟩ => ⟨Z, by rw [List.append_assoc, ← h]⟩
  have wordLeft : ∀ {cat : Categorizer}, ∃ L', (∃ R', L ++ R = L' ++ R') ∧
      moveDotLeftGeneralWord cat (enc (L ++ R)) (blen L) = .ok (blen L') := fun {cat} => by
    obtain ⟨L', W, S, -, hsplit, -, -, -, -, hm⟩ := wordLeft_zip cat L R hL
    exact ⟨L', pre ⟨W ++ S, by rw [hsplit, List.append_assoc]⟩, hm⟩
  have wordRight : ∀ {cat : Categorizer}, ∃ L', (∃ R', L ++ R = L' ++ R') ∧
      moveDotRightGeneralWord cat (enc (L ++ R)) (blen L) = .ok (blen L') := fun {cat} => by
    obtain ⟨C, W, R', -, hsplit, -, -, -, -, hm⟩ := wordRight_zip cat L R hR
    exact ⟨_, ⟨R', by rw [hsplit]; simp only [List.append_assoc]⟩, hm⟩
  cases m with
  | left =>
    exact ⟨_, pre ⟨L.drop (L.length - 1), by rw [List.dropLast_eq_take, List.take_append_drop]⟩,
      moveDotLeft_zip rfl hL⟩
  | right => exact ⟨_, ext ⟨R.drop 1, (List.take_append_drop 1 R).symm⟩, moveDotRight_zip rfl hR⟩
  | leftWord => exact wordLeft
  | rightWord => exact wordRight
  | leftSmallWord => exact wordLeft
  | rightSmallWord => exact wordRight
  | leftAlnumWord => exact wordLeft
  | rightAlnumWord => exact wordRight
  | sol => exact ⟨_, pre (dropEndWhile_prefix _ L), moveDotSOL_zip rfl⟩
  | eol => exact ⟨_, ext ⟨afterFirstLine R, List.takeWhile_append_dropWhile.symm⟩, moveDotEOL_zip rfl⟩
  | up =>
    rcases lines_left L with h | ⟨P, Q, B, rfl, hP, hQ, hB⟩
    · exact ⟨_, pre ⟨[], (List.append_nil L).symm⟩, moveDotUp_first E rfl h⟩
    · obtain ⟨rest, hrest⟩ := trimRunes_prefix E (widthSum E B) 0 Q
      refine ⟨_, pre ⟨rest ++ [10] ++ B, ?_⟩, moveDotUp_prev E rfl hL hP hQ hB⟩
      conv => lhs; rw [hrest]
      simp only [List.append_assoc]
  | down =>
    rcases lines_right R with h | ⟨F, N, Z, rfl, hF, hN, hZ⟩
    · exact ⟨_, ext ⟨R, (List.nil_append R).symm⟩, by rw [List.append_nil]; exact moveDotDown_last E rfl h⟩
    · obtain ⟨rest, hrest⟩ := trimRunes_prefix E (widthSum E (lastLine L)) 0 N
      have hs : L = beforeLastLine L ++ lastLine L := (dropEndWhile_append_takeEndWhile _ L).symm
      have hm := moveDotDown_next E (T := L ++ (F ++ 10 :: (N ++ Z))) (by rw [← hs]) (hL.append hR)
        (beforeLastLine_lineStart L) (lastLine_no_nl L) hF hN hZ
      rw [← hs] at hm
      refine ⟨_, ext (S := F ++ [10] ++ trimRunes E (widthSum E (lastLine L)) 0 N) ⟨rest ++ Z, ?_⟩, ?_⟩
      · conv => lhs; rw [hrest]
        simp
      · rw [show Mover.fn E .down = moveDotDown E from rfl, hm]; simp

theorem Mover.boundary (E : Env) (m : Mover) (buf : Bytes) (dot : Int) (h : Boundary buf dot) :
    ∃ d', m.fn E buf dot = .ok d' ∧ Boundary buf d' := by
  obtain ⟨L, R, hL, hR, rfl, rfl⟩ := h.zipper
  obtain ⟨L', ⟨R', hsplit⟩, hm⟩ := m.fn_split E L R hL hR
  rw [← enc_append]
  exact ⟨blen L', hm, boundary_enc hsplit⟩

theorem makeKill_spec (m : PureMover) (buf : Bytes) (dot d' : Int) (hm : m buf dot = .ok d')
    (h0 : 0 ≤ dot) (h1 : dot ≤ buf.length) (h2 : 0 ≤ d') (h3 : d' ≤ buf.length) :
    makeKill m buf dot =
      .ok (buf.take (min dot d').toNat ++ buf.drop (max dot d').toNat, min dot d') := by
  unfold makeKill
  rw [hm, ok_bind]
  by_cases hlt : d' < dot
  · rw [if_pos hlt, slice_take buf h2 h3, slice_drop buf h0 h1,
      Int.min_eq_right (by omega), Int.max_eq_left (by omega)]
    rfl
  · by_cases hgt : d' > dot
    · rw [if_neg hlt, if_pos hgt, slice_take buf h0 h1, slice_drop buf h2 h3,
        Int.min_eq_left (by omega), Int.max_eq_right (by omega)]
      rfl
    · obtain rfl : d' = dot := by omega
      rw [if_neg hlt, if_neg hgt, Int.min_self, Int.max_self, List.take_append_drop]
      rfl

theorem Mover.kill (E : Env) (m : Mover) (buf : Bytes) (dot : Int) (h : Boundary buf dot) :
    ∃ d', m.fn E buf dot = .ok d' ∧
      makeKill (m.fn E) buf dot =
        .ok (buf.take (min dot d').toNat ++ buf.drop (max dot d').toNat, min dot d') ∧
      Boundary (buf.take (min dot d').toNat ++ buf.drop (max dot d').toNat) (min dot d') := by
  obtain ⟨d', h1, h2⟩ := m.boundary E buf dot h
  refine ⟨d', h1, makeKill_spec _ buf dot d' h1 h.1 h.2.1 h2.1 h2.2.1, boundary_cut buf _ _ ?_ ?_⟩
  · rw [Int.min_def]; split <;> assumption
  · rw [Int.max_def]; split <;> assumption

end C28
