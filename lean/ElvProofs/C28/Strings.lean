/-
`strutil.FindFirstEOL/FindLastSOL`, `strings.TrimLeftFunc/TrimRightFunc/TrimFunc` and
`wcwidth.Of/Trim` on encoded rune lists: each computes the byte length of a run of runes
(`takeWhile`/`dropWhile` from the front, `takeEndWhile`/`dropEndWhile` from the back).
-/
import ElvProofs.C28.Basic
import ElvProofs.Lemmas.List
namespace C28
open Go

def dropEndWhile (f : Nat → Bool) (L : List Nat) : List Nat := (L.reverse.dropWhile f).reverse
def takeEndWhile (f : Nat → Bool) (L : List Nat) : List Nat := (L.reverse.takeWhile f).reverse

theorem dropEndWhile_append_takeEndWhile (f : Nat → Bool) (L : List Nat) :
    dropEndWhile f L ++ takeEndWhile f L = L := by
  unfold dropEndWhile takeEndWhile
  rw [← List.reverse_append, List.takeWhile_append_dropWhile, List.reverse_reverse]

theorem takeEndWhile_all (f : Nat → Bool) (L : List Nat) : ∀ x ∈ takeEndWhile f L, f x = true := by
  intro x hx
  unfold takeEndWhile at hx
  rw [List.mem_reverse] at hx
  exact List.mem_takeWhile_imp hx

theorem dropWhile_head (f : Nat → Bool) (R : List Nat) :
    R.dropWhile f = [] ∨ ∃ y t, R.dropWhile f = y :: t ∧ f y = false := by
  cases h : R.dropWhile f with
  | nil => left; rfl
  | cons y t =>
    have := List.head_dropWhile_not f (l := R) (by rw [h]; simp)
    simp only [h, List.head_cons] at this
    exact Or.inr ⟨y, t, rfl, this⟩

theorem dropEndWhile_last (f : Nat → Bool) (L : List Nat) :
    dropEndWhile f L = [] ∨ ∃ K y, dropEndWhile f L = K ++ [y] ∧ f y = false := by
  unfold dropEndWhile
  rcases dropWhile_head f L.reverse with h | ⟨y, t, h, hy⟩
  · left; rw [h]; rfl
  · right; rw [h]; exact ⟨t.reverse, y, by simp, hy⟩

abbrev lastLine (L : List Nat) : List Nat := takeEndWhile (· != 10) L
abbrev beforeLastLine (L : List Nat) : List Nat := dropEndWhile (· != 10) L
abbrev firstLine (R : List Nat) : List Nat := R.takeWhile (· != 10)
abbrev afterFirstLine (R : List Nat) : List Nat := R.dropWhile (· != 10)

def LineStart (X : List Nat) : Prop := X = [] ∨ ∃ a, X = a ++ [10]

theorem lastLine_no_nl (L : List Nat) : ∀ r ∈ lastLine L, r ≠ 10 := by
  intro r hr; simpa using takeEndWhile_all _ L r hr

theorem firstLine_no_nl (R : List Nat) : ∀ r ∈ firstLine R, r ≠ 10 := by
  intro r hr; simpa using List.mem_takeWhile_imp hr

theorem afterFirstLine_head (R : List Nat) : afterFirstLine R = [] ∨ ∃ t, afterFirstLine R = 10 :: t := by
  rcases dropWhile_head (· != 10) R with h | ⟨y, t, h, hy⟩
  · exact Or.inl h
  · obtain rfl : y = 10 := by simpa using hy
    exact Or.inr ⟨t, h⟩

theorem beforeLastLine_lineStart (L : List Nat) : LineStart (beforeLastLine L) := by
  rcases dropEndWhile_last (· != 10) L with h | ⟨K, y, h, hy⟩
  · exact Or.inl h
  · obtain rfl : y = 10 := by simpa using hy
    exact Or.inr ⟨K, h⟩

theorem encodeRune_nl : encodeRune 10 = [NL] := by decide

theorem enc_no_nl (rs : List Nat) (hr : ∀ r ∈ rs, r ≠ 10) : ∀ b ∈ enc rs, b ≠ NL := by
  induction rs with
  | nil => simp
  | cons r rs ih =>
    intro b hb
    rw [enc_cons, List.mem_append] at hb
    rcases hb with hb | hb
    · exact encodeRune_ne_ascii (c := NL) (by decide) (hr r (by simp)) b hb
    · exact ih (fun x hx => hr x (by simp [hx])) b hb

theorem findFirstEOL_eq (X Y : Bytes) (hX : ∀ b ∈ X, b ≠ NL) (hY : Y = [] ∨ Y.head? = some NL) :
    findFirstEOL (X ++ Y) = X.length := by
  unfold findFirstEOL
  congr 1
  induction X with
  | nil =>
    rcases hY with rfl | hY
    · rfl
    · cases Y with
      | nil => rfl
      | cons y Y' => simp at hY; subst hY; simp
  | cons x X ih =>
    have : (x != NL) = true := by simpa using hX x (by simp)
    simp [this, ih (fun b hb => hX b (by simp [hb]))]

theorem findLastSOL_eq (X Y : Bytes) (hY : ∀ b ∈ Y, b ≠ NL) (hX : X = [] ∨ X.getLast? = some NL) :
    findLastSOL (X ++ Y) = X.length := by
  have h := findFirstEOL_eq Y.reverse X.reverse (by simpa using hY)
    (by rcases hX with rfl | hX
        · left; rfl
        · right; simpa [List.head?_reverse] using hX)
  unfold findFirstEOL at h
  unfold findLastSOL
  rw [List.reverse_append, h]
  simp

theorem findFirstEOL_enc {X Y : List Nat} (hX : ∀ r ∈ X, r ≠ 10) (hY : Y = [] ∨ ∃ t, Y = 10 :: t) :
    findFirstEOL (enc (X ++ Y)) = (enc X).length := by
  rw [enc_append]
  apply findFirstEOL_eq _ _ (enc_no_nl X hX)
  rcases hY with rfl | ⟨t, rfl⟩
  · left; rfl
  · right; rw [enc_cons, encodeRune_nl]; rfl

theorem findLastSOL_enc {X Y : List Nat} (hX : LineStart X) (hY : ∀ r ∈ Y, r ≠ 10) :
    findLastSOL (enc (X ++ Y)) = (enc X).length := by
  rw [enc_append]
  apply findLastSOL_eq _ _ (enc_no_nl Y hY)
  rcases hX with rfl | ⟨a, rfl⟩
  · left; rfl
  · right; rw [enc_append, enc_singleton, encodeRune_nl]; simp

theorem find_runeTriples (f : Nat → Bool) (off : Nat) (rs : List Nat) :
    (runeTriples off rs).find? (fun x => f x.2.1 == false) =
      match rs.dropWhile f with
      | [] => none
      | r :: _ => some (off + (enc (rs.takeWhile f)).length, r, (encodeRune r).length) := by
  induction rs generalizing off with
  | nil => simp [runeTriples]
  | cons r rs ih =>
    by_cases hf : f r = true
    · simp only [runeTriples, List.find?_cons, hf, List.dropWhile_cons, List.takeWhile_cons, if_true]
      rw [show ((true == false) = false) from rfl, ih]
      cases rs.dropWhile f with
      | nil => rfl
      | cons x t => simp only [enc_cons, List.length_append]; rw [Nat.add_assoc]
    · have hf' : f r = false := by simpa using hf
      simp [runeTriples, hf']

theorem trimLeftFunc_enc (f : Nat → Bool) (rs : List Nat) (hv : VR rs) :
    trimLeftFunc f (enc rs) = .ok (enc (rs.dropWhile f)) := by
  unfold trimLeftFunc indexFunc
  rw [runes_enc rs hv, find_runeTriples]
  have hsplit : rs = rs.takeWhile f ++ rs.dropWhile f := List.takeWhile_append_dropWhile.symm
  cases hd : rs.dropWhile f with
  | nil => simp
  | cons x t =>
    simp only
    rw [if_neg (by omega), Nat.zero_add]
    exact slice_enc_right (hd ▸ hsplit)

/-- `M` lists the runes before offset `i` nearest first: the loop stops at the start of the
first of them that fails `f`. -/
theorem lastIndexFunc_enc (f : Nat → Bool) (M : List Nat) (hv : VR M) (T : Bytes) (fuel : Nat)
    (hf : (enc M.reverse).length ≤ fuel) :
    lastIndexFunc f false (enc M.reverse ++ T) fuel (enc M.reverse).length =
      .ok (match M.dropWhile f with
           | [] => -1
           | _ :: K => ((enc K.reverse).length : Int)) := by
  induction M generalizing T fuel with
  | nil => cases fuel <;> simp [lastIndexFunc]
  | cons r M ih =>
    obtain ⟨hr, hM⟩ := hv.cons
    have hl := encodeRune_length_pos r
    simp only [List.reverse_cons, enc_append, enc_singleton, List.length_append] at hf ⊢
    cases fuel with
    | zero => omega
    | succ fuel =>
      rw [lastIndexFunc, if_neg (by omega)]
      have htake : List.take ((enc M.reverse).length + (encodeRune r).length)
          (enc M.reverse ++ encodeRune r ++ T) = enc M.reverse ++ encodeRune r := by
        rw [← List.length_append]; exact List.take_left' rfl
      simp only [htake, decodeLastRune_append_encodeRune hr _, Nat.add_sub_cancel]
      by_cases hfr : f r = true
      · simp only [hfr, List.dropWhile_cons, if_true]
        rw [show ((true == false) = false) from rfl]
        simp only [Bool.false_eq_true, if_false]
        rw [List.append_assoc]
        exact ih hM _ fuel (by omega)
      · have hfr' : f r = false := by simpa using hfr
        simp [hfr']

/-- the step of `TrimRightFunc` from the start of a rune to its end: one byte for ASCII,
`DecodeRuneInString` otherwise (`k` is the rest of the function) -/
theorem runeEnd_enc {β} (K : List Nat) (r : Nat) (hr : validRune r = true) (t : Bytes) (k : Int → Res β) :
    (do let b ← index (enc K ++ (encodeRune r ++ t)) (blen K)
        if 0x80 ≤ b.toNat then
          k (blen K + ((decodeRune ((enc K ++ (encodeRune r ++ t)).drop (blen K).toNat)).2 : Int))
        else k (blen K + 1)) = k (blen (K ++ [r])) := by
  obtain ⟨b0, tl, hc, -, -, -⟩ := encodeRune_eq_cons r
  have hidx : index (enc K ++ (encodeRune r ++ t)) (blen K) = .ok b0 := by
    unfold index
    rw [if_pos (Int.natCast_nonneg _), hc]
    simp
  rw [hidx, ok_bind, Int.toNat_natCast, List.drop_left' rfl, decodeRune_encodeRune_append r hr,
    blen_append, blen, blen, enc_singleton]
  by_cases hlt : r < 0x80
  · have h1 : (encodeRune r).length = 1 := (encodeRune_length_eq_one_iff r).2 hlt
    have := (encodeRune_ascii_iff r b0 (by rw [hc]; rfl)).2 hlt
    rw [if_neg (by omega), h1]; rfl
  · have := encodeRune_bytes_ge (r := r) (by omega) b0 (by rw [hc]; simp)
    rw [if_pos this]

theorem trimRightFunc_enc (f : Nat → Bool) (L : List Nat) (hv : VR L) :
    trimRightFunc f (enc L) = .ok (enc (dropEndWhile f L)) := by
  have hvr : VR L.reverse := hv.sublist (by simp)
  have h := lastIndexFunc_enc f L.reverse hvr [] (enc L).length (by simp)
  simp only [List.reverse_reverse, List.append_nil] at h
  unfold trimRightFunc
  rw [h, ok_bind]
  have hsplit := (dropEndWhile_append_takeEndWhile f L).symm
  unfold dropEndWhile at hsplit ⊢
  cases hd : L.reverse.dropWhile f with
  | nil => simp [slice]
  | cons r K =>
    rw [hd, List.reverse_cons] at hsplit
    have hr : validRune r = true :=
      hvr r ((List.dropWhile_sublist f).subset (by rw [hd]; simp))
    have henc := congrArg enc hsplit
    simp only [enc_append, enc_singleton, List.append_assoc] at henc
    simp only [List.reverse_cons]
    rw [if_pos (by omega), henc]
    simp only [pure_eq_ok, ok_bind]
    refine (runeEnd_enc K.reverse r hr _ (fun i' => slice _ 0 i')).trans ?_
    rw [← henc]; exact slice_enc_left hsplit

theorem trimFunc_enc (f : Nat → Bool) (rs : List Nat) (hv : VR rs) :
    trimFunc f (enc rs) = .ok (enc (dropEndWhile f (rs.dropWhile f))) := by
  unfold trimFunc
  rw [trimLeftFunc_enc f rs hv, ok_bind]
  exact trimRightFunc_enc f _ (hv.sublist (fun x hx => (List.dropWhile_sublist f).subset hx))

def widthSum (E : Env) (rs : List Nat) : Nat := (rs.map E.width).sum

theorem foldl_runeTriples (E : Env) (a off : Nat) (rs : List Nat) :
    (runeTriples off rs).foldl (fun w x => w + E.width x.2.1) a = a + widthSum E rs := by
  induction rs generalizing a off with
  | nil => simp [runeTriples, widthSum]
  | cons r rs ih => simp only [runeTriples, List.foldl_cons, ih, widthSum, List.map_cons, List.sum_cons]; omega

theorem wcOf_enc (E : Env) (rs : List Nat) (hv : VR rs) : wcOf E (enc rs) = widthSum E rs := by
  unfold wcOf
  rw [runes_enc rs hv, foldl_runeTriples]; omega

def trimRunes (E : Env) (wmax : Nat) : Nat → List Nat → List Nat
  | _, [] => []
  | w, r :: rs => if w + E.width r > wmax then [] else r :: trimRunes E wmax (w + E.width r) rs

theorem trimRunes_prefix (E : Env) (wmax w : Nat) (rs : List Nat) :
    ∃ rest, rs = trimRunes E wmax w rs ++ rest := by
  induction rs generalizing w with
  | nil => exact ⟨[], rfl⟩
  | cons r rs ih =>
    unfold trimRunes
    split
    · exact ⟨r :: rs, rfl⟩
    · obtain ⟨rest, h⟩ := ih (w + E.width r)
      exact ⟨rest, by rw [List.cons_append, ← h]⟩

theorem trimRunes_width (E : Env) (wmax w : Nat) (rs : List Nat) (hw : w ≤ wmax) :
    w + widthSum E (trimRunes E wmax w rs) ≤ wmax := by
  induction rs generalizing w with
  | nil => simpa [trimRunes, widthSum] using hw
  | cons r rs ih =>
    unfold trimRunes
    split
    · simpa [widthSum] using hw
    · have := ih (w + E.width r) (by omega)
      simp only [widthSum, List.map_cons, List.sum_cons] at this ⊢; omega

theorem trimLoop_runeTriples (E : Env) (wmax w off : Nat) (rs : List Nat) :
    trimLoop E wmax w (runeTriples off rs) =
      if trimRunes E wmax w rs = rs then none
      else some (off + (enc (trimRunes E wmax w rs)).length) := by
  induction rs generalizing w off with
  | nil => simp [runeTriples, trimLoop, trimRunes]
  | cons r rs ih =>
    simp only [runeTriples, trimLoop, trimRunes]
    by_cases h : w + E.width r > wmax
    · simp [h]
    · simp only [h, if_false, ih, List.cons.injEq, true_and, enc_cons, List.length_append]
      split
      · rfl
      · rw [Nat.add_assoc]

theorem wcTrim_enc (E : Env) (rs : List Nat) (hv : VR rs) (wmax : Nat) :
    wcTrim E (enc rs) wmax = .ok (enc (trimRunes E wmax 0 rs)) := by
  unfold wcTrim
  rw [runes_enc rs hv, trimLoop_runeTriples]
  by_cases h : trimRunes E wmax 0 rs = rs
  · simp only [h, if_true]
  · simp only [h, if_false, Nat.zero_add]
    obtain ⟨rest, h'⟩ := trimRunes_prefix E wmax 0 rs
    exact slice_enc_left h'

end C28
