/-
`move-dot-up` / `move-dot-down` land on the adjacent line at a display column not exceeding
the original one.
-/
import ElvProofs.C28.MoverSpec
namespace C28
open Go

theorem lineStart_zip {T X Y S : List Nat} (hT : T = X ++ Y ++ S) (hX : LineStart X) (hY : ∀ r ∈ Y, r ≠ 10) :
    lineStart (enc T) (enc (X ++ Y)).length = (enc X).length := by
  unfold lineStart
  rw [hT, enc_append (X ++ Y), List.take_left' rfl]
  exact findLastSOL_enc hX hY

theorem column_zip (E : Env) {T X Y S : List Nat} (hT : T = X ++ Y ++ S) (hv : VR Y) (hX : LineStart X)
    (hY : ∀ r ∈ Y, r ≠ 10) : column E (enc T) (enc (X ++ Y)).length = widthSum E Y := by
  unfold column
  rw [lineStart_zip hT hX hY, hT, enc_append (X ++ Y), List.take_left' rfl, enc_append, List.drop_left' rfl,
    wcOf_enc E Y hv]

theorem up_spec (E : Env) (buf : Bytes) (dot : Int) (h : Boundary buf dot) :
    ∃ d', moveDotUp E buf dot = .ok d' ∧ Boundary buf d' ∧
      (lineStart buf dot.toNat = 0 → d' = dot) ∧
      (lineStart buf dot.toNat ≠ 0 →
        d' ≤ (lineStart buf dot.toNat : Int) - 1 ∧
        lineStart buf d'.toNat = lineStart buf (lineStart buf dot.toNat - 1) ∧
        column E buf d'.toNat ≤ column E buf dot.toNat) := by
  obtain ⟨L, R, hL, hR, rfl, rfl⟩ := h.zipper
  rw [← enc_append]
  simp only [Int.toNat_natCast]
  rcases lines_left L with h | ⟨P, Q, B, rfl, hP, hQ, hB⟩
  · have hls : lineStart (enc (L ++ R)) (enc L).length = 0 :=
      lineStart_zip (X := []) (Y := L) rfl (Or.inl rfl) h
    exact ⟨blen L, moveDotUp_first E rfl h, boundary_enc rfl, fun _ => rfl, fun hne => absurd hls hne⟩
  · have hw := trimRunes_width E (widthSum E B) 0 Q (Nat.zero_le _)
    obtain ⟨rest, hrest⟩ := trimRunes_prefix E (widthSum E B) 0 Q
    have hm := moveDotUp_prev E (R := R) rfl hL hP hQ hB
    generalize trimRunes E (widthSum E B) 0 Q = Tr at hw hrest hm
    subst hrest
    have hTr : ∀ r ∈ Tr, r ≠ 10 := fun r hr => hQ r (by simp [hr])
    -- the current line starts after `P ++ Q ++ [10]`, the previous one after `P`
    have hls : lineStart (enc (P ++ (Tr ++ rest) ++ [10] ++ B ++ R)) (enc (P ++ (Tr ++ rest) ++ [10] ++ B)).length =
        (enc (P ++ (Tr ++ rest) ++ [10])).length := lineStart_zip rfl (Or.inr ⟨_, rfl⟩) hB
    have hcol := column_zip E (S := R) rfl hL.right (Or.inr ⟨P ++ (Tr ++ rest), rfl⟩) hB
    have hsol : (enc (P ++ (Tr ++ rest) ++ [10])).length = (enc (P ++ (Tr ++ rest))).length + 1 := by
      have := blen_snoc_nl (P ++ (Tr ++ rest)); simp only [blen] at this; omega
    have hT1 : P ++ (Tr ++ rest) ++ [10] ++ B ++ R = P ++ Tr ++ (rest ++ [10] ++ B ++ R) := by
      simp only [List.append_assoc]
    have hT2 : P ++ (Tr ++ rest) ++ [10] ++ B ++ R = P ++ (Tr ++ rest) ++ ([10] ++ B ++ R) := by
      simp only [List.append_assoc]
    refine ⟨blen (P ++ Tr), hm, boundary_enc hT1, fun h0 => absurd (hls ▸ h0) (by omega), fun _ => ?_⟩
    rw [hls, hcol, hsol, Nat.add_sub_cancel, Int.toNat_natCast, lineStart_zip hT1 hP hTr, lineStart_zip hT2 hP hQ,
      column_zip E hT1 hL.left.left.right.left hP hTr]
    refine ⟨?_, rfl, by omega⟩
    have : blen (P ++ (Tr ++ rest)) = blen (P ++ Tr) + blen rest := by
      rw [← List.append_assoc, blen_append]
    have := Int.natCast_nonneg (enc rest).length
    simp only [blen] at *; omega

theorem down_spec (E : Env) (buf : Bytes) (dot : Int) (h : Boundary buf dot) :
    ∃ d', moveDotDown E buf dot = .ok d' ∧ Boundary buf d' ∧
      (dot.toNat + findFirstEOL (buf.drop dot.toNat) = buf.length → d' = dot) ∧
      (dot.toNat + findFirstEOL (buf.drop dot.toNat) ≠ buf.length →
        ((dot.toNat + findFirstEOL (buf.drop dot.toNat) + 1 : Nat) : Int) ≤ d' ∧
        lineStart buf d'.toNat = dot.toNat + findFirstEOL (buf.drop dot.toNat) + 1 ∧
        column E buf d'.toNat ≤ column E buf dot.toNat) := by
  obtain ⟨L, R, hL, hR, rfl, rfl⟩ := h.zipper
  simp only [Int.toNat_natCast, List.drop_left' rfl]
  rw [← enc_append]
  rcases lines_right R with h | ⟨F, N, Z, rfl, hF, hN, hZ⟩
  · have heol : findFirstEOL (enc R) = (enc R).length := by
      have := findFirstEOL_enc (Y := []) h (Or.inl rfl); rwa [List.append_nil] at this
    exact ⟨blen L, moveDotDown_last E rfl h, boundary_enc rfl, fun _ => rfl,
      fun hne => absurd (by rw [heol, enc_append, List.length_append]) hne⟩
  · have hs : L = beforeLastLine L ++ lastLine L := (dropEndWhile_append_takeEndWhile _ L).symm
    have hX := beforeLastLine_lineStart L
    have hB := lastLine_no_nl L
    have hvB : VR (lastLine L) := by rw [hs] at hL; exact hL.right
    have hw := trimRunes_width E (widthSum E (lastLine L)) 0 N (Nat.zero_le _)
    obtain ⟨rest, hrest⟩ := trimRunes_prefix E (widthSum E (lastLine L)) 0 N
    have hm := moveDotDown_next E (T := L ++ (F ++ 10 :: (N ++ Z))) (by rw [← hs]) (hL.append hR) hX hB hF hN hZ
    have hcol := column_zip E (T := L ++ (F ++ 10 :: (N ++ Z))) (S := F ++ 10 :: (N ++ Z)) (by rw [← hs]) hvB hX hB
    rw [← hs] at hm hcol
    generalize trimRunes E (widthSum E (lastLine L)) 0 N = Tr at hw hrest hm
    subst hrest
    have hTr : ∀ r ∈ Tr, r ≠ 10 := fun r hr => hN r (by simp [hr])
    have hvTr : VR Tr := fun r hr => hR r (by simp [hr])
    have heol : findFirstEOL (enc (F ++ 10 :: (Tr ++ rest ++ Z))) = (enc F).length :=
      findFirstEOL_enc hF (Or.inr ⟨_, rfl⟩)
    have hT1 : L ++ (F ++ 10 :: (Tr ++ rest ++ Z)) = (L ++ F ++ [10]) ++ Tr ++ (rest ++ Z) := by
      simp
    have hnext : (enc (L ++ F ++ [10])).length = (enc L).length + (enc F).length + 1 := by
      have := blen_snoc_nl (L ++ F); rw [blen_append L F] at this; simp only [blen] at this; omega
    have hne : (enc L).length + (enc F).length ≠ (enc (L ++ (F ++ 10 :: (Tr ++ rest ++ Z)))).length := by
      have := blen_pos 10 (Tr ++ rest ++ Z)
      simp only [blen, enc_append, List.length_append] at this ⊢; omega
    refine ⟨blen (L ++ F ++ [10] ++ Tr), hm, boundary_enc hT1, fun h0 => absurd (heol ▸ h0) hne, fun _ => ?_⟩
    rw [heol, hcol, Int.toNat_natCast, lineStart_zip hT1 (Or.inr ⟨L ++ F, rfl⟩) hTr,
      column_zip E hT1 hvTr (Or.inr ⟨L ++ F, rfl⟩) hTr, hnext]
    refine ⟨?_, rfl, by omega⟩
    have := Int.natCast_nonneg (enc Tr).length
    rw [blen_append (L ++ F ++ [10])]
    simp only [blen] at *; omega

end C28
