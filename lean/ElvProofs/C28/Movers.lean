/-
What every pure mover computes on a zipper: the buffer is `enc T`, the dot is `blen L` for a
split `T = L ++ R`, and the result is `blen L'` for another split of `T`.
-/
import ElvProofs.C28.Strings
namespace C28
open Go

theorem moveDotLeft_zip {T L R : List Nat} (hT : T = L ++ R) (hL : VR L) :
    moveDotLeft (enc T) (blen L) = .ok (blen L.dropLast) := by
  unfold moveDotLeft
  rw [slice_enc_left hT, ok_bind, pure_eq_ok]
  rcases List.eq_nil_or_concat L with rfl | ⟨L0, r, rfl⟩
  · simp [decodeLastRune_nil]
  · rw [List.concat_eq_append, List.dropLast_concat, enc_append, enc_singleton,
      decodeLastRune_append_encodeRune (hL r (by simp)), blen_append]
    congr 1; simp only [blen, enc_singleton]; omega

theorem moveDotRight_zip {T L R : List Nat} (hT : T = L ++ R) (hR : VR R) :
    moveDotRight (enc T) (blen L) = .ok (blen (L ++ R.take 1)) := by
  unfold moveDotRight
  rw [slice_enc_right hT, ok_bind, pure_eq_ok]
  cases R with
  | nil => simp
  | cons r R =>
    rw [enc_cons, decodeRune_encodeRune_append r (hR r (by simp)), List.take_succ_cons, List.take_zero,
      blen_append, blen, blen, enc_singleton]

theorem moveDotSOL_zip {T L R : List Nat} (hT : T = L ++ R) :
    moveDotSOL (enc T) (blen L) = .ok (blen (beforeLastLine L)) := by
  unfold moveDotSOL
  rw [slice_enc_left hT, ok_bind, pure_eq_ok]
  conv => lhs; rw [show L = beforeLastLine L ++ lastLine L from (dropEndWhile_append_takeEndWhile _ L).symm]
  rw [findLastSOL_enc (beforeLastLine_lineStart L) (lastLine_no_nl L)]

theorem moveDotEOL_zip {T L R : List Nat} (hT : T = L ++ R) :
    moveDotEOL (enc T) (blen L) = .ok (blen (L ++ firstLine R)) := by
  unfold moveDotEOL
  rw [slice_enc_right hT, ok_bind, pure_eq_ok]
  conv => lhs; rw [show R = firstLine R ++ afterFirstLine R from List.takeWhile_append_dropWhile.symm]
  rw [findFirstEOL_enc (firstLine_no_nl R) (afterFirstLine_head R), blen_append, Int.add_comm]

theorem skipCatLeft_zip (cat : Categorizer) (c : Nat) {T L R : List Nat} (hT : T = L ++ R) (hL : VR L) :
    skipCatLeft cat c (enc T) (blen L) = .ok (blen (dropEndWhile (fun r => cat r == c) L)) := by
  unfold skipCatLeft
  rw [slice_enc_left hT, ok_bind, trimRightFunc_enc _ L hL, ok_bind, pure_eq_ok]

theorem skipCatRight_zip (cat : Categorizer) (c : Nat) {T L R : List Nat} (hT : T = L ++ R) (hR : VR R) :
    skipCatRight cat c (enc T) (blen L) = .ok (blen (L ++ R.takeWhile (fun r => cat r == c))) := by
  unfold skipCatRight
  rw [slice_enc_right hT, ok_bind, trimLeftFunc_enc _ R hR, ok_bind, pure_eq_ok]
  have : T = (L ++ R.takeWhile (fun r => cat r == c)) ++ R.dropWhile (fun r => cat r == c) := by
    rw [List.append_assoc, List.takeWhile_append_dropWhile]; exact hT
  conv => lhs; rw [this]
  simp only [blen, enc_append, List.length_append]
  congr 1; omega

/-- every rune of `X` is in category `c` -/
def Run (cat : Categorizer) (c : Nat) (X : List Nat) : Prop := ∀ x ∈ X, cat x = c

/-- `skipCatLeft` goes back over a run of category `c`, up to a rune that is not in it -/
theorem skipCatLeft_spec (cat : Categorizer) (c : Nat) {T P S : List Nat} (hT : T = P ++ S) (hP : VR P) :
    ∃ P' X, P = P' ++ X ∧ Run cat c X ∧ (∀ y ∈ P'.getLast?, cat y ≠ c) ∧
      skipCatLeft cat c (enc T) (blen P) = .ok (blen P') := by
  refine ⟨_, _, (dropEndWhile_append_takeEndWhile _ P).symm,
    fun x hx => by simpa using takeEndWhile_all _ P x hx, ?_, skipCatLeft_zip cat c hT hP⟩
  rcases dropEndWhile_last (fun r => cat r == c) P with h | ⟨K, y, h, hy⟩
  · rw [h]; simp
  · rw [h]; simpa using hy

theorem skipCatRight_spec (cat : Categorizer) (c : Nat) {T P S : List Nat} (hT : T = P ++ S) (hS : VR S) :
    ∃ X S', S = X ++ S' ∧ Run cat c X ∧ (∀ y ∈ S'.head?, cat y ≠ c) ∧
      skipCatRight cat c (enc T) (blen P) = .ok (blen (P ++ X)) := by
  refine ⟨_, _, List.takeWhile_append_dropWhile.symm,
    fun x hx => by simpa using List.mem_takeWhile_imp hx, ?_, skipCatRight_zip cat c hT hS⟩
  rcases dropWhile_head (fun r => cat r == c) S with h | ⟨y, t, h, hy⟩
  · rw [h]; simp
  · rw [h]; simpa using hy

/-- `skipSameCatLeft` goes back over the run the rune before the dot is in (over nothing at the
start of the buffer) -/
theorem skipSameCatLeft_spec (cat : Categorizer) {T P S : List Nat} (hT : T = P ++ S) (hP : VR P) :
    ∃ P' X c, P = P' ++ X ∧ Run cat c X ∧ (∀ y ∈ P'.getLast?, cat y ≠ c) ∧ (∀ z ∈ P.getLast?, cat z = c) ∧
      (P ≠ [] → X ≠ []) ∧ skipSameCatLeft cat (enc T) (blen P) = .ok (blen P') := by
  unfold skipSameCatLeft
  rcases List.eq_nil_or_concat P with rfl | ⟨P0, r, rfl⟩
  · exact ⟨[], [], 0, rfl, by simp [Run], by simp, by simp, by simp, by simp⟩
  · rw [List.concat_eq_append] at hT hP ⊢
    obtain ⟨P', X, hX, hrun, hlast, hm⟩ := skipCatLeft_spec cat (cat r) hT hP
    rw [if_neg (by have := blen_lt_of_append P0 [r] (by simp); simp only [blen] at *; omega),
      slice_enc_left hT, ok_bind, enc_append, enc_singleton, decodeLastRune_append_encodeRune (hP r (by simp))]
    refine ⟨P', X, cat r, hX, hrun, hlast, by simp, fun _ hnil => ?_, hm⟩
    -- an empty run would leave `r` itself as the rune before `P'`
    rw [hnil, List.append_nil] at hX
    exact hlast r (by rw [← hX]; simp) rfl

theorem skipSameCatRight_spec (cat : Categorizer) {T P S : List Nat} (hT : T = P ++ S) (hS : VR S) :
    ∃ X S' c, S = X ++ S' ∧ Run cat c X ∧ (∀ y ∈ S'.head?, cat y ≠ c) ∧ (∀ z ∈ S.head?, cat z = c) ∧
      (S ≠ [] → X ≠ []) ∧ skipSameCatRight cat (enc T) (blen P) = .ok (blen (P ++ X)) := by
  unfold skipSameCatRight
  cases S with
  | nil => exact ⟨[], [], 0, rfl, by simp [Run], by simp, by simp, by simp, by simp [hT]⟩
  | cons r S =>
    obtain ⟨X, S', hX, hrun, hhead, hm⟩ := skipCatRight_spec cat (cat r) hT hS
    rw [if_neg (by have := blen_lt_of_append P (r :: S) (by simp); rw [hT]; simp only [blen] at this ⊢; omega),
      slice_enc_right hT, ok_bind, enc_cons, decodeRune_encodeRune_append r (hS r (by simp))]
    refine ⟨X, S', cat r, hX, hrun, hhead, by simp, fun _ hnil => ?_, hm⟩
    rw [hnil, List.nil_append] at hX
    exact hhead r (by rw [← hX]; simp) rfl

/-- the runes left of the dot after `skipSameCatLeft` -/
def skipSameLeftR (cat : Categorizer) (L : List Nat) : List Nat :=
  match L.getLast? with
  | none => L
  | some r => dropEndWhile (fun x => cat x == cat r) L

theorem skipSameCatLeft_zip (cat : Categorizer) {T L R : List Nat} (hT : T = L ++ R) (hL : VR L) :
    skipSameCatLeft cat (enc T) (blen L) = .ok (blen (skipSameLeftR cat L)) := by
  unfold skipSameCatLeft
  rcases List.eq_nil_or_concat L with rfl | ⟨L0, r, rfl⟩
  · simp [skipSameLeftR]
  · rw [List.concat_eq_append] at hT hL ⊢
    rw [if_neg (by have := blen_lt_of_append L0 [r] (by simp); simp only [blen] at *; omega),
      slice_enc_left hT, ok_bind, skipCatLeft_zip cat _ hT hL, enc_append, enc_singleton,
      decodeLastRune_append_encodeRune (hL r (by simp))]
    simp [skipSameLeftR]

theorem skipSameLeftR_nonempty (cat : Categorizer) (P : List Nat) (x : Nat) (P0 : List Nat) (h : P = P0 ++ [x]) :
    ∃ S, S ≠ [] ∧ P = skipSameLeftR cat P ++ S := by
  subst h
  unfold skipSameLeftR
  simp only [List.getLast?_append, List.getLast?_singleton, Option.some_or]
  refine ⟨takeEndWhile (fun y => cat y == cat x) (P0 ++ [x]),
    ?_, (dropEndWhile_append_takeEndWhile _ _).symm⟩
  unfold takeEndWhile
  simp

theorem dropEndWhile_prefix (f : Nat → Bool) (L : List Nat) : ∃ S, L = dropEndWhile f L ++ S :=
  ⟨takeEndWhile f L, (dropEndWhile_append_takeEndWhile f L).symm⟩

/-! The runes left of the dot are `P ++ Q ++ [10] ++ B`: `B` is the text of the current line before
the dot and `Q` the whole previous line.  Going up lands in `Q` after its longest prefix not wider
than `B`.  Going down is the same with the next line `N`, which follows the rest `F` of the current
line. -/

theorem blen_snoc_nl (A : List Nat) : blen (A ++ [10]) = blen A + 1 := by
  rw [blen_append, blen, blen, enc_singleton, encodeRune_nl]; rfl

theorem moveDotUp_first (E : Env) {T L R : List Nat} (hT : T = L ++ R) (hL : ∀ r ∈ L, r ≠ 10) :
    moveDotUp E (enc T) (blen L) = .ok (blen L) := by
  unfold moveDotUp
  rw [slice_enc_left hT, ok_bind, ← List.nil_append L, findLastSOL_enc (Or.inl rfl) hL]
  rfl

theorem moveDotUp_prev (E : Env) {T P Q B R : List Nat} (hT : T = P ++ Q ++ [10] ++ B ++ R)
    (hv : VR (P ++ Q ++ [10] ++ B)) (hP : LineStart P) (hQ : ∀ r ∈ Q, r ≠ 10) (hB : ∀ r ∈ B, r ≠ 10) :
    moveDotUp E (enc T) (blen (P ++ Q ++ [10] ++ B)) =
      .ok (blen (P ++ trimRunes E (widthSum E B) 0 Q)) := by
  have hprev : blen (P ++ Q ++ [10]) - 1 = blen (P ++ Q) := by rw [blen_snoc_nl]; omega
  have hT' : T = P ++ Q ++ ([10] ++ B ++ R) := by rw [hT]; simp
  unfold moveDotUp
  rw [slice_enc_left hT, ok_bind, findLastSOL_enc (Or.inr ⟨P ++ Q, rfl⟩) hB,
    if_neg (by rw [show (((enc (P ++ Q ++ [10])).length : Nat) : Int) = blen (P ++ Q) + 1 from blen_snoc_nl _]
               simp only [blen]; omega)]
  show (slice (enc T) 0 (blen (P ++ Q ++ [10]) - 1) >>= _) = _
  rw [hprev, slice_enc_left hT', ok_bind, findLastSOL_enc hP hQ]
  show (slice (enc T) (blen (P ++ Q ++ [10])) (blen (P ++ Q ++ [10] ++ B)) >>= _) = _
  rw [slice_enc_mid hT, ok_bind, wcOf_enc E B hv.right]
  show (slice (enc T) (blen P) (blen (P ++ Q)) >>= _) = _
  rw [slice_enc_mid hT', ok_bind, wcTrim_enc E Q hv.left.left.right, ok_bind, pure_eq_ok, blen_append]

theorem moveDotDown_last (E : Env) {T L R : List Nat} (hT : T = L ++ R) (hR : ∀ r ∈ R, r ≠ 10) :
    moveDotDown E (enc T) (blen L) = .ok (blen L) := by
  unfold moveDotDown
  rw [slice_enc_right hT, ok_bind, ← List.append_nil R, findFirstEOL_enc hR (Or.inl rfl),
    if_pos (by rw [hT, enc_append, List.length_append]; simp only [blen]; omega)]
  rfl

theorem moveDotDown_next (E : Env) {T X B F N Z : List Nat} (hT : T = X ++ B ++ (F ++ 10 :: (N ++ Z)))
    (hv : VR T) (hX : LineStart X) (hB : ∀ r ∈ B, r ≠ 10) (hF : ∀ r ∈ F, r ≠ 10)
    (hN : ∀ r ∈ N, r ≠ 10) (hZ : Z = [] ∨ ∃ t, Z = 10 :: t) :
    moveDotDown E (enc T) (blen (X ++ B)) =
      .ok (blen (X ++ B ++ F ++ [10] ++ trimRunes E (widthSum E B) 0 N)) := by
  have hT1 : T = X ++ B ++ F ++ [10] ++ N ++ Z := by rw [hT]; simp
  have hT2 : T = X ++ B ++ F ++ [10] ++ (N ++ Z) := by rw [hT]; simp
  have hT3 : T = X ++ B ++ (F ++ 10 :: (N ++ Z)) := hT
  have hvN : VR N := by rw [hT1] at hv; exact hv.left.right
  have hvB : VR B := by rw [hT] at hv; exact hv.left.right
  have hnext : ((enc F).length : Int) + blen (X ++ B) + 1 = blen (X ++ B ++ F ++ [10]) := by
    rw [blen_snoc_nl, blen_append (X ++ B)]; simp only [blen]; omega
  unfold moveDotDown
  rw [slice_enc_right hT, ok_bind, findFirstEOL_enc hF (Or.inr ⟨_, rfl⟩),
    if_neg (by have := blen_lt_of_append (X ++ B ++ F) (10 :: (N ++ Z)) (by simp)
               rw [blen_append (X ++ B)] at this
               rw [show enc T = enc (X ++ B ++ F ++ 10 :: (N ++ Z)) by rw [hT]; simp]
               simp only [blen] at *; omega)]
  show (slice (enc T) (((enc F).length : Int) + blen (X ++ B) + 1) _ >>= _) = _
  rw [hnext, slice_enc_right hT2, ok_bind, findFirstEOL_enc hN hZ, slice_enc_left hT3, ok_bind,
    findLastSOL_enc hX hB]
  show (slice (enc T) (blen X) (blen (X ++ B)) >>= _) = _
  rw [slice_enc_mid hT3, ok_bind, wcOf_enc E B hvB]
  show (slice (enc T) (blen (X ++ B ++ F ++ [10]))
    (((enc N).length : Int) + blen (X ++ B ++ F ++ [10])) >>= _) = _
  rw [show ((enc N).length : Int) + blen (X ++ B ++ F ++ [10]) = blen (X ++ B ++ F ++ [10] ++ N) by
        rw [blen_append _ N]; simp only [blen]; omega,
    slice_enc_mid hT1, ok_bind, wcTrim_enc E N hvN, ok_bind, pure_eq_ok, blen_append _ (trimRunes _ _ _ _)]

theorem lines_left (L : List Nat) : (∀ r ∈ L, r ≠ 10) ∨
    ∃ P Q B, L = P ++ Q ++ [10] ++ B ∧ LineStart P ∧ (∀ r ∈ Q, r ≠ 10) ∧ (∀ r ∈ B, r ≠ 10) := by
  have hs : beforeLastLine L ++ lastLine L = L := dropEndWhile_append_takeEndWhile _ L
  rcases beforeLastLine_lineStart L with h | ⟨A, h⟩
  · left; rw [← hs, h]; exact lastLine_no_nl L
  · right
    refine ⟨beforeLastLine A, lastLine A, lastLine L, ?_, beforeLastLine_lineStart A, lastLine_no_nl A,
      lastLine_no_nl L⟩
    rw [show beforeLastLine A ++ lastLine A = A from dropEndWhile_append_takeEndWhile _ A, ← h, hs]

theorem lines_right (R : List Nat) : (∀ r ∈ R, r ≠ 10) ∨
    ∃ F N Z, R = F ++ 10 :: (N ++ Z) ∧ (∀ r ∈ F, r ≠ 10) ∧ (∀ r ∈ N, r ≠ 10) ∧ (Z = [] ∨ ∃ t, Z = 10 :: t) := by
  have hs : firstLine R ++ afterFirstLine R = R := List.takeWhile_append_dropWhile
  rcases afterFirstLine_head R with h | ⟨t, h⟩
  · left; rw [← hs, h, List.append_nil]; exact firstLine_no_nl R
  · right
    refine ⟨firstLine R, firstLine t, afterFirstLine t, ?_, firstLine_no_nl R, firstLine_no_nl t,
      afterFirstLine_head t⟩
    rw [show firstLine t ++ afterFirstLine t = t from List.takeWhile_append_dropWhile, ← h, hs]

end C28
