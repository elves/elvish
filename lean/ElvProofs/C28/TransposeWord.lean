/-
`transposeGeneralWord` on a zipper: every offset it computes is a split of the rune list, found by
moving left or right from an earlier one, and the output is the input with two of the pieces
between those splits exchanged (or the input itself).
-/
import ElvProofs.C28.Transpose
namespace C28
open Go

/-- the last five slice expressions of `transposeGeneralWord`, for the offsets of `a l m r z` -/
theorem swap_slices {T a l m r z : List Nat} (hT : T = a ++ l ++ m ++ r ++ z) :
    (do let a' ← slice (enc T) 0 (blen a)
        let r' ← slice (enc T) (blen (a ++ l ++ m)) (blen (a ++ l ++ m ++ r))
        let m' ← slice (enc T) (blen (a ++ l)) (blen (a ++ l ++ m))
        let l' ← slice (enc T) (blen a) (blen (a ++ l))
        let z' ← slice (enc T) (blen (a ++ l ++ m ++ r)) ((enc T).length : Int)
        pure (a' ++ r' ++ m' ++ l' ++ z', blen (a ++ l ++ m ++ r))) =
      Res.ok (enc (a ++ r ++ m ++ l ++ z), blen (a ++ r ++ m ++ l)) := by
  rw [slice_enc_left (A := a) (S := l ++ m ++ r ++ z) (by rw [hT]; simp only [List.append_assoc]), ok_bind,
    slice_enc_mid hT, ok_bind,
    slice_enc_mid (A := a ++ l) (B := m) (C := r ++ z) (by rw [hT]; simp only [List.append_assoc]), ok_bind,
    slice_enc_mid (A := a) (B := l) (C := m ++ r ++ z) (by rw [hT]; simp only [List.append_assoc]), ok_bind,
    slice_enc_right hT, ok_bind, pure_eq_ok]
  simp only [enc_append, blen_append]
  congr 2
  omega

/-- the part of `transposeGeneralWord` after `rightEnd` has been found (both branches of the
`if` that computes `rightEnd` continue here) -/
def tgwTail (cat : Categorizer) (buffer : Bytes) (dot : Int) (rightEnd : Int) : Res (Bytes × Int) := do
  let rightStart ← skipSameCatLeft cat buffer rightEnd
  let leftEnd ← skipWsLeft cat buffer rightStart
  if leftEnd = 0 then
    let leftStart := rightStart
    let leftEnd := rightEnd
    let rightStart ← skipWsRight cat buffer leftEnd
    if rightStart = buffer.length then pure (buffer, dot)
    else
      let rightEnd ← skipSameCatRight cat buffer rightStart
      let a ← slice buffer 0 leftStart
      let r ← slice buffer rightStart rightEnd
      let m ← slice buffer leftEnd rightStart
      let l ← slice buffer leftStart leftEnd
      let z ← slice buffer rightEnd buffer.length
      pure (a ++ r ++ m ++ l ++ z, rightEnd)
  else
    let leftStart ← skipSameCatLeft cat buffer leftEnd
    let a ← slice buffer 0 leftStart
    let r ← slice buffer rightStart rightEnd
    let m ← slice buffer leftEnd rightStart
    let l ← slice buffer leftStart leftEnd
    let z ← slice buffer rightEnd buffer.length
    pure (a ++ r ++ m ++ l ++ z, rightEnd)

theorem transposeGeneralWord_eq (cat : Categorizer) (buffer : Bytes) (dot : Int) :
    transposeGeneralWord cat buffer dot = (do
      let trimmed ← trimFunc (fun r => cat r == 0) buffer
      if trimmed = [] then pure (buffer, dot)
      else
        let pos ← skipWsRight cat buffer dot
        let rightEnd ←
          if pos = buffer.length then skipWsLeft cat buffer pos
          else skipSameCatRight cat buffer pos
        tgwTail cat buffer dot rightEnd) := by
  rfl

theorem tgwTail_zip (cat : Categorizer) {T L R P2 S2 : List Nat} (hLR : T = L ++ R) (hT : T = P2 ++ S2)
    (hP : VR P2) (hS : VR S2) : Swapped T (tgwTail cat (enc T) (blen L) (blen P2)) := by
  unfold tgwTail skipWsLeft skipWsRight
  obtain ⟨P3, rr, -, rfl, -, -, -, -, h3⟩ := skipSameCatLeft_spec cat hT hP
  rw [h3, ok_bind]
  obtain ⟨P4, mm, rfl, -, -, h4⟩ :=
    skipCatLeft_spec cat 0 (T := T) (S := rr ++ S2) (by rw [hT, List.append_assoc]) hP.left
  rw [h4, ok_bind]
  by_cases hz : blen P4 = 0
  · -- the word found is the first one: it is the left word, the right word is the next one
    obtain rfl := blen_inj_nil.1 hz
    rw [if_pos hz]
    dsimp only
    obtain ⟨W, S3, rfl, -, -, h5⟩ := skipCatRight_spec cat 0 hT hS
    rw [h5, ok_bind]
    by_cases hend : blen ([] ++ mm ++ rr ++ W) = ((enc T).length : Int)
    · rw [if_pos hend]; subst hLR; exact .unchanged rfl
    · rw [if_neg hend]
      obtain ⟨C, Z, -, rfl, -, -, -, -, h6⟩ := skipSameCatRight_spec cat (T := T) (P := [] ++ mm ++ rr ++ W)
        (by rw [hT]; simp only [List.append_assoc]) hS.right
      rw [h6, ok_bind]
      have hT' : T = [] ++ mm ++ rr ++ W ++ C ++ Z := by rw [hT]; simp only [List.append_assoc]
      exact ⟨[] ++ mm, rr, W, C, Z, hT', swap_slices hT'⟩
  · rw [if_neg hz]
    obtain ⟨P5, ll, -, rfl, -, -, -, -, h7⟩ := skipSameCatLeft_spec cat (T := T) (S := mm ++ (rr ++ S2))
      (by rw [hT]; simp only [List.append_assoc]) hP.left.left
    rw [h7, ok_bind]
    exact ⟨P5, ll, mm, rr, S2, hT, swap_slices hT⟩

theorem transposeGeneralWord_zip (cat : Categorizer) (L R : List Nat) (hL : VR L) (hR : VR R) :
    Swapped (L ++ R) (transposeGeneralWord cat (enc (L ++ R)) (blen L)) := by
  have hTv : VR (L ++ R) := hL.append hR
  rw [transposeGeneralWord_eq, trimFunc_enc _ (L ++ R) hTv, ok_bind]
  by_cases htrim : enc (dropEndWhile (fun r => cat r == 0) (List.dropWhile (fun r => cat r == 0) (L ++ R))) = []
  · rw [if_pos htrim]; exact .unchanged rfl
  rw [if_neg htrim]
  unfold skipWsRight skipWsLeft
  -- `rightEnd` is a split `P2 ++ S2` of the runes; the rest is `tgwTail`
  obtain ⟨W, R1, hR1, -, -, hpos⟩ := skipCatRight_spec cat 0 (T := L ++ R) rfl hR
  rw [hpos, ok_bind]
  have hT1 : L ++ R = (L ++ W) ++ R1 := by rw [hR1, List.append_assoc]
  rw [hR1] at hR
  by_cases hend : blen (L ++ W) = ((enc (L ++ R)).length : Int)
  · obtain ⟨P2, X, hX, -, -, h2⟩ := skipCatLeft_spec cat 0 hT1 (hL.append hR.left)
    have hT2 : L ++ R = P2 ++ (X ++ R1) := by rw [← List.append_assoc, ← hX]; exact hT1
    rw [if_pos hend, h2, ok_bind]
    exact tgwTail_zip cat rfl hT2 (hT2 ▸ hTv).left (hT2 ▸ hTv).right
  · obtain ⟨C, R2, -, hR2, -, -, -, -, h2⟩ := skipSameCatRight_spec cat hT1 hR.right
    have hT2 : L ++ R = (L ++ W ++ C) ++ R2 := by rw [List.append_assoc (L ++ W), ← hR2]; exact hT1
    rw [if_neg hend, h2, ok_bind]
    exact tgwTail_zip cat rfl hT2 (hT2 ▸ hTv).left (hT2 ▸ hTv).right

theorem Transformer.fn_zip (E : Env) (t : Transformer) (L R : List Nat) (hL : VR L) (hR : VR R) :
    Swapped (L ++ R) (t.fn E (enc (L ++ R)) (blen L)) := by
  cases t with
  | rune => exact transposeRunes_zip L R hL hR
  | word => exact transposeGeneralWord_zip _ L R hL hR
  | smallWord => exact transposeGeneralWord_zip _ L R hL hR
  | alnumWord => exact transposeGeneralWord_zip _ L R hL hR

theorem Transformer.swap (E : Env) (t : Transformer) (buf : Bytes) (dot : Int) (h : Boundary buf dot) :
    ∃ a l m r z : Bytes,
      buf = a ++ l ++ m ++ r ++ z ∧
      validUtf8 a = true ∧ validUtf8 l = true ∧ validUtf8 m = true ∧ validUtf8 r = true ∧ validUtf8 z = true ∧
      t.fn E buf dot = .ok (a ++ r ++ m ++ l ++ z, ((a ++ r ++ m ++ l).length : Int)) := by
  obtain ⟨L, R, hL, hR, rfl, rfl⟩ := h.zipper
  obtain ⟨a, l, m, r, z, h1, h2⟩ := t.fn_zip E L R hL hR
  refine ⟨enc a, enc l, enc m, enc r, enc z, ?_, validUtf8_enc a, validUtf8_enc l, validUtf8_enc m,
    validUtf8_enc r, validUtf8_enc z, ?_⟩
  · simp only [← enc_append, h1]
  · simp only [← enc_append]; exact h2

end C28
