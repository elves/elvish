/-
Key / paste / command events on the code area preserve the invariant and edit exactly.
-/
import ElvProofs.C28.TransposeWord
namespace C28
open Go

theorem insertAtDot_spec (c : CodeBuffer) (text : Bytes) (h : Boundary c.content c.dot)
    (ht : validUtf8 text = true) :
    insertAtDot c text = .ok ⟨c.content.take c.dot.toNat ++ text ++ c.content.drop c.dot.toNat,
      c.dot + (text.length : Int)⟩ ∧
    Boundary (c.content.take c.dot.toNat ++ text ++ c.content.drop c.dot.toNat) (c.dot + (text.length : Int)) := by
  obtain ⟨s1, s2⟩ := h.slices
  constructor
  · unfold insertAtDot; rw [s1, s2]; rfl
  · obtain ⟨h0, h1, v1, v2⟩ := h
    have := boundary_concat (c.content.take c.dot.toNat ++ text) (c.content.drop c.dot.toNat)
      (validUtf8_append v1 ht) v2
    rw [List.length_append, List.length_take, Nat.min_eq_left (by omega), Int.natCast_add,
      Int.toNat_of_nonneg h0] at this
    exact this

theorem inv_reset {s : State} (h : Inv s) : Inv (resetInserts s) :=
  ⟨h.bnd, ⟨[], by simp [resetInserts]⟩, h.paste⟩

theorem handlePasteSetting_spec (S : Spec) (hS : SpecOK S) (s : State) (h : Inv s) (start : Bool) :
    ∃ s', handlePasteSetting S s start = .ok s' ∧ Inv s' ∧
      (start = true → s'.buffer = s.buffer ∧ s'.pasting = true ∧ s'.pasteBuffer = s.pasteBuffer) ∧
      (start = false →
        let text := if S.quotePaste then S.quote s.pasteBuffer else s.pasteBuffer
        s'.buffer = ⟨s.buffer.content.take s.buffer.dot.toNat ++ text ++ s.buffer.content.drop s.buffer.dot.toNat,
          s.buffer.dot + (text.length : Int)⟩ ∧ s'.pasting = false ∧ s'.pasteBuffer = []) := by
  unfold handlePasteSetting
  cases start with
  | true =>
    refine ⟨{ resetInserts s with pasting := true }, by simp, ?_, by simp [resetInserts], by simp⟩
    exact ⟨h.bnd, ⟨[], by simp [resetInserts]⟩, h.paste⟩
  | false =>
    have htext : validUtf8 (if S.quotePaste then S.quote s.pasteBuffer else s.pasteBuffer) = true := by
      split
      · exact hS.quote _ h.paste
      · exact h.paste
    obtain ⟨e1, e2⟩ := insertAtDot_spec s.buffer _ h.bnd htext
    simp only [Bool.false_eq_true, if_false, ok_bind, resetInserts]
    rw [e1]
    refine ⟨_, rfl, ⟨e2, ⟨[], by simp⟩, rfl⟩, by simp, ?_⟩
    intro _; exact ⟨rfl, rfl, rfl⟩

theorem Cmd.boundary (E : Env) (c : Cmd) (buf : Bytes) (dot : Int) (h : Boundary buf dot) :
    ∃ buf' dot', c.fn E buf dot = .ok (buf', dot') ∧ Boundary buf' dot' := by
  cases c with
  | move m =>
    obtain ⟨d', h1, h2⟩ := m.boundary E buf dot h
    exact ⟨buf, d', by simp [Cmd.fn, makeMove, h1], h2⟩
  | kill m =>
    obtain ⟨d', -, h1, h2⟩ := m.kill E buf dot h
    exact ⟨_, _, h1, h2⟩
  | transform t =>
    obtain ⟨a, l, m, r, z, h1, va, vl, vm, vr, vz, h2⟩ := t.swap E buf dot h
    refine ⟨_, _, h2, ?_⟩
    have := boundary_concat (a ++ r ++ m ++ l) z
      (validUtf8_append (validUtf8_append (validUtf8_append va vr) vm) vl) vz
    exact this

theorem hasSuffix_split (s a : Bytes) (h : hasSuffix s a = true) : ∃ q, s = q ++ a := by
  unfold hasSuffix at h
  simp only [Bool.and_eq_true, decide_eq_true_eq, beq_iff_eq] at h
  exact ⟨s.take (s.length - a.length), by
    have := List.take_append_drop (s.length - a.length) s
    rw [h.2] at this; exact this.symm⟩

/-- state between the insertion of `str` and the end of `handleKeyEvent` -/
structure Mid (s : State) (str : Bytes) : Prop where
  bnd : Boundary s.buffer.content s.buffer.dot
  ins : ∃ p, s.buffer.content.take s.buffer.dot.toNat = p ++ s.inserts
  ends : s.inserts = [] ∨ ∃ q, s.inserts = q ++ str
  last : s.last = s.buffer ∨ (s.inserts = [] ∧ s.last = ⟨[], 0⟩)
  paste : validUtf8 s.pasteBuffer = true

theorem Mid.inv {s : State} {str : Bytes} (h : Mid s str) : Inv s := by
  refine ⟨h.bnd, ?_, h.paste⟩
  rcases h.last with hl | ⟨hi, hl⟩
  · rw [hl]; exact h.ins
  · rw [hi, hl]; exact ⟨[], by simp⟩

theorem mid_reset {s : State} {str : Bytes} (buf : CodeBuffer) (hb : Boundary buf.content buf.dot)
    (hp : validUtf8 s.pasteBuffer = true) :
    Mid (resetInserts { s with buffer := buf }) str :=
  ⟨hb, ⟨buf.content.take buf.dot.toNat, by simp [resetInserts]⟩, Or.inl rfl, Or.inr ⟨rfl, rfl⟩, hp⟩

theorem longestSimple_spec (inserts : Bytes) (l : List (Bytes × Bytes)) (acc : Bytes × Bytes) :
    longestSimple inserts l acc = acc ∨
      (longestSimple inserts l acc ∈ l ∧ hasSuffix inserts (longestSimple inserts l acc).1 = true) := by
  induction l generalizing acc with
  | nil => left; rfl
  | cons p l ih =>
    obtain ⟨a, f⟩ := p
    unfold longestSimple
    split
    · rename_i hc
      simp only [Bool.and_eq_true, decide_eq_true_eq] at hc
      rcases ih (a, f) with h | ⟨h1, h2⟩
      · right; rw [h]; exact ⟨by simp, hc.1⟩
      · right; exact ⟨by simp [h1], h2⟩
    · rcases ih acc with h | ⟨h1, h2⟩
      · left; exact h
      · right; exact ⟨by simp [h1], h2⟩

theorem valid_replace {x a w f : Bytes} (hv : validUtf8 (x ++ a ++ w) = true) (va : validUtf8 a = true)
    (vw : validUtf8 w = true) (vf : validUtf8 f = true) :
    validUtf8 (x ++ f) = true ∧ validUtf8 (x ++ f ++ w) = true := by
  have vx := valid_of_valid_append x a (valid_of_valid_append (x ++ a) w hv vw) va
  exact ⟨validUtf8_append vx vf, validUtf8_append (validUtf8_append vx vf) vw⟩

theorem boundary_end {a : Bytes} (ha : validUtf8 a = true) : Boundary a (a.length : Int) := by
  simpa using boundary_concat a [] ha rfl

theorem expandSimpleAbbr_spec (S : Spec) (hS : SpecOK S) (s : State) (str : Bytes) (h : Mid s str) :
    ∃ s', expandSimpleAbbr S s = .ok s' ∧ Mid s' str ∧
      (s' = s ∨ ∃ a f x, (a, f) ∈ S.simple ∧ a ≠ [] ∧ s.buffer.content.take s.buffer.dot.toNat = x ++ a ∧
        s'.buffer = ⟨x ++ f ++ s.buffer.content.drop s.buffer.dot.toNat, ((x ++ f).length : Int)⟩ ∧
        s'.inserts = []) := by
  unfold expandSimpleAbbr
  rcases longestSimple_spec s.inserts S.simple ([], []) with hr | ⟨hmem, hsuf⟩
  · rw [hr]; exact ⟨s, by simp, h, Or.inl rfl⟩
  · generalize longestSimple s.inserts S.simple ([], []) = res at hmem hsuf
    obtain ⟨a, f⟩ := res
    simp only
    by_cases hlen : a.length > 0
    · rw [if_pos hlen]
      obtain ⟨q, hq⟩ := hasSuffix_split _ _ hsuf
      obtain ⟨p, hp⟩ := h.ins
      obtain ⟨h0, h1, v1, v2⟩ := h.bnd
      have hsplit : s.buffer.content.take s.buffer.dot.toNat = (p ++ q) ++ a := by
        rw [hp, hq]; simp
      have hdotlen : s.buffer.dot.toNat = (p ++ q).length + a.length := by
        have := congrArg List.length hsplit
        rw [List.length_take, List.length_append] at this; omega
      have hcontent : s.buffer.content = (p ++ q) ++ (a ++ s.buffer.content.drop s.buffer.dot.toNat) := by
        rw [← List.append_assoc, ← hsplit, List.take_append_drop]
      have s1 : slice s.buffer.content 0 (s.buffer.dot - (a.length : Int)) = .ok (p ++ q) :=
        slice_prefix hcontent (by omega)
      have s2 := h.bnd.slices.2
      rw [s1, s2]
      simp only [ok_bind, pure_eq_ok]
      obtain ⟨va, vf⟩ := hS.simple (a, f) hmem
      have hb := boundary_concat _ _
        (valid_replace (by rw [List.append_assoc, ← hcontent]; exact h.bnd.valid) va v2 vf).1 v2
      have hd : s.buffer.dot - (a.length : Int) + (f.length : Int) = ((p ++ q ++ f).length : Int) := by
        rw [List.length_append]; omega
      rw [hd]
      refine ⟨_, rfl, mid_reset ⟨_, _⟩ hb h.paste, Or.inr ⟨a, f, p ++ q, hmem, ?_, hsplit, rfl, rfl⟩⟩
      intro e; rw [e] at hlen; simp at hlen
    · rw [if_neg hlen]; exact ⟨s, by simp, h, Or.inl rfl⟩

/-- one round of the callback loop of `expandSmallWordAbbr`; its slice expression does not panic -/
theorem longestSmallWord_cons (cat : Categorizer) (content inserts : Bytes) (trigger tl : Nat)
    (a f : Bytes) (l : List (Bytes × Bytes)) (acc : Bytes × Bytes) :
    longestSmallWord cat content inserts trigger tl ((a, f) :: l) acc =
        longestSmallWord cat content inserts trigger tl l acc ∨
      (hasSuffix inserts a = true ∧
        longestSmallWord cat content inserts trigger tl ((a, f) :: l) acc =
          longestSmallWord cat content inserts trigger tl l (a, f)) := by
  rw [longestSmallWord]
  by_cases h1 : a.length ≤ acc.1.length
  · left; rw [if_pos h1]
  rw [if_neg h1]
  by_cases h2 : hasSuffix inserts a = false
  · left; rw [if_pos (by rw [h2]; rfl)]
  have h2 : hasSuffix inserts a = true := by simpa using h2
  rw [if_neg (by rw [h2]; decide)]
  by_cases h3 : (cat trigger == cat (decodeLastRune a).1) = true
  · left; rw [if_pos h3]
  rw [if_neg h3]
  by_cases h4 : content.length > a.length + tl
  · rw [if_pos h4, slice_take content (by omega) (by omega), ok_bind]
    by_cases h5 : (cat (decodeLastRune (content.take ((content.length : Int) - a.length - tl).toNat)).1 ==
        cat (decodeRune a).1) = true
    · left; rw [if_pos h5]
    · right; rw [if_neg h5]; exact ⟨h2, rfl⟩
  · right; rw [if_neg h4]; exact ⟨h2, rfl⟩

theorem longestSmallWord_spec (cat : Categorizer) (content inserts : Bytes) (trigger tl : Nat)
    (l : List (Bytes × Bytes)) (acc : Bytes × Bytes) :
    ∃ res, longestSmallWord cat content inserts trigger tl l acc = .ok res ∧
      (res = acc ∨ (res ∈ l ∧ hasSuffix inserts res.1 = true)) := by
  induction l generalizing acc with
  | nil => exact ⟨acc, rfl, Or.inl rfl⟩
  | cons p l ih =>
    obtain ⟨a, f⟩ := p
    rcases longestSmallWord_cons cat content inserts trigger tl a f l acc with e | ⟨hsuf, e⟩
    · obtain ⟨res, h1, h2⟩ := ih acc
      exact ⟨res, e ▸ h1, h2.imp id fun ⟨h2, h3⟩ => ⟨List.mem_cons_of_mem _ h2, h3⟩⟩
    · obtain ⟨res, h1, h2⟩ := ih (a, f)
      refine ⟨res, e ▸ h1, Or.inr ?_⟩
      rcases h2 with rfl | ⟨h2, h3⟩
      · exact ⟨List.mem_cons_self, hsuf⟩
      · exact ⟨List.mem_cons_of_mem _ h2, h3⟩

theorem expandSmallWordAbbr_spec (S : Spec) (hS : SpecOK S) (s : State) (trigger : Nat) (cat : Categorizer)
    (h : Mid s (encodeRune trigger)) :
    ∃ s', expandSmallWordAbbr S s trigger cat = .ok s' ∧ Mid s' (encodeRune trigger) ∧
      (s' = s ∨ ∃ a f x, (a, f) ∈ S.smallWord ∧ a ≠ [] ∧
        s.buffer.dot = s.buffer.content.length ∧
        s.buffer.content = x ++ a ++ encodeRune trigger ∧
        s'.buffer = ⟨x ++ f ++ encodeRune trigger, ((x ++ f ++ encodeRune trigger).length : Int)⟩ ∧
        s'.inserts = []) := by
  unfold expandSmallWordAbbr
  simp only [pure_eq_ok]
  by_cases hdot : s.buffer.dot < s.buffer.content.length
  · rw [if_pos hdot]; exact ⟨s, rfl, h, Or.inl rfl⟩
  rw [if_neg hdot]
  by_cases htl : (encodeRune trigger).length ≥ s.inserts.length
  · rw [if_pos htl]; exact ⟨s, rfl, h, Or.inl rfl⟩
  rw [if_neg htl]
  obtain ⟨h0, h1, v1, v2⟩ := h.bnd
  have hdoteq : s.buffer.dot = s.buffer.content.length := by omega
  obtain ⟨q, hq⟩ : ∃ q, s.inserts = q ++ encodeRune trigger := by
    rcases h.ends with he | he
    · rw [he] at htl; simp at htl
    · exact he
  have sins : slice s.inserts 0 ((s.inserts.length : Int) - ((encodeRune trigger).length : Int)) = .ok q :=
    slice_prefix hq (by rw [hq, List.length_append]; omega)
  rw [sins]
  simp only [ok_bind]
  obtain ⟨res, hres, hcase⟩ := longestSmallWord_spec cat s.buffer.content q trigger (encodeRune trigger).length
    S.smallWord ([], [])
  rw [hres]
  simp only [ok_bind]
  obtain ⟨a, f⟩ := res
  simp only
  by_cases hlen : a.length > 0
  · rw [if_pos hlen]
    rcases hcase with hc | ⟨hmem, hsuf⟩
    · injection hc with e1 _; rw [e1] at hlen; simp at hlen
    · obtain ⟨q', hq'⟩ := hasSuffix_split _ _ hsuf
      obtain ⟨p, hp⟩ := h.ins
      have htake : s.buffer.content.take s.buffer.dot.toNat = s.buffer.content := by
        apply List.take_of_length_le; omega
      have hcontent : s.buffer.content = (p ++ q') ++ a ++ encodeRune trigger := by
        rw [← htake, hp, hq, hq']; simp
      have hl := congrArg List.length hcontent
      simp only [List.length_append] at hl
      have s1 : slice s.buffer.content 0 (s.buffer.dot - (a.length : Int) - ((encodeRune trigger).length : Int)) =
          .ok (p ++ q') :=
        slice_prefix (c := a ++ encodeRune trigger) (by rw [hcontent, List.append_assoc])
          (by rw [List.length_append]; omega)
      rw [s1]
      simp only [ok_bind]
      obtain ⟨va, vf⟩ := hS.smallWord (a, f) hmem
      have hb := boundary_end (valid_replace (by rw [← hcontent, ← htake]; exact v1) va
        (validUtf8_encodeRune trigger) vf).2
      have hd : s.buffer.dot - (a.length : Int) + (f.length : Int) =
          ((p ++ q' ++ f ++ encodeRune trigger).length : Int) := by
        simp only [List.length_append]; omega
      rw [hd]
      refine ⟨_, rfl, mid_reset ⟨_, _⟩ hb h.paste, Or.inr ⟨a, f, p ++ q', hmem, ?_, hdoteq, hcontent, rfl, rfl⟩⟩
      intro e; rw [e] at hlen; simp at hlen
  · rw [if_neg hlen]; exact ⟨s, rfl, h, Or.inl rfl⟩

theorem runeTriples_append (off : Nat) (A B : List Nat) :
    runeTriples off (A ++ B) = runeTriples off A ++ runeTriples (off + (enc A).length) B := by
  induction A generalizing off with
  | nil => simp [runeTriples]
  | cons r A ih =>
    simp only [List.cons_append, runeTriples, ih, enc_cons, List.length_append, Nat.add_assoc]

theorem sum_sizes_takeWhile_rev (p : Nat → Bool) (M : List Nat) (off : Nat) :
    (((runeTriples off M.reverse).reverse.takeWhile (fun x => p x.2.1)).map (·.2.2)).sum =
      (enc ((M.takeWhile p).reverse)).length := by
  induction M generalizing off with
  | nil => simp [runeTriples]
  | cons r M ih =>
    simp only [List.reverse_cons, runeTriples_append, runeTriples, List.reverse_append, List.reverse_nil,
      List.nil_append, List.singleton_append, List.reverse_cons]
    by_cases hp : p r = true
    · simp only [List.takeWhile_cons, hp, if_true, List.map_cons, List.sum_cons, List.reverse_cons, enc_append,
        enc_singleton, List.length_append]
      have := ih off
      omega
    · simp [List.takeWhile_cons, hp]

theorem commandMatch_spec (E : Env) (T : List Nat) (hT : VR T) (c w : Bytes)
    (h : commandMatch E (enc T) = some (c, w)) :
    ∃ Pre Cmd wr, T = Pre ++ Cmd ++ [wr] ∧ c = enc Cmd ∧ w = enc [wr] ∧ (enc [wr]).length = 1 := by
  unfold commandMatch at h
  rw [runes_enc T hT] at h
  rcases List.eq_nil_or_concat T with rfl | ⟨T0, wr, rfl⟩
  · simp [runeTriples] at h
  · rw [List.concat_eq_append] at h hT ⊢
    rw [runeTriples_append] at h
    simp only [runeTriples, List.reverse_append, List.reverse_cons, List.reverse_nil, List.nil_append,
      List.singleton_append] at h
    by_cases hsp : reSpace wr = true
    · simp only [hsp, Bool.not_true, Bool.false_eq_true, if_false] at h
      split at h
      · cases h
      · split at h
        · injection h with h; injection h with h1 h2
          have hwr : wr < 0x80 := by
            unfold reSpace at hsp
            simp only [Bool.or_eq_true, beq_iff_eq] at hsp
            unfold Rune at hsp
            omega
          have hwlen : (encodeRune wr).length = 1 := (encodeRune_length_eq_one_iff wr).2 hwr
          have hsum := sum_sizes_takeWhile_rev (cmdChar E) T0.reverse 0
          rw [List.reverse_reverse] at hsum
          have hsplit := dropEndWhile_append_takeEndWhile (cmdChar E) T0
          have htk : (T0.reverse.takeWhile (cmdChar E)).reverse = takeEndWhile (cmdChar E) T0 := rfl
          rw [htk] at hsum
          refine ⟨dropEndWhile (cmdChar E) T0, takeEndWhile (cmdChar E) T0, wr, by rw [hsplit], ?_, ?_, ?_⟩
          · rw [← h1, hsum, hwlen]
            have : enc (T0 ++ [wr]) = enc (dropEndWhile (cmdChar E) T0) ++
                (enc (takeEndWhile (cmdChar E) T0) ++ enc [wr]) := by
              conv => lhs; rw [← hsplit]
              simp
            rw [this]
            have hl : (enc (dropEndWhile (cmdChar E) T0) ++ (enc (takeEndWhile (cmdChar E) T0) ++ enc [wr])).length - 1 -
                (enc (takeEndWhile (cmdChar E) T0)).length = (enc (dropEndWhile (cmdChar E) T0)).length := by
              simp only [List.length_append, enc_singleton, hwlen]; omega
            rw [hl, List.drop_left' rfl, List.take_left' rfl]
          · rw [← h2, hwlen]
            have : (enc (T0 ++ [wr])).length - 1 = (enc T0).length := by
              simp only [enc_append, enc_singleton, List.length_append, hwlen]; omega
            rw [this, enc_append, List.drop_left' rfl]
          · rw [enc_singleton]; exact hwlen
        · cases h
    · simp [hsp] at h

theorem findCommand_spec (command : Bytes) (l : List (Bytes × Bytes)) (acc : Bytes) :
    findCommand command l acc = acc ∨ (command, findCommand command l acc) ∈ l := by
  induction l generalizing acc with
  | nil => left; rfl
  | cons p l ih =>
    obtain ⟨a, e⟩ := p
    unfold findCommand
    split
    · rename_i heq
      have : a = command := by simpa using heq
      rcases ih e with h | h
      · right; rw [h, this]; simp
      · right; simp [h]
    · rcases ih acc with h | h
      · left; exact h
      · right; simp [h]

theorem expandCommandAbbr_spec (E : Env) (S : Spec) (hS : SpecOK S) (s : State) (str : Bytes) (h : Mid s str) :
    ∃ s', expandCommandAbbr E S s = .ok s' ∧ Mid s' str ∧
      (s' = s ∨ ∃ a e x w, (a, e) ∈ S.command ∧ e ≠ [] ∧
        s.buffer.dot = s.buffer.content.length ∧ w.length = 1 ∧
        s.buffer.content = x ++ a ++ w ∧
        s'.buffer = ⟨x ++ e ++ w, ((x ++ e ++ w).length : Int)⟩ ∧
        s'.inserts = []) := by
  unfold expandCommandAbbr
  simp only [pure_eq_ok]
  by_cases hdot : s.buffer.dot < s.buffer.content.length
  · rw [if_pos hdot]; exact ⟨s, rfl, h, Or.inl rfl⟩
  rw [if_neg hdot]
  obtain ⟨h0, h1, v1, v2⟩ := h.bnd
  have hdoteq : s.buffer.dot = s.buffer.content.length := by omega
  cases hm : commandMatch E s.buffer.content with
  | none => exact ⟨s, rfl, h, Or.inl rfl⟩
  | some cw =>
    obtain ⟨c, w⟩ := cw
    simp only
    by_cases hexp : findCommand c S.command [] = []
    · rw [if_pos hexp]; exact ⟨s, rfl, h, Or.inl rfl⟩
    · rw [if_neg hexp]
      have hvalid : validUtf8 s.buffer.content = true := h.bnd.valid
      obtain ⟨T, hT, eT⟩ := valid_exists_runes _ hvalid
      rw [eT] at hm
      obtain ⟨Pre, Cmd, wr, hsplit, hc, hw, hwl⟩ := commandMatch_spec E T hT c w hm
      have hcontent : s.buffer.content = enc Pre ++ c ++ w := by
        rw [eT, hsplit, hc, hw]; simp
      have hTv : VR (Pre ++ Cmd ++ [wr]) := by rw [← hsplit]; exact hT
      have s1 : slice s.buffer.content 0 (s.buffer.dot - (c.length : Int) - 1) = .ok (enc Pre) := by
        have hl := congrArg List.length hcontent
        simp only [List.length_append] at hl
        rw [hw, hwl] at hl
        exact slice_prefix (c := c ++ w) (by rw [hcontent, List.append_assoc]) (by omega)
      rw [s1]
      simp only [ok_bind]
      have hmem : (c, findCommand c S.command []) ∈ S.command := by
        rcases findCommand_spec c S.command [] with hh | hh
        · exact absurd hh hexp
        · exact hh
      obtain ⟨_, ve⟩ := hS.command _ hmem
      have hb := boundary_end (validUtf8_append (validUtf8_append (validUtf8_enc Pre) ve)
        (hw ▸ validUtf8_enc [wr]))
      refine ⟨_, rfl, mid_reset ⟨_, _⟩ hb h.paste,
        Or.inr ⟨c, findCommand c S.command [], enc Pre, w, hmem, hexp, hdoteq, ?_, hcontent, rfl, rfl⟩⟩
      rw [hw]; exact hwl

theorem longestSimple_nil (l : List (Bytes × Bytes)) : longestSimple [] l ([], []) = ([], []) := by
  induction l with
  | nil => rfl
  | cons p l ih =>
    obtain ⟨a, f⟩ := p
    unfold longestSimple
    have : (hasSuffix [] a && decide (a.length > ([] : Bytes).length)) = false := by
      unfold hasSuffix
      cases a <;> simp
    simp only [this, Bool.false_eq_true, if_false]
    exact ih

theorem expandSimpleAbbr_noop (S : Spec) (s : State) (h : s.inserts = []) : expandSimpleAbbr S s = .ok s := by
  unfold expandSimpleAbbr
  rw [h, longestSimple_nil]
  simp

theorem expandSmallWordAbbr_noop (S : Spec) (s : State) (trigger : Nat) (cat : Categorizer)
    (h : s.inserts = []) : expandSmallWordAbbr S s trigger cat = .ok s := by
  unfold expandSmallWordAbbr
  simp only [pure_eq_ok]
  split
  · rfl
  · rw [h]; simp

theorem hke_pasting_func (E : Env) (S : Spec) (s : State) (key : Key) (hp : s.pasting = true)
    (hf : key.isFunc = true) : handleKeyEvent E S s key = .ok (s, true) := by
  unfold Key.isFunc at hf
  unfold handleKeyEvent; simp [hp, hf]

theorem hke_pasting (E : Env) (S : Spec) (s : State) (key : Key) (hp : s.pasting = true)
    (hf : key.isFunc = false) :
    handleKeyEvent E S s key = .ok ({ s with pasteBuffer := s.pasteBuffer ++ encodeRune key.rune.toNat }, true) := by
  unfold Key.isFunc at hf
  unfold handleKeyEvent; simp [hp, hf]

theorem hke_enter (E : Env) (S : Spec) (s : State) (hp : s.pasting = false) :
    handleKeyEvent E S s ⟨10, 0⟩ = .ok (resetInserts s, true) := by
  unfold handleKeyEvent; simp [hp]

theorem hke_backspace (E : Env) (S : Spec) (s : State) (key : Key) (hp : s.pasting = false)
    (hbs : key.isBackspace) :
    handleKeyEvent E S s key = (do
        let c := s.buffer
        let p ← slice c.content 0 c.dot
        let chop : Int := (decodeLastRune p).2
        let a ← slice c.content 0 (c.dot - chop)
        let b ← slice c.content c.dot c.content.length
        pure (({ resetInserts s with buffer := { content := a ++ b, dot := c.dot - chop } }, true) : State × Bool)) := by
  have hne : key ≠ ⟨10, 0⟩ := by
    rcases hbs with h | h <;> rw [h] <;> decide
  have hbs' : (decide (key = ⟨backspace, 0⟩) || decide (key = ⟨72, modCtrl⟩)) = true := by
    simpa [Key.isBackspace] using hbs
  unfold handleKeyEvent
  simp only [hp, Bool.false_eq_true, if_false, hne, hbs', if_true]
  rfl

theorem hke_other (E : Env) (S : Spec) (s : State) (key : Key) (hp : s.pasting = false)
    (hne : key ≠ ⟨10, 0⟩) (hbs : ¬ key.isBackspace)
    (hng : (key.isFunc || !(E.isGraphic key.rune.toNat)) = true) :
    handleKeyEvent E S s key = .ok (resetInserts s, false) := by
  have hbs' : (decide (key = ⟨backspace, 0⟩) || decide (key = ⟨72, modCtrl⟩)) = false := by
    simpa [Key.isBackspace] using hbs
  unfold Key.isFunc at hng
  unfold handleKeyEvent
  simp only [hp, Bool.false_eq_true, if_false, hne, hbs', hng, if_true, pure_eq_ok]

theorem hke_insert (E : Env) (S : Spec) (s : State) (key : Key) (hp : s.pasting = false)
    (hne : key ≠ ⟨10, 0⟩) (hbs : ¬ key.isBackspace)
    (hng : (key.isFunc || !(E.isGraphic key.rune.toNat)) = false) :
    handleKeyEvent E S s key = (do
      let s := if s.last ≠ s.buffer then resetInserts s else s
      let str := encodeRune key.rune.toNat
      let b ← insertAtDot s.buffer str
      let s := { s with buffer := b, inserts := s.inserts ++ str, last := b }
      let s ← if isWhitespace key.rune then expandCommandAbbr E S s else pure s
      let s ← expandSimpleAbbr S s
      let s ← expandSmallWordAbbr S s key.rune.toNat (categorizeSmallWord E)
      pure (s, true)) := by
  have hbs' : (decide (key = ⟨backspace, 0⟩) || decide (key = ⟨72, modCtrl⟩)) = false := by
    simpa [Key.isBackspace] using hbs
  unfold Key.isFunc at hng
  unfold handleKeyEvent
  simp only [hp, Bool.false_eq_true, if_false, hne, hbs', hng]

/-- Backspace edits as `kill-rune-left` does: the boundary comes from `Mover.kill` of `moveDotLeft` -/
theorem backspace_spec (E : Env) (S : Spec) (s : State) (key : Key) (h : Inv s) (hp : s.pasting = false)
    (hk : key.isBackspace) :
    let chop : Int := (decodeLastRune (s.buffer.content.take s.buffer.dot.toNat)).2
    ∃ b', handleKeyEvent E S s key = .ok ({ resetInserts s with buffer := b' }, true) ∧
      b' = ⟨s.buffer.content.take (s.buffer.dot - chop).toNat ++ s.buffer.content.drop s.buffer.dot.toNat,
        s.buffer.dot - chop⟩ ∧
      Boundary b'.content b'.dot := by
  intro chop
  obtain ⟨s1, s2⟩ := h.bnd.slices
  obtain ⟨d', hd, -, hb⟩ := Mover.left.kill E s.buffer.content s.buffer.dot h.bnd
  obtain ⟨d0, hd0, hb0⟩ := Mover.left.boundary E s.buffer.content s.buffer.dot h.bnd
  obtain rfl : d' = s.buffer.dot - chop := by
    have : Mover.left.fn E s.buffer.content s.buffer.dot = .ok (s.buffer.dot - chop) := by
      show moveDotLeft _ _ = _
      unfold moveDotLeft; rw [s1]; rfl
    rw [this] at hd; injection hd with hd; exact hd.symm
  rw [hd] at hd0; injection hd0 with hd0; subst hd0
  have hle : s.buffer.dot - chop ≤ s.buffer.dot := by
    have := Int.natCast_nonneg (decodeLastRune (s.buffer.content.take s.buffer.dot.toNat)).2
    show s.buffer.dot - ((decodeLastRune (s.buffer.content.take s.buffer.dot.toNat)).2 : Int) ≤ _
    omega
  rw [Int.min_eq_right hle, Int.max_eq_left hle] at hb
  refine ⟨_, ?_, rfl, hb⟩
  rw [hke_backspace E S s key hp hk]
  show (slice s.buffer.content 0 s.buffer.dot >>= _) = _
  rw [s1, ok_bind]
  show (slice s.buffer.content 0 (s.buffer.dot - chop) >>= _) = _
  rw [slice_take _ hb0.1 hb0.2.1, ok_bind, s2]
  rfl

theorem key_insert_spec (E : Env) (S : Spec) (hS : SpecOK S) (s : State) (key : Key) (h : Inv s)
    (hp : s.pasting = false) (hne : key ≠ ⟨10, 0⟩) (hbs : ¬ key.isBackspace)
    (hng : (key.isFunc || !(E.isGraphic key.rune.toNat)) = false) :
    ∃ s', handleKeyEvent E S s key = .ok (s', true) ∧ Inv s' ∧
      KeyInsertEffect S s.buffer s'.buffer (encodeRune key.rune.toNat) := by
  rw [hke_insert E S s key hp hne hbs hng]
  generalize hstr : encodeRune key.rune.toNat = str
  have vstr : validUtf8 str = true := by rw [← hstr]; exact validUtf8_encodeRune _
  generalize hs0 : (if s.last ≠ s.buffer then resetInserts s else s) = s0
  have hs0b : s0.buffer = s.buffer := by rw [← hs0]; split <;> rfl
  have hs0p : s0.pasteBuffer = s.pasteBuffer := by rw [← hs0]; split <;> rfl
  have hs0ins : ∃ p, s0.buffer.content.take s0.buffer.dot.toNat = p ++ s0.inserts := by
    rw [← hs0]
    split
    · exact ⟨s.buffer.content.take s.buffer.dot.toNat, by simp [resetInserts]⟩
    · rename_i hne'
      have hl : s.last = s.buffer := by simpa using hne'
      have := h.ins; rw [hl] at this; exact this
  have hb0 : Boundary s0.buffer.content s0.buffer.dot := by rw [hs0b]; exact h.bnd
  obtain ⟨e1, e2⟩ := insertAtDot_spec s0.buffer str hb0 vstr
  have e1' : insertAtDot s0.buffer str = .ok (Inserted s0.buffer str) := e1
  simp only [e1', ok_bind]
  have hmid : Mid (str := str)
      { s0 with buffer := Inserted s0.buffer str, inserts := s0.inserts ++ str, last := Inserted s0.buffer str } := by
    refine ⟨e2, ?_, Or.inr ⟨s0.inserts, rfl⟩, Or.inl rfl, by rw [hs0p]; exact h.paste⟩
    obtain ⟨p, hp⟩ := hs0ins
    refine ⟨p, ?_⟩
    obtain ⟨b0, b1, _, _⟩ := hb0
    show List.take (s0.buffer.dot + (str.length : Int)).toNat
      (s0.buffer.content.take s0.buffer.dot.toNat ++ str ++ s0.buffer.content.drop s0.buffer.dot.toNat) = _
    have hl : (s0.buffer.dot + (str.length : Int)).toNat =
        (s0.buffer.content.take s0.buffer.dot.toNat ++ str).length := by
      rw [List.length_append, List.length_take]; omega
    rw [hl, List.take_left' rfl, hp, List.append_assoc]
  have hIns : Inserted s0.buffer str = Inserted s.buffer str := by rw [hs0b]
  generalize hs1 : ({ s0 with buffer := Inserted s0.buffer str, inserts := s0.inserts ++ str, last := Inserted s0.buffer str } : State) = s1 at hmid ⊢
  have hs1b : s1.buffer = Inserted s.buffer str := by rw [← hs1]; exact hIns
  have finish : ∀ s2, Mid s2 str →
      (s2 = s1 ∨ ∃ a e x w, (a, e) ∈ S.command ∧ e ≠ [] ∧
        s1.buffer.dot = s1.buffer.content.length ∧ w.length = 1 ∧
        s1.buffer.content = x ++ a ++ w ∧
        s2.buffer = ⟨x ++ e ++ w, ((x ++ e ++ w).length : Int)⟩ ∧ s2.inserts = []) →
      ∃ s', (expandSimpleAbbr S s2 >>= fun s => expandSmallWordAbbr S s key.rune.toNat (categorizeSmallWord E) >>=
          fun s => pure (s, true)) = .ok (s', true) ∧ Inv s' ∧ KeyInsertEffect S s.buffer s'.buffer str := by
    intro s2 hmid2 hcase2
    rcases hcase2 with rfl | ⟨a, e, x, w, hmem, hene, hdot, hwl, hcont, hbuf, hins⟩
    · -- no command expansion
      obtain ⟨s3, hc3, hmid3, hcase3⟩ := expandSimpleAbbr_spec S hS s2 str hmid2
      rw [hc3]; simp only [ok_bind]
      rcases hcase3 with rfl | ⟨a, f, x, hmem, hane, htake, hbuf, hins⟩
      · -- no simple expansion
        rw [← hstr] at hmid3
        obtain ⟨s4, hc4, hmid4, hcase4⟩ :=
          expandSmallWordAbbr_spec S hS s3 key.rune.toNat (categorizeSmallWord E) hmid3
        rw [hc4]; simp only [ok_bind, pure_eq_ok]
        refine ⟨s4, rfl, hmid4.inv, ?_⟩
        rcases hcase4 with rfl | ⟨a, f, x, hmem, hane, hdot, hcont, hbuf, _⟩
        · left; exact hs1b
        · right; right; right
          rw [hstr] at hcont hbuf
          exact ⟨a, f, hmem, hane, by rw [← hs1b]; exact ⟨hdot, x, hcont, hbuf⟩⟩
      · rw [expandSmallWordAbbr_noop S s3 _ _ hins]; simp only [ok_bind, pure_eq_ok]
        refine ⟨s3, rfl, hmid3.inv, Or.inr (Or.inl ⟨a, f, hmem, hane, ?_⟩)⟩
        rw [← hs1b]; exact ⟨x, htake, hbuf⟩
    · rw [expandSimpleAbbr_noop S s2 hins]; simp only [ok_bind]
      rw [expandSmallWordAbbr_noop S s2 _ _ hins]; simp only [ok_bind, pure_eq_ok]
      refine ⟨s2, rfl, hmid2.inv, Or.inr (Or.inr (Or.inl ⟨a, e, w, hmem, hene, hwl, ?_⟩))⟩
      rw [← hs1b]; exact ⟨hdot, x, hcont, hbuf⟩
  by_cases hw : isWhitespace key.rune = true
  · rw [if_pos hw]
    obtain ⟨s2, hc2, hmid2, hcase2⟩ := expandCommandAbbr_spec E S hS s1 str hmid
    rw [hc2]; simp only [ok_bind]
    exact finish s2 hmid2 hcase2
  · simp only [hw, if_false, pure_eq_ok, ok_bind]
    exact finish s1 hmid (Or.inl rfl)

theorem step_inv (E : Env) (S : Spec) (hS : SpecOK S) (s : State) (ev : Event) (h : Inv s) :
    ∃ s' ret, step E S s ev = .ok (s', ret) ∧ Inv s' := by
  cases ev with
  | key key =>
    show ∃ s' ret, handleKeyEvent E S s key = .ok (s', ret) ∧ Inv s'
    by_cases hp : s.pasting = true
    · by_cases hf : key.isFunc = true
      · exact ⟨s, true, hke_pasting_func E S s key hp hf, h⟩
      · have hf' : key.isFunc = false := by simpa using hf
        exact ⟨{ s with pasteBuffer := s.pasteBuffer ++ encodeRune key.rune.toNat }, true,
          hke_pasting E S s key hp hf',
          ⟨h.bnd, h.ins, validUtf8_append h.paste (validUtf8_encodeRune _)⟩⟩
    have hp' : s.pasting = false := by simpa using hp
    by_cases hent : key = ⟨10, 0⟩
    · rw [hent]; exact ⟨resetInserts s, true, hke_enter E S s hp', inv_reset h⟩
    by_cases hbs : key.isBackspace
    · obtain ⟨b', he, -, hbnd⟩ := backspace_spec E S s key h hp' hbs
      exact ⟨{ resetInserts s with buffer := b' }, true, he, ⟨hbnd, ⟨[], by simp [resetInserts]⟩, h.paste⟩⟩
    by_cases hng : (key.isFunc || !(E.isGraphic key.rune.toNat)) = true
    · exact ⟨resetInserts s, false, hke_other E S s key hp' hent hbs hng, inv_reset h⟩
    · have hng' : (key.isFunc || !(E.isGraphic key.rune.toNat)) = false := by simpa using hng
      obtain ⟨s', h1, h2, _⟩ := key_insert_spec E S hS s key h hp' hent hbs hng'
      exact ⟨s', true, h1, h2⟩
  | paste start =>
    obtain ⟨s', h1, h2, _⟩ := handlePasteSetting_spec S hS s h start
    exact ⟨s', true, by simp [step, h1], h2⟩
  | cmd c =>
    obtain ⟨buf', dot', h1, h2⟩ := c.boundary E s.buffer.content s.buffer.dot h.bnd
    exact ⟨{ s with buffer := ⟨buf', dot'⟩ }, true, by simp [step, h1], ⟨h2, h.ins, h.paste⟩⟩

theorem runEvents_inv (E : Env) (S : Spec) (hS : SpecOK S) (s : State) (evs : List Event) (h : Inv s) :
    ∃ s', runEvents E S s evs = .ok s' ∧ Inv s' := by
  induction evs generalizing s with
  | nil => exact ⟨s, rfl, h⟩
  | cons ev rest ih =>
    obtain ⟨s1, ret, h1, h2⟩ := step_inv E S hS s ev h
    obtain ⟨s', h3, h4⟩ := ih s1 h2
    exact ⟨s', by simp [runEvents, h1, h3], h4⟩

end C28
