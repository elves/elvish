/-
Valid UTF-8 strings as encoded rune lists.  `enc rs` is `Go.encodeRunes rs`; `VR rs` says every
rune is a scalar value.  A valid string is `enc` of its runes, its character boundaries are the
splits of the rune list, and they are the offsets Go tests with `utf8.RuneStart`.
-/
import ElvProofs.C28.Utf8
namespace C28
open Go

abbrev enc (rs : List Nat) : Bytes := encodeRunes rs

def VR (rs : List Nat) : Prop := ∀ r ∈ rs, validRune r = true

theorem VR.nil : VR [] := by intro r h; cases h
theorem VR.cons {r : Nat} {rs : List Nat} (h : VR (r :: rs)) : validRune r = true ∧ VR rs :=
  ⟨h r (by simp), fun x hx => h x (by simp [hx])⟩
theorem VR.append {a b : List Nat} (h1 : VR a) (h2 : VR b) : VR (a ++ b) := by
  intro x hx; simp at hx; rcases hx with hx | hx
  · exact h1 x hx
  · exact h2 x hx
theorem VR.left {a b : List Nat} (h : VR (a ++ b)) : VR a := fun x hx => h x (by simp [hx])
theorem VR.right {a b : List Nat} (h : VR (a ++ b)) : VR b := fun x hx => h x (by simp [hx])
theorem VR.sublist {a b : List Nat} (h : VR b) (hs : ∀ x ∈ a, x ∈ b) : VR a := fun x hx => h x (hs x hx)

@[simp] theorem enc_nil : enc [] = [] := rfl
@[simp] theorem enc_cons (r : Nat) (rs : List Nat) : enc (r :: rs) = encodeRune r ++ enc rs := rfl
@[simp] theorem enc_append (a b : List Nat) : enc (a ++ b) = enc a ++ enc b := encodeRunes_append a b
theorem enc_singleton (r : Nat) : enc [r] = encodeRune r := by simp

theorem decodeRune_nil : decodeRune [] = (RuneError, 0) := Go.decodeRune_nil

/-- the `(offset, rune, size)` triples of `for i, r := range (enc rs)` -/
def runeTriples (off : Nat) : List Nat → List (Nat × Rune × Nat)
  | [] => []
  | r :: rs => (off, r, (encodeRune r).length) :: runeTriples (off + (encodeRune r).length) rs

theorem shiftRunes_runeTriples (k off : Nat) (rs : List Nat) :
    shiftRunes k (runeTriples off rs) = runeTriples (k + off) rs := by
  induction rs generalizing off with
  | nil => rfl
  | cons r rs ih => simp [runeTriples, ih, Nat.add_assoc]

theorem runes_enc (rs : List Nat) (h : VR rs) : runes (enc rs) = runeTriples 0 rs := by
  induction rs with
  | nil => rfl
  | cons r rs ih =>
    obtain ⟨hr, hrs⟩ := h.cons
    rw [enc_cons, runes_encodeRune_append r hr, ih hrs, shiftRunes_runeTriples]
    simp [runeTriples]

theorem enc_injective {a b : List Nat} (ha : VR a) (hb : VR b) (h : enc a = enc b) : a = b := by
  rw [← toRunes_encodeRunes a ha, ← toRunes_encodeRunes b hb]; exact congrArg toRunes h

theorem validUtf8_enc (rs : List Nat) : validUtf8 (enc rs) = true :=
  validUtf8_encodeRunes rs

theorem validUtf8_encodeRune (r : Nat) : validUtf8 (encodeRune r) = true := by
  rw [← enc_singleton]; exact validUtf8_enc [r]

theorem valid_exists_runes (s : Bytes) (h : validUtf8 s = true) : ∃ rs, VR rs ∧ s = enc rs :=
  ⟨toRunes s, toRunes_validRune s, (encodeRunes_toRunes h).symm⟩

theorem validUtf8_iff (s : Bytes) : validUtf8 s = true ↔ ∃ rs, VR rs ∧ s = enc rs :=
  ⟨valid_exists_runes s, fun ⟨rs, _, e⟩ => e ▸ validUtf8_enc rs⟩

theorem validUtf8_append {a b : Bytes} (ha : validUtf8 a = true) (hb : validUtf8 b = true) :
    validUtf8 (a ++ b) = true := by
  rw [Go.validUtf8_append ha]; exact hb

theorem enc_head_runeStart (A : List Nat) (b : UInt8) (t : Bytes) (h : enc A = b :: t) :
    runeStart b = true := by
  cases A with
  | nil => simp at h
  | cons r A' =>
    obtain ⟨b0, tl, hc, hs, -, -⟩ := encodeRune_eq_cons r
    rw [enc_cons, hc] at h
    injection h with e1 _
    rw [← e1]; exact hs

theorem split_of_runeStart (T : List Nat) (d : Nat) (hd : d ≤ (enc T).length)
    (h : d = (enc T).length ∨ ∃ b, (enc T)[d]? = some b ∧ runeStart b = true) :
    ∃ P S, T = P ++ S ∧ d = (enc P).length := by
  induction T generalizing d with
  | nil => exact ⟨[], [], rfl, by simpa using hd⟩
  | cons r T ih =>
    rw [enc_cons, List.length_append] at hd h
    by_cases h0 : d = 0
    · exact ⟨[], r :: T, rfl, h0⟩
    by_cases hlt : d < (encodeRune r).length
    · -- strictly inside the first rune: a continuation byte
      exfalso
      rcases h with h | ⟨b, hb, hbs⟩
      · omega
      · rw [List.getElem?_append_left hlt] at hb
        have hmem : b ∈ (encodeRune r).tail := by
          obtain ⟨n, rfl⟩ : ∃ n, d = n + 1 := ⟨d - 1, by omega⟩
          rw [← List.drop_one, List.mem_iff_getElem?]
          exact ⟨n, by rw [List.getElem?_drop, Nat.add_comm]; exact hb⟩
        rw [encodeRune_tail_not_runeStart r b hmem] at hbs
        cases hbs
    · have hge : (encodeRune r).length ≤ d := by omega
      obtain ⟨P, S, hPS, hdP⟩ := ih (d - (encodeRune r).length) (by omega) (by
        rcases h with h | ⟨b, hb, hbs⟩
        · left; omega
        · right; rw [List.getElem?_append_right hge] at hb; exact ⟨b, hb, hbs⟩)
      refine ⟨r :: P, S, by rw [hPS]; rfl, ?_⟩
      rw [enc_cons, List.length_append]; omega

/-- `a` starts at a rune start of `x ++ a` -/
theorem valid_of_valid_append (x a : Bytes) (hxa : validUtf8 (x ++ a) = true) (ha : validUtf8 a = true) :
    validUtf8 x = true := by
  obtain ⟨T, -, eT⟩ := valid_exists_runes _ hxa
  obtain ⟨A, -, rfl⟩ := valid_exists_runes _ ha
  obtain ⟨P, S, rfl, hd⟩ := split_of_runeStart T x.length (by rw [← eT]; simp) (by
    rw [← eT]
    cases hA : enc A with
    | nil => left; simp
    | cons b t => right; exact ⟨b, by simp, enc_head_runeStart A b t hA⟩)
  have : x = enc P := by
    have := congrArg (List.take x.length) eT
    rwa [List.take_left' rfl, enc_append, List.take_left' hd.symm] at this
  rw [this]; exact validUtf8_enc P

end C28
