/-
What every timed read does to the source (`Ext`), and a small Hoare-style rule
set for the reader monad (`Spec`) with `Ext` as its frame.
-/
import ElvModel.C31.Model
namespace C31
open Go

@[simp] theorem run_pure {α} (a : α) (s : Src) : (pure a : M α).run s = (a, s) := rfl
@[simp] theorem run_bind {α β} (m : M α) (f : α → M β) (s : Src) :
    (m >>= f).run s = (f (m.run s).1).run (m.run s).2 := rfl
@[simp] theorem run_remaining (s : Src) : remaining.run s = (s.items.length, s) := rfl

/-- `s'` is reachable from `s` by timed reads only -/
structure Ext (s s' : Src) : Prop where
  suffix : s'.items <:+ s.items
  log : ∃ l, s'.log = s.log ++ l ∧ ∀ t ∈ l, t.timed = true

theorem Ext.refl (s : Src) : Ext s s := ⟨List.suffix_refl _, [], by simp, by simp⟩

theorem Ext.trans {a b c : Src} (h1 : Ext a b) (h2 : Ext b c) : Ext a c := by
  obtain ⟨l1, e1, t1⟩ := h1.log
  obtain ⟨l2, e2, t2⟩ := h2.log
  refine ⟨h2.suffix.trans h1.suffix, l1 ++ l2, by rw [e2, e1, List.append_assoc], ?_⟩
  intro t ht
  rcases List.mem_append.mp ht with h | h
  · exact t1 t h
  · exact t2 t h

theorem Ext.length_le {s s' : Src} (h : Ext s s') : s'.items.length ≤ s.items.length :=
  h.suffix.length_le

def Spec {α} (m : M α) (Q : α → Prop) : Prop :=
  ∀ s, Q (m.run s).1 ∧ Ext s (m.run s).2

theorem Spec.pure {α} {Q : α → Prop} {a : α} (h : Q a) : Spec (pure a : M α) Q :=
  fun s => ⟨h, Ext.refl s⟩

theorem Spec.bind {α β} {m : M α} {f : α → M β} {Q1 : α → Prop} {Q2 : β → Prop}
    (hm : Spec m Q1) (hf : ∀ a, Q1 a → Spec (f a) Q2) : Spec (m >>= f) Q2 := by
  intro s
  have h1 := hm s
  have h2 := hf _ h1.1 (m.run s).2
  exact ⟨h2.1, h1.2.trans h2.2⟩

theorem Spec.ite {α} {c : Prop} [Decidable c] {m1 m2 : M α} {Q : α → Prop}
    (h1 : c → Spec m1 Q) (h2 : ¬ c → Spec m2 Q) : Spec (if c then m1 else m2) Q := by
  split
  · exact h1 ‹_›
  · exact h2 ‹_›

theorem Spec.mono {α} {m : M α} {Q1 Q2 : α → Prop} (hm : Spec m Q1) (h : ∀ a, Q1 a → Q2 a) :
    Spec m Q2 := fun s => ⟨h _ (hm s).1, (hm s).2⟩

theorem Spec.remaining : Spec remaining (fun _ => True) := fun s => ⟨trivial, Ext.refl s⟩

theorem readByteAux_suffix (timed : Bool) (l : List Item) : (readByteAux timed l).2 <:+ l := by
  induction l with
  | nil => simp [readByteAux]
  | cons a t ih =>
    cases a with
    | byte b => simp [readByteAux]
    | gap =>
      cases timed with
      | true => simp [readByteAux]
      | false =>
        simp only [readByteAux]
        exact ih.trans (List.suffix_cons _ _)

theorem readByteAux_lt (timed : Bool) (l : List Item) (h : l ≠ []) :
    (readByteAux timed l).2.length < l.length := by
  cases l with
  | nil => exact absurd rfl h
  | cons a t =>
    cases a with
    | byte b => simp [readByteAux]
    | gap =>
      cases timed with
      | true => simp [readByteAux]
      | false =>
        simp only [readByteAux]
        exact Nat.lt_succ_of_le (readByteAux_suffix _ _).length_le

theorem readByteAux_ok_lt (timed : Bool) (l : List Item) (b : UInt8)
    (h : (readByteAux timed l).1 = .ok b) : (readByteAux timed l).2.length < l.length := by
  cases l with
  | nil => simp [readByteAux] at h
  | cons a t => exact readByteAux_lt _ _ (by simp)

theorem run_readByte (t : Timeout) (s : Src) :
    (readByte t).run s =
      ((readByteAux t.timed s.items).1, { items := (readByteAux t.timed s.items).2, log := s.log ++ [t] }) := rfl

theorem readByte_ext (t : Timeout) (ht : t.timed = true) : Spec (readByte t) (fun _ => True) := by
  intro s
  rw [run_readByte]
  exact ⟨trivial, readByteAux_suffix _ _, [t], rfl, by simp [ht]⟩

theorem readCont_ext (n r : Nat) : Spec (readCont n r) (fun _ => True) := by
  induction n generalizing r with
  | zero => exact Spec.pure trivial
  | succ n ih =>
    unfold readCont
    refine Spec.bind (readByte_ext .utf8Seq rfl) ?_
    intro a _
    split
    · exact Spec.pure trivial
    · exact ih _

/-- The part of `readRune` after its first byte. -/
def runeAfter (leader : UInt8) : M (Except RdErr Nat) :=
  let x := leader.toNat
  if x / 128 = 0 then readCont 0 x
  else if x / 32 = 6 then readCont 1 (x % 32)
  else if x / 16 = 14 then readCont 2 (x % 16)
  else if x / 8 = 30 then readCont 3 (x % 8)
  else readCont 0 0

/-! `runeAfter` by the class of the leader.  The tests are on prefixes of the
leader of growing length (`leader>>7`, `>>5`, `>>4`, `>>3`), so the longest one
decides the others. -/

theorem runeAfter_1 {b : UInt8} (h : b.toNat / 128 = 0) : runeAfter b = readCont 0 b.toNat := if_pos h

theorem runeAfter_2 {b : UInt8} (h : b.toNat / 32 = 6) : runeAfter b = readCont 1 (b.toNat % 32) := by
  have h7 : b.toNat / 128 = 1 := by rw [← Nat.div_div_eq_div_mul _ 32 4, h]
  unfold runeAfter
  simp only [h, h7]
  rfl

theorem runeAfter_3 {b : UInt8} (h : b.toNat / 16 = 14) : runeAfter b = readCont 2 (b.toNat % 16) := by
  have h5 : b.toNat / 32 = 7 := by rw [← Nat.div_div_eq_div_mul _ 16 2, h]
  have h7 : b.toNat / 128 = 1 := by rw [← Nat.div_div_eq_div_mul _ 16 8, h]
  unfold runeAfter
  simp only [h, h5, h7]
  rfl

theorem runeAfter_4 {b : UInt8} (h : b.toNat / 8 = 30) : runeAfter b = readCont 3 (b.toNat % 8) := by
  have h4 : b.toNat / 16 = 15 := by rw [← Nat.div_div_eq_div_mul _ 8 2, h]
  have h5 : b.toNat / 32 = 7 := by rw [← Nat.div_div_eq_div_mul _ 8 4, h]
  have h7 : b.toNat / 128 = 1 := by rw [← Nat.div_div_eq_div_mul _ 8 16, h]
  unfold runeAfter
  simp only [h, h4, h5, h7]
  rfl

theorem runeAfter_ext (b : UInt8) : Spec (runeAfter b) (fun _ => True) :=
  Spec.ite (fun _ => readCont_ext _ _) fun _ => Spec.ite (fun _ => readCont_ext _ _) fun _ =>
  Spec.ite (fun _ => readCont_ext _ _) fun _ => Spec.ite (fun _ => readCont_ext _ _) fun _ => readCont_ext _ _

theorem run_readRune (t : Timeout) (s : Src) :
    (readRune t).run s =
      match (readByte t).run s with
      | (.error e, s') => (.error e, s')
      | (.ok b, s') => (runeAfter b).run s' := by
  show (readByte t >>= _).run s = _
  rw [run_bind]
  rcases h : (readByte t).run s with ⟨r, s'⟩
  cases r <;> rfl

theorem readRune_ext (t : Timeout) (ht : t.timed = true) : Spec (readRune t) (fun _ => True) := by
  intro s
  rw [run_readRune]
  have h1 := readByte_ext t ht s
  rcases h : (readByte t).run s with ⟨r, s'⟩
  rw [h] at h1
  cases r with
  | error e => exact ⟨trivial, h1.2⟩
  | ok b => exact ⟨trivial, h1.2.trans (runeAfter_ext b s').2⟩

theorem readRune_ok_lt (t : Timeout) (s : Src) (r : Nat) (h : ((readRune t).run s).1 = .ok r) :
    ((readRune t).run s).2.items.length < s.items.length := by
  rw [run_readRune] at h ⊢
  rw [run_readByte] at h ⊢
  rcases hb : (readByteAux t.timed s.items).1 with e | b
  · simp [hb] at h
  · simp only [hb] at h ⊢
    have h1 := readByteAux_ok_lt _ _ _ hb
    have h2 := (runeAfter_ext b { items := (readByteAux t.timed s.items).2, log := s.log ++ [t] }).2.length_le
    exact Nat.lt_of_le_of_lt h2 h1

theorem readRune_untimed (s : Src) :
    ((readRune .untimed).run s).2.items <:+ s.items ∧
      (s.items ≠ [] → ((readRune .untimed).run s).2.items.length < s.items.length) ∧
      ∃ l, ((readRune .untimed).run s).2.log = s.log ++ Timeout.untimed :: l ∧ ∀ t ∈ l, t.timed = true := by
  rw [run_readRune, run_readByte]
  have hsuf := readByteAux_suffix false s.items
  rcases hb : (readByteAux Timeout.untimed.timed s.items).1 with e | b
  · exact ⟨hsuf, fun hne => readByteAux_lt _ _ hne, [], by simp, by simp⟩
  · simp only []
    have h2 := (runeAfter_ext b { items := (readByteAux Timeout.untimed.timed s.items).2, log := s.log ++ [.untimed] }).2
    obtain ⟨l, hl, htl⟩ := h2.log
    refine ⟨h2.suffix.trans hsuf, fun hne => Nat.lt_of_le_of_lt h2.length_le (readByteAux_lt _ _ hne), l, ?_, htl⟩
    rw [hl]; simp

theorem next_ext (seq : Bytes) : Spec (next seq) (fun _ => True) := by
  unfold next
  refine Spec.bind (readRune_ext .keySeq rfl) ?_
  intro a _
  split <;> exact Spec.pure trivial

theorem run_next (seq : Bytes) (s : Src) :
    (next seq).run s =
      match (readRune .keySeq).run s with
      | (.error _, s') => ((eos, seq), s')
      | (.ok r, s') => (((r : Int), seq ++ encodeRune r), s') := by
  show (readRune .keySeq >>= _).run s = _
  rw [run_bind]
  rcases h : (readRune .keySeq).run s with ⟨r, s'⟩
  cases r <;> rfl

theorem next_cases (seq : Bytes) (s : Src) :
    ((next seq).run s).1.1 = eos ∨
      (0 ≤ ((next seq).run s).1.1 ∧ ((next seq).run s).2.items.length < s.items.length) := by
  rw [run_next]
  rcases h : (readRune .keySeq).run s with ⟨r, s'⟩
  cases r with
  | error e => left; rfl
  | ok r =>
    right
    have := readRune_ok_lt .keySeq s r (by rw [h])
    rw [h] at this
    exact ⟨Int.natCast_nonneg r, this⟩

end C31
