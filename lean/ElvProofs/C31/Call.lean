/-
One `ReadEvent` call and the reader loop.
-/
import ElvProofs.C31.Text
namespace C31
open Go

def CallSpec (m : M Outcome) : Prop :=
  ∀ s : Src,
    (m.run s).1.good ∧ (m.run s).2.items <:+ s.items ∧
      (s.items ≠ [] → (m.run s).2.items.length < s.items.length) ∧
      ∃ l, (m.run s).2.log = s.log ++ Timeout.untimed :: l ∧ ∀ t ∈ l, t.timed = true

theorem ReadsThen.callSpec {m : M Outcome} {tail : Nat → M Outcome} (hm : ReadsThen m tail)
    (ht : ∀ r, Spec (tail r) Outcome.good) : CallSpec m := by
  intro s
  rw [hm]
  obtain ⟨hsuf, hlt, l, hl, htl⟩ := readRune_untimed s
  generalize (readRune .untimed).run s = res at *
  obtain ⟨e | r0, s1⟩ := res
  · exact ⟨trivial, hsuf, hlt, l, hl, htl⟩
  · obtain ⟨hgood, hext⟩ := ht r0 s1
    obtain ⟨l2, hl2, htl2⟩ := hext.log
    refine ⟨hgood, hext.suffix.trans hsuf, fun hne => Nat.lt_of_le_of_lt hext.length_le (hlt hne), l ++ l2, ?_, ?_⟩
    · show ((tail r0).run s1).2.log = _
      rw [hl2, hl, List.append_assoc, List.cons_append]
    · exact fun t ht => (List.mem_append.mp ht).elim (htl t) (htl2 t)

theorem readEvent_callSpec (T : Tables) : CallSpec (readEvent T) :=
  (readEvent_readsThen T).callSpec (readEventTail_spec T)

theorem readRawEvent_callSpec : CallSpec readRawEvent :=
  readRawEvent_readsThen.callSpec fun _ => Spec.pure trivial

/-- The observation of one call that the property asks for. -/
def Call.ok (c : Call) : Prop :=
  c.out.good ∧ 1 ≤ c.consumed ∧ ∃ l, c.log = Timeout.untimed :: l ∧ ∀ t ∈ l, t.timed = true

theorem call_spec {m : M Outcome} (hm : CallSpec m) (items : List Item) (hne : items ≠ []) :
    (call m items).1.ok ∧ (call m items).1.consumed ≤ items.length ∧
      (call m items).2 = items.drop (call m items).1.consumed := by
  obtain ⟨hgood, hsuf, hlt, l, hl, htl⟩ := hm { items := items, log := [] }
  have hlt := hlt hne
  have hdrop := List.suffix_iff_eq_drop.mp hsuf
  unfold call
  simp only at hlt hdrop hl hsuf ⊢
  refine ⟨⟨hgood, ?_, l, by simpa using hl, htl⟩, by omega, hdrop⟩
  show 1 ≤ items.length - (m.run { items := items, log := [] }).2.items.length
  omega

def consumedSum : List (Option Call) → Nat
  | [] => 0
  | none :: t => consumedSum t
  | some c :: t => c.consumed + consumedSum t

theorem eventsFuel_total {m : M Outcome} (hm : CallSpec m) (fuel : Nat) (items : List Item)
    (hf : items.length ≤ fuel) :
    (∀ e ∈ eventsFuel m fuel items, ∃ c, e = some c ∧ c.ok) ∧
      consumedSum (eventsFuel m fuel items) = items.length := by
  induction fuel generalizing items with
  | zero =>
    have : items = [] := List.length_eq_zero_iff.mp (Nat.le_zero.mp hf)
    subst this
    simp [eventsFuel, consumedSum]
  | succ fuel ih =>
    by_cases hne : items = []
    · subst hne
      simp [eventsFuel, consumedSum]
    · rw [eventsFuel_succ_ne m fuel items hne]
      obtain ⟨hok, hle, hrest⟩ := call_spec hm items hne
      have h1 : 1 ≤ (call m items).1.consumed := hok.2.1
      have hlen : (call m items).2.length = items.length - (call m items).1.consumed := by
        rw [hrest, List.length_drop]
      obtain ⟨ihall, ihsum⟩ := ih (call m items).2 (by omega)
      refine ⟨?_, ?_⟩
      · intro e he
        rcases List.mem_cons.mp he with h | h
        · exact ⟨_, h, hok⟩
        · exact ihall e h
      · simp only [consumedSum, ihsum, hlen]
        omega

end C31
