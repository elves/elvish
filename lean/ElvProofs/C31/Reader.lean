/-
No slice access in the CSI code can panic, the `CSISeq` loop never runs out of
fuel, and every piece of `readEvent` after the first rune only performs timed
reads and ends in an event or an error.
-/
import ElvProofs.C31.Basic
import ElvProofs.Lemmas.Res
namespace C31
open Go

/-- The call returned what `readEvent` can return in Go: an event or an error
(as opposed to the model-only outcomes "panicked" and "out of fuel"). -/
def Outcome.good : Outcome → Prop
  | .event _ => True
  | .err _ => True
  | .panic _ => False
  | .fuel => False

instance : DecidablePred Outcome.good := fun o => by
  cases o <;> simp only [Outcome.good] <;> infer_instance

theorem ROk.ofRes {r : Res Outcome} (h : ROk r Outcome.good) : (Outcome.ofRes r).good := by
  obtain ⟨o, rfl, ho⟩ := h
  exact ho

theorem addDigit_ok (nums : List Int) (r : Int) : ROk (addDigit nums r) fun _ => True := by
  unfold addDigit
  have hpos : 0 < (if nums.length = 0 then nums ++ [0] else nums).length := by
    split
    · simp
    · omega
  generalize (if nums.length = 0 then nums ++ [0] else nums) = l at hpos
  refine .bind (.index (by omega)) fun v _ => ?_
  unfold setIdx
  rw [if_pos (by omega)]
  exact ⟨_, rfl, trivial⟩

theorem parseCSI_ok (T : Tables) (nums : List Int) (last : Int) : ROk (parseCSI T nums last) fun _ => True := by
  unfold parseCSI
  split
  · -- `csiSeqByLast`
    exact .ite (fun _ => .pure trivial) fun _ => .ite
      (fun _ => .bind (.index (by omega)) fun _ _ => .ite
        (fun _ => .bind (.index (by omega)) fun _ _ => .pure trivial) fun _ => .pure trivial)
      fun _ => .pure trivial
  · refine .ite (fun _ => .ite (fun _ => ?tilde) fun _ => .ite (fun _ => ?tilde27) fun _ => .pure trivial)
      fun _ => .ite (fun _ => .ite (fun _ => ?urxvt) fun _ => .pure trivial) fun _ => .pure trivial
    case tilde =>
      refine .bind (.index (by omega)) fun _ _ => ?_
      split
      · exact .ite (fun _ => .pure trivial) fun _ => .bind (.index (by omega)) fun _ _ => .pure trivial
      · exact .pure trivial
    case tilde27 =>
      refine .bind (.index (by omega)) fun _ _ => .ite (fun _ => .bind (.index (by omega)) fun _ _ => ?_)
        fun _ => .pure trivial
      split
      · exact .bind (.index (by omega)) fun _ _ => .pure trivial
      · exact .pure trivial
    case urxvt =>
      refine .bind (.index (by omega)) fun _ _ => ?_
      split <;> exact .pure trivial

theorem pasteArg_ok (nums : List Int) (r : Int) : ROk (pasteArg nums r) fun _ => True :=
  .ite (fun _ => .bind (.index (by omega)) fun _ _ => .pure trivial) fun _ => .pure trivial

theorem finishCSI_good (T : Tables) (two : Bool) (starter : Int) (nums : List Int) (r : Int) (seq : Bytes) :
    (finishCSI T two starter nums r seq).good :=
  ROk.ofRes <| .ite
    (fun _ => .ite (fun _ => .pure trivial) fun _ =>
      .bind (.index (by omega)) fun _ _ => .bind (.index (by omega)) fun _ _ => .pure trivial)
    fun _ => .ite
      (fun _ => .ite (fun _ => .pure trivial) fun _ =>
        .bind (.index (by omega)) fun _ _ => .bind (.index (by omega)) fun _ _ =>
        .bind (.index (by omega)) fun _ _ => .pure trivial)
      fun _ => .bind (pasteArg_ok nums r) fun
        | some _, _ => .pure trivial
        | none, _ => .bind (parseCSI_ok T nums r) fun _ _ => .ite (fun _ => .pure trivial) fun _ => .pure trivial

theorem eos_eq : eos = -1 := rfl

theorem csiLoop_spec (fuel : Nat) (nums : List Int) (r : Int) (seq : Bytes) (s : Src)
    (h : s.items.length + 2 ≤ fuel ∨ (r = eos ∧ 1 ≤ fuel)) :
    (∀ o, ((csiLoop fuel nums r seq).run s).1 = .inl o → o.good) ∧
      Ext s ((csiLoop fuel nums r seq).run s).2 := by
  induction fuel generalizing nums r seq s with
  | zero => omega
  | succ fuel ih =>
    -- one iteration that reads the next rune and goes round again: the rune
    -- either ends the sequence or has cost an item
    have again : r ≠ eos → ∀ nums',
        (∀ o, ((next seq >>= fun x => csiLoop fuel nums' x.1 x.2).run s).1 = .inl o → o.good) ∧
          Ext s ((next seq >>= fun x => csiLoop fuel nums' x.1 x.2).run s).2 := by
      intro hr nums'
      have hlen : s.items.length + 2 ≤ fuel + 1 := h.resolve_right fun h => hr h.1
      have := ih nums' ((next seq).run s).1.1 ((next seq).run s).1.2 ((next seq).run s).2 <| by
        rcases next_cases seq s with hn | hn
        · exact .inr ⟨hn, by omega⟩
        · exact .inl (by omega)
      exact ⟨this.1, (next_ext seq s).2.trans this.2⟩
    unfold csiLoop
    by_cases h59 : r = 59
    · rw [if_pos h59]
      exact again (by rw [h59]; decide) _
    rw [if_neg h59]
    by_cases hd : 48 ≤ r ∧ r ≤ 57
    · obtain ⟨nums', hnums, -⟩ := addDigit_ok nums r
      rw [if_pos hd, hnums]
      exact again (by rw [eos_eq]; omega) nums'
    rw [if_neg hd]
    by_cases he : r = eos
    · rw [if_pos he]
      exact ⟨fun o ho => by cases ho; trivial, Ext.refl s⟩
    · rw [if_neg he]
      exact ⟨fun o ho => (nomatch ho), Ext.refl s⟩

theorem csiRun_spec (nums : List Int) (r : Int) (seq : Bytes) :
    Spec (csiRun nums r seq) (fun res => ∀ o, res = .inl o → o.good) := by
  intro s
  show (fun res => ∀ o, res = .inl o → o.good) ((remaining >>= fun n => csiLoop (n + 2) nums r seq).run s).1 ∧ _
  rw [run_bind, run_remaining]
  exact csiLoop_spec _ nums r seq s (Or.inl (Nat.le_refl _))

theorem mouseX10_spec (seq : Bytes) : Spec (mouseX10 seq) Outcome.good :=
  .bind (next_ext _) fun ⟨_, _⟩ _ => .ite (fun _ => .pure trivial) fun _ =>
  .bind (next_ext _) fun ⟨_, _⟩ _ => .ite (fun _ => .pure trivial) fun _ =>
  .bind (next_ext _) fun ⟨_, _⟩ _ => .ite (fun _ => .pure trivial) fun _ => .pure trivial

theorem g3_spec (T : Tables) (two : Bool) (seq : Bytes) : Spec (g3 T two seq) Outcome.good :=
  .bind (next_ext _) fun ⟨r, _⟩ _ => .ite (fun _ => .pure trivial) fun _ => by
    split <;> exact .pure trivial

/-- the optional extra rune after a first one (`ESC ESC`, `CSI <`) -/
theorem next_opt_ext {α} {c : Prop} [Decidable c] (seq : Bytes) (f : Int × Bytes → α) (a : α) :
    Spec (if c then next seq >>= fun x => pure (f x) else pure a) fun _ => True :=
  .ite (fun _ => .bind (next_ext _) fun _ _ => .pure trivial) fun _ => .pure trivial

theorem csi_spec (T : Tables) (two : Bool) (seq : Bytes) : Spec (csi T two seq) Outcome.good :=
  .bind (next_ext _) fun ⟨r, seq⟩ _ => .ite (fun _ => .pure trivial) fun _ =>
  .ite (fun _ => mouseX10_spec _) fun _ =>
  .bind (next_opt_ext seq (fun x => (r, x.1, x.2)) (0, r, seq)) fun ⟨_, _, _⟩ _ =>
  .bind (csiRun_spec _ _ _) fun
    | .inl o, ho => .pure (ho o rfl)
    | .inr (_, _, _), _ => .pure (finishCSI_good _ _ _ _ _ _)

theorem readEventTail_spec (T : Tables) (r0 : Nat) : Spec (readEventTail T r0) Outcome.good :=
  .ite
    (fun _ => .bind (next_ext _) fun ⟨r2, seq⟩ _ =>
      .bind (next_opt_ext seq (fun x => (true, x.1, x.2)) (false, r2, seq)) fun ⟨_, _, _⟩ _ =>
      .ite (fun _ => .pure trivial) fun _ => .ite (fun _ => csi_spec _ _ _) fun _ =>
      .ite (fun _ => g3_spec _ _ _) fun _ => .pure trivial)
    fun _ => .pure trivial

end C31
