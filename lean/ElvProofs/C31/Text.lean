/-
`readRune` inverts `utf8.EncodeRune` on scalar values, and the reader loop over
plain text.
-/
import ElvProofs.C31.Reader
import ElvProofs.Lemmas.Utf8.Basic
import ElvModel.C31.Spec
namespace C31
open Go

theorem run_readByte_byte (t : Timeout) (b : UInt8) (rest : List Item) (lg : List Timeout) :
    (readByte t).run ⟨.byte b :: rest, lg⟩ = (.ok b, ⟨rest, lg ++ [t]⟩) := rfl

theorem run_readCont_zero (r : Nat) (s : Src) : (readCont 0 r).run s = (.ok r, s) := rfl

theorem run_readCont_succ_byte (n r : Nat) (b : UInt8) (rest : List Item) (lg : List Timeout) :
    (readCont (n + 1) r).run ⟨.byte b :: rest, lg⟩ =
      (readCont n (r * 64 + b.toNat % 64)).run ⟨rest, lg ++ [.utf8Seq]⟩ := rfl

theorem run_readRune_byte (t : Timeout) (b : UInt8) (rest : List Item) (lg : List Timeout) :
    (readRune t).run ⟨.byte b :: rest, lg⟩ = (runeAfter b).run ⟨rest, lg ++ [t]⟩ := by
  rw [run_readRune, run_readByte_byte]

theorem readRune_1 (t : Timeout) (b0 : UInt8) (rest : List Item) (lg : List Timeout)
    (h : b0.toNat / 128 = 0) :
    (readRune t).run ⟨.byte b0 :: rest, lg⟩ = (.ok b0.toNat, ⟨rest, lg ++ [t]⟩) := by
  rw [run_readRune_byte, runeAfter_1 h]
  rfl

theorem readRune_2 (t : Timeout) (b0 b1 : UInt8) (rest : List Item) (lg : List Timeout)
    (h : b0.toNat / 32 = 6) :
    (readRune t).run ⟨.byte b0 :: .byte b1 :: rest, lg⟩ =
      (.ok (b0.toNat % 32 * 64 + b1.toNat % 64), ⟨rest, lg ++ [t] ++ [.utf8Seq]⟩) := by
  rw [run_readRune_byte, runeAfter_2 h]
  rfl

theorem readRune_3 (t : Timeout) (b0 b1 b2 : UInt8) (rest : List Item) (lg : List Timeout)
    (h : b0.toNat / 16 = 14) :
    (readRune t).run ⟨.byte b0 :: .byte b1 :: .byte b2 :: rest, lg⟩ =
      (.ok ((b0.toNat % 16 * 64 + b1.toNat % 64) * 64 + b2.toNat % 64),
        ⟨rest, lg ++ [t] ++ [.utf8Seq] ++ [.utf8Seq]⟩) := by
  rw [run_readRune_byte, runeAfter_3 h]
  rfl

theorem readRune_4 (t : Timeout) (b0 b1 b2 b3 : UInt8) (rest : List Item) (lg : List Timeout)
    (h : b0.toNat / 8 = 30) :
    (readRune t).run ⟨.byte b0 :: .byte b1 :: .byte b2 :: .byte b3 :: rest, lg⟩ =
      (.ok (((b0.toNat % 8 * 64 + b1.toNat % 64) * 64 + b2.toNat % 64) * 64 + b3.toNat % 64),
        ⟨rest, lg ++ [t] ++ [.utf8Seq] ++ [.utf8Seq] ++ [.utf8Seq]⟩) := by
  rw [run_readRune_byte, runeAfter_4 h]
  rfl

/-- `readRune` agrees with `utf8.DecodeRune` on every well-formed sequence: under the bounds of `Enc`
the leader's low bits `b0 % 2 ^ k` and the six bits `b % 64` of each continuation byte are the
differences `Enc` is stated with. -/
theorem readRune_enc (t : Timeout) {r : Nat} {c : Bytes} (h : Enc r c) (rest : List Item) (lg : List Timeout) :
    ∃ lg', (readRune t).run ⟨c.map Item.byte ++ rest, lg⟩ = (.ok r, ⟨rest, lg'⟩) := by
  cases h with
  | one b0 h0 hr => exact ⟨_, hr ▸ readRune_1 t b0 rest lg (by omega)⟩
  | two b0 b1 h0 h0' h1 h1' hr =>
    have e : b0.toNat % 32 * 64 + b1.toNat % 64 = r := by omega
    exact ⟨_, e ▸ readRune_2 t b0 b1 rest lg (by omega)⟩
  | three b0 b1 b2 h0 h0' h1 h1' _ _ h2 h2' hr =>
    have e : (b0.toNat % 16 * 64 + b1.toNat % 64) * 64 + b2.toNat % 64 = r := by omega
    exact ⟨_, e ▸ readRune_3 t b0 b1 b2 rest lg (by omega)⟩
  | four b0 b1 b2 b3 h0 h0' h1 h1' _ _ h2 h2' h3 h3' hr =>
    have e : ((b0.toNat % 8 * 64 + b1.toNat % 64) * 64 + b2.toNat % 64) * 64 + b3.toNat % 64 = r := by omega
    exact ⟨_, e ▸ readRune_4 t b0 b1 b2 b3 rest lg (by omega)⟩

/-- `readRune` decodes what `utf8.EncodeRune` produces for a scalar value. -/
theorem readRune_char (t : Timeout) (c : Nat) (hv : validRune c = true) (rest : List Item) (lg : List Timeout) :
    ∃ lg', (readRune t).run ⟨charItems c ++ rest, lg⟩ = (.ok c, ⟨rest, lg'⟩) :=
  readRune_enc t (encodeRune_enc hv) rest lg

theorem readByteAux_gaps (g : Nat) (l : List Item) :
    readByteAux false (List.replicate g Item.gap ++ l) = readByteAux false l := by
  induction g with
  | zero => rfl
  | succ g ih => simpa [List.replicate_succ, readByteAux] using ih

theorem run_readRune_gaps (g : Nat) (l : List Item) (lg : List Timeout) :
    (readRune .untimed).run ⟨List.replicate g Item.gap ++ l, lg⟩ = (readRune .untimed).run ⟨l, lg⟩ := by
  rw [run_readRune, run_readRune, run_readByte, run_readByte]
  simp only [Timeout.timed, readByteAux_gaps]

theorem charItems_ne_nil (c : Nat) : charItems c ≠ [] :=
  fun h => encodeRune_ne_nil c (List.map_eq_nil_iff.mp h)

theorem ctrlModify_plain (c : Nat) (h : plain c) : ctrlModify (c : Int) = K (c : Int) := by
  obtain ⟨h1, h2, _⟩ := h
  unfold ctrlModify
  have e1 : Gen.C31Keys.Tab = 9 := rfl
  have e2 : Gen.C31Keys.Enter = 10 := rfl
  have e3 : Gen.C31Keys.Backspace = 127 := rfl
  rw [e1, e2, e3]
  rw [if_neg (by omega), if_neg (by omega), if_neg (by omega), if_neg (by omega), if_neg (by omega)]

theorem readEventTail_plain (T : Tables) (c : Nat) (h : plain c) (s : Src) :
    (readEventTail T c).run s = (.event (.key (K (c : Int))), s) := by
  unfold readEventTail
  have hne : ¬ ((c : Int) = 0x1b) := by
    have := h.1
    omega
  simp only [hne, if_false, ctrlModify_plain c h, run_pure]

/-- `m` is an untimed `readRune` followed, on success, by `tail`; an error of the
source is returned as it is.  `readEvent` and `ReadRawEvent` both have this form. -/
def ReadsThen (m : M Outcome) (tail : Nat → M Outcome) : Prop :=
  ∀ s, m.run s =
    match (readRune .untimed).run s with
    | (.error e, s') => (.err (.read e), s')
    | (.ok r, s') => (tail r).run s'

theorem readEvent_readsThen (T : Tables) : ReadsThen (readEvent T) (readEventTail T) := by
  intro s
  show (readRune .untimed >>= _).run s = _
  rw [run_bind]
  rcases (readRune .untimed).run s with ⟨_ | _, s'⟩ <;> rfl

theorem readRawEvent_readsThen : ReadsThen readRawEvent fun r => pure (.event (.key (K (r : Int)))) := by
  intro s
  show (readRune .untimed >>= _).run s = _
  rw [run_bind]
  rcases (readRune .untimed).run s with ⟨_ | _, s'⟩ <;> rfl

/-- What a reader has to do with one plain character (after any pauses) for
the loop to be lossless. -/
def DecodesPlain (m : M Outcome) : Prop :=
  ∀ (g c : Nat) (rest : List Item), plain c →
    ∃ cl, call m (List.replicate g Item.gap ++ charItems c ++ rest) = (cl, rest) ∧
      cl.out = .event (.key (K (c : Int)))

theorem ReadsThen.decodesPlain {m : M Outcome} {tail : Nat → M Outcome} (hm : ReadsThen m tail)
    (ht : ∀ c, plain c → ∀ s, (tail c).run s = (.event (.key (K (c : Int))), s)) : DecodesPlain m := by
  intro g c rest hc
  obtain ⟨lg', h⟩ := readRune_char .untimed c hc.2.2 rest []
  unfold call
  rw [List.append_assoc, hm, run_readRune_gaps, h]
  simp only [ht c hc]
  exact ⟨_, rfl, rfl⟩

theorem readEvent_decodesPlain (T : Tables) : DecodesPlain (readEvent T) :=
  (readEvent_readsThen T).decodesPlain (readEventTail_plain T)

theorem readRawEvent_decodesPlain : DecodesPlain readRawEvent :=
  readRawEvent_readsThen.decodesPlain fun _ _ _ => rfl

theorem eventsFuel_succ_ne (m : M Outcome) (fuel : Nat) (items : List Item) (h : items ≠ []) :
    eventsFuel m (fuel + 1) items = some (call m items).1 :: eventsFuel m fuel (call m items).2 := by
  cases items with
  | nil => exact absurd rfl h
  | cons a t => rfl

theorem gapTextItems_cons (g c : Nat) (t : List (Nat × Nat)) :
    gapTextItems ((g, c) :: t) = List.replicate g Item.gap ++ charItems c ++ gapTextItems t :=
  List.flatMap_cons

theorem eventsFuel_gapText (m : M Outcome) (hm : DecodesPlain m) (cs : List (Nat × Nat))
    (hp : ∀ gc ∈ cs, plain gc.2) (fuel : Nat) (hf : cs.length ≤ fuel) :
    outcomes (eventsFuel m fuel (gapTextItems cs)) = cs.map fun gc => keyOf gc.2 := by
  induction cs generalizing fuel with
  | nil => cases fuel <;> rfl
  | cons gc t ih =>
    obtain ⟨g, c⟩ := gc
    cases fuel with
    | zero => simp at hf
    | succ fuel =>
      have hne : gapTextItems ((g, c) :: t) ≠ [] := by
        rw [gapTextItems_cons]
        exact List.append_ne_nil_of_left_ne_nil (List.append_ne_nil_of_right_ne_nil _ (charItems_ne_nil c)) _
      obtain ⟨cl, hcall, hout⟩ := hm g c (gapTextItems t) (hp (g, c) List.mem_cons_self)
      rw [eventsFuel_succ_ne m fuel _ hne, gapTextItems_cons, hcall]
      have := ih (fun gc h => hp gc (List.mem_cons_of_mem _ h)) fuel (Nat.le_of_succ_le_succ hf)
      simp only [outcomes] at this
      simp only [outcomes, List.map_cons, Option.map_some, hout, this]
      rfl

theorem length_le_gapTextItems (cs : List (Nat × Nat)) : cs.length ≤ (gapTextItems cs).length := by
  induction cs with
  | nil => simp
  | cons gc t ih =>
    have : 0 < (charItems gc.2).length := List.length_pos_iff.mpr (charItems_ne_nil _)
    rw [gapTextItems_cons]
    simp only [List.length_append, List.length_cons]
    omega

theorem textItems_eq_gapTextItems (cs : List Nat) : textItems cs = gapTextItems (cs.map fun c => (0, c)) := by
  induction cs with
  | nil => rfl
  | cons c t ih =>
    simp only [textItems, gapTextItems, List.flatMap_cons, List.map_cons] at ih ⊢
    rw [ih]
    simp

end C31
