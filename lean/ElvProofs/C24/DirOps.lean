/-
C24, dir.go: the bucket invariant under Put / Delete / a change of values, and the decay loop of AddDir as a map
over the values.
-/
import ElvProofs.C24.Dir
namespace C24
open Go Sorted

def decayed (o : ScoreOps) (v : Bytes) : Bytes := o.format (o.mul (o.parse v) o.decay)

/-- the score `AddDir` stores for the visited directory -/
def visitedScore (o : ScoreOps) (old : Option Bytes) (incFactor : o.F) : Bytes :=
  o.format (o.add (match old with
    | some v => o.parse (decayed o v)
    | none => o.zero) (o.mul o.increment incFactor))

theorem dirWF_keys {b b' : Bucket} (hk : b'.kvs.map Prod.fst = b.kvs.map Prod.fst) (h : DirWF b) : DirWF b' := by
  constructor
  · have := h.1
    rw [SortedKV, Sorted, ← List.pairwise_map (f := Prod.fst) (R := fun a b => bytesLt a b = true)] at this ⊢
    rwa [hk]
  · intro kv hkv
    have := List.mem_map_of_mem (f := Prod.fst) hkv
    rw [hk] at this
    obtain ⟨kv', h', e⟩ := List.mem_map.1 this
    exact e ▸ h.2 kv' h'

theorem dirWF_map (b : Bucket) (f : Bytes → Bytes) (h : DirWF b) :
    DirWF ⟨b.kvs.map (fun kv => (kv.1, f kv.2)), b.sequence⟩ :=
  dirWF_keys (by simp) h

theorem dirWF_put (b : Bucket) (k v : Bytes) (h : DirWF b) (h0 : 0 < k.length) (h1 : k.length ≤ maxKeySize) :
    DirWF { b with kvs := b.kvs.filter (fun kv => bytesLt kv.1 k) ++ (k, v) :: b.kvs.filter (fun kv => bytesLt k kv.1) } := by
  refine ⟨sorted_put b.kvs k v h.1, fun kv hkv => ?_⟩
  simp only [List.mem_append, List.mem_filter, List.mem_cons] at hkv
  rcases hkv with ⟨hm, _⟩ | rfl | ⟨hm, _⟩
  · exact h.2 kv hm
  · exact ⟨h0, h1⟩
  · exact h.2 kv hm

theorem dirWF_delete (b : Bucket) (k : Bytes) (h : DirWF b) : DirWF (b.delete k) := by
  rw [delete_kvs b k h.1]
  exact ⟨sorted_delete b.kvs k h.1, fun kv hkv => h.2 kv ((mem_filter_sides _ _ _).1 hkv).1⟩

theorem filter_split (pre rest : List KV) (k v : Bytes) (hs : SortedKV (pre ++ (k, v) :: rest)) :
    (pre ++ (k, v) :: rest).filter (fun kv => bytesLt kv.1 k) = pre ∧
    (pre ++ (k, v) :: rest).filter (fun kv => bytesLt k kv.1) = rest := by
  obtain ⟨_, h2, h3⟩ := List.pairwise_append.1 hs
  have hpre : ∀ a ∈ pre, bytesLt a.1 k = true := fun a ha => h3 a ha (k, v) (by simp)
  have hrest : ∀ b ∈ rest, bytesLt k b.1 = true := (List.pairwise_cons.1 h2).1
  have e1 : pre.filter (fun kv => bytesLt kv.1 k) = pre := List.filter_eq_self.2 hpre
  have e2 : rest.filter (fun kv => bytesLt kv.1 k) = [] :=
    List.filter_eq_nil_iff.2 fun b hb => by simp [bytesLt_asymm _ _ (hrest b hb)]
  have e3 : pre.filter (fun kv => bytesLt k kv.1) = [] :=
    List.filter_eq_nil_iff.2 fun a ha => by simp [bytesLt_asymm _ _ (hpre a ha)]
  have e4 : rest.filter (fun kv => bytesLt k kv.1) = rest := List.filter_eq_self.2 hrest
  simp [List.filter_cons, bytesLt_irrefl, e1, e2, e3, e4]

theorem decayLoop_eq (o : ScoreOps) (s : Nat) : ∀ (rest pre : List KV), DirWF ⟨pre ++ rest, s⟩ →
    decayLoop o rest ⟨pre ++ rest, s⟩ = ⟨pre ++ rest.map (fun kv => (kv.1, decayed o kv.2)), s⟩
  | [], pre, _ => by simp [decayLoop]
  | (k, v) :: rest, pre, h => by
    have hk := h.2 (k, v) (by simp)
    obtain ⟨f1, f2⟩ := filter_split pre rest k v h.1
    have ih := decayLoop_eq o s rest (pre ++ [(k, decayed o v)]) (dirWF_keys (by simp) h)
    rw [List.append_assoc] at ih
    rw [decayLoop, put_kvs _ k _ h.1 hk.1 hk.2]
    simp only [f1, f2]
    simpa [decayed] using ih

end C24

/-- A toy instance (scores are natural numbers written as one byte), for the non-vacuity examples. -/
def C24_toyOps : C24.ScoreOps where
  F := Nat
  parse := fun s => match s with
    | [b] => b.toNat
    | _ => 0
  format := fun x => [UInt8.ofNat x]
  mul := fun a b => a * b / 10
  add := fun a b => a + b
  lt := fun a b => decide (a < b)
  zero := 0
  decay := 9
  increment := 10

