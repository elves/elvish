/- C24: `takeWhile`/`dropWhile` by a key bound on a list sorted by that key are filters. -/
import ElvModel.C24.Model
namespace C24.Sorted

variable {β κ : Type} (key : β → κ) (r : κ → κ → Bool)

structure StrictTotal (r : κ → κ → Bool) : Prop where
  irrefl : ∀ a, r a a = false
  trans : ∀ a b c, r a b = true → r b c = true → r a c = true
  tri : ∀ a b, r a b = false → r b a = false → a = b

abbrev Sorted (l : List β) : Prop := l.Pairwise (fun a b => r (key a) (key b) = true)

variable {key r}

/-- a test that, once it has failed, fails on everything further on: the
elements passing it form an initial segment -/
theorem span_eq_filter {α : Type} (p : α → Bool) : ∀ (l : List α), l.Pairwise (fun a b => p b = true → p a = true) →
    l.takeWhile p = l.filter p ∧ l.dropWhile p = l.filter (fun x => !p x)
  | [], _ => ⟨rfl, rfl⟩
  | h :: t, hs => by
    obtain ⟨hh, ht⟩ := List.pairwise_cons.1 hs
    obtain ⟨ih1, ih2⟩ := span_eq_filter p t ht
    by_cases c : p h = true
    · simp [c, ih1, ih2]
    · have hall : ∀ x ∈ t, p x = false := fun x hx => by
        cases hx' : p x with
        | false => rfl
        | true => exact absurd (hh x hx hx') c
      have e1 : t.filter p = [] := List.filter_eq_nil_iff.2 fun x hx => by simp [hall x hx]
      have e2 : t.filter (fun x => !p x) = t := List.filter_eq_self.2 fun x hx => by simp [hall x hx]
      simp [c, e1, e2]

theorem below_mono (hr : StrictTotal r) (k : κ) {l : List β} (hs : Sorted key r l) :
    l.Pairwise (fun a b => r (key b) k = true → r (key a) k = true) :=
  hs.imp fun hab hb => hr.trans _ _ _ hab hb

theorem takeWhile_eq_filter (hr : StrictTotal r) (k : κ) (l : List β) (hs : Sorted key r l) :
    l.takeWhile (fun x => r (key x) k) = l.filter (fun x => r (key x) k) :=
  (span_eq_filter _ l (below_mono hr k hs)).1

theorem dropWhile_eq_filter (hr : StrictTotal r) (k : κ) (l : List β) (hs : Sorted key r l) :
    l.dropWhile (fun x => r (key x) k) = l.filter (fun x => !r (key x) k) :=
  (span_eq_filter _ l (below_mono hr k hs)).2

theorem sorted_filter (p : β → Bool) (l : List β) (hs : Sorted key r l) : Sorted key r (l.filter p) :=
  List.Pairwise.sublist List.filter_sublist hs

theorem find_none_of_lt (hr : StrictTotal r) (k : κ) (l : List β)
    (h : ∀ x ∈ l, r k (key x) = true) [DecidableEq κ] : l.find? (fun x => key x = k) = none := by
  apply List.find?_eq_none.2
  intro x hx hk
  have := h x hx
  simp at hk
  rw [hk, hr.irrefl] at this
  exact absurd this (by simp)

theorem find?_congr' {α : Type} {p q : α → Bool} : ∀ (l : List α), (∀ x ∈ l, p x = q x) → l.find? p = l.find? q
  | [], _ => rfl
  | h :: t, hpq => by
    simp [List.find?, hpq h (by simp), find?_congr' t (fun x hx => hpq x (by simp [hx]))]

end C24.Sorted
