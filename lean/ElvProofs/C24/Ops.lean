/- C24: refinement of each cmd.go function to the log operation. -/
import ElvProofs.C24.Refine
namespace C24
open Go Spec Sorted

def S (l : Log) (d : Bucket) : Store := ⟨conc l, d⟩

theorem nextCmdSeq_conc (l : Log) (d : Bucket) (hc : l.counter + 1 < two63) :
    nextCmdSeq (S l d) = ((l.nextSeq : Nat) : Int) := by
  have h64 := two63_lt_two64
  have : (l.counter + 1) % two64 = l.counter + 1 := Nat.mod_eq_of_lt (by omega)
  simp only [nextCmdSeq, S, conc, this, Log.nextSeq]
  exact toInt_of_lt _ hc

theorem addCmd_conc (l : Log) (d : Bucket) (t : Bytes) (h : l.WF) (hc : l.counter + 1 < two63) :
    addCmd (S l d) t = (S (l.add t).1 d, .ok (((l.add t).2 : Nat) : Int)) := by
  have h64 := two63_lt_two64
  have hm : (l.counter + 1) % 18446744073709551616 = l.counter + 1 :=
    Nat.mod_eq_of_lt (by simp only [two63, two64] at *; omega)
  have hb := wf_bound h (by omega : l.counter < two63)
  -- the new key lies behind every key present
  have hpre : l.entries.filter (fun e => decide (e.1 < l.counter + 1)) = l.entries :=
    List.filter_eq_self.2 fun e he => by have := (h.2 e he).2; simp; omega
  have hpost : l.entries.filter (fun e => decide (l.counter + 1 < e.1)) = [] :=
    List.filter_eq_nil_iff.2 fun e he => by have := (h.2 e he).2; simp; omega
  simp only [addCmd, S, conc, Bucket.nextSequence, hm, Bucket.put, marshalSeq_length, maxKeySize,
    seekPre_enc (l.counter + 1) (by omega) h.1 hb, dropKey_enc (l.counter + 1) (by omega) h.1 hb, hpre, hpost, Log.add]
  simp [toInt_of_lt _ hc, enc]

theorem delCmd_conc (l : Log) (d : Bucket) (n : Int) (h : l.WF) (hc : l.counter < two63) :
    delCmd (S l d) n = S (l.del (toU64 n)) d := by
  have hb := wf_bound h hc
  simp only [delCmd, S, conc, Bucket.delete, seekPre_enc _ (toU64_lt n) h.1 hb, dropKey_enc _ (toU64_lt n) h.1 hb,
    Log.del, ← List.map_append, filter_ne _ h.1]

theorem cmd_conc (l : Log) (d : Bucket) (n : Int) (h : l.WF) (hc : l.counter < two63) :
    cmd (S l d) n = textOf (l.get (toU64 n)) := by
  have hb := wf_bound h hc
  have : l.entries.find? ((fun kv : KV => decide (kv.1 = marshalSeq (toU64 n))) ∘ enc) =
      l.entries.find? (fun e => decide (e.1 = toU64 n)) :=
    find?_congr' _ fun e he => decide_eq_decide.2 ⟨marshalSeq_inj _ _ (hb e he) (toU64_lt n), congrArg marshalSeq⟩
  simp only [cmd, S, conc]
  rw [get_eq_find _ _ _ (sorted_enc h.1 hb), List.find?_map, this, Log.get]
  cases l.entries.find? (fun e => decide (e.1 = toU64 n)) <;> rfl

theorem iterLoop_enc (u : Nat) : ∀ (es : List Entry), (∀ e ∈ es, e.1 < two63) →
    iterLoop u (es.map enc) = .ok ((es.takeWhile (fun e => decide (e.1 < u))).map toCmd)
  | [], _ => rfl
  | h :: t, hb => by
    have ih := iterLoop_enc u t (fun e he => hb e (by simp [he]))
    have hh : h.1 < two63 := hb h (by simp)
    have h64 := two63_lt_two64
    simp only [List.map_cons, enc, iterLoop, unmarshalSeq_marshalSeq _ (by omega : h.1 < two64), ih,
      List.takeWhile_cons]
    by_cases c : h.1 < u
    · simp [c, toCmd, toInt_of_lt _ hh]
    · simp [c]

theorem scanLoop_enc (p : Bytes) : ∀ (es : List Entry), (∀ e ∈ es, e.1 < two63) →
    scanLoop p (es.map enc) = found (es.find? (fun e => hasPrefix e.2 p))
  | [], _ => rfl
  | h :: t, hb => by
    have ih := scanLoop_enc p t (fun e he => hb e (by simp [he]))
    have hh : h.1 < two63 := hb h (by simp)
    have h64 := two63_lt_two64
    simp only [List.map_cons, enc, scanLoop, unmarshalSeq_marshalSeq _ (by omega : h.1 < two64), ih, List.find?_cons]
    by_cases c : hasPrefix h.2 p = true
    · simp [c, found, toCmd, toInt_of_lt _ hh]
    · simp [c]

theorem cmdsWithSeq_conc (l : Log) (d : Bucket) (f u : Int) (h : l.WF) (hc : l.counter < two63) :
    cmdsWithSeq (S l d) f u = .ok ((l.list (toU64 f) (toU64 u)).map toCmd) := by
  have hb63 := wf_bound63 h hc
  -- the loop stops at the first number `≥ upto`; in ascending order that leaves those below
  have hmono : (l.entries.filter (fun e => decide (toU64 f ≤ e.1))).Pairwise
      (fun a b => decide (b.1 < toU64 u) = true → decide (a.1 < toU64 u) = true) :=
    (h.1.sublist List.filter_sublist).imp fun hab hb => by simp at hb ⊢; omega
  simp only [cmdsWithSeq, S, conc, Bucket.seek, seekPost_enc _ (toU64_lt f) h.1 (wf_bound h hc)]
  rw [iterLoop_enc _ _ fun e he => hb63 e (List.mem_filter.1 he).1, (span_eq_filter _ _ hmono).1,
    List.filter_filter, Log.list]
  simp [Bool.and_comm]

theorem nextCmd_conc (l : Log) (d : Bucket) (f : Int) (p : Bytes) (h : l.WF) (hc : l.counter < two63) :
    nextCmd (S l d) f p = found (l.next (toU64 f) p) := by
  simp only [nextCmd, S, conc, Bucket.seek, seekPost_enc _ (toU64_lt f) h.1 (wf_bound h hc)]
  rw [scanLoop_enc _ _ fun e he => wf_bound63 h hc e (List.mem_filter.1 he).1, List.find?_filter, Log.next]
  simp

/-- `PrevCmd` walks backwards over the pairs a seek for `upto` skips, whichever branch it takes
to get there (`Last()` when the seek runs off the end, `Prev()` otherwise) -/
theorem prevCmd_eq (s : Store) (u : Int) (p : Bytes) :
    prevCmd s u p = scanLoop p (seekPre (marshalSeq (toU64 u)) s.cmd.kvs).reverse := by
  simp only [prevCmd, Bucket.seek, Cursor.cur, Bucket.last]
  cases hd : seekPost (marshalSeq (toU64 u)) s.cmd.kvs with
  | nil =>
    have : seekPre (marshalSeq (toU64 u)) s.cmd.kvs = s.cmd.kvs := by
      have := List.takeWhile_append_dropWhile (p := fun kv : KV => bytesLt kv.1 (marshalSeq (toU64 u))) (l := s.cmd.kvs)
      rw [← seekPre, ← seekPost, hd, List.append_nil] at this
      exact this
    rw [this]
    cases s.cmd.kvs.reverse <;> rfl
  | cons x r => rfl

theorem prevCmd_conc (l : Log) (d : Bucket) (u : Int) (p : Bytes) (h : l.WF) (hc : l.counter < two63) :
    prevCmd (S l d) u p = found (l.prev (toU64 u) p) := by
  rw [prevCmd_eq]
  simp only [S, conc, seekPre_enc _ (toU64_lt u) h.1 (wf_bound h hc)]
  rw [← List.map_reverse, scanLoop_enc _ _ fun e he => wf_bound63 h hc e (List.mem_filter.1 (List.mem_reverse.1 he)).1,
    ← List.filter_reverse, List.find?_filter, Log.prev]
  simp

end C24
