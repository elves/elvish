/-
C24: `bytesLt` is a strict total order on byte strings, and on big-endian encodings of a fixed width it is the
numeric order.
-/
import ElvModel.C24.Model
import ElvProofs.Lemmas.Bytes
namespace C24
open Go

/-- `bytesLt` is the lexicographic order of the core library -/
theorem bytesLt_eq (x y : Bytes) : bytesLt x y = decide (x < y) :=
  lexLt_eq bytesLt rfl (fun _ _ => rfl) (fun _ _ => rfl) (fun _ _ _ _ => by rw [bytesLt]) x y

theorem bytesLt_irrefl (x : Bytes) : bytesLt x x = false := by
  rw [bytesLt_eq]; exact decide_eq_false (List.lt_irrefl x)

theorem bytesLt_trans (x y z : Bytes) (h1 : bytesLt x y = true) (h2 : bytesLt y z = true) : bytesLt x z = true := by
  rw [bytesLt_eq] at *
  exact decide_eq_true (List.lt_trans (of_decide_eq_true h1) (of_decide_eq_true h2))

theorem bytesLt_tri (x y : Bytes) (h1 : bytesLt x y = false) (h2 : bytesLt y x = false) : x = y := by
  rw [bytesLt_eq] at *
  exact List.le_antisymm (List.not_lt.1 (of_decide_eq_false h2)) (List.not_lt.1 (of_decide_eq_false h1))

theorem bytesLt_asymm (x y : Bytes) (h : bytesLt x y = true) : bytesLt y x = false := by
  rw [bytesLt_eq] at *
  exact decide_eq_false (List.lt_asymm (of_decide_eq_true h))

theorem bytesLt_ne_iff (x y : Bytes) : bytesLt x y = true ∨ bytesLt y x = true ↔ x ≠ y := by
  constructor
  · rintro (h | h) e <;> rw [e, bytesLt_irrefl] at h <;> exact absurd h (by simp)
  · intro e
    cases h1 : bytesLt x y with
    | true => exact .inl rfl
    | false =>
      cases h2 : bytesLt y x with
      | true => exact .inr rfl
      | false => exact absurd (bytesLt_tri x y h1 h2) e

def beVal : Bytes → Nat
  | [] => 0
  | a :: r => a.toNat * 256 ^ r.length + beVal r

theorem beVal_lt (x : Bytes) : beVal x < 256 ^ x.length := by
  induction x with
  | nil => simp [beVal]
  | cons a r ih =>
    have ha : a.toNat < 256 := a.toNat_lt
    simp only [beVal, List.length_cons, Nat.pow_succ]
    generalize 256 ^ r.length = P at *
    have h1 : (a.toNat + 1) * P ≤ 256 * P := Nat.mul_le_mul_right P (by omega)
    rw [Nat.add_mul, Nat.one_mul] at h1
    omega

theorem lex_lt (P a b x y : Nat) (hx : x < P) (hy : y < P) :
    a * P + x < b * P + y ↔ a < b ∨ (a = b ∧ x < y) := by
  rcases Nat.lt_trichotomy a b with h | h | h
  · have := Nat.mul_le_mul_right P (show a + 1 ≤ b from h)
    rw [Nat.succ_mul] at this
    constructor <;> intro <;> omega
  · subst h
    constructor <;> intro <;> omega
  · have := Nat.mul_le_mul_right P (show b + 1 ≤ a from h)
    rw [Nat.succ_mul] at this
    constructor <;> intro <;> omega

theorem bytesLt_beVal : ∀ (x y : Bytes), x.length = y.length → bytesLt x y = decide (beVal x < beVal y)
  | [], [], _ => by simp [bytesLt, beVal]
  | [], _ :: _, h => by simp at h
  | _ :: _, [], h => by simp at h
  | a :: r, b :: t, h => by
    have hl : r.length = t.length := by simpa using h
    have hr := beVal_lt r
    rw [hl] at hr
    have ih := bytesLt_beVal r t hl
    rw [bytesLt_eq] at ih ⊢
    rw [decide_eq_decide, List.cons_lt_cons_iff, decide_eq_decide.1 ih, beVal, beVal, hl,
      lex_lt _ _ _ _ _ hr (beVal_lt t), UInt8.lt_iff_toNat_lt, UInt8.toNat_inj]

theorem marshalSeq_length (n : Nat) : (marshalSeq n).length = 8 := rfl

theorem beVal_digits (n : Nat) : ∀ (w : Nat), beVal ((List.range w).reverse.map (byteAt n)) = n % 256 ^ w
  | 0 => by simp [beVal, Nat.mod_one]
  | w + 1 => by
    rw [List.range_succ, List.reverse_append, List.reverse_singleton, List.singleton_append, List.map_cons, beVal,
      beVal_digits n w, Nat.mod_pow_succ, byteAt, UInt8.toNat_ofNat', Nat.mod_mod]
    simp [Nat.mul_comm, Nat.add_comm]

theorem beVal_marshalSeq (n : Nat) (h : n < two64) : beVal (marshalSeq n) = n :=
  (beVal_digits n 8).trans (Nat.mod_eq_of_lt h)

theorem unmarshalSeq_eq (b0 b1 b2 b3 b4 b5 b6 b7 : UInt8) (rest : Bytes) :
    unmarshalSeq (b0 :: b1 :: b2 :: b3 :: b4 :: b5 :: b6 :: b7 :: rest) = .ok (beVal [b0, b1, b2, b3, b4, b5, b6, b7]) := by
  simp only [unmarshalSeq]
  refine congrArg Res.ok ?_
  simp only [beVal, List.length_cons, List.length_nil]
  omega

theorem unmarshalSeq_marshalSeq (n : Nat) (h : n < two64) : unmarshalSeq (marshalSeq n) = .ok n := by
  rw [marshalSeq, unmarshalSeq_eq, ← marshalSeq, beVal_marshalSeq n h]

theorem bytesLt_marshalSeq (a b : Nat) (ha : a < two64) (hb : b < two64) :
    bytesLt (marshalSeq a) (marshalSeq b) = decide (a < b) := by
  rw [bytesLt_beVal (marshalSeq a) (marshalSeq b) rfl, beVal_marshalSeq a ha, beVal_marshalSeq b hb]

theorem marshalSeq_inj (a b : Nat) (ha : a < two64) (hb : b < two64) (h : marshalSeq a = marshalSeq b) : a = b := by
  have := congrArg beVal h
  rwa [beVal_marshalSeq a ha, beVal_marshalSeq b hb] at this

theorem toU64_lt (i : Int) : toU64 i < two64 := by
  unfold toU64 two64
  omega

theorem toU64_of_nonneg (i : Int) (h0 : 0 ≤ i) (h1 : i < (two64 : Int)) : toU64 i = i.toNat := by
  unfold toU64 two64 at *
  omega

theorem toU64_of_neg (i : Int) (h0 : i < 0) (h1 : -(two63 : Int) ≤ i) : two63 ≤ toU64 i := by
  unfold toU64 two64 two63 at *
  omega

theorem toInt_of_lt (n : Nat) (h : n < two63) : toInt n = (n : Int) := by
  unfold toInt two63 two64 at *
  have : n % 18446744073709551616 = n := Nat.mod_eq_of_lt (by omega)
  simp [this, h]

end C24
