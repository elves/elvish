/-
C24: the `cmd` bucket that represents a log (8-byte big-endian keys in log order), and what a seek for an encoded
number finds in it.
-/
import ElvModel.C24.Spec
import ElvProofs.C24.Dir
namespace C24
open Go Spec Sorted

def enc (e : Entry) : KV := (marshalSeq e.1, e.2)

def conc (l : Log) : Bucket := ⟨l.entries.map enc, l.counter⟩

/-- the abstraction function: the log a `cmd` bucket holds -/
def absLog (b : Bucket) : Log := ⟨b.kvs.map (fun kv => (beVal kv.1, kv.2)), b.sequence⟩

theorem two63_lt_two64 : two63 < two64 := by decide

theorem wf_bound63 {l : Log} (h : l.WF) (hc : l.counter < two63) : ∀ e ∈ l.entries, e.1 < two63 :=
  fun e he => Nat.lt_of_le_of_lt (h.2 e he).2 hc

theorem wf_bound {l : Log} (h : l.WF) (hc : l.counter < two63) : ∀ e ∈ l.entries, e.1 < two64 :=
  fun e he => Nat.lt_trans (wf_bound63 h hc e he) two63_lt_two64

theorem absLog_conc (l : Log) (hb : ∀ e ∈ l.entries, e.1 < two64) : absLog (conc l) = l := by
  obtain ⟨es, c⟩ := l
  simp only [absLog, conc, List.map_map, Log.mk.injEq, and_true]
  conv => rhs; rw [← List.map_id es]
  apply List.map_congr_left
  intro e he
  simp only [Function.comp, enc, beVal_marshalSeq _ (hb e he), id]

variable {es : List Entry}

theorem filter_enc (q : Bytes → Bool) (q' : Nat → Bool) (h : ∀ e ∈ es, q (marshalSeq e.1) = q' e.1) :
    (es.map enc).filter (fun kv => q kv.1) = (es.filter (fun e => q' e.1)).map enc := by
  rw [List.filter_map]
  exact congrArg _ (List.filter_congr h)

theorem sorted_enc (hs : es.Pairwise (fun a b => a.1 < b.1)) (hb : ∀ e ∈ es, e.1 < two64) :
    SortedKV (es.map enc) := by
  rw [SortedKV, Sorted, List.pairwise_map]
  refine hs.imp_of_mem ?_
  intro a b ha hb' hab
  simp only [enc, bytesLt_marshalSeq _ _ (hb a ha) (hb b hb'), hab, decide_true]

theorem seekPre_enc (n : Nat) (hn : n < two64) (hs : es.Pairwise (fun a b => a.1 < b.1))
    (hb : ∀ e ∈ es, e.1 < two64) :
    seekPre (marshalSeq n) (es.map enc) = (es.filter (fun e => decide (e.1 < n))).map enc := by
  rw [seekPre_eq _ _ (sorted_enc hs hb)]
  exact filter_enc (fun k => bytesLt k (marshalSeq n)) (fun m => decide (m < n)) fun e he =>
    bytesLt_marshalSeq _ _ (hb e he) hn

theorem seekPost_enc (n : Nat) (hn : n < two64) (hs : es.Pairwise (fun a b => a.1 < b.1))
    (hb : ∀ e ∈ es, e.1 < two64) :
    seekPost (marshalSeq n) (es.map enc) = (es.filter (fun e => decide (n ≤ e.1))).map enc := by
  rw [seekPost, dropWhile_eq_filter bytesLt_strict _ _ (sorted_enc hs hb)]
  refine filter_enc (fun k => !bytesLt k (marshalSeq n)) (fun m => decide (n ≤ m)) fun e he => ?_
  rw [bytesLt_marshalSeq _ _ (hb e he) hn, ← decide_not, decide_eq_decide]
  omega

theorem dropKey_enc (n : Nat) (hn : n < two64) (hs : es.Pairwise (fun a b => a.1 < b.1))
    (hb : ∀ e ∈ es, e.1 < two64) :
    dropKey (marshalSeq n) (seekPost (marshalSeq n) (es.map enc)) = (es.filter (fun e => decide (n < e.1))).map enc := by
  rw [dropKey_seekPost _ _ (sorted_enc hs hb)]
  exact filter_enc (fun k => bytesLt (marshalSeq n) k) (fun m => decide (n < m)) fun e he =>
    bytesLt_marshalSeq _ _ hn (hb e he)

theorem filter_ne (n : Nat) : ∀ {es : List Entry}, es.Pairwise (fun a b => a.1 < b.1) →
    es.filter (fun e => decide (e.1 < n)) ++ es.filter (fun e => decide (n < e.1)) = es.filter (fun e => e.1 ≠ n)
  | [], _ => rfl
  | h :: t, hs => by
    obtain ⟨hh, ht⟩ := List.pairwise_cons.1 hs
    by_cases c : h.1 < n
    · rw [List.filter_cons_of_pos (by simpa using c), List.filter_cons_of_neg (by simp; omega),
        List.filter_cons_of_pos (by simp; omega), List.cons_append, filter_ne n ht]
    · -- from `h` on every number is `≥ n`, and only `h` can be `n`
      have e1 : t.filter (fun e => decide (e.1 < n)) = [] :=
        List.filter_eq_nil_iff.2 fun x hx => by have := hh x hx; simp; omega
      have e2 : t.filter (fun e => decide (n < e.1)) = t :=
        List.filter_eq_self.2 fun x hx => by have := hh x hx; simp; omega
      have e3 : t.filter (fun e => decide (e.1 ≠ n)) = t :=
        List.filter_eq_self.2 fun x hx => by have := hh x hx; simp; omega
      by_cases e : h.1 = n
      · rw [List.filter_cons_of_neg (by simpa using c), List.filter_cons_of_neg (by simp; omega),
          List.filter_cons_of_neg (by simpa using e), e1, e2, e3]
        rfl
      · rw [List.filter_cons_of_neg (by simpa using c), List.filter_cons_of_pos (by simp; omega),
          List.filter_cons_of_pos (by simpa using e), e1, e2, e3]
        rfl

end C24
