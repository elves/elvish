/- C24: the specification log itself. -/
import ElvProofs.C24.Ops
namespace C24
open Go Spec Sorted

theorem Log.WF_empty : Log.empty.WF := by simp [Log.WF, Log.empty]

theorem Log.WF_add {l : Log} (h : l.WF) (t : Bytes) : (l.add t).1.WF := by
  refine ⟨?_, ?_⟩
  · simp only [Log.add]
    apply List.pairwise_append.2
    refine ⟨h.1, by simp, ?_⟩
    intro a ha b hb
    simp at hb
    have := (h.2 a ha).2
    rw [hb]; simp; omega
  · intro e he
    simp only [Log.add, List.mem_append, List.mem_singleton] at he ⊢
    rcases he with he | he
    · have := h.2 e he; omega
    · rw [he]; simp

theorem Log.WF_del {l : Log} (h : l.WF) (n : Nat) : (l.del n).WF := by
  refine ⟨List.Pairwise.sublist List.filter_sublist h.1, ?_⟩
  intro e he
  exact h.2 e (List.mem_filter.1 he).1

theorem Log.counter_step (l : Log) (op : Op) : l.counter ≤ (Spec.step l op).1.counter ∧
    (Spec.step l op).1.counter ≤ l.counter + 1 := by
  cases op <;> simp [Spec.step, Log.add, Log.del]

theorem Log.WF_step {l : Log} (h : l.WF) (op : Op) : (Spec.step l op).1.WF := by
  cases op <;> simp only [Spec.step] <;> first | exact h | exact Log.WF_add h _ | exact Log.WF_del h _

theorem Log.WF_run : ∀ (ops : List Op) {l : Log}, l.WF → (Spec.run l ops).1.WF
  | [], _, h => h
  | op :: ops, l, h => by
    simp only [Spec.run]
    exact Log.WF_run ops (Log.WF_step h op)

/-- how many `add`s a history holds -/
def adds (ops : List Op) : Nat := ops.countP fun | .add _ => true | _ => false

theorem adds_le (ops : List Op) : adds ops ≤ ops.length := List.countP_le_length

/-- The `add`s of a history are handed `counter + 1, …, counter + adds ops`, in this order, whatever deletions,
searches and listings lie in between, and the counter ends at `counter + adds ops`. -/
theorem run_issued : ∀ (ops : List Op) (l : Log),
    (Spec.run l ops).1.counter = l.counter + adds ops ∧
    issued (Spec.run l ops).2 = (List.range' (l.counter + 1) (adds ops)).map Int.ofNat
  | [], _ => ⟨rfl, rfl⟩
  | op :: ops, l => by
    have ih := run_issued ops (Spec.step l op).1
    cases op with
    | add t =>
      rw [show adds (.add t :: ops) = adds ops + 1 from List.countP_cons_of_pos rfl, List.range'_succ]
      exact ⟨ih.1.trans (Nat.add_right_comm _ _ _), congrArg (_ :: ·) ih.2⟩
    -- any other operation leaves the counter alone and returns no number
    | _ => exact ih

theorem Log.counter_run (ops : List Op) (l : Log) : l.counter ≤ (Spec.run l ops).1.counter ∧
    (Spec.run l ops).1.counter ≤ l.counter + ops.length := by
  have := (run_issued ops l).1
  have := adds_le ops
  omega

theorem issued_run (ops : List Op) (l : Log) :
    (issued (Spec.run l ops).2).Pairwise (· < ·) ∧
    ∀ n ∈ issued (Spec.run l ops).2, (l.counter : Int) < n ∧ n ≤ ((Spec.run l ops).1.counter : Int) := by
  obtain ⟨h1, h2⟩ := run_issued ops l
  rw [h2, h1, List.pairwise_map]
  refine ⟨List.Pairwise.imp Int.ofNat_lt.2 List.pairwise_lt_range', ?_⟩
  intro n hn
  obtain ⟨m, hm, rfl⟩ := List.mem_map.1 hn
  have := List.mem_range'_1.1 hm
  constructor <;> simp only [Int.ofNat_eq_natCast] <;> omega

theorem find_first {es : List Entry} (hs : es.Pairwise (fun a b => a.1 < b.1)) (q : Entry → Bool) (e : Entry)
    (h : es.find? q = some e) : e ∈ es ∧ q e = true ∧ ∀ e' ∈ es, q e' = true → e.1 ≤ e'.1 := by
  obtain ⟨hq, as, bs, rfl, hnot⟩ := List.find?_eq_some_iff_append.1 h
  refine ⟨by simp, hq, ?_⟩
  intro e' he' hq'
  rcases List.mem_append.1 he' with ha | hb
  · have := hnot e' ha
    simp [hq'] at this
  · rcases List.mem_cons.1 hb with rfl | hb
    · exact Nat.le_refl _
    · have := (List.pairwise_append.1 hs).2.1
      exact Nat.le_of_lt ((List.pairwise_cons.1 this).1 e' hb)

theorem find_last {es : List Entry} (hs : es.Pairwise (fun a b => a.1 < b.1)) (q : Entry → Bool) (e : Entry)
    (h : es.reverse.find? q = some e) : e ∈ es ∧ q e = true ∧ ∀ e' ∈ es, q e' = true → e'.1 ≤ e.1 := by
  obtain ⟨hq, as, bs, hrev, hnot⟩ := List.find?_eq_some_iff_append.1 h
  have hes : es = bs.reverse ++ e :: as.reverse := by
    have := congrArg List.reverse hrev
    simpa using this
  subst hes
  refine ⟨by simp, hq, ?_⟩
  intro e' he' hq'
  rcases List.mem_append.1 he' with hb | ha
  · have := (List.pairwise_append.1 hs).2.2 e' hb e (by simp)
    exact Nat.le_of_lt this
  · rcases List.mem_cons.1 ha with rfl | ha
    · exact Nat.le_refl _
    · have := hnot e' (by simpa using ha)
      simp [hq'] at this

/-- The result of a prefix search — forwards (`L = es`, `ρ = ≤`) or backwards
(`L = es.reverse`, `ρ = ≥`) — among the entries that satisfy a bound `A`:
the hit nearest to the end the search started from, or `ErrNoMatchingCmd` when
nothing matches. -/
theorem found_cases {es L : List Entry} (hL : ∀ x, x ∈ L ↔ x ∈ es) (A : Entry → Prop) [DecidablePred A] (p : Bytes)
    (ρ : Nat → Nat → Prop)
    (hext : ∀ e, L.find? (fun e => decide (A e ∧ hasPrefix e.2 p = true)) = some e →
      ∀ e' ∈ es, decide (A e' ∧ hasPrefix e'.2 p = true) = true → ρ e.1 e'.1) :
    (∃ e, found (L.find? (fun e => decide (A e ∧ hasPrefix e.2 p = true))) = .ok (toCmd e) ∧ e ∈ es ∧ A e ∧
        hasPrefix e.2 p = true ∧ ∀ e' ∈ es, A e' → hasPrefix e'.2 p = true → ρ e.1 e'.1) ∨
    (found (L.find? (fun e => decide (A e ∧ hasPrefix e.2 p = true))) = .exc errNoMatchingCmd ∧
        ∀ e' ∈ es, A e' → hasPrefix e'.2 p = false) := by
  cases hn : L.find? (fun e => decide (A e ∧ hasPrefix e.2 p = true)) with
  | some e =>
    have hq := List.find?_some hn
    simp only [decide_eq_true_eq] at hq
    exact .inl ⟨e, rfl, (hL e).1 (List.mem_of_find?_eq_some hn), hq.1, hq.2,
      fun e' he' a b => hext e hn e' he' (decide_eq_true ⟨a, b⟩)⟩
  | none =>
    refine .inr ⟨rfl, fun e' he' a => ?_⟩
    have := List.find?_eq_none.1 hn e' ((hL e').2 he')
    simp only [decide_eq_true_eq, not_and, Bool.not_eq_true] at this
    exact this a

theorem Log.above (l : Log) (N : Nat) (hN : ∀ e ∈ l.entries, e.1 < N) (f : Nat) (p : Bytes) :
    l.list f N = l.entries.filter (fun e => f ≤ e.1) ∧
    l.prev N p = l.entries.reverse.find? (fun e => hasPrefix e.2 p) ∧
    l.list N f = [] ∧ l.next N p = none ∧ l.get N = none ∧ l.del N = l := by
  refine ⟨List.filter_congr fun e he => by simp [hN e he],
    find?_congr' _ fun e he => by simp [hN e (List.mem_reverse.1 he)],
    List.filter_eq_nil_iff.2 fun e he => by have := hN e he; simp; omega,
    List.find?_eq_none.2 fun e he => by have := hN e he; simp; omega, ?_, ?_⟩
  · rw [Log.get, List.find?_eq_none.2 fun e he => by have := hN e he; simp; omega]
    rfl
  · rw [Log.del, List.filter_eq_self.2 fun e he => by have := hN e he; simp; omega]

end C24
