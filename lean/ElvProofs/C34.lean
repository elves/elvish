/-
C34 — width handling fits text to the requested number of columns.
-/
import ElvModel.C34.Model
import ElvModel.C34.Buffer
import ElvProofs.C34.Utf8
import ElvProofs.C34.Wcwidth
import ElvProofs.C34.Trim
import ElvProofs.C34.Buffer
import ElvProofs.C34.TextView
import ElvProofs.C34.Horizontal
import ElvProofs.C34.TrimLines
open Go C34 C34.Utf8

/-- No row of the generated `combiningRanges` table is lost when it is read as pairs. -/
theorem C34_table_wellformed : combining.length = Gen.C34Wcwidth.combiningRanges.length := by
  decide +kernel

/-- The generated table is sorted: every range is non-empty and ends before the next starts. -/
theorem C34_table_sorted : SortedRanges combining := combining_sorted

/-- `inRange` (Go's `sort.Search` binary search) over the generated table is
membership in one of its ranges. -/
theorem C34_inRange_is_membership (r : Int) :
    inRange r combining = combining.any (fun p => decide (p.1 ≤ r) && decide (r ≤ p.2)) :=
  inRange_combining r

example : inRange 0x301 combining = true := by rw [C34_inRange_is_membership]; decide +kernel
example : inRange 0x41 combining = false := by rw [C34_inRange_is_membership]; decide +kernel

/-- Rune widths are never negative, whatever sequence of `Override` calls was made. -/
theorem C34_ofRune_nonneg (ops : List (Int × Int)) (r : Int) :
    0 ≤ OfRune (ops.foldl (fun o p => override o p.1 p.2) []) r := by
  apply OfRune_nonneg
  exact List.foldlRecOn ops _ (fun _ hp => absurd hp List.not_mem_nil)
    fun o h p _ => override_nonneg o p.1 p.2 h

/-- Without overrides a rune is 0, 1 or 2 columns wide and printable ASCII is 1 column. -/
theorem C34_ofRune_range (r : Int) :
    0 ≤ OfRune [] r ∧ OfRune [] r ≤ 2 ∧ (0x20 ≤ r → r < 0x7f → OfRune [] r = 1) :=
  ⟨OfRune_nonneg [] (fun _ hp => absurd hp List.not_mem_nil) r, OfRune_le_two r, OfRune_ascii r⟩

/-- `s[:i]` in `Trim` cannot panic: the cut offset is the offset of a rune of `s`. -/
theorem C34_trim_slice_in_bounds (wd : Int → Int) (s : Bytes) (wmax : Int) (i : Nat)
    (h : trimIdx wd (runes s) 0 wmax = some i) (hw : 0 ≤ wmax) :
    slice s 0 i = .ok (s.take i) := by
  rw [trimIdx_eq_forceIdx] at h
  rcases forceIdx_cases wd (runes s) 0 wmax with e | ⟨pre, x, post, hL, e, -⟩ <;> rw [e] at h <;> cases h
  have := (runes_mem (s := s) (x := x) (by rw [hL]; simp)).2.1
  exact slice_take_nat s (by omega)

/-- `Trim s w` is a prefix of `s` cut on a rune boundary: it is all of `s` or
`s` up to the offset of one of its runes. -/
theorem C34_trim_boundary_prefix (wd : Int → Int) (s : Bytes) (wmax : Int) :
    Trim wd s wmax = s ∨ ∃ x ∈ runes s, Trim wd s wmax = s.take x.1 := by
  unfold Trim
  rw [trimIdx_eq_forceIdx]
  rcases forceIdx_cases wd (runes s) 0 wmax with e | ⟨pre, x, post, hL, e, -⟩ <;> rw [e]
  · exact .inl rfl
  · exact .inr ⟨x, by rw [hL]; simp, rfl⟩

/-- The result of `Trim` is at most `wmax` columns wide (`wmax ≥ 0`). -/
theorem C34_trim_width_le (wd : Int → Int) (s : Bytes) (wmax : Int) (hw : 0 ≤ wmax) :
    Of wd (Trim wd s wmax) ≤ wmax := Trim_width_le wd s wmax hw

/-- Maximality: either nothing was cut, or the very next rune would exceed `wmax`. -/
theorem C34_trim_maximal (wd : Int → Int) (s : Bytes) (wmax : Int) (hw : 0 ≤ wmax) :
    Trim wd s wmax = s ∨
    ∃ x ∈ runes s, Trim wd s wmax = s.take x.1 ∧ Of wd (Trim wd s wmax) + wd (x.2.1 : Int) > wmax := by
  rcases Trim_cases wd s wmax hw with ⟨h1, _⟩ | ⟨pre, x, post, hL, h1, h2, _, h4⟩
  · left; exact h1
  · right
    refine ⟨x, by rw [hL]; simp, h1, ?_⟩
    rw [h1, Of_eq_sumW, h2]; exact h4

/-- Longest: when rune widths are non-negative, every longer prefix of `s` that
ends on a rune boundary (and `s` itself) is wider than `wmax`. -/
theorem C34_trim_longest (wd : Int → Int) (hwd : ∀ r, 0 ≤ wd r) (s : Bytes) (wmax : Int) (hw : 0 ≤ wmax)
    (hcut : Trim wd s wmax ≠ s) :
    Of wd s > wmax ∧
    ∀ pre' y post', runes s = pre' ++ y :: post' → (Trim wd s wmax).length < y.1 →
      Of wd (s.take y.1) > wmax := by
  rcases Trim_cases wd s wmax hw with ⟨h1, _⟩ | ⟨pre, x, post, hL, h1, h2, h3, h4⟩
  · exact absurd h1 hcut
  · constructor
    · rw [Of_eq_sumW, hL, sumW_append, sumW_cons]
      have := sumW_nonneg wd hwd post
      omega
    · intro pre' y post' hL' hlen
      have hxs : x ∈ runes s := by rw [hL]; simp
      have := (runes_mem hxs).2.1
      rw [h1, List.length_take, Nat.min_eq_left (by omega)] at hlen
      -- offsets grow along `runes s`, so `x` is among the runes before `y`
      have hinc := runes_offsets_increasing s
      rw [hL', List.pairwise_append, List.pairwise_cons] at hinc
      rw [hL', List.mem_append, List.mem_cons] at hxs
      rcases hxs with hx | rfl | hx
      · -- and the runes before `x` are `pre`, whichever way `s` is cut
        obtain ⟨a, c, rfl⟩ := List.append_of_mem hx
        have hy := runes_take s _ y post' hL'
        have ha := runes_take (s.take y.1) a x c hy
        rw [List.take_take, Nat.min_eq_left (by omega), h2] at ha
        rw [Of_eq_sumW, hy, ← ha, sumW_append, sumW_cons]
        have := sumW_nonneg wd hwd c
        omega
      · omega
      · have := hinc.2.1.1 x hx; omega

/-- For a negative width `Trim` returns the empty string. -/
theorem C34_trim_negative (wd : Int → Int) (hwd : ∀ r, 0 ≤ wd r) (s : Bytes) (wmax : Int) (hw : wmax < 0) :
    Trim wd s wmax = [] := Trim_neg wd hwd s wmax hw

/-- U+4E16 (世) is two columns, everything else one. -/
def exWd : Int → Int := fun r => if r = 0x4e16 then 2 else 1
/-- "a世b" -/
def exStr : Bytes := [0x61, 0xe4, 0xb8, 0x96, 0x62]
example : Trim exWd exStr 2 = [0x61] := by decide +kernel
example : Trim exWd exStr 2 ≠ exStr ∧ (0 : Int) ≤ 2 ∧ ∀ r, 0 ≤ exWd r :=
  ⟨by decide, by decide, fun r => by unfold exWd; split <;> omega⟩

/-- `Force s w` has exactly width `w` for `w ≥ 0` (a space is one column wide),
and the `strings.Repeat` count is never negative, so it does not panic. -/
theorem C34_force_width (wd : Int → Int) (hsp : wd 0x20 = 1) (s : Bytes) (width : Int) (hw : 0 ≤ width) :
    ∃ r, Force wd s width = .ok r ∧ Of wd r = width := by
  have := C34_trim_width_le wd s width hw
  rw [Force_eq_Trim, repeatSpace, if_neg (by omega)]
  refine ⟨_, rfl, ?_⟩
  rw [Of_append_spaces, hsp, Int.toNat_of_nonneg (by omega)]
  omega

/-- For a negative width `Force` panics (`strings.Repeat` with a negative count)
when rune widths are non-negative.  No code in the repository calls `Force`. -/
theorem C34_force_negative_panics (wd : Int → Int) (hwd : ∀ r, 0 ≤ wd r) (s : Bytes) (width : Int) (hw : width < 0) :
    ∃ why, Force wd s width = .panic why := by
  have := Of_nonneg wd hwd (Trim wd s width)
  rw [Force_eq_Trim, repeatSpace, if_pos (by omega)]
  exact ⟨_, rfl⟩

example : Force exWd exStr 2 = .ok [0x61, 0x20] ∧ exWd 0x20 = 1 := by decide +kernel

/-- `TrimEachLine(s, w)` trims line by line: splitting the result at newlines gives
exactly the `Trim`s of the lines of `s` (same number of lines, no line merged or
split), and for `w ≥ 0` every line of the result is at most `w` columns wide. -/
theorem C34_trimEachLine_fits (wd : Int → Int) (s : Bytes) (w : Int) :
    splitNL (TrimEachLine wd s w) = (splitNL s).map (fun l => Trim wd l w) ∧
    (0 ≤ w → ∀ l ∈ splitNL (TrimEachLine wd s w), Of wd l ≤ w) := by
  refine ⟨trimEachLine_lines wd s w, fun hw l hl => ?_⟩
  rw [trimEachLine_lines] at hl
  obtain ⟨l0, _, rfl⟩ := List.mem_map.1 hl
  exact C34_trim_width_le wd l0 w hw

-- "a世b\nab" at width 2 gives the lines "a" and "ab"
example : splitNL (TrimEachLine exWd (exStr ++ [10, 0x61, 0x62]) 2) = [[0x61], [0x61, 0x62]] := by decide +kernel

/-- `WdOK` (rune widths in 0..2, printable ASCII one column), the hypothesis of the widget
theorems, holds when no width overrides are installed. -/
theorem C34_wdOK_no_overrides : WdOK (OfRune []) :=
  ⟨fun r => (C34_ofRune_range r).1, fun r => (C34_ofRune_range r).2.1, fun r => (C34_ofRune_range r).2.2⟩

/-- The wrapping invariant of `BufferBuilder` (width ≥ 2, indent + 2 ≤ width):
every finished line and the current line fit in the width.  It holds initially
and is preserved by `WriteRuneSGR` (any rune `range` can produce), `Newline`,
`WriteStringSGR` and `WriteStyled` — a two-column cell never straddles the edge. -/
theorem C34_bufferbuilder_invariant (wd : Int → Int) (ok : WdOK wd) :
    (∀ W, 2 ≤ W → ∃ b, newBB W = .ok b ∧ Inv wd b ∧ b.width = W) ∧
    (∀ b, Inv wd b → Inv wd (b.newline wd)) ∧
    (∀ b r, Inv wd b → validRune r = true → Inv wd (b.writeRune wd r)) ∧
    (∀ b s, Inv wd b → Inv wd (b.writeString wd s)) ∧
    (∀ b segs, Inv wd b → Inv wd (b.writeSegs wd segs)) ∧
    (∀ b k, Inv wd b → k + 2 ≤ b.width → Inv wd { b with indent := k }) :=
  ⟨fun W hW => (InvAt.new wd W hW).mono fun _ h => ⟨h.inv, h.width⟩,
   fun _ h => (h.newline ok).1,
   fun _ r h hr => (InvAt.writeRune ok ⟨h, rfl⟩ r hr).inv,
   fun _ s h => (InvAt.writeString ok ⟨h, rfl⟩ s).inv,
   fun _ segs h => (InvAt.writeSegs ok ⟨h, rfl⟩ segs).inv,
   fun b k h hk => (InvAt.setFlags ⟨h, rfl⟩ b.eager k hk).inv⟩

/-- Under the invariant every line of the built buffer is at most `width` columns wide. -/
theorem C34_bufferbuilder_lines_fit (wd : Int → Int) (b : BB) (h : Inv wd b) :
    ∀ l ∈ b.buffer.lines, lineWidth wd l ≤ b.width := h.lines_fit

theorem C34_exWd_ok : WdOK exWd :=
  ⟨fun r => by unfold exWd; split <;> omega, fun r => by unfold exWd; split <;> omega,
    fun r h1 h2 => by unfold exWd; rw [if_neg (by omega)]⟩

example : ∃ b, newBB 2 = .ok b ∧ Inv exWd ((b.writeString exWd exStr)) := by
  exact (InvAt.new exWd 2 (by omega)).mono fun b hi => (hi.writeString C34_exWd_ok exStr).inv

/-- `Label.Render(W, H)` for `W ≥ 2`, `H ≥ 0`: no panic, at most `H` lines, each at most `W` wide. -/
theorem C34_label_fits (wd : Int → Int) (ok : WdOK wd) (content : List Bytes) (W H : Int)
    (hW : 2 ≤ W) (hH : 0 ≤ H) :
    ∃ buf, labelRender wd content W H = .ok buf ∧ (buf.lines.length : Int) ≤ H ∧
      ∀ l ∈ buf.lines, lineWidth wd l ≤ W := by
  unfold labelRender
  refine ROk.bind (InvAt.new wd W hW) fun b hi => ?_
  have hi' := hi.writeSegs ok content
  exact (trimToLines_ok (b.writeSegs wd content).buffer 0 H (Int.le_refl _) (Int.natCast_nonneg _) hH).mono
    fun b' ⟨hlen, hmem⟩ => ⟨by omega, fun l hl => hi'.width ▸ hi'.inv.lines_fit l (hmem l hl)⟩

example : (match labelRender exWd [exStr] 2 1 with | .ok b => b.lines | _ => []) = [[[0x61]]] := by decide +kernel

/-- `CodeArea.Render(W, H)` (prompt, code with the dot, right prompt, tips; eager
wrapping and the prompt indent included) for `W ≥ 2`, `H ≥ 0`: no panic, at
most `H` lines, each at most `W` wide. -/
theorem C34_codearea_fits (wd : Int → Int) (ok : WdOK wd) (prompt before after rprompt : List Bytes)
    (tips : List (List Bytes)) (W H : Int) (hW : 2 ≤ W) (hH : 0 ≤ H) :
    ∃ buf, codeAreaRender wd prompt before after rprompt tips W H = .ok buf ∧
      (buf.lines.length : Int) ≤ H ∧ ∀ l ∈ buf.lines, lineWidth wd l ≤ W := by
  unfold codeAreaRender
  refine ROk.bind (InvAt.new wd W hW) fun b0 hi0 => ?_
  refine ROk.bind (renderView_inv ok prompt before after rprompt tips hi0) fun bb hi => ?_
  exact (truncateToHeight_ok bb.buffer H hH
    (by have := hi.inv.dothi; rw [bb.buffer_lines_length]; simp only [BB.buffer]; omega)).mono
    fun b' ⟨hlen, hmem⟩ => ⟨hlen, fun l hl => hi.width ▸ hi.inv.lines_fit l (hmem l hl)⟩

/-
The full statements for `TextView` and `ListBox` are false for the code (findings
`textview-control-char`, `listbox-control-char`): a C0 control character or DEL counts 0 columns
in `wcwidth.Trim`/`TrimWcwidth` but is written as `^X` (2 columns), so a trimmed line can still
wrap (`C34_counterexample`).  The bound is proved on the complement of that class
(`C34_textview_fits_partial`, `C34_listbox_fits_partial`).
-/

/-- `TextView.Render(W, H)` for `W ≥ 2`, `H ≥ 1`, `First ≥ 0`: at most `H` lines, each at most `W` wide. -/
def C34_full_textview : Prop :=
  ∀ (wd : Int → Int), WdOK wd → ∀ (sc : Bool) (lines : List Bytes) (first W H : Int),
    2 ≤ W → 1 ≤ H → 0 ≤ first →
    ∃ buf, textViewRender wd sc lines first W H = .ok buf ∧ (buf.lines.length : Int) ≤ H ∧
      ∀ l ∈ buf.lines, lineWidth wd l ≤ W

/-- `ListBox.Render(W, H)` for `W ≥ 2`, `H ≥ 1`, padding 0 or 1, `First ≥ 0`,
selection in range: at most `H` lines, each at most `W` wide. -/
def C34_full_listbox : Prop :=
  ∀ (wd : Int → Int), WdOK wd → ∀ (horizontal ext : Bool) (ph : List Bytes) (items : List (List Bytes))
    (sel first pad W H : Int),
    2 ≤ W → 1 ≤ H → 0 ≤ first → 0 ≤ pad → pad ≤ 1 → (items ≠ [] → 0 ≤ sel ∧ sel < items.length) →
    ∃ buf, listBoxRender wd horizontal ph items sel first pad ext W H = .ok buf ∧
      (buf.lines.length : Int) ≤ H ∧ ∀ l ∈ buf.lines, lineWidth wd l ≤ W

/-- Witness (harness/corpus/C34.txt): one line of three tabs at 4×1 is written
as `^I^I` / `^I`, two lines for height 1. -/
theorem C34_counterexample : ¬ C34_full_textview := by
  intro h
  obtain ⟨buf, hb, hl, _⟩ := h exWd C34_exWd_ok false [[9, 9, 9]] 0 4 1 (by omega) (by omega) (by omega)
  have e : (match textViewRender exWd false [[9, 9, 9]] 0 4 1 with
      | .ok b => b.lines.length
      | _ => 0) = 2 := by decide +kernel
  rw [hb] at e
  simp only at e
  omega

/-- `TextView.Render(W, H)` for `W ≥ 2`, `H ≥ 1`, `First ≥ 0` and lines without C0 control
characters/DEL (`NoCtl`: no byte `< 0x20` or `= 0x7f`): no panic, at most `H` lines, each at most
`W` wide (with and without the scrollbar). -/
theorem C34_textview_fits_partial (wd : Int → Int) (ok : WdOK wd) (sc : Bool) (lines : List Bytes)
    (first W H : Int) (hW : 2 ≤ W) (hH : 1 ≤ H) (hf : 0 ≤ first) (hc : ∀ l ∈ lines, NoCtl l) :
    ∃ buf, textViewRender wd sc lines first W H = .ok buf ∧ (buf.lines.length : Int) ≤ H ∧
      ∀ l ∈ buf.lines, lineWidth wd l ≤ W :=
  textView_fits wd ok sc lines first W H hW hH hf hc

-- three control-free lines "a世b" at 2×2, scrolled to the end: 2 lines (text column + scrollbar)
example : (∀ l ∈ [exStr, exStr, exStr], NoCtl l) ∧
    (match textViewRender exWd true [exStr, exStr, exStr] 5 2 2 with
      | .ok b => b.lines
      | _ => []) = [[[0x61], [0x20]], [[0x61], [0x20]]] := by decide +kernel

/-- Vertical `ListBox.Render(W, H)` for `W ≥ 2`, `H ≥ 1`, padding 0 or 1, ANY selection and `First`
(the code clamps them), items without C0 control characters/DEL other than the newlines that
separate the lines of a multi-line item (`NoCtlNL`): no panic, at most `H` lines, each at most `W` wide. -/
theorem C34_listbox_vertical_fits_partial (wd : Int → Int) (ok : WdOK wd) (ext : Bool) (ph : List Bytes)
    (items : List (List Bytes)) (sel first pad W H : Int) (hW : 2 ≤ W) (hH : 1 ≤ H) (hp0 : 0 ≤ pad) (hp1 : pad ≤ 1)
    (hc : ∀ it ∈ items, ∀ seg ∈ it, NoCtlNL seg) :
    ∃ buf, listBoxRender wd false ph items sel first pad ext W H = .ok buf ∧ (buf.lines.length : Int) ≤ H ∧
      ∀ l ∈ buf.lines, lineWidth wd l ≤ W := by
  unfold listBoxRender
  cases items with
  | nil => exact C34_label_fits wd ok ph W H hW (by omega)
  | cons it its =>
    simp only [List.isEmpty_cons, Bool.false_eq_true, if_false]
    exact listBoxVertical_fits wd ok (it :: its) sel first pad ext W H hW hH hp0 hp1 (by simp) hc

/-- Horizontal `ListBox.Render(W, H)` for `W ≥ 2`, `H ≥ 1`, padding 0 or 1, `First ≥ 0`, selection
within the items, items without C0 control characters/DEL (`NoCtl`; a horizontal item is one
line): no panic (no division by zero, the window loops end), at most `H` lines, each at most `W` wide. -/
theorem C34_listbox_horizontal_fits_partial (wd : Int → Int) (ok : WdOK wd) (ext : Bool) (ph : List Bytes)
    (items : List (List Bytes)) (sel first pad W H : Int) (hW : 2 ≤ W) (hH : 1 ≤ H) (hf : 0 ≤ first)
    (hp0 : 0 ≤ pad) (hp1 : pad ≤ 1) (hs : items ≠ [] → 0 ≤ sel ∧ sel < items.length)
    (hc : ∀ it ∈ items, ∀ seg ∈ it, NoCtl seg) :
    ∃ buf, listBoxRender wd true ph items sel first pad ext W H = .ok buf ∧ (buf.lines.length : Int) ≤ H ∧
      ∀ l ∈ buf.lines, lineWidth wd l ≤ W := by
  unfold listBoxRender
  cases items with
  | nil => exact C34_label_fits wd ok ph W H hW (by omega)
  | cons it its =>
    simp only [List.isEmpty_cons, Bool.false_eq_true, if_false, if_true]
    have := hs (by simp)
    exact listBoxHorizontal_fits wd ok (it :: its) sel first pad ext W H hW hH hf hp0 hp1 (by simp) this.1 this.2 hc

/-- `C34_full_listbox` restricted to items without C0 control characters/DEL — exactly the
complement of the finding class `listbox-control-char` (in the vertical layout a newline is the
line separator of a multi-line item, not a control character of a line). -/
theorem C34_listbox_fits_partial (wd : Int → Int) (ok : WdOK wd) (horizontal ext : Bool) (ph : List Bytes)
    (items : List (List Bytes)) (sel first pad W H : Int) (hW : 2 ≤ W) (hH : 1 ≤ H) (hf : 0 ≤ first)
    (hp0 : 0 ≤ pad) (hp1 : pad ≤ 1) (hs : items ≠ [] → 0 ≤ sel ∧ sel < items.length)
    (hc : ∀ it ∈ items, ∀ seg ∈ it, if horizontal then NoCtl seg else NoCtlNL seg) :
    ∃ buf, listBoxRender wd horizontal ph items sel first pad ext W H = .ok buf ∧
      (buf.lines.length : Int) ≤ H ∧ ∀ l ∈ buf.lines, lineWidth wd l ≤ W := by
  cases horizontal with
  | true =>
    exact C34_listbox_horizontal_fits_partial wd ok ext ph items sel first pad W H hW hH hf hp0 hp1 hs
      (fun it hit seg hseg => by simpa using hc it hit seg hseg)
  | false =>
    exact C34_listbox_vertical_fits_partial wd ok ext ph items sel first pad W H hW hH hp0 hp1
      (fun it hit seg hseg => by simpa using hc it hit seg hseg)

-- vertical, items "a", "b\nc\nd\ne\nf" at 10×3: 3 lines
example : (∀ it ∈ [[[0x61]], [[0x62, 10, 0x63, 10, 0x64, 10, 0x65, 10, 0x66]]], ∀ seg ∈ it, NoCtlNL seg) ∧
    (match listBoxRender exWd false [] [[[0x61]], [[0x62, 10, 0x63, 10, 0x64, 10, 0x65, 10, 0x66]]] 0 0 0 false 10 3 with
      | .ok b => b.lines.length
      | _ => 0) = 3 := by decide +kernel
-- horizontal, five items "a世b" at 7×2 with the last selected: 2 lines (one row of columns + scrollbar)
example : (∀ it ∈ [[exStr], [exStr], [exStr], [exStr], [exStr]], ∀ seg ∈ it, NoCtl seg) ∧
    (match listBoxRender exWd true [] [[exStr], [exStr], [exStr], [exStr], [exStr]] 4 0 0 false 7 2 with
      | .ok b => (b.lines.length, b.lines.map (lineWidth exWd))
      | _ => (0, [])) = (2, [4, 7]) := by decide +kernel
