/-
C42 — redirections route bytes and values exactly as specified.
The theorems are about `Cfg.fixed` (the tree with `fixes/C42-*.patch`) against `ElvModel/C42/Spec.lean`;
the counterexamples are about the unchanged tree (`Cfg.orig`).
-/
import ElvProofs.C42.Refine
import ElvProofs.C42.Route
import ElvProofs.C42.Chan
import ElvProofs.C42.Close
open Go C42

/-- The frame a top-level form starts with: ports 0, 1, 2 on three open files. -/
def C42_st0 : St :=
  ⟨[some ⟨0, some 0, .closed, false, false, false⟩, some ⟨1, some 1, .live 1, false, false, false⟩,
    some ⟨2, some 2, .live 2, false, false, false⟩], [],
   ⟨[("in", .file []), ("out", .file []), ("err", .file [])],
    [⟨"in", 0, true, false, false, true⟩, ⟨"out", 0, false, true, true, true⟩, ⟨"err", 0, false, true, true, true⟩],
    [], []⟩, 3⟩

/-- C42, table: for any list of redirections and any frame, when the redirection loop returns, the
table it built (`lookup ports`), the file system, the number of files opened and the exception (if
any) are those of the specification: left-to-right application of the documented meaning of
`<`, `>`, `>>`, `<>`, `n>&m`, `n>&-`. -/
theorem C42_table_is_spec_table (st : St) (rs : List Redir) (s : Step)
    (h : execRedirs Cfg.fixed st rs = .ok s) :
    specRedirs st.abs rs = (s.st.abs, s.exc) :=
  execRedirs_refines rs h

/-- The same, read per fd. -/
theorem C42_table_pointwise (st : St) (rs : List Redir) (s : Step)
    (h : execRedirs Cfg.fixed st rs = .ok s) (n : Nat) :
    lookup s.st.ports n = (specRedirs st.abs rs).1.tbl n := by
  rw [C42_table_is_spec_table st rs s h]; rfl

/-- C42, fd values: every destination value — any string with any parse, any integer however
negative or large, any other value, any number of values — either raises an exception or is an
index in `0..maxRedirFD` for which both slices grow without a panic, in any frame. -/
theorem C42_every_dst_fd_port_or_exception (st : St) (r : Redir) :
    (∃ e, evalDst Cfg.fixed r = .exc e) ∨
    (∃ dst x, evalDst Cfg.fixed r = .ok dst ∧ 0 ≤ dst ∧ dst ≤ maxRedirFD ∧ prepDst Cfg.fixed st dst = .ok x) := by
  cases hd : evalDst Cfg.fixed r with
  | panic m => exact absurd hd (evalDst_noPanic _ _ m)
  | exc e => exact Or.inl ⟨e, rfl⟩
  | ok dst =>
    obtain ⟨h0, h1⟩ := evalDst_fixed_range hd
    exact Or.inr ⟨dst, _, rfl, h0, h1, prepDst_fixed st h0 h1⟩

/-- Every source fd value either raises an exception, is the close marker of `&-`, or is an index
in `0..maxRedirFD`; installing the source never panics. -/
theorem C42_every_src_fd_port_or_exception (st : St) (d : Nat) (mode : Mode) (v : FdVal) :
    NoPanic (installSrc Cfg.fixed st d mode (.fd v)) ∧
    ∀ n, evalForFd Cfg.fixed v true = .ok n → (0 ≤ n ∧ n ≤ maxRedirFD) ∨ n = -1 :=
  ⟨installSrc_noPanic_fixed _ _ _ _, fun _ h => (evalForFd_fixed_range h).imp id And.left⟩

/-- `pid` is the identity of a `*Port`: the allocator's counter is above every
port of the table (a port made by `&Port{…}` is a pointer that did not exist),
and two entries with the same pid are the same port.  Every frame the real
code can build satisfies this. -/
def C42_PidsWF (st : St) : Prop :=
  (∀ (i : Nat) (p : Port), lookup st.ports i = some p → p.pid < st.nextPid) ∧
  (∀ (i j : Nat) (p q : Port), lookup st.ports i = some p → lookup st.ports j = some q → p.pid = q.pid → p = q)

/-- What `C42_no_panic` asks of the frame; it concerns only the value channels the form owns (a
form followed by another form of its pipeline owns the channel of its output pipe): an owned
channel is live and not closed, no channel is owned twice, and pids are pointer identities. -/
def C42_ChanWF (st : St) : Prop :=
  (∀ (i : Nat) (f : Fop), st.fops[i]? = some f → f.chan = true →
    ∃ p id, lookup st.ports i = some p ∧ p.chan = .live id ∧ id ∉ st.w.closedChans) ∧
  (∀ (i j : Nat) (fi fj : Fop) (pi pj : Port), i ≠ j → st.fops[i]? = some fi → fi.chan = true →
    st.fops[j]? = some fj → fj.chan = true → lookup st.ports i = some pi → lookup st.ports j = some pj →
    pi.chan ≠ pj.chan) ∧
  C42_PidsWF st

theorem C42.chanWF_iff {st : St} : C42_ChanWF st ↔ ChanInv st ∧ PidInv st := by
  constructor
  · rintro ⟨h1, h2, hlt, hinj⟩
    refine ⟨⟨fun i hi => h1 i _ (getElem?_of_chan hi) hi, ?_⟩, hlt, hinj⟩
    intro i j p q hij hi hj hpi hpj
    exact h2 i j _ _ p q hij (getElem?_of_chan hi) hi (getElem?_of_chan hj) hj hpi hpj
  · rintro ⟨hc, hp⟩
    refine ⟨fun i f hf hch => hc.owner i (by rw [fopAt_of_getElem? hf]; exact hch), ?_, hp.lt, hp.inj⟩
    intro i j fi fj pi pj hij hfi hci hfj hcj hpi hpj
    exact hc.uniq i j pi pj hij (by rw [fopAt_of_getElem? hfi]; exact hci)
      (by rw [fopAt_of_getElem? hfj]; exact hcj) hpi hpj

def C42_no_panic_full : Prop :=
  ∀ (st : St) (rs : List Redir), C42_ChanWF st → ∃ s, execRedirs Cfg.fixed st rs = .ok s

/-- C42, no panic: whatever the fd values, however many redirections, and in every position of a
pipeline, the redirection loop returns — with the table or with an exception — and never panics.
In particular `close(p.Chan)` of the channel of the form's output pipe is never reached twice:
when the port is redirected away the channel is closed once, or handed over to the entry that
still uses the port. -/
theorem C42_no_panic : C42_no_panic_full := by
  intro st rs h
  obtain ⟨hc, hp⟩ := C42.chanWF_iff.mp h
  exact (execRedirs_chanInv rs st hp hc).imp fun _ h => h.1

/-- The invariant is kept: after the loop every channel the form still owns is live and not closed,
and no two entries own the same channel — so the stage end closes each of them exactly once. -/
theorem C42_owned_channels_after_redirs (st : St) (rs : List Redir) (h : C42_ChanWF st) :
    ∃ s, execRedirs Cfg.fixed st rs = .ok s ∧ C42_ChanWF s.st := by
  obtain ⟨hc, hp⟩ := C42.chanWF_iff.mp h
  obtain ⟨s, hs, hp', hc'⟩ := execRedirs_chanInv rs st hp hc
  exact ⟨s, hs, C42.chanWF_iff.mpr ⟨hc', hp'⟩⟩

/-- A form that owns no value channel (the last form of a pipeline, in particular a stand-alone
form) needs no hypothesis, not even on the pids. -/
theorem C42_no_panic_without_owned_channel (st : St) (rs : List Redir)
    (h : ∀ (i : Nat) (f : Fop), st.fops[i]? = some f → f.chan = false) :
    ∃ s, execRedirs Cfg.fixed st rs = .ok s :=
  (execRedirs_fixed_ok rs st h).imp fun _ h => h.1

/-- The frame of a form followed by another form (`form | …`): port 1 is the
output pipe, whose file and channel the form owns. -/
def C42_stPipeOut (nextPid : Nat) : St :=
  ⟨[some ⟨0, some 0, .closed, false, false, false⟩, some ⟨4, some 3, .live 4, false, true, false⟩,
    some ⟨2, some 2, .live 2, false, false, false⟩], [Fop.unowned, ⟨true, true⟩],
   ⟨[("in", .file []), ("err", .file []), ("|dn", .file [])],
    [⟨"in", 0, true, false, false, true⟩, ⟨"out", 0, false, true, true, true⟩, ⟨"err", 0, false, true, true, true⟩,
     ⟨"|dn", 0, false, true, true, true⟩], [], []⟩, nextPid⟩

/-- `3>a >b 3>c` in front of a pipe. -/
def C42_overridePipeOut : List Redir :=
  [⟨some (.int 3), .write, .name "a"⟩, ⟨none, .write, .name "b"⟩, ⟨some (.int 3), .write, .name "c"⟩]

/-- `C42_PidsWF` is needed in `C42_no_panic`: in a model state whose allocator hands out the pid of
the pipe port again, `3>a >b 3>c` hands the channel over to the port of `a` and closes a nil
channel.  With a fresh counter the same redirections close the pipe's channel once. -/
theorem C42_no_panic_needs_pid_identity :
    execRedirs Cfg.fixed (C42_stPipeOut 4) C42_overridePipeOut = .panic "close of nil channel" ∧
    ∃ s, execRedirs Cfg.fixed (C42_stPipeOut 5) C42_overridePipeOut = .ok s ∧ s.exc = none ∧
      s.st.w.closedChans = [4] := ⟨rfl, _, rfl, rfl, rfl⟩

/-- C42, values: after a successful redirection whose source is a file name, a file object, a map
or `&-`, the destination port refuses values: `put` in any frame that has this port as port 1
(e.g. after `>&n`) raises "port does not support value output". -/
theorem C42_value_output_raises (st st' : St) (r : Redir) (hsrc : r.src.isFileOrClose = true)
    (h : execRedir Cfg.fixed st r = .ok ⟨st', none⟩) :
    ∃ dst p, evalDst Cfg.fixed r = .ok dst ∧ lookup st'.ports dst.toNat = some p ∧
      ∀ (s2 : St) (v : Bytes), s2.ports[1]? = some (some p) →
        valueOutput Cfg.fixed s2 v = .ok (s2, some eNoValueOutput) := by
  obtain ⟨d, st1, hd, hi, hr⟩ := execRedir_fixed_ok_inv h
  obtain ⟨p, hp, hrf⟩ := installSrc_refuses hsrc hi
  exact ⟨d, p, hd, lookup_after_release hp hr, fun s2 v h2 => valueOutput_refused v h2 hrf⟩

/-- C42, bytes: after `<f`, `>f`, `>>f`, `<>f` on a regular or not yet existing file, writing `d`
through the new port is refused (`<`, which reads the old content), leaves `f = d` (`>`),
`old ++ d` (`>>`) or `d` over the head of `old` (`<>`), and no other path changes. -/
theorem C42_bytes_routed_by_mode {st st' : St} {dstv : Option FdVal} {mode : Mode} {path : String}
    {old : Option Bytes} (d : Bytes)
    (hwf : PortsInRange st) (hfile : st.w.fs.get path = old.map Node.file)
    (h : execRedir Cfg.fixed st ⟨dstv, mode, .name path⟩ = .ok ⟨st', none⟩) :
    ∃ dst p hi, evalDst Cfg.fixed ⟨dstv, mode, .name path⟩ = .ok dst ∧
      lookup st'.ports dst.toNat = some p ∧ p.file = some hi ∧
      match mode with
      | .read =>
        writeHandle st'.w (some hi) d = .error "w-ebadf" ∧
        ∃ data w', old = some data ∧ readHandle st'.w (some hi) = .ok (w', data)
      | .write => ∃ w', writeHandle st'.w (some hi) d = .ok w' ∧ w'.fs.get path = some (.file d) ∧
          ∀ q, q ≠ path → w'.fs.get q = st.w.fs.get q
      | .append => ∃ w', writeHandle st'.w (some hi) d = .ok w' ∧
          w'.fs.get path = some (.file (contentOr old ++ d)) ∧ ∀ q, q ≠ path → w'.fs.get q = st.w.fs.get q
      | .readWrite => ∃ w', writeHandle st'.w (some hi) d = .ok w' ∧
          w'.fs.get path = some (.file (d ++ (contentOr old).drop d.length)) ∧
          ∀ q, q ≠ path → w'.fs.get q = st.w.fs.get q := by
  obtain ⟨dst, fs', hd, hdst, hopen, hport, hh, hfs⟩ := execRedir_name_inv hwf h
  obtain ⟨hhd, hother, hmode⟩ := openFile_regular hfile hopen
  refine ⟨dst, _, st.w.hs.length, hdst, hport, fileRedirPort_file _ _ _, ?_⟩
  subst hhd
  subst hfs
  -- a write through the new handle, whatever the file holds after the opening
  have hwrite : ∀ {content : Bytes}, (makeFlag mode).wr = true → st'.w.fs.get path = some (.file content) →
      ∃ w', writeHandle st'.w (some st.w.hs.length) d = .ok w' ∧
        w'.fs.get path = some (.file (if (makeFlag mode).app then content ++ d else writeAt content 0 d)) ∧
        ∀ q, q ≠ path → w'.fs.get q = st.w.fs.get q := by
    intro content hwr hget
    obtain ⟨w', hw, hg, ho⟩ := writeHandle_ok d hh rfl hwr hget
    exact ⟨w', hw, hg, fun q hq => (ho q hq).trans (hother q hq)⟩
  cases mode with
  | read =>
    obtain ⟨data, hold, hget⟩ := hmode
    obtain ⟨w', hr⟩ := readHandle_ok hh rfl rfl hget
    exact ⟨writeHandle_readonly d hh rfl rfl, data, w', hold, by simpa using hr⟩
  | write => simpa [makeFlag, writeAt_zero] using hwrite rfl hmode
  | append => simpa [makeFlag] using hwrite rfl hmode
  | readWrite => simpa [makeFlag, writeAt_zero] using hwrite rfl hmode

/-- C42, closing, for a form alone in its pipeline: when the form has finished, every file opened
by one of its redirections is closed, and every file that existed before (inherited ports, file
objects, pipes given as maps) has kept its open state.  Without `C42_PidsWF` this is false:
`C42_files_closed_needs_pid_identity`. -/
def C42_files_closed_full : Prop :=
  ∀ (st : St) (rs : List Redir) (as : List Action) (o : FormOut),
    st.fops = [] → C42_PidsWF st →
    runForm Cfg.fixed st none rs as = .ok o →
    (∀ (h : Nat) (hd : Handle), st.w.hs.length ≤ h → o.st.w.hs[h]? = some hd → hd.isOpen = false) ∧
    (∀ (h : Nat) (hd : Handle), st.w.hs[h]? = some hd → ∃ hd', o.st.w.hs[h]? = some hd' ∧ hd'.isOpen = hd.isOpen)

/-- The same for a form in any position of a pipeline (it then starts with owned entries: its input
pipe, the file and channel of its output pipe): when it has finished — normally, with a redirection
that failed half-way, or with actions that failed — every file it owned at the start and every file
one of its redirections opened is closed, and every other file has kept its open state. -/
theorem C42_form_closes_exactly_what_it_owns (st : St) (inPipe : Option Port) (rs : List Redir)
    (as : List Action) (o : FormOut) (hp : C42_PidsWF st)
    (hflag : ∀ i, (fopAt st.fops i).file = true → ∃ p, lookup st.ports i = some p)
    (h : runForm Cfg.fixed st inPipe rs as = .ok o) :
    (∀ (h : Nat) (hd : Handle),
      ((∃ i p, (fopAt st.fops i).file = true ∧ lookup st.ports i = some p ∧ p.file = some h) ∨ st.w.hs.length ≤ h) →
      o.st.w.hs[h]? = some hd → hd.isOpen = false) ∧
    (∀ (h : Nat) (hd : Handle),
      ¬ (∃ i p, (fopAt st.fops i).file = true ∧ lookup st.ports i = some p ∧ p.file = some h) →
      st.w.hs[h]? = some hd → ∃ hd', o.st.w.hs[h]? = some hd' ∧ hd'.isOpen = hd.isOpen) := by
  -- tracked: what the form owns at the start, and every file opened later
  have hinv : FileInv (fun h => OwnsFile st h ∨ st.w.hs.length ≤ h) st := by
    refine ⟨fun h hh => Or.inr hh, ?_, ?_⟩
    · intro i hi
      obtain ⟨p, hl⟩ := hflag i hi
      exact ⟨p, hl, fun h hf => Or.inl ⟨i, p, hi, hl, hf⟩⟩
    · intro h hd hT hh _
      rcases hT with hT | hT
      · exact hT
      · rw [List.getElem?_eq_none_iff.mpr hT] at hh; cases hh
  obtain ⟨hA, hB⟩ := runForm_files h ⟨hp.1, hp.2⟩ hinv
  refine ⟨hA, fun h hd hno hh => ?_⟩
  have hlt : h < st.w.hs.length := (List.getElem?_eq_some_iff.mp hh).1
  have := hB h (by rintro (x | x); exact hno x; omega)
  rw [hh] at this
  cases hx : o.st.w.hs[h]? with
  | none => rw [hx] at this; cases this
  | some x => rw [hx] at this; exact ⟨x, rfl, Option.some.inj this⟩

theorem C42_files_closed : C42_files_closed_full := by
  intro st rs as o hfops hp h
  have hnone : ∀ i, ¬ (fopAt st.fops i).file = true := by
    intro i hi
    rw [hfops, fopAt_nil] at hi; cases hi
  obtain ⟨hA, hB⟩ := C42_form_closes_exactly_what_it_owns st none rs as o hp (fun i hi => absurd hi (hnone i)) h
  exact ⟨fun h hd hge hh => hA h hd (Or.inr hge) hh,
    fun h hd hh => hB h hd (fun ⟨i, _, hi, _⟩ => hnone i hi) hh⟩

/-- A model state in which the allocator hands out a pid that is already in
the table (port 5, on the foreign file 0, has the pid the next port will get). -/
def C42_stStalePid : St :=
  { C42_st0 with ports := C42_st0.ports ++ [none, none, some ⟨3, some 0, .closed, false, false, false⟩] }

/-- `C42_PidsWF` is needed in `C42_files_closed_full`: in `C42_stStalePid`, `>a >b` hands the
ownership of `a` over to port 5, so the form closes the foreign file 0 and leaves `a` (file 3) open. -/
theorem C42_files_closed_needs_pid_identity :
    C42_stStalePid.fops = [] ∧ PortsInRange C42_stStalePid ∧
    ∃ o, runForm Cfg.fixed C42_stStalePid none [⟨none, .write, .name "a"⟩, ⟨none, .write, .name "b"⟩] [] = .ok o ∧
      o.st.w.hs.map (·.isOpen) = [false, true, true, true, false] :=
  ⟨rfl, portsInRange_of_all rfl, _, rfl, rfl⟩

theorem C42_counterexample_negative_dst :
    execRedir Cfg.orig C42_st0 ⟨some (.int (-1)), .write, .name "f"⟩ = .panic "index out of range" := rfl

theorem C42_counterexample_huge_dst :
    execRedir Cfg.orig C42_st0 ⟨some (.int 100000000000), .write, .name "f"⟩ = .panic "out of memory" := rfl

theorem C42_counterexample_negative_src :
    execRedir Cfg.orig C42_st0 ⟨none, .write, .fd (.int (-2))⟩ = .panic "index out of range" := rfl

/-- `>&-1` is taken for `>&-` by the unchanged tree. -/
theorem C42_counterexample_minus_one_closes :
    ∃ st', execRedir Cfg.orig C42_st0 ⟨none, .write, .fd (.int (-1))⟩ = .ok ⟨st', none⟩ ∧
      lookup st'.ports 1 = some (closedPort 3) := ⟨_, rfl, rfl⟩

def C42_dupThenOverride : List Redir :=
  [⟨some (.int 3), .write, .name "a"⟩, ⟨some (.int 4), .write, .fd (.int 3)⟩, ⟨some (.int 3), .write, .name "b"⟩]

/-- `3>a 4>&3 3>b` on the unchanged tree: port 4 is left on a closed file. -/
theorem C42_counterexample_dup_then_override :
    ∃ s p h hd, execRedirs Cfg.orig C42_st0 C42_dupThenOverride = .ok s ∧ s.exc = none ∧
      lookup s.st.ports 4 = some p ∧ p.file = some h ∧ s.st.w.hs[h]? = some hd ∧ hd.isOpen = false ∧
      writeHandle s.st.w p.file [120] = .error "w-closed" := by
  refine ⟨_, _, _, _, rfl, rfl, rfl, rfl, rfl, rfl, rfl⟩

/-- … and on the fixed code it still refers to the open file `a`. -/
theorem C42_fixed_dup_then_override :
    ∃ s p w', execRedirs Cfg.fixed C42_st0 C42_dupThenOverride = .ok s ∧ s.exc = none ∧
      lookup s.st.ports 4 = some p ∧ writeHandle s.st.w p.file [120] = .ok w' ∧
      w'.fs.get "a" = some (.file [120]) := by
  refine ⟨_, _, _, rfl, rfl, rfl, rfl, rfl⟩

/-- `3>a 3>&3` on the unchanged tree closes `a` and keeps port 3 on it. -/
theorem C42_counterexample_self_dup :
    ∃ s p, execRedirs Cfg.orig C42_st0 [⟨some (.int 3), .write, .name "a"⟩, ⟨some (.int 3), .write, .fd (.int 3)⟩] = .ok s ∧
      s.exc = none ∧ lookup s.st.ports 3 = some p ∧ writeHandle s.st.w p.file [120] = .error "w-closed" :=
  ⟨_, _, rfl, rfl, rfl, rfl⟩

/-- `put x >&0` (and `put x 1<f`) on the unchanged tree: send on closed channel. -/
theorem C42_counterexample_value_output_input_port :
    runAction Cfg.orig C42_st0 (.put (some 0) [120]) = .panic "send on closed channel" := rfl

/-- The frame of a form whose input is a pipe (`a | form`): port 0 is the pipe, owned by the form. -/
def C42_stPipeIn : St × Port :=
  let p : Port := ⟨3, some 3, .live 3, false, true, true⟩
  (⟨[some p, some ⟨1, some 1, .live 1, false, false, false⟩, some ⟨2, some 2, .live 2, false, false, false⟩], [⟨true, false⟩],
    ⟨[("in", .file [65]), ("out", .file []), ("err", .file []), ("|up", .file [])],
     [⟨"in", 0, true, false, false, true⟩, ⟨"out", 0, false, true, true, true⟩, ⟨"err", 0, false, true, true, true⟩,
      ⟨"|up", 0, true, false, false, true⟩], [], []⟩, 4⟩, p)

/-- `a | form <in` on the unchanged tree: nil dereference when the form ends. -/
theorem C42_counterexample_pipe_input_redirected :
    runForm Cfg.orig C42_stPipeIn.1 (some C42_stPipeIn.2) [⟨none, .read, .name "in"⟩] [] =
      .panic "nil pointer dereference or close of closed channel" := rfl

/-- The unchanged tree is not panic-free, even for a stand-alone form. -/
theorem C42_counterexample :
    ¬ ∀ (st : St) (rs : List Redir), (∀ (i : Nat) (f : Fop), st.fops[i]? = some f → f.chan = false) →
      ∃ s, execRedirs Cfg.orig st rs = .ok s := by
  intro h
  obtain ⟨s, hs⟩ := h C42_st0 [⟨some (.int (-1)), .write, .name "f"⟩] (by intro i f hf; simp [C42_st0] at hf)
  have : execRedirs Cfg.orig C42_st0 [⟨some (.int (-1)), .write, .name "f"⟩] = .panic "index out of range" := rfl
  rw [this] at hs
  cases hs

theorem C42_fixed_rejects_bad_fds :
    (Step.exc <$> execRedir Cfg.fixed C42_st0 ⟨some (.int (-1)), .write, .name "f"⟩) = Res.ok (some "invalid-fd,-1") ∧
    (Step.exc <$> execRedir Cfg.fixed C42_st0 ⟨some (.int 100000000000), .write, .name "f"⟩) = Res.ok (some "invalid-fd,100000000000") ∧
    (Step.exc <$> execRedir Cfg.fixed C42_st0 ⟨none, .write, .fd (.int (-2))⟩) = Res.ok (some "invalid-fd,-2") ∧
    (Step.exc <$> execRedir Cfg.fixed C42_st0 ⟨none, .write, .fd (.int (-1))⟩) = Res.ok (some "invalid-fd,-1") :=
  ⟨rfl, rfl, rfl, rfl⟩

/-- The fixed code on `a | form <in`: no panic, the pipe and the file are both closed at the end. -/
theorem C42_fixed_pipe_input_redirected :
    ∃ o, runForm Cfg.fixed C42_stPipeIn.1 (some C42_stPipeIn.2) [⟨none, .read, .name "in"⟩] [.read none] = .ok o ∧
      o.acts = ["r41/vclosed"] ∧ (o.st.w.hs.drop 3).all (fun h => !h.isOpen) = true :=
  ⟨_, rfl, rfl, rfl⟩

/-- `3>a 4>&3 3>b` with body `echo x >&4; put y >&4`: the bytes reach `a`, and afterwards both
opened files are closed and ports 0–2 are still open. -/
theorem C42_fixed_dup_then_override_closes :
    ∃ o, runForm Cfg.fixed C42_st0 none C42_dupThenOverride [.echo (some 4) [120], .put (some 4) [121]] = .ok o ∧
      o.acts = ["ok", "no-value-output"] ∧ o.st.w.fs.get "a" = some (.file [120, 10]) ∧
      o.st.w.hs.map (·.isOpen) = [true, true, true, false, false] :=
  ⟨_, rfl, rfl, rfl, rfl⟩

/-- `put x >&0` in `a | form` (`nop | { sleep 0.05; put x >&0 }` panicked with `send on closed
channel`): with the reading end of a pipe as port 1, value output raises "port does not support
value output" whatever the state of the channel. -/
theorem C42_value_output_pipe_read_end (st : St) (p : Port) (v : Bytes)
    (hp : st.ports[1]? = some (some p)) (hr : p.pipeReadEnd = true) :
    valueOutput Cfg.fixed st v = .ok (st, some eNoValueOutput) :=
  valueOutput_readEnd v hp hr

example : ∃ st', runAction Cfg.fixed C42_stPipeIn.1 (.put (some 0) [120]) = .ok (st', "no-value-output") := ⟨_, rfl⟩
/-- without the `pipeReadEnd` test the value is sent into the pipe's channel, which the writing side closes -/
example : ∃ st', runAction Cfg.orig C42_stPipeIn.1 (.put (some 0) [120]) = .ok (st', "ok") ∧
    st'.w.sent = [(3, [120])] := ⟨_, rfl, rfl⟩

-- non-vacuity of the hypotheses of the general theorems
example : ∃ s, execRedirs Cfg.fixed C42_st0 C42_dupThenOverride = .ok s ∧ s.exc = none := ⟨_, rfl, rfl⟩
example : ∀ (i : Nat) (f : Fop), C42_st0.fops[i]? = some f → f.chan = false := NoChanOwned.nil

theorem C42_pidsWF_of_three {p0 p1 p2 : Port} {fops : List Fop} {w : World} {n : Nat}
    (h0 : p0.pid < n) (h1 : p1.pid < n) (h2 : p2.pid < n)
    (h01 : p0.pid ≠ p1.pid) (h02 : p0.pid ≠ p2.pid) (h12 : p1.pid ≠ p2.pid) :
    C42_PidsWF ⟨[some p0, some p1, some p2], fops, w, n⟩ := by
  have hcases : ∀ (i : Nat) (p : Port), lookup [some p0, some p1, some p2] i = some p →
      p = p0 ∨ p = p1 ∨ p = p2 := by
    intro i p hl
    match i, hl with
    | 0, hl => exact Or.inl (Option.some.inj hl).symm
    | 1, hl => exact Or.inr (Or.inl (Option.some.inj hl).symm)
    | 2, hl => exact Or.inr (Or.inr (Option.some.inj hl).symm)
    | _ + 3, hl => cases hl
  constructor
  · intro i p hl
    rcases hcases i p hl with rfl | rfl | rfl <;> assumption
  · intro i j p q hi hj e
    rcases hcases i p hi with rfl | rfl | rfl <;> rcases hcases j q hj with rfl | rfl | rfl <;>
      first | rfl | exact absurd e ‹_› | exact absurd e.symm ‹_›

-- the hypotheses of `C42_files_closed` / `C42_form_closes_exactly_what_it_owns` hold for the
-- top-level frame, for the frame of `a | form` and for the frame of `form | b`
example : C42_PidsWF C42_st0 := C42_pidsWF_of_three (by decide) (by decide) (by decide) (by decide) (by decide) (by decide)
example : C42_PidsWF C42_stPipeIn.1 := C42_pidsWF_of_three (by decide) (by decide) (by decide) (by decide) (by decide) (by decide)
example : C42_ChanWF (C42_stPipeOut 5) := by
  refine ⟨?_, ?_, C42_pidsWF_of_three (by decide) (by decide) (by decide) (by decide) (by decide) (by decide)⟩
  -- entry 1, the output pipe, is the only one that owns a channel
  · intro i f hf hc
    match i, hf with
    | 0, hf => cases hf; cases hc
    | 1, _ => exact ⟨_, 4, rfl, rfl, by decide⟩
    | _ + 2, hf => cases hf
  · intro i j fi fj pi pj hij hfi hci hfj hcj _ _
    have h1 : ∀ k (f : Fop), (C42_stPipeOut 5).fops[k]? = some f → f.chan = true → k = 1 := by
      intro k f hf hc
      match k, hf with
      | 0, hf => cases hf; cases hc
      | 1, _ => rfl
      | _ + 2, hf => cases hf
    exact absurd ((h1 i fi hfi hci).trans (h1 j fj hfj hcj).symm) hij
/-- the owned channel is closed by the loop, once, when its port is redirected away -/
example : ∃ s, execRedirs Cfg.fixed (C42_stPipeOut 5) C42_overridePipeOut = .ok s ∧ s.st.w.closedChans = [4] :=
  ⟨_, rfl, rfl⟩
/-- a pipeline form that owns its input pipe (file 3): after `<in` and the body, the pipe and the
file opened by the redirection are closed, ports 0–2 of the surroundings are as they were -/
example : ∃ o, runForm Cfg.fixed C42_stPipeIn.1 (some C42_stPipeIn.2) [⟨none, .read, .name "in"⟩] [.read none] = .ok o ∧
    (fopAt C42_stPipeIn.1.fops 0).file = true ∧ o.st.w.hs.map (·.isOpen) = [true, true, true, false, false] :=
  ⟨_, rfl, rfl, rfl⟩
example : PortsInRange C42_st0 := portsInRange_of_all rfl
example : ∃ st', execRedir Cfg.fixed C42_st0 ⟨some (.str "3" (some 3)), .append, .name "out"⟩ = .ok ⟨st', none⟩ ∧
    (Src.name "out").isFileOrClose = true ∧ C42_st0.w.fs.get "out" = (some []).map Node.file := ⟨_, rfl, rfl, rfl⟩
example : ∃ st', execRedir Cfg.fixed C42_st0 ⟨none, .write, .fd (.str "-" none)⟩ = .ok ⟨st', none⟩ ∧
    (Src.fd (.str "-" none)).isFileOrClose = true := ⟨_, rfl, rfl⟩
