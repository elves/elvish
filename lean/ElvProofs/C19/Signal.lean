import ElvModel.C19.Signal
import ElvProofs.C20.Replay
/-!
Invariants of the signal-registration model (`ElvModel/C19/Signal.lean`) for the cleanup of the
code, `signal.Stop(sigCh)`: a listener's cleanup removes its OWN channel from the os/signal table
and nothing else, so while the goroutine of any listener has not finished — and while the session
channel is installed — SIGINT and SIGQUIT have a handler.
-/
namespace C19.Sig

theorem find_map (g : Lst → Lst) (hg : ∀ l, (g l).id = l.id) (i : Nat) (ls : List Lst) :
    find i (ls.map g) = (find i ls).map g := by
  induction ls with
  | nil => rfl
  | cons a t ih =>
    simp only [List.map, find, hg]
    split
    · rfl
    · exact ih

theorem find_mem {i : Nat} {ls : List Lst} {l : Lst} (h : find i ls = some l) : l ∈ ls ∧ l.id = i := by
  induction ls with
  | nil => simp [find] at h
  | cons a t ih =>
    simp only [find] at h
    split at h
    · rename_i hi
      cases h
      exact ⟨List.mem_cons_self, hi⟩
    · exact ⟨List.mem_cons_of_mem _ (ih h).1, (ih h).2⟩

def Uniq (ls : List Lst) : Prop := ∀ l ∈ ls, find l.id ls = some l

theorem Uniq.map {ls : List Lst} (h : Uniq ls) (g : Lst → Lst) (hg : ∀ l, (g l).id = l.id) :
    Uniq (ls.map g) := by
  intro l' hl'
  obtain ⟨l, hl, rfl⟩ := List.mem_map.mp hl'
  rw [find_map g hg, hg, h l hl]
  rfl

theorem Uniq.eq_of_find {ls : List Lst} (h : Uniq ls) {i : Nat} {l0 l : Lst} (hf : find i ls = some l0)
    (hl : l ∈ ls) (hi : l.id = i) : l = l0 := by
  have := h l hl
  rw [hi, hf] at this
  cases this
  rfl

theorem Uniq.cons {ls : List Lst} (h : Uniq ls) (a : Lst) (ha : find a.id ls = none) : Uniq (a :: ls) := by
  intro l hl
  rcases List.mem_cons.mp hl with rfl | hl
  · simp [find]
  · have hne : ¬ a.id = l.id := by
      intro he
      have := h l hl
      rw [← he, ha] at this
      cases this
    simp only [find, hne, if_false]
    exact h l hl

structure Inv (s : State) : Prop where
  alive : s.killed = none
  lost : s.lost = 0
  uniq : Uniq s.ls
  /-- a listener whose goroutine has not finished is registered for both signals -/
  reg : ∀ l ∈ s.ls, l.exited = false → l.reg = Reg.all
  /-- a goroutine finishes only after `done()` or after a signal -/
  why : ∀ l ∈ s.ls, l.exited = true → l.done = true ∨ l.intr = true
  /-- the session channel, if installed, is registered for both signals -/
  sess : ∀ r, s.sess = some r → r = Reg.all

theorem inv_init : Inv {} :=
  ⟨rfl, rfl, fun _ h => (by cases h), fun _ h => (by cases h), fun _ h => (by cases h), fun _ h => (by cases h)⟩

theorem Inv.mapLs {s : State} (hi : Inv s) (g : Lst → Lst) (hg : ∀ l, (g l).id = l.id)
    (h1 : ∀ l ∈ s.ls, (g l).exited = false → (g l).reg = Reg.all)
    (h2 : ∀ l ∈ s.ls, (g l).exited = true → (g l).done = true ∨ (g l).intr = true)
    (s' : State) (hls : s'.ls = s.ls.map g) (hk : s'.killed = s.killed) (hlo : s'.lost = s.lost)
    (hs : s'.sess = s.sess) : Inv s' := by
  refine ⟨hk ▸ hi.alive, hlo ▸ hi.lost, hls ▸ hi.uniq.map g hg, ?_, ?_, hs ▸ hi.sess⟩
  · intro l' hl'
    rw [hls] at hl'
    obtain ⟨l, hl, rfl⟩ := List.mem_map.mp hl'
    exact h1 l hl
  · intro l' hl'
    rw [hls] at hl'
    obtain ⟨l, hl, rfl⟩ := List.mem_map.mp hl'
    exact h2 l hl

theorem handles_of_expected {s : State} (hi : Inv s) (he : expectsHandler s) (sg : Sg) :
    handles s sg = true := by
  unfold handles
  rcases he with hs | ⟨l, hl, hx⟩
  · cases hso : s.sess with
    | none => simp [hso] at hs
    | some r =>
      have := hi.sess r hso
      subst this
      have : sessWants s sg = true := by
        unfold sessWants; rw [hso]; cases sg <;> rfl
      simp [this]
  · have hr := hi.reg l hl hx
    have : (s.ls.any fun l => l.reg.wants sg) = true :=
      List.any_eq_true.mpr ⟨l, hl, by rw [hr]; cases sg <;> rfl⟩
    simp [this]

theorem upd_eq_map (i : Nat) (f : Lst → Lst) (ls : List Lst) :
    upd i f ls = ls.map (fun l => if l.id = i then f l else l) := rfl

theorem upd_upd (i : Nat) (f g : Lst → Lst) (hg : ∀ l, (g l).id = l.id) (ls : List Lst) :
    upd i f (upd i g ls) = upd i (f ∘ g) ls := by
  simp only [upd, List.map_map]
  apply List.map_congr_left
  intro l _
  by_cases h : l.id = i <;> simp [h, hg]

theorem Inv.upd {s : State} (hi : Inv s) (i : Nat) (f : Lst → Lst) (hid : ∀ l, (f l).id = l.id)
    (h1 : ∀ l ∈ s.ls, l.id = i → (f l).exited = false → (f l).reg = Reg.all)
    (h2 : ∀ l ∈ s.ls, l.id = i → (f l).exited = true → (f l).done = true ∨ (f l).intr = true) :
    Inv { s with ls := Sig.upd i f s.ls } := by
  refine hi.mapLs (fun l => if l.id = i then f l else l) ?_ ?_ ?_ _ rfl rfl rfl rfl
  · intro l; split
    · exact hid l
    · rfl
  · intro l hl hx
    by_cases h : l.id = i
    · simp only [h, if_true] at hx ⊢; exact h1 l hl h hx
    · simp only [h, if_false] at hx ⊢; exact hi.reg l hl hx
  · intro l hl hx
    by_cases h : l.id = i
    · simp only [h, if_true] at hx ⊢; exact h2 l hl h hx
    · simp only [h, if_false] at hx ⊢; exact hi.why l hl hx

theorem inv_step {s s' : State} {l : Label} (hi : Inv s)
    (hg : ∀ sg, l = .deliver sg → expectsHandler s) (h : step .stopOwn s l = some s') : Inv s' := by
  unfold step at h
  have hk : s.killed.isSome = false := by rw [hi.alive]; rfl
  simp only [hk, Bool.false_eq_true, if_false] at h
  cases l with
  | session =>
    dsimp only at h
    split at h <;> cases h
    exact ⟨hi.alive, hi.lost, hi.uniq, hi.reg, hi.why, fun r hr => by cases hr; rfl⟩
  | unsession =>
    dsimp only at h
    split at h <;> cases h
    exact ⟨hi.alive, hi.lost, hi.uniq, hi.reg, hi.why, nofun⟩
  | listen i =>
    dsimp only at h
    split at h <;> cases h
    rename_i hf
    have hnone : find i s.ls = none := by
      cases hfi : find i s.ls with
      | none => rfl
      | some x => simp [hfi] at hf
    refine ⟨hi.alive, hi.lost, hi.uniq.cons _ hnone, fun l hl hx => ?_, fun l hl hx => ?_, hi.sess⟩
    · rcases List.mem_cons.mp hl with rfl | hl
      · rfl
      · exact hi.reg l hl hx
    · rcases List.mem_cons.mp hl with rfl | hl
      · cases hx
      · exact hi.why l hl hx
  | done i =>
    dsimp only at h
    split at h
    · split at h <;> cases h
      exact hi.upd i _ (fun _ => rfl) (fun l hl _ hx => hi.reg l hl hx) (fun _ _ _ _ => Or.inl rfl)
    · cases h
  | wakeSig i =>
    dsimp only at h
    split at h
    · split at h <;> cases h
      -- the goroutine ends after a signal: `intr` is set unless the evaluation had returned
      simp only [cleanup]
      rw [upd_upd]
      · exact hi.upd i _ (fun _ => rfl) (fun _ _ _ hx => nomatch hx)
          (fun l _ _ _ => by cases hd : l.done <;> simp [hd])
      · exact fun _ => rfl
    · cases h
  | wakeDone i =>
    dsimp only at h
    split at h
    · rename_i l0 hf
      split at h <;> cases h
      rename_i hc
      -- the goroutine ends after `done()`
      simp only [cleanup]
      rw [upd_upd]
      · refine hi.upd i _ (fun _ => rfl) (fun _ _ _ hx => nomatch hx) (fun l hl hid _ => Or.inl ?_)
        rw [hi.uniq.eq_of_find hf hl hid]
        exact hc.1
      · exact fun _ => rfl
    · cases h
  | deliver sg =>
    have hh := handles_of_expected hi (hg sg rfl) sg
    simp only [hh, if_true] at h
    cases h
    refine hi.mapLs (fun l => if l.reg.wants sg then { l with pend := true } else l) ?_ ?_ ?_ _ rfl rfl rfl rfl
    · intro l; split <;> rfl
    · intro l hl hx
      by_cases hw : l.reg.wants sg = true
      · simp only [hw, if_true] at hx ⊢; exact hi.reg l hl hx
      · simp only [hw] at hx ⊢; exact hi.reg l hl hx
    · intro l hl hx
      by_cases hw : l.reg.wants sg = true
      · simp only [hw, if_true] at hx ⊢; exact hi.why l hl hx
      · simp only [hw] at hx ⊢; exact hi.why l hl hx

theorem inv_run {tr : List Label} {s : State} (h : Run .stopOwn tr s) : Inv s := by
  induction h with
  | init => exact inv_init
  | step _ hg hs ih => exact inv_step ih hg hs

theorem deliver_reaches {s : State} (hi : Inv s) {l : Lst} (hl : l ∈ s.ls) (hx : l.exited = false) (sg : Sg) :
    ∃ s1, step .stopOwn s (.deliver sg) = some s1 ∧ s1.killed = none ∧
      find l.id s1.ls = some { l with pend := true } := by
  have hh := handles_of_expected hi (Or.inr ⟨l, hl, hx⟩) sg
  have hk : s.killed.isSome = false := by rw [hi.alive]; rfl
  have hw : l.reg.wants sg = true := by rw [hi.reg l hl hx]; cases sg <;> rfl
  refine ⟨{ s with ls := s.ls.map (fun l => if l.reg.wants sg then { l with pend := true } else l),
                   sessSeen := if sessWants s sg then s.sessSeen + 1 else s.sessSeen }, ?_, hi.alive, ?_⟩
  · simp [step, hk, hh]
  · show find l.id (s.ls.map _) = _
    rw [find_map _ (by intro a; split <;> rfl), hi.uniq l hl]
    simp [hw]

theorem wakeSig_intr {s1 : State} (hk : s1.killed = none) {l1 : Lst} (hf : find l1.id s1.ls = some l1)
    (hp : l1.pend = true) (hx : l1.exited = false) :
    ∃ s2, step .stopOwn s1 (.wakeSig l1.id) = some s2 ∧
      find l1.id s2.ls = some { l1 with pend := false, intr := !l1.done, exited := true, reg := Reg.none } := by
  have hk' : s1.killed.isSome = false := by rw [hk]; rfl
  refine ⟨cleanup .stopOwn l1.id { s1 with ls := upd l1.id (fun l => { l with pend := false, intr := !l.done, exited := true }) s1.ls }, ?_, ?_⟩
  · simp [step, hk', hf, hp, hx]
  · simp only [cleanup, upd_eq_map, List.map_map]
    rw [find_map _ (by intro a; simp only [Function.comp]; split <;> simp_all), hf]
    simp [Function.comp]

def expectsHandlerB (s : State) : Bool := s.sess.isSome || s.ls.any (fun l => !l.exited)

theorem expectsHandler_of_B {s : State} (h : expectsHandlerB s = true) : expectsHandler s := by
  unfold expectsHandlerB at h
  rcases Bool.or_eq_true _ _ |>.mp h with h | h
  · exact Or.inl h
  · obtain ⟨l, hl, hx⟩ := List.any_eq_true.mp h
    exact Or.inr ⟨l, hl, by simpa using hx⟩

def isDeliver : Label → Bool
  | .deliver _ => true
  | _ => false

def stepG (c : Cleanup) (s : State) (l : Label) : Option State :=
  if isDeliver l && !expectsHandlerB s then none else step c s l

def replayG (c : Cleanup) : State → Nat → List Label → State ⊕ Nat
  | s, _, [] => .inl s
  | s, i, l :: ls =>
    match stepG c s l with
    | some s' => replayG c s' (i + 1) ls
    | none => .inr i

theorem run_stepG {c : Cleanup} {tr : List Label} {s s' : State} {l : Label} (h : Run c tr s)
    (hs : stepG c s l = some s') : Run c (tr ++ [l]) s' := by
  unfold stepG at hs
  split at hs
  · cases hs
  · rename_i hgd
    refine Run.step h (fun sg hl => ?_) hs
    subst hl
    exact expectsHandler_of_B (by simpa [isDeliver] using hgd)

theorem run_of_replayG {c : Cleanup} {ls : List Label} {s : State} (h : replayG c {} 0 ls = .inl s) :
    Run c ls s :=
  C20.replay_sound (fun _ _ => rfl) (fun _ _ _ _ _ hs => by rw [replayG, hs]) (fun _ _ _ _ hs => by rw [replayG, hs])
    run_stepG ls Run.init h

theorem noDeliver_applyL (c : Cleanup) (ls : List Label) (hnd : ls.all (fun l => !isDeliver l) = true) :
    ∀ (tr : List Label) (s s' : State), Run c tr s → applyL c s ls = some s' → ∃ tr', Run c tr' s' := by
  induction ls with
  | nil => intro tr s s' h ha; simp [applyL] at ha; subst ha; exact ⟨tr, h⟩
  | cons l t ih =>
    intro tr s s' h ha
    rw [List.all_cons, Bool.and_eq_true] at hnd
    unfold applyL at ha
    split at ha
    · rename_i s1 hs1
      have hrun : Run c (tr ++ [l]) s1 :=
        Run.step h (fun sg hl => by subst hl; cases hnd.1) hs1
      split at ha
      · cases ha; exact ⟨_, hrun⟩
      · exact ih hnd.2 _ _ _ hrun ha
    · cases ha

theorem expects_of_mayDeliver {s : State} (hi : Inv s) (h : mayDeliver s = true) : expectsHandler s := by
  unfold mayDeliver at h
  rcases Bool.or_eq_true _ _ |>.mp h with h | h
  · exact Or.inl h
  · obtain ⟨l, hl, hx⟩ := List.any_eq_true.mp h
    refine Or.inr ⟨l, hl, ?_⟩
    cases hex : l.exited with
    | false => rfl
    | true =>
      rcases hi.why l hl hex with hd | hd <;> simp [hd] at hx

theorem tokLabels_run {x : X} {t : Tok} {tr ls : List Label} {st : State} (hr : Run .stopOwn tr x.st)
    (hls : tokLabels x t = .ok ls) (hst : applyL .stopOwn x.st ls = some st) :
    ∃ tr', Run .stopOwn tr' st := by
  cases t with
  | sig sg =>
    -- the only `deliver`; the token is refused unless `mayDeliver`
    simp only [tokLabels] at hls
    split at hls <;> cases hls
    rename_i hmd
    unfold applyL at hst
    split at hst
    · rename_i s1 hs1
      have hr1 : Run .stopOwn (tr ++ [.deliver sg]) s1 :=
        Run.step hr (fun _ _ => expects_of_mayDeliver (inv_run hr) hmd) hs1
      split at hst
      · cases hst; exact ⟨_, hr1⟩
      · refine noDeliver_applyL _ _ (List.all_eq_true.mpr fun l hl => ?_) _ _ _ hr1 hst
        obtain ⟨_, _, rfl⟩ := List.mem_map.mp hl
        rfl
    · cases hst
  | sess | unsess | begin | delay =>
    simp only [tokLabels] at hls; cases hls
    exact noDeliver_applyL _ _ rfl _ _ _ hr hst
  | fin i =>
    simp only [tokLabels] at hls
    split at hls
    · split at hls <;> cases hls
      exact noDeliver_applyL _ _ rfl _ _ _ hr hst
    · cases hls
  | wait i =>
    simp only [tokLabels] at hls
    split at hls
    · split at hls <;> cases hls
      exact noDeliver_applyL _ _ (by split <;> rfl) _ _ _ hr hst
    · cases hls

theorem tokStep_run {x x' : X} {t : Tok} {tr : List Label} (hr : Run .stopOwn tr x.st)
    (h : tokStep .stopOwn x t = .ok x') : ∃ tr', Run .stopOwn tr' x'.st := by
  unfold tokStep at h
  split at h
  · cases h
  · rename_i ls hls
    split at h
    · cases h
    · rename_i st hst
      obtain ⟨tr', hr'⟩ := tokLabels_run hr hls hst
      split at h
      · cases h
      · cases t <;> simp only at h
        all_goals first
          | (cases h; exact ⟨tr', hr'⟩)
          | (split at h
             · cases h; exact ⟨tr', hr'⟩
             · cases h)

theorem tokStep_not_killed {x : X} {t : Tok} {tr : List Label} (hr : Run .stopOwn tr x.st) :
    tokStep .stopOwn x t ≠ .error .killed := by
  intro h
  unfold tokStep at h
  split at h
  · rename_i e he
    cases h
    cases t <;> simp only [tokLabels] at he <;> (repeat' split at he) <;> cases he
  · rename_i ls hls
    split at h
    · cases h
    · rename_i st hst
      obtain ⟨tr', hr'⟩ := tokLabels_run hr hls hst
      split at h
      · rename_i hk
        rw [(inv_run hr').alive] at hk
        cases hk
      · cases t <;> simp only at h
        all_goals first
          | cases h
          | (split at h <;> cases h)

theorem runToks_not_killed (ts : List Tok) : ∀ (x : X) (k : Nat) (tr : List Label), Run .stopOwn tr x.st →
    ∀ j, runToks .stopOwn x k ts ≠ .inr (j, .killed) := by
  induction ts with
  | nil => intro x k tr _ j h; simp [runToks] at h
  | cons t ts ih =>
    intro x k tr hr j h
    unfold runToks at h
    split at h
    · rename_i x' hx'
      obtain ⟨tr', hr'⟩ := tokStep_run hr hx'
      exact ih x' (k + 1) tr' hr' j h
    · rename_i e he
      cases h
      exact tokStep_not_killed hr he

end C19.Sig
