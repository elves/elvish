import ElvModel.C19.Nested
import ElvProofs.C19.Interp
/-! Propagation of `interrupted` through nested and concurrent constructs with an asynchronous
interrupt (`ElvModel/C19/Nested.lean`). -/
namespace C19

theorem can_mono {T : Option Nat} {t t' : Nat} (h : t ≤ t') (hc : can T t = true) : can T t' = true := by
  unfold can at *
  cases T with
  | none => simp at hc
  | some c => simp at *; omega

theorem R.eq_int_of_ne_ok {r : R} (h : r ≠ .ok) : r = .int := by
  cases r <;> simp_all

theorem R.join_int {a b : R} : a.join b = .int ↔ a = .int ∨ b = .int := by
  cases a <;> cases b <;> simp [R.join]

/-- a command-like semantics: time moves forward, and `interrupted` comes out only if the interrupt
has been delivered by the end -/
def SoundC (T : Option Nat) (f : Nat → R → Nat → Prop) : Prop :=
  ∀ t0 r t1, f t0 r t1 → t0 ≤ t1 ∧ (r = .int → can T t1 = true)

/-- a chunk-like semantics: the result is `interrupted` exactly if the interrupt has been delivered
by the time it ends -/
def AgreeP (T : Option Nat) (f : Nat → R → Nat → Prop) : Prop :=
  ∀ t0 r t1, f t0 r t1 → t0 ≤ t1 ∧ (r = .int ↔ can T t1 = true)

theorem iterR_sound {T : Option Nat} {f : Nat → R → Nat → Prop} (hf : AgreeP T f) :
    ∀ n, SoundC T (iterR f n)
  | 0 => by
    intro t0 r t1 h
    simp only [iterR] at h
    exact ⟨h.1, by intro hr; rw [h.2] at hr; cases hr⟩
  | n + 1 => by
    intro t0 r t1 h
    simp only [iterR] at h
    obtain ⟨r1, ta, h1, h2⟩ := h
    have hb := hf _ _ _ h1
    rcases h2 with ⟨_, hr, ht⟩ | ⟨_, hrest⟩
    · subst hr ht; exact ⟨hb.1, fun hr => hb.2.mp hr⟩
    · have ih := iterR_sound hf n _ _ _ hrest
      exact ⟨by omega, ih.2⟩

theorem allIn_sound {T : Option Nat} {f : Nat → R → Nat → Prop} (hf : AgreeP T f) (t0 t1 : Nat) :
    ∀ rs, allIn f t0 t1 rs → R.joinAll rs = .int → can T t1 = true
  | [] => by intro _ h; simp [R.joinAll] at h
  | r :: rs => by
    intro h hj
    simp only [allIn] at h
    obtain ⟨⟨ts, te, _, h2, h3⟩, hrest⟩ := h
    simp only [R.joinAll] at hj
    rcases R.join_int.mp hj with h | h
    · exact can_mono h2 ((hf _ _ _ h3).2.mp h)
    · exact allIn_sound hf t0 t1 rs hrest h

mutual
theorem evC_sound (T : Option Nat) : ∀ c, SoundC T (evC T c)
  | .step => by
    intro t0 r t1 h
    simp only [evC] at h
    exact ⟨h.1, by intro hr; rw [h.2] at hr; cases hr⟩
  | .sleep => by
    intro t0 r t1 h
    simp only [evC] at h
    exact h
  | .loop n body => by
    intro t0 r t1 h
    simp only [evC] at h
    exact iterR_sound (evP_agree T body) n _ _ _ h
  | .call body => by
    intro t0 r t1 h
    simp only [evC] at h
    have := evP_agree T body _ _ _ h
    exact ⟨this.1, this.2.mp⟩
  | .tryFinally body fin => by
    intro t0 r t1 h
    simp only [evC] at h
    obtain ⟨r1, ta, r2, h1, h2, hr⟩ := h
    have hb := evP_agree T body _ _ _ h1
    have hf := evP_agree T fin _ _ _ h2
    refine ⟨by omega, ?_⟩
    intro hri
    cases r2 with
    | int => exact hf.2.mp rfl
    | ok =>
      simp at hr; subst hr
      exact can_mono hf.1 (hb.2.mp hri)
  | .par a b => by
    intro t0 r t1 h
    simp only [evC] at h
    obtain ⟨ta, ra, ta', tb, rb, tb', h1, h2, h3, h4, ha, hb, hr⟩ := h
    have hsa := evC_sound T a _ _ _ ha
    have hsb := evC_sound T b _ _ _ hb
    refine ⟨by omega, ?_⟩
    intro hri
    rw [hr] at hri
    rcases R.join_int.mp hri with h | h
    · exact can_mono h2 (hsa.2 h)
    · exact can_mono h4 (hsb.2 h)
  | .peach n body => by
    intro t0 r t1 h
    simp only [evC] at h
    obtain ⟨h1, rs, _, _, hall, hr⟩ := h
    refine ⟨h1, ?_⟩
    intro hri
    rw [hr] at hri
    exact allIn_sound (evP_agree T body) t0 t1 rs hall hri
theorem evP_agree (T : Option Nat) : ∀ p, AgreeP T (evP T p)
  | .done => by
    intro t0 r t1 h
    simp only [evP] at h
    refine ⟨h.1, ?_⟩
    rw [h.2]
    cases can T t1 <;> simp
  | .pipe c rest => by
    intro t0 r t1 h
    simp only [evP] at h
    obtain ⟨ta, h0, h⟩ := h
    rcases h with ⟨hc, hr, ht⟩ | ⟨hc, rc, tb, hev, h⟩
    · subst hr ht; exact ⟨h0, by simp [hc]⟩
    · have hs := evC_sound T c _ _ _ hev
      rcases h with ⟨hne, hr, ht⟩ | ⟨_, hrest⟩
      · subst hr ht
        have hri := R.eq_int_of_ne_ok hne
        exact ⟨by omega, by simp [hri, hs.2 hri]⟩
      · have ih := evP_agree T rest _ _ _ hrest
        exact ⟨by omega, ih.2⟩
end

theorem iterRun_ev {f : Nat → R → Nat → Prop} {g : Nat → R × Nat} (hg : ∀ t, f t (g t).1 (g t).2) :
    ∀ n t, iterR f n t (iterRun g n t).1 (iterRun g n t).2
  | 0, t => by simp [iterR, iterRun]
  | n + 1, t => by
    simp only [iterR, iterRun]
    have h := hg t
    cases hgt : g t with
    | mk r ta =>
      rw [hgt] at h
      cases r with
      | ok => exact ⟨.ok, ta, h, Or.inr ⟨rfl, iterRun_ev hg n ta⟩⟩
      | int => exact ⟨.int, ta, h, Or.inl ⟨by simp, rfl, rfl⟩⟩

theorem peachRun_length (g : Nat → R × Nat) : ∀ n t, (peachRun g n t).1.length = n
  | 0, t => by simp [peachRun]
  | n + 1, t => by simp [peachRun, peachRun_length g n]

theorem allIn_weaken {f : Nat → R → Nat → Prop} {t0 t0' t1 t1' : Nat} (h0 : t0' ≤ t0) (h1 : t1 ≤ t1') :
    ∀ rs, allIn f t0 t1 rs → allIn f t0' t1' rs
  | [] => by intro _; trivial
  | r :: rs => by
    intro h
    simp only [allIn] at h ⊢
    obtain ⟨⟨ts, te, a, b, c⟩, hrest⟩ := h
    exact ⟨⟨ts, te, by omega, by omega, c⟩, allIn_weaken h0 h1 rs hrest⟩

theorem peachRun_ev {f : Nat → R → Nat → Prop} {g : Nat → R × Nat} (hg : ∀ t, f t (g t).1 (g t).2)
    (hmono : ∀ t, t ≤ (g t).2) :
    ∀ n t, t ≤ (peachRun g n t).2 ∧ allIn f t (peachRun g n t).2 (peachRun g n t).1
  | 0, t => by simp [peachRun, allIn]
  | n + 1, t => by
    simp only [peachRun]
    have h := hg t
    have hm := hmono t
    obtain ⟨ih1, ih2⟩ := peachRun_ev hg hmono n (g t).2
    refine ⟨by omega, ?_⟩
    simp only [allIn]
    exact ⟨⟨t, (g t).2, Nat.le_refl _, ih1, h⟩, allIn_weaken hm (Nat.le_refl _) _ ih2⟩

mutual
theorem runC_ev (T : Option Nat) : ∀ c t, evC T c t (runC T c t).1 (runC T c t).2
  | .step, t => by simp [evC, runC]
  | .sleep, t => by
    simp only [evC, runC]
    refine ⟨by omega, ?_⟩
    cases can T (t + 1) <;> simp
  | .loop n body, t => by
    simp only [evC, runC]
    exact iterRun_ev (fun t => runP_ev T body t) n t
  | .call body, t => by
    simp only [evC, runC]
    exact runP_ev T body t
  | .tryFinally body fin, t => by
    simp only [evC, runC]
    exact ⟨_, _, _, runP_ev T body t, runP_ev T fin _, rfl⟩
  | .par a b, t => by
    simp only [evC, runC]
    have ha := runC_ev T a t
    have hb := runC_ev T b (runC T a t).2
    have hsa := (evC_sound T a _ _ _ ha).1
    have hsb := (evC_sound T b _ _ _ hb).1
    exact ⟨t, _, _, _, _, _, Nat.le_refl _, hsb, hsa, Nat.le_refl _, ha, hb, rfl⟩
  | .peach n body, t => by
    simp only [evC, runC]
    have h := peachRun_ev (f := evP T body) (g := runP T body) (fun t => runP_ev T body t)
      (fun t => (evP_agree T body _ _ _ (runP_ev T body t)).1) n t
    exact ⟨h.1, _, Nat.le_of_eq (peachRun_length _ n t), Or.inl (peachRun_length _ n t), h.2, rfl⟩
theorem runP_ev (T : Option Nat) : ∀ p t, evP T p t (runP T p t).1 (runP T p t).2
  | .done, t => by
    simp only [evP, runP]
    exact ⟨by omega, rfl⟩
  | .pipe c rest, t => by
    simp only [evP, runP]
    refine ⟨t + 1, by omega, ?_⟩
    cases hc : can T (t + 1) with
    | true => left; simp
    | false =>
      right
      refine ⟨rfl, ?_⟩
      have h := runC_ev T c (t + 1)
      cases hr : runC T c (t + 1) with
      | mk rc tb =>
        rw [hr] at h
        cases rc with
        | ok => exact ⟨.ok, tb, h, Or.inr ⟨rfl, by simpa using runP_ev T rest tb⟩⟩
        | int => exact ⟨.int, tb, h, Or.inl ⟨by simp, by simp, by simp⟩⟩
end

/-- the bookkeeping invariant of `Interp.lean`, plus: an interrupt is only ever delivered when a
target step was set -/
def Wn (t : Nat) (st : St) : Prop := W t st ∧ (st.cancelled = true → t ≠ 0)

theorem Wn_tick (t : Nat) (st : St) (h : Wn t st) (hc : st.cancelled = false) : Wn t (tick t st) := by
  refine ⟨W_tick t st h.1 hc, ?_⟩
  unfold tick
  intro h2
  simp [hc] at h2
  exact h2.1

theorem Wn_init (t : Nat) : Wn t {} :=
  ⟨Or.inl ⟨rfl, Nat.eq_zero_or_pos t⟩, nofun⟩

theorem exec_Wn (t : Nat) (p : Prog) : ∀ st, Wn t st → Wn t (exec t p st).2 :=
  exec_inv t (Wn t) (Wn_tick t) p

theorem iter_Wn (t : Nat) (p : Prog) : ∀ n st, Wn t st → Wn t (iter (exec t p) n st).2 :=
  iter_inv (Wn t) (exec t p) (exec_Wn t p)

/-- on the clock "number of steps run", a check sees the interrupt iff the flag is set -/
theorem Wn_can {t : Nat} {st : St} (h : Wn t st) : can (syncT t) st.steps = st.cancelled := by
  obtain ⟨hw, hn⟩ := h
  unfold W at hw
  unfold can syncT
  by_cases h0 : t = 0
  · subst h0
    cases hc : st.cancelled with
    | false => simp
    | true => exact absurd rfl (hn hc)
  · simp only [h0, ↓reduceIte]
    rcases hw with ⟨hc, h⟩ | ⟨hc, h⟩
    · rw [hc]; simp; omega
    · rw [hc]; simp; omega

theorem iter_ev (t : Nat) (body : Prog)
    (ih : ∀ st, Wn t st → evP (syncT t) (emb body) st.steps (exec t body st).1 (exec t body st).2.steps) :
    ∀ n st, Wn t st → iterR (evP (syncT t) (emb body)) n st.steps
      (iter (exec t body) n st).1 (iter (exec t body) n st).2.steps
  | 0, st, _ => by simp [iterR, iter]
  | n + 1, st, h => by
    simp only [iterR, iter]
    have h1 := ih st h
    have h2 := exec_Wn t body st h
    cases hx : exec t body st with
    | mk r st' =>
      rw [hx] at h1 h2
      cases r with
      | ok => exact ⟨.ok, st'.steps, h1, Or.inr ⟨rfl, iter_ev t body ih n st' h2⟩⟩
      | int => exact ⟨.int, st'.steps, h1, Or.inl ⟨by simp, rfl, rfl⟩⟩

theorem pipe_ev {t : Nat} {st : St} (h : Wn t st) {c : Cmd} {rest : Chunk} {x : R × St}
    (hx : st.cancelled = false → ∃ rc tb, evC (syncT t) c st.steps rc tb ∧
      ((rc ≠ .ok ∧ x.1 = rc ∧ x.2.steps = tb) ∨ (rc = .ok ∧ evP (syncT t) rest tb x.1 x.2.steps))) :
    evP (syncT t) (.pipe c rest) st.steps (if st.cancelled then (R.int, st) else x).1
      (if st.cancelled then (R.int, st) else x).2.steps := by
  have hc := Wn_can h
  simp only [evP]
  refine ⟨st.steps, Nat.le_refl _, ?_⟩
  cases hcc : st.cancelled with
  | true => rw [hcc] at hc; exact Or.inl ⟨hc, rfl, rfl⟩
  | false => rw [hcc] at hc; exact Or.inr ⟨hc, hx hcc⟩

theorem exec_ev (t : Nat) (p : Prog) :
    ∀ st, Wn t st → evP (syncT t) (emb p) st.steps (exec t p st).1 (exec t p st).2.steps := by
  induction p with
  | done =>
    intro st h
    have hc := Wn_can h
    unfold exec
    simp only [emb, evP]
    cases hcc : st.cancelled <;> simp [hcc] at hc ⊢ <;> simp [hc]
  | step rest ih =>
    intro st h
    unfold exec
    refine pipe_ev h fun hcc => ⟨.ok, st.steps + 1, by simp [evC], Or.inr ⟨rfl, ?_⟩⟩
    exact ih (tick t st) (Wn_tick t st h hcc)
  | sleep rest ih =>
    intro st h
    unfold exec
    exact pipe_ev h fun _ => ⟨.ok, st.steps, by simp [evC], Or.inr ⟨rfl, ih st h⟩⟩
  | loop n body rest ihb ihr =>
    intro st h
    unfold exec
    refine pipe_ev h fun _ => ?_
    have h1 := iter_ev t body ihb n st h
    have h2 := iter_Wn t body n st h
    cases hx : iter (exec t body) n st with
    | mk r st' =>
      rw [hx] at h1 h2
      cases r with
      | ok => exact ⟨.ok, st'.steps, by simpa [evC] using h1, Or.inr ⟨rfl, ihr st' h2⟩⟩
      | int => exact ⟨.int, st'.steps, by simpa [evC] using h1, Or.inl ⟨by simp, rfl, rfl⟩⟩
  | call body rest ihb ihr =>
    intro st h
    unfold exec
    refine pipe_ev h fun _ => ?_
    have h1 := ihb st h
    have h2 := exec_Wn t body st h
    cases hx : exec t body st with
    | mk r st' =>
      rw [hx] at h1 h2
      cases r with
      | ok => exact ⟨.ok, st'.steps, by simpa [evC] using h1, Or.inr ⟨rfl, ihr st' h2⟩⟩
      | int => exact ⟨.int, st'.steps, by simpa [evC] using h1, Or.inl ⟨by simp, rfl, rfl⟩⟩
  | tryFinally body fin rest ihb ihf ihr =>
    intro st h
    unfold exec
    refine pipe_ev h fun _ => ?_
    have h1 := ihb st h
    have h2 := exec_Wn t body st h
    cases hx : exec t body st with
    | mk r st1 =>
      rw [hx] at h1 h2
      have h3 := ihf st1 h2
      have h4 := exec_Wn t fin st1 h2
      cases hy : exec t fin st1 with
      | mk rf st2 =>
        rw [hy] at h3 h4
        simp only [hy]
        cases rf with
        | int =>
          exact ⟨.int, st2.steps, by simp only [evC]; exact ⟨r, st1.steps, .int, h1, h3, by simp⟩,
            Or.inl ⟨by simp, rfl, rfl⟩⟩
        | ok =>
          cases r with
          | ok =>
            exact ⟨.ok, st2.steps, by simp only [evC]; exact ⟨.ok, st1.steps, .ok, h1, h3, by simp⟩,
              Or.inr ⟨rfl, ihr st2 h4⟩⟩
          | int =>
            exact ⟨.int, st2.steps, by simp only [evC]; exact ⟨.int, st1.steps, .ok, h1, h3, by simp⟩,
              Or.inl ⟨by simp, rfl, rfl⟩⟩

/-- The flag and the result of the sequential interpreter agree: its run is an execution of the embedded program
(`exec_ev`), whose result is `interrupted` exactly if the interrupt was delivered by the end (`evP_agree`), and on the
step clock that is what the flag records (`Wn_can`). -/
theorem exec_agree (t : Nat) (p : Prog) (st : St) (h : Wn t st) :
    (exec t p st).2.cancelled = true ↔ (exec t p st).1 = .int := by
  rw [← Wn_can (exec_Wn t p st h)]
  exact (evP_agree _ _ _ _ _ (exec_ev t p st h)).2.symm

end C19
