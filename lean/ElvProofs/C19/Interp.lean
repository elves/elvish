import ElvModel.C19.Interp
/-! The sequential fragment: once the interrupt is delivered nothing runs any more, and every program keeps the
bookkeeping `W` of the step counter.  That the result is `interrupted` exactly when the flag is set comes from the nested
semantics (`exec_agree` in Nested.lean). -/
namespace C19

theorem exec_cancelled (t : Nat) (p : Prog) (st : St) (h : st.cancelled = true) :
    exec t p st = (.int, st) := by
  cases p <;> simp [exec, h]

/-- bookkeeping of `-vstep`: before the interrupt fewer than `t` steps have run; after it exactly `t` -/
def W (t : Nat) (st : St) : Prop :=
  (st.cancelled = false ∧ (t = 0 ∨ st.steps < t)) ∨ (st.cancelled = true ∧ st.steps = t)

theorem W_tick (t : Nat) (st : St) (h : W t st) (hc : st.cancelled = false) : W t (tick t st) := by
  unfold W tick at *
  rcases h with ⟨_, h⟩ | ⟨h, _⟩
  · rcases h with h | h
    · subst h; left; simp [hc]
    · by_cases he : st.steps + 1 = t
      · right; simp [he, hc]; omega
      · left; simp [hc, he]; omega
  · simp [hc] at h

theorem iter_inv (I : St → Prop) (f : St → R × St) (hf : ∀ st, I st → I (f st).2) :
    ∀ n st, I st → I (iter f n st).2 := by
  intro n
  induction n with
  | zero => intro st h; simpa [iter] using h
  | succ n ih =>
    intro st h
    unfold iter
    have := hf st h
    cases hfs : f st with
    | mk r st' =>
      cases r with
      | ok => simp only; exact ih st' (by simpa [hfs] using this)
      | int => simpa [hfs] using this

/-- the only state change is `tick`, executed while not cancelled -/
theorem exec_inv (t : Nat) (I : St → Prop) (hI : ∀ st, I st → st.cancelled = false → I (tick t st))
    (p : Prog) : ∀ st, I st → I (exec t p st).2 := by
  induction p with
  | done => intro st h; unfold exec; split <;> simpa using h
  | step rest ih =>
    intro st h; unfold exec; split
    · simpa using h
    · rename_i hc; exact ih _ (hI st h (by simpa using hc))
  | sleep rest ih =>
    intro st h; unfold exec; split
    · simpa using h
    · exact ih _ h
  | loop n body rest ihb ihr =>
    intro st h; unfold exec; split
    · simpa using h
    · have hi := iter_inv I (exec t body) ihb n st h
      cases hit : iter (exec t body) n st with
      | mk r st' =>
        cases r with
        | ok => simp only; exact ihr st' (by simpa [hit] using hi)
        | int => simpa [hit] using hi
  | call body rest ihb ihr =>
    intro st h; unfold exec; split
    · simpa using h
    · have hb := ihb st h
      cases hx : exec t body st with
      | mk r st' =>
        cases r with
        | ok => simp only; exact ihr st' (by simpa [hx] using hb)
        | int => simpa [hx] using hb
  | tryFinally body fin rest ihb ihf ihr =>
    intro st h; unfold exec; split
    · simpa using h
    · have hb := ihb st h
      cases hx : exec t body st with
      | mk r st1 =>
        have hf := ihf st1 (by simpa [hx] using hb)
        cases hy : exec t fin st1 with
        | mk rf st2 =>
          cases rf with
          | int => simpa [hy] using hf
          | ok =>
            cases r with
            | ok => simp only [hy]; exact ihr st2 (by simpa [hy] using hf)
            | int => simpa [hy] using hf

theorem iter_W (t : Nat) (f : St → R × St) (hf : ∀ st, W t st → W t (f st).2) :
    ∀ n st, W t st → W t (iter f n st).2 := iter_inv (W t) f hf

theorem exec_W (t : Nat) (p : Prog) : ∀ st, W t st → W t (exec t p st).2 :=
  exec_inv t (W t) (W_tick t) p

end C19
