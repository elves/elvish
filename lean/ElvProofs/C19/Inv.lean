import ElvModel.C19.Model
import ElvProofs.C20
/-! Invariants of the C19 transition system. -/
namespace C19

/-- What an enabled step does to the state, one constructor per kind of change (the guards are kept
where an invariant needs them). -/
inductive Eff : State → Label → State → Prop where
  | cancel (s) : Eff s .cancel { s with cancelled := true, insts := s.insts.map cancelInst }
  /-- pipelines, sleeps and chunks off the main goroutine: at most the open pipelines change -/
  | minor (s l ps) : l ≠ .cancel → Eff s l { s with pipes := ps }
  | cbegin (s) : Eff s (.cbegin true) { s with depth := s.depth + 1 }
  | cexitTop (s bg e) : (e = .cok → s.cancelled = false) → (e = .cint → s.cancelled = true) →
      Eff s (.cexit true bg e) { s with depth := 0, topExit := some (e, s.cancelled) }
  | cexitInner (s bg e d) : Eff s (.cexit true bg e) { s with depth := d }
  | pbegin (s tid k n bg) :
      Eff s (.pbegin tid k n bg) { s with insts :=
        { tid := tid, cfg := { k := k, n := n }, bg := bg,
          st := { C20.init with cancelled := s.cancelled && !bg } } :: s.insts }
  | peach (s tid pl i st') : findInst tid s.insts = some i → C20.step i.cfg i.st pl = some st' →
      Eff s (.peach tid pl) { s with insts := setInst tid st' s.insts }
  | ret (s r e c) : s.topExit = some (e, c) → fits e r = true → s.pipes = [] →
      s.insts.all (fun i => i.bg || decide (i.st.fpc = .ret)) = true → Eff s (.ret r) { s with result := some r }

theorem eff_of_step {s s' : State} {l : Label} (h : step s l = some s') : s.result = none ∧ Eff s l s' := by
  unfold step at h
  split at h
  · cases h
  rename_i hres
  refine ⟨by simpa using hres, ?_⟩
  cases l with
  | cancel => cases h; exact .cancel s
  | pstart | pabort | pform | pformdone | pend | sleepInt | sleepOk =>
    -- every enabled branch returns `s` or `{ s with pipes := _ }`
    dsimp only at h
    repeat' split at h
    all_goals cases h <;> exact .minor _ _ _ nofun
  | cbegin main =>
    cases main
    · cases h; exact .minor _ _ _ nofun
    · cases h; exact .cbegin s
  | cexit main bg e =>
    dsimp only at h
    cases main <;> cases bg <;>
      simp only [Bool.false_eq_true, and_false, not_false_eq_true, not_true_eq_false, and_true, if_false,
        if_true] at h
    · split at h <;> cases h
      exact .minor _ _ _ nofun
    · split at h <;> cases h
      exact .minor _ _ _ nofun
    · split at h
      · rename_i hg
        split at h
        · cases h
        · cases h
          refine .cexitTop s false e (fun he => ?_) (fun he => ?_) <;> subst he <;> simpa using hg
        · cases h; exact .cexitInner s false e _
      · cases h
    · cases h
  | pbegin tid k n bg =>
    dsimp only at h
    split at h
    · cases h
    · cases h; exact .pbegin s tid k n bg
  | peach tid pl =>
    dsimp only at h
    split at h
    · cases h
    · split at h
      · rename_i i hi
        split at h
        · rename_i st' hst'; cases h; exact .peach s tid pl i st' hi hst'
        · cases h
      · cases h
  | ret r =>
    dsimp only at h
    split at h
    · rename_i e c hte
      split at h
      · rename_i hg; cases h; exact .ret s r e c hte hg.1 hg.2.2.1 (by simpa using hg.2.2.2)
      · cases h
    · cases h

theorem Run.inv {P : List Label → State → Prop} (h0 : P [] C19.init)
    (hs : ∀ tr s l s', Run tr s → P tr s → s.result = none → Eff s l s' → P (tr ++ [l]) s') :
    ∀ {tr s}, Run tr s → P tr s := by
  intro tr s h
  induction h with
  | init => exact h0
  | step hr hst ih => exact hs _ _ _ _ hr ih (eff_of_step hst).1 (eff_of_step hst).2

theorem inv_cancelled {tr s} (h : Run tr s) : s.cancelled = true ↔ Label.cancel ∈ tr := by
  refine Run.inv (P := fun tr s => s.cancelled = true ↔ Label.cancel ∈ tr) (by simp [C19.init]) ?_ h
  intro tr s l s' _ ih _ he
  cases he with
  | cancel => simp
  | minor _ _ hl => simpa [hl.symm] using ih
  | _ => simpa using ih

theorem inv_topExit {tr s} (h : Run tr s) :
    ∀ e c, s.topExit = some (e, c) → (e = .cok → c = false) ∧ (e = .cint → c = true) := by
  refine Run.inv (P := fun _ s => ∀ e c, s.topExit = some (e, c) → (e = .cok → c = false) ∧ (e = .cint → c = true))
    (by simp [C19.init]) ?_ h
  intro tr s l s' _ ih _ he
  cases he with
  | cexitTop bg e h1 h2 =>
    intro e' c' hec
    cases hec
    exact ⟨h1, h2⟩
  | _ => exact ih

theorem inv_result {tr s} (h : Run tr s) :
    ∀ r, s.result = some r → ∃ e c, s.topExit = some (e, c) ∧ fits e r = true ∧ s.pipes = [] ∧
      s.insts.all (fun i => i.bg || decide (i.st.fpc = .ret)) = true := by
  refine Run.inv (P := fun _ s => ∀ r, s.result = some r → ∃ e c, s.topExit = some (e, c) ∧ fits e r = true ∧
      s.pipes = [] ∧ s.insts.all (fun i => i.bg || decide (i.st.fpc = .ret)) = true) (by simp [C19.init]) ?_ h
  intro tr s l s' _ _ hnone he
  cases he with
  | ret r e c hte hfit hp hall =>
    intro r' hr
    cases hr
    exact ⟨e, c, hte, hfit, hp, hall⟩
  | _ =>
    intro r hr
    have : s.result = some r := hr
    rw [hnone] at this
    cases this

theorem findInst_mem {tid : Nat} {l : List Inst} {i : Inst} (h : findInst tid l = some i) : i ∈ l := by
  induction l with
  | nil => simp [findInst] at h
  | cons a t ih =>
    unfold findInst at h
    split at h
    · injection h with h; subst h; simp
    · exact List.mem_cons_of_mem _ (ih h)

theorem mem_setInst {tid : Nat} {st : C20.State} {l : List Inst} {i x : Inst} (h : findInst tid l = some i)
    (hx : x ∈ setInst tid st l) : x ∈ l ∨ x = { i with st := st } := by
  induction l with
  | nil => simp [setInst] at hx
  | cons a t ih =>
    unfold findInst at h
    unfold setInst at hx
    split at h
    · rename_i ha
      cases h
      rw [if_pos ha] at hx
      rcases List.mem_cons.mp hx with hx | hx
      · exact Or.inr hx
      · exact Or.inl (List.mem_cons_of_mem _ hx)
    · rename_i ha
      rw [if_neg ha] at hx
      rcases List.mem_cons.mp hx with hx | hx
      · exact Or.inl (hx ▸ List.mem_cons_self)
      · exact (ih h hx).imp_left (List.mem_cons_of_mem _)

/-- the state of one `peach` call, as seen by the evaluation, is a state of the C20 system for the
FIXED code -/
def InstOk (i : Inst) : Prop :=
  i.cfg.checkAcq = true ∧ i.cfg.recheck = true ∧ ∃ tr, C20.Run i.cfg tr i.st

theorem instOk_cancel {i : Inst} (h : InstOk i) : InstOk (cancelInst i) := by
  unfold cancelInst
  split
  · exact h
  · rename_i hc
    obtain ⟨h1, h2, tr, hr⟩ := h
    refine ⟨h1, h2, tr ++ [.cancel], C20.Run.step hr ?_⟩
    have : i.st.panicked = false := by
      cases hp : i.st.panicked <;> simp_all
    simp [C20.step, this]

theorem inv_insts {tr s} (h : Run tr s) : ∀ i ∈ s.insts, InstOk i := by
  refine Run.inv (P := fun _ s => ∀ i ∈ s.insts, InstOk i) (by simp [C19.init]) ?_ h
  intro tr s l s' _ ih _ he
  cases he with
  | cancel =>
    intro i hi
    obtain ⟨j, hj, rfl⟩ := List.mem_map.mp hi
    exact instOk_cancel (ih j hj)
  | pbegin tid k n bg =>
    intro i hi
    rcases List.mem_cons.mp hi with rfl | hi
    · refine ⟨rfl, rfl, ?_⟩
      cases hc : (s.cancelled && !bg) with
      | false => exact ⟨[], C20.Run.init⟩
      | true => exact ⟨[.cancel], C20.Run.step (tr := []) C20.Run.init rfl⟩
    · exact ih i hi
  | peach tid pl j st' hj hst' =>
    intro x hx
    rcases mem_setInst hj hx with h1 | rfl
    · exact ih x h1
    · obtain ⟨h1, h2, tr', hr'⟩ := ih j (findInst_mem hj)
      exact ⟨h1, h2, tr' ++ [pl], C20.Run.step hr' hst'⟩
  | _ => exact ih

end C19
