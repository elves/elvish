import ElvModel.C19.Model
import ElvProofs.C20.Replay
namespace C19

theorem run_of_replay {ls : List Label} {s : State} (h : replay init 0 ls = .inl s) : Run ls s :=
  C20.replay_sound (fun _ _ => rfl) (fun _ _ _ _ _ hs => by rw [replay, hs]) (fun _ _ _ _ hs => by rw [replay, hs])
    Run.step ls Run.init h

end C19
