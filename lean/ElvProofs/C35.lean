/-
C35 — Markdown rendering is total and agrees with CommonMark on the supported subset.  Level: PARTIAL.
Proved: totality, line-number invariance and locality of the model of md.go's block phase (`renderBlocks`);
fuel sufficiency and panic freedom of the model of inline.go `processEmphasis`; termination of the reference's
emphasis resolution; the reference's HTML is well nested.  Not proved (`C35_full`): totality of the rest of the
inline phase and of the codecs, and agreement elvish = CommonMark; these are differential (notes/C35.md).
-/
import ElvModel.C35.Model
import ElvModel.C35.RefHtml
import ElvProofs.C35.Emph
import ElvProofs.C35.Markers
import ElvProofs.C35.Ref
import ElvModel.C35.Block
import ElvProofs.C35.BlockConcat
import ElvProofs.C35.BlockStep
import ElvProofs.C35.BlockPara
import ElvProofs.C35.WellNested
open C35 Go

/-- C35 at full strength, not proved: an implementation `impl` of `md.RenderString(·, HTMLCodec)` returns on
every input (it is a function) and equals the reference rendering (lists forced loose, elvish's serialisation)
on every document of the declared subset that the reference accepts. -/
def C35_full (impl : Bytes → Bytes) : Prop :=
  ∀ doc, inSubset stdU doc = true → ∀ h, render stdU true doc = some h → impl doc = h

/-- C35, inline.go `processEmphasis` terminates: from any state, fuel `Σ_{d ∈ right} (len(d.text) + 1) + 1`
suffices for the model of its loop. -/
theorem C35_emph_loop_terminates (s : PE) : peLoop (peMeasure s + 1) s ≠ .fuel :=
  peLoop_fuel (peMeasure s + 1) s (Nat.lt_succ_self _)

/-- C35, `processEmphasis` does not panic: while every live delimiter has at least one character of text
(`PEInv`), `Text[1:]` / `Text[2:]` stay in range. -/
theorem C35_emph_loop_no_panic (fuel : Nat) (s : PE) (h : PEInv s) : peLoop fuel s ≠ .panic :=
  peLoop_no_panic fuel s h

/-- C35, both for the model of `inlineParser.render` on a text whose only metacharacters are `*` and `_`
(anything else gives `unsupported`): neither out of fuel nor panic, for every text and every instance of Go's
Unicode predicates.  The tokenizer establishes `PEInv`. -/
theorem C35_emph_total (G : GoU) (text : Bytes) :
    (∀ (_ : renderEmph G text = .fuel), False) ∧ (∀ (_ : renderEmph G text = .panic), False) := by
  unfold renderEmph
  generalize hst : tokScan G { pieces := [], delims := [], prev := NL.toNat, skip := 0, unsupported := false } text = st
  have hpos : ∀ d ∈ st.delims, 1 ≤ d.rem := by
    rw [← hst]
    exact tokScan_delims_pos G text _ (by intro d hd; cases hd)
  have hinv : PEInv { left := [], right := st.delims.reverse, ob := [], pieces := st.pieces.reverse } :=
    ⟨(by intro d hd; simp at hd), (by intro d hd; exact hpos d (List.mem_reverse.mp hd))⟩
  have h1 := C35_emph_loop_terminates { left := [], right := st.delims.reverse, ob := [], pieces := st.pieces.reverse }
  have h2 := C35_emph_loop_no_panic
    (peMeasure { left := [], right := st.delims.reverse, ob := [], pieces := st.pieces.reverse } + 1) _ hinv
  simp only []
  by_cases hu : st.unsupported = true
  · simp [hu]
  · simp only [hu]
    cases hp : peLoop (peMeasure { left := [], right := st.delims.reverse, ob := [], pieces := st.pieces.reverse } + 1)
        { left := [], right := st.delims.reverse, ob := [], pieces := st.pieces.reverse } with
    | fuel => exact absurd hp h1
    | panic => exact absurd hp h2
    | ok s => simp

set_option maxRecDepth 4000 in
/-- non-vacuity: `*a*` is emphasis -/
example : (match renderEmph goStdU [0x2A, 0x61, 0x2A] with
    | .ops l => l == [IOp.emStart, .text [0x61], .emEnd]
    | _ => false) = true := by decide

/-- non-vacuity of `PEInv` -/
example : PEInv { left := [], right := [{ id := 0, typ := 0x2A, n := 2, rem := 2, canOpen := true, canClose := false }],
                  ob := [], pieces := [] } :=
  ⟨(by intro d hd; simp at hd), (by intro d hd; simp at hd; subst hd; decide)⟩

/-- C35: every opener the loop picks for a closer satisfies `openerOK`: same character, can open, rule of 3. -/
theorem C35_emph_opener_ok (c : D) (bot : Bot) (l : List D) (o : D) (rest : List D)
    (h : findOp c bot l = some (o, rest)) : openerOK o c = true := by
  induction l with
  | nil => simp [findOp] at h
  | cons p ps ih =>
    unfold findOp at h
    split at h
    · cases h
    · split at h
      · rename_i hok
        injection h with h; injection h with h1 h2
        subst h1; exact hok
      · exact ih h

/-- C35, md.go `parseStartingMarkers` terminates: fuel `len(line) + 1` suffices for the model of its loop,
since every iteration that continues removes a non-empty marker from the line. -/
theorem C35_markers_terminate (line : Bytes) (newParagraph : Bool) :
    startingMarkers (line.length + 1) line newParagraph [] ≠ none :=
  startingMarkers_fuel (line.length + 1) line newParagraph [] (Nat.lt_succ_self _)

set_option maxRecDepth 8000 in
/-- non-vacuity: `> - a` opens a block quote and a bullet item of indent 2 -/
example : startingMarkers 6 [0x3E, 0x20, 0x2D, 0x20, 0x61] true [] =
    some ([0x61], [.quote, .bullet 0x2D 2]) := by decide

/-- C35, md.go `blockParser.render` (model: ElvModel/C35/Block.lean): the main loop is structural recursion on
the lines, one line per iteration; `backup()` and re-reading a line after a leaf block is the second call of
`stepNormal` inside `stepBlk`, not another iteration. -/
theorem C35_block_loop_structural (st : BSt) (ln : Int) (l : Bytes) (rest : List Bytes) :
    blockLoop st ln (l :: rest) =
      (stepBlk st ln l rest.head?).2 ++ blockLoop (stepBlk st ln l rest.head?).1 (ln + 1) rest := rfl

/-- C35, totality of the block phase: from any parser state and for any lines, no bound check on the container
stack fails (`containers[matched-1]`, `containers[:keep]`, `len(containers)-1`) and the container-marker loop
never runs out of its fuel `len(line)+1`. -/
theorem C35_block_total_from (st : BSt) (ln : Int) (lines : List Bytes) :
    BOp.panic ∉ blockLoop st ln lines ∧ BOp.fuel ∉ blockLoop st ln lines := by
  have h := (blockLoop_moves lines st ln).clean
  exact ⟨fun hp => absurd (h _ hp) (by decide), fun hf => absurd (h _ hf) (by decide)⟩

theorem C35_block_total (doc : Bytes) :
    BOp.panic ∉ renderBlocks doc ∧ BOp.fuel ∉ renderBlocks doc :=
  C35_block_total_from initSt 1 (docLines doc)

/-- non-vacuity: a fenced code block closed by the end of its quote (`backup()`) -/
example : renderBlocks (bs "> - a\n> ```\nb\n") =
    [.opn 1 .quote 0, .opn 1 .bulletList 0, .opn 1 .bulletItem 0, .para 1 (bs "a"),
     .cls 2 .bulletItem, .cls 2 .bulletList, .code 2 [] [], .cls 3 .quote, .para 3 (bs "b")] := by
  decide +kernel

/-- C35, the op trace is well nested: the container ops handed to the codec (`OpBlockquoteStart/End`,
`Op…ListStart/End`, `OpListItemStart/End`) form a Dyck word from any parser state with open containers
`stack st`: every End closes the innermost open container, of the same type, and all are closed at the end.
(The implementation-side counterpart of `C35_ref_well_nested`: with a codec that writes one balanced fragment
per leaf op, the output is well nested whatever the input.) -/
theorem C35_block_trace_balanced_from (st : BSt) (ln : Int) (lines : List Bytes) :
    balance (stack st) (blockLoop st ln lines) = some [] :=
  (blockLoop_moves lines st ln).bal

theorem C35_block_trace_balanced (doc : Bytes) : balance [] (renderBlocks doc) = some [] :=
  (blockLoop_moves (docLines doc) initSt 1).bal

/-- `balance` rejects crossed and unclosed containers -/
example : balance [] [.opn 1 .quote 0, .opn 1 .bulletList 0, .cls 2 .quote, .cls 2 .bulletList] = none ∧
    balance [] [.opn 1 .quote 0] = some [.quote] ∧
    balance [] [.cls 1 .quote] = none := by decide

/-- C35: every container marker parsed by `parseStartingMarkers` consumes at least one byte of the line. -/
theorem C35_markers_consume (line : Bytes) (np : Bool) (rest : Bytes) (cs : List Cont)
    (h : startingMarkers (line.length + 1) line np [] = some (rest, cs)) :
    cs.length + rest.length ≤ line.length := by
  simpa using startingMarkers_count (Nat.lt_succ_self _) h

/-- C35: one line makes the container stack grow by at most `2·len(line)`: a list and an item per marker, each
marker at least one byte. -/
theorem C35_block_stack_growth (st : BSt) (ln : Int) (l : Bytes) (next : Option Bytes) :
    (stepBlk st ln l next).1.ctrs.length ≤ st.ctrs.length + 2 * l.length :=
  (stepBlk_moves st ln l next).len

/-- C35: after any lines `a` the stack holds at most twice as many containers as bytes were read. -/
theorem C35_block_stack_bounded (a : List Bytes) (nx : Option Bytes) :
    (runLines initSt 1 a nx).1.ctrs.length ≤ 2 * (a.map List.length).sum := by
  simpa [initSt] using (runLines_moves a initSt 1 nx).len

example : (runLines initSt 1 [bs "> - > a", bs "b"] none).1.ctrs.length = 4 := by decide +kernel

/-- the bound of `C35_markers_consume` is attained -/
example : startingMarkers 4 [0x3E, 0x3E, 0x3E] true [] = some ([], [.quote, .quote, .quote]) := by decide +kernel

/-- C35: the block phase does not depend on absolute line numbers: shifting the start line and the line numbers
recorded in the state by `k` shifts every `LineNo` of the output by `k` and changes nothing else. -/
theorem C35_block_shift (k : Int) (st : BSt) (ln : Int) (lines : List Bytes) :
    blockLoop (st.shift k) (ln + k) lines = (blockLoop st ln lines).map (BOp.shift k) :=
  blockLoop_shift k lines st ln

/-- non-vacuity: an open fenced code block recorded at line 2, shifted by 40 -/
example : blockLoop (BSt.shift 40 { ctrs := [], para := [], mode := .fenced 2 0 0x60 3 [] [bs "x"] }) (3 + 40)
      [bs "y", bs "```", bs "z"] =
    [.code 42 [] [bs "x", bs "y"], .para 45 (bs "z")] := by decide +kernel

/-- C35, locality: if after the lines `a` the parser is back in its initial state (nothing open), the ops of
`a ++ b` are the ops of `a` followed by the ops of `b` with line numbers shifted by `len a`. -/
theorem C35_block_local (a b : List Bytes) (opsA : List BOp)
    (h : runLines initSt 1 a b.head? = (initSt, opsA)) :
    blockLoop initSt 1 (a ++ b) = opsA ++ (blockLoop initSt 1 b).map (BOp.shift a.length) :=
  blockLoop_concat a b opsA h

/-- non-vacuity: after `# h` and an empty line nothing is open -/
example : runLines initSt 1 [bs "# h", []] (some (bs "- x")) = (initSt, [.heading 1 1 (bs "h") []]) := by
  decide +kernel

/-- C35, concatenation: for a document `d1` ending in a newline and a document `d2` that do not interact
(`Separable`: nothing is left open after `d1`, no list or block quote spanning the boundary, no unclosed fence
or HTML block), the block ops of `d1 ++ d2` are those of `d1` followed by those of `d2`, line numbers shifted.
Every codec consumes the ops in sequence, so the rendering of blank-line-separated top-level blocks is the
concatenation of their renderings. -/
theorem C35_block_concat (x d2 : Bytes) (h : Separable (x ++ [NL]) d2) :
    renderBlocks (x ++ [NL] ++ d2) =
      renderBlocks (x ++ [NL]) ++ (renderBlocks d2).map (BOp.shift (docLines (x ++ [NL])).length) :=
  renderBlocks_concat x d2 h

/-- C35, a syntactic instance of non-interaction: a top-level paragraph whose lines start with a byte that starts
no block (`PlainLine`), followed by an empty line, gives one `para` op, and whatever follows is parsed as it
would be on its own, line numbers shifted. -/
theorem C35_block_paragraph_independent (ls b : List Bytes) (hne : ls ≠ [])
    (hl : ∀ l ∈ ls, PlainLine l) :
    blockLoop initSt 1 (ls ++ [[]] ++ b) =
      [.para 1 (trimSpTab (joinNL ls))] ++
        (blockLoop initSt 1 b).map (BOp.shift ((ls ++ [[]]).length : Int)) :=
  blockLoop_concat (ls ++ [[]]) b _ (runLines_paragraph ls hne hl b.head?)

example : PlainLine [0x66, 0x6F, 0x6F, 0x20, 0x2A, 0x62, 0x2A] := ⟨_, _, rfl, by decide⟩

/-- C35, rendering is concatenation: for every codec `f` that writes each op on its own and ignores line numbers
(`HTMLCodec.Do` is one: it appends to a `strings.Builder` and never reads `LineNo`), the rendering of `d1 ++ d2`
is that of `d1` followed by that of `d2` when the two documents do not interact. -/
theorem C35_render_concat (f : BOp → Bytes) (hf : ∀ k op, f (BOp.shift k op) = f op)
    (x d2 : Bytes) (h : Separable (x ++ [NL]) d2) :
    (renderBlocks (x ++ [NL] ++ d2)).flatMap f =
      (renderBlocks (x ++ [NL])).flatMap f ++ (renderBlocks d2).flatMap f := by
  rw [C35_block_concat x d2 h, List.flatMap_append]
  congr 1
  rw [List.flatMap_map]
  congr 1
  funext op
  exact hf _ op

/-- non-vacuity: a paragraph followed by a blank line, then a heading -/
example : Separable (bs "a\nb\n" ++ [NL]) (bs "# c\n") :=
  ⟨[.para 1 (bs "a\nb")], by decide +kernel, by decide +kernel⟩

/-- `Separable` is needed: a list item stays open across the blank line -/
example : renderBlocks (bs "- a\n" ++ [NL] ++ bs "  b\n") ≠
    renderBlocks (bs "- a\n" ++ [NL]) ++ (renderBlocks (bs "  b\n")).map (BOp.shift 2) := by
  decide +kernel

/-- C35, the reference's emphasis resolution terminates: `procEmph` returns with the fuel `resolveEmph` gives it.
(The reference's tokenizer `scan` and its block phase `parseBlocks`, a fold of `stepLine`, are structurally
recursive.) -/
theorem C35_ref_emph_terminates (items : List Item) : resolveEmph items ≠ none :=
  resolveEmph_total items

/-- C35: the reference never lets `<`, `>` or `"` coming from text reach the output: `escHtml` replaces them
(and `&`) by entities. -/
theorem C35_ref_text_escaped (s : Bytes) : ∀ b ∈ escHtml s, b ≠ 0x3C ∧ b ≠ 0x3E ∧ b ≠ 0x22 :=
  escHtml_safe s

/-- C35, the reference's HTML is well nested: whenever the reference renders a document, the output is the
serialisation of a token list that is a Dyck word over the tags (`WellNested`) and whose texts and attribute
values are free of `<`, `>`, `"` (`Ev.Safe`), so the tokenization of the bytes is unambiguous. -/
theorem C35_ref_well_nested (U : UClass) (loose : Bool) (doc h : Bytes)
    (hr : render U loose doc = some h) :
    ∃ evs : List Ev, flat evs = h ∧ WellNested evs ∧ (∀ e ∈ evs, e.Safe) :=
  ref_well_nested U loose doc h hr

/-- C35, the same on the bytes: `scanB`, a model of the harness oracle `malformedHTML` (tags must match, no stray
`<`, `>`, `"`), accepts the reference's output. -/
theorem C35_ref_bytes_balanced (U : UClass) (loose : Bool) (doc h : Bytes)
    (hr : render U loose doc = some h) : scanB [] .text h = true :=
  ref_bytes_balanced U loose doc h hr

example : (render stdU true (bs "> - *a*\n")).isSome = true := by decide +kernel

example : escHtml [0x61, 0x3C, 0x26] = [0x61, 0x26, 0x6C, 0x74, 0x3B, 0x26, 0x61, 0x6D, 0x70, 0x3B] := by decide
