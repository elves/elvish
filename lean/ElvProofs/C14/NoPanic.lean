/-
C14: the partial Go operations inside element assignment never panic (the `.panic` branches of `index`/`assoc` are
dead by the C13 theorems; the slice-length panics of element.go need an empty index list, which the compiler never
produces).
-/
import ElvProofs.C14.Basic
import ElvProofs.C13
namespace C14
open Go

theorem indexList_not_nil {α} (l : List α) (raw : C13.Raw) :
    C13.indexList l raw ≠ .ok .nil ∧ ∀ w, C13.indexList l raw ≠ .panic w := by
  unfold C13.indexList
  cases h : C13.convertListIndex raw (l.length : Int) with
  | panic w => exact absurd h (C13_convert_no_panic raw _ w)
  | exc e => constructor <;> simp
  | ok ix =>
    obtain ⟨b1, b2, b3⟩ := C13_bounds_in_range raw l.length ix (by omega) h
    simp only [bind_ok]
    cases hs : ix.slice with
    | true =>
      obtain ⟨c1, c2⟩ := b2 hs
      have : C13.vecSubVector l ix.lower ix.upper =
          some ((l.drop ix.lower.toNat).take (ix.upper.toNat - ix.lower.toNat)) := by
        unfold C13.vecSubVector
        rw [if_neg (by omega)]
      simp [this]
    | false =>
      have c := b3 hs
      have hlt : ix.lower.toNat < l.length := by omega
      have : C13.vecIndex l ix.lower = some l[ix.lower.toNat] := by
        unfold C13.vecIndex
        rw [if_neg (by omega)]
        exact List.getElem?_eq_getElem hlt
      simp [this]

theorem index_no_panic (c : Val) (k : Key) (w : String) : index c k ≠ .panic w := by
  cases c with
  | str s =>
    simp only [index]
    cases h : C13.indexString s k.raw with
    | panic w' => exact absurd h (C13_string_no_panic s k.raw none w').1
    | ok r => simp
    | exc e => simp
  | list xs =>
    simp only [index]
    obtain ⟨h1, h2⟩ := indexList_not_nil xs k.raw
    cases h : C13.indexList xs k.raw with
    | panic w' => exact absurd h (h2 w')
    | exc e => simp
    | ok r =>
      cases r with
      | elem v => simp
      | list l => simp
      | nil => exact absurd h h1
  | map kvs => simp only [index]; cases lookup kvs k <;> simp
  | num i => simp [index]
  | nil => simp [index]

theorem assoc_no_panic (c : Val) (k : Key) (v : Val) (w : String) : assoc c k v ≠ .panic w := by
  cases c with
  | str s =>
    simp only [assoc]
    cases h : C13.assocString s k.raw (match v with | .str r => some r | _ => none) with
    | panic w' => exact absurd h (C13_string_no_panic s k.raw _ w').2
    | ok r => simp
    | exc e => simp
  | list xs =>
    simp only [assoc, C13.assocList]
    cases h : C13.convertListIndex k.raw (xs.length : Int) with
    | panic w' => exact absurd h (C13_convert_no_panic _ _ w')
    | exc e => simp
    | ok ix =>
      obtain ⟨b1, b2, b3⟩ := C13_bounds_in_range k.raw xs.length ix (by omega) h
      simp only [bind_ok]
      cases hs : ix.slice with
      | true => simp [C13.throw]
      | false =>
        have c := b3 hs
        have : C13.vecAssoc xs ix.lower v = some (xs.set ix.lower.toNat v) := by
          unfold C13.vecAssoc
          rw [if_neg (by omega), if_neg (by omega)]
        simp [this]
  | map kvs => simp [assoc]
  | num i => simp [assoc]
  | nil => simp [assoc]

theorem assocIn_no_panic (idx : List Key) :
    ∀ (c v : Val) (w : String), assocIn c idx v ≠ .panic w := by
  induction idx with
  | nil => intro c v w; simp [assocIn]
  | cons k rest ih =>
    intro c v w
    cases rest with
    | nil => simpa [assocIn] using assoc_no_panic c k v w
    | cons k2 rest =>
      rw [assocIn]
      cases hi : index c k with
      | panic w' => exact absurd hi (index_no_panic c k w')
      | exc e => simp
      | ok sub =>
        simp only [bind_ok]
        cases hs : assocIn sub (k2 :: rest) v with
        | panic w' => exact absurd hs (ih sub v w')
        | exc e => simp
        | ok inner => simpa using assoc_no_panic c k inner w

theorem dissocIn_no_panic (idx : List Key) (hne : idx ≠ []) :
    ∀ (c : Val) (w : String), dissocIn c idx ≠ .panic w := by
  induction idx with
  | nil => exact absurd rfl hne
  | cons k rest ih =>
    intro c w
    cases rest with
    | nil => simp only [dissocIn]; cases dissoc c k <;> simp
    | cons k2 rest =>
      rw [dissocIn]
      cases hi : index c k with
      | panic w' => exact absurd hi (index_no_panic c k w')
      | exc e => simp
      | ok sub =>
        simp only [bind_ok]
        cases hs : dissocIn sub (k2 :: rest) with
        | panic w' => exact absurd hs (ih (by simp) sub w')
        | exc e => simp
        | ok inner => simpa using assoc_no_panic c k inner w

theorem assocers_no_panic (idx : List Key) (hne : idx ≠ []) :
    ∀ (c : Val) (w : String), assocers c idx ≠ .panic w := by
  induction idx with
  | nil => exact absurd rfl hne
  | cons k rest ih =>
    intro c w
    cases rest with
    | nil => simp [assocers]
    | cons k2 rest =>
      rw [assocers]
      cases hi : index c k with
      | panic w' => exact absurd hi (index_no_panic c k w')
      | exc e => simp
      | ok sub =>
        simp only [bind_ok]
        cases hs : assocers sub (k2 :: rest) with
        | panic w' => exact absurd hs (ih (by simp) sub w')
        | exc e => simp
        | ok r => simp

theorem indexPath_no_panic (p : List Key) : ∀ (c : Val) (w : String), indexPath c p ≠ .panic w := by
  induction p with
  | nil => intro c w; simp [indexPath]
  | cons k rest ih =>
    intro c w
    rw [indexPath]
    cases hi : index c k with
    | panic w' => exact absurd hi (index_no_panic c k w')
    | exc e => simp
    | ok sub => simpa using ih sub w

theorem derefAll_single_no_panic (σ : Store) (lv : LV) (cur : Val) (hcur : σ.get lv.head = some cur)
    (w : String) : derefAll σ [lv] ≠ .error (.panic w) := by
  simp only [derefAll, hcur]
  by_cases he : lv.idx.isEmpty = true
  · simp only [he, if_true, derefAll]
    intro h; cases h
  · simp only [he]
    have hne : lv.idx ≠ [] := by simpa using he
    cases ha : assocers cur lv.idx with
    | panic w' => exact absurd ha (assocers_no_panic _ hne cur w')
    | exc e => simp [liftRes]
    | ok cs =>
      simp only [liftRes, derefAll, Bool.false_eq_true, if_false]
      intro h; cases h

end C14
