/-
C14: what an assignment does to the store (frame conditions, atomic failure, the pending-restore invariant of
tmp/with).
-/
import ElvProofs.C14.Basic
namespace C14
open Go

def newValue (cur : Val) (lv : LV) (v : Val) : Res Val :=
  if lv.idx.isEmpty then .ok v else setElem cur lv.idx v

theorem newValue_eq_assocIn (cur : Val) (lv : LV) (v : Val) :
    newValue cur lv v = assocIn cur lv.idx v := by
  unfold newValue
  cases h : lv.idx with
  | nil => rfl
  | cons k rest => simpa using setElem_eq_assocIn cur (k :: rest) v (by simp)

theorem setAll_cons (temp : Bool) (σ : Store) (ds : List (String × Val)) (lv : LV) (v : Val)
    (rest : List (LV × Val)) :
    setAll temp σ ds ((lv, v) :: rest) =
      match σ.get lv.head with
      | none => (σ, ds, some (.panic "undeclared variable (compilation error)"))
      | some cur =>
        match newValue cur lv v with
        | .ok nv => setAll temp (σ.set lv.head nv) (if temp then ds ++ [(lv.head, cur)] else ds) rest
        | .exc e => (σ, ds, some (.exc e lv.tag))
        | .panic w => (σ, ds, some (.panic w)) := rfl

theorem setAll_cons_cases (temp : Bool) (σ : Store) (ds : List (String × Val)) (lv : LV) (v : Val)
    (rest : List (LV × Val)) :
    (∃ f, setAll temp σ ds ((lv, v) :: rest) = (σ, ds, some f)) ∨
    (∃ cur nv, σ.get lv.head = some cur ∧ newValue cur lv v = .ok nv ∧
      setAll temp σ ds ((lv, v) :: rest) =
        setAll temp (σ.set lv.head nv) (if temp then ds ++ [(lv.head, cur)] else ds) rest) := by
  rw [setAll_cons]
  cases hg : σ.get lv.head with
  | none => exact Or.inl ⟨_, rfl⟩
  | some cur =>
    simp only []
    cases hs : newValue cur lv v with
    | exc e => exact Or.inl ⟨_, rfl⟩
    | panic w => exact Or.inl ⟨_, rfl⟩
    | ok nv => exact Or.inr ⟨cur, nv, rfl, hs, rfl⟩

theorem doAssign_cases (temp : Bool) (σ : Store) (lhs : List LV) (rhs : List Rhs) :
    (∃ f, doAssign temp σ lhs rhs = (σ, [], some f)) ∨
    (∃ vs, evalAll σ rhs = .ok vs ∧ lhs.length = vs.length ∧
      doAssign temp σ lhs rhs = setAll temp σ [] (lhs.zip vs)) := by
  unfold doAssign
  cases derefAll σ lhs with
  | error f => exact Or.inl ⟨f, rfl⟩
  | ok u =>
    cases evalAll σ rhs with
    | error f => exact Or.inl ⟨f, rfl⟩
    | ok vs =>
      by_cases hl : lhs.length = vs.length
      · exact Or.inr ⟨vs, rfl, hl, by simp [hl]⟩
      · exact Or.inl ⟨.exc "arity" "form", by simp [hl]⟩

theorem setAll_frame (temp : Bool) (pairs : List (LV × Val)) :
    ∀ (σ : Store) (ds : List (String × Val)),
      (∀ y, y ∉ pairs.map (·.1.head) → (setAll temp σ ds pairs).1.get y = σ.get y) ∧
      (∀ d ∈ (setAll temp σ ds pairs).2.1, d ∈ ds ∨ d.1 ∈ pairs.map (·.1.head)) := by
  induction pairs with
  | nil => intro σ ds; simp [setAll]
  | cons p rest ih =>
    intro σ ds
    obtain ⟨lv, v⟩ := p
    rcases setAll_cons_cases temp σ ds lv v rest with ⟨f, he⟩ | ⟨cur, nv, _, _, he⟩ <;> rw [he]
    · exact ⟨fun _ _ => rfl, fun d hd => Or.inl hd⟩
    · obtain ⟨ih1, ih2⟩ := ih (σ.set lv.head nv) (if temp then ds ++ [(lv.head, cur)] else ds)
      constructor
      · intro y hy
        simp only [List.map_cons, List.mem_cons, not_or] at hy
        rw [ih1 y hy.2, get_set_ne _ _ _ _ hy.1]
      · intro d hd
        simp only [List.map_cons, List.mem_cons]
        rcases ih2 d hd with h | h
        · cases temp with
          | false => exact Or.inl h
          | true =>
            rcases List.mem_append.mp h with h | h
            · exact Or.inl h
            · exact Or.inr (Or.inl (by rw [List.mem_singleton.mp h]))
        · exact Or.inr (Or.inr h)

theorem map_head_zip (lhs : List LV) (vs : List Val) (y : String)
    (hy : y ∈ (lhs.zip vs).map (·.1.head)) : y ∈ lhs.map (·.head) := by
  simp only [List.mem_map] at hy ⊢
  obtain ⟨p, hp, rfl⟩ := hy
  exact ⟨p.1, (List.of_mem_zip hp).1, rfl⟩

theorem doAssign_frame (temp : Bool) (σ : Store) (lhs : List LV) (rhs : List Rhs) :
    (∀ y, y ∉ lhs.map (·.head) → (doAssign temp σ lhs rhs).1.get y = σ.get y) ∧
    (∀ d ∈ (doAssign temp σ lhs rhs).2.1, d.1 ∈ lhs.map (·.head)) := by
  rcases doAssign_cases temp σ lhs rhs with ⟨f, he⟩ | ⟨vs, _, _, he⟩ <;> rw [he]
  · simp
  · obtain ⟨h1, h2⟩ := setAll_frame temp (lhs.zip vs) σ []
    refine ⟨fun y hy => h1 y (fun h => hy (map_head_zip lhs vs y h)), fun d hd => ?_⟩
    rcases h2 d hd with h | h
    · cases h
    · exact map_head_zip lhs vs _ h

theorem evalAll_single (σ : Store) (r : Rhs) :
    evalAll σ [r] = match evalRhs σ r with
      | .ok v => .ok [v]
      | .exc e => .error (.exc e "rhs")
      | .panic w => .error (.panic w) := by
  simp only [evalAll]
  cases evalRhs σ r <;> rfl

theorem evalAll_cons_ok {σ : Store} {r : Rhs} {rest : List Rhs} {vs : List Val}
    (h : evalAll σ (r :: rest) = .ok vs) :
    ∃ v vs', evalRhs σ r = .ok v ∧ evalAll σ rest = .ok vs' ∧ vs = v :: vs' := by
  rw [evalAll] at h
  cases hr : evalRhs σ r with
  | exc e => rw [hr] at h; cases h
  | panic w => rw [hr] at h; cases h
  | ok v =>
    cases ht : evalAll σ rest with
    | error f => rw [hr, ht] at h; cases h
    | ok vs' => rw [hr, ht] at h; cases h; exact ⟨v, vs', rfl, rfl, rfl⟩

theorem doAssign_single (temp : Bool) (σ : Store) (lv : LV) (r : Rhs) :
    (∃ f, doAssign temp σ [lv] [r] = (σ, [], some f)) ∨
    (∃ cur v nv, σ.get lv.head = some cur ∧ evalRhs σ r = .ok v ∧ newValue cur lv v = .ok nv ∧
      doAssign temp σ [lv] [r] = (σ.set lv.head nv, if temp then [(lv.head, cur)] else [], none)) := by
  rcases doAssign_cases temp σ [lv] [r] with hf | ⟨vs, hv, _, he⟩
  · exact Or.inl hf
  · obtain ⟨v, _, hr, hnil, rfl⟩ := evalAll_cons_ok hv
    cases hnil
    rw [he]
    rcases setAll_cons_cases temp σ [] lv v [] with hf | ⟨cur, nv, hg, hn, hs⟩
    · exact Or.inl hf
    · exact Or.inr ⟨cur, v, nv, hg, hr, hn, by rw [List.zip_cons_cons, List.zip_nil_right, hs]; cases temp <;> rfl⟩

/-! `Inv σ0 σ ds`: `ds` are the restore actions registered since the store was `σ0`, `σ` is the store now.  A variable
with an action: the FIRST action holds its value in `σ0`.  A variable without: it still has its `σ0` value. -/

def Inv (σ0 σ : Store) (ds : List (String × Val)) : Prop :=
  ∀ h, (∀ d, ds.find? (fun d => d.1 == h) = some d → σ0.get h = some d.2) ∧
       (ds.find? (fun d => d.1 == h) = none → σ.get h = σ0.get h)

theorem inv_init (σ : Store) : Inv σ σ [] := by
  intro h; simp

theorem inv_push {σ0 σ : Store} {ds : List (String × Val)} (hinv : Inv σ0 σ ds)
    (x : String) (cur nv : Val) (hg : σ.get x = some cur) :
    Inv σ0 (σ.set x nv) (ds ++ [(x, cur)]) := by
  intro h
  obtain ⟨i1, i2⟩ := hinv h
  rw [List.find?_append]
  cases hf : ds.find? (fun d => d.1 == h) with
  | some d0 =>
    simp only [Option.some_or]
    refine ⟨?_, by simp⟩
    intro d hd
    cases hd
    exact i1 d0 hf
  | none =>
    simp only [Option.none_or]
    by_cases hx : x = h
    · subst hx
      simp only [List.find?, BEq.rfl]
      refine ⟨?_, by simp⟩
      intro d hd
      cases hd
      rw [← i2 hf, hg]
    · have hb : (x == h) = false := by simpa using hx
      simp only [List.find?, hb]
      refine ⟨by simp, ?_⟩
      intro _
      rw [get_set_ne _ _ _ _ (fun e => hx e.symm)]
      exact i2 hf

theorem find_isSome_append_left {ds more : List (String × Val)} {h : String}
    (hh : (ds.find? (fun d => d.1 == h)).isSome) :
    ((ds ++ more).find? (fun d => d.1 == h)).isSome := by
  rw [List.find?_append]
  cases hf : ds.find? (fun d => d.1 == h) with
  | some d => simp
  | none => simp [hf] at hh

theorem restore_inv {σ0 σ : Store} {ds : List (String × Val)} (hinv : Inv σ0 σ ds) (h : String) :
    (restore ds σ).get h = σ0.get h := by
  rw [restore_get]
  cases hf : ds.find? (fun d => d.1 == h) with
  | some d => exact ((hinv h).1 d hf).symm
  | none => exact (hinv h).2 hf

/-- The first registered action runs last: later registrations and the current store do not matter. -/
theorem restore_covered {σ0 σ : Store} {ds : List (String × Val)} (hinv : Inv σ0 σ ds) {h : String}
    (hc : (ds.find? (fun d => d.1 == h)).isSome) (more : List (String × Val)) (σ' : Store) :
    (restore (ds ++ more) σ').get h = σ0.get h := by
  rw [restore_get, List.find?_append]
  cases hf : ds.find? (fun d => d.1 == h) with
  | some d => exact ((hinv h).1 d hf).symm
  | none => simp [hf] at hc

theorem setAll_inv (σ0 : Store) (pairs : List (LV × Val)) :
    ∀ (σ : Store) (ds : List (String × Val)), Inv σ0 σ ds →
      Inv σ0 (setAll true σ ds pairs).1 (setAll true σ ds pairs).2.1 ∧
      ((setAll true σ ds pairs).2.2 = none →
        ∀ p ∈ pairs, ((setAll true σ ds pairs).2.1.find? (fun d => d.1 == p.1.head)).isSome) ∧
      (∀ h, (ds.find? (fun d => d.1 == h)).isSome →
        ((setAll true σ ds pairs).2.1.find? (fun d => d.1 == h)).isSome) := by
  induction pairs with
  | nil => intro σ ds hinv; simp [setAll, hinv]
  | cons p rest ih =>
    intro σ ds hinv
    obtain ⟨lv, v⟩ := p
    rcases setAll_cons_cases true σ ds lv v rest with ⟨f, he⟩ | ⟨cur, nv, hg, _, he⟩ <;> rw [he]
    · refine ⟨hinv, fun hok => ?_, fun _ hh => hh⟩
      cases hok
    · obtain ⟨h1, h2, h3⟩ := ih (σ.set lv.head nv) (ds ++ [(lv.head, cur)]) (inv_push hinv lv.head cur nv hg)
      refine ⟨h1, fun hok p hp => ?_, fun h hh => h3 h (find_isSome_append_left hh)⟩
      rcases List.mem_cons.mp hp with rfl | hp
      · apply h3
        rw [List.find?_append]
        cases ds.find? (fun d => d.1 == lv.head) <;> simp
      · exact h2 hok p hp

theorem mem_zip_of_mem {α β} (l : List α) (m : List β) (a : α) (ha : a ∈ l)
    (hlen : l.length = m.length) : ∃ b, (a, b) ∈ l.zip m := by
  induction l generalizing m with
  | nil => cases ha
  | cons x xs ih =>
    cases m with
    | nil => simp at hlen
    | cons y ys =>
      simp only [List.mem_cons] at ha
      rcases ha with rfl | ha
      · exact ⟨y, by simp⟩
      · obtain ⟨b, hb⟩ := ih ys ha (by simpa using hlen)
        exact ⟨b, by simp [hb]⟩

theorem setAll_prefix (temp : Bool) (pre : List (String × Val)) (pairs : List (LV × Val)) :
    ∀ (σ : Store) (ds : List (String × Val)),
      setAll temp σ (pre ++ ds) pairs =
        ((setAll temp σ ds pairs).1, pre ++ (setAll temp σ ds pairs).2.1, (setAll temp σ ds pairs).2.2) := by
  induction pairs with
  | nil => intro σ ds; simp [setAll]
  | cons p rest ih =>
    intro σ ds
    obtain ⟨lv, v⟩ := p
    rw [setAll_cons, setAll_cons]
    cases σ.get lv.head with
    | none => rfl
    | some cur =>
      simp only []
      cases newValue cur lv v with
      | exc e => rfl
      | panic w => rfl
      | ok nv =>
        cases temp with
        | false => exact ih (σ.set lv.head nv) ds
        | true => simpa using ih (σ.set lv.head nv) (ds ++ [(lv.head, cur)])

/-- `doAssign true` started with pending restores `pre` (it registers its own
after them). -/
theorem doAssign_inv (σ0 σ : Store) (pre : List (String × Val)) (lhs : List LV) (rhs : List Rhs)
    (hinv : Inv σ0 σ pre) :
    Inv σ0 (doAssign true σ lhs rhs).1 (pre ++ (doAssign true σ lhs rhs).2.1) ∧
      ((doAssign true σ lhs rhs).2.2 = none →
        ∀ lv ∈ lhs, ((pre ++ (doAssign true σ lhs rhs).2.1).find? (fun d => d.1 == lv.head)).isSome) ∧
      (∀ h, (pre.find? (fun d => d.1 == h)).isSome →
        ((pre ++ (doAssign true σ lhs rhs).2.1).find? (fun d => d.1 == h)).isSome) := by
  refine ⟨?_, ?_, fun h hh => find_isSome_append_left hh⟩ <;>
    rcases doAssign_cases true σ lhs rhs with ⟨f, he⟩ | ⟨vs, _, hl, he⟩ <;> rw [he]
  · simpa using hinv
  · have h := (setAll_inv σ0 (lhs.zip vs) σ (pre ++ []) (by simpa using hinv)).1
    rwa [setAll_prefix] at h
  · simp
  · intro hok lv hlv
    have h := (setAll_inv σ0 (lhs.zip vs) σ (pre ++ []) (by simpa using hinv)).2.1
    rw [setAll_prefix] at h
    obtain ⟨v, hv⟩ := mem_zip_of_mem lhs vs lv hlv hl
    exact h hok (lv, v) hv

end C14
