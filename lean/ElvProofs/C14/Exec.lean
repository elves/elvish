/- C14: statements — `with`, the general frame condition by mutual induction over statements and statement lists. -/
import ElvProofs.C14.Frame
namespace C14
open Go

theorem withAssigns_cons_ok {σ : Store} {lhs : List LV} {rhs : List Rhs}
    (h : (doAssign true σ lhs rhs).2.2 = none) (ds : List (String × Val))
    (rest : List (List LV × List Rhs)) :
    withAssigns σ ds ((lhs, rhs) :: rest) =
      withAssigns (doAssign true σ lhs rhs).1 (ds ++ (doAssign true σ lhs rhs).2.1) rest := by
  rw [withAssigns]
  rcases hd : doAssign true σ lhs rhs with ⟨σ1, d1, e⟩
  rw [hd] at h
  cases h
  rfl

theorem withAssigns_cons_fail {σ : Store} {lhs : List LV} {rhs : List Rhs} {f : Fail}
    (h : (doAssign true σ lhs rhs).2.2 = some f) (ds : List (String × Val))
    (rest : List (List LV × List Rhs)) :
    withAssigns σ ds ((lhs, rhs) :: rest) =
      ((doAssign true σ lhs rhs).1, ds ++ (doAssign true σ lhs rhs).2.1, some f) := by
  rw [withAssigns]
  rcases hd : doAssign true σ lhs rhs with ⟨σ1, d1, e⟩
  rw [hd] at h
  cases h
  rfl

theorem withAssigns_inv (σ0 : Store) (assigns : List (List LV × List Rhs)) :
    ∀ (σ : Store) (ds : List (String × Val)), Inv σ0 σ ds →
      Inv σ0 (withAssigns σ ds assigns).1 (withAssigns σ ds assigns).2.1 ∧
      ((withAssigns σ ds assigns).2.2 = none →
        ∀ a ∈ assigns, ∀ lv ∈ a.1,
          ((withAssigns σ ds assigns).2.1.find? (fun d => d.1 == lv.head)).isSome) ∧
      (∀ h, (ds.find? (fun d => d.1 == h)).isSome →
        ((withAssigns σ ds assigns).2.1.find? (fun d => d.1 == h)).isSome) := by
  induction assigns with
  | nil => intro σ ds hinv; simp [withAssigns, hinv]
  | cons a rest ih =>
    intro σ ds hinv
    obtain ⟨lhs, rhs⟩ := a
    obtain ⟨d1, d2, d3⟩ := doAssign_inv σ0 σ ds lhs rhs hinv
    cases he : (doAssign true σ lhs rhs).2.2 with
    | some f =>
      rw [withAssigns_cons_fail he]
      refine ⟨d1, fun hok => ?_, d3⟩
      cases hok
    | none =>
      rw [withAssigns_cons_ok he]
      obtain ⟨i1, i2, i3⟩ := ih _ _ d1
      refine ⟨i1, fun hok a ha lv hlv => ?_, fun h hh => i3 h (d3 h hh)⟩
      rcases List.mem_cons.mp ha with rfl | ha
      · exact i3 _ (d2 he lv hlv)
      · exact i2 hok a ha lv hlv

theorem withAssigns_frame (assigns : List (List LV × List Rhs)) :
    ∀ (σ : Store) (ds : List (String × Val)),
      (∀ y, y ∉ assigns.flatMap (fun a => a.1.map (·.head)) →
        (withAssigns σ ds assigns).1.get y = σ.get y) ∧
      (∀ d ∈ (withAssigns σ ds assigns).2.1,
        d ∈ ds ∨ d.1 ∈ assigns.flatMap (fun a => a.1.map (·.head))) := by
  induction assigns with
  | nil => intro σ ds; exact ⟨fun _ _ => rfl, fun d hd => Or.inl hd⟩
  | cons a rest ih =>
    intro σ ds
    obtain ⟨lhs, rhs⟩ := a
    obtain ⟨f1, f2⟩ := doAssign_frame true σ lhs rhs
    simp only [List.flatMap_cons, List.mem_append, not_or]
    -- an own restore of this assignment is for one of its heads
    have hown : ∀ d, d ∈ ds ++ (doAssign true σ lhs rhs).2.1 →
        d ∈ ds ∨ d.1 ∈ lhs.map (·.head) ∨ d.1 ∈ rest.flatMap (fun a => a.1.map (·.head)) := by
      intro d hd
      rcases List.mem_append.mp hd with hd | hd
      · exact Or.inl hd
      · exact Or.inr (Or.inl (f2 d hd))
    cases he : (doAssign true σ lhs rhs).2.2 with
    | some f =>
      rw [withAssigns_cons_fail he]
      exact ⟨fun y hy => f1 y hy.1, hown⟩
    | none =>
      rw [withAssigns_cons_ok he]
      obtain ⟨i1, i2⟩ := ih (doAssign true σ lhs rhs).1 (ds ++ (doAssign true σ lhs rhs).2.1)
      refine ⟨fun y hy => by rw [i1 y hy.2, f1 y hy.1], fun d hd => ?_⟩
      rcases i2 d hd with h | h
      · exact hown d h
      · exact Or.inr (Or.inr h)

theorem execDel_cases (σ : Store) (lv : LV) :
    (∃ f, execDel σ lv = ⟨σ, [], [], some f⟩) ∨
    (∃ cur nv, σ.get lv.head = some cur ∧ delElem cur lv.idx = .ok nv ∧
      execDel σ lv = ⟨σ.set lv.head nv, [], [], none⟩) := by
  unfold execDel
  cases σ.get lv.head with
  | none => exact Or.inl ⟨_, rfl⟩
  | some cur =>
    simp only []
    cases hdel : delElem cur lv.idx with
    | ok nv => exact Or.inr ⟨cur, nv, rfl, hdel, rfl⟩
    | panic w => exact Or.inl ⟨_, rfl⟩
    | exc e =>
      simp only []
      cases delErrSite e lv.idx.length with
      | none => exact Or.inl ⟨_, rfl⟩
      | some n => cases n <;> exact Or.inl ⟨_, rfl⟩

theorem execDel_frame (σ : Store) (lv : LV) (y : String) (hy : y ≠ lv.head) :
    (execDel σ lv).store.get y = σ.get y ∧ (execDel σ lv).defers = [] := by
  rcases execDel_cases σ lv with ⟨f, he⟩ | ⟨cur, nv, _, _, he⟩ <;> rw [he]
  · exact ⟨rfl, rfl⟩
  · exact ⟨get_set_ne _ _ _ _ hy, rfl⟩

mutual
theorem exec_defers (σ : Store) (s : Stmt) : ∀ d ∈ (exec σ s).defers, d.1 ∈ headsS s := by
  cases s with
  | assign temp lhs rhs =>
    intro d hd
    simp only [exec] at hd
    simp only [headsS]
    exact (doAssign_frame temp σ lhs rhs).2 d hd
  | del lv =>
    intro d hd
    simp only [exec] at hd
    by_cases hy : d.1 = lv.head
    · simp [headsS, hy]
    · rw [(execDel_frame σ lv d.1 hy).2] at hd; cases hd
  | put rs =>
    intro d hd
    simp only [exec] at hd
    cases h : evalAll σ rs <;> simp [h] at hd
  | call body => intro d hd; simp [exec] at hd
  | withS as body =>
    intro d hd
    simp only [exec] at hd
    rcases hw : withAssigns σ [] as with ⟨σ1, ds, e⟩
    rw [hw] at hd
    cases e <;> simp at hd
theorem execList_defers (σ : Store) (l : List Stmt) : ∀ d ∈ (execList σ l).defers, d.1 ∈ headsL l := by
  cases l with
  | nil => intro d hd; simp [execList] at hd
  | cons s rest =>
    intro d hd
    simp only [execList] at hd
    simp only [headsL, List.mem_append]
    cases he : (exec σ s).err with
    | some f =>
      rw [he] at hd
      exact Or.inl (exec_defers σ s d hd)
    | none =>
      rw [he] at hd
      simp only [List.mem_append] at hd
      rcases hd with hd | hd
      · exact Or.inl (exec_defers σ s d hd)
      · exact Or.inr (execList_defers _ rest d hd)
end

mutual
theorem exec_frame (σ : Store) (s : Stmt) (y : String) (hy : y ∉ headsS s) :
    (exec σ s).store.get y = σ.get y := by
  cases s with
  | assign temp lhs rhs =>
    simp only [exec]
    exact (doAssign_frame temp σ lhs rhs).1 y (by simpa [headsS] using hy)
  | del lv =>
    simp only [exec]
    exact (execDel_frame σ lv y (by simpa [headsS] using hy)).1
  | put rs =>
    simp only [exec]
    cases evalAll σ rs <;> rfl
  | call body =>
    simp only [exec]
    have hy' : y ∉ headsL body := by simpa [headsS] using hy
    rw [restore_get_notin _ _ _ (fun d hd (e : d.1 = y) => hy' (by rw [← e]; exact execList_defers σ body d hd))]
    exact execList_frame σ body y hy'
  | withS as body =>
    simp only [headsS, List.mem_append, not_or] at hy
    simp only [exec]
    obtain ⟨w1, w2⟩ := withAssigns_frame as σ []
    rcases hw : withAssigns σ [] as with ⟨σ1, ds, e⟩
    rw [hw] at w1 w2
    have hds : ∀ d ∈ ds, d.1 ≠ y := by
      intro d hd e
      rcases w2 d hd with h | h
      · cases h
      · exact hy.1 (by rw [← e]; exact h)
    cases e with
    | some f =>
      simp only []
      rw [restore_get_notin _ _ _ hds]
      exact w1 y hy.1
    | none =>
      simp only []
      rw [restore_get_notin _ _ _ hds,
        restore_get_notin _ _ _ (fun d hd (e : d.1 = y) => hy.2 (by rw [← e]; exact execList_defers σ1 body d hd)),
        execList_frame σ1 body y hy.2]
      exact w1 y hy.1
theorem execList_frame (σ : Store) (l : List Stmt) (y : String) (hy : y ∉ headsL l) :
    (execList σ l).store.get y = σ.get y := by
  cases l with
  | nil => simp [execList]
  | cons s rest =>
    simp only [headsL, List.mem_append, not_or] at hy
    simp only [execList]
    cases he : (exec σ s).err with
    | some f => exact exec_frame σ s y hy.1
    | none =>
      simp only []
      rw [execList_frame _ rest y hy.2]
      exact exec_frame σ s y hy.1
end

end C14
