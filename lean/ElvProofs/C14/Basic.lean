/-
C14: `Res` rewriting, the store, `restore`, and the equality of the two-pass shape of element.go with the recursive
spec.
-/
import ElvModel.C14.Spec
import ElvProofs.Lemmas.Res
namespace C14
open Go

@[simp] theorem bind_ok {α β} (a : α) (f : α → Res β) : (Res.ok a >>= f) = f a := Res.ok_bind a f
@[simp] theorem bind_exc {α β} (e : String) (f : α → Res β) : (Res.exc e >>= f) = Res.exc e := Res.exc_bind e f
@[simp] theorem bind_panic {α β} (w : String) (f : α → Res β) : (Res.panic w >>= f) = Res.panic w := Res.panic_bind w f
@[simp] theorem pure_ok {α} (a : α) : (pure a : Res α) = Res.ok a := Res.pure_eq_ok a

theorem get_set_eq (σ : Store) (x : String) (v : Val) : (σ.set x v).get x = some v := by
  induction σ with
  | nil => simp [Store.set, Store.get]
  | cons e rest ih =>
    obtain ⟨y, w⟩ := e
    by_cases h : y = x
    · subst h; simp [Store.set, Store.get]
    · have hb : (y == x) = false := by simpa using h
      simp only [Store.set, hb, Bool.false_eq_true, if_false]
      simp only [Store.get, List.find?, hb] at ih ⊢
      exact ih

theorem get_set_ne (σ : Store) (x y : String) (v : Val) (h : y ≠ x) :
    (σ.set x v).get y = σ.get y := by
  induction σ with
  | nil =>
    have hb : (x == y) = false := by simpa using fun e => h e.symm
    simp [Store.set, Store.get, hb]
  | cons e rest ih =>
    obtain ⟨z, w⟩ := e
    by_cases hz : z = x
    · subst hz
      have hb : (z == y) = false := by simpa using fun e => h e.symm
      simp [Store.set, Store.get, hb]
    · have hb : (z == x) = false := by simpa using hz
      simp only [Store.set, hb, Bool.false_eq_true, if_false]
      by_cases hy : z = y
      · subst hy; simp [Store.get]
      · have hb2 : (z == y) = false := by simpa using hy
        simp only [Store.get, List.find?, hb2] at ih ⊢
        exact ih

/-- What a run of restore actions leaves in a variable: the value recorded by
the FIRST registered action for it (it runs last), else what was there. -/
theorem restore_get (ds : List (String × Val)) (σ : Store) (h : String) :
    (restore ds σ).get h =
      match ds.find? (fun d => d.1 == h) with
      | some d => some d.2
      | none => σ.get h := by
  induction ds with
  | nil => simp [restore]
  | cons d rest ih =>
    have hr : restore (d :: rest) σ = (restore rest σ).set d.1 d.2 := rfl
    rw [hr]
    by_cases hd : d.1 = h
    · subst hd; simp [get_set_eq]
    · have hb : (d.1 == h) = false := by simpa using hd
      rw [get_set_ne _ _ _ _ (fun e => hd e.symm), ih]
      simp [List.find?, hb]

theorem restore_get_notin (ds : List (String × Val)) (σ : Store) (y : String)
    (h : ∀ d ∈ ds, d.1 ≠ y) : (restore ds σ).get y = σ.get y := by
  rw [restore_get]
  have : ds.find? (fun d => d.1 == y) = none := by
    rw [List.find?_eq_none]
    intro d hd
    simpa using h d hd
  rw [this]

theorem setElem_two (c : Val) (k k2 : Key) (rest : List Key) (v : Val) :
    setElem c (k :: k2 :: rest) v =
      (do let sub ← index c k
          let inner ← setElem sub (k2 :: rest) v
          assoc c k inner) := by
  simp only [setElem, assocers]
  cases index c k with
  | ok sub =>
    simp only [bind_ok]
    cases assocers sub (k2 :: rest) with
    | ok cs => simp [assocUp]
    | exc e => simp
    | panic w => simp
  | exc e => simp
  | panic w => simp

theorem setElem_eq_assocIn (c : Val) (idx : List Key) (v : Val) (hne : idx ≠ []) :
    setElem c idx v = assocIn c idx v := by
  induction idx generalizing c with
  | nil => exact absurd rfl hne
  | cons k rest ih =>
    cases rest with
    | nil =>
      simp only [setElem, assocers, assocIn, pure_ok, bind_ok, assocUp]
    | cons k2 rest =>
      rw [setElem_two, assocIn]
      cases index c k with
      | ok sub => simp only [bind_ok]; rw [ih sub (by simp)]
      | exc e => rfl
      | panic w => rfl

theorem delElem_two (c : Val) (k k2 : Key) (rest : List Key) :
    delElem c (k :: k2 :: rest) =
      (do let sub ← index c k
          let inner ← delElem sub (k2 :: rest)
          assoc c k inner) := by
  simp only [delElem, delWalk]
  cases index c k with
  | ok sub =>
    simp only [bind_ok]
    cases delWalk sub (k2 :: rest) with
    | ok r =>
      obtain ⟨cs, d, last⟩ := r
      simp only [bind_ok]
      cases hdis : dissoc d last with
      | none => simp [hdis]
      | some x => simp [hdis, assocUp]
    | exc e => simp
    | panic w => simp
  | exc e => simp
  | panic w => simp

theorem delElem_eq_dissocIn (c : Val) (idx : List Key) : delElem c idx = dissocIn c idx := by
  induction idx generalizing c with
  | nil => rfl
  | cons k rest ih =>
    cases rest with
    | nil =>
      simp only [delElem, delWalk, dissocIn, pure_ok, bind_ok]
      cases dissoc c k <;> simp [assocUp]
    | cons k2 rest =>
      rw [delElem_two, dissocIn]
      cases index c k with
      | ok sub => simp only [bind_ok]; rw [ih sub]
      | exc e => rfl
      | panic w => rfl

end C14
