/-
C04: a chunk that is one command with one argument, `CMD ARG` (`num LIT`
inside an output capture, `put VALUE` at top level).
-/
import ElvProofs.C04.Leaf
namespace C04
open Go C01 C08 Gen.C01Chars

/-- what follows the argument: the end of the text or `)` -/
def EndCap (r : Bytes) : Prop := r = [] ∨ ∃ r', r = 41 :: r'

theorem headRune_endCap {r : Bytes} (h : EndCap r) : headRune r = -1 ∨ headRune r = 41 := by
  rcases h with rfl | ⟨r', rfl⟩
  · exact Or.inl rfl
  · exact Or.inr (headRune_ascii r' (by decide))

theorem stop_endCap {isPrint : Int → Bool} {r : Bytes} (h : EndCap r) (ctx : Int) : Stop isPrint ctx r := by
  constructor
  rcases headRune_endCap h with h | h <;> rw [h] <;> simp [startsPrimary, allowedInBareword, allowedInVariableName]

theorem stopSp_endCap {r : Bytes} (h : EndCap r) (nl : Bool) : StopSp nl r := by
  rcases headRune_endCap h with h | h <;> constructor <;> rw [h] <;> simp [IsInlineWhitespace, IsWhitespace]

theorem endCap_facts {r : Bytes} (hr : EndCap r) :
    isPipelineSep (headRune r) = false ∧ IsInlineWhitespace (headRune r) = false ∧ headRune r ≠ 35 ∧
    headRune r ≠ 124 ∧ headRune r ≠ 38 ∧ isRedirSign (headRune r) = false := by
  rcases headRune_endCap hr with h | h <;> rw [h] <;> simp [isPipelineSep, IsInlineWhitespace, isRedirSign]

theorem stopSp_of_starts {isPrint : Int → Bool} {ctx : Int} {T : Bytes} (hs : Starts isPrint ctx T)
    (hctx : ctx ≠ CmdExpr) (r : Bytes) (nl : Bool) : StopSp nl (T ++ r) := by
  have h := hs.start r
  have hc : (ctx == CmdExpr) = false := by simpa using hctx
  -- none of the runes in question starts a primary
  have no : ∀ c : Int, c = 32 ∨ c = 9 ∨ c = 13 ∨ c = 10 ∨ c = 35 ∨ c = 94 → headRune (T ++ r) ≠ c := by
    intro c hcs heq
    rw [heq] at h
    rcases hcs with rfl | rfl | rfl | rfl | rfl | rfl <;>
      simp [startsPrimary, allowedInBareword, allowedInVariableName, hc] at h
  refine ⟨?_, fun _ => ?_, no 35 (by simp), no 94 (by simp)⟩
  · simp only [IsInlineWhitespace, Bool.or_eq_false_iff, beq_eq_false_iff_ne]
    exact ⟨no 32 (by simp), no 9 (by simp)⟩
  · simp only [IsWhitespace, IsInlineWhitespace, Bool.or_eq_false_iff, beq_eq_false_iff_ne]
    exact ⟨⟨⟨no 32 (by simp), no 9 (by simp)⟩, no 13 (by simp)⟩, no 10 (by simp)⟩

theorem not_amp_of_starts {isPrint : Int → Bool} {ctx : Int} {T : Bytes} (hs : Starts isPrint ctx T)
    (r : Bytes) : headRune (T ++ r) ≠ 38 := by
  intro hw
  have h := hs.start r
  rw [hw] at h
  simp [startsPrimary, allowedInBareword, allowedInVariableName] at h

structure CmdName (cmd : Bytes) : Prop where
  ne : cmd ≠ []
  lower : ∀ c ∈ cmd, 97 ≤ c.toNat ∧ c.toNat ≤ 122

theorem CmdName.head {cmd : Bytes} (h : CmdName cmd) (r : Bytes) :
    (97 : Int) ≤ headRune (cmd ++ r) ∧ headRune (cmd ++ r) ≤ 122 := by
  obtain ⟨c, t, rfl⟩ := List.exists_cons_of_ne_nil h.ne
  have := h.lower c List.mem_cons_self
  rw [List.cons_append, headRune_ascii _ (by omega)]
  omega

theorem lower_facts (isPrint : Int → Bool) {c : Int} (h : 97 ≤ c ∧ c ≤ 122) :
    isPipelineSep c = false ∧ IsInlineWhitespace c = false ∧ c ≠ 35 ∧ startsPipeline isPrint c = true := by
  obtain ⟨h1, h2⟩ := h
  refine ⟨?_, ?_, by omega, ?_⟩
  · simp only [isPipelineSep, Bool.or_eq_false_iff, beq_eq_false_iff_ne]; omega
  · simp only [IsInlineWhitespace, Bool.or_eq_false_iff, beq_eq_false_iff_ne]; omega
  · simp [startsPipeline, startsForm, startsCompound, startsIndexing, startsPrimary, allowedInBareword,
      allowedInVariableName, h1, h2]

section
variable {e : Env} {s : St}

theorem CmdName.bare {cmd : Bytes} (h : CmdName cmd) : BareRunes e.isPrint CmdExpr cmd :=
  bareRunes_ascii fun c hc =>
    ⟨(varName_lower e.isPrint (h.lower c hc)).1,
      by simp [allowedInBareword, (varName_lower e.isPrint (h.lower c hc)).2]⟩

theorem CmdName.comp {cmd : Bytes} (h : CmdName cmd) : CompOK e CmdExpr cmd (.str cmd) := by
  obtain ⟨c, t, rfl⟩ := List.exists_cons_of_ne_nil h.ne
  have hne : (c != 126) = true := by
    have := h.lower c List.mem_cons_self
    simp only [bne_iff_ne, ne_eq]
    intro hc; rw [hc] at this; revert this; decide
  exact comp_of_prim (prim_bareword (by simp) h.bare) (starts_bareword h.bare hne)

theorem evalAll_two (a b : Node) (va vb : Val) (ha : a.kind ≠ .sep) (hb : b.kind ≠ .sep)
    (h1 : evalNode a = some va) (h2 : evalNode b = some vb) : evalAll [a, b] = some [va, vb] :=
  evalAll_cons ha h1 (evalAll_cons hb h2 rfl)

theorem stop_space (isPrint : Int → Bool) (t : Bytes) : Stop isPrint CmdExpr (32 :: t) := by
  constructor
  rw [headRune_ascii _ (by decide)]
  simp [startsPrimary, allowedInBareword, allowedInVariableName]

theorem form_ok {cmd T r : Bytes} {val : Val} (hcmd : CmdName cmd)
    (hT : CompOK e NormalExpr T val) (hTs : Starts e.isPrint NormalExpr T)
    (fuel : Nat) (hf : 7 * T.length + 7 * cmd.length + 3 ≤ fuel) (hr : EndCap r) :
    Reads e s (cmd ++ 32 :: T) r (parseNT fuel .form)
      (fun n => n.kind = .form ∧ evalAll n.children = some [.str cmd, val]) := by
  obtain ⟨f, rfl⟩ : ∃ f, fuel = f + 1 := ⟨fuel - 1, by omega⟩
  obtain ⟨_, _, _, _, f5, f6⟩ := endCap_facts hr
  refine (Reads.wrap (P := fun nb => evalAll nb.children = some [.str cmd, val]) ?_).mono
    fun n ⟨_, _, _, hv, hn⟩ => hn ▸ ⟨rfl, hv⟩
  show Reads e s _ r (formBody _ _) _
  unfold formBody
  refine .bind (hcmd.comp.reads (by omega) (stop_space _ _)) fun hn hhn => ?_
  refine .bind (T1 := [32]) (parseSpaces_ok _ (fun c hc => Or.inl (by simpa using hc))
    (stopSp_of_starts hTs (by decide) r false)) fun nb1 hsame1 => ?_
  refine .step (loopFuel_eq _ _) ?_
  -- first turn of the loop: the argument
  show Reads e _ _ r (formLoop _ (e.src.length + 1 + 1) _) _
  unfold formLoop
  refine .step (getEnv_eq _ _) (.peek ?_)
  rw [if_neg (by simpa using not_amp_of_starts hTs r),
    if_pos (show startsCompound e.isPrint (headRune (T ++ r)) NormalExpr = true from hTs.start r)]
  refine .bind_nil (hT.reads (by omega) (stop_endCap hr _)) fun cn hcn => .peek ?_
  simp only [List.nil_append, f6, Bool.false_eq_true, if_false]
  refine .nil_bind (T := []) (parseSpaces_none _ (stopSp_endCap hr false)) fun nb2 hsame2 => ?_
  -- second turn: nothing more
  unfold formLoop
  refine .step (getEnv_eq _ _) (.peek ?_)
  rw [List.nil_append, if_neg (by simpa using f5)]
  simp only [show startsCompound e.isPrint (headRune r) NormalExpr = false from (stop_endCap hr NormalExpr).notStart,
    f6, Bool.false_eq_true, if_false]
  refine .pure ⟨by rw [hsame2.frm]; show nb1.frm = _; rw [hsame1.frm]; rfl, ?_⟩
  have hreal : real nb2 = [hn, cn] := by
    rw [hsame2.real, real_add nb1 cn (by rw [hcn.1]; simp), hsame1.real, real_add _ hn (by rw [hhn.1]; simp)]
    rfl
  rw [evalAll_filter, show nb2.children.filter nonSep = _ from hreal]
  exact evalAll_two hn cn _ _ (by rw [hhn.1]; simp) (by rw [hcn.1]; simp) hhn.2 hcn.2

/-- what a one-command chunk evaluates to -/
def formValue (cmd : Bytes) (val : Val) : Option Val :=
  if cmd == cmdPut then some val
  else if cmd == cmdNum then
    match val with
    | .str t => (C05.parseNum t).map numToVal
    | _ => none
  else none

theorem evalNode_form (a b : Nat) (t : Bytes) (f : Fields) (cs : List Node) (cmd : Bytes) (val : Val)
    (h : evalAll cs = some [.str cmd, val]) : evalNode (.mk .form a b t f cs) = formValue cmd val := by
  rw [evalNode, h]
  rfl

theorem parseSeps_none (nb : NB) {r : Bytes} (h1 : isPipelineSep (headRune r) = false)
    (h2 : IsInlineWhitespace (headRune r) = false) (h3 : headRune r ≠ 35) :
    Reads e s [] r (parseSeps nb) (fun p => p = (0, nb)) := by
  unfold parseSeps
  refine .step (loopFuel_eq _ _) ?_
  show Reads e s [] r (parseSepsLoop (e.src.length + 1 + 1) 0 nb) _
  unfold parseSepsLoop
  refine .peek ?_
  have h3' : (headRune r == 35) = false := by simpa using h3
  simp only [List.nil_append, h1, h2, h3', Bool.false_eq_true, if_false, Bool.or_self]
  exact .pure rfl

/-- a pipeline of one form, not in the background -/
theorem pipeline_ok {cmd T r : Bytes} {val : Val} (hcmd : CmdName cmd)
    (hT : CompOK e NormalExpr T val) (hTs : Starts e.isPrint NormalExpr T)
    (f : Nat) (hf : 7 * T.length + 7 * cmd.length + 3 ≤ f) (hr : EndCap r) :
    Reads e s (cmd ++ 32 :: T) r (parseNT (f + 1) .pipeline)
      (fun n => n.kind = .pipeline ∧ evalNode n = formValue cmd val) := by
  obtain ⟨_, _, _, f4, f5, _⟩ := endCap_facts hr
  refine (Reads.wrap (P := fun nb => nb.f.flag = false ∧ ∃ fn, real nb = [fn] ∧ fn.kind = .form ∧
    evalAll fn.children = some [.str cmd, val]) ?_).mono ?_
  · show Reads e s _ r (pipelineBody _ _) _
    unfold pipelineBody
    refine .bind_nil (form_ok hcmd hT hTs f hf hr) fun fn hfn => .step (loopFuel_eq _ _) ?_
    -- no `|` follows
    have hloop (nb : NB) (s : St) : Reads e s [] r (pipelineLoop (fun nt' => parseNT f nt') (e.src.length + 1 + 1) nb)
        (fun p => p = (false, nb)) := by
      unfold pipelineLoop
      refine .step (getEnv_eq _ _) (.nil_bind (T := []) (parseSep_no _ 124 f4) fun p hp => ?_)
      subst hp
      exact .pure rfl
    refine .nil_bind (T := []) (hloop _ _) fun p hp => ?_
    subst hp
    simp only [Bool.false_eq_true, if_false]
    refine .nil_bind (T := []) (parseSpaces_none _ (stopSp_endCap hr false)) fun pb1 hsame => .peek ?_
    rw [List.nil_append, if_neg (by simpa using f5)]
    exact .pure ⟨hsame.frm, by rw [hsame.f]; rfl, fn,
      by rw [hsame.real, real_add _ fn (by rw [hfn.1]; simp)]; rfl, hfn.1, hfn.2⟩
  · rintro n ⟨b, t, nb, ⟨hflag, fn, hreal, hfk, hfv⟩, rfl⟩
    refine ⟨rfl, ?_⟩
    show evalNode (.mk .pipeline _ _ _ _ _) = _
    rw [evalNode_pipeline, hflag]
    simp only [Bool.false_eq_true, if_false]
    rw [evalSingle_real (n := fn) hreal (by rw [hfk]; simp)]
    obtain ⟨k, a, b, t, ff, cs⟩ := fn
    have hk : k = .form := hfk
    subst hk
    exact evalNode_form a b t ff cs cmd val hfv

theorem chunk_ok {cmd T r : Bytes} {val : Val} (hcmd : CmdName cmd)
    (hT : CompOK e NormalExpr T val) (hTs : Starts e.isPrint NormalExpr T)
    (fuel : Nat) (hf : 7 * T.length + 7 * cmd.length + 5 ≤ fuel) (hr : EndCap r) :
    Reads e s (cmd ++ 32 :: T) r (parseNT fuel .chunk)
      (fun n => n.kind = .chunk ∧ evalNode n = formValue cmd val) := by
  obtain ⟨f, rfl⟩ : ∃ f, fuel = f + 2 := ⟨fuel - 2, by omega⟩
  obtain ⟨f1, f2, f3, _⟩ := endCap_facts hr
  obtain ⟨g1, g2, g3, g4⟩ := lower_facts e.isPrint (hcmd.head (32 :: T ++ r))
  rw [← List.append_assoc] at g1 g2 g3 g4
  refine (Reads.wrap (P := fun nb => ∃ pn, nb.children = [pn] ∧ pn.kind = .pipeline ∧
    evalNode pn = formValue cmd val) ?_).mono ?_
  · show Reads e s _ r (chunkBody _ _) _
    unfold chunkBody
    refine .nil_bind (parseSeps_none _ g1 g2 g3) fun p hp => ?_
    subst hp
    refine .step (loopFuel_eq _ _) ?_
    show Reads e _ _ r (chunkLoop _ (e.src.length + 1 + 1) _) _
    unfold chunkLoop
    refine .step (getEnv_eq _ _) (.peek ?_)
    simp only [g4, if_true]
    refine .bind_nil (pipeline_ok hcmd hT hTs f (by omega) hr) fun pn hpn => ?_
    refine .nil_bind (T := []) (parseSeps_none _ f1 f2 f3) fun p hp => ?_
    subst hp
    exact .pure ⟨rfl, pn, rfl, hpn.1, hpn.2⟩
  · rintro n ⟨b, t, nb, ⟨pn, hch, hpk, hpv⟩, rfl⟩
    refine ⟨rfl, ?_⟩
    rw [hch]
    show evalNode (.mk .chunk _ _ _ _ _) = _
    rw [evalNode_chunk, evalSingle_one _ (by rw [hpk]; simp)]
    exact hpv

/-- `(CMD ARG)`, an output capture -/
theorem capture_ok {ctx : Int} {cmd T : Bytes} {val v' : Val} (hcmd : CmdName cmd)
    (hT : CompOK e NormalExpr T val) (hTs : Starts e.isPrint NormalExpr T) (hv' : formValue cmd val = some v') :
    PrimOK e ctx (40 :: (cmd ++ 32 :: (T ++ [41]))) v' := by
  refine PrimOK.of_body (by simp) fun f s r hf _ => ?_
  refine .text (T' := 40 :: ((cmd ++ 32 :: T) ++ [41])) (by simp) (primaryBody_opens _ (by decide) ?_)
  show Reads e s _ r (outputCapture _ _) _
  unfold outputCapture
  refine .bind (T1 := [40]) (parseSep_yes _ (by decide) 40 (by decide)) fun p hp => ?_
  obtain ⟨ok1, nb1⟩ := p
  refine .bind (chunk_ok hcmd hT hTs f (by simp at hf; omega) (Or.inr ⟨r, rfl⟩)) fun cn hcn => ?_
  refine .bind_nil (parseSep_yes _ (by decide) 41 (by decide)) fun p2 hp2 => ?_
  obtain ⟨ok2, nb2⟩ := p2
  obtain ⟨rfl, hsame2⟩ := hp2
  refine .pure ⟨by rw [hsame2.frm]; show nb1.frm = _; rw [hp.2.frm]; rfl, fun a b t => ?_⟩
  have hpt : nb2.f.ptype = OutputCapture := by
    rw [hsame2.f]; show nb1.f.ptype = _; rw [hp.2.f]; rfl
  rw [evalNode_primary_capture _ _ _ _ _ hpt,
    evalSingle_real (n := cn) (by rw [hsame2.real, real_add nb1 cn (by rw [hcn.1]; simp), hp.2.real]; rfl)
      (by rw [hcn.1]; simp), hcn.2, hv']

end
end C04
