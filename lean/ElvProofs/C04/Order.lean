/-
C04: the order in which a map prints its entries.  Insertion sort (`isort`)
returns a sorted permutation; a sorted permutation is unique when the
comparator separates the elements; the comparator of `reprMap` (`entryLess`) is
a strict weak order.  Hence the text of a map does not depend on the iteration
order of the hash map, as long as the comparator tells any two keys apart.
-/
import ElvModel.C04.Model
import ElvProofs.C09
namespace C04
open Go C08 C09 List

section Generic
variable {α : Type} (lt : α → α → Bool)

theorem insRev_perm (x : α) : ∀ ys : List α, (insRev lt x ys).Perm (x :: ys)
  | [] => by simp [insRev]
  | y :: ys => by
    unfold insRev
    split
    · exact ((insRev_perm x ys).cons y).trans (Perm.swap x y ys)
    · exact Perm.refl _

theorem foldl_insRev_perm : ∀ (xs acc : List α),
    (xs.foldl (fun acc x => insRev lt x acc) acc).Perm (xs.reverse ++ acc)
  | [], acc => by simp
  | x :: xs, acc => by
    simp only [foldl_cons, reverse_cons, append_assoc, singleton_append]
    exact (foldl_insRev_perm xs _).trans ((insRev_perm lt x acc).append_left _)

theorem isort_perm (xs : List α) : (isort lt xs).Perm xs := by
  unfold isort
  refine (reverse_perm _).trans ?_
  have := foldl_insRev_perm lt xs []
  simp only [append_nil] at this
  exact this.trans (reverse_perm _)

structure WeakOrder (S : α → Prop) : Prop where
  asymm : ∀ a b, S a → S b → lt a b = true → lt b a = false
  /-- `le u v := lt v u = false` is transitive -/
  trans : ∀ a b c, S a → S b → S c → lt b a = false → lt c b = false → lt c a = false

variable {lt}

theorem insRev_sorted {S : α → Prop} (W : WeakOrder lt S) {x : α} (hx : S x) :
    ∀ {ys : List α}, (∀ y ∈ ys, S y) → ys.Pairwise (fun a b => lt a b = false) →
      (insRev lt x ys).Pairwise (fun a b => lt a b = false)
  | [], _, _ => by simp [insRev]
  | y :: ys, hS, hp => by
    have hy : S y := hS y mem_cons_self
    have hS' : ∀ z ∈ ys, S z := fun z hz => hS z (mem_cons_of_mem _ hz)
    rw [pairwise_cons] at hp
    unfold insRev
    split
    · next hlt =>
      rw [pairwise_cons]
      refine ⟨?_, insRev_sorted W hx hS' hp.2⟩
      intro b hb
      rcases mem_cons.1 ((insRev_perm lt x ys).mem_iff.1 hb) with rfl | hb
      · exact W.asymm _ _ hx hy hlt
      · exact hp.1 b hb
    · next hlt =>
      have hlt : lt x y = false := by simpa using hlt
      rw [pairwise_cons]
      refine ⟨?_, pairwise_cons.2 hp⟩
      intro b hb
      rcases mem_cons.1 hb with rfl | hb
      · exact hlt
      · exact W.trans b y x (hS' b hb) hy hx (hp.1 b hb) hlt

theorem foldl_insRev_sorted {S : α → Prop} (W : WeakOrder lt S) :
    ∀ (xs acc : List α), (∀ y ∈ xs, S y) → (∀ y ∈ acc, S y) → acc.Pairwise (fun a b => lt a b = false) →
      (xs.foldl (fun acc x => insRev lt x acc) acc).Pairwise (fun a b => lt a b = false)
  | [], _, _, _, hp => hp
  | x :: xs, acc, hx, ha, hp => by
    simp only [foldl_cons]
    refine foldl_insRev_sorted W xs _ (fun y hy => hx y (mem_cons_of_mem _ hy)) ?_
      (insRev_sorted W (hx x mem_cons_self) ha hp)
    intro y hy
    rcases mem_cons.1 ((insRev_perm lt x acc).mem_iff.1 hy) with rfl | hy
    · exact hx _ mem_cons_self
    · exact ha y hy

theorem isort_sorted {S : α → Prop} (W : WeakOrder lt S) (xs : List α) (hS : ∀ y ∈ xs, S y) :
    (isort lt xs).Pairwise (fun a b => lt b a = false) := by
  unfold isort
  rw [pairwise_reverse]
  exact foldl_insRev_sorted W xs [] hS (by simp) Pairwise.nil

theorem sorted_perm_eq_isort {S : α → Prop} (W : WeakOrder lt S) (xs p : List α) (hS : ∀ y ∈ xs, S y)
    (hsep : ∀ a b, a ∈ xs → b ∈ xs → lt a b = false → lt b a = false → a = b)
    (hperm : p.Perm xs) (hsorted : p.Pairwise (fun a b => lt b a = false)) :
    p = isort lt xs := by
  refine Perm.eq_of_pairwise (le := fun a b => lt b a = false) ?_ hsorted (isort_sorted W xs hS)
    (hperm.trans (isort_perm lt xs).symm)
  intro a b ha hb h1 h2
  exact hsep a b (hperm.subset ha) ((isort_perm lt xs).subset hb) h2 h1

end Generic

section SortMap
variable {α β : Type} (g : α → β) (lt : α → α → Bool) (lt' : β → β → Bool)

theorem insRev_map (h : ∀ a b, lt' (g a) (g b) = lt a b) (x : α) : ∀ ys : List α,
    insRev lt' (g x) (ys.map g) = (insRev lt x ys).map g
  | [] => rfl
  | y :: ys => by
    simp only [List.map_cons, insRev, h]
    split <;> simp [insRev_map h x ys]

theorem foldl_insRev_map (h : ∀ a b, lt' (g a) (g b) = lt a b) : ∀ (xs acc : List α),
    (xs.map g).foldl (fun acc x => insRev lt' x acc) (acc.map g) =
      (xs.foldl (fun acc x => insRev lt x acc) acc).map g
  | [], _ => rfl
  | x :: xs, acc => by
    simp only [List.map_cons, List.foldl_cons]
    rw [insRev_map g lt lt' h, foldl_insRev_map h xs]

theorem isort_map (h : ∀ a b, lt' (g a) (g b) = lt a b) (xs : List α) :
    isort lt' (xs.map g) = (isort lt xs).map g := by
  unfold isort
  have := foldl_insRev_map g lt lt' h xs []
  simp only [List.map_nil] at this
  rw [this, List.map_reverse]

end SortMap

theorem COrd_flip_less {o : COrd} : o.flip = .less ↔ o = .more := by cases o <;> simp [COrd.flip]
theorem COrd_flip_equal {o : COrd} : o.flip = .equal ↔ o = .equal := by cases o <;> simp [COrd.flip]

theorem entryLess_weakOrder (rank : Nat → Nat) (hinj : ∀ s t, rank s = rank t → s = t) :
    WeakOrder (entryLess rank true) (fun e => WF e.key) where
  asymm := by
    intro a b wa wb h
    have hf := C09_total_antisymm rank a.key b.key wa wb hinj
    unfold entryLess at h ⊢
    rw [hf]
    cases hc : CmpTotal rank a.key b.key <;> simp [hc, COrd.flip] at h ⊢
    exact bytesLt_asymm _ _ h
  trans := by
    intro a b c wa wb wc h1 h2
    -- h1 : ¬ b < a  (a ≤ b),  h2 : ¬ c < b  (b ≤ c);  goal ¬ c < a
    have fab := C09_total_antisymm rank a.key b.key wa wb hinj
    have fbc := C09_total_antisymm rank b.key c.key wb wc hinj
    have fac := C09_total_antisymm rank a.key c.key wa wc hinj
    have tab := C09_total_total rank a.key b.key
    have tbc := C09_total_total rank b.key c.key
    unfold entryLess at h1 h2 ⊢
    rw [fab] at h1; rw [fbc] at h2; rw [fac]
    have lab : (CmpTotal rank a.key b.key).isLE = true := by
      cases hc : CmpTotal rank a.key b.key <;> simp [hc, COrd.flip, COrd.isLE] at h1 tab ⊢
    have lbc : (CmpTotal rank b.key c.key).isLE = true := by
      cases hc : CmpTotal rank b.key c.key <;> simp [hc, COrd.flip, COrd.isLE] at h2 tbc ⊢
    have tr := C09_total_trans rank a.key b.key c.key wa wb wc hinj lab lbc
    rw [tr]
    cases hab : CmpTotal rank a.key b.key <;> cases hbc : CmpTotal rank b.key c.key <;>
      simp [hab, hbc, COrd.flip, COrd.seq, COrd.isLE] at h1 h2 lab lbc ⊢
    -- equal / equal: the tie-break strings
    rcases bytesLt_trichotomy a.plain b.plain with h | h | h
    · rcases bytesLt_trichotomy b.plain c.plain with h' | h' | h'
      · exact bytesLt_asymm _ _ (bytesLt_trans _ _ _ h h')
      · rw [← h']; exact bytesLt_asymm _ _ h
      · rw [h'] at h2; cases h2
    · rw [h]; exact h2
    · rw [h] at h1; cases h1

theorem entryLess_tie {rank : Nat → Nat} (hinj : ∀ s t, rank s = rank t → s = t) {a b : Entry}
    (wa : WF a.key) (wb : WF b.key)
    (h1 : entryLess rank true a b = false) (h2 : entryLess rank true b a = false) :
    CmpTotal rank a.key b.key = .equal ∧ a.plain = b.plain := by
  have hf := C09_total_antisymm rank a.key b.key wa wb hinj
  have ht := C09_total_total rank a.key b.key
  unfold entryLess at h1 h2
  rw [hf] at h2
  cases hc : CmpTotal rank a.key b.key <;> simp [hc, COrd.flip] at h1 h2 ht ⊢
  rcases bytesLt_trichotomy a.plain b.plain with h | h | h
  · rw [h] at h1; cases h1
  · exact h
  · rw [h] at h2; cases h2

/-- one collected pair of `reprMap` -/
def entryOf (L : Lib) (fixed : Bool) (indent : Int) (p : Val × Val) : Entry :=
  { key := p.1, plain := repr L fixed p.1 minInt, k := repr L fixed p.1 (indent + 1),
    v := repr L fixed p.2 (indent + 2) }

theorem reprEntries_eq_map (L : Lib) (fixed : Bool) (indent : Int) :
    ∀ kvs : List (Val × Val), reprEntries L fixed kvs indent = kvs.map (entryOf L fixed indent)
  | [] => by simp [reprEntries]
  | (k, v) :: kvs => by
    simp only [reprEntries, map_cons, entryOf, reprEntries_eq_map L fixed indent kvs]

/-- the printing loop of `reprMap` on sorted entries -/
def mapText (indent : Int) (es : List Entry) : Bytes :=
  mapBuilderString indent ((es.map fun e => pairString e.k (indent + 2) e.v).foldl (writeElem indent) [])

theorem repr_map (L : Lib) (fixed : Bool) (kvs : List (Val × Val)) (indent : Int) :
    repr L fixed (.map false kvs) indent =
      mapText indent (isort (entryLess L.rank fixed) (kvs.map (entryOf L fixed indent))) := by
  simp only [repr, reprEntries_eq_map, mapText]

theorem pairwise_forall {α} {R : α → α → Prop} : ∀ {l : List α}, l.Pairwise R →
    ∀ a, a ∈ l → ∀ b, b ∈ l → a = b ∨ R a b ∨ R b a
  | [], _, a, ha, _, _ => by cases ha
  | x :: l, h, a, ha, b, hb => by
    rw [pairwise_cons] at h
    rcases mem_cons.1 ha with ha' | ha' <;> rcases mem_cons.1 hb with hb' | hb'
    · exact Or.inl (ha'.trans hb'.symm)
    · exact Or.inr (Or.inl (ha' ▸ h.1 b hb'))
    · exact Or.inr (Or.inr (hb' ▸ h.1 a ha'))
    · exact pairwise_forall h.2 a ha' b hb'

/-- what the order claim needs of the keys of one map: any two of them are told
apart by `CmpTotal` or by their plain text. -/
def KeysSeparated (L : Lib) (kvs : List (Val × Val)) : Prop :=
  kvs.Pairwise fun p q =>
    CmpTotal L.rank p.1 q.1 ≠ .equal ∨ repr L true p.1 minInt ≠ repr L true q.1 minInt

theorem sorted_entries_unique (L : Lib) (hinj : ∀ s t, L.rank s = L.rank t → s = t)
    (kvs : List (Val × Val)) (indent : Int) (hwf : ∀ p ∈ kvs, WF p.1) (hsep : KeysSeparated L kvs)
    (p : List Entry) (hperm : p.Perm (kvs.map (entryOf L true indent)))
    (hsorted : p.Pairwise (fun a b => entryLess L.rank true b a = false)) :
    p = isort (entryLess L.rank true) (kvs.map (entryOf L true indent)) := by
  refine sorted_perm_eq_isort (entryLess_weakOrder L.rank hinj) _ p ?_ ?_ hperm hsorted
  · intro e he
    obtain ⟨q, hq, rfl⟩ := mem_map.1 he
    exact hwf q hq
  · intro a b ha hb h1 h2
    obtain ⟨x, hx, rfl⟩ := mem_map.1 ha
    obtain ⟨y, hy, rfl⟩ := mem_map.1 hb
    -- a tie of the comparator contradicts the separation of the two keys, whichever comes first
    have tie := entryLess_tie hinj (a := entryOf L true indent x) (b := entryOf L true indent y)
      (hwf x hx) (hwf y hy) h1 h2
    have tie' := entryLess_tie hinj (a := entryOf L true indent y) (b := entryOf L true indent x)
      (hwf y hy) (hwf x hx) h2 h1
    rcases pairwise_forall hsep x hx y hy with rfl | h | h
    · rfl
    · exact (h.elim (absurd tie.1) (absurd tie.2))
    · exact (h.elim (absurd tie'.1) (absurd tie'.2))

theorem repr_map_perm (L : Lib) (hinj : ∀ s t, L.rank s = L.rank t → s = t)
    (kvs kvs' : List (Val × Val)) (indent : Int) (hwf : ∀ p ∈ kvs, WF p.1) (hsep : KeysSeparated L kvs)
    (hperm : kvs'.Perm kvs) :
    repr L true (.map false kvs') indent = repr L true (.map false kvs) indent := by
  rw [repr_map, repr_map]
  congr 1
  have hwf' : ∀ e ∈ kvs'.map (entryOf L true indent), WF e.key := by
    intro e he
    obtain ⟨q, hq, rfl⟩ := mem_map.1 he
    exact hwf q (hperm.subset hq)
  exact sorted_entries_unique L hinj kvs indent hwf hsep _
    ((isort_perm _ _).trans (hperm.map _))
    (isort_sorted (entryLess_weakOrder L.rank hinj) _ hwf')

def pairLess (L : Lib) (p q : Val × Val) : Bool :=
  entryLess L.rank true (entryOf L true 0 p) (entryOf L true 0 q)

theorem repr_map_sorted (L : Lib) (kvs : List (Val × Val)) (indent : Int) :
    repr L true (.map false kvs) indent = mapText indent ((isort (pairLess L) kvs).map (entryOf L true indent)) := by
  rw [repr_map, isort_map (entryOf L true indent) (pairLess L) (entryLess L.rank true) (fun _ _ => rfl)]

theorem reprList_eq_map (L : Lib) (fixed : Bool) (i : Int) : ∀ xs : List Val,
    reprList L fixed xs i = xs.map (fun x => repr L fixed x i)
  | [] => by simp [reprList]
  | x :: xs => by simp [reprList, reprList_eq_map L fixed i xs]

theorem canonList_eq_map (L : Lib) : ∀ xs : List Val, canonList L xs = xs.map (canon L)
  | [] => by simp [canonList]
  | x :: xs => by simp [canonList, canonList_eq_map L xs]

def canonEntry (L : Lib) (p : Val × Val) : Entry × (Val × Val) :=
  ({ key := p.1, plain := repr L true p.1 minInt, k := [], v := [] }, (canon L p.1, canon L p.2))

theorem canonEntries_eq_map (L : Lib) : ∀ kvs : List (Val × Val), canonEntries L kvs = kvs.map (canonEntry L)
  | [] => by simp [canonEntries]
  | (k, v) :: kvs => by simp [canonEntries, canonEntry, canonEntries_eq_map L kvs]

theorem canon_map_sorted (L : Lib) (kvs : List (Val × Val)) :
    canon L (.map false kvs) =
      .map false (assocAll ((isort (pairLess L) kvs).map fun p => (canon L p.1, canon L p.2)) []) := by
  rw [canon, canonEntries_eq_map,
    isort_map (canonEntry L) (pairLess L) (fun a b => entryLess L.rank true a.1 b.1) (fun _ _ => rfl)]
  simp [canonEntry, List.map_map, Function.comp_def]

end C04
