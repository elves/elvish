/-
C04: stepping the parser of C01 over a known text, equationally: every lemma
gives the exact result and final state of a parser action that stands in front
of the text (`At`).  Nodes under construction are tracked up to their `Sep`
children.
-/
import ElvProofs.C01
import ElvProofs.Lemmas.Utf8.Basic
import ElvModel.C04.Model
namespace C04
open Go C01 Gen.C01Chars

def adv (s : St) (n : Nat) : St := { s with pos := s.pos + n }

@[simp] theorem adv_pos (s : St) (n : Nat) : (adv s n).pos = s.pos + n := rfl
@[simp] theorem adv_errors (s : St) (n : Nat) : (adv s n).errors = s.errors := rfl
@[simp] theorem adv_overEOF (s : St) (n : Nat) : (adv s n).overEOF = s.overEOF := rfl
@[simp] theorem adv_zero (s : St) : adv s 0 = s := rfl
@[simp] theorem adv_adv (s : St) (a b : Nat) : adv (adv s a) b = adv s (a + b) := by
  simp [adv, Nat.add_assoc]

structure At (e : Env) (s : St) (t : Bytes) : Prop where
  inv : Inv e s
  rest : e.src.drop s.pos = t

/-- what `peek` returns in front of the text `r`: its first rune, `eof` at the end -/
def headRune : Bytes → Int
  | [] => eof
  | c :: t => (((decodeRune (c :: t)).1 : Nat) : Int)

theorem headRune_ascii {c : UInt8} (t : Bytes) (hc : c.toNat < 128) : headRune (c :: t) = (c.toNat : Int) := by
  rw [headRune, decodeRune_one c t hc]

section
variable {e : Env} {s : St}

theorem At.pos_lt {c : UInt8} {t : Bytes} (h : At e s (c :: t)) : s.pos < e.src.length := by
  rcases Nat.lt_or_ge s.pos e.src.length with h1 | h1
  · exact h1
  · have := h.rest
    rw [List.drop_eq_nil_of_le h1] at this
    cases this

theorem At.length_le {t r : Bytes} (h : At e s (t ++ r)) : s.pos + t.length ≤ e.src.length := by
  have := congrArg List.length h.rest
  have := h.inv.le
  simp at *
  omega

theorem At.drop_adv {T r : Bytes} (h : At e s (T ++ r)) : e.src.drop (adv s T.length).pos = r := by
  rw [adv_pos, ← List.drop_drop, h.rest, List.drop_left]

theorem At.peekRune_head {r : Bytes} (h : At e s r) : C01.peekRune e s = headRune r := by
  unfold C01.peekRune
  cases r with
  | nil =>
    have := At.length_le (t := []) (r := []) h
    have := congrArg List.length h.rest
    rw [if_pos (by simp at *; omega)]
    rfl
  | cons c t => rw [if_neg (Nat.ne_of_lt h.pos_lt), h.rest]; rfl

theorem At.peek_head {r : Bytes} (h : At e s r) : peek e s = .ok (headRune r) s := by
  rw [peek_eq h.inv, h.peekRune_head]

theorem At.of_ok {α : Type} {T r : Bytes} (h : At e s (T ++ r)) {o : Out α} {a : α}
    (hspec : Ok o (fun _ s' => Fwd e s s')) (ho : o = .ok a (adv s T.length)) : At e (adv s T.length) r := by
  rw [ho] at hspec
  exact ⟨hspec.1, h.drop_adv⟩

theorem At.after {T r : Bytes} (h : At e s (T ++ r)) {fuel : Nat} {nt : NT} {n : Node}
    (hnt : ∀ l, nt ≠ .redir (some l))
    (hp : parseNT fuel nt e s = .ok n (adv s T.length)) : At e (adv s T.length) r := by
  have hpre : NTPre e nt s := by
    cases nt with
    | redir l => cases l with
      | none => trivial
      | some l => exact absurd rfl (hnt l)
    | _ => trivial
  have := parseNT_spec (e := e) fuel nt s h.inv hpre
  rw [hp] at this
  exact ⟨this.1.1, h.drop_adv⟩

theorem At.nextSt {c : UInt8} {t : Bytes} (h : At e s (c :: t)) (hc : c.toNat < 128) :
    nextSt e s = adv s 1 := by
  unfold C01.nextSt
  rw [if_neg (Nat.ne_of_lt h.pos_lt), h.rest, decodeRune_one c t hc]
  rfl

theorem At.step {c : UInt8} {t : Bytes} (h : At e s (c :: t)) (hc : c.toNat < 128) : At e (adv s 1) t :=
  ⟨h.nextSt hc ▸ nextSt_inv h.inv, At.drop_adv (T := [c]) h⟩

theorem At.steps : ∀ {t r : Bytes} {s : St}, At e s (t ++ r) → (∀ c ∈ t, c.toNat < 128) →
    At e (adv s t.length) r
  | [], _, _, h, _ => h
  | c :: t, r, s, h, hc => by
    have h1 := At.step (t := t ++ r) h (hc c List.mem_cons_self)
    have h2 := At.steps h1 (fun c' hc' => hc c' (List.mem_cons_of_mem _ hc'))
    simpa [Nat.add_comm] using h2

theorem At.peek_cons {c : UInt8} {t : Bytes} (h : At e s (c :: t)) (hc : c.toNat < 128) :
    peek e s = .ok (c.toNat : Int) s := by
  rw [h.peek_head, headRune_ascii t hc]

theorem At.next_cons {c : UInt8} {t : Bytes} (h : At e s (c :: t)) (hc : c.toNat < 128) :
    next e s = .ok (c.toNat : Int) (adv s 1) := by
  rw [next_eq h.inv, h.peekRune_head, headRune_ascii t hc, h.nextSt hc]

def IsWs (nl : Bool) (c : UInt8) : Prop := c = 32 ∨ c = 9 ∨ (nl = true ∧ c = 10)

theorem IsWs.ascii {nl : Bool} {c : UInt8} (h : IsWs nl c) : c.toNat < 128 := by
  rcases h with rfl | rfl | ⟨_, rfl⟩ <;> decide

structure StopSp (nl : Bool) (r : Bytes) : Prop where
  notInline : IsInlineWhitespace (headRune r) = false
  notWs : nl = true → IsWhitespace (headRune r) = false
  notHash : headRune r ≠ 35
  notCaret : headRune r ≠ 94

theorem spacesLoop_ws (nl : Bool) : ∀ (w : Bytes) (n : Nat) (s : St) (r : Bytes),
    At e s (w ++ r) → (∀ c ∈ w, IsWs nl c) → StopSp nl r → w.length < n →
    spacesLoop nl n e s = .ok () (adv s w.length)
  | [], n + 1, s, r, h, _, hs, _ => by
    unfold spacesLoop
    rw [bind_of_eq (At.peek_head (r := r) h)]
    have h1 := hs.notInline
    have h3 := hs.notHash
    have h4 := hs.notCaret
    cases nl with
    | false => simp [h1, h3, h4]
    | true => have h2 := hs.notWs rfl; simp [h1, h2, h3, h4]
  | c :: w, n + 1, s, r, h, hc, hs, hn => by
    have h' : At e s (c :: (w ++ r)) := h
    have hw := hc c List.mem_cons_self
    have hlt := hw.ascii
    have ih := spacesLoop_ws nl w n (adv s 1) r (h'.step hlt)
      (fun c' hc' => hc c' (List.mem_cons_of_mem _ hc')) hs (by simp at hn; omega)
    unfold spacesLoop
    rw [bind_of_eq (h'.peek_cons hlt)]
    rcases hw with rfl | rfl | ⟨hnl, rfl⟩
    · have e1 : IsInlineWhitespace (((32 : UInt8).toNat : Nat) : Int) = true := by decide
      rw [if_pos e1, bind_of_eq (h'.next_cons hlt), ih]; simp [Nat.add_comm]
    · have e1 : IsInlineWhitespace (((9 : UInt8).toNat : Nat) : Int) = true := by decide
      rw [if_pos e1, bind_of_eq (h'.next_cons hlt), ih]; simp [Nat.add_comm]
    · subst hnl
      have e1 : ¬ IsInlineWhitespace (((10 : UInt8).toNat : Nat) : Int) = true := by decide
      have e2 : (true && IsWhitespace (((10 : UInt8).toNat : Nat) : Int)) = true := by decide
      rw [if_neg e1, if_pos e2, bind_of_eq (h'.next_cons hlt), ih]; simp [Nat.add_comm]

end

def nonSep (n : Node) : Bool := n.kind != .sep

def real (nb : NB) : List Node := nb.children.filter nonSep

/-- same node under construction up to separator children -/
structure Same (nb nb' : NB) : Prop where
  frm : nb'.frm = nb.frm
  f : nb'.f = nb.f
  real : real nb' = real nb

theorem Same.rfl' (nb : NB) : Same nb nb := ⟨rfl, rfl, rfl⟩
theorem Same.trans {a b c : NB} (h1 : Same a b) (h2 : Same b c) : Same a c :=
  ⟨h2.frm.trans h1.frm, h2.f.trans h1.f, h2.real.trans h1.real⟩

theorem real_add_sep (nb : NB) (a b : Nat) (t : Bytes) (f : Fields) (cs : List Node) :
    real (nb.add (.mk .sep a b t f cs)) = real nb := by
  simp [real, NB.add, List.filter_append, nonSep, Node.kind]

theorem real_add (nb : NB) (n : Node) (h : n.kind ≠ .sep) : real (nb.add n) = real nb ++ [n] := by
  simp [real, NB.add, List.filter_append, nonSep, h]

section
variable {e : Env} {s : St}

theorem addSep_ok (nb : NB) (h : Inv e s) : ∃ nb', addSep nb e s = .ok nb' s ∧ Same nb nb' := by
  unfold addSep
  simp only [bind_of_eq (getPos_eq e s)]
  split
  · next hlt =>
    rw [bind_of_eq (sliceSrc_eq (Nat.le_of_lt hlt) h.le)]
    exact ⟨_, rfl, rfl, rfl, real_add_sep _ _ _ _ _ _⟩
  · exact ⟨nb, rfl, Same.rfl' nb⟩

/-- `m`, run in state `s` in front of the text `T ++ r`, returns some `a` with `Q a` and stops in front of
`r`.  `Reads.bind` hands the position from one action to the next, so the walk over a laid-out text is the
list of the parser's actions, each with the piece of the text it consumes. -/
def Reads {α : Type} (e : Env) (s : St) (T r : Bytes) (m : M α) (Q : α → Prop) : Prop :=
  At e s (T ++ r) → ∃ a, m e s = .ok a (adv s T.length) ∧ At e (adv s T.length) r ∧ Q a

section
variable {α β : Type} {T r : Bytes} {Q : α → Prop}

theorem Reads.pure {a : α} (h : Q a) : Reads e s [] r (Pure.pure a) Q := fun hA => ⟨a, rfl, hA, h⟩

theorem Reads.bind {T1 T2 : Bytes} {m : M α} {f : α → M β} {P : α → Prop} {Q : β → Prop}
    (h1 : Reads e s T1 (T2 ++ r) m P) (h2 : ∀ a, P a → Reads e (adv s T1.length) T2 r (f a) Q) :
    Reads e s (T1 ++ T2) r (m >>= f) Q := by
  intro h
  rw [List.append_assoc] at h
  obtain ⟨a, hm, hA, hp⟩ := h1 h
  obtain ⟨b, hf, hB, hq⟩ := h2 a hp hA
  rw [adv_adv] at hf hB
  rw [List.length_append]
  exact ⟨b, by rw [bind_of_eq hm, hf], hB, hq⟩

/-- the last action of a body, whose result is returned after a pure change -/
theorem Reads.map {m : M α} {g : α → β} {P : α → Prop} {Q : β → Prop} (h : Reads e s T r m P)
    (hg : ∀ a, P a → Q (g a)) : Reads e s T r (m >>= fun a => Pure.pure (g a)) Q := fun hA => by
  obtain ⟨a, hm, hA', hp⟩ := h hA
  exact ⟨g a, by rw [bind_of_eq hm]; rfl, hA', hg a hp⟩

theorem Reads.mono {m : M α} {P : α → Prop} (h : Reads e s T r m P) (hpq : ∀ a, P a → Q a) :
    Reads e s T r m Q := fun hA => by
  obtain ⟨a, hm, hA', hp⟩ := h hA
  exact ⟨a, hm, hA', hpq a hp⟩

/-- in front of the text the program may be replaced by one that does the same there -/
theorem Reads.of_eq {m m' : M α} (heq : At e s (T ++ r) → m e s = m' e s) (h : Reads e s T r m' Q) :
    Reads e s T r m Q := fun hA => by
  rw [heq hA]; exact h hA

/-- an action that consumes nothing and whose result is known (`getEnv`, `loopFuel`) -/
theorem Reads.step {m : M α} {a : α} {f : α → M β} {Q : β → Prop} (hm : m e s = .ok a s)
    (h : Reads e s T r (f a) Q) : Reads e s T r (m >>= f) Q :=
  .of_eq (fun _ => bind_of_eq hm) h

theorem Reads.peek {f : Int → M β} {Q : β → Prop} (h : Reads e s T r (f (headRune (T ++ r))) Q) :
    Reads e s T r (peek >>= f) Q :=
  .of_eq (fun hA => bind_of_eq hA.peek_head) h

/-- `Reads.bind` for a continuation that consumes nothing -/
theorem Reads.bind_nil {m : M α} {f : α → M β} {P : α → Prop} {Q : β → Prop} (h1 : Reads e s T r m P)
    (h2 : ∀ a, P a → Reads e (adv s T.length) [] r (f a) Q) : Reads e s T r (m >>= f) Q := by
  have := Reads.bind (T2 := []) (r := r) h1 h2
  rwa [List.append_nil] at this

/-- `Reads.bind` for a first action that consumes nothing -/
theorem Reads.nil_bind {m : M α} {f : α → M β} {P : α → Prop} {Q : β → Prop} (h1 : Reads e s [] (T ++ r) m P)
    (h2 : ∀ a, P a → Reads e s T r (f a) Q) : Reads e s T r (m >>= f) Q :=
  Reads.bind (T1 := []) h1 h2

theorem Reads.text {T' : Bytes} {m : M α} (hT : T = T') (h : Reads e s T' r m Q) : Reads e s T r m Q :=
  hT ▸ h

end

theorem addSep_reads (nb : NB) {r : Bytes} : Reads e s [] r (addSep nb) (Same nb) := fun hA =>
  let ⟨nb', h1, h2⟩ := addSep_ok nb (At.inv (t := r) hA)
  ⟨nb', h1, hA, h2⟩

theorem next_ok {c : UInt8} {r : Bytes} (hc : c.toNat < 128) :
    Reads e s [c] r next (fun a => a = (c.toNat : Int)) := fun hA =>
  ⟨_, At.next_cons (t := r) hA hc, At.step (t := r) hA hc, rfl⟩

theorem parseSep_yes (nb : NB) {c : UInt8} {r : Bytes} (hc : c.toNat < 128) (sep : Int)
    (hs : (c.toNat : Int) = sep) :
    Reads e s [c] r (parseSep nb sep) (fun p => p.1 = true ∧ Same nb p.2) := fun h => by
  unfold parseSep
  rw [bind_of_eq (At.peek_cons (t := r) h hc)]
  simp only [hs, beq_self_eq_true, if_true]
  rw [bind_of_eq (At.next_cons (t := r) h hc)]
  obtain ⟨nb', h1, h2⟩ := addSep_ok nb (At.step (t := r) h hc).inv
  rw [bind_of_eq h1]
  exact ⟨(true, nb'), rfl, At.step (t := r) h hc, rfl, h2⟩

theorem parseSep_no (nb : NB) {r : Bytes} (sep : Int) (hs : headRune r ≠ sep) :
    Reads e s [] r (parseSep nb sep) (fun p => p = (false, nb)) := fun h => by
  unfold parseSep
  rw [bind_of_eq (At.peek_head (r := r) h)]
  exact ⟨(false, nb), by simp [hs], h, rfl⟩

theorem parseSpacesInner_ok (nb : NB) (nl : Bool) {w r : Bytes} (hw : ∀ c ∈ w, IsWs nl c)
    (hs : StopSp nl r) : Reads e s w r (parseSpacesInner nb nl) (Same nb) := fun h => by
  unfold parseSpacesInner
  rw [bind_of_eq (loopFuel_eq e s)]
  have hlen := h.length_le
  rw [bind_of_eq (spacesLoop_ws nl w _ s r h hw hs (by omega))]
  have hA := h.steps fun c hc => (hw c hc).ascii
  obtain ⟨nb', h1, h2⟩ := addSep_ok nb hA.inv
  exact ⟨nb', h1, hA, h2⟩

theorem parseSpaces_ok (nb : NB) {w r : Bytes} (hw : ∀ c ∈ w, IsWs false c) (hs : StopSp false r) :
    Reads e s w r (parseSpaces nb) (Same nb) :=
  parseSpacesInner_ok nb false hw hs

theorem parseSpacesAndNewlines_ok (nb : NB) {w r : Bytes} (hw : ∀ c ∈ w, IsWs true c) (hs : StopSp true r) :
    Reads e s w r (parseSpacesAndNewlines nb) (Same nb) :=
  parseSpacesInner_ok nb true hw hs

theorem parseSpaces_none (nb : NB) {r : Bytes} (hs : StopSp false r) :
    Reads e s [] r (parseSpaces nb) (Same nb) :=
  parseSpacesInner_ok nb false (fun _ hc => nomatch hc) hs

theorem wrap_ok {rec : NT → M Node} {nt : NT} {nb : NB} {s' : St} (h' : Inv e s')
    (hb : body rec nt { frm := s.pos, f := nt.init, children := [] } e s = .ok nb s')
    (hfrm : nb.frm ≤ s'.pos) :
    ∃ txt, wrap rec nt e s = .ok (.mk nt.kind nb.frm s'.pos txt nb.f nb.children) s' := by
  unfold wrap
  rw [bind_of_eq (getPos_eq e s), bind_of_eq hb, bind_of_eq (getPos_eq e s'),
    bind_of_eq (sliceSrc_eq hfrm h'.le)]
  exact ⟨_, rfl⟩

/-- `parse[N]` around a body that left `From` alone -/
theorem Reads.wrap {nt : NT} {fuel : Nat} {T r : Bytes} {P : NB → Prop}
    (h : Reads e s T r (body (fun nt' => parseNT fuel nt') nt { frm := s.pos, f := nt.init, children := [] })
      (fun nb => nb.frm = s.pos ∧ P nb)) :
    Reads e s T r (parseNT (fuel + 1) nt)
      (fun n => ∃ b t nb, P nb ∧ n = .mk nt.kind s.pos b t nb.f nb.children) := fun hA => by
  obtain ⟨nb, hb, hA', hfrm, hP⟩ := h hA
  obtain ⟨txt, hw⟩ := wrap_ok (rec := fun nt' => parseNT fuel nt') hA'.inv hb (by rw [hfrm]; simp)
  exact ⟨_, hw, hA', _, _, nb, hP, by rw [hfrm]⟩

end
end C04
