/-
C04: the literal evaluator (`evalNode` and its companions) by node kind, and
its indifference to `Sep` children.
-/
import ElvProofs.C04.Step
namespace C04
open Go C01 C08 Gen.C01Chars

theorem evalNode_compound (a b : Nat) (t : Bytes) (f : Fields) (cs : List Node) :
    evalNode (.mk .compound a b t f cs) = evalSingle cs := by rw [evalNode]
theorem evalNode_indexing (a b : Nat) (t : Bytes) (f : Fields) (cs : List Node) :
    evalNode (.mk .indexing a b t f cs) = evalSingle cs := by rw [evalNode]
theorem evalNode_chunk (a b : Nat) (t : Bytes) (f : Fields) (cs : List Node) :
    evalNode (.mk .chunk a b t f cs) = evalSingle cs := by rw [evalNode]
theorem evalNode_pipeline (a b : Nat) (t : Bytes) (f : Fields) (cs : List Node) :
    evalNode (.mk .pipeline a b t f cs) = if f.flag then none else evalSingle cs := by rw [evalNode]

theorem evalNode_primary (a b : Nat) (t : Bytes) (f : Fields) (cs : List Node) :
    evalNode (.mk .primary a b t f cs) =
    if f.ptype == Bareword || f.ptype == SingleQuoted || f.ptype == DoubleQuoted then some (.str f.value)
    else if f.ptype == Variable then
      if f.value == nameNil then some .nil
      else if f.value == nameTrue then some (.bool true)
      else if f.value == nameFalse then some (.bool false)
      else none
    else if f.ptype == OutputCapture then evalSingle cs
    else if f.ptype == ListPrimary then (evalAll cs).map .list
    else if f.ptype == MapPrimary then (evalPairs cs).map fun ps => .map false (assocAll ps [])
    else none := by rw [evalNode]

theorem evalNode_primary_str (a b : Nat) (t : Bytes) (f : Fields) (cs : List Node)
    (h : f.ptype = Bareword ∨ f.ptype = SingleQuoted ∨ f.ptype = DoubleQuoted) :
    evalNode (.mk .primary a b t f cs) = some (.str f.value) := by
  rw [evalNode_primary]
  rcases h with h | h | h <;> rw [h] <;> rfl
theorem evalNode_primary_capture (a b : Nat) (t : Bytes) (f : Fields) (cs : List Node)
    (h : f.ptype = OutputCapture) : evalNode (.mk .primary a b t f cs) = evalSingle cs := by
  rw [evalNode_primary, h]; rfl
theorem evalNode_primary_list (a b : Nat) (t : Bytes) (f : Fields) (cs : List Node)
    (h : f.ptype = ListPrimary) : evalNode (.mk .primary a b t f cs) = (evalAll cs).map .list := by
  rw [evalNode_primary, h]; rfl
theorem evalNode_primary_map (a b : Nat) (t : Bytes) (f : Fields) (cs : List Node)
    (h : f.ptype = MapPrimary) :
    evalNode (.mk .primary a b t f cs) = (evalPairs cs).map fun ps => .map false (assocAll ps []) := by
  rw [evalNode_primary, h]; rfl

theorem beq_sep_true {k : Kind} (h : k = .sep) : (k == Kind.sep) = true := by simp [h]
theorem beq_sep_false {k : Kind} (h : k ≠ .sep) : (k == Kind.sep) = false := by simp [h]

theorem filter_cons_sep {n : Node} (cs : List Node) (h : n.kind = .sep) :
    List.filter nonSep (n :: cs) = List.filter nonSep cs := by
  simp [nonSep, h]
theorem filter_cons_nonsep {n : Node} (cs : List Node) (h : n.kind ≠ .sep) :
    List.filter nonSep (n :: cs) = n :: List.filter nonSep cs := by
  simp [List.filter_cons, nonSep, h]

theorem allSep_filter : ∀ cs : List Node, allSep cs = (cs.filter nonSep).isEmpty
  | [] => rfl
  | n :: cs => by
    by_cases h : n.kind = .sep
    · rw [filter_cons_sep cs h, allSep, beq_sep_true h, allSep_filter cs]; rfl
    · rw [filter_cons_nonsep cs h, allSep, beq_sep_false h]; rfl

theorem evalSingle_filter : ∀ cs : List Node, evalSingle cs = evalSingle (cs.filter nonSep)
  | [] => rfl
  | n :: cs => by
    rw [evalSingle]
    by_cases h : n.kind = .sep
    · rw [filter_cons_sep cs h, if_pos (beq_sep_true h)]
      exact evalSingle_filter cs
    · rw [filter_cons_nonsep cs h, evalSingle, beq_sep_false h]
      simp only [Bool.false_eq_true, if_false, allSep_filter, List.filter_filter, Bool.and_self]

theorem evalAll_filter : ∀ cs : List Node, evalAll cs = evalAll (cs.filter nonSep)
  | [] => rfl
  | n :: cs => by
    rw [evalAll]
    by_cases h : n.kind = .sep
    · rw [filter_cons_sep cs h, if_pos (beq_sep_true h)]
      exact evalAll_filter cs
    · rw [filter_cons_nonsep cs h, evalAll, beq_sep_false h]
      simp only [Bool.false_eq_true, if_false, evalAll_filter cs]

theorem evalPairs_filter : ∀ cs : List Node, evalPairs cs = evalPairs (cs.filter nonSep)
  | [] => rfl
  | .mk kind a b t f pcs :: cs => by
    rw [evalPairs]
    by_cases h : kind = .sep
    · rw [filter_cons_sep cs (by exact h), if_pos (beq_sep_true h)]
      exact evalPairs_filter cs
    · rw [filter_cons_nonsep cs (by exact h), evalPairs, beq_sep_false h]
      simp only [Bool.false_eq_true, if_false, evalPairs_filter cs]

theorem evalSingle_one (n : Node) (h : n.kind ≠ .sep) : evalSingle [n] = evalNode n := by
  rw [evalSingle]
  simp [h, allSep]

theorem evalSingle_real {nb : NB} {n : Node} (hr : real nb = [n]) (h : n.kind ≠ .sep) :
    evalSingle nb.children = evalNode n := by
  rw [evalSingle_filter, show nb.children.filter nonSep = [n] from hr, evalSingle_one n h]

theorem evalAll_cons {c : Node} {cs : List Node} {v : Val} {vs : List Val} (hk : c.kind ≠ .sep)
    (hv : evalNode c = some v) (hvs : evalAll cs = some vs) : evalAll (c :: cs) = some (v :: vs) := by
  rw [evalAll, beq_sep_false hk]
  simp [hv, hvs]

theorem evalPairs_cons {a b : Nat} {t : Bytes} {f : Fields} {pcs cs : List Node} {k v : Val} {ps : List (Val × Val)}
    (hp : evalAll pcs = some [k, v]) (hps : evalPairs cs = some ps) :
    evalPairs (.mk .mapPair a b t f pcs :: cs) = some ((k, v) :: ps) := by
  rw [evalPairs]
  simp [hp, hps]

theorem evalPairs_append : ∀ (cs ds : List Node) (ps qs : List (Val × Val)),
    evalPairs cs = some ps → evalPairs ds = some qs → evalPairs (cs ++ ds) = some (ps ++ qs)
  | [], ds, ps, qs, h, hd => by
    simp only [evalPairs, Option.some.injEq] at h
    subst h
    exact hd
  | .mk kind a' b' t' f' cs' :: cs, ds, ps, qs, h, hd => by
    rw [evalPairs] at h
    rw [List.cons_append, evalPairs]
    by_cases hs : (kind == .sep) = true
    · rw [if_pos hs] at h ⊢
      exact evalPairs_append cs ds ps qs h hd
    · rw [if_neg hs] at h ⊢
      by_cases hm : (kind == .mapPair) = true
      · rw [if_pos hm] at h ⊢
        cases hr : evalPairs cs with
        | none => rw [hr] at h; split at h <;> simp_all
        | some pr =>
          rw [hr] at h
          rw [evalPairs_append cs ds pr qs hr hd]
          split at h
          · next k' v' ps' h1 h2 =>
            simp only [Option.some.injEq] at h h2
            subst h2; subst h
            rw [h1]; rfl
          · cases h
      · rw [if_neg hm] at h; cases h

theorem evalPairs_append_one : ∀ (cs : List Node) (a b : Nat) (t : Bytes) (f : Fields) (pcs : List Node)
    (ps : List (Val × Val)) (k v : Val),
    evalPairs cs = some ps → evalAll pcs = some [k, v] →
    evalPairs (cs ++ [.mk .mapPair a b t f pcs]) = some (ps ++ [(k, v)])
  | cs, _, _, _, _, _, ps, _, _, h, hp => evalPairs_append cs _ ps _ h (evalPairs_cons hp rfl)

end C04
