/-
C04: the value the round trip returns (`canon v`) is well formed and eq to `v`,
for well-formed values without NaN (`canonOK`).
-/
import ElvProofs.C04.Order
import ElvProofs.C08.MapLemmas
namespace C04
open Go C08 C09 List

theorem mapAssoc_append {k v : Val} : ∀ (acc : List (Val × Val)),
    (∀ q ∈ acc, Equal k q.1 = false) → mapAssoc k v acc = acc ++ [(k, v)]
  | [], _ => rfl
  | (k', v') :: acc, h => by
    have h1 : Equal k k' = false := h (k', v') mem_cons_self
    simp only [mapAssoc, h1, Bool.false_eq_true, if_false, cons_append]
    rw [mapAssoc_append acc (fun q hq => h q (mem_cons_of_mem _ hq))]

theorem assocAll_nodup : ∀ (ps acc : List (Val × Val)), NoDupKeys (acc ++ ps) → assocAll ps acc = acc ++ ps
  | [], acc, _ => by simp [assocAll]
  | (k, v) :: ps, acc, h => by
    have hk : ∀ q ∈ acc, Equal k q.1 = false := by
      intro q hq
      have := (pairwise_append.1 h).2.2 q hq (k, v) mem_cons_self
      exact this.2
    rw [assocAll, mapAssoc_append acc hk, assocAll_nodup ps (acc ++ [(k, v)]) (by simpa using h)]
    simp

structure CanonOK (L : Lib) (v : Val) : Prop where
  eq : Equal v (canon L v) = true
  wf : WF (canon L v)

theorem CanonOK_iff {L : Lib} {v : Val} : CanonOK L v ↔ (Equal v (canon L v) = true ∧ WF (canon L v)) :=
  ⟨fun h => ⟨h.eq, h.wf⟩, fun h => ⟨h.1, h.2⟩⟩

theorem equal_list_map (L : Lib) : ∀ xs : List Val, (∀ x ∈ xs, Equal x (canon L x) = true) →
    equalList xs (xs.map (canon L)) = true
  | [], _ => by simp [equalList_nil_left]
  | x :: xs, h => by
    rw [map_cons, equalList_cons, h x mem_cons_self,
      equal_list_map L xs (fun y hy => h y (mem_cons_of_mem _ hy))]
    rfl

theorem canonOK_list (L : Lib) (xs : List Val) (ih : ∀ x ∈ xs, CanonOK L x) : CanonOK L (.list xs) := by
  have hc : canon L (.list xs) = .list (xs.map (canon L)) := by rw [canon, canonList_eq_map]
  rw [CanonOK_iff, hc]
  constructor
  · simp only [Equal, length_map, beq_self_eq_true, Bool.true_and]
    exact equal_list_map L xs (fun x hx => (ih x hx).eq)
  · simp only [WF]
    exact WFList_of_mem (fun y hy => by
      obtain ⟨x, hx, rfl⟩ := mem_map.1 hy
      exact (ih x hx).wf)

theorem canonOK_map (L : Lib) (kvs : List (Val × Val)) (hwf : WF (.map false kvs))
    (ih : ∀ p ∈ kvs, CanonOK L p.1 ∧ CanonOK L p.2) : CanonOK L (.map false kvs) := by
  rw [CanonOK_iff, canon_map_sorted]
  have hperm : (isort (pairLess L) kvs).Perm kvs := isort_perm _ _
  generalize isort (pairLess L) kvs = sorted at hperm
  simp only [WF] at hwf
  obtain ⟨hwe, hnd⟩ := hwf
  have hmem := WFEntries_mem hwe
  let f : Val × Val → Val × Val := fun p => (canon L p.1, canon L p.2)
  have hs_mem : ∀ p ∈ sorted, p ∈ kvs := fun p hp => hperm.subset hp
  have hnd_s : NoDupKeys sorted := by
    refine Pairwise.perm hnd hperm.symm ?_
    intro a b h; exact ⟨h.2, h.1⟩
  have hkeep : ∀ a ∈ kvs, ∀ b ∈ kvs, Equal a.1 b.1 = false → Equal a.1 (canon L b.1) = false ∧
      Equal (canon L a.1) (canon L b.1) = false := by
    intro a ha b hb hab
    have wa := (hmem a ha).1
    have wb := (hmem b hb).1
    have ca := (ih a ha).1
    have cb := (ih b hb).1
    have h1 : Equal a.1 (canon L b.1) = false := by
      cases h : Equal a.1 (canon L b.1) with
      | false => rfl
      | true =>
        have := Equal_trans wa cb.wf wb h (Equal_symm wb cb.wf cb.eq)
        rw [hab] at this; cases this
    refine ⟨h1, ?_⟩
    cases h : Equal (canon L a.1) (canon L b.1) with
    | false => rfl
    | true =>
      have := Equal_trans wa ca.wf cb.wf ca.eq h
      rw [h1] at this; cases this
  have hnd_ps : NoDupKeys (sorted.map f) := by
    unfold NoDupKeys
    rw [pairwise_map]
    refine Pairwise.imp_of_mem ?_ hnd_s
    intro a b ha hb hab
    exact ⟨(hkeep a (hs_mem a ha) b (hs_mem b hb) hab.1).2, (hkeep b (hs_mem b hb) a (hs_mem a ha) hab.2).2⟩
  have hassoc : assocAll (sorted.map f) [] = sorted.map f := by
    rw [assocAll_nodup _ [] (by simpa using hnd_ps)]; simp
  rw [show (sorted.map fun p => (canon L p.1, canon L p.2)) = sorted.map f from rfl, hassoc]
  constructor
  · refine map_equal_of (by simp [hperm.length_eq]) ?_ ?_
    · rw [entriesEq_iff]
      intro p hp
      have hps : p ∈ sorted := hperm.symm.subset hp
      obtain ⟨s1, s2, rfl⟩ := append_of_mem hps
      rw [lookupEq_iff]
      refine ⟨s1.map f, f p, s2.map f, by simp, ?_, (ih p hp).1.eq, (ih p hp).2.eq⟩
      intro r hr
      obtain ⟨q, hq, rfl⟩ := mem_map.1 hr
      have := (pairwise_append.1 hnd_s).2.2 q hq p mem_cons_self
      exact (hkeep p hp q (hs_mem q (by simp [hq])) this.2).1
    · rw [entriesEq_iff]
      intro r hr
      obtain ⟨q, hq, rfl⟩ := mem_map.1 hr
      have hqk := hs_mem q hq
      have cq := ih q hqk
      have wq := hmem q hqk
      obtain ⟨k1, k2, hk⟩ := append_of_mem hqk
      rw [lookupEq_iff]
      refine ⟨k1, q, k2, hk, ?_, Equal_symm wq.1 cq.1.wf cq.1.eq, Equal_symm wq.2 cq.2.wf cq.2.eq⟩
      intro r hr
      have hrk : r ∈ kvs := by rw [hk]; simp [hr]
      have hnd' := hnd
      rw [hk] at hnd'
      have hR := (pairwise_append.1 hnd').2.2 r hr q mem_cons_self
      cases h : Equal (canon L q.1) r.1 with
      | false => rfl
      | true =>
        have := Equal_trans wq.1 cq.1.wf (hmem r hrk).1 cq.1.eq h
        rw [hR.2] at this; cases this
  · simp only [WF]
    refine ⟨WFEntries_of_mem ?_, hnd_ps⟩
    intro r hr
    obtain ⟨q, hq, rfl⟩ := mem_map.1 hr
    exact ⟨(ih q (hs_mem q hq)).1.wf, (ih q (hs_mem q hq)).2.wf⟩

theorem canonOK_self (L : Lib) (v : Val) (hc : canon L v = v) (wf : WF v) (nf : NaNFree v) : CanonOK L v := by
  rw [CanonOK_iff, hc]
  exact ⟨Equal_refl wf nf, wf⟩

mutual
theorem canonOK (L : Lib) : (v : Val) → WF v → NaNFree v → CanonOK L v
  | .nil, wf, nf => canonOK_self L _ (by simp [canon]) wf nf
  | .bool _, wf, nf => canonOK_self L _ (by simp [canon]) wf nf
  | .str _, wf, nf => canonOK_self L _ (by simp [canon]) wf nf
  | .int _, wf, nf => canonOK_self L _ (by simp [canon]) wf nf
  | .bigint _, wf, nf => canonOK_self L _ (by simp [canon]) wf nf
  | .rat _, wf, nf => canonOK_self L _ (by simp [canon]) wf nf
  | .ref _ _, wf, nf => canonOK_self L _ (by simp [canon]) wf nf
  | .map true _, wf, nf => canonOK_self L _ (by simp [canon]) wf nf
  | .float b, wf, nf => canonOK_self L _ (by
      simp only [NaNFree] at nf
      simp [canon, canonFloat, nf]) wf nf
  | .list xs, wf, nf => canonOK_list L xs (canonOK_l L xs (by simpa [WF] using wf) (by simpa [NaNFree] using nf))
  | .map false kvs, wf, nf =>
    canonOK_map L kvs wf (canonOK_e L kvs (by simp only [WF] at wf; exact wf.1) (by simpa [NaNFree] using nf))
theorem canonOK_l (L : Lib) : (xs : List Val) → WFList xs → NaNFreeList xs → ∀ x ∈ xs, CanonOK L x
  | [], _, _ => fun _ hx => by cases hx
  | x :: xs, wf, nf => fun y hy => by
    simp only [WFList] at wf
    simp only [NaNFreeList] at nf
    rcases mem_cons.1 hy with h | h
    · rw [h]; exact canonOK L x wf.1 nf.1
    · exact canonOK_l L xs wf.2 nf.2 y h
theorem canonOK_e (L : Lib) : (kvs : List (Val × Val)) → WFEntries kvs → NaNFreeEntries kvs →
    ∀ p ∈ kvs, CanonOK L p.1 ∧ CanonOK L p.2
  | [], _, _ => fun _ hp => by cases hp
  | (k, v) :: kvs, wf, nf => fun q hq => by
    simp only [WFEntries] at wf
    simp only [NaNFreeEntries] at nf
    rcases mem_cons.1 hq with h | h
    · rw [h]; exact ⟨canonOK L k wf.1 nf.1, canonOK L v wf.2.1 nf.2.1⟩
    · exact canonOK_e L kvs wf.2.2 nf.2.2 q h
end

end C04
