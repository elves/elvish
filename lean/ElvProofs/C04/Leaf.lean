/-
C04: what it means that a text is read back as one primary / one compound with
a given value (`PrimOK`, `CompOK`), and the leaf primaries: `$name`, barewords,
quoted words.  The string leaf `StrOK`: the text `parse.Quote s` is one primary
with value `s`, for every byte string.  The walk over each leaf is C03's (`C03.Lit.primary_at`,
`C03.primary_var_bare_at`, `C03.indexing_at`, `C03.compound_at`).
-/
import ElvProofs.C04.Frame
import ElvProofs.C04.Eval
import ElvProofs.C04.QuoteEq
namespace C04
open Go C01 C08 Gen.C01Chars

/-- what may follow a value in expression context `ctx`: the end of the text
or a rune that cannot start (or continue) a primary. -/
structure Stop (isPrint : Int → Bool) (ctx : Int) (r : Bytes) : Prop where
  notStart : startsPrimary isPrint (headRune r) ctx = false

structure Starts (isPrint : Int → Bool) (ctx : Int) (T : Bytes) : Prop where
  ne : T ≠ []
  start : ∀ r, startsPrimary isPrint (headRune (T ++ r)) ctx = true
  notTilde : ∀ r, headRune (T ++ r) ≠ 126

def PrimOK (e : Env) (ctx : Int) (T : Bytes) (val : Val) : Prop :=
  ∀ (fuel : Nat) (s : St) (r : Bytes), 7 * T.length ≤ fuel → At e s (T ++ r) → Stop e.isPrint ctx r →
    ∃ n, parseNT fuel (.primary ctx) e s = .ok n (adv s T.length) ∧ n.kind = .primary ∧ evalNode n = some val

def CompOK (e : Env) (ctx : Int) (T : Bytes) (val : Val) : Prop :=
  ∀ (fuel : Nat) (s : St) (r : Bytes), 7 * T.length + 2 ≤ fuel → At e s (T ++ r) → Stop e.isPrint ctx r →
    ∃ n, parseNT fuel (.compound ctx) e s = .ok n (adv s T.length) ∧ n.kind = .compound ∧ evalNode n = some val

theorem Stop.ne {isPrint : Int → Bool} {ctx : Int} {r : Bytes} (h : Stop isPrint ctx r) {c : Int}
    (hc : startsPrimary isPrint c ctx = true) : headRune r ≠ c := by
  intro heq
  have := h.notStart
  rw [heq, hc] at this
  cases this

theorem Stop.notBareword {isPrint : Int → Bool} {ctx : Int} {r : Bytes} (h : Stop isPrint ctx r) :
    allowedInBareword isPrint (headRune r) ctx = false := by
  have := h.notStart
  simp only [startsPrimary, Bool.or_eq_false_iff] at this
  exact this.1.1.1.1.1.2

theorem Stop.notVarName {isPrint : Int → Bool} {ctx : Int} {r : Bytes} (h : Stop isPrint ctx r) :
    allowedInVariableName isPrint (headRune r) = false := by
  have := h.notBareword
  simp only [allowedInBareword, Bool.or_eq_false_iff] at this
  exact this.1.1.1.1.1.1.1.1.1.1

/-- what a value's text opens with when it is not a bareword: `'`, `"`, `$`, `(`, `[` -/
abbrev Opens (c : UInt8) : Prop := c = 39 ∨ c = 34 ∨ c = 36 ∨ c = 40 ∨ c = 91

theorem starts_opens (isPrint : Int → Bool) (ctx : Int) {c : UInt8} (hc : Opens c) (t : Bytes) :
    Starts isPrint ctx (c :: t) := by
  refine ⟨by simp, fun r => ?_, fun r => ?_⟩ <;>
    rcases hc with rfl | rfl | rfl | rfl | rfl <;> rw [List.cons_append, headRune_ascii _ (by decide)]
  all_goals first | decide | simp [startsPrimary]

theorem varName_lower (isPrint : Int → Bool) {c : UInt8} (h : 97 ≤ c.toNat ∧ c.toNat ≤ 122) :
    c.toNat < 128 ∧ allowedInVariableName isPrint (c.toNat : Int) = true := by
  have a1 : (97 : Int) ≤ (c.toNat : Int) := by omega
  have a2 : (c.toNat : Int) ≤ 122 := by omega
  exact ⟨by omega, by simp [allowedInVariableName, a1, a2]⟩

theorem allRunes_ascii {P : Nat → Prop} : ∀ {t : Bytes}, (∀ c ∈ t, c.toNat < 128 ∧ P c.toNat) → C03.AllRunes P t
  | [], _ => fun x hx => by simp at hx
  | c :: t, h => by
    intro x hx
    rw [runes_of_ne_nil (by simp), decodeRune_one c t (h c List.mem_cons_self).1] at hx
    rcases List.mem_cons.1 hx with rfl | hx
    · exact (h c List.mem_cons_self).2
    · obtain ⟨y, hy, rfl⟩ := mem_shiftRunes.1 hx
      exact allRunes_ascii (fun c' hc' => h c' (List.mem_cons_of_mem _ hc')) y hy

section
variable {e : Env} {s : St}

theorem comp_of_prim {ctx : Int} {T : Bytes} {val : Val} (hp : PrimOK e ctx T val)
    (hs : Starts e.isPrint ctx T) : CompOK e ctx T val := by
  intro fuel s r hf h hstop
  obtain ⟨f, rfl⟩ : ∃ f, fuel = f + 2 := ⟨fuel - 2, by omega⟩
  obtain ⟨pn, hpn, hpk, hpv⟩ := hp f s r (by omega) h hstop
  have hi := C03.indexing_at f hpn h.cur (headRune_eq r ▸ hstop.ne (by simp [startsPrimary]))
  have hc := C03.compound_at (f + 1) hi h.cur (headRune_eq _ ▸ hs.start r) (headRune_eq _ ▸ hs.notTilde r)
    (headRune_eq r ▸ hstop.notStart)
  refine ⟨_, hc, rfl, ?_⟩
  rw [evalNode_compound, evalSingle_one _ (by simp [Node.kind]), evalNode_indexing,
    evalSingle_one pn (by rw [hpk]; simp)]
  exact hpv

theorem primaryBody_opens {rec : NT → M Node} (nb : NB) {c : UInt8} {t r : Bytes} {Q : NB → Prop} (hc : Opens c)
    (h : Reads e s (c :: t) r
      (if c = 39 then singleQuoted nb else if c = 34 then doubleQuoted nb else if c = 36 then variableP nb
        else if c = 40 then outputCapture rec nb else lbracket rec nb) Q) :
    Reads e s (c :: t) r (primaryBody rec nb) Q := fun hA => by
  have hlt : c.toNat < 128 := by rcases hc with rfl | rfl | rfl | rfl | rfl <;> decide
  have : primaryBody rec nb e s = (if c = 39 then singleQuoted nb else if c = 34 then doubleQuoted nb
      else if c = 36 then variableP nb else if c = 40 then outputCapture rec nb else lbracket rec nb) e s := by
    unfold primaryBody
    rw [bind_of_eq (getEnv_eq _ _), bind_of_eq (At.peek_cons (t := t ++ r) hA hlt)]
    rcases hc with rfl | rfl | rfl | rfl | rfl <;>
      simp [startsPrimary, allowedInBareword, allowedInVariableName]
  rw [this]
  exact h hA

theorem CompOK.reads {ctx : Int} {T r : Bytes} {val : Val} (h : CompOK e ctx T val) {fuel : Nat}
    (hf : 7 * T.length + 2 ≤ fuel) (hs : Stop e.isPrint ctx r) :
    Reads e s T r (parseNT fuel (.compound ctx)) (fun n => n.kind = .compound ∧ evalNode n = some val) :=
  fun hA => by
    obtain ⟨n, hn, hk, hv⟩ := h fuel s r hf hA hs
    exact ⟨n, hn, hA.after (by intro l; simp) hn, hk, hv⟩

/-- `T ≠ []` leaves one unit of fuel for the wrapper around the body. -/
theorem PrimOK.of_body {ctx : Int} {T : Bytes} {val : Val} (hT : T ≠ [])
    (hb : ∀ (f : Nat) (s : St) (r : Bytes), 7 * T.length ≤ f + 1 → Stop e.isPrint ctx r →
      Reads e s T r
        (primaryBody (fun nt => parseNT f nt) { frm := s.pos, f := (NT.primary ctx).init, children := [] })
        (fun nb => nb.frm = s.pos ∧ ∀ a b t, evalNode (.mk .primary a b t nb.f nb.children) = some val)) :
    PrimOK e ctx T val := by
  intro fuel s r hf h hstop
  have hpos : 0 < T.length := List.length_pos_iff.2 hT
  obtain ⟨f, rfl⟩ : ∃ f, fuel = f + 1 := ⟨fuel - 1, by omega⟩
  obtain ⟨n, hn, _, b, t, nb, hval, rfl⟩ := Reads.wrap (nt := .primary ctx) (hb f s r hf hstop) h
  exact ⟨_, hn, rfl, hval _ _ _⟩

/-- a primary that C03 walks at a cursor -/
theorem PrimOK.of_at {ctx : Int} {T : Bytes} {val : Val} (hT : T ≠ [])
    (h : ∀ (f : Nat) (s : St) (r : Bytes), C03.Cur e s.pos (T ++ r) → Stop e.isPrint ctx r →
      ∃ n, parseNT (f + 1) (.primary ctx) e s = .ok n (adv s T.length) ∧ n.kind = .primary ∧
        evalNode n = some val) :
    PrimOK e ctx T val := by
  intro fuel s r hf hat hstop
  have hpos : 0 < T.length := List.length_pos_iff.2 hT
  obtain ⟨f, rfl⟩ : ∃ f, fuel = f + 1 := ⟨fuel - 1, by omega⟩
  exact h f s r hat.cur hstop

theorem var_prim {ctx : Int} {name : Bytes} (hne : name ≠ []) (hname : ∀ c ∈ name, 97 ≤ c.toNat ∧ c.toNat ≤ 122)
    (val : Val)
    (hval : ∀ a b t, evalNode (.mk .primary a b t { ctx := ctx, ptype := Variable, value := name } []) = some val) :
    PrimOK e ctx (dollar name) val :=
  PrimOK.of_at (List.cons_ne_nil _ _) fun f s r hc hstop =>
    ⟨_, C03.primary_var_bare_at ctx f hne
      (allRunes_ascii fun c hc => ⟨(varName_lower e.isPrint (hname c hc)).1,
        by simp only [RuneError]; have := hname c hc; omega, (varName_lower e.isPrint (hname c hc)).2⟩)
      (headRune_eq r ▸ hstop.notVarName) hc, rfl, hval _ _ _⟩

theorem nil_ok (L : Lib) (fixed : Bool) (ctx : Int) (indent : Int) :
    PrimOK e ctx (repr L fixed .nil indent) (canon L .nil) ∧ Starts e.isPrint ctx (repr L fixed .nil indent) :=
  ⟨var_prim (name := nameNil) (by decide) (by decide) .nil fun a b t => by rw [evalNode_primary]; rfl,
    starts_opens _ _ (by decide) _⟩

theorem bool_ok (L : Lib) (fixed : Bool) (b : Bool) (ctx : Int) (indent : Int) :
    PrimOK e ctx (repr L fixed (.bool b) indent) (canon L (.bool b)) ∧
    Starts e.isPrint ctx (repr L fixed (.bool b) indent) := by
  cases b
  · exact ⟨var_prim (name := nameFalse) (by decide) (by decide) (.bool false)
      fun a b t => by rw [evalNode_primary]; rfl, starts_opens _ _ (by decide) _⟩
  · exact ⟨var_prim (name := nameTrue) (by decide) (by decide) (.bool true)
      fun a b t => by rw [evalNode_primary]; rfl, starts_opens _ _ (by decide) _⟩

@[simp] theorem setType_ctx (nb : NB) (t : Int) : (nb.setType t).f.ctx = nb.f.ctx := rfl

theorem headRune_append_of_valid {t : Bytes} (r : Bytes) (hne : t ≠ []) (h0 : (decodeRune t).1 ≠ RuneError) :
    headRune (t ++ r) = (((decodeRune t).1 : Nat) : Int) :=
  headRune_eq _ ▸ C03.firstRune_append r hne h0

def BareRunes (isPrint : Int → Bool) (ctx : Int) (t : Bytes) : Prop :=
  C03.AllRunes (fun x => x ≠ RuneError ∧ allowedInBareword isPrint ((x : Nat) : Int) ctx = true) t

theorem _root_.C03.Lit.primOK {ctx ty : Int} {w v : Bytes} (hl : C03.Lit e.isPrint ctx w ty v) :
    PrimOK e ctx w (.str v) :=
  PrimOK.of_at hl.ne_nil fun f _ r hc hstop =>
    ⟨_, hl.primary_at f hc (headRune_eq r ▸ hstop.notStart), rfl, evalNode_primary_str _ _ _ _ _ hl.ty_cases⟩

theorem _root_.C03.Lit.startsOK {isPrint : Int → Bool} {ctx ty : Int} {w v : Bytes}
    (hl : C03.Lit isPrint ctx w ty v) (hnt : ∀ rest, C03.firstRune (w ++ rest) ≠ 126) : Starts isPrint ctx w :=
  ⟨hl.ne_nil, fun r => headRune_eq _ ▸ hl.starts r, fun r => headRune_eq _ ▸ hnt r⟩

theorem prim_bareword {ctx : Int} {t : Bytes} (hne : t ≠ []) (hall : BareRunes e.isPrint ctx t) :
    PrimOK e ctx t (.str t) :=
  (C03.Lit.bare hne hall).primOK

theorem starts_bareword {isPrint : Int → Bool} {ctx : Int} {b0 : UInt8} {t : Bytes}
    (hall : BareRunes isPrint ctx (b0 :: t)) (hnt : (b0 != 126) = true) : Starts isPrint ctx (b0 :: t) := by
  have h0 := hall.head (by simp)
  refine ⟨by simp, fun r => ?_, fun r => ?_⟩ <;> rw [headRune_append_of_valid r (by simp) h0.1]
  · exact C03.startsPrimary_of_bareword h0.2
  · intro hh
    exact C03.first_rune_ne_tilde hnt (by exact_mod_cast hh)

theorem bareRunes_ascii {isPrint : Int → Bool} {ctx : Int} {t : Bytes}
    (h : ∀ c ∈ t, c.toNat < 128 ∧ allowedInBareword isPrint (c.toNat : Int) ctx = true) : BareRunes isPrint ctx t :=
  allRunes_ascii fun c hc => ⟨(h c hc).1, by simp only [RuneError]; have := (h c hc).1; omega, (h c hc).2⟩

/-- The string leaf: `parse.Quote s` is read back, as one primary with value
`s`, as a list element / map value (`NormalExpr`) and as a map key (`LHSExpr`). -/
structure StrOK (e : Env) (s : Bytes) : Prop where
  normal : PrimOK e NormalExpr (quote e.isPrint s) (.str s) ∧ Starts e.isPrint NormalExpr (quote e.isPrint s)
  lhs : PrimOK e LHSExpr (quote e.isPrint s) (.str s) ∧ Starts e.isPrint LHSExpr (quote e.isPrint s)

theorem strOK_ctx (str : Bytes) (ctx : Int) :
    PrimOK e ctx (quote e.isPrint str) (.str str) ∧ Starts e.isPrint ctx (quote e.isPrint str) := by
  obtain ⟨w, ty, hq, hl, hnt⟩ := C03.quoteAs_lit e.isPrint str Bareword strictExpr ctx (C03.CtxLe.strict _ _)
  have hw : quote e.isPrint str = w := by
    have := quote_eq_C03 e.isPrint str
    rw [C03.Quote, C03.QuoteAs, hq] at this
    exact (C03.QRes.ok.inj this).symm
  rw [hw]
  exact ⟨hl.primOK, hl.startsOK hnt⟩

theorem strOK_all (str : Bytes) : StrOK e str := ⟨strOK_ctx str _, strOK_ctx str _⟩

end
end C04
