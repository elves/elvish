/-
C04: the round trip, by induction on the value — from the leaf conditions
(`Good`: strings read back from their quoted form, exact numbers canonical,
floats under the strconv hypothesis) to `evalLit (repr v) = some (canon v)`;
every value of the fragment satisfies the leaf conditions; keys that are not eq
print differently, so the comparator of `reprMap` separates them.
-/
import ElvProofs.C04.Bracket
import ElvProofs.C04.Num
import ElvProofs.C04.Canon
namespace C04
open Go C01 C08 C09 Gen.C01Chars

mutual
/-- The leaf hypotheses of the induction: strings are read back from their
quoted form (`StrOK`), numbers satisfy `NumGood`; no field maps, no identity kinds. -/
def Good (e : Env) (L : Lib) : Val → Prop
  | .nil => True
  | .bool _ => True
  | .str s => StrOK e s
  | .int i => NumGood L (.int i)
  | .bigint i => NumGood L (.bigint i)
  | .rat q => NumGood L (.rat q)
  | .float b => NumGood L (.float b)
  | .list xs => GoodList e L xs
  | .map false kvs => GoodEntries e L kvs
  | .map true _ => False
  | .ref _ _ => False
def GoodList (e : Env) (L : Lib) : List Val → Prop
  | [] => True
  | x :: xs => Good e L x ∧ GoodList e L xs
def GoodEntries (e : Env) (L : Lib) : List (Val × Val) → Prop
  | [] => True
  | (k, v) :: kvs => Good e L k ∧ Good e L v ∧ GoodEntries e L kvs
end

/-- what the induction proves about one value: in both contexts a value can
stand in, at every indent, its text is one primary that evaluates to `canon`. -/
def ValOK (e : Env) (L : Lib) (v : Val) : Prop :=
  ∀ (indent : Int) (ctx : Int), ctx = NormalExpr ∨ ctx = LHSExpr →
    PrimOK e ctx (repr L true v indent) (canon L v) ∧ Starts e.isPrint ctx (repr L true v indent)

section
variable {e : Env}

theorem ValOK.comp {L : Lib} {v : Val} (h : ValOK e L v) (indent : Int) (ctx : Int)
    (hctx : ctx = NormalExpr ∨ ctx = LHSExpr) :
    CompOK e ctx (repr L true v indent) (canon L v) ∧ Starts e.isPrint ctx (repr L true v indent) :=
  ⟨comp_of_prim (h indent ctx hctx).1 (h indent ctx hctx).2, (h indent ctx hctx).2⟩

theorem list_case (L : Lib) (xs : List Val) (h : ∀ x ∈ xs, ValOK e L x) : ValOK e L (.list xs) := by
  intro indent ctx _
  rw [repr, reprList_eq_map, canon, canonList_eq_map]
  have hall : All2 (fun t v => ∀ w, ElemOK e (t, w) v) (xs.map fun x => repr L true x (indent + 1))
      (xs.map (canon L)) := by
    induction xs with
    | nil => exact .nil
    | cons x xs ih =>
      refine .cons (fun w => ?_) (ih (fun y hy => h y (List.mem_cons_of_mem _ hy)))
      have := (h x List.mem_cons_self).comp (indent + 1) NormalExpr (Or.inl rfl)
      exact ⟨this.1, this.2⟩
  cases xs with
  | nil =>
    rw [List.map_nil, listString_nil]
    exact ⟨list_prim (w0 := []) (items := []) (vals := []) (fun _ hc => nomatch hc) trivial .nil,
      starts_opens _ _ (by decide) _⟩
  | cons x xs' =>
    have hne : repr L true x (indent + 1) ≠ [] :=
      ((h x List.mem_cons_self) (indent + 1) NormalExpr (Or.inl rfl)).2.ne
    simp only [List.map_cons] at hall ⊢
    rw [listString, builder_layout indent _ _ hne]
    exact ⟨list_prim (wsAll_sepBefore indent true) (itemsOK_mkItems indent _) (all2_mkItems indent _ _ hall),
      starts_opens _ _ (by decide) _⟩

/-- the text `WritePair` hands to `WriteElem` -/
theorem pairString_eq (k v : Bytes) (pindent : Int) :
    ∃ tb, pairString k pindent v = 38 :: (k ++ 61 :: (tb ++ v)) ∧ (∀ c ∈ tb, IsWs true c) := by
  unfold pairString
  split
  · exact ⟨[9], by simp, by intro c hc; simp at hc; exact Or.inr (Or.inl hc)⟩
  · exact ⟨[], by simp, fun _ hc => nomatch hc⟩

theorem map_case (L : Lib) (kvs : List (Val × Val)) (h : ∀ p ∈ kvs, ValOK e L p.1 ∧ ValOK e L p.2) :
    ValOK e L (.map false kvs) := by
  intro indent ctx _
  rw [repr_map_sorted, canon_map_sorted]
  have hperm : (isort (pairLess L) kvs).Perm kvs := isort_perm _ _
  generalize isort (pairLess L) kvs = sorted at hperm
  have hs : ∀ p ∈ sorted, ValOK e L p.1 ∧ ValOK e L p.2 := fun p hp => h p (hperm.subset hp)
  unfold mapText
  rw [List.map_map]
  have hall : All2 (fun t kv => ∀ w, PairOK e (t, w) kv)
      (sorted.map ((fun en : Entry => pairString en.k (indent + 2) en.v) ∘ entryOf L true indent))
      (sorted.map fun p => (canon L p.1, canon L p.2)) := by
    clear hperm
    induction sorted with
    | nil => exact .nil
    | cons p ps ih =>
      refine .cons (fun w => ?_) (ih (fun q hq => hs q (List.mem_cons_of_mem _ hq)))
      obtain ⟨hk, hv⟩ := hs p List.mem_cons_self
      obtain ⟨tb, htb, hws⟩ := pairString_eq (repr L true p.1 (indent + 1)) (repr L true p.2 (indent + 2)) (indent + 2)
      have ck := hk.comp (indent + 1) LHSExpr (Or.inr rfl)
      have cv := hv.comp (indent + 2) NormalExpr (Or.inl rfl)
      exact ⟨_, tb, _, htb, hws, ck.1, ck.2, cv.1, cv.2⟩
  cases sorted with
  | nil =>
    rw [List.map_nil, List.foldl_nil, mapBuilder_nil]
    exact ⟨emptymap_prim, starts_opens _ _ (by decide) _⟩
  | cons p ps =>
    simp only [List.map_cons] at hall ⊢
    rw [mapBuilder_cons indent _ _ (by simp only [Function.comp]; unfold pairString; split <;> simp)]
    exact ⟨map_prim (wsAll_sepBefore indent true) (itemsOK_mkItems indent _) (all2_mkItems indent _ _ hall)
      (mkItems_ne indent (by simp)), starts_opens _ _ (by decide) _⟩

end

section
variable {e : Env} {L : Lib}

mutual
theorem valOK (hL : L.isPrint = e.isPrint) : (v : Val) → Good e L v → ValOK e L v
  | .nil, _ => fun indent ctx _ => nil_ok L true ctx indent
  | .bool b, _ => fun indent ctx _ => bool_ok L true b ctx indent
  | .str s, hg => fun indent ctx hctx => by
    simp only [Good] at hg
    simp only [repr, canon, hL]
    rcases hctx with rfl | rfl
    · exact hg.normal
    · exact hg.lhs
  | .int i, hg => fun indent ctx _ => num_ok L true (.int i) (by simpa [Good] using hg) ctx indent
  | .bigint i, hg => fun indent ctx _ => num_ok L true (.bigint i) (by simpa [Good] using hg) ctx indent
  | .rat q, hg => fun indent ctx _ => num_ok L true (.rat q) (by simpa [Good] using hg) ctx indent
  | .float b, hg => fun indent ctx _ => num_ok L true (.float b) (by simpa [Good] using hg) ctx indent
  | .list xs, hg => list_case L xs (listOK hL xs (by simpa [Good] using hg))
  | .map false kvs, hg => map_case L kvs (entriesOK hL kvs (by simpa [Good] using hg))
  | .map true _, hg => absurd hg (by simp [Good])
  | .ref _ _, hg => absurd hg (by simp [Good])
theorem listOK (hL : L.isPrint = e.isPrint) : (xs : List Val) → GoodList e L xs → ∀ x ∈ xs, ValOK e L x
  | [], _ => fun _ hx => by cases hx
  | x :: xs, hg => fun y hy => by
    simp only [GoodList] at hg
    rcases List.mem_cons.1 hy with h | h
    · rw [h]; exact valOK hL x hg.1
    · exact listOK hL xs hg.2 y h
theorem entriesOK (hL : L.isPrint = e.isPrint) : (kvs : List (Val × Val)) → GoodEntries e L kvs →
    ∀ p ∈ kvs, ValOK e L p.1 ∧ ValOK e L p.2
  | [], _ => fun _ hp => by cases hp
  | (k, v) :: kvs, hg => fun q hq => by
    simp only [GoodEntries] at hg
    rcases List.mem_cons.1 hq with h | h
    · rw [h]; exact ⟨valOK hL k hg.1, valOK hL v hg.2.1⟩
    · exact entriesOK hL kvs hg.2.2 q h
end

end

/-- the leaf hypotheses, whatever text the value is printed inside -/
def GoodAll (L : Lib) (v : Val) : Prop := ∀ src : Bytes, Good { isPrint := L.isPrint, src := src } L v

theorem evalLit_of_comp (isPrint : Int → Bool) (T : Bytes) (val : Val)
    (hc : CompOK { isPrint := isPrint, src := putSrc T } NormalExpr T val)
    (hs : Starts isPrint NormalExpr T) : evalLit isPrint T = some val := by
  let e : Env := { isPrint := isPrint, src := putSrc T }
  let s0 : St := { pos := 0, overEOF := 0, errors := [] }
  have h0 : At e s0 ((cmdPut ++ 32 :: T) ++ []) := ⟨inv_init e, by simp [e, s0, putSrc]⟩
  have hlen : (putSrc T).length = T.length + 4 := by simp [putSrc, cmdPut]
  obtain ⟨n, hn, _, _, hv⟩ := chunk_ok (e := e) (s := s0) cmdName_put hc hs (defaultFuel (putSrc T))
    (by simp only [defaultFuel, hlen, cmdPut, List.length_cons, List.length_nil]; omega) (Or.inl rfl) h0
  have hpos : (adv s0 (cmdPut ++ 32 :: T).length).pos = e.src.length := by
    simp [s0, e, hlen, cmdPut]
  unfold evalLit C01.parse parseAs
  rw [parseAsFuel_eq]
  have hrun : (parseNT (defaultFuel (putSrc T)) .chunk >>= fun n => done >>= fun _ => pure n) e s0 =
      .ok n (adv s0 (cmdPut ++ 32 :: T).length) := by
    rw [bind_of_eq hn]
    have hd : done e (adv s0 (cmdPut ++ 32 :: T).length) = .ok () (adv s0 (cmdPut ++ 32 :: T).length) := by
      unfold done
      rw [if_neg (by simp only [ne_eq, Decidable.not_not]; exact hpos)]
    rw [bind_of_eq hd]
    rfl
  rw [hrun]
  simp only [toResult, adv_errors, s0]
  rw [hv]
  simp [formValue]

theorem evalLit_repr (L : Lib) (v : Val) (hg : GoodAll L v) (indent : Int) :
    evalLit L.isPrint (repr L true v indent) = some (canon L v) := by
  have hv := valOK (e := { isPrint := L.isPrint, src := putSrc (repr L true v indent) }) (L := L) rfl v (hg _)
  have := hv.comp indent NormalExpr (Or.inl rfl)
  exact evalLit_of_comp L.isPrint _ _ this.1 this.2

/-- `P` unfolds like the fragment.  Abstract, so that `C04_Frag` of
`ElvProofs/C04.lean` can keep its membership form. -/
structure FragLike (L : Lib) (P : Val → Prop) : Prop where
  int : ∀ i, P (.int i) → C05.fitsInt i = true
  bigint : ∀ i, P (.bigint i) → C05.fitsInt i = false
  rat : ∀ q, P (.rat q) → q.den ≠ 1
  float : ∀ b, P (.float b) → C05.strconvOKAt L.fmt b.toNat = true
  list : ∀ xs, P (.list xs) → ∀ x ∈ xs, P x
  map : ∀ kvs, P (.map false kvs) → ∀ p ∈ kvs, P p.1 ∧ P p.2
  fmap : ∀ kvs, ¬ P (.map true kvs)
  ref : ∀ a b, ¬ P (.ref a b)

section
variable {e : Env} {L : Lib} {P : Val → Prop}

mutual
theorem good_of_frag (hP : FragLike L P) : (v : Val) → P v → Good e L v
  | .nil, _ => trivial
  | .bool _, _ => trivial
  | .str s, _ => by simp only [Good]; exact strOK_all s
  | .int i, h => by simpa [Good, NumGood] using hP.int i h
  | .bigint i, h => by simpa [Good, NumGood] using hP.bigint i h
  | .rat q, h => by simpa [Good, NumGood] using hP.rat q h
  | .float b, h => by
    simp only [Good, NumGood]
    exact floatOK_of_strconv (hP.float b h)
  | .list xs, h => by
    simp only [Good]; exact good_of_frag_l hP xs (hP.list xs h)
  | .map false kvs, h => by
    simp only [Good]; exact good_of_frag_e hP kvs (hP.map kvs h)
  | .map true kvs, h => absurd h (hP.fmap kvs)
  | .ref a b, h => absurd h (hP.ref a b)
theorem good_of_frag_l (hP : FragLike L P) : (xs : List Val) → (∀ x ∈ xs, P x) → GoodList e L xs
  | [], _ => trivial
  | x :: xs, h =>
    ⟨good_of_frag hP x (h x List.mem_cons_self),
      good_of_frag_l hP xs (fun y hy => h y (List.mem_cons_of_mem _ hy))⟩
theorem good_of_frag_e (hP : FragLike L P) : (kvs : List (Val × Val)) → (∀ p ∈ kvs, P p.1 ∧ P p.2) →
    GoodEntries e L kvs
  | [], _ => trivial
  | (k, v) :: kvs, h =>
    ⟨good_of_frag hP k (h (k, v) List.mem_cons_self).1, good_of_frag hP v (h (k, v) List.mem_cons_self).2,
      good_of_frag_e hP kvs (fun p hp => h p (List.mem_cons_of_mem _ hp))⟩
end

end

theorem goodAll_of_frag {L : Lib} {P : Val → Prop} (hP : FragLike L P) (v : Val) (h : P v) : GoodAll L v :=
  fun src => good_of_frag (e := { isPrint := L.isPrint, src := src }) hP v h

def PrintableAscii (s : Bytes) : Prop := ∀ c ∈ s, 32 ≤ c.toNat ∧ c.toNat ≤ 126

def IsPrintAscii (isPrint : Int → Bool) : Prop := ∀ r : Int, 32 ≤ r → r ≤ 126 → isPrint r = true

mutual
/-- The fragment with printable-ASCII strings; floats under `floatHypOK`, which
the driver evaluates on every op. -/
def AsciiFrag (L : Lib) : Val → Prop
  | .nil => True
  | .bool _ => True
  | .str s => PrintableAscii s
  | .int i => C05.fitsInt i = true
  | .bigint i => C05.fitsInt i = false
  | .rat q => q.den ≠ 1
  | .float b => floatHypOK L b = true
  | .list xs => AsciiFragList L xs
  | .map false kvs => AsciiFragEntries L kvs
  | .map true _ => False
  | .ref _ _ => False
def AsciiFragList (L : Lib) : List Val → Prop
  | [] => True
  | x :: xs => AsciiFrag L x ∧ AsciiFragList L xs
def AsciiFragEntries (L : Lib) : List (Val × Val) → Prop
  | [] => True
  | (k, v) :: kvs => AsciiFrag L k ∧ AsciiFrag L v ∧ AsciiFragEntries L kvs
end

theorem asciiFragList_mem {L : Lib} : ∀ {xs : List Val}, AsciiFragList L xs → ∀ x ∈ xs, AsciiFrag L x
  | [], _, _, hx => nomatch hx
  | x :: xs, h, y, hy => by
    simp only [AsciiFragList] at h
    rcases List.mem_cons.1 hy with rfl | hy
    · exact h.1
    · exact asciiFragList_mem h.2 y hy

theorem asciiFragEntries_mem {L : Lib} : ∀ {kvs : List (Val × Val)}, AsciiFragEntries L kvs →
    ∀ p ∈ kvs, AsciiFrag L p.1 ∧ AsciiFrag L p.2
  | [], _, _, hp => nomatch hp
  | (k, v) :: kvs, h, p, hp => by
    simp only [AsciiFragEntries] at h
    rcases List.mem_cons.1 hp with rfl | hp
    · exact ⟨h.1, h.2.1⟩
    · exact asciiFragEntries_mem h.2.2 p hp

theorem asciiFrag_fragLike (L : Lib) : FragLike L (AsciiFrag L) where
  int i h := by simpa [AsciiFrag] using h
  bigint i h := by simpa [AsciiFrag] using h
  rat q h := by simpa [AsciiFrag] using h
  float b h := by rw [← floatHypOK_eq_strconv]; simpa [AsciiFrag] using h
  list xs h := asciiFragList_mem (by simpa [AsciiFrag] using h)
  map kvs h := asciiFragEntries_mem (by simpa [AsciiFrag] using h)
  fmap kvs h := by simp [AsciiFrag] at h
  ref a b h := by simp [AsciiFrag] at h

section
variable {e : Env} {L : Lib}

-- `hp` is not used: the string leaf holds whatever `IsPrint` says of printable ASCII
theorem good_of_ascii_l (hp : IsPrintAscii e.isPrint) : (xs : List Val) → AsciiFragList L xs → GoodList e L xs
  | xs, h => good_of_frag_l (asciiFrag_fragLike L) xs (asciiFragList_mem h)
theorem good_of_ascii_e (hp : IsPrintAscii e.isPrint) : (kvs : List (Val × Val)) → AsciiFragEntries L kvs →
    GoodEntries e L kvs
  | kvs, h => good_of_frag_e (asciiFrag_fragLike L) kvs (asciiFragEntries_mem h)

end

/-- the text determines the value read back -/
theorem equal_of_same_text (L : Lib) (a b : Val) (ga : GoodAll L a) (gb : GoodAll L b)
    (wa : WF a) (wb : WF b) (na : NaNFree a) (nb : NaNFree b)
    (h : repr L true a minInt = repr L true b minInt) : Equal a b = true := by
  have ha := evalLit_repr L a ga minInt
  have hb := evalLit_repr L b gb minInt
  rw [h, hb] at ha
  have hc : canon L b = canon L a := Option.some.inj ha
  have ca := canonOK L a wa na
  have cb := canonOK L b wb nb
  have h1 : Equal a (canon L b) = true := by rw [hc]; exact ca.eq
  exact Equal_trans wa cb.wf wb h1 (Equal_symm wb cb.wf cb.eq)

theorem keysSeparated_of_good (L : Lib) (kvs : List (Val × Val)) (hg : ∀ p ∈ kvs, GoodAll L p.1)
    (hwf : ∀ p ∈ kvs, WF p.1) (hnf : ∀ p ∈ kvs, NaNFree p.1) (hnd : NoDupKeys kvs) : KeysSeparated L kvs := by
  refine List.Pairwise.imp_of_mem ?_ hnd
  intro p q hp hq hpq
  refine Or.inr ?_
  intro hsame
  have := equal_of_same_text L p.1 q.1 (hg p hp) (hg q hq) (hwf p hp) (hwf q hq) (hnf p hp) (hnf q hq) hsame
  rw [hpq.1] at this
  cases this

theorem goodEntries_mem {e : Env} {L : Lib} : ∀ {kvs : List (Val × Val)}, GoodEntries e L kvs →
    ∀ p ∈ kvs, Good e L p.1 ∧ Good e L p.2
  | [], _, _, hp => nomatch hp
  | (k, v) :: kvs, h, p, hp => by
    simp only [GoodEntries] at h
    rcases List.mem_cons.1 hp with rfl | hp
    · exact ⟨h.1, h.2.1⟩
    · exact goodEntries_mem h.2.2 p hp

theorem nanFreeEntries_mem : ∀ {kvs : List (Val × Val)}, NaNFreeEntries kvs → ∀ p ∈ kvs, NaNFree p.1 ∧ NaNFree p.2
  | _, h => NaNFreeEntries_iff.1 h

theorem repr_map_perm_good (L : Lib) (hinj : ∀ s t, L.rank s = L.rank t → s = t)
    (kvs kvs' : List (Val × Val)) (indent : Int) (hg : GoodAll L (.map false kvs)) (hwf : WF (.map false kvs))
    (hnf : ∀ p ∈ kvs, NaNFree p.1) (hperm : kvs'.Perm kvs) :
    repr L true (.map false kvs') indent = repr L true (.map false kvs) indent := by
  simp only [C08.WF] at hwf
  have hmem := WFEntries_mem hwf.1
  refine repr_map_perm L hinj kvs kvs' indent (fun p hp => (hmem p hp).1) ?_ hperm
  refine keysSeparated_of_good L kvs ?_ (fun p hp => (hmem p hp).1) hnf hwf.2
  intro p hp src
  have := hg src
  simp only [Good] at this
  exact (goodEntries_mem this p hp).1

end C04
