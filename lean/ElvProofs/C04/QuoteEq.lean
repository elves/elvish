/-
C04's own model of `parse.Quote` is C03's model, piece by piece: `runeItems` vs
`Go.runes`, `quoteScan` vs `scanLoop`, `quoteSingle`, `quoteDouble` vs the fuel
loop described by `C03.DQ`, the two `doubleUnescape` tables.
-/
import ElvProofs.C03
import ElvModel.C04.Model
namespace C04
open Go C01 Gen.C01Chars

theorem runeItems_skip : ∀ (k : Nat) (t : Bytes), runeItems k t = runeItems 0 (t.drop k)
  | 0, t => by simp
  | k + 1, [] => by simp [runeItems]
  | k + 1, _ :: t => by
    rw [runeItems, List.drop_succ_cons]
    exact runeItems_skip k t

/-- the recursion equation of `runeItems`, in the shape of `Go.runes_of_ne_nil` -/
theorem runeItems_cons (b0 : UInt8) (t : Bytes) :
    runeItems 0 (b0 :: t) =
      ((decodeRune (b0 :: t)).1, (decodeRune (b0 :: t)).2, b0) ::
        runeItems 0 ((b0 :: t).drop (decodeRune (b0 :: t)).2) := by
  have hpos := Go.decodeRune_size_pos (s := b0 :: t) (by simp)
  rw [runeItems, runeItems_skip]
  obtain ⟨w, hw⟩ : ∃ w, (decodeRune (b0 :: t)).2 = w + 1 := ⟨(decodeRune (b0 :: t)).2 - 1, by omega⟩
  simp only [hw, Nat.add_sub_cancel, List.drop_succ_cons]

theorem scanLoop_shift (isPrint allowed : Int → Bool) (k : Nat) :
    ∀ (l : List (Nat × Rune × Nat)) (b : Bool),
      C03.scanLoop isPrint allowed (shiftRunes k l) b = C03.scanLoop isPrint allowed l b
  | [], b => rfl
  | x :: l, b => by
    rw [shiftRunes_cons, C03.scanLoop, C03.scanLoop]
    simp only []
    rw [scanLoop_shift isPrint allowed k l]

theorem quoteScan_eq (isPrint : Int → Bool) : ∀ (s : Bytes) (b : Bool),
    quoteScan isPrint (runeItems 0 s) b =
      C03.scanLoop isPrint (fun r => allowedInBareword isPrint r strictExpr) (runes s) b := by
  intro s
  induction s using runes_induction with
  | nil => intro b; rfl
  | step s hne ih =>
    intro b
    obtain ⟨b0, t, rfl⟩ := List.exists_cons_of_ne_nil hne
    rw [runeItems_cons, runes_of_ne_nil hne, quoteScan, C03.scanLoop, scanLoop_shift]
    simp only []
    split
    · rfl
    · rw [ih]
      congr 1
      cases allowedInBareword isPrint (↑(decodeRune (b0 :: t)).1) strictExpr <;> cases b <;> rfl

theorem quoteSingleBody_eq : ∀ s : Bytes, quoteSingleBody (runeItems 0 s) = C03.sqBody s := by
  intro s
  induction s using runes_induction with
  | nil => rfl
  | step s hne ih =>
    obtain ⟨b0, t, rfl⟩ := List.exists_cons_of_ne_nil hne
    rw [runeItems_cons, quoteSingleBody, C03.sqBody_cons hne, ih, C03.sqPiece]
    split <;> simp

theorem quoteSingle_eq (s : Bytes) : quoteSingle s = C03.quoteSingle s := by
  rw [C03.quoteSingle_eq, quoteSingle, quoteSingleBody_eq]

theorem find?_snd_eq_lookup (l : List (Int × Int)) (r : Int) :
    (l.find? fun kv => kv.2 == r).map (·.1) = (l.map fun kv => (kv.2, kv.1)).lookup r := by
  induction l with
  | nil => rfl
  | cons kv l ih =>
    rw [List.find?_cons, List.map_cons, List.lookup_cons, BEq.comm (a := r)]
    cases kv.2 == r
    · exact ih
    · rfl

/-- C03 builds its table from `doubleEscape` as Go's `init()` does; it is `doubleEscape` turned round -/
theorem doubleUnescape_eq (r : Int) : doubleUnescape r = C03.doubleUnescape.lookup r := by
  rw [doubleUnescape, find?_snd_eq_lookup, C03.doubleUnescape_val]
  rfl

theorem rtohex_eq (r : Nat) : ∀ w, rtohex r w = C03.rtohex r w := by
  intro w
  induction w generalizing r with
  | zero => rfl
  | succ w ih => rw [rtohex, C03.rtohex, ih]; rfl

theorem quoteDoubleItem_eq (isPrint : Int → Bool) (b0 : UInt8) (r w : Nat) :
    quoteDoubleItem isPrint (r, w, b0) = C03.dqPiece isPrint b0 r w := by
  unfold quoteDoubleItem C03.dqPiece
  simp only [doubleUnescape_eq, rtohex_eq]
  split
  · rfl
  · cases List.lookup (↑r) C03.doubleUnescape with
    | some e => rfl
    | none => rfl

theorem dq_runeItems (isPrint : Int → Bool) : ∀ s : Bytes,
    C03.DQ isPrint s ((runeItems 0 s).flatMap (quoteDoubleItem isPrint)) := by
  intro s
  induction s using runes_induction with
  | nil => exact .nil
  | step s hne ih =>
    obtain ⟨b0, t, rfl⟩ := List.exists_cons_of_ne_nil hne
    rw [runeItems_cons, List.flatMap_cons, quoteDoubleItem_eq]
    exact .cons b0 t _ ih

theorem DQ_functional {isPrint : Int → Bool} {s b1 : Bytes} (h1 : C03.DQ isPrint s b1) :
    ∀ {b2 : Bytes}, C03.DQ isPrint s b2 → b1 = b2 := by
  induction h1 with
  | nil => intro b2 h2; cases h2; rfl
  | cons b0 t body _ ih =>
    intro b2 h2
    cases h2 with
    | cons _ _ body2 h2' => rw [ih h2']

theorem quoteDouble_eq (isPrint : Int → Bool) (s : Bytes) :
    C03.quoteDouble isPrint s = .ok (quoteDouble isPrint s) := by
  obtain ⟨body, hq, hd⟩ := C03.quoteDouble_spec isPrint s
  rw [hq, quoteDouble, DQ_functional hd (dq_runeItems isPrint s)]

theorem quote_eq_C03 (isPrint : Int → Bool) (s : Bytes) : C03.Quote isPrint s = .ok (quote isPrint s) := by
  unfold C03.Quote C03.QuoteAs C03.quoteAs quote
  simp only [show (Bareword == DoubleQuoted) = false by decide, Bool.false_eq_true, if_false]
  cases s with
  | nil => rfl
  | cons b0 t =>
    simp only []
    rw [quoteScan_eq]
    cases C03.scanLoop isPrint (fun r => allowedInBareword isPrint r strictExpr) (runes (b0 :: t))
        (b0 != 126) with
    | none => simp only [quoteDouble_eq]; rfl
    | some bare =>
      cases bare
      · simp only [Bool.and_false, Bool.false_eq_true, if_false, quoteSingle_eq]; rfl
      · simp only [show (Bareword == Bareword) = true by decide, Bool.and_self, if_true]; rfl

end C04
