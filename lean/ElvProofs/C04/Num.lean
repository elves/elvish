/-
C04: `(num LIT)` — the text of a number is one bareword, the capture
evaluates to what `ParseNum` makes of it, and C05's round-trip theorems say
what that is.
-/
import ElvProofs.C04.Cmd
import ElvProofs.C05
import ElvModel.C04.Spec
namespace C04
open Go C01 C08 Gen.C01Chars

theorem numByte_facts_aux : ∀ c : UInt8, numByteOK c = true →
    c.toNat < 128 ∧ allowedInBareword (fun _ => false) (c.toNat : Int) NormalExpr = true ∧ c ≠ 126 := by
  apply forall_uint8; decide +kernel

theorem numByte_facts (isPrint : Int → Bool) (c : UInt8) (h : numByteOK c = true) :
    c.toNat < 128 ∧ allowedInBareword isPrint (c.toNat : Int) NormalExpr = true ∧ c ≠ 126 := by
  obtain ⟨h1, h2, h3⟩ := numByte_facts_aux c h
  exact ⟨h1, by rw [C03.allowedInBareword_ascii _ (by omega)]; exact h2, h3⟩

structure NumText (t : Bytes) : Prop where
  ne : t ≠ []
  ok : ∀ c ∈ t, numByteOK c = true

theorem numText_iff_bool {t : Bytes} : numTextOK t = true ↔ NumText t := by
  simp only [numTextOK, Bool.and_eq_true, Bool.not_eq_true', List.isEmpty_eq_false_iff, List.all_eq_true]
  exact ⟨fun h => ⟨h.1, h.2⟩, fun h => ⟨h.ne, h.ok⟩⟩

theorem cmdName_num : CmdName cmdNum := ⟨by decide, by decide⟩
theorem cmdName_put : CmdName cmdPut := ⟨by decide, by decide⟩

section
variable {e : Env}

theorem numText_comp {t : Bytes} (ht : NumText t) :
    CompOK e NormalExpr t (.str t) ∧ Starts e.isPrint NormalExpr t := by
  obtain ⟨c0, t', rfl⟩ := List.exists_cons_of_ne_nil ht.ne
  have hall : BareRunes e.isPrint NormalExpr (c0 :: t') :=
    bareRunes_ascii fun c hc => ⟨(numByte_facts e.isPrint c (ht.ok c hc)).1, (numByte_facts e.isPrint c (ht.ok c hc)).2.1⟩
  have hs := starts_bareword hall (by simpa using (numByte_facts e.isPrint c0 (ht.ok c0 List.mem_cons_self)).2.2)
  exact ⟨comp_of_prim (prim_bareword (by simp) hall) hs, hs⟩

theorem num_prim {ctx : Int} {t : Bytes} (ht : NumText t) (x : C05.Num) (hx : C05.parseNum t = some x) :
    PrimOK e ctx (numLit t) (numToVal x) :=
  capture_ok cmdName_num (numText_comp ht).1 (numText_comp ht).2 (by simp [formValue, cmdNum, cmdPut, hx])

end

theorem numText_natToDec (n : Nat) : NumText (C05.natToDec n) := by
  refine ⟨C05.natToDec_ne_nil n, fun c hc => ?_⟩
  have := C05.natToDec_dec n c hc
  unfold C05.IsDecByte at this
  simp only [numByteOK, Bool.or_eq_true, Bool.and_eq_true, decide_eq_true_eq]
  refine Or.inl (Or.inl (Or.inl (Or.inl (Or.inl (Or.inl (Or.inl ⟨?_, ?_⟩))))))
  · exact UInt8.le_iff_toNat_le.2 (by simpa using this.1)
  · exact UInt8.le_iff_toNat_le.2 (by simpa using this.2)

theorem NumText.cons {c : UInt8} {t : Bytes} (hc : numByteOK c = true) (ht : ∀ c ∈ t, numByteOK c = true) :
    NumText (c :: t) :=
  ⟨by simp, fun c' h' => by rcases List.mem_cons.1 h' with rfl | h'; exact hc; exact ht c' h'⟩

theorem numText_intToDec (z : Int) : NumText (C05.intToDec z) := by
  unfold C05.intToDec
  split
  · exact NumText.cons (by decide) (numText_natToDec _).ok
  · exact numText_natToDec _

theorem numText_ratToString (q : Rat) : NumText (C05.ratToString q) := by
  unfold C05.ratToString
  refine ⟨by have := (numText_intToDec q.num).ne; simp [this], fun c hc => ?_⟩
  rcases List.mem_append.1 hc with h | h
  · exact (numText_intToDec _).ok c h
  · rcases List.mem_cons.1 h with rfl | h
    · decide
    · exact (numText_natToDec _).ok c h

structure FloatOK (L : Lib) (b : UInt64) : Prop where
  strconv : C05.strconvOKAt L.fmt b.toNat = true
  text : NumText (C05.formatFloat64 L.fmt b.toNat)

theorem numByteOK_of_isNumByte : ∀ c : UInt8, C05.isNumByte c = true → numByteOK c = true := by
  apply forall_uint8; decide +kernel

/-- under C05's `strconvOKAt` the text is accepted by `ParseNum`
(`C05_float_roundtrip`), and everything `ParseNum` accepts is written in the
number alphabet (`C05.parseNum_all`). -/
theorem numText_of_strconv {L : Lib} {b : UInt64} (h : C05.strconvOKAt L.fmt b.toNat = true) :
    NumText (C05.formatFloat64 L.fmt b.toNat) := by
  have hrt := C05_float_roundtrip L.fmt b.toNat b.toNat_lt h
  simp only [C05.toString] at hrt
  refine ⟨?_, fun c hc => numByteOK_of_isNumByte c (C05.numByte_isNumByte c (C05.parseNum_all hrt c hc))⟩
  intro hnil
  rw [hnil, C05_reject_empty] at hrt
  cases hrt

theorem floatOK_of_strconv {L : Lib} {b : UInt64} (h : C05.strconvOKAt L.fmt b.toNat = true) : FloatOK L b :=
  ⟨h, numText_of_strconv h⟩

theorem floatHypOK_eq_strconv (L : Lib) (b : UInt64) : floatHypOK L b = C05.strconvOKAt L.fmt b.toNat := by
  unfold floatHypOK
  cases h : C05.strconvOKAt L.fmt b.toNat with
  | false => rfl
  | true => rw [numText_iff_bool.2 (numText_of_strconv h)]; rfl

/-- numbers in the representation elvish itself uses (C05's `CanonicalExact`),
floats with the library hypothesis -/
def NumGood (L : Lib) : Val → Prop
  | .int i => C05.fitsInt i = true
  | .bigint i => C05.fitsInt i = false
  | .rat q => q.den ≠ 1
  | .float b => FloatOK L b
  | _ => False

theorem isNaN_eq (b : UInt64) : C05.isNaN b.toNat = F64.isNaN b := by
  simp only [C05.isNaN, F64.isNaN, F64.mag, C05.signBit, F64.expInf]
  exact decide_eq_decide.2 (by omega)

theorem num_text (L : Lib) (fixed : Bool) {v : Val} (hv : NumGood L v) (indent : Int) :
    ∃ t x, repr L fixed v indent = numLit t ∧ NumText t ∧ C05.parseNum t = some x ∧ numToVal x = canon L v := by
  cases v with
  | int i =>
    simp only [NumGood] at hv
    exact ⟨_, .int i, by rw [repr], numText_intToDec i,
      by rw [C05.parseNum_intToDec, C05.normalizeBigInt, if_pos hv], by simp [canon, numToVal, C05.fromGo]⟩
  | bigint i =>
    simp only [NumGood] at hv
    exact ⟨_, .big i, by rw [repr], numText_intToDec i,
      by rw [C05.parseNum_intToDec, C05.normalizeBigInt, if_neg (by simp [hv])],
      by simp [canon, numToVal, C05.fromGo, C05.normalizeBigInt, hv]⟩
  | rat q =>
    simp only [NumGood] at hv
    exact ⟨_, .rat q, by rw [repr], numText_ratToString q,
      by rw [C05.parseNum_ratToString, C05.normalizeBigRat, if_neg hv],
      by simp [canon, numToVal, C05.fromGo, C05.normalizeBigRat, hv]⟩
  | float b =>
    simp only [NumGood] at hv
    have hrt := C05_float_roundtrip L.fmt b.toNat b.toNat_lt hv.strconv
    simp only [C05.toString] at hrt
    refine ⟨_, _, by rw [repr], hv.text, hrt, ?_⟩
    rw [isNaN_eq]
    by_cases hn : F64.isNaN b = true <;> simp [canon, canonFloat, numToVal, C05.fromGo, hn]
  | nil | bool _ | str _ | list _ | map _ _ | ref _ _ => exact absurd hv (by simp [NumGood])

theorem num_ok {e : Env} (L : Lib) (fixed : Bool) (v : Val) (hv : NumGood L v) (ctx : Int) (indent : Int) :
    PrimOK e ctx (repr L fixed v indent) (canon L v) ∧ Starts e.isPrint ctx (repr L fixed v indent) := by
  obtain ⟨t, x, hr, ht, hx, hc⟩ := num_text L fixed hv indent
  rw [hr, ← hc]
  exact ⟨num_prim ht x hx, starts_opens _ _ (by decide) _⟩

end C04
