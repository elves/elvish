/-
C04: from `At` (the C01 invariant and the unread text) to C03's cursor, in whose terms the walk over a
string literal, a bareword and a variable name is stated; that the invariant holds again afterwards comes
from C01 (`At.after`).
-/
import ElvProofs.C04.Step
import ElvProofs.C03
namespace C04
open Go C01 Gen.C01Chars

theorem headRune_eq (r : Bytes) : headRune r = C03.firstRune r := by
  cases r <;> rfl

section
variable {e : Env} {s : St}

theorem At.overEOF {c : UInt8} {t : Bytes} (h : At e s (c :: t)) : s.overEOF = 0 := by
  have hlt := h.pos_lt
  rcases Nat.eq_zero_or_pos s.overEOF with h0 | h0
  · exact h0
  · have := h.inv.eof h0; omega

theorem At.cur {t : Bytes} (h : At e s t) : C03.Cur e s.pos t := ⟨h.inv.le, h.rest⟩

end

end C04
