/-
C04: `[ … ]`.  The items loop of `lbracket` on a text laid out as
"`[` ws item ws item … ws `]`" (items: elements or `&k=v` pairs), and the fact
that the text the list / map builders produce has that layout.
-/
import ElvProofs.C04.Cmd
namespace C04
open Go C01 C08 Gen.C01Chars

inductive All2 {α β : Type} (R : α → β → Prop) : List α → List β → Prop where
  | nil : All2 R [] []
  | cons {a : α} {b : β} {as : List α} {bs : List β} : R a b → All2 R as bs → All2 R (a :: as) (b :: bs)

theorem All2.right {α β : Type} {R : α → β → Prop} {P : β → Prop} (hP : ∀ a b, R a b → P b) :
    ∀ {as : List α} {bs : List β}, All2 R as bs → ∀ b ∈ bs, P b
  | _, _, .nil, _, hb => nomatch hb
  | _, _, .cons h hr, b, hb => by
    rcases List.mem_cons.1 hb with rfl | hb
    · exact hP _ _ h
    · exact hr.right hP b hb

theorem All2.imp {α β : Type} {R S : α → β → Prop} (h : ∀ a b, R a b → S a b) :
    ∀ {as : List α} {bs : List β}, All2 R as bs → All2 S as bs
  | _, _, .nil => .nil
  | _, _, .cons h1 hr => .cons (h _ _ h1) (hr.imp h)

theorem All2.length_eq {α β : Type} {R : α → β → Prop} : ∀ {as : List α} {bs : List β}, All2 R as bs →
    as.length = bs.length
  | _, _, .nil => rfl
  | _, _, .cons _ hr => by simp [hr.length_eq]

def joinItems : List (Bytes × Bytes) → Bytes
  | [] => []
  | (t, w) :: rest => t ++ (w ++ joinItems rest)

def WsAll (w : Bytes) : Prop := ∀ c ∈ w, IsWs true c

/-- each item is followed by whitespace only, and only the last item may have none (before `]`) -/
def ItemsOK : List (Bytes × Bytes) → Prop
  | [] => True
  | (_, w) :: rest => WsAll w ∧ (w = [] → rest = []) ∧ ItemsOK rest

theorem stop_rbracket (isPrint : Int → Bool) (ctx : Int) (r : Bytes) : Stop isPrint ctx (93 :: r) := by
  constructor
  rw [headRune_ascii _ (by decide)]
  simp [startsPrimary, allowedInBareword, allowedInVariableName]

theorem stopSp_byte {c : UInt8} (hc : c = 93 ∨ c = 38) (nl : Bool) (r : Bytes) : StopSp nl (c :: r) := by
  rcases hc with rfl | rfl <;> constructor <;> rw [headRune_ascii _ (by decide)] <;>
    simp [IsInlineWhitespace, IsWhitespace]

theorem stop_after_item (isPrint : Int → Bool) (ctx : Int) {w : Bytes} {rest : List (Bytes × Bytes)} (r : Bytes)
    (hw : WsAll w) (hl : w = [] → rest = []) : Stop isPrint ctx ((w ++ joinItems rest) ++ 93 :: r) := by
  cases w with
  | nil =>
    rw [hl rfl]
    exact stop_rbracket isPrint ctx r
  | cons c w' =>
    constructor
    have hc := hw c List.mem_cons_self
    rw [List.cons_append, List.cons_append, headRune_ascii _ hc.ascii]
    rcases hc with rfl | rfl | ⟨_, rfl⟩ <;> simp [startsPrimary, allowedInBareword, allowedInVariableName]

section
variable {e : Env}

/-- One turn of the items loop of `lbracket`: in front of the item text the loop
reads one child `c` with `Q b c`, adds it, and goes on after the whitespace. -/
structure ItemOK {β : Type} (e : Env) (Q : β → Node → Prop) (it : Bytes × Bytes) (b : β) : Prop where
  ne : it.1 ≠ []
  stopSp : ∀ r, StopSp true (it.1 ++ r)
  turn : ∀ (f n : Nat) (nb : NB) (s : St) (T r : Bytes) (P : NB → Prop), 7 * it.1.length + 2 ≤ f →
    Stop e.isPrint NormalExpr (T ++ r) →
    (∀ c, Q b c → c.kind ≠ .sep → Reads e (adv s it.1.length) T r
      (parseSpacesAndNewlines (nb.add c) >>= lbracketLoop (fun nt => parseNT f nt) n) P) →
    Reads e s (it.1 ++ T) r (lbracketLoop (fun nt => parseNT f nt) (n + 1) nb) P

theorem stopSp_next_item {β : Type} {Q : β → Node → Prop} {rest : List (Bytes × Bytes)} {bs : List β}
    (h : All2 (ItemOK e Q) rest bs) (r : Bytes) : StopSp true (joinItems rest ++ 93 :: r) := by
  cases h with
  | nil => exact stopSp_byte (Or.inl rfl) true r
  | @cons it _ _ _ h1 _ =>
    obtain ⟨t, w⟩ := it
    simp only [joinItems, List.append_assoc]
    exact h1.stopSp _

theorem items_length_le {β : Type} {Q : β → Node → Prop} : ∀ {items : List (Bytes × Bytes)} {bs : List β},
    All2 (ItemOK e Q) items bs → items.length ≤ (joinItems items).length
  | _, _, .nil => by simp
  | _, _, @All2.cons _ _ _ it _ _ _ h1 hr => by
    obtain ⟨t, w⟩ := it
    have := items_length_le hr
    have : 0 < t.length := List.length_pos_iff.2 h1.ne
    simp [joinItems]; omega

theorem lbracketLoop_items {β : Type} {Q : β → Node → Prop} {f : Nat} {r : Bytes} :
    ∀ (items : List (Bytes × Bytes)) (bs : List β), All2 (ItemOK e Q) items bs →
    ∀ (n : Nat) (nb : NB) (s : St), ItemsOK items → items.length < n →
    7 * (joinItems items).length + 2 ≤ f →
    Reads e s (joinItems items) (93 :: r) (lbracketLoop (fun nt' => parseNT f nt') n nb)
      (fun nb' => nb'.frm = nb.frm ∧ nb'.f = nb.f ∧ ∃ cns, real nb' = real nb ++ cns ∧ All2 Q bs cns) := by
  intro items bs hfa
  induction hfa with
  | nil =>
    intro n nb s _ hn _
    obtain ⟨n', rfl⟩ : ∃ n', n = n' + 1 := ⟨n - 1, by simp at hn; omega⟩
    unfold lbracketLoop
    refine .step (getEnv_eq _ _) (.peek ?_)
    have hns : startsCompound e.isPrint (headRune (93 :: r)) NormalExpr = false :=
      (stop_rbracket e.isPrint NormalExpr r).notStart
    rw [joinItems, List.nil_append, if_neg (by rw [headRune_ascii _ (by decide)]; decide),
      if_neg (by rw [hns]; decide)]
    exact .pure ⟨rfl, rfl, [], by simp, .nil⟩
  | @cons it b rest bs' h1 hrest ih =>
    intro n nb s hok hn hfuel
    obtain ⟨t, w⟩ := it
    have hfl : (joinItems ((t, w) :: rest)).length = t.length + (w.length + (joinItems rest).length) := by
      simp [joinItems]
    rw [hfl] at hfuel
    obtain ⟨hw, hl, hok'⟩ := hok
    obtain ⟨n', rfl⟩ : ∃ n', n = n' + 1 := ⟨n - 1, by simp at hn; omega⟩
    refine h1.turn f n' nb s (w ++ joinItems rest) _ _ (by simp only []; omega)
      (stop_after_item e.isPrint NormalExpr r hw hl) fun c hQ hck => ?_
    refine .bind (parseSpacesAndNewlines_ok _ hw (stopSp_next_item hrest r)) fun nb1 hsame => ?_
    refine (ih n' nb1 _ hok' (by simp at hn; omega) (by omega)).mono
      fun nb' ⟨hfrm, hf, cns, hreal, hall⟩ => ⟨by rw [hfrm, hsame.frm]; rfl, by rw [hf, hsame.f]; rfl, c :: cns, ?_,
        .cons hQ hall⟩
    rw [hreal, hsame.real, real_add nb c hck]; simp

/-- the end of `lbracket`, once `]` is consumed: map or list -/
def lbracketEnd (nb : NB) : M NB :=
  if nb.f.lone || nb.count .mapPair > 0 then do
    (if nb.count .compound > 0 then error .bothElementsAndPairs else pure ())
    pure (nb.setType MapPrimary)
  else pure (nb.setType ListPrimary)

theorem count_real (nb : NB) (k : Kind) (hk : k ≠ .sep) :
    nb.count k = ((real nb).filter (·.kind == k)).length := by
  unfold NB.count real
  rw [List.filter_filter]
  congr 1
  apply List.filter_congr
  intro n _
  by_cases h : n.kind = k
  · simp [h, nonSep, hk]
  · simp [h]

theorem count_of_kinds {nb : NB} {k : Kind} (hk : k ≠ .sep) (h : ∀ c ∈ real nb, c.kind = k) :
    nb.count k = (real nb).length ∧ ∀ k', k' ≠ .sep → k' ≠ k → nb.count k' = 0 := by
  refine ⟨?_, fun k' hk' hne => ?_⟩
  · rw [count_real nb k hk]
    congr 1
    rw [List.filter_eq_self]
    intro c hc
    simp [h c hc]
  · rw [count_real nb k' hk', List.length_eq_zero_iff, List.filter_eq_nil_iff]
    intro c hc
    rw [h c hc]
    simpa using fun heq => hne heq.symm

theorem Reads.of_ok {α : Type} {s : St} {r : Bytes} {m : M α} {a : α} {Q : α → Prop} (hm : m e s = .ok a s)
    (h : Q a) : Reads e s [] r m Q := fun hA => ⟨a, hm, hA, h⟩

/-- A primary `[ body ]`, given what the items loop does on `body` (it reads
it, changes the fields by `F`, adds children `cns` with `G cns`), that the
end of `lbracket` then settles on the type `ty`, and what such a node evaluates to;
shared by the list literal, the map literal and `[&]`. -/
theorem bracket_prim {ctx : Int} {w0 body : Bytes} {val : Val} {F : Fields → Fields} {ty : Int}
    (G : List Node → Prop) (hw0 : WsAll w0) (hsp : ∀ r, StopSp true (body ++ 93 :: r))
    (hloop : ∀ (f : Nat) (nb : NB) (s : St) (r : Bytes), 7 * body.length + 2 ≤ f →
      Reads e s body (93 :: r) (lbracketLoop (fun nt => parseNT f nt) (e.src.length + 2) nb)
        (fun nb' => nb'.frm = nb.frm ∧ nb'.f = F nb.f ∧ ∃ cns, real nb' = real nb ++ cns ∧ G cns))
    (hend : ∀ (nb : NB) (s : St), G (real nb) → nb.f = F (NT.primary ctx).init →
      lbracketEnd nb e s = .ok (nb.setType ty) s)
    (hval : ∀ a b t cs, G (cs.filter nonSep) →
      evalNode (.mk .primary a b t { F (NT.primary ctx).init with ptype := ty } cs) = some val) :
    PrimOK e ctx (91 :: (w0 ++ (body ++ [93]))) val := by
  refine PrimOK.of_body (by simp) fun f s r hf _ => primaryBody_opens _ (by decide) ?_
  show Reads e s _ r (lbracket _ _) _
  unfold lbracket
  refine .bind (T1 := [91]) (parseSep_yes _ (by decide) 91 (by decide)) fun p1 hp1 => ?_
  obtain ⟨ok1, nb1⟩ := p1
  refine .bind (parseSpacesAndNewlines_ok _ hw0 (by rw [List.append_assoc]; exact hsp r)) fun nb2 hsame2 => ?_
  refine .step (loopFuel_eq _ _) (.bind (hloop f nb2 _ r (by simp at hf; omega)) fun nb3 h3 => ?_)
  refine .bind_nil (parseSep_yes _ (by decide) 93 (by decide)) fun p4 hp4 => ?_
  obtain ⟨ok4, nb4⟩ := p4
  obtain ⟨rfl, hsame4⟩ := hp4
  obtain ⟨hfrm3, hf3, cns, hreal3, hG⟩ := h3
  have hreal4 : real nb4 = cns := by rw [hsame4.real, hreal3, hsame2.real, hp1.2.real]; rfl
  have hf4 : nb4.f = F (NT.primary ctx).init := by rw [hsame4.f, hf3, hsame2.f, hp1.2.f]
  refine .of_ok (a := nb4.setType ty) (hend nb4 _ (hreal4 ▸ hG) hf4)
    ⟨by show nb4.frm = _; rw [hsame4.frm, hfrm3, hsame2.frm, hp1.2.frm], fun a b t => ?_⟩
  have := hval a b t nb4.children (show G (real nb4) from hreal4 ▸ hG)
  rwa [← hf4] at this

structure ElemOK (e : Env) (it : Bytes × Bytes) (v : Val) : Prop where
  comp : CompOK e NormalExpr it.1 v
  starts : Starts e.isPrint NormalExpr it.1

def ElemNode (v : Val) (c : Node) : Prop := c.kind = .compound ∧ evalNode c = some v

theorem ElemOK.item {it : Bytes × Bytes} {v : Val} (h : ElemOK e it v) : ItemOK e ElemNode it v where
  ne := h.starts.ne
  stopSp r := stopSp_of_starts h.starts (by decide) r true
  turn f n nb s T r P hf hstop hk := by
    unfold lbracketLoop
    refine .step (getEnv_eq _ _) (.peek ?_)
    rw [List.append_assoc, if_neg (by simpa using not_amp_of_starts h.starts (T ++ r)),
      if_pos (show startsCompound e.isPrint (headRune (it.1 ++ (T ++ r))) NormalExpr = true from h.starts.start _)]
    exact .bind (h.comp.reads hf hstop) fun c hc => hk c hc (by rw [hc.1]; simp)

theorem evalAll_elems : ∀ {vals : List Val} {cns : List Node}, All2 ElemNode vals cns → evalAll cns = some vals
  | _, _, .nil => rfl
  | _, _, .cons h hr => evalAll_cons (by rw [h.1]; simp) h.2 (evalAll_elems hr)

theorem list_prim {ctx : Int} {w0 : Bytes} {items : List (Bytes × Bytes)} {vals : List Val}
    (hw0 : WsAll w0) (hok : ItemsOK items) (hall : All2 (ElemOK e) items vals) :
    PrimOK e ctx (91 :: (w0 ++ (joinItems items ++ [93]))) (.list vals) := by
  have hall' : All2 (ItemOK e ElemNode) items vals := hall.imp fun _ _ h => h.item
  refine bracket_prim (F := id) (ty := ListPrimary) (All2 ElemNode vals) hw0 (stopSp_next_item hall')
    (fun f nb s r hf hA => lbracketLoop_items items vals hall' _ nb s hok
      (by have := items_length_le hall'; have := hA.length_le; omega) hf hA) ?_ ?_
  · intro nb s hG hf
    obtain ⟨_, h0⟩ := count_of_kinds (k := .compound) (by decide) (hG.right fun _ _ h => h.1)
    unfold lbracketEnd
    rw [if_neg (by rw [hf, h0 .mapPair (by decide) (by decide)]; simp [NT.init])]
    rfl
  · intro a b t cs hG
    rw [evalNode_primary_list _ _ _ _ _ rfl, evalAll_filter, evalAll_elems hG]
    rfl

theorem stop_eq (isPrint : Int → Bool) (r : Bytes) : Stop isPrint LHSExpr (61 :: r) := by
  constructor
  rw [headRune_ascii _ (by decide)]
  simp [startsPrimary, allowedInBareword, allowedInVariableName, LHSExpr, strictExpr, CmdExpr, BracedElemExpr]

theorem children_ne_nil_of_eval {n : Node} {v : Val} (hk : n.kind = .compound) (hv : evalNode n = some v) :
    n.children.isEmpty = false := by
  obtain ⟨k, a, b, t, f, cs⟩ := n
  have : k = .compound := hk
  subst this
  rw [evalNode_compound] at hv
  cases cs with
  | nil => simp [evalSingle] at hv
  | cons _ _ => rfl

theorem mapPair_ok {k tb vt r : Bytes} {kv vv : Val} {s : St} (hk : CompOK e LHSExpr k kv)
    (hv : CompOK e NormalExpr vt vv) (hvs : Starts e.isPrint NormalExpr vt)
    (htb : ∀ c ∈ tb, IsWs true c) (f : Nat) (hf1 : 7 * k.length + 3 ≤ f) (hf2 : 7 * vt.length + 3 ≤ f)
    (hstop : Stop e.isPrint NormalExpr r) :
    Reads e s (38 :: (k ++ 61 :: (tb ++ vt))) r (parseNT f .mapPair)
      (fun n => ∃ a b t ff pcs, n = .mk .mapPair a b t ff pcs ∧ evalAll pcs = some [kv, vv]) := by
  obtain ⟨f, rfl⟩ : ∃ f', f = f' + 1 := ⟨f - 1, by omega⟩
  refine (Reads.wrap (P := fun nb => evalAll nb.children = some [kv, vv]) ?_).mono
    fun n ⟨_, _, _, hv, hn⟩ => ⟨_, _, _, _, _, hn, hv⟩
  show Reads e s _ r (mapPairBody _ _) _
  unfold mapPairBody
  refine .bind (T1 := [38]) (parseSep_yes _ (by decide) 38 (by decide)) fun p hp => ?_
  obtain ⟨ok1, nb1⟩ := p
  refine .bind (hk.reads (by omega) (stop_eq e.isPrint _)) fun kn hkn => ?_
  rw [children_ne_nil_of_eval hkn.1 hkn.2]
  refine .step (pure_apply _ _ _) (.bind (T1 := [61]) (parseSep_yes _ (by decide) 61 (by decide)) fun p3 hp3 => ?_)
  obtain ⟨ok3, nb3⟩ := p3
  obtain ⟨rfl, hsame3⟩ := hp3
  dsimp only
  rw [if_pos rfl]
  refine .bind (parseSpacesAndNewlines_ok _ htb (stopSp_of_starts hvs (by decide) r true)) fun nb4 hsame4 => ?_
  refine .map (hv.reads (by omega) hstop) fun vn hvn => ⟨?_, ?_⟩
  · show nb4.frm = _
    rw [hsame4.frm, hsame3.frm]; show nb1.frm = _; rw [hp.2.frm]
  · have hreal : (nb4.add vn).children.filter nonSep = [kn, vn] := by
      show real (nb4.add vn) = _
      rw [real_add nb4 vn (by rw [hvn.1]; simp), hsame4.real, hsame3.real, real_add nb1 kn (by rw [hkn.1]; simp),
        hp.2.real]
      rfl
    rw [evalAll_filter, hreal]
    exact evalAll_two kn vn _ _ (by rw [hkn.1]; simp) (by rw [hvn.1]; simp) hkn.2 hvn.2

/-- the item text is `&k=<ws>v` -/
def PairOK (e : Env) (it : Bytes × Bytes) (kv : Val × Val) : Prop :=
  ∃ k tb vt, it.1 = 38 :: (k ++ 61 :: (tb ++ vt)) ∧ (∀ c ∈ tb, IsWs true c) ∧
    CompOK e LHSExpr k kv.1 ∧ Starts e.isPrint LHSExpr k ∧
    CompOK e NormalExpr vt kv.2 ∧ Starts e.isPrint NormalExpr vt

def PairNode (kv : Val × Val) (c : Node) : Prop :=
  ∃ a b t f pcs, c = .mk .mapPair a b t f pcs ∧ evalAll pcs = some [kv.1, kv.2]

theorem PairOK.item {it : Bytes × Bytes} {kv : Val × Val} (h : PairOK e it kv) : ItemOK e PairNode it kv := by
  obtain ⟨t, w⟩ := it
  obtain ⟨k, tb, vt, ht, htb, hkc, hks, hvc, hvs⟩ := h
  simp only at ht
  subst ht
  refine ⟨by simp, fun r => stopSp_byte (Or.inr rfl) true _, fun f n nb s T r P hf hstop hk => ?_⟩
  simp only [List.length_cons, List.length_append] at hf
  refine .of_eq (m' := parseNT f .mapPair >>= fun mp =>
      parseSpacesAndNewlines (nb.add mp) >>= lbracketLoop (fun nt => parseNT f nt) n) (fun hA => ?_)
    (.bind (mapPair_ok hkc hvc hvs htb f (by omega) (by omega) hstop) fun c ⟨a, b, tx, ff, pcs, hc, hpe⟩ =>
      hk c ⟨a, b, tx, ff, pcs, hc, hpe⟩ (by rw [hc]; simp [Node.kind]))
  -- `&` is looked at, consumed, and given back once the key is seen to follow
  have h0 : At e s (38 :: (k ++ 61 :: (tb ++ (vt ++ (T ++ r))))) := by simpa using hA
  unfold lbracketLoop
  rw [bind_of_eq (getEnv_eq _ _), bind_of_eq (h0.peek_cons (by decide)), if_pos (by decide),
    bind_of_eq (h0.next_cons (by decide)), bind_of_eq (h0.step (by decide)).peek_head]
  have hst : startsCompound e.isPrint (headRune (k ++ 61 :: (tb ++ (vt ++ (T ++ r))))) LHSExpr = true := hks.start _
  simp only [hst, Bool.not_true, Bool.false_eq_true, if_false]
  have hbk : backup e (adv s 1) = .ok () s := by
    have := backup_nextSt h0.inv
    rwa [h0.nextSt (by decide)] at this
  rw [bind_of_eq hbk]

theorem evalPairs_pairs : ∀ {kvs : List (Val × Val)} {cns : List Node}, All2 PairNode kvs cns →
    evalPairs cns = some kvs
  | _, _, .nil => rfl
  | _, _, .cons ⟨_, _, _, _, _, hc, hp⟩ hr => by rw [hc]; exact evalPairs_cons hp (evalPairs_pairs hr)

theorem map_prim {ctx : Int} {w0 : Bytes} {items : List (Bytes × Bytes)} {kvs : List (Val × Val)}
    (hw0 : WsAll w0) (hok : ItemsOK items) (hall : All2 (PairOK e) items kvs) (hne : items ≠ []) :
    PrimOK e ctx (91 :: (w0 ++ (joinItems items ++ [93]))) (.map false (assocAll kvs [])) := by
  have hall' : All2 (ItemOK e PairNode) items kvs := hall.imp fun _ _ h => h.item
  refine bracket_prim (F := id) (ty := MapPrimary) (All2 PairNode kvs) hw0 (stopSp_next_item hall')
    (fun f nb s r hf hA => lbracketLoop_items items kvs hall' _ nb s hok
      (by have := items_length_le hall'; have := hA.length_le; omega) hf hA) ?_ ?_
  · intro nb s hG hf
    obtain ⟨h1, h0⟩ := count_of_kinds (k := .mapPair) (by decide)
      (hG.right fun _ c ⟨_, _, _, _, _, hc, _⟩ => by rw [hc]; rfl)
    have hpos : 0 < nb.count .mapPair := by
      rw [h1, ← hG.length_eq, ← hall'.length_eq]
      exact List.length_pos_iff.2 hne
    unfold lbracketEnd
    rw [if_pos (by simp [hpos]), if_neg (by rw [h0 .compound (by decide) (by decide)]; decide)]
    rfl
  · intro a b t cs hG
    rw [evalNode_primary_map _ _ _ _ _ rfl, evalPairs_filter, evalPairs_pairs hG]
    rfl

/-- `[&]` -/
theorem emptymap_prim {ctx : Int} : PrimOK e ctx [91, 38, 93] (.map false []) := by
  refine bracket_prim (w0 := []) (body := [38]) (F := fun f => { f with lone := true }) (ty := MapPrimary)
    (fun cns => cns = []) (fun _ hc => nomatch hc) (fun r => stopSp_byte (Or.inr rfl) true _) ?_ ?_ ?_
  · intro f nb s r _
    show Reads e s [38] (93 :: r) (lbracketLoop _ (e.src.length + 1 + 1) _) _
    unfold lbracketLoop
    refine .step (getEnv_eq _ _) (.peek ?_)
    rw [show headRune ([38] ++ 93 :: r) = 38 from headRune_ascii _ (by decide), if_pos (by decide)]
    refine .bind_nil (next_ok (by decide)) fun _ _ => .peek ?_
    have : startsCompound e.isPrint (headRune ([] ++ 93 :: r)) LHSExpr = false := by
      rw [List.nil_append, headRune_ascii _ (by decide)]
      simp [startsCompound, startsIndexing, startsPrimary, allowedInBareword, allowedInVariableName]
    simp only [this, Bool.not_false, if_true]
    refine .nil_bind (T := []) (addSep_reads _) fun nb3 hsame3 => ?_
    exact (parseSpacesInner_ok (w := []) nb3 true (fun _ hc => nomatch hc) (stopSp_byte (Or.inl rfl) true r)).mono
      fun nb4 hsame4 => ⟨by rw [hsame4.frm, hsame3.frm], by rw [hsame4.f, hsame3.f], [],
        by rw [hsame4.real, hsame3.real]; simp [real], rfl⟩
  · intro nb s hG hf
    have hcc : nb.count .compound = 0 := by rw [count_real nb .compound (by decide), hG]; rfl
    unfold lbracketEnd
    rw [if_pos (by rw [hf]; rfl), if_neg (by rw [hcc]; decide)]
    rfl
  · intro a b t cs hG
    rw [evalNode_primary_map _ _ _ _ _ rfl, evalPairs_filter, hG]
    rfl

end

/-- whitespace `WriteElem` puts in front of an element -/
def sepBefore (indent : Int) (first : Bool) : Bytes :=
  if indent ≥ 0 then 10 :: spaces (indent + 1) else if first then [] else [32]

/-- whitespace `String()` puts in front of `]` -/
def closeWs (indent : Int) : Bytes := if indent ≥ 0 then 10 :: spaces indent else []

theorem wsAll_nl_spaces (n : Int) : WsAll (10 :: spaces n) := by
  intro c hc
  rcases List.mem_cons.1 hc with rfl | hc
  · exact Or.inr (Or.inr ⟨rfl, rfl⟩)
  · simp only [spaces, List.mem_replicate] at hc
    exact Or.inl hc.2

theorem wsAll_sepBefore (indent : Int) (first : Bool) : WsAll (sepBefore indent first) := by
  unfold sepBefore
  split
  · exact wsAll_nl_spaces _
  · split
    · intro c hc; cases hc
    · intro c hc; simp at hc; exact Or.inl hc

theorem wsAll_closeWs (indent : Int) : WsAll (closeWs indent) := by
  unfold closeWs
  split
  · exact wsAll_nl_spaces _
  · intro c hc; cases hc

theorem sepBefore_false_ne (indent : Int) : sepBefore indent false ≠ [] := by
  unfold sepBefore
  split <;> simp

def mkItems (indent : Int) : List Bytes → List (Bytes × Bytes)
  | [] => []
  | [t] => [(t, closeWs indent)]
  | t :: t' :: ts => (t, sepBefore indent false) :: mkItems indent (t' :: ts)

theorem itemsOK_mkItems (indent : Int) : ∀ ts : List Bytes, ItemsOK (mkItems indent ts)
  | [] => trivial
  | [_] => ⟨wsAll_closeWs indent, fun _ => rfl, trivial⟩
  | _ :: t' :: ts =>
    ⟨wsAll_sepBefore indent false, fun h => absurd h (sepBefore_false_ne indent), itemsOK_mkItems indent (t' :: ts)⟩

theorem mkItems_ne (indent : Int) {ts : List Bytes} (h : ts ≠ []) : mkItems indent ts ≠ [] := by
  match ts, h with
  | [t], _ => simp [mkItems]
  | t :: t' :: ts, _ => simp [mkItems]

theorem all2_mkItems {β : Type} {R : Bytes × Bytes → β → Prop} (indent : Int) :
    ∀ (ts : List Bytes) (vs : List β), All2 (fun t v => ∀ w, R (t, w) v) ts vs → All2 R (mkItems indent ts) vs
  | [], _, .nil => .nil
  | [_], _, .cons h .nil => .cons (h _) .nil
  | _ :: t' :: ts, _, .cons h hr => .cons (h _) (all2_mkItems indent (t' :: ts) _ hr)

theorem writeElem_later (indent : Int) (buf v : Bytes) (h : 1 < buf.length) :
    writeElem indent buf v = buf ++ (sepBefore indent false ++ v) := by
  unfold writeElem sepBefore
  have h0 : ¬ buf.length = 0 := by omega
  simp only [h0, if_false]
  split
  · simp
  · simp

theorem foldl_writeElem_later (indent : Int) : ∀ (ts : List Bytes) (buf : Bytes), 1 < buf.length →
    ts.foldl (writeElem indent) buf = buf ++ ts.flatMap (fun t => sepBefore indent false ++ t)
  | [], buf, _ => by simp
  | t :: ts, buf, h => by
    rw [List.foldl_cons, writeElem_later indent buf t h, foldl_writeElem_later indent ts _ (by simp; omega)]
    simp

theorem joinItems_mkItems (indent : Int) : ∀ (t : Bytes) (ts : List Bytes),
    joinItems (mkItems indent (t :: ts)) = t ++ ts.flatMap (fun t => sepBefore indent false ++ t) ++ closeWs indent
  | t, [] => by simp [mkItems, joinItems]
  | t, t' :: ts => by
    rw [mkItems, joinItems, joinItems_mkItems indent t' ts]
    simp

theorem builder_layout (indent : Int) (t : Bytes) (ts : List Bytes) (ht : t ≠ []) :
    builderString indent ((t :: ts).foldl (writeElem indent) []) =
      91 :: (sepBefore indent true ++ (joinItems (mkItems indent (t :: ts)) ++ [93])) := by
  have h1 : writeElem indent [] t = 91 :: (sepBefore indent true ++ t) := by
    unfold writeElem sepBefore
    simp only [List.length_nil, if_true, List.nil_append]
    split <;> simp
  have hl : 1 < (91 :: (sepBefore indent true ++ t)).length := by
    have := List.length_pos_iff.2 ht
    simp; omega
  rw [List.foldl_cons, h1, foldl_writeElem_later indent ts _ hl, joinItems_mkItems]
  unfold builderString closeWs
  rw [if_neg (by simp)]
  split <;> simp

theorem listString_nil (indent : Int) : listString indent [] = 91 :: ([] ++ (joinItems [] ++ [93])) := by
  simp [listString, builderString, joinItems]

theorem mapBuilder_nil (indent : Int) : mapBuilderString indent [] = [91, 38, 93] := by
  simp [mapBuilderString, builderString]

theorem mapBuilder_cons (indent : Int) (t : Bytes) (ts : List Bytes) (ht : t ≠ []) :
    mapBuilderString indent ((t :: ts).foldl (writeElem indent) []) =
      91 :: (sepBefore indent true ++ (joinItems (mkItems indent (t :: ts)) ++ [93])) := by
  unfold mapBuilderString
  rw [builder_layout indent t ts ht, if_neg]
  -- the text is longer than `[]`
  intro h
  have h' := congrArg List.length (beq_iff_eq.1 h)
  have := List.length_pos_iff.2 ht
  rw [joinItems_mkItems] at h'
  simp at h'
  omega

end C04
