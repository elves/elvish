import ElvProofs.C20.Inv
import ElvProofs.C20.Each
/-! The one-worker case (`&num-workers=1`, fixed code).  The single permit makes the callbacks run one at a time, in
input order, and none starts after one has broken or failed.  Without an interrupt the workers form a prefix of
callbacks that ended without break/failure, then at most one more worker, then only skipped inputs: the observations
are those of a sequential left-to-right evaluation that stops at the first bad outcome. -/
namespace C20

theorem pending_le_holding (l : List WPc) : cnt WPc.pending l ≤ cnt WPc.holding l :=
  cnt_le_of_imp l (by intro x hx; cases x <;> first | rfl | cases hx)

theorem badOutcome_le (l : List WPc) : cnt WPc.badOutcome l ≤ cnt WPc.badMarked l + cnt WPc.holding l :=
  cnt_le_add l (by intro x; cases x <;> simp [WPc.badOutcome, WPc.badMarked, WPc.holding, Bool.toNat_le])

theorem badMarked_le_badOutcome (l : List WPc) : cnt WPc.badMarked l ≤ cnt WPc.badOutcome l :=
  cnt_le_of_imp l (by intro x hx; cases x <;> first | exact hx | cases hx)

theorem erred_le_badOutcome (l : List WPc) : cnt WPc.erred l ≤ cnt WPc.badOutcome l :=
  cnt_le_of_imp l (by
    intro x hx
    cases x with
    | marked o | doneW o | exited o => cases o <;> first | rfl | cases hx
    | _ => cases hx)

/-- With one worker: while a callback is about to run or running (or the feeder, holding the
permit, has seen `broken` unset and is about to spawn one), no callback has ended with `break` or a
failure. -/
theorem inv_one_quiet {c : Cfg} {tr s} (h : Run c tr s) (hk : c.k = some 1) (hre : c.recheck = true)
    (hg : Good c s) : (0 < cnt WPc.pending s.ws ∨ s.fpc = .spawning true) → cnt WPc.badOutcome s.ws = 0 := by
  refine Run.inv_of (G := Good c) Good.of_step (P := fun _ s => (0 < cnt WPc.pending s.ws ∨
    s.fpc = .spawning true) → cnt WPc.badOutcome s.ws = 0) (by simp [C20.init, cnt]) ?_ h hg
  intro tr s l s' hr hg ih hst
  obtain ⟨hp1, hp2, hp3, -⟩ := inv_permits hr hk hg
  cases hst with
  | start _ _ hw | markBrk _ _ hw | markExc _ _ hw | release _ _ _ _ _ hw | doneFin _ _ _ hw | doneMarked _ _ _ hw =>
    dsimp only
    rw [cnt_set_same (p := WPc.pending) hw, cnt_set_same (p := WPc.badOutcome) hw]
    exact ih
  | finish i o _ hw =>
    -- the running callback holds the only permit, so nothing else is pending and the feeder has none
    have h1 := cnt_pos WPc.holding hw rfl
    have h2 := pending_le_holding s.ws
    have h3 := cnt_set_pred (p := WPc.pending) (a := .fin o) hw
    rintro (hprem | hprem)
    · dsimp only at hprem; omega
    · dsimp only at hprem; rw [hprem] at hp1; simp only [FPc.perm] at hp1; omega
  | skip1 | acqErrSkip | frel =>
    dsimp only
    rw [cnt_push_same, cnt_push_same]
    exact fun hprem => ih (hprem.imp_right (by simp_all))
  | spawn p _ hpc =>
    dsimp only
    rw [cnt_push_same (p := WPc.badOutcome)]
    refine fun _ => ih (Or.inr ?_)
    cases p with
    | true => exact hpc
    | false => exact absurd hpc hp3
  | chk2 b _ hpc hb =>
    rintro (hprem | hprem)
    · exact ih (Or.inl hprem)
    · -- the feeder holds the only permit and saw `broken` unset: every bad outcome has been marked
      cases b with
      | true => cases hprem
      | false =>
        rw [hpc] at hp1
        simp only [FPc.perm] at hp1
        have h1 : cnt WPc.badMarked s.ws = 0 := by
          have := (inv_broken hr).1
          cases hbr : s.broken with
          | true => rw [hbr] at hb; cases hb
          | false => rw [hbr] at this; simp at this; omega
        have h2 := badOutcome_le s.ws
        dsimp only
        omega
  | acqOk =>
    rw [hre]
    exact fun hprem => ih (hprem.imp_right nofun)
  | pass1u | pass1b | acqErrGo | eof | waitRet => exact fun hprem => ih (hprem.imp_right nofun)
  | _ => exact ih

/-- With one worker, a spawned (not yet started) callback has a larger index than every callback
started so far. -/
theorem inv_one_order {c : Cfg} {tr s} (h : Run c tr s) (hk : c.k = some 1) (hg : Good c s) :
    ∀ i j, s.ws[i]? = some .spawned → atG s.ws j WPc.started = true → j < i := by
  refine Run.inv_of (G := Good c) Good.of_step (P := fun _ s => ∀ i j, s.ws[i]? = some .spawned →
    atG s.ws j WPc.started = true → j < i) (by simp [C20.init]) ?_ h hg
  intro tr s l s' hr hg ih hst i j hi hj
  obtain ⟨hp1, hp2, -, -⟩ := inv_permits hr hk hg
  have he := hst.wsEff
  generalize s'.ws = ws' at he hi hj
  cases he with
  | same => exact ih i j hi hj
  | skip =>
    rw [atG_append _ _ rfl] at hj
    rcases getElem?_append_one hi with hi | ⟨_, hi⟩
    · exact ih i j hi hj
    · cases hi
  | spawn =>
    rw [atG_append _ _ rfl] at hj
    obtain ⟨x, hx, _⟩ := atG_pos hj
    have := List.lt_length_of_getElem? hx
    rcases getElem?_append_one hi with hi | ⟨hi, _⟩
    · exact ih i j hi hj
    · omega
  | @move j0 x a hm hw =>
    rw [getElem?_set_of hw] at hi
    rw [atG_set hw] at hj
    by_cases h0 : j0 = i
    · rw [if_pos h0] at hi; cases hm <;> cases hi
    · rw [if_neg h0] at hi
      by_cases h1 : j0 = j
      · subst h1
        cases hm with
        | start =>
          -- a second spawned worker would hold a second permit
          have := cnt_two WPc.holding hw hi h0 rfl rfl rfl
          omega
        | _ => exact ih i j0 hi (by rw [atG_of_getElem? _ hw]; rfl)
      · rw [if_neg h1] at hj; exact ih i j hi hj

theorem one_starts_sorted {c : Cfg} {tr s} (h : Run c tr s) (hk : c.k = some 1) (hg : Good c s) :
    (startsOf tr).Pairwise (· < ·) := by
  refine Run.inv_of (G := Good c) Good.of_step (P := fun tr _ => (startsOf tr).Pairwise (· < ·))
    (by simp [startsOf]) ?_ h hg
  intro tr s l s' hr hg ih hst
  rw [startsOf_append]
  cases hst with
  | start i _ hw =>
    refine List.pairwise_append.mpr ⟨ih, by simp [startsOf], fun j hj b hb => ?_⟩
    obtain rfl : b = i := by simpa [startsOf] using hb
    exact inv_one_order hr hk hg b j hw ((started_iff_mem hr j).mpr hj)
  | _ => simpa [startsOf] using ih

theorem badOutcome_step {c : Cfg} {s s' : State} {l} (hst : Step c s l s') :
    cnt WPc.badOutcome s'.ws = cnt WPc.badOutcome s.ws ∨
      (∃ j : Nat, s.ws[j]? = some WPc.running ∧ cnt WPc.badOutcome s'.ws ≤ cnt WPc.badOutcome s.ws + 1) := by
  cases hst with
  | finish j o _ hw =>
    have := cnt_set WPc.badOutcome (.fin o) hw
    have := Bool.toNat_le (WPc.badOutcome (.fin o))
    exact Or.inr ⟨j, hw, by dsimp only; omega⟩
  | start _ _ hw | markBrk _ _ hw | markExc _ _ hw | release _ _ _ _ _ hw | doneFin _ _ _ hw | doneMarked _ _ _ hw =>
    exact Or.inl (cnt_set_same hw)
  | skip1 | acqErrSkip | frel | spawn => exact Or.inl cnt_push_same
  | _ => exact Or.inl rfl

theorem inv_one_bad {c : Cfg} {tr s} (h : Run c tr s) (hk : c.k = some 1) (hre : c.recheck = true)
    (hg : Good c s) : cnt WPc.badOutcome s.ws ≤ 1 := by
  refine Run.inv_of (G := Good c) Good.of_step (P := fun _ s => cnt WPc.badOutcome s.ws ≤ 1)
    (by simp [C20.init, cnt]) ?_ h hg
  intro tr s l s' hr hg ih hst
  rcases badOutcome_step hst with h1 | ⟨j, hw, h1⟩
  · omega
  · have := inv_one_quiet hr hk hre hg (Or.inl (cnt_pos WPc.pending hw rfl))
    omega

theorem one_single_exception {c : Cfg} {tr s} (h : Run c tr s) (hk : c.k = some 1) (hre : c.recheck = true)
    (hg : Good c s) : s.err.length ≤ 1 := by
  have h1 := inv_one_bad h hk hre hg
  have h2 := inv_err_length h
  have h3 := erred_le_badOutcome s.ws
  omega

/-- `ws` has the "sequential" shape below index `j`: every earlier worker has exited after a
callback that ended without break/failure. -/
def SeqBefore (ws : List WPc) (j : Nat) : Prop :=
  ∀ i, i < j → ∃ o, ws[i]? = some (.exited o) ∧ o.bad = false

theorem SeqBefore.set {ws : List WPc} {j j0 : Nat} {a x : WPc} (h : SeqBefore ws j)
    (hw : ws[j0]? = some x) (hx : ∀ o, x ≠ .exited o) : SeqBefore (ws.set j0 a) j := by
  intro i hi
  obtain ⟨o, ho, hb⟩ := h i hi
  refine ⟨o, ?_, hb⟩
  rw [getElem?_set_of hw, if_neg, ho]
  rintro rfl
  rw [hw] at ho
  exact hx o (Option.some.inj ho)

theorem SeqBefore.append {ws : List WPc} {j : Nat} {x : WPc} (h : SeqBefore ws j) :
    SeqBefore (ws ++ [x]) j := by
  intro i hi
  obtain ⟨o, ho, hb⟩ := h i hi
  refine ⟨o, ?_, hb⟩
  rw [List.getElem?_append_left (List.lt_length_of_getElem? ho)]; exact ho

/-- One worker, no interrupt: whenever the input `j` was not skipped, every earlier input's
callback has run to its end without break/failure and its worker has exited. -/
theorem inv_one_prefix {c : Cfg} {tr s} (h : Run c tr s) (hk : c.k = some 1) (hre : c.recheck = true)
    (hnc : s.cancelled = false) : ∀ j x, s.ws[j]? = some x → x ≠ .skipped → SeqBefore s.ws j := by
  refine Run.inv_of (G := fun s => s.cancelled = false) nc_of_step (P := fun _ s => ∀ j x, s.ws[j]? = some x →
    x ≠ .skipped → SeqBefore s.ws j) (by simp [C20.init]) ?_ h hnc
  intro tr s l s' hr hnc ih hst j x hj hx
  by_cases hl : l = .spawn
  · subst hl
    cases hst with
    | spawn p _ hpc =>
      rcases getElem?_append_one hj with h1 | ⟨rfl, _⟩
      · exact (ih j x h1 hx).append
      · -- the new worker: the feeder holds the only permit, nothing has ended badly, so `broken`
        -- is unset and no input has been skipped: every worker so far has exited
        have hg : Good c s := good_of_nc hnc
        obtain ⟨hp1, hp2, hp3, -⟩ := inv_permits hr hk hg
        obtain rfl : p = true := by
          cases p with
          | true => rfl
          | false => exact absurd hpc hp3
        rw [hpc] at hp1
        simp only [FPc.perm] at hp1
        have hh : cnt WPc.holding s.ws = 0 := by omega
        have hq := inv_one_quiet hr hk hre hg (Or.inr hpc)
        have hns : cnt WPc.isSkipped s.ws = 0 := by
          refine Nat.eq_zero_of_not_pos fun h0 => ?_
          have := (inv_broken hr).1.mp (inv_skip_broken hr hnc h0)
          have := badMarked_le_badOutcome s.ws
          omega
        intro i hi
        have hgi : s.ws[i]? = some s.ws[i] := List.getElem?_eq_getElem hi
        have h1 := cnt_eq_zero hh hgi
        have h2 := cnt_eq_zero hq hgi
        have h3 := cnt_eq_zero hns hgi
        rw [List.getElem?_append_left hi, hgi]
        cases hy : s.ws[i] with
        | exited o => rw [hy] at h2; exact ⟨o, rfl, h2⟩
        | skipped => rw [hy] at h3; cases h3
        | _ => rw [hy] at h1; cases h1
  · have he := hst.wsEff
    generalize s'.ws = ws' at he hj ⊢
    cases he with
    | same => exact ih j x hj hx
    | skip =>
      rcases getElem?_append_one hj with h1 | ⟨_, h2⟩
      · exact (ih j x h1 hx).append
      · exact absurd h2 hx
    | spawn hs => exact absurd hs hl
    | @move j0 y a hm hw =>
      -- the worker that moves was neither skipped nor exited
      have hy1 : y ≠ .skipped := by rintro rfl; cases hm
      have hy2 : ∀ o, y ≠ .exited o := by rintro o rfl; cases hm
      rw [getElem?_set_of hw] at hj
      by_cases hji : j0 = j
      · subst hji; exact (ih j0 y hw hy1).set hw hy2
      · rw [if_neg hji] at hj; exact (ih j x hj hx).set hw hy2

theorem one_before_started {c : Cfg} {tr s} (h : Run c tr s) (hk : c.k = some 1) (hre : c.recheck = true)
    (hnc : s.cancelled = false) {j : Nat} (hj : atG s.ws j WPc.started = true) : SeqBefore s.ws j := by
  obtain ⟨x, hx, hs⟩ := atG_pos hj
  exact inv_one_prefix h hk hre hnc j x hx (by rintro rfl; cases hs)

theorem inv_one_outs_sorted {c : Cfg} {tr s} (h : Run c tr s) (hk : c.k = some 1) (hre : c.recheck = true)
    (hnc : s.cancelled = false) : s.outs.Pairwise (fun a b => a.1 ≤ b.1) := by
  refine Run.inv_of (G := fun s => s.cancelled = false) nc_of_step
    (P := fun _ s => s.outs.Pairwise (fun a b => a.1 ≤ b.1)) (by simp [C20.init]) ?_ h hnc
  intro tr s l s' hr hnc ih hst
  cases hst with
  | out i v _ hw =>
    refine List.pairwise_append.mpr ⟨ih, by simp, fun a ha b hb => ?_⟩
    obtain rfl : b = (i, v) := by simpa using hb
    -- a later callback that has written is started, so `i` would have exited already
    refine Nat.le_of_not_lt fun hlt => ?_
    obtain ⟨o, ho, _⟩ := one_before_started hr hk hre hnc (inv_outs_started hr a.1 a.2 ha) i hlt
    rw [hw] at ho; cases ho
  | _ => exact ih

section
variable {c : Cfg} {tr : List Label} {s : State} (h : Run c tr s) (hk : c.k = some 1) (hre : c.recheck = true)
  (hnc : s.cancelled = false)
include h hk hre hnc

theorem one_starts_range : startsOf tr = List.range (startsOf tr).length := by
  refine sorted_closed_eq_range _ (one_starts_sorted h hk (good_of_nc hnc)) fun j hj i hij => ?_
  rw [← started_iff_mem h] at hj ⊢
  obtain ⟨o, ho, _⟩ := one_before_started h hk hre hnc hj i hij
  rw [atG_of_getElem? _ ho]; rfl

theorem one_started_iff (j : Nat) : atG s.ws j WPc.started = true ↔ j < (startsOf tr).length :=
  (started_iff_mem h j).trans (by
    rw [one_starts_range h hk hre hnc, List.length_range]; exact List.mem_range)

theorem one_good_prefix (j : Nat) (hj : j + 1 < (startsOf tr).length) :
    ∃ o, s.ws[j]? = some (.exited o) ∧ o.bad = false :=
  one_before_started h hk hre hnc ((one_started_iff h hk hre hnc _).mpr hj) j (Nat.lt_succ_self j)

/-- If `peach` returns without having started a callback for every input, the last callback
started ended with `break` or a failure. -/
theorem one_stopped (hret : s.fpc = .ret) (hlt : (startsOf tr).length < c.n) :
    0 < (startsOf tr).length ∧ ∃ o, Label.finish ((startsOf tr).length - 1) o ∈ tr ∧ o.bad = true := by
  have hiff := one_started_iff h hk hre hnc
  have hgood := one_good_prefix h hk hre hnc
  generalize (startsOf tr).length = p at hlt hiff hgood ⊢
  have hlen := (inv_ret h).2 (Or.inr hret)
  -- the input `p` was consumed without a callback: it was skipped, so `broken` was set
  have hp : p < s.ws.length := by omega
  have hy : s.ws[p]? = some s.ws[p] := List.getElem?_eq_getElem hp
  have hns : WPc.started s.ws[p] = false := by
    cases hb : WPc.started s.ws[p] with
    | false => rfl
    | true => have := (hiff p).mp ((atG_of_getElem? _ hy).trans hb); omega
  have hsk : WPc.isSkipped s.ws[p] = true := by
    simpa [hns] using (started_of_settled (settled_at_ret h hret hy)).symm
  obtain ⟨b, x, hb, hx⟩ := cnt_pos_elim ((inv_broken h).1.mp (inv_skip_broken h hnc (cnt_pos _ hy hsk)))
  obtain ⟨o, ho, hbad⟩ := outcome_of_badMarked hx
  -- by a worker that was started, and is not in the prefix that ended well
  have hbp : b < p := (hiff b).mp ((atG_of_getElem? _ hb).trans (started_of_outcome ho))
  have hbl : ¬ b + 1 < p := fun h1 => by
    obtain ⟨o', ho', hob⟩ := hgood b h1
    rw [hb] at ho'
    cases ho'
    cases ho
    rw [hob] at hbad
    cases hbad
  rw [show p - 1 = b by omega]
  exact ⟨by omega, o, mem_finish_of_at h b o x hb ho, hbad⟩

theorem one_err (hret : s.fpc = .ret) :
    s.err = (List.range (startsOf tr).length).filter (fun j => decide (Label.finish j .exc ∈ tr)) := by
  apply sorted_ext
  · have := one_single_exception h hk hre (good_of_nc hnc)
    match hs : s.err, this with
    | [], _ => exact List.Pairwise.nil
    | [a], _ => exact List.pairwise_singleton _ _
    | _ :: _ :: _, hl => simp at hl
  · exact List.pairwise_lt_range.filter _
  · intro i
    rw [List.mem_filter, List.mem_range, ← List.count_pos_iff, err_count_eq h hret, List.count_pos_iff,
      decide_eq_true_iff]
    refine ⟨fun hm => ⟨?_, hm⟩, fun hm => hm.2⟩
    obtain ⟨x, hx, hxo⟩ := finish_at h i .exc hm
    exact (one_started_iff h hk hre hnc i).mp ((atG_of_getElem? _ hx).trans (started_of_outcome hxo))

end

/-- The run's sequential shape (the callbacks started are the first `p` inputs in order, all but the last ended well,
and the last ended badly if an input was left over) is matched with the closed form `eachFrom_eq` of `each`. -/
theorem one_worker_eq_each {c : Cfg} {tr : List Label} {s : State} (h : Run c tr s) (hk : c.k = some 1)
    (hre : c.recheck = true) (hret : s.fpc = .ret) (hnc : Label.cancel ∉ tr) (cb : Nat → List Nat × Outcome)
    (hfin : ∀ i o, Label.finish i o ∈ tr → o = (cb i).2)
    (houts : ∀ i, Label.start i ∈ tr → (outsOf tr).filter (·.1 = i) = (cb i).1.map (fun v => (i, v))) :
    ({ starts := startsOf tr, outs := s.outs, err := s.err } : EachObs) = eachRun cb c.n := by
  have hcan : s.cancelled = false := nc_of_not_mem h hnc
  have hrange := one_starts_range h hk hre hcan
  have hiff := one_started_iff h hk hre hcan
  have hgood := one_good_prefix h hk hre hcan
  have hstop := one_stopped h hk hre hcan hret
  have herr := one_err h hk hre hcan hret
  generalize (startsOf tr).length = p at hrange hiff hgood hstop herr
  have hstarted : ∀ j, j < p → Label.start j ∈ tr := fun j hj =>
    (mem_startsOf tr j).mp ((started_iff_mem h j).mp ((hiff j).mpr hj))
  -- a callback started has finished, with the outcome the table says
  have hfinished : ∀ j, j < p → Label.finish j (cb j).2 ∈ tr := by
    intro j hj
    obtain ⟨x, hx, hs⟩ := atG_pos ((hiff j).mpr hj)
    obtain ⟨o, ho⟩ := outcome_of_settled (settled_at_ret h hret hx) hs
    have hm := mem_finish_of_at h j o x hx ho
    rwa [hfin j o hm] at hm
  have hle : p ≤ c.n := by
    rcases Nat.eq_zero_or_pos p with h0 | h0
    · omega
    · obtain ⟨x, hx, _⟩ := atG_pos ((hiff (p - 1)).mpr (by omega))
      have := List.lt_length_of_getElem? hx
      have := (inv_ret h).2 (Or.inr hret)
      omega
  have hstarts : startsOf tr = List.range' 0 p := by rw [hrange, List.range_eq_range']
  have houtsEq : s.outs = (List.range' 0 p).flatMap (fun j => (cb j).1.map (fun v => (j, v))) := by
    apply sorted_eq_flatMap _ p 0 s.outs (inv_one_outs_sorted h hk hre hcan)
    · intro x hx
      have := (hiff x.1).mp (inv_outs_started h x.1 x.2 hx)
      omega
    · intro i _ hi
      rw [inv_outs h]; exact houts i (hstarted i (by omega))
  have herrEq : s.err = (List.range' 0 p).filter (fun j => decide ((cb j).2 = .exc)) := by
    rw [herr, ← List.range_eq_range']
    apply List.filter_congr
    intro j hj
    rw [decide_eq_decide]
    constructor
    · exact fun hm => (hfin j .exc hm).symm
    · intro he; rw [← he]; exact hfinished j (List.mem_range.mp hj)
  unfold eachRun
  rw [eachFrom_eq cb c.n 0 p hle, hstarts, houtsEq, herrEq]
  · intro j _ hj
    obtain ⟨o, ho, hb⟩ := hgood j (by omega)
    rw [← hfin j o (mem_finish_of_at h j o _ ho rfl)]; exact hb
  · intro hpn
    obtain ⟨hpos, o, hm, hb⟩ := hstop hpn
    refine ⟨hpos, ?_⟩
    rw [Nat.zero_add, ← hfin _ o hm]; exact hb

end C20
