import ElvProofs.C20.Basic
/-! Invariants of the `peach` transition system for every configuration, each proved by induction
over `Run`: what the counters count, what the trace says about each worker, when `broken` is set
and why an input is skipped. -/
namespace C20

theorem Step.cancelled_mono {c : Cfg} {s s' : State} {l} (hst : Step c s l s') :
    s.cancelled = true → s'.cancelled = true := by
  cases hst with
  | cancel => exact fun _ => rfl
  | _ => exact id

theorem nc_of_step {c : Cfg} {s s' : State} {l} (hst : Step c s l s') (h : s'.cancelled = false) :
    s.cancelled = false := by
  cases hc : s.cancelled with
  | false => rfl
  | true => rw [hst.cancelled_mono hc] at h; cases h

theorem inv_cancelled {c : Cfg} {tr s} (h : Run c tr s) : s.cancelled = true ↔ Label.cancel ∈ tr := by
  refine Run.inv (P := fun tr s => s.cancelled = true ↔ Label.cancel ∈ tr) (by simp [C20.init]) ?_ h
  intro tr s l s' _ ih hst
  cases hst with
  | cancel => simp
  | _ => simpa using ih

/-- the configuration/state combinations in which `Acquire`'s error cannot be ignored:
the fix is in, or the context has not been cancelled -/
def Good (c : Cfg) (s : State) : Prop := c.checkAcq = true ∨ s.cancelled = false

theorem Good.of_step {c : Cfg} {s s' : State} {l} (hst : Step c s l s') (hg : Good c s') : Good c s :=
  hg.imp id (nc_of_step hst)

theorem good_of_nc {c : Cfg} {s : State} (h : s.cancelled = false) : Good c s := Or.inr h

theorem nc_of_not_mem {c : Cfg} {tr s} (h : Run c tr s) (hn : Label.cancel ∉ tr) : s.cancelled = false := by
  cases hc : s.cancelled with
  | false => rfl
  | true => exact absurd ((inv_cancelled h).mp hc) hn

theorem good_of {c : Cfg} {tr s} (h : Run c tr s) (hg : c.checkAcq = true ∨ Label.cancel ∉ tr) :
    Good c s :=
  hg.imp id (nc_of_not_mem h)

theorem inv_wg {c : Cfg} {tr s} (h : Run c tr s) : s.wg = cnt WPc.undone s.ws := by
  refine Run.inv (P := fun _ s => s.wg = cnt WPc.undone s.ws) rfl ?_ h
  intro tr s l s' _ ih hst
  cases hst with
  | skip1 | acqErrSkip | frel => exact ih.trans (cnt_push_same).symm
  | spawn => exact (congrArg (· + 1) ih).trans (cnt_push_succ).symm
  | start _ _ hw | finish _ _ _ hw | markBrk _ _ hw | markExc _ _ hw | release _ _ _ _ _ hw =>
    exact ih.trans (cnt_set_same hw).symm
  | doneFin i o _ hw _ h0 | doneMarked i o _ hw h0 =>
    have := cnt_set_pred (p := WPc.undone) (a := .doneW o) hw
    dsimp only
    omega
  | _ => exact ih

theorem wg_pos {c : Cfg} {tr s} (h : Run c tr s) {i : Nat} {p : WPc} {o : Outcome} (hw : s.ws[i]? = some p)
    (ho : p.doneOutcome = some o) : 0 < s.wg := by
  rw [inv_wg h]
  apply cnt_pos WPc.undone hw
  rcases doneOutcome_cases ho with ⟨rfl, _⟩ | rfl <;> rfl

/-- permits the feeder itself holds -/
def FPc.perm : FPc → Nat
  | .chk2 => 1
  | .frel => 1
  | .spawning true => 1
  | _ => 0

theorem inv_permits {c : Cfg} {K : Nat} {tr s} (h : Run c tr s) (hk : c.k = some K) (hg : Good c s) :
    s.held = cnt WPc.holding s.ws + s.fpc.perm ∧ s.held ≤ K ∧ s.fpc ≠ .spawning false ∧ s.panicked = false := by
  refine Run.inv_of (G := Good c) Good.of_step (P := fun _ s => s.held = cnt WPc.holding s.ws + s.fpc.perm ∧
    s.held ≤ K ∧ s.fpc ≠ .spawning false ∧ s.panicked = false) (by simp [C20.init, cnt, FPc.perm]) ?_ h hg
  intro tr s l s' hr hg ⟨ih1, ih2, ih3, ih4⟩ hst
  cases hst with
  | start _ _ hw | finish _ _ _ hw | markBrk _ _ hw | markExc _ _ hw | doneFin _ _ _ hw | doneMarked _ _ _ hw =>
    dsimp only
    rw [cnt_set_same hw]
    exact ⟨ih1, ih2, ih3, ih4⟩
  | donePanic i p o _ hw ho h0 => have := wg_pos hr hw ho; omega
  | release i o K' _ _ hw h0 =>
    have := cnt_set_pred (p := WPc.holding) (a := .exited o) hw
    exact ⟨by dsimp only; omega, by dsimp only; omega, ih3, ih4⟩
  | relPanic i o K' _ _ hw h0 => have := cnt_pos WPc.holding hw rfl; omega
  | pass1u _ _ _ _ hku => rw [hk] at hku; cases hku
  | pass1b K' _ hpc => rw [hpc] at ih1; exact ⟨ih1, ih2, by simp, ih4⟩
  | acqOk K' _ hk' hpc hlt =>
    rw [hk] at hk'; cases hk'
    rw [hpc] at ih1
    cases c.recheck <;> simp [FPc.perm, ih4] at ih1 ⊢ <;> omega
  | skip1 => dsimp only; rw [cnt_push_same]; exact ⟨ih1, ih2, ih3, ih4⟩
  | acqErrSkip _ hpc => rw [hpc] at ih1; dsimp only; rw [cnt_push_same]; exact ⟨ih1, ih2, by simp, ih4⟩
  | acqErrGo _ _ hcan hca => rcases hg with hg | hg <;> simp_all
  | chk2 b _ hpc => rw [hpc] at ih1; cases b <;> simpa [FPc.perm, ih4] using ⟨ih1, ih2⟩
  | frelPanic _ hpc h0 => rw [hpc, h0] at ih1; simp [FPc.perm] at ih1
  | frel _ hpc h0 =>
    rw [hpc] at ih1
    dsimp only
    rw [cnt_push_same]
    exact ⟨by simp only [FPc.perm] at ih1 ⊢; omega, by omega, by simp, ih4⟩
  | spawn p _ hpc =>
    rw [hpc] at ih1 ih3
    cases p with
    | false => exact absurd rfl ih3
    | true => dsimp only; rw [cnt_push_succ]; exact ⟨by simp only [FPc.perm] at ih1 ⊢; omega, ih2, by simp, ih4⟩
  | eof _ hpc | waitRet _ hpc => rw [hpc] at ih1; simpa [FPc.perm, ih4] using ⟨ih1, ih2⟩
  | _ => exact ⟨ih1, ih2, ih3, ih4⟩

theorem inv_unbounded {c : Cfg} {tr s} (h : Run c tr s) (hk : c.k = none) :
    s.held = 0 ∧ s.panicked = false ∧
      (s.fpc = .top ∨ s.fpc = .spawning false ∨ s.fpc = .waiting ∨ s.fpc = .ret) := by
  refine Run.inv (P := fun _ s => s.held = 0 ∧ s.panicked = false ∧
      (s.fpc = .top ∨ s.fpc = .spawning false ∨ s.fpc = .waiting ∨ s.fpc = .ret)) (by simp [C20.init]) ?_ h
  intro tr s l s' hr ⟨ih1, ih2, ih3⟩ hst
  cases hst with
  | pass1b _ _ _ _ _ hk' | acqOk _ _ hk' | relPanic _ _ _ _ hk' | release _ _ _ _ hk' => rw [hk] at hk'; cases hk'
  | acqErrSkip _ hpc | acqErrGo _ hpc | chk2 _ _ hpc | frelPanic _ hpc | frel _ hpc =>
    rw [hpc] at ih3; simp at ih3
  | pass1u => exact ⟨ih1, ih2, .inr (.inl rfl)⟩
  | spawn => exact ⟨ih1, ih2, .inl rfl⟩
  | eof => exact ⟨ih1, ih2, .inr (.inr (.inl rfl))⟩
  | waitRet => exact ⟨ih1, ih2, .inr (.inr (.inr rfl))⟩
  | donePanic i p o _ hw ho h0 => have := wg_pos hr hw ho; omega
  | _ => exact ⟨ih1, ih2, ih3⟩

theorem inv_start_count {c : Cfg} {tr s} (h : Run c tr s) (i : Nat) :
    tr.count (.start i) = (s.at i WPc.started).toNat := by
  refine Run.inv (P := fun tr s => tr.count (.start i) = (atG s.ws i WPc.started).toNat)
    (by simp [C20.init, atG]) ?_ h
  intro tr s l s' _ ih hst
  rw [List.count_append, ih]
  by_cases hl : l = .start i
  · subst hl
    cases hst with
    | start _ _ hw => simp [atG_set hw, atG_of_getElem? _ hw, WPc.started]
  · rw [hst.wsEff.at_frame i rfl rfl, List.count_singleton, beq_false_of_ne hl]; rfl
    intro x a hm
    cases hm with
    | start => exact absurd rfl hl
    | _ => rfl

theorem inv_finish_count {c : Cfg} {tr s} (h : Run c tr s) (i : Nat) (o : Outcome) :
    tr.count (.finish i o) = (s.at i (WPc.hasOutcome o)).toNat := by
  refine Run.inv (P := fun tr s => tr.count (.finish i o) = (atG s.ws i (WPc.hasOutcome o)).toNat)
    (by simp [C20.init, atG]) ?_ h
  intro tr s l s' _ ih hst
  rw [List.count_append, ih]
  by_cases hl : l = .finish i o
  · subst hl
    cases hst with
    | finish _ _ _ hw => simp [atG_set hw, atG_of_getElem? _ hw, WPc.hasOutcome, WPc.outcome]
  · rw [hst.wsEff.at_frame i rfl rfl, List.count_singleton, beq_false_of_ne hl]; rfl
    intro x a hm
    cases hm with
    | finish _ o' =>
      have : o' ≠ o := fun ho => hl (ho ▸ rfl)
      simp [WPc.hasOutcome, WPc.outcome, this]
    | _ => rfl

theorem mem_finish_of_at {c : Cfg} {tr s} (h : Run c tr s) (i : Nat) (o : Outcome) (x : WPc)
    (hw : s.ws[i]? = some x) (hx : x.outcome = some o) : Label.finish i o ∈ tr := by
  apply List.count_pos_iff.mp
  rw [inv_finish_count h i o, State.at, atG_of_getElem? _ hw]
  simp [WPc.hasOutcome, hx]

theorem finish_at {c : Cfg} {tr s} (h : Run c tr s) (j : Nat) (o : Outcome) (hm : Label.finish j o ∈ tr) :
    ∃ x, s.ws[j]? = some x ∧ x.outcome = some o := by
  have hpos := List.count_pos_iff.mpr hm
  rw [inv_finish_count h j o] at hpos
  obtain ⟨x, hx, hxo⟩ := atG_pos (ws := s.ws) (i := j) (f := WPc.hasOutcome o)
    (by cases hb : s.at j (WPc.hasOutcome o) <;> simp_all)
  exact ⟨x, hx, by simpa [WPc.hasOutcome] using hxo⟩

theorem mem_startsOf (tr : List Label) (j : Nat) : j ∈ startsOf tr ↔ Label.start j ∈ tr := by
  induction tr with
  | nil => simp [startsOf]
  | cons x t ih => cases x <;> simp [startsOf, ih]

theorem started_iff_mem {c : Cfg} {tr s} (h : Run c tr s) (j : Nat) :
    atG s.ws j WPc.started = true ↔ j ∈ startsOf tr := by
  rw [mem_startsOf, ← List.count_pos_iff, inv_start_count h j, State.at]
  cases atG s.ws j WPc.started <;> simp

theorem start_at {c : Cfg} {tr s} (h : Run c tr s) (j : Nat) (hm : Label.start j ∈ tr) :
    atG s.ws j WPc.started = true :=
  (started_iff_mem h j).mpr ((mem_startsOf tr j).mpr hm)

theorem inv_err_count {c : Cfg} {tr s} (h : Run c tr s) (i : Nat) :
    s.err.count i = (s.at i WPc.erred).toNat := by
  refine Run.inv (P := fun _ s => s.err.count i = (atG s.ws i WPc.erred).toNat)
    (by simp [C20.init, atG]) ?_ h
  intro tr s l s' _ ih hst
  by_cases hl : l = .mark i
  · subst hl
    cases hst with
    | markBrk _ _ hw => simpa [atG_set hw, atG_of_getElem? _ hw, WPc.erred] using ih
    | markExc _ _ hw => simpa [atG_set hw, atG_of_getElem? _ hw, WPc.erred, List.count_append] using ih
  · rw [hst.wsEff.at_frame i rfl rfl]
    · cases hst with
      | markExc j =>
        have : j ≠ i := fun hj => hl (hj ▸ rfl)
        simpa [List.count_append, List.count_singleton, this] using ih
      | _ => exact ih
    · intro x a hm
      cases hm with
      | markBrk | markExc => exact absurd rfl hl
      | doneFin _ o hb => cases o <;> first | rfl | cases hb
      | doneMarked _ o | release _ o => cases o <;> rfl
      | _ => rfl

theorem inv_err_length {c : Cfg} {tr s} (h : Run c tr s) : s.err.length = cnt WPc.erred s.ws := by
  refine Run.inv (P := fun _ s => s.err.length = cnt WPc.erred s.ws) rfl ?_ h
  intro tr s l s' _ ih hst
  cases hst with
  | skip1 | acqErrSkip | frel | spawn => exact ih.trans (cnt_push_same).symm
  | start _ _ hw | finish _ _ _ hw | markBrk _ _ hw => exact ih.trans (cnt_set_same hw).symm
  | markExc i _ hw =>
    dsimp only
    rw [cnt_set_succ hw, List.length_append, ih]
    rfl
  | doneFin i o _ hw hb => exact ih.trans (cnt_set_same hw (by cases o <;> first | rfl | cases hb)).symm
  | doneMarked i o _ hw => exact ih.trans (cnt_set_same hw (by cases o <;> rfl)).symm
  | release i o _ _ _ hw => exact ih.trans (cnt_set_same hw (by cases o <;> rfl)).symm
  | _ => exact ih

theorem inv_ret {c : Cfg} {tr s} (h : Run c tr s) :
    (s.fpc = .ret → s.wg = 0) ∧ (s.fpc = .waiting ∨ s.fpc = .ret → s.ws.length = c.n) := by
  refine Run.inv (P := fun _ s => (s.fpc = .ret → s.wg = 0) ∧ (s.fpc = .waiting ∨ s.fpc = .ret → s.ws.length = c.n))
    (by simp [C20.init]) ?_ h
  intro tr s l s' _ ih hst
  cases hst with
  | eof _ _ hn => exact ⟨by simp, fun _ => hn⟩
  | waitRet _ hpc h0 => exact ⟨fun _ => h0, fun _ => ih.2 (Or.inl hpc)⟩
  | doneFin i o _ hw _ h0 | doneMarked i o _ hw h0 => exact ⟨fun hf => absurd (ih.1 hf) h0, by simpa using ih.2⟩
  | start | finish | markBrk | markExc | release => simpa using ih
  | skip1 _ hpc => simp [hpc]
  | pass1u | pass1b | acqErrSkip | acqErrGo | frel | spawn => simp
  | acqOk => cases c.recheck <;> simp
  | chk2 b => cases b <;> simp
  | _ => exact ih

theorem settled_at_ret {c : Cfg} {tr s} (h : Run c tr s) (hret : s.fpc = .ret) {i : Nat} {x : WPc}
    (hx : s.ws[i]? = some x) : x.undone = false :=
  cnt_eq_zero ((inv_wg h).symm.trans ((inv_ret h).1 hret)) hx

theorem err_count_eq {c : Cfg} {tr s} (h : Run c tr s) (hret : s.fpc = .ret) (i : Nat) :
    s.err.count i = tr.count (.finish i .exc) := by
  rw [inv_err_count h i, inv_finish_count h i .exc]
  cases hg : s.ws[i]? with
  | none => simp [atG, hg]
  | some x =>
    rw [State.at, atG_of_getElem? _ hg, State.at, atG_of_getElem? _ hg]
    have := settled_at_ret h hret hg
    cases x with
    | doneW o | exited o => cases o <;> rfl
    | skipped => rfl
    | _ => cases this

theorem outsOf_append (a b : List Label) : outsOf (a ++ b) = outsOf a ++ outsOf b := by
  induction a with
  | nil => rfl
  | cons x t ih => cases x <;> simp [outsOf, ih]

theorem startsOf_append (a b : List Label) : startsOf (a ++ b) = startsOf a ++ startsOf b := by
  induction a with
  | nil => rfl
  | cons x t ih => cases x <;> simp [startsOf, ih]

theorem inv_outs {c : Cfg} {tr s} (h : Run c tr s) : s.outs = outsOf tr := by
  refine Run.inv (P := fun tr s => s.outs = outsOf tr) rfl ?_ h
  intro tr s l s' _ ih hst
  rw [outsOf_append]
  cases hst with
  | out i v => simp [outsOf, ih]
  | _ => simpa [outsOf] using ih

theorem started_mono {c : Cfg} {s s' : State} {l} (hst : Step c s l s') (i : Nat)
    (h : s.at i WPc.started = true) : s'.at i WPc.started = true := by
  rcases hst.wsEff.at_cases i (f := WPc.started) rfl rfl with h1 | ⟨x, a, hm, _, h2⟩
  · exact h1.trans h
  · rw [State.at, h2]
    cases hm <;> rfl

theorem inv_outs_started {c : Cfg} {tr s} (h : Run c tr s) :
    ∀ i v, (i, v) ∈ s.outs → s.at i WPc.started = true := by
  refine Run.inv (P := fun _ s => ∀ i v, (i, v) ∈ s.outs → s.at i WPc.started = true)
    (by simp [C20.init]) ?_ h
  intro tr s l s' _ ih hst i v hm
  refine started_mono hst i ?_
  cases hst with
  | out j w _ hw =>
    rcases List.mem_append.mp hm with hm | hm
    · exact ih i v hm
    · obtain ⟨rfl, rfl⟩ : i = j ∧ v = w := by simpa using hm
      rw [State.at, atG_of_getElem? _ hw]; rfl
  | _ => exact ih i v hm

theorem inv_broken {c : Cfg} {tr s} (h : Run c tr s) :
    (s.broken = true ↔ 0 < cnt WPc.badMarked s.ws) ∧ (s.fpc = .frel → s.broken = true) := by
  refine Run.inv (P := fun _ s => (s.broken = true ↔ 0 < cnt WPc.badMarked s.ws) ∧
    (s.fpc = .frel → s.broken = true)) (by simp [C20.init, cnt]) ?_ h
  intro tr s l s' _ ⟨ih1, ih2⟩ hst
  cases hst with
  | skip1 _ hpc => dsimp only; rw [cnt_push_same]; exact ⟨ih1, ih2⟩
  | acqErrSkip | frel | spawn => dsimp only; rw [cnt_push_same]; exact ⟨ih1, by simp⟩
  | start _ _ hw | finish _ _ _ hw | release _ _ _ _ _ hw | doneMarked _ _ _ hw =>
    dsimp only; rw [cnt_set_same hw]; exact ⟨ih1, ih2⟩
  | doneFin _ _ _ hw hb => dsimp only; rw [cnt_set_same hw hb]; exact ⟨ih1, ih2⟩
  | markBrk i _ hw | markExc i _ hw =>
    dsimp only
    rw [cnt_set_succ hw]
    exact ⟨by simp, fun _ => rfl⟩
  | pass1u | pass1b | acqErrGo | eof | waitRet => exact ⟨ih1, by simp⟩
  | acqOk => exact ⟨ih1, by cases c.recheck <;> simp⟩
  | chk2 b _ _ hb => exact ⟨ih1, by cases b <;> simp [← hb]⟩
  | _ => exact ⟨ih1, ih2⟩

theorem cnt_pos_elim {p : WPc → Bool} {l : List WPc} (h : 0 < cnt p l) :
    ∃ (i : Nat) (x : WPc), l[i]? = some x ∧ p x = true := by
  obtain ⟨x, hx, hp⟩ := List.countP_pos_iff.mp h
  obtain ⟨i, hi⟩ := List.mem_iff_getElem?.mp hx
  exact ⟨i, x, hi, hp⟩

theorem bad_finish_of_broken {c : Cfg} {tr s} (h : Run c tr s) (hb : s.broken = true) :
    ∃ i o, Label.finish i o ∈ tr ∧ o.bad = true := by
  obtain ⟨i, x, hi, hx⟩ := cnt_pos_elim ((inv_broken h).1.mp hb)
  obtain ⟨o, ho, hbad⟩ := outcome_of_badMarked hx
  exact ⟨i, o, mem_finish_of_at h i o x hi ho, hbad⟩

theorem inv_skip_cause {c : Cfg} {tr s} (h : Run c tr s) :
    0 < cnt WPc.isSkipped s.ws → s.broken = true ∨ (Label.acqErr ∈ tr ∧ s.cancelled = true) := by
  refine Run.inv (P := fun tr s => 0 < cnt WPc.isSkipped s.ws →
    s.broken = true ∨ (Label.acqErr ∈ tr ∧ s.cancelled = true)) (by simp [C20.init, cnt]) ?_ h
  intro tr s l s' hr ih hst
  have keep : s.broken = true ∨ (Label.acqErr ∈ tr ∧ s.cancelled = true) →
      s.broken = true ∨ (Label.acqErr ∈ tr ++ [l] ∧ s.cancelled = true) :=
    Or.imp_right (And.imp_left (List.mem_append_left _))
  cases hst with
  | skip1 _ _ _ hb => exact fun _ => Or.inl hb
  | acqErrSkip _ _ hcan => exact fun _ => Or.inr ⟨by simp, hcan⟩
  | frel _ hpc => exact fun _ => Or.inl ((inv_broken hr).2 hpc)
  | markBrk | markExc => exact fun _ => Or.inl rfl
  | cancel => exact fun hp => (keep (ih hp)).imp_right (And.imp_right fun _ => rfl)
  | spawn => exact fun hp => keep (ih (by rwa [cnt_push_same] at hp))
  | start _ _ hw | finish _ _ _ hw | release _ _ _ _ _ hw | doneFin _ _ _ hw | doneMarked _ _ _ hw =>
    exact fun hp => keep (ih (by rwa [cnt_set_same hw] at hp))
  | _ => exact fun hp => keep (ih hp)

theorem inv_skip_broken {c : Cfg} {tr s} (h : Run c tr s) (hnc : s.cancelled = false)
    (hpos : 0 < cnt WPc.isSkipped s.ws) : s.broken = true := by
  rcases inv_skip_cause h hpos with hb | ⟨_, hc⟩
  · exact hb
  · rw [hnc] at hc; cases hc

theorem inv_noskip {c : Cfg} {tr s} (h : Run c tr s) (hfin : ∀ i o, Label.finish i o ∈ tr → o.bad = false)
    (hacq : Label.acqErr ∉ tr) : s.broken = false ∧ cnt WPc.isSkipped s.ws = 0 := by
  have hb : s.broken = false := by
    cases hb : s.broken with
    | false => rfl
    | true =>
      obtain ⟨i, o, hm, ho⟩ := bad_finish_of_broken h hb
      rw [hfin i o hm] at ho; cases ho
  refine ⟨hb, Nat.eq_zero_of_not_pos fun hpos => ?_⟩
  rcases inv_skip_cause h hpos with hb' | ⟨hm, _⟩
  · rw [hb] at hb'; cases hb'
  · exact hacq hm

end C20
