import ElvModel.C20.Model
/-! A successful `replay` is a `Run` (used to build concrete witnesses by evaluation). -/
namespace C20

/-- Stated for any labelled transition system; the systems of C19 and C20 instantiate it. -/
theorem replay_sound {σ lab : Type} {step : σ → lab → Option σ} {R : List lab → σ → Prop}
    {replay : σ → Nat → List lab → σ ⊕ Nat}
    (hnil : ∀ s i, replay s i [] = .inl s)
    (hsome : ∀ s i l ls s', step s l = some s' → replay s i (l :: ls) = replay s' (i + 1) ls)
    (hnone : ∀ s i l ls, step s l = none → replay s i (l :: ls) = .inr i)
    (hstep : ∀ {tr s l s'}, R tr s → step s l = some s' → R (tr ++ [l]) s') (ls : List lab) :
    ∀ {pre : List lab} {s0 s : σ} {i : Nat}, R pre s0 → replay s0 i ls = .inl s → R (pre ++ ls) s := by
  induction ls with
  | nil =>
    intro pre s0 s i h hr
    rw [hnil] at hr
    cases hr
    simpa using h
  | cons l t ih =>
    intro pre s0 s i h hr
    cases hs : step s0 l with
    | none => rw [hnone _ _ _ _ hs] at hr; cases hr
    | some s1 =>
      rw [hsome _ _ _ _ _ hs] at hr
      simpa using ih (hstep h hs) hr

theorem run_of_replay {c : Cfg} {ls : List Label} {s : State} (h : replay c init 0 ls = .inl s) :
    Run c ls s :=
  replay_sound (fun _ _ => rfl) (fun _ _ _ _ _ hs => by rw [replay, hs]) (fun _ _ _ _ hs => by rw [replay, hs])
    Run.step ls Run.init h

theorem rrun_of_replay {n : Nat} {ls : List RLabel} {s : RState} (h : rreplay (rinit n) 0 ls = .inl s) :
    RRun n ls s :=
  replay_sound (fun _ _ => rfl) (fun _ _ _ _ _ hs => by rw [rreplay, hs]) (fun _ _ _ _ hs => by rw [rreplay, hs])
    RRun.step ls RRun.init h

end C20
