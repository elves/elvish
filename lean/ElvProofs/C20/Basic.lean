import ElvModel.C20.Model
import ElvProofs.Lemmas.List
/-! What the invariants of `peach` are built from: counting and indexing under `List.set` and
`++ [x]`, the predicates on workers, the case analysis of `step` as an inductive relation (`Step`,
proved once in `step_spec`), and what a step does to the list of workers (`Step.wsEff`). -/
namespace C20

theorem getElem?_set_of {α} {l : List α} {j : Nat} {x : α} (h : l[j]? = some x) (a : α) (i : Nat) :
    (l.set j a)[i]? = if j = i then some a else l[i]? := by
  simp [List.getElem?_set, List.lt_length_of_getElem? h]

theorem getElem?_append_one {α} {x y : α} {ws : List α} {j : Nat} (h : (ws ++ [x])[j]? = some y) :
    ws[j]? = some y ∨ (j = ws.length ∧ y = x) := by
  by_cases hlt : j < ws.length
  · rw [List.getElem?_append_left hlt] at h; exact Or.inl h
  · rw [List.getElem?_append_right (by omega)] at h
    cases hd : j - ws.length with
    | zero => simp [hd] at h; exact Or.inr ⟨by omega, h.symm⟩
    | succ n => simp [hd] at h

theorem countP_set_add {α} (p : α → Bool) {l : List α} {i : Nat} {x : α} (a : α) (h : l[i]? = some x) :
    (l.set i a).countP p + (p x).toNat = l.countP p + (p a).toNat := by
  induction l generalizing i with
  | nil => simp at h
  | cons b t ih =>
    cases i with
    | zero =>
      simp only [List.getElem?_cons_zero, Option.some.injEq] at h
      subst h
      simp only [List.set_cons_zero, List.countP_cons]
      cases p b <;> cases p a <;> simp
    | succ j =>
      have := ih (by simpa using h)
      simp only [List.set_cons_succ, List.countP_cons]
      omega

theorem countP_pos_of_getElem? {α} (p : α → Bool) {l : List α} {i : Nat} {x : α}
    (h : l[i]? = some x) (hp : p x = true) : 0 < l.countP p :=
  List.countP_pos_iff.mpr ⟨x, List.mem_of_getElem? h, hp⟩

def atG {α} (ws : List α) (i : Nat) (f : α → Bool) : Bool :=
  match ws[i]? with
  | some p => f p
  | none => false

theorem atG_of_getElem? {α} {ws : List α} {i : Nat} {x : α} (f : α → Bool) (hw : ws[i]? = some x) :
    atG ws i f = f x := by
  unfold atG; rw [hw]

theorem atG_set {α} {ws : List α} {j : Nat} {x : α} (hw : ws[j]? = some x) (a : α) (i : Nat) (f : α → Bool) :
    atG (ws.set j a) i f = if j = i then f a else atG ws i f := by
  unfold atG
  rw [getElem?_set_of hw]
  by_cases hji : j = i <;> simp [hji]

theorem atG_set_same {α} {ws : List α} {j : Nat} {x a : α} (hw : ws[j]? = some x) (i : Nat) {f : α → Bool}
    (hf : f a = f x := by rfl) : atG (ws.set j a) i f = atG ws i f := by
  rw [atG_set hw]
  split
  · rename_i hji; subst hji; rw [atG_of_getElem? f hw, hf]
  · rfl

theorem atG_append {α} (ws : List α) {x : α} (i : Nat) {f : α → Bool} (hx : f x = false) :
    atG (ws ++ [x]) i f = atG ws i f := by
  unfold atG
  cases h : (ws ++ [x])[i]? with
  | none =>
    rw [List.getElem?_eq_none (by have := List.getElem?_eq_none_iff.mp h; simp at this; omega)]
  | some y =>
    rcases getElem?_append_one h with h1 | ⟨h1, rfl⟩
    · rw [h1]
    · rw [List.getElem?_eq_none (Nat.le_of_eq h1.symm)]; exact hx

theorem atG_pos {α} {ws : List α} {i : Nat} {f : α → Bool} (h : atG ws i f = true) :
    ∃ x, ws[i]? = some x ∧ f x = true := by
  unfold atG at h
  cases hg : ws[i]? with
  | none => simp [hg] at h
  | some x => exact ⟨x, rfl, by simpa [hg] using h⟩

/-- worker counted by the WaitGroup -/
def WPc.undone : WPc → Bool
  | .spawned => true
  | .running => true
  | .fin _ => true
  | .marked _ => true
  | _ => false

/-- worker holding a semaphore permit (bounded peach, fixed code) -/
def WPc.holding : WPc → Bool
  | .spawned => true
  | .running => true
  | .fin _ => true
  | .marked _ => true
  | .doneW _ => true
  | _ => false

def WPc.hasOutcome (o : Outcome) (p : WPc) : Bool := decide (p.outcome = some o)

/-- the worker's exception has been merged into `err` -/
def WPc.erred : WPc → Bool
  | .marked .exc => true
  | .doneW .exc => true
  | .exited .exc => true
  | _ => false

/-- the worker has set `broken` -/
def WPc.badMarked : WPc → Bool
  | .marked o => o.bad
  | .doneW o => o.bad
  | .exited o => o.bad
  | _ => false

def WPc.isSkipped : WPc → Bool
  | .skipped => true
  | _ => false

def WPc.isSpawned : WPc → Bool
  | .spawned => true
  | _ => false

def WPc.pending : WPc → Bool
  | .spawned => true
  | .running => true
  | _ => false

def WPc.badOutcome : WPc → Bool
  | .fin o => o.bad
  | .marked o => o.bad
  | .doneW o => o.bad
  | .exited o => o.bad
  | _ => false

/-- The two ways a worker gets to `wg.Done()`: directly after a callback that neither broke nor
failed, or after it has set `broken`. -/
theorem doneOutcome_cases {p : WPc} {o : Outcome} (h : p.doneOutcome = some o) :
    (p = .fin o ∧ o.bad = false) ∨ p = .marked o := by
  cases p with
  | fin o' => cases o' <;> simp [WPc.doneOutcome] at h <;> subst h <;> simp [Outcome.bad]
  | marked o' => simp [WPc.doneOutcome] at h; subst h; simp
  | _ => simp [WPc.doneOutcome] at h

theorem started_of_settled {x : WPc} (h : x.undone = false) : x.started = !x.isSkipped := by
  cases x <;> first | rfl | cases h

theorem outcome_of_settled {x : WPc} (h : x.undone = false) (hs : x.started = true) : ∃ o, x.outcome = some o := by
  cases x with
  | doneW o | exited o => exact ⟨o, rfl⟩
  | skipped => cases hs
  | _ => cases h

theorem undone_of_not_holding {x : WPc} (h : x.holding = false) : x.undone = false := by
  cases x <;> first | rfl | cases h

theorem started_of_outcome {x : WPc} {o : Outcome} (h : x.outcome = some o) : x.started = true := by
  cases x <;> first | rfl | cases h

theorem outcome_of_badMarked {x : WPc} (h : x.badMarked = true) : ∃ o, x.outcome = some o ∧ o.bad = true := by
  cases x with
  | marked o | doneW o | exited o => exact ⟨o, rfl, h⟩
  | _ => cases h

theorem badOutcome_eq {x : WPc} {o : Outcome} (h : x.outcome = some o) : x.badOutcome = o.bad := by
  cases x <;> cases h <;> rfl

/-- `List.countP` under a name `simp` does not rewrite into quantifiers -/
def cnt (p : WPc → Bool) (l : List WPc) : Nat := l.countP p

theorem cnt_nil (p : WPc → Bool) : cnt p [] = 0 := rfl

theorem cnt_push (p : WPc → Bool) (l : List WPc) (x : WPc) : cnt p (l ++ [x]) = cnt p l + (p x).toNat := by
  cases h : p x <;> simp [cnt, List.countP_append, h]

theorem cnt_set (p : WPc → Bool) {l : List WPc} {i : Nat} {x : WPc} (a : WPc) (h : l[i]? = some x) :
    cnt p (l.set i a) + (p x).toNat = cnt p l + (p a).toNat :=
  countP_set_add p a h

/-! The predicate is evaluated at the old and the new worker by `rfl` unless a proof is given. -/

theorem cnt_push_same {p : WPc → Bool} {l : List WPc} {x : WPc} (hx : p x = false := by rfl) :
    cnt p (l ++ [x]) = cnt p l := by
  rw [cnt_push, hx]; rfl

theorem cnt_push_succ {p : WPc → Bool} {l : List WPc} {x : WPc} (hx : p x = true := by rfl) :
    cnt p (l ++ [x]) = cnt p l + 1 := by
  rw [cnt_push, hx]; rfl

theorem cnt_set_same {p : WPc → Bool} {l : List WPc} {i : Nat} {x a : WPc} (h : l[i]? = some x)
    (hp : p a = p x := by rfl) : cnt p (l.set i a) = cnt p l := by
  have := cnt_set p a h
  rw [hp] at this
  omega

theorem cnt_set_succ {p : WPc → Bool} {l : List WPc} {i : Nat} {x a : WPc} (h : l[i]? = some x)
    (hx : p x = false := by rfl) (ha : p a = true := by rfl) : cnt p (l.set i a) = cnt p l + 1 := by
  have := cnt_set p a h
  rw [hx, ha] at this
  exact this

theorem cnt_set_pred {p : WPc → Bool} {l : List WPc} {i : Nat} {x a : WPc} (h : l[i]? = some x)
    (hx : p x = true := by rfl) (ha : p a = false := by rfl) : cnt p (l.set i a) + 1 = cnt p l := by
  have := cnt_set p a h
  rw [hx, ha] at this
  exact this

theorem cnt_pos (p : WPc → Bool) {l : List WPc} {i : Nat} {x : WPc} (h : l[i]? = some x) (hp : p x = true) :
    0 < cnt p l := countP_pos_of_getElem? p h hp

theorem cnt_eq_zero {p : WPc → Bool} {l : List WPc} (h : cnt p l = 0) {i : Nat} {x : WPc}
    (hx : l[i]? = some x) : p x = false := by
  cases hp : p x with
  | false => rfl
  | true => have := cnt_pos p hx hp; omega

theorem cnt_two (p : WPc → Bool) {l : List WPc} {i j : Nat} {x y : WPc} (hi : l[i]? = some x)
    (hj : l[j]? = some y) (hij : i ≠ j) (hx : p x = true) (hy : p y = true) (hs : p .skipped = false) :
    2 ≤ cnt p l := by
  have h1 := cnt_set p .skipped hi
  have h2 : (l.set i .skipped)[j]? = some y := by rw [getElem?_set_of hi, if_neg hij, hj]
  have h3 := cnt_pos p h2 hy
  rw [hx, hs] at h1
  simp only [Bool.toNat_true, Bool.toNat_false] at h1
  omega

theorem cnt_le_of_imp {p q : WPc → Bool} (l : List WPc) (h : ∀ x, p x = true → q x = true) :
    cnt p l ≤ cnt q l := List.countP_mono_left fun x _ => h x

theorem cnt_le_add {p q r : WPc → Bool} (l : List WPc) (h : ∀ x, (p x).toNat ≤ (q x).toNat + (r x).toNat) :
    cnt p l ≤ cnt q l + cnt r l := by
  induction l with
  | nil => simp [cnt]
  | cons a t ih =>
    have := h a
    simp only [cnt, List.countP_cons] at ih ⊢
    revert this
    cases p a <;> cases q a <;> cases r a <;> simp <;> omega

theorem cnt_add_le {p q r : WPc → Bool} (l : List WPc) (h : ∀ x, (p x).toNat + (q x).toNat ≤ (r x).toNat) :
    cnt p l + cnt q l ≤ cnt r l := by
  induction l with
  | nil => simp [cnt]
  | cons a t ih =>
    have := h a
    simp only [cnt, List.countP_cons] at ih ⊢
    revert this
    cases p a <;> cases q a <;> cases r a <;> simp <;> omega

def atL (ws : List WPc) (i : Nat) (f : WPc → Bool) : Bool :=
  match ws[i]? with
  | some p => f p
  | none => false

theorem atL_append_new (ws : List WPc) (x : WPc) (f : WPc → Bool) :
    atL (ws ++ [x]) ws.length f = f x := by
  unfold atL
  simp

abbrev State.at (s : State) (i : Nat) (f : WPc → Bool) : Bool := atG s.ws i f

/-- The enabled steps, one constructor per branch of `step`. -/
inductive Step (c : Cfg) : State → Label → State → Prop where
  | cancel (s) : s.panicked = false → Step c s .cancel { s with cancelled := true }
  | skip1 (s) : s.panicked = false → s.fpc = .top → s.ws.length < c.n → s.broken = true →
      Step c s (.chk1 true) { s with ws := s.ws ++ [.skipped] }
  | pass1u (s) : s.panicked = false → s.fpc = .top → s.ws.length < c.n → s.broken = false → c.k = none →
      Step c s (.chk1 false) { s with fpc := .spawning false }
  | pass1b (s K) : s.panicked = false → s.fpc = .top → s.ws.length < c.n → s.broken = false → c.k = some K →
      Step c s (.chk1 false) { s with fpc := .acq }
  | acqOk (s K) : s.panicked = false → c.k = some K → s.fpc = .acq → s.held < K →
      Step c s .acqOk { s with held := s.held + 1, fpc := if c.recheck then .chk2 else .spawning true }
  | acqErrSkip (s) : s.panicked = false → s.fpc = .acq → s.cancelled = true → c.checkAcq = true →
      Step c s .acqErr { s with fpc := .top, ws := s.ws ++ [.skipped] }
  | acqErrGo (s) : s.panicked = false → s.fpc = .acq → s.cancelled = true → c.checkAcq = false →
      Step c s .acqErr { s with fpc := .spawning false }
  | chk2 (s b) : s.panicked = false → s.fpc = .chk2 → b = s.broken →
      Step c s (.chk2 b) { s with fpc := if b then .frel else .spawning true }
  | frelPanic (s) : s.panicked = false → s.fpc = .frel → s.held = 0 →
      Step c s .frel { s with panicked := true }
  | frel (s) : s.panicked = false → s.fpc = .frel → s.held ≠ 0 →
      Step c s .frel { s with fpc := .top, held := s.held - 1, ws := s.ws ++ [.skipped] }
  | spawn (s p) : s.panicked = false → s.fpc = .spawning p →
      Step c s .spawn { s with fpc := .top, wg := s.wg + 1, ws := s.ws ++ [.spawned] }
  | eof (s) : s.panicked = false → s.fpc = .top → s.ws.length = c.n →
      Step c s .eof { s with fpc := .waiting }
  | waitRet (s) : s.panicked = false → s.fpc = .waiting → s.wg = 0 →
      Step c s .waitRet { s with fpc := .ret }
  | start (s i) : s.panicked = false → s.ws[i]? = some .spawned →
      Step c s (.start i) { s with ws := s.ws.set i .running }
  | out (s i v) : s.panicked = false → s.ws[i]? = some .running →
      Step c s (.out i v) { s with outs := s.outs ++ [(i, v)] }
  | finish (s i o) : s.panicked = false → s.ws[i]? = some .running →
      Step c s (.finish i o) { s with ws := s.ws.set i (.fin o) }
  | markBrk (s i) : s.panicked = false → s.ws[i]? = some (.fin .brk) →
      Step c s (.mark i) { s with ws := s.ws.set i (.marked .brk), broken := true }
  | markExc (s i) : s.panicked = false → s.ws[i]? = some (.fin .exc) →
      Step c s (.mark i) { s with ws := s.ws.set i (.marked .exc), broken := true, err := s.err ++ [i] }
  | donePanic (s i p o) : s.panicked = false → s.ws[i]? = some p → p.doneOutcome = some o → s.wg = 0 →
      Step c s (.done i) { s with panicked := true }
  | doneFin (s i o) : s.panicked = false → s.ws[i]? = some (.fin o) → o.bad = false → s.wg ≠ 0 →
      Step c s (.done i) { s with ws := s.ws.set i (.doneW o), wg := s.wg - 1 }
  | doneMarked (s i o) : s.panicked = false → s.ws[i]? = some (.marked o) → s.wg ≠ 0 →
      Step c s (.done i) { s with ws := s.ws.set i (.doneW o), wg := s.wg - 1 }
  | relPanic (s i o K) : s.panicked = false → c.k = some K → s.ws[i]? = some (.doneW o) → s.held = 0 →
      Step c s (.release i) { s with panicked := true }
  | release (s i o K) : s.panicked = false → c.k = some K → s.ws[i]? = some (.doneW o) → s.held ≠ 0 →
      Step c s (.release i) { s with ws := s.ws.set i (.exited o), held := s.held - 1 }

theorem step_spec {c : Cfg} {s s' : State} {l : Label} (h : step c s l = some s') : Step c s l s' := by
  have hp : s.panicked = false := by
    cases hq : s.panicked with
    | false => rfl
    | true => simp [step, hq] at h
  unfold step at h
  rw [if_neg (by simp [hp])] at h
  cases l with
  | cancel => cases h; exact .cancel s hp
  | chk1 b =>
    dsimp only at h
    split at h
    · rename_i hg
      obtain ⟨h1, h2, rfl⟩ := hg
      split at h
      · rename_i hb; cases h; exact hb ▸ .skip1 s hp h1 h2 hb
      · rename_i hb
        have hb : s.broken = false := by simpa using hb
        rw [hb]
        split at h
        · rename_i hk; cases h; exact .pass1u s hp h1 h2 hb hk
        · rename_i K hk; cases h; exact .pass1b s K hp h1 h2 hb hk
    · cases h
  | acqOk =>
    dsimp only at h
    split at h
    · rename_i K hk
      split at h
      · rename_i hg; cases h; exact .acqOk s K hp hk hg.1 hg.2
      · cases h
    · cases h
  | acqErr =>
    dsimp only at h
    split at h
    · rename_i hg
      split at h
      · rename_i hc; cases h; exact .acqErrSkip s hp hg.1 hg.2 hc
      · rename_i hc; cases h; exact .acqErrGo s hp hg.1 hg.2 (by simpa using hc)
    · cases h
  | chk2 b =>
    dsimp only at h
    split at h
    · rename_i hg; cases h; exact .chk2 s b hp hg.1 hg.2
    · cases h
  | frel =>
    dsimp only at h
    split at h
    · rename_i hg
      split at h
      · rename_i h0; cases h; exact .frelPanic s hp hg h0
      · rename_i h0; cases h; exact .frel s hp hg h0
    · cases h
  | spawn =>
    dsimp only at h
    split at h
    · rename_i p hg; cases h; exact .spawn s p hp hg
    · cases h
  | eof =>
    dsimp only at h
    split at h
    · rename_i hg; cases h; exact .eof s hp hg.1 hg.2
    · cases h
  | waitRet =>
    dsimp only at h
    split at h
    · rename_i hg; cases h; exact .waitRet s hp hg.1 hg.2
    · cases h
  | start i =>
    dsimp only at h
    split at h
    · rename_i hg; cases h; exact .start s i hp hg
    · cases h
  | out i v =>
    dsimp only at h
    split at h
    · rename_i hg; cases h; exact .out s i v hp hg
    · cases h
  | finish i o =>
    dsimp only at h
    split at h
    · rename_i hg; cases h; exact .finish s i o hp hg
    · cases h
  | mark i =>
    dsimp only at h
    split at h
    · rename_i hg; cases h; exact .markBrk s i hp hg
    · rename_i hg; cases h; exact .markExc s i hp hg
    · cases h
  | done i =>
    dsimp only at h
    split at h
    · rename_i p hg
      split at h
      · rename_i o ho
        split at h
        · rename_i h0; cases h; exact .donePanic s i p o hp hg ho h0
        · rename_i h0
          cases h
          rcases doneOutcome_cases ho with ⟨rfl, hb⟩ | rfl
          · exact .doneFin s i o hp hg hb h0
          · exact .doneMarked s i o hp hg h0
      · cases h
    · cases h
  | release i =>
    dsimp only at h
    split at h
    · rename_i K o hk hg
      split at h
      · rename_i h0; cases h; exact .relPanic s i o K hp hk hg h0
      · rename_i h0; cases h; exact .release s i o K hp hk hg h0
    · cases h

theorem Run.inv {c : Cfg} {P : List Label → State → Prop} (h0 : P [] C20.init)
    (hs : ∀ tr s l s', Run c tr s → P tr s → Step c s l s' → P (tr ++ [l]) s') :
    ∀ {tr s}, Run c tr s → P tr s := by
  intro tr s h
  induction h with
  | init => exact h0
  | step hr hst ih => exact hs _ _ _ _ hr ih (step_spec hst)

/-- Induction for an invariant that holds under a condition `G` which no step can establish (the
interrupt has not been delivered, `Good`): `G` at the end of the run gives `G` all along it. -/
theorem Run.inv_of {c : Cfg} {G : State → Prop} (hG : ∀ {s l s'}, Step c s l s' → G s' → G s)
    {P : List Label → State → Prop} (h0 : P [] C20.init)
    (hs : ∀ tr s l s', Run c tr s → G s → P tr s → Step c s l s' → P (tr ++ [l]) s') :
    ∀ {tr s}, Run c tr s → G s → P tr s := by
  intro tr s h
  induction h with
  | init => exact fun _ => h0
  | step hr hst ih =>
    intro hg
    have hg0 := hG (step_spec hst) hg
    exact hs _ _ _ _ hr hg0 (ih hg0) (step_spec hst)

inductive WMove : Label → Nat → WPc → WPc → Prop where
  | start (i) : WMove (.start i) i .spawned .running
  | finish (i o) : WMove (.finish i o) i .running (.fin o)
  | markBrk (i) : WMove (.mark i) i (.fin .brk) (.marked .brk)
  | markExc (i) : WMove (.mark i) i (.fin .exc) (.marked .exc)
  | doneFin (i o) : o.bad = false → WMove (.done i) i (.fin o) (.doneW o)
  | doneMarked (i o) : WMove (.done i) i (.marked o) (.doneW o)
  | release (i o) : WMove (.release i) i (.doneW o) (.exited o)

inductive WsEff (l : Label) (ws : List WPc) : List WPc → Prop where
  | same : WsEff l ws ws
  | skip : WsEff l ws (ws ++ [.skipped])
  | spawn : l = .spawn → WsEff l ws (ws ++ [.spawned])
  | move {i x a} : WMove l i x a → ws[i]? = some x → WsEff l ws (ws.set i a)

theorem Step.wsEff {c : Cfg} {s s' : State} {l : Label} (h : Step c s l s') : WsEff l s.ws s'.ws := by
  cases h with
  | skip1 | acqErrSkip | frel => exact .skip
  | spawn => exact .spawn rfl
  | start i _ hw => exact .move (.start i) hw
  | finish i o _ hw => exact .move (.finish i o) hw
  | markBrk i _ hw => exact .move (.markBrk i) hw
  | markExc i _ hw => exact .move (.markExc i) hw
  | doneFin i o _ hw hb => exact .move (.doneFin i o hb) hw
  | doneMarked i o _ hw => exact .move (.doneMarked i o) hw
  | release i o K _ _ hw => exact .move (.release i o) hw
  | _ => exact .same

/-- A predicate that is false of new workers can change at worker `i` only when worker `i` moves. -/
theorem WsEff.at_cases {l : Label} {ws ws' : List WPc} (h : WsEff l ws ws') (i : Nat) {f : WPc → Bool}
    (hk : f .skipped = false) (hs : f .spawned = false) :
    atG ws' i f = atG ws i f ∨ ∃ x a, WMove l i x a ∧ atG ws i f = f x ∧ atG ws' i f = f a := by
  cases h with
  | same => exact Or.inl rfl
  | skip => exact Or.inl (atG_append ws i hk)
  | spawn => exact Or.inl (atG_append ws i hs)
  | @move j x a hm hw =>
    rw [atG_set hw]
    by_cases hji : j = i
    · subst hji; exact Or.inr ⟨x, a, hm, atG_of_getElem? f hw, if_pos rfl⟩
    · exact Or.inl (if_neg hji)

theorem WsEff.at_frame {l : Label} {ws ws' : List WPc} (h : WsEff l ws ws') (i : Nat) {f : WPc → Bool}
    (hk : f .skipped = false) (hs : f .spawned = false) (hm : ∀ x a, WMove l i x a → f a = f x) :
    atG ws' i f = atG ws i f := by
  rcases h.at_cases i hk hs with h | ⟨x, a, hxa, h1, h2⟩
  · exact h
  · rw [h1, h2, hm x a hxa]

end C20
