import ElvProofs.C20.Basic
/-! Invariants of the `run-parallel` transition system. -/
namespace C20

inductive RStep : RState → RLabel → RState → Prop where
  | rspawn (s i) : s.panicked = false → s.returned = false → i = s.next → i < s.ws.length →
      RStep s (.rspawn i) { s with ws := s.ws.set i .spawned, next := s.next + 1 }
  | rstart (s i) : s.panicked = false → s.returned = false → s.ws[i]? = some .spawned →
      RStep s (.rstart i) { s with ws := s.ws.set i .running }
  | rfinish (s i o) : s.panicked = false → s.returned = false → s.ws[i]? = some .running →
      RStep s (.rfinish i o) { s with ws := s.ws.set i (.fin o) }
  | rdonePanic (s i o) : s.panicked = false → s.returned = false → s.ws[i]? = some (.fin o) → s.wg = 0 →
      RStep s (.rdone i) { s with panicked := true }
  | rdone (s i o) : s.panicked = false → s.returned = false → s.ws[i]? = some (.fin o) → s.wg ≠ 0 →
      RStep s (.rdone i) { s with ws := s.ws.set i (.doneW o), wg := s.wg - 1 }
  | rwait (s) : s.panicked = false → s.returned = false → s.next = s.ws.length → s.wg = 0 →
      RStep s .rwait { s with returned := true }

theorem rstep_spec {s s' : RState} {l : RLabel} (h : rstep s l = some s') : RStep s l s' := by
  have hp : s.panicked = false ∧ s.returned = false := by
    cases hq : s.panicked <;> cases hr : s.returned <;> simp [rstep, hq, hr] at h ⊢
  obtain ⟨hp, hr⟩ := hp
  unfold rstep at h
  rw [if_neg (by simp [hp, hr])] at h
  cases l with
  | rspawn i =>
    dsimp only at h
    split at h
    · rename_i hg; cases h; exact .rspawn s i hp hr hg.1 hg.2
    · cases h
  | rstart i =>
    dsimp only at h
    split at h
    · rename_i hg; cases h; exact .rstart s i hp hr hg
    · cases h
  | rfinish i o =>
    dsimp only at h
    split at h
    · rename_i hg; cases h; exact .rfinish s i o hp hr hg
    · cases h
  | rdone i =>
    dsimp only at h
    split at h
    · rename_i o hg
      split at h
      · rename_i h0; cases h; exact .rdonePanic s i o hp hr hg h0
      · rename_i h0; cases h; exact .rdone s i o hp hr hg h0
    · cases h
  | rwait =>
    dsimp only at h
    split at h
    · rename_i hg; cases h; exact .rwait s hp hr hg.1 hg.2
    · cases h

theorem RRun.inv {n : Nat} {P : List RLabel → RState → Prop} (h0 : P [] (rinit n))
    (hs : ∀ tr s l s', RRun n tr s → P tr s → RStep s l s' → P (tr ++ [l]) s') :
    ∀ {tr s}, RRun n tr s → P tr s := by
  intro tr s h
  induction h with
  | init => exact h0
  | step hr hst ih => exact hs _ _ _ _ hr ih (rstep_spec hst)

def RPc.isDone : RPc → Bool
  | .doneW _ => true
  | _ => false

def RPc.started : RPc → Bool
  | .idle => false
  | .spawned => false
  | _ => true

def RPc.hasOutcome (o : Outcome) : RPc → Bool
  | .fin o' => decide (o' = o)
  | .doneW o' => decide (o' = o)
  | _ => false

/-- counters: the WaitGroup counts the functions that have not called `Done`; the functions from
the loop index on are idle -/
theorem rinv_counts {n : Nat} {tr s} (h : RRun n tr s) :
    s.ws.length = n ∧ s.wg + s.ws.countP RPc.isDone = n ∧
      (∀ i, s.next ≤ i → i < n → s.ws[i]? = some .idle) := by
  refine RRun.inv (P := fun _ s => s.ws.length = n ∧ s.wg + s.ws.countP RPc.isDone = n ∧
      (∀ i, s.next ≤ i → i < n → s.ws[i]? = some .idle)) ?_ ?_ h
  · refine ⟨List.length_replicate, ?_, fun i _ hi => ?_⟩
    · simp [rinit, List.countP_replicate, RPc.isDone]
    · simp [rinit, hi]
  · intro tr s l s' hr ⟨ih1, ih2, ih3⟩ hst
    -- a function that moves is not an idle one from `bound` on: those stay idle
    have keep : ∀ {i x} (a : RPc) (bound : Nat), s.ws[i]? = some x → (∀ j, bound ≤ j → i ≠ j) →
        ∀ j, bound ≤ j → j < n → s.next ≤ j → (s.ws.set i a)[j]? = some .idle := by
      intro i x a bound hw hne j hj hjn hnj
      rw [getElem?_set_of hw, if_neg (hne j hj)]
      exact ih3 j hnj hjn
    have moved : ∀ {i x}, s.ws[i]? = some x → x ≠ .idle → ∀ j, s.next ≤ j → i ≠ j := by
      rintro i x hw hx j hj rfl
      have := ih3 i hj (ih1 ▸ List.lt_length_of_getElem? hw)
      rw [hw] at this
      exact hx (Option.some.inj this)
    cases hst with
    | rspawn i _ _ hi hlt =>
      subst hi
      have hw := ih3 s.next (Nat.le_refl _) (by omega)
      have := countP_set_add RPc.isDone .spawned hw
      refine ⟨by simpa using ih1, by dsimp only; simp [RPc.isDone] at this; omega, fun j hj hjn => ?_⟩
      exact keep .spawned (s.next + 1) hw (fun j hj => by omega) j hj hjn (by dsimp only at hj; omega)
    | rstart i _ _ hw =>
      have := countP_set_add RPc.isDone .running hw
      refine ⟨by simpa using ih1, by dsimp only; simp [RPc.isDone] at this; omega, fun j hj hjn => ?_⟩
      exact keep .running s.next hw (moved hw nofun) j hj hjn hj
    | rfinish i o _ _ hw =>
      have := countP_set_add RPc.isDone (.fin o) hw
      refine ⟨by simpa using ih1, by dsimp only; simp [RPc.isDone] at this; omega, fun j hj hjn => ?_⟩
      exact keep (.fin o) s.next hw (moved hw nofun) j hj hjn hj
    | rdone i o _ _ hw h0 =>
      have := countP_set_add RPc.isDone (.doneW o) hw
      refine ⟨by simpa using ih1, by dsimp only; simp [RPc.isDone] at this; omega, fun j hj hjn => ?_⟩
      exact keep (.doneW o) s.next hw (moved hw nofun) j hj hjn hj
    | rdonePanic | rwait => exact ⟨ih1, ih2, ih3⟩

theorem all_done {n : Nat} {tr s} (h : RRun n tr s) (hwg : s.wg = 0) {i : Nat} {x : RPc}
    (hx : s.ws[i]? = some x) : x.isDone = true := by
  obtain ⟨h1, h2, _⟩ := rinv_counts h
  exact (List.countP_eq_length (p := RPc.isDone)).mp (by omega) x (List.mem_of_getElem? hx)

theorem rinv_nopanic {n : Nat} {tr s} (h : RRun n tr s) : s.panicked = false := by
  refine RRun.inv (P := fun _ s => s.panicked = false) rfl ?_ h
  intro tr s l s' hr ih hst
  cases hst with
  | rdonePanic i o _ _ hw h0 => cases all_done hr h0 hw
  | _ => exact ih

theorem rinv_returned {n : Nat} {tr s} (h : RRun n tr s) : s.returned = true → s.wg = 0 := by
  refine RRun.inv (P := fun _ s => s.returned = true → s.wg = 0) nofun ?_ h
  intro tr s l s' hr ih hst
  cases hst with
  | rwait _ _ _ h0 => exact fun _ => h0
  | rspawn _ _ hr | rstart _ _ hr | rfinish _ _ _ hr | rdone _ _ _ hr | rdonePanic _ _ _ hr =>
    intro h; rw [hr] at h; cases h

theorem rinv_start_count {n : Nat} {tr s} (h : RRun n tr s) (i : Nat) :
    tr.count (.rstart i) = (atG s.ws i RPc.started).toNat := by
  refine RRun.inv (P := fun tr s => tr.count (.rstart i) = (atG s.ws i RPc.started).toNat) ?_ ?_ h
  · unfold atG rinit
    by_cases hi : i < n <;> simp [hi, RPc.started]
  · intro tr s l s' hr ih hst
    rw [List.count_append, ih]
    obtain ⟨_, _, hidle⟩ := rinv_counts hr
    cases hst with
    | rstart j _ _ hw =>
      dsimp only
      rw [atG_set hw]
      by_cases hji : j = i
      · subst hji; simp [atG_of_getElem? _ hw, RPc.started]
      · simp [hji]
    | rspawn j _ _ hj hlt =>
      have hw := hidle j (by omega) (by omega)
      dsimp only
      rw [atG_set_same hw]
      simp
    | rfinish j o _ _ hw => dsimp only; rw [atG_set_same hw]; simp
    | rdone j o _ _ hw h0 => dsimp only; rw [atG_set_same hw]; simp
    | _ => simp

theorem rinv_finish_count {n : Nat} {tr s} (h : RRun n tr s) (i : Nat) (o : Outcome) :
    tr.count (.rfinish i o) = (atG s.ws i (RPc.hasOutcome o)).toNat := by
  refine RRun.inv (P := fun tr s => tr.count (.rfinish i o) = (atG s.ws i (RPc.hasOutcome o)).toNat) ?_ ?_ h
  · unfold atG rinit
    by_cases hi : i < n <;> simp [hi, RPc.hasOutcome]
  · intro tr s l s' hr ih hst
    rw [List.count_append, ih]
    obtain ⟨_, _, hidle⟩ := rinv_counts hr
    cases hst with
    | rfinish j o' _ _ hw =>
      dsimp only
      rw [atG_set hw]
      by_cases hji : j = i
      · subst hji
        by_cases hoo : o' = o
        · subst hoo; simp [atG_of_getElem? _ hw, RPc.hasOutcome]
        · simp [atG_of_getElem? _ hw, RPc.hasOutcome, hoo]
      · simp [hji]
    | rspawn j _ _ hj hlt =>
      have hw := hidle j (by omega) (by omega)
      dsimp only
      rw [atG_set_same hw]
      simp
    | rstart j _ _ hw => dsimp only; rw [atG_set_same hw]; simp
    | rdone j o' _ _ hw h0 => dsimp only; rw [atG_set_same hw]; simp
    | _ => simp

theorem result_go_mem (l : List RPc) (k i : Nat) (o : Outcome) :
    (i, o) ∈ RState.result.go k l ↔ ∃ j, i = k + j ∧ l[j]? = some (.doneW o) ∧ o ≠ .ok := by
  induction l generalizing k with
  | nil => simp [RState.result.go]
  | cons a t ih =>
    have head : (i, o) ∈ RState.result.go k (a :: t) ↔
        (i = k ∧ a = .doneW o ∧ o ≠ .ok) ∨ (i, o) ∈ RState.result.go (k + 1) t := by
      cases a with
      | doneW o' =>
        simp only [RState.result.go]
        split
        · rename_i hok
          subst hok
          refine ⟨Or.inr, ?_⟩
          rintro (⟨_, ho, hne⟩ | h)
          · exact absurd (RPc.doneW.inj ho).symm hne
          · exact h
        · rename_i hok
          simp only [List.mem_cons, Prod.mk.injEq, RPc.doneW.injEq]
          constructor
          · rintro (⟨rfl, rfl⟩ | h)
            · exact Or.inl ⟨rfl, rfl, hok⟩
            · exact Or.inr h
          · rintro (⟨rfl, rfl, _⟩ | h)
            · exact Or.inl ⟨rfl, rfl⟩
            · exact Or.inr h
      | _ => simp [RState.result.go]
    rw [head, ih]
    constructor
    · rintro (⟨rfl, rfl, h⟩ | ⟨j, rfl, hj, h⟩)
      · exact ⟨0, rfl, rfl, h⟩
      · exact ⟨j + 1, by omega, hj, h⟩
    · rintro ⟨j, rfl, hj, h⟩
      cases j with
      | zero => exact Or.inl ⟨rfl, by simpa using hj, h⟩
      | succ j => exact Or.inr ⟨j, by omega, hj, h⟩

theorem result_mem (s : RState) (i : Nat) (o : Outcome) :
    (i, o) ∈ s.result ↔ s.ws[i]? = some (.doneW o) ∧ o ≠ .ok := by
  unfold RState.result
  rw [result_go_mem]
  constructor
  · rintro ⟨j, rfl, h⟩; simpa using h
  · exact fun h => ⟨i, by omega, h⟩

end C20
