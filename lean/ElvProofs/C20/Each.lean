import ElvModel.C20.Model
/-! List lemmas and the closed form of `eachRun`, used to assemble the one-worker invariants into
the equality `peach &num-workers=1 = each`. -/
namespace C20

theorem sorted_ext (l1 l2 : List Nat) (h1 : l1.Pairwise (· < ·)) (h2 : l2.Pairwise (· < ·))
    (h : ∀ i, i ∈ l1 ↔ i ∈ l2) : l1 = l2 :=
  ((List.perm_ext_iff_of_nodup (h1.imp Nat.ne_of_lt) (h2.imp Nat.ne_of_lt)).mpr h).eq_of_pairwise
    (fun _ _ _ _ hab hba => absurd hab (Nat.lt_asymm hba)) h1 h2

theorem sorted_closed_eq_range (l : List Nat) (hs : l.Pairwise (· < ·))
    (hc : ∀ j, j ∈ l → ∀ i, i < j → i ∈ l) : l = List.range l.length := by
  apply sorted_ext l _ hs List.pairwise_lt_range
  have key : ∀ (l : List Nat) (a : Nat), l.Pairwise (· < ·) → (∀ j, j ∈ l → a ≤ j) →
      (∀ j, j ∈ l → ∀ i, a ≤ i → i < j → i ∈ l) → ∀ i, i ∈ l ↔ a ≤ i ∧ i < a + l.length := by
    intro l
    induction l with
    | nil => intro a _ _ _ i; simp
    | cons x t ih =>
      intro a hs hlo hc i
      rw [List.pairwise_cons] at hs
      have hxa : x = a := by
        have h1 := hlo x (by simp)
        rcases Nat.lt_or_ge a x with hlt | hge
        · have := hc x (by simp) a (Nat.le_refl a) hlt
          simp only [List.mem_cons] at this
          rcases this with h | h
          · omega
          · have := hs.1 a h; omega
        · omega
      subst hxa
      have iht := ih (x + 1) hs.2 (fun j hj => hs.1 j hj) (by
        intro j hj i hi hij
        have := hc j (by simp [hj]) i (by omega) hij
        simp only [List.mem_cons] at this
        rcases this with h | h
        · omega
        · exact h) i
      simp only [List.mem_cons, List.length_cons, iht]
      omega
  intro i
  rw [key l 0 hs (fun _ _ => Nat.zero_le _) (fun j hj i _ hij => hc j hj i hij) i, List.mem_range]
  omega

theorem sorted_split (a : Nat) : ∀ (l : List (Nat × Nat)), l.Pairwise (fun x y => x.1 ≤ y.1) →
    (∀ x, x ∈ l → a ≤ x.1) →
    l = l.filter (fun x => decide (x.1 = a)) ++ l.filter (fun x => decide (a < x.1))
  | [], _, _ => rfl
  | x :: t, hs, hlo => by
    rw [List.pairwise_cons] at hs
    have ht := sorted_split a t hs.2 (fun y hy => hlo y (by simp [hy]))
    by_cases hx : x.1 = a
    · have h2 : ¬ a < x.1 := by omega
      simp only [List.filter_cons, hx, decide_true, ↓reduceIte, Nat.lt_irrefl, decide_false,
        Bool.false_eq_true, List.cons_append]
      rw [← hx] at ht ⊢
      exact congrArg _ ht
    · have h2 : a < x.1 := by have := hlo x (by simp); omega
      have h3 : t.filter (fun y => decide (y.1 = a)) = [] := by
        apply List.filter_eq_nil_iff.mpr
        intro y hy; have := hs.1 y hy; simp; omega
      have h4 : t.filter (fun y => decide (a < y.1)) = t := by
        apply List.filter_eq_self.mpr
        intro y hy; have := hs.1 y hy; simp; omega
      simp [hx, h2, h3, h4]

theorem sorted_eq_flatMap (f : Nat → List (Nat × Nat)) : ∀ (q a : Nat) (l : List (Nat × Nat)),
    l.Pairwise (fun x y => x.1 ≤ y.1) → (∀ x, x ∈ l → a ≤ x.1 ∧ x.1 < a + q) →
    (∀ i, a ≤ i → i < a + q → l.filter (fun x => decide (x.1 = i)) = f i) →
    l = (List.range' a q).flatMap f
  | 0, a, l, _, hb, _ => by
    cases l with
    | nil => rfl
    | cons x t => have := hb x (by simp); omega
  | q + 1, a, l, hs, hb, hf => by
    have hsp := sorted_split a l hs (fun x hx => (hb x hx).1)
    have ih := sorted_eq_flatMap f q (a + 1) (l.filter (fun x => decide (a < x.1)))
      (hs.filter _) (by
        intro x hx
        rw [List.mem_filter] at hx
        have := hb x hx.1
        have := hx.2
        simp at this; omega) (by
        intro i h1 h2
        rw [List.filter_filter, ← hf i (by omega) (by omega)]
        apply List.filter_congr
        intro x _
        by_cases hxi : x.1 = i <;> simp [hxi]; omega)
    rw [List.range'_succ, List.flatMap_cons, ← hf a (Nat.le_refl a) (by omega), ← ih]
    exact hsp

/-- `each` over `i, …, i+m-1` starts exactly the first `q` of them when none of the first `q-1`
breaks/fails and either `q = m` or the `q`-th does. -/
theorem eachFrom_eq (cb : Nat → List Nat × Outcome) : ∀ (m i q : Nat), q ≤ m →
    (∀ j, i ≤ j → j + 1 < i + q → (cb j).2.bad = false) →
    (q < m → 0 < q ∧ (cb (i + q - 1)).2.bad = true) →
    eachFrom cb i m =
      { starts := List.range' i q,
        outs := (List.range' i q).flatMap (fun j => (cb j).1.map (fun v => (j, v))),
        err := (List.range' i q).filter (fun j => decide ((cb j).2 = .exc)) }
  | 0, i, q, hq, _, _ => by
    have : q = 0 := by omega
    subst this; simp [eachFrom]
  | m + 1, i, q, hq, hgood, hlast => by
    cases q with
    | zero => have := (hlast (by omega)).1; omega
    | succ q' =>
      unfold eachFrom
      by_cases hb : (cb i).2.bad = true
      · have hq0 : q' = 0 := by
          rcases Nat.eq_zero_or_pos q' with h | h
          · exact h
          · have := hgood i (Nat.le_refl i) (by omega); simp [hb] at this
        subst hq0
        simp only [hb, ↓reduceIte]
        by_cases he : (cb i).2 = .exc <;> simp [he, List.range'_succ]
      · have hb' : (cb i).2.bad = false := by simpa using hb
        have ih := eachFrom_eq cb m (i + 1) q' (by omega)
          (fun j h1 h2 => hgood j (by omega) (by omega)) (by
            intro hlt
            have := hlast (by omega)
            have hpos : 0 < q' := by
              rcases Nat.eq_zero_or_pos q' with h | h
              · subst h; simp [hb'] at this
              · exact h
            refine ⟨hpos, ?_⟩
            have h2 := this.2
            have : i + (q' + 1) - 1 = i + 1 + q' - 1 := by omega
            rw [this] at h2; exact h2)
        simp only [hb', Bool.false_eq_true, ↓reduceIte, ih]
        have hne : (cb i).2 ≠ .exc := by intro h; rw [h] at hb'; simp [Outcome.bad] at hb'
        simp [hne, List.range'_succ]

end C20
