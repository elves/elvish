import ElvModel.C30.Model
import ElvModel.C30.Accept
import ElvProofs.C30.Pure
import ElvProofs.C30.Sort
import ElvProofs.C30.Protocol
import ElvProofs.C30.AcceptSound
import ElvProofs.C30.Sources
open Go C30

/-!
C30 — syntax highlighting never changes the text and is never stale.  Theorems about the executable model
`ElvModel/C30/Model.lean` of `pkg/edit/highlight` (tied to the Go code by `./check C30`: differential runs of
`fixRegions`/`highlight` and trace refinement of `Highlighter.Get`).  Pure part: for every code (any bytes, valid
UTF-8 or not), every region list and every outcome of the unstable `sort.Slice`.  Concurrent part: for every
`Reachable` state, i.e. every interleaving of any number of `Get(code′)` calls, late deliveries after arbitrary delays
and `InvalidateCache` calls.
-/

/-- `fixRegions`: whatever the sort left, the regions kept are a sub-list of it,
in order and non-overlapping (each begins at or after the end of the one before,
the first at or after 0); and a list that already is ordered is kept entirely. -/
theorem C30_fixRegions_ordered (sorted : List Region) :
    Ordered 0 (fixRegionsSorted sorted) ∧ (fixRegionsSorted sorted).Sublist sorted ∧
    (Ordered 0 sorted → fixRegionsSorted sorted = sorted) :=
  ⟨filterOverlap_ordered sorted 0, filterOverlap_sublist sorted 0, filterOverlap_id sorted 0⟩

example : fixRegionsSorted [⟨0, 2, .semantic, commandRegion⟩, ⟨0, 2, .lexical, []⟩, ⟨1, 3, .lexical, []⟩, ⟨2, 2, .semantic, []⟩, ⟨3, 4, .lexical, []⟩]
    = [⟨0, 2, .semantic, commandRegion⟩, ⟨2, 2, .semantic, []⟩, ⟨3, 4, .lexical, []⟩] := by decide

/-- The executable check the driver applies to the recorded result of
`sort.Slice` implies the declarative contract (a permutation, sorted by `less`),
and the contract can be met for every input. -/
theorem C30_sort_contract (input sorted : List Region) :
    (sortContract input sorted = true → SortedPerm input sorted) ∧ SortedPerm input (sortRegions input) :=
  ⟨sortContract_sound, sortRegions_contract input⟩

/-- a tie (same Begin, same kind) may come out either way; kind priority may not be violated -/
example : sortContract [⟨0, 3, .lexical, []⟩, ⟨0, 5, .lexical, []⟩, ⟨0, 1, .semantic, []⟩]
    [⟨0, 1, .semantic, []⟩, ⟨0, 5, .lexical, []⟩, ⟨0, 3, .lexical, []⟩] = true ∧
  sortContract [⟨0, 3, .lexical, []⟩, ⟨0, 5, .lexical, []⟩, ⟨0, 1, .semantic, []⟩]
    [⟨0, 1, .semantic, []⟩, ⟨0, 3, .lexical, []⟩, ⟨0, 5, .lexical, []⟩] = true ∧
  sortContract [⟨0, 3, .lexical, []⟩, ⟨0, 1, .semantic, []⟩] [⟨0, 3, .lexical, []⟩, ⟨0, 1, .semantic, []⟩] = false := by decide

/-- `highlight` NEVER changes the text, whatever the regions are: if the
assembly does not panic, the segments tile the code (consecutive,
non-overlapping slices in order, from 0 to `|code|`), hence their concatenation
is exactly the code.  No hypothesis on the regions: an out-of-range or inverted
region makes a checked slice panic, it cannot produce a wrong text. -/
theorem C30_text_preserved (code : Bytes) (hasCmd : Bool) (sorted : List Region) (t : Text) (cmds : List CmdRegion)
    (h : highlight code hasCmd sorted = .ok (t, cmds)) :
    Tiles code 0 t ∧ plain t = code := by
  obtain ⟨hT, _⟩ := highlight_ok h
  exact ⟨hT, by simpa using tiles_plain hT⟩

/-- Theorem (1): for any list of regions with `0 ≤ begin ≤ end ≤ |code|` and any
sorted permutation of it that `sort.Slice` may produce, `highlight` does not
panic, the assembled segments tile the code in order without overlap, and
concatenating their text gives back the code exactly. -/
theorem C30_highlight_total_lossless (code : Bytes) (hasCmd : Bool) (regions sorted : List Region)
    (hin : ∀ r ∈ regions, InBounds code.length r) (hs : SortedPerm regions sorted) :
    ∃ t cmds, highlight code hasCmd sorted = .ok (t, cmds) ∧ Tiles code 0 t ∧ plain t = code ∧
      ∀ c ∈ cmds, t[c.seg]? = some { style := {}, text := c.cmd } := by
  have hin' : ∀ r ∈ fixRegionsSorted sorted, InBounds code.length r :=
    fun r hr => hin r (hs.1.subset (filterOverlap_mem hr))
  obtain ⟨t, cmds, e⟩ := assembleFrom_no_panic code hasCmd (fixRegionsSorted sorted) 0 0
    (filterOverlap_ordered sorted 0) hin' (Int.le_refl 0) (Int.natCast_nonneg _)
  have e' : highlight code hasCmd sorted = .ok (t, cmds) := e
  obtain ⟨hT, hP⟩ := C30_text_preserved code hasCmd sorted t cmds e'
  exact ⟨t, cmds, e', hT, hP, (highlight_ok e').2⟩

/-- The hypothesis of `C30_highlight_total_lossless` holds for the parser's
contribution, by C01: every node of the tree `parse.Parse` returns for ANY source
(and so every region `getRegions` can emit, lexical or semantic) and every parse
error (the error regions of `addDiagError`) has `0 ≤ from ≤ to ≤ |src|`.  What
remains an assumption is the same bound for the errors `cfg.Check` returns. -/
theorem C30_parser_regions_in_bounds (isPrint : Int → Bool) (src : Bytes) :
    ∃ t errs, C01.parse isPrint src = .ok t errs ∧
      (∀ m, C01_Desc t m → ∀ k ty, InBounds src.length ⟨m.frm, m.to, k, ty⟩) ∧
      (∀ x ∈ errs, ∀ k ty, InBounds src.length ⟨x.frm, x.to, k, ty⟩) :=
  C30.parser_ranges_in_bounds isPrint src

/-- non-vacuity: `ls x` with a command region, a shadowed lexical region, an
overlapping region that is dropped and an argument. -/
example : highlight [108, 115, 32, 120] true
      [⟨0, 2, .semantic, commandRegion⟩, ⟨0, 2, .lexical, []⟩, ⟨1, 3, .lexical, []⟩, ⟨3, 4, .lexical, [118, 97, 114, 105, 97, 98, 108, 101]⟩]
    = .ok ([⟨{}, [108, 115]⟩, ⟨{}, [32]⟩, ⟨{ fg := .magenta }, [120]⟩], [⟨0, [108, 115]⟩]) := by decide
/-- outside the precondition a slice does panic (so the hypothesis matters for totality only) -/
example : highlight [108, 115] false [⟨1, 3, .lexical, []⟩] = .panic "slice bounds out of range" := by decide

/-- Theorem (2): the late restyling leaves the text of every segment untouched
(same number of segments, same texts, hence the same plain text and the same
tiling), whatever `HasCommand` answers. -/
theorem C30_late_restyle_preserves_text (t t' : Text) (cmds : List CmdRegion) (answers : List Bool)
    (h : restyle t cmds answers = .ok t') :
    t'.map (·.text) = t.map (·.text) ∧ plain t' = plain t ∧ ∀ code k, Tiles code k t → Tiles code k t' :=
  ⟨restyle_text _ _ _ _ h, plain_congr (restyle_text _ _ _ _ h), fun _ _ hT => tiles_congr (restyle_text _ _ _ _ h) hT⟩

/-- The goroutine's `newText[cmdRegion.seg]` never panics: every index recorded
by `highlight` lies inside the text it returned. -/
theorem C30_late_restyle_no_panic (code : Bytes) (hasCmd : Bool) (sorted : List Region) (t : Text)
    (cmds : List CmdRegion) (answers : List Bool) (h : highlight code hasCmd sorted = .ok (t, cmds)) :
    ∃ t', restyle t cmds answers = .ok t' ∧ plain t' = code := by
  obtain ⟨t', e⟩ := restyle_no_panic cmds answers t (cmds_in_range (highlight_ok h).2)
  exact ⟨t', e, by rw [plain_congr (restyle_text _ _ _ _ e)]; exact (C30_text_preserved _ _ _ _ _ h).2⟩

example : restyle [⟨{}, [108, 115]⟩, ⟨{}, [32]⟩, ⟨{ fg := .magenta }, [120]⟩] [⟨0, [108, 115]⟩] [false]
    = .ok [⟨{ fg := .red }, [108, 115]⟩, ⟨{}, [32]⟩, ⟨{ fg := .magenta }, [120]⟩] := by decide

/-- Theorem (3a), the cache invariant: in every reachable state the cached text
consists of exactly the cached code (it tiles it), and it was computed by a
`highlight` call for that very code (ghost `origin`; `Computed`). -/
theorem C30_cache_invariant (s : State) (h : Reachable s) :
    plain s.styled = s.code ∧ Tiles s.code 0 s.styled ∧ s.origin = s.code ∧ Computed s.code s.styled := by
  have hi := reachable_inv h
  exact ⟨by simpa using tiles_plain hi.cache_tiles, hi.cache_tiles, hi.cache_origin, hi.cache_computed⟩

/-- Theorem (3b): whatever `Get(asked)` ever returns — the immediate result, a
cache hit, a cache hit after a late update — consists of exactly `asked` and was
computed by `highlight(asked)`. -/
theorem C30_shown_is_for_asked_code (s : State) (h : Reachable s) (asked origin : Bytes) (text : Text)
    (ho : Obs.shown asked text origin ∈ s.log) :
    plain text = asked ∧ origin = asked ∧ Computed asked text := by
  obtain ⟨h1, h2, h3⟩ := (reachable_inv h).log_ok _ ho
  exact ⟨by simpa using tiles_plain h2, h1, h3⟩

/-- Theorem (3c): a late result is stored only while the cache holds the code it
was computed for, it then leaves `cache.code` alone; otherwise it is dropped and
the cache is untouched.  (Both for the step relation and for every late
delivery recorded in the ghost log of a reachable state.) -/
theorem C30_late_only_for_its_code (s s' : State) (p : Pending) (hmu : s.mu = some (.late p)) :
    (∀ answers, step s (.lateStore answers) = some s' → s.code = p.code ∧ s'.code = s.code ∧ s'.origin = p.code) ∧
    (step s .lateDrop = some s' → s.code ≠ p.code ∧ s'.code = s.code ∧ s'.styled = s.styled ∧ s'.origin = s.origin) := by
  constructor
  · intro answers hs
    simp only [step, hmu] at hs
    split at hs
    · next hc =>
      split at hs
      · simp only [Option.some.injEq] at hs; subst hs; exact ⟨hc.1, rfl, rfl⟩
      · cases hs
    · cases hs
  · intro hs
    simp only [step, hmu] at hs
    split at hs
    · cases hs
    · next hne => simp only [Option.some.injEq] at hs; subst hs; exact ⟨hne, rfl, rfl, rfl⟩

theorem C30_late_deliveries_in_log (s : State) (h : Reachable s) :
    (∀ origin cached text, Obs.lateStored origin cached text ∈ s.log → origin = cached ∧ plain text = cached) ∧
    (∀ origin cached, Obs.lateDropped origin cached ∈ s.log → origin ≠ cached) := by
  have hi := reachable_inv h
  constructor
  · intro o c t hm
    obtain ⟨h1, h2, _⟩ := hi.log_ok _ hm
    exact ⟨h1, by simpa using tiles_plain h2⟩
  · intro o c hm
    exact hi.log_ok _ hm

/-- ABA (`c → c′ → c`) is harmless: when a late result for `p.code` is delivered
while the cache (again) holds `p.code`, what is stored is
`restyle imm cmds answers` with `(imm, cmds) = highlight p.code …` — a function
of the code, of the regions computed for it and of the answers of the
command-existence callback only.  The history of the cache in between does not
enter, and the stored text consists of exactly the cached code.  It is the same
text a `Get(p.code)` returns directly when the answers arrive within
`maxBlockForLate` (`runHighlight … fast := some answers`). -/
theorem C30_aba_harmless (s : State) (h : Reachable s) (p : Pending) (hmu : s.mu = some (.late p))
    (hc : s.code = p.code) (answers : List Bool) (hl : answers.length = p.cmds.length) :
    ∃ s' late hasCmd sorted,
      step s (.lateStore answers) = some s' ∧ s'.styled = late ∧ s'.code = s.code ∧ plain late = s.code ∧
      highlight p.code hasCmd sorted = .ok (p.imm, p.cmds) ∧ restyle p.imm p.cmds answers = .ok late ∧
      (hasCmd = true → p.cmds ≠ [] →
        runHighlight p.code { hasCmd := hasCmd, sorted := sorted, fast := some answers } = .ok (late, none)) := by
  obtain ⟨hcfg, sorted, hh⟩ := (reachable_inv h).holder_ok p hmu
  obtain ⟨late, hr, hp⟩ := C30_late_restyle_no_panic p.code hcfg sorted p.imm p.cmds answers hh
  refine ⟨{ s with mu := none, styled := late, origin := p.code,
                      log := .lateStored p.code s.code late :: s.log },
    late, hcfg, sorted, ?_, rfl, rfl, by rw [hc]; exact hp, hh, hr, ?_⟩
  · simp only [step, hmu, hc, hl, and_self, if_true, hr]
  · intro h1 h2
    subst h1
    simp [runHighlight, hh, h2, hl, hr]

/-- With region sources that stay inside the code (C01 for parse nodes and parse
errors; checked at run time for `cfg.Check`), `Get` never panics: the
`getPanic` step is never enabled, and a `Get` that holds the mutex and misses
the cache can always complete. -/
theorem C30_get_never_panics (code : Bytes) (env : Env) (regions : List Region)
    (hin : ∀ r ∈ regions, InBounds code.length r) (hs : SortedPerm regions env.sorted)
    (hfast : ∀ a, env.fast = some a → ∀ t cmds, highlight code env.hasCmd env.sorted = .ok (t, cmds) → a.length = cmds.length) :
    (∀ w, runHighlight code env ≠ .panic w) ∧
    ∀ s, s.mu = some (.get code) → step s (.getPanic env) = none := by
  obtain ⟨t, cmds, e, _, _, hC⟩ := C30_highlight_total_lossless code env.hasCmd regions env.sorted hin hs
  have hnp : ∀ w, runHighlight code env ≠ .panic w := by
    intro w
    unfold runHighlight
    rw [e]
    simp only
    split
    · cases hf : env.fast with
      | none => simp
      | some a =>
        simp only
        have hl := hfast a hf t cmds e
        obtain ⟨t', e'⟩ := restyle_no_panic cmds a t (cmds_in_range hC)
        simp [hl, e']
    · cases hf : env.fast with
      | none => simp
      | some a => simp
  refine ⟨hnp, ?_⟩
  intro s hmu
  simp only [step, hmu]
  split
  · rfl
  · cases hr : runHighlight code env with
    | panic w => exact absurd hr (hnp w)
    | ok _ => rfl
    | exc _ => rfl

/-- Every candidate state the driver's acceptor ever holds is a `Reachable`
state of the model: an accepted recorded trace IS a model execution, so the
theorems above apply to it. -/
theorem C30_acceptor_sound (hasCmd : Bool) (cs : List Cand) (e : Entry) (h : CandsOK cs) :
    CandsOK [Cand.init] ∧ CandsOK (accept hasCmd cs e) ∧ CandsOK (finish hasCmd cs) :=
  ⟨init_cands_ok, accept_ok hasCmd e cs [] h (by intro x hx; cases hx), finish_ok hasCmd h⟩

/-- the acceptor accepts the beginning of a real trace and rejects an entry that no model step explains -/
example : (accept true [Cand.init] (.GL [108, 115])).length = 1 ∧
    accept true (accept true [Cand.init] (.GL [108, 115])) (.GH [108, 115] []) = [] ∧
    accept true [Cand.init] (.LS [108, 115] []) = [] := by decide

/-- C30: (a) for every code, every in-bounds region list and every outcome of
the sort, the highlighted text — immediate or restyled late — consists of
exactly that code; (b) in every reachable state of the highlighter, under every
interleaving, the cache holds a text for its own code, every text `Get` returns
consists of exactly the code asked for and was computed for it, and every late
result that was stored was computed for the code cached at that moment. -/
def C30_full : Prop :=
  (∀ (code : Bytes) (hasCmd : Bool) (regions sorted : List Region),
    (∀ r ∈ regions, InBounds code.length r) → SortedPerm regions sorted →
    ∃ t cmds, highlight code hasCmd sorted = .ok (t, cmds) ∧ plain t = code ∧
      ∀ answers, ∃ t', restyle t cmds answers = .ok t' ∧ plain t' = code) ∧
  (∀ s, Reachable s →
    plain s.styled = s.code ∧ s.origin = s.code ∧
    (∀ asked text origin, Obs.shown asked text origin ∈ s.log → plain text = asked ∧ origin = asked) ∧
    (∀ origin cached text, Obs.lateStored origin cached text ∈ s.log → origin = cached ∧ plain text = cached))

theorem C30_never_changes_text_never_stale : C30_full := by
  constructor
  · intro code hc regions sorted hin hs
    obtain ⟨t, cmds, e, _, hp, _⟩ := C30_highlight_total_lossless code hc regions sorted hin hs
    exact ⟨t, cmds, e, hp, fun answers => C30_late_restyle_no_panic code hc sorted t cmds answers e⟩
  · intro s hr
    obtain ⟨h1, _, h3, _⟩ := C30_cache_invariant s hr
    refine ⟨h1, h3, ?_, (C30_late_deliveries_in_log s hr).1⟩
    intro a t o hm
    obtain ⟨h1, h2, _⟩ := C30_shown_is_for_asked_code s hr a o t hm
    exact ⟨h1, h2⟩

/-! A concrete ABA execution: `Get("ls")` (timer first: late result in flight), `Get("x")` with no lookup pending,
`Get("ls")` again (late text returned directly, answer `false`), then the FIRST computation's late result is delivered
with answer `true` and stored, because the cache holds `ls` again. -/

def C30_demo_regions_ls : List Region := [⟨0, 2, .semantic, commandRegion⟩, ⟨0, 2, .lexical, [98, 97, 114, 101, 119, 111, 114, 100]⟩]
def C30_demo_labels : List Label :=
  [.getLock [108, 115], .getMiss { hasCmd := true, sorted := C30_demo_regions_ls, fast := none },
   .getLock [120], .getMiss { hasCmd := true, sorted := [⟨0, 1, .lexical, []⟩], fast := none },
   .getLock [108, 115], .getMiss { hasCmd := true, sorted := C30_demo_regions_ls, fast := some [false] },
   .lateLock 0, .lateStore [true], .getLock [108, 115], .getHit]

def C30_demo_run : List Label → State → Option State
  | [], s => some s
  | l :: ls, s => (step s l).bind (C30_demo_run ls)

theorem C30_demo_reachable : ∀ (ls : List Label) (s s' : State), Reachable s → C30_demo_run ls s = some s' → Reachable s' := by
  intro ls
  induction ls with
  | nil => intro s s' hr h; simp only [C30_demo_run, Option.some.injEq] at h; subst h; exact hr
  | cons l ls ih =>
    intro s s' hr h
    simp only [C30_demo_run] at h
    cases hs : step s l with
    | none => rw [hs] at h; cases h
    | some s1 => rw [hs] at h; exact ih s1 s' (Reachable.step l hr hs) h

example : ∃ s, Reachable s ∧ C30_demo_run C30_demo_labels init = some s ∧
    s.code = [108, 115] ∧ s.styled = [⟨{ fg := .green }, [108, 115]⟩] ∧
    s.log.head? = some (.shown [108, 115] [⟨{ fg := .green }, [108, 115]⟩] [108, 115]) ∧
    Obs.lateStored [108, 115] [108, 115] [⟨{ fg := .green }, [108, 115]⟩] ∈ s.log := by
  have h : (C30_demo_run C30_demo_labels init).isSome = true := by decide
  obtain ⟨s, hs⟩ := Option.isSome_iff_exists.mp h
  refine ⟨s, C30_demo_reachable _ _ _ Reachable.init hs, hs, ?_⟩
  have e : C30_demo_run C30_demo_labels init = some s := hs
  have d : ∀ s0, C30_demo_run C30_demo_labels init = some s0 →
      s0.code = [108, 115] ∧ s0.styled = [⟨{ fg := .green }, [108, 115]⟩] ∧
      s0.log.head? = some (.shown [108, 115] [⟨{ fg := .green }, [108, 115]⟩] [108, 115]) ∧
      Obs.lateStored [108, 115] [108, 115] [⟨{ fg := .green }, [108, 115]⟩] ∈ s0.log := by
    decide
  exact d s e
