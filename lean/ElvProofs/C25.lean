/-
C25 — the history survives a crash at any point.  Model: ElvModel/C25/Model.lean — the sequential store of C24 run
as a program on a durable medium: every API call is ONE `db.Update` (dirty-page writes, then the atomic meta-page
commit, then the acknowledgement) or one `db.View`; the process may be killed between any two events
(`Sys.crash s cs k`), `durable` is what a reopen reads.  Atomicity and durability of the commit are ASSUMED of bbolt +
fsync (see the header of the model); proved is that, given them and the structure of pkg/store
(`C25_api_one_transaction`, regenerated from the source at every check), the property holds for every history, crash
point, number of page writes per transaction and number of successive lives of the process.
`conc st` is the store that holds the specification state `st` (C24's sequential log + the directory bucket).
Hypothesis `counter + #calls < 2^63`: bbolt's uint64 sequence stays inside Go's `int` (as in C24).
-/
import ElvProofs.C25.Store
open Go C24 C24.Spec C25

/-- Every exported method of the store is exactly one write transaction or
exactly one read transaction (`Close`: none) — never two, never a `View`
followed by an `Update`; the calls of the model are classified accordingly; the
options of `dbWithDefaultOptions`, through which `NewStore` opens the file,
leave syncing on. -/
theorem C25_api_one_transaction :
    (∀ a : Api, a.txns = (1, 0) ∨ a.txns = (0, 1) ∨ a = .Close) ∧
    (∀ (F : Type) (c : Call F), (mutates c = true ∧ c.api.txns = (1, 0)) ∨ (mutates c = false ∧ c.api.txns = (0, 1))) ∧
    (openCalls.lookup newStoreOpensVia = some defaultOpts ∧ defaultOpts = ⟨false, false, false⟩) := by
  refine ⟨?_, ?_, by decide⟩
  · intro a; cases a <;> decide
  · intro F c
    cases c with
    | cmd op => cases op <;> simp [mutates, Call.api, Api.txns]
    | _ => simp [mutates, Call.api, Api.txns]

example : mutates (Call.cmd (.add [1]) : Call Nat) = true ∧ mutates (Call.dirs [] : Call Nat) = false := by decide

/-- The calls that are a `View` leave the store as it is. -/
theorem C25_view_calls_read_only (o : ScoreOps) (s : Store) (c : Call o.F) (h : mutates c = false) :
    (call o s c).1 = s := call_readOnly o s c h

/-- For every committed state `s` of the store, every history `cs` of API
calls, every number of page writes per transaction and EVERY crash point `k`:
with `a` the number of acknowledgements that got out and `j = progress` —
`a ≤ j ≤ a + 1`, `j ≤ #cs` — the reopened store is exactly the store after the
first `j` calls run one after the other without a crash (a prefix of the
attempted operations that contains every acknowledged one), and the
acknowledged results are exactly the results of the first `a` calls. -/
theorem C25_crash_reopens_to_prefix (o : ScoreOps) (pages : Store → Call o.F → Nat) (s : Store)
    (cs : List (Call o.F)) (k : Nat) :
    (acks ((elvish o pages).crash s cs k)).length ≤ progress ((elvish o pages).crash s cs k) ∧
    progress ((elvish o pages).crash s cs k) ≤ (acks ((elvish o pages).crash s cs k)).length + 1 ∧
    progress ((elvish o pages).crash s cs k) ≤ cs.length ∧
    durable s ((elvish o pages).crash s cs k) =
      ((elvish o pages).run s (cs.take (progress ((elvish o pages).crash s cs k)))).1 ∧
    acks ((elvish o pages).crash s cs k) =
      ((elvish o pages).run s (cs.take (acks ((elvish o pages).crash s cs k)).length)).2 := by
  obtain ⟨h1, h2, h3⟩ := crash_prefix (elvish o pages) (elvish_synced o pages) (elvish_readOnly o pages) cs s k
  obtain ⟨b1, b2⟩ := progress_bounds ((elvish o pages).crash s cs k)
  exact ⟨b1, b2, h1, h2, h3⟩

/-- non-vacuity: a kill between the commit and the acknowledgement of the second
`AddCmd` — one acknowledgement got out, the reopened store holds both commands -/
example :
    let es := (elvish unitOps (fun _ _ => 2)).crash Store.fresh [.cmd (.add [1]), .cmd (.add [2]), .cmd (.add [3])] 10
    (acks es).length = 1 ∧ progress es = 2 ∧
      (durable Store.fresh es).cmd.kvs = [(marshalSeq 1, [1]), (marshalSeq 2, [2])] := by decide +kernel

/-- The same against the SPECIFICATION (C24's sequential log): on a store
holding a well-formed specification state, the reopened store holds the
specification state after a prefix `j ≥ a` of the attempted calls (the
abstraction function `absLog` reads the log back from the reopened bucket),
and what was acknowledged is what the specification returns. -/
theorem C25_reopened_is_spec_prefix (o : ScoreOps) (pages : Store → Call o.F → Nat) (st : C25.Spec.St)
    (cs : List (Call o.F)) (k : Nat) (h : st.log.WF) (hc : st.log.counter + cs.length < two63) :
    let es := (elvish o pages).crash (conc st) cs k
    (acks es).length ≤ progress es ∧ progress es ≤ cs.length ∧
    durable (conc st) es = conc (C25.Spec.run o st (cs.take (progress es))).1 ∧
    absLog (durable (conc st) es).cmd = (C25.Spec.run o st (cs.take (progress es))).1.log ∧
    acks es = (C25.Spec.run o st (cs.take (acks es).length)).2 := by
  intro es
  obtain ⟨b1, _, h1, h2, h3⟩ := C25_crash_reopens_to_prefix o pages (conc st) cs k
  have hlen : ∀ n, st.log.counter + (cs.take n).length < two63 := by
    intro n
    simp only [List.length_take]
    omega
  have hd : durable (conc st) es = conc (C25.Spec.run o st (cs.take (progress es))).1 := by
    show durable (conc st) ((elvish o pages).crash (conc st) cs k) = _
    rw [h2, run_conc o pages _ st h (hlen _)]
  refine ⟨b1, h1, hd, ?_, ?_⟩
  · rw [hd]
    have hwf := run_WF o (cs.take (progress es)) st h
    have hcnt := run_counter o (cs.take (progress es)) st
    have := hlen (progress es)
    exact absLog_conc _ (wf_bound hwf (by omega))
  · rw [run_conc o pages _ st h (hlen _)] at h3
    exact h3

/-- on a fresh database in particular -/
theorem C25_fresh_database (o : ScoreOps) (pages : Store → Call o.F → Nat) (cs : List (Call o.F)) (k : Nat)
    (hc : cs.length < two63) :
    let es := (elvish o pages).crash Store.fresh cs k
    ∃ j, (acks es).length ≤ j ∧ j ≤ cs.length ∧
      durable Store.fresh es = conc (C25.Spec.run o C25.Spec.St.fresh (cs.take j)).1 ∧
      acks es = (C25.Spec.run o C25.Spec.St.fresh (cs.take (acks es).length)).2 := by
  intro es
  have h := C25_reopened_is_spec_prefix o pages C25.Spec.St.fresh cs k Log.WF_empty
    (by simpa [C25.Spec.St.fresh, Log.empty] using hc)
  exact ⟨progress es, h.1, h.2.1, h.2.2.1, h.2.2.2.2⟩

/-- Any number of lives of the process — each runs a history on what the
previous one left behind and is killed at an arbitrary point — followed by a
continuation `cont` after the last reopen: the sequence numbers that were
ACKNOWLEDGED in all the lives, followed by the numbers handed out after the
last reopen, strictly increase.  So a number handed out after a reopen is
larger than every number ever acknowledged before; all of them lie above the
counter the first life started from. -/
theorem C25_seq_above_every_acknowledged (o : ScoreOps) (pages : Store → Call o.F → Nat) :
    ∀ (lives : List (List (Call o.F) × Nat)) (st : C25.Spec.St) (cont : List (Call o.F)), st.log.WF →
      st.log.counter + (lives.map (·.1.length)).sum + cont.length < two63 →
      (issued (((elvish o pages).lives (conc st) lives).2 ++
        ((elvish o pages).run ((elvish o pages).lives (conc st) lives).1 cont).2)).Pairwise (· < ·) ∧
      ∀ n ∈ issued (((elvish o pages).lives (conc st) lives).2 ++
        ((elvish o pages).run ((elvish o pages).lives (conc st) lives).1 cont).2), (st.log.counter : Int) < n := by
  intro lives st cont h hc
  obtain ⟨l1, l2⟩ := lives_run (elvish o pages) (elvish_synced o pages) (elvish_readOnly o pages) lives (conc st)
  have hlen := survived_length (elvish o pages) lives (conc st)
  -- all of it is a sub-sequence of the results of ONE run, where C24 applies
  rw [l1]
  have hsub := issued_sublist (l2.append (List.Sublist.refl
    ((elvish o pages).run ((elvish o pages).run (conc st) (survived (elvish o pages) (conc st) lives)).1 cont).2))
  have hrun := run_conc o pages (survived (elvish o pages) (conc st) lives ++ cont) st h
    (by rw [List.length_append]; omega)
  rw [← run_append_snd, hrun, (run_log o _ st).2] at hsub
  obtain ⟨i1, i2⟩ := C24.issued_run (cmdOps (survived (elvish o pages) (conc st) lives ++ cont)) st.log
  exact ⟨i1.sublist hsub, fun n hn => (i2 n (hsub.subset hn)).1⟩

/-- non-vacuity: two lives killed right after a commit that was never
acknowledged, then a continuation — acknowledged 1, 3; after the reopen 5 -/
example :
    let S := elvish unitOps (fun _ _ => 1)
    let r := S.lives Store.fresh [([.cmd (.add [1]), .cmd (.add [2])], 9), ([.cmd (.add [3]), .cmd (.add [4])], 8)]
    issued (r.2 ++ (S.run r.1 [.cmd (.add [5])]).2) = [1, 3, 5] := by decide +kernel

/-- If `AddCmd` took its number in one `Update` and stored the text in a second
one, a kill between the two would leave a store that is the state after NO
prefix of the history (the counter moved, the command is missing). -/
theorem C25_needs_single_update (t : Bytes) :
    ∃ k, ∀ j, durable Store.fresh ((splitAddCmdEvents t).take k) ≠
      ((elvish unitOps (fun _ _ => 0)).run Store.fresh ([Call.cmd (.add t)].take j)).1 := by
  refine ⟨2, ?_⟩
  intro j
  match j with
  | 0 => simp [splitAddCmdEvents, durable, Sys.run, Store.fresh, Bucket.nextSequence, Bucket.empty]
  | j + 1 =>
    simp [splitAddCmdEvents, durable, Sys.run, elvish, call, C24.step, addCmd, Bucket.put, marshalSeq,
      Store.fresh, Bucket.nextSequence, Bucket.empty, seekPre, seekPost, dropKey, maxKeySize]

/-- If the database were opened with `NoSync` (the call returns before the meta
page is on the medium), an ACKNOWLEDGED operation could be lost. -/
theorem C25_needs_sync :
    let S : Sys Store (Call unitOps.F) (Ret unitOps.F) := { elvish unitOps (fun _ _ => 0) with synced := false }
    let es := S.crash Store.fresh [.cmd (.add [1])] 1
    (acks es).length = 1 ∧ durable Store.fresh es = Store.fresh ∧
      ∀ j, 1 ≤ j → (S.run Store.fresh ([Call.cmd (.add [1])].take j)).1 ≠ Store.fresh := by
  refine ⟨by decide, by decide, ?_⟩
  intro j hj
  match j with
  | j + 1 =>
    simp [Sys.run, elvish, call, C24.step, addCmd, Bucket.put, marshalSeq,
      Store.fresh, Bucket.nextSequence, Bucket.empty, seekPre, seekPost, dropKey, maxKeySize]
