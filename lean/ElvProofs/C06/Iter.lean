/-
`(*iterator).Next` scans the path stack from the deepest
entry for one that can be advanced (`splitAdv` over the reversed path).  `adv`
finds the same entry from the top, which is the direction in which the tree
invariant can be followed: the path stack of position `p` becomes the path
stack of position `p + 1` (`adv_step`).
-/
import ElvProofs.C06.Iface
namespace C06
open Go
open Gen.C06Consts

variable {α : Type}

/-- the entries above the deepest entry that can be advanced, that entry, and
the number of entries below it -/
def adv : List (PathEntry α) → Option (List (PathEntry α) × PathEntry α × Nat)
  | [] => none
  | e :: rest =>
    match adv rest with
    | some (pre, e', k) => some (e :: pre, e', k)
    | none => if e.index + 1 < nodeSize then some ([], e, rest.length) else none

theorem splitAdv_reverse (path : List (PathEntry α)) : ∀ (R : List (PathEntry α)) (k : Nat),
    Iter.splitAdv (path.reverse ++ R) k =
      match adv path with
      | some (pre, e, j) => some (R.reverse ++ pre, e, k + j)
      | none => Iter.splitAdv R (k + path.length) := by
  induction path with
  | nil => intro R k; rfl
  | cons e rest ih =>
    intro R k
    rw [List.reverse_cons, List.append_assoc, List.singleton_append, ih (e :: R) k]
    simp only [adv]
    cases adv rest with
    | some t => simp only [List.reverse_cons, List.append_assoc, List.singleton_append]
    | none =>
      simp only [Iter.splitAdv]
      split
      · exact congrArg (fun pre => some (pre, e, k + rest.length)) (List.append_nil _).symm
      · rfl

theorem splitAdv_of_adv {path pre : List (PathEntry α)} {e : PathEntry α} {k : Nat}
    (h : adv path = some (pre, e, k)) : Iter.splitAdv path.reverse 0 = some (pre, e, k) := by
  have := splitAdv_reverse path [] 0
  rw [List.append_nil, h] at this
  simp only [this, List.reverse_nil, List.nil_append, Nat.zero_add]

/-- `path` is the iterator's stack for position `p` of the subtree `a` of height `h`: one entry
per level from `a` down to the leaf, each with the index of the child (in the leaf: of the
element) that `p` lies in. -/
def PathOK : Nat → Arr α → Nat → List (PathEntry α) → Prop
  | 0, a, p, path => path = [⟨some a, p⟩]
  | h + 1, a, p, path => ∃ child rest, path = ⟨some a, p / cap h⟩ :: rest ∧
      a[p / cap h]? = some (.node child) ∧ PathOK h child (p % cap h) rest

theorem PathOK.length {h : Nat} : ∀ {a : Arr α} {p : Nat} {path : List (PathEntry α)},
    PathOK h a p path → path.length = h + 1 := by
  induction h with
  | zero => intro a p path H; rw [show path = [⟨some a, p⟩] from H]; rfl
  | succ h ih =>
    intro a p path H
    obtain ⟨child, rest, hp, _, hr⟩ := H
    rw [hp, List.length_cons, ih hr]

theorem descendPath_spec {h : Nat} : ∀ {a : Arr α} {n : Nat} {f : Nat → Option α} (i : Nat)
    (acc : List (PathEntry α)), RepF h (.node a) n f → i % cap h < n →
    ∃ path, descendPath i h (some a) acc = .ok (acc ++ path) ∧ PathOK h a (i % cap h) path := by
  induction h with
  | zero =>
    intro a n f i acc _ _
    refine ⟨[⟨some a, i % cap 0⟩], ?_, rfl⟩
    simp only [descendPath, and_mask, cap_zero]
  | succ h ih =>
    intro a n f i acc H hi
    obtain ⟨c, hc, hrep, hlt⟩ := H.child_of_pos hi
    rw [mod_cap_succ_mod] at hlt
    obtain ⟨rest, hdesc, hok⟩ := ih i (acc ++ [⟨some a, i % cap (h + 1) / cap h⟩]) hrep hlt
    refine ⟨⟨some a, i % cap (h + 1) / cap h⟩ :: rest, ?_, c, rest, rfl, hc, ?_⟩
    · simp only [descendPath, deref_some, ok_bind, digit_succ, getIdx_of_getElem? hc, asNode_node,
        hdesc, List.append_assoc, List.singleton_append]
    · rw [mod_cap_succ_mod]
      exact hok

theorem path_elem {h : Nat} : ∀ {a : Arr α} {n : Nat} {f : Nat → Option α} {p : Nat}
    {path : List (PathEntry α)}, PathOK h a p path → RepF h (.node a) n f → p < n →
    ∃ e x, path.getLast? = some e ∧ e.current = .ok (.val x) ∧ f p = some x := by
  induction h with
  | zero =>
    intro a n f p path hp H hn
    obtain ⟨-, rfl, h3⟩ := RepF.zero_iff.mp H
    obtain ⟨x, hx1, hx2⟩ := h3 p hn
    refine ⟨⟨some a, p⟩, x, by rw [show path = [⟨some a, p⟩] from hp]; rfl, ?_, hx1⟩
    simp only [PathEntry.current, deref_some, ok_bind, getIdx_of_getElem? hx2]
  | succ h ih =>
    intro a n f p path hp H hn
    obtain ⟨child, rest, rfl, hchild, hrest⟩ := hp
    obtain ⟨c, hc, hrep, hlt⟩ := H.child_of_pos hn
    cases hchild.symm.trans hc
    obtain ⟨e, x, he, hcur, hfx⟩ := ih hrest hrep hlt
    refine ⟨e, x, ?_, hcur, Nat.div_add_mod p (cap h) ▸ hfx⟩
    rw [List.getLast?_cons_of_ne_nil fun h0 => by rw [h0] at he; exact nomatch he]
    exact he

theorem adv_last {h : Nat} : ∀ {a : Arr α} {path : List (PathEntry α)},
    PathOK h a (cap h - 1) path → adv path = none := by
  induction h with
  | zero =>
    intro a path hp
    rw [show path = [⟨some a, cap 0 - 1⟩] from hp]
    have := nodeSize_pos
    simp only [adv, cap_zero]
    rw [if_neg (by omega)]
  | succ h ih =>
    intro a path hp
    obtain ⟨child, rest, rfl, -, hrest⟩ := hp
    have hS := cap_pos h
    have hB := nodeSize_pos
    -- the last position of the subtree is the last position of its last child
    have e : cap (h + 1) - 1 = cap h * (nodeSize - 1) + (cap h - 1) := by
      have := Nat.mul_le_mul_left (cap h) hB
      rw [cap_succ, Nat.mul_sub, Nat.mul_one]
      omega
    have hdm := div_mod_unique (S := cap h) (a := nodeSize - 1) (r := cap h - 1) (by omega)
    rw [← e] at hdm
    obtain ⟨hdiv, hmod⟩ := hdm
    rw [hmod] at hrest
    simp only [adv, ih hrest, hdiv]
    rw [if_neg (by omega)]

theorem repop_leftmost {h : Nat} : ∀ {a c : Arr α} {k n : Nat} {f : Nat → Option α},
    a[k]? = some (.node c) → RepF h (.node c) n f →
    ∃ path0, Iter.repop (h + 1) ⟨some a, k⟩ = .ok path0 ∧ PathOK h c 0 path0 := by
  induction h with
  | zero =>
    intro a c k n f hk _
    refine ⟨[⟨some c, 0⟩], ?_, rfl⟩
    simp only [Iter.repop, PathEntry.current, deref_some, ok_bind, getIdx_of_getElem? hk,
      asNode_node, pure_eq_ok]
  | succ h ih =>
    intro a c k n f hk H
    obtain ⟨c0, hc0, hrep0⟩ := H.child (k := 0) (by rw [Nat.mul_zero]; exact H.bounds.1)
    obtain ⟨path0, hp0, hok0⟩ := ih hc0 hrep0
    refine ⟨⟨some c, 0⟩ :: path0, ?_, c0, path0, by rw [Nat.zero_div], by rwa [Nat.zero_div],
      by rwa [Nat.zero_mod]⟩
    rw [Iter.repop]
    simp only [PathEntry.current, deref_some, ok_bind, getIdx_of_getElem? hk, asNode_node, hp0,
      pure_eq_ok]

theorem adv_step {h : Nat} : ∀ {a : Arr α} {n : Nat} {f : Nat → Option α} {p : Nat}
    {path : List (PathEntry α)}, PathOK h a p path → RepF h (.node a) n f → p + 1 < n →
    ∃ pre e k deeper, adv path = some (pre, e, k) ∧
      Iter.repop k ⟨e.node, e.index + 1⟩ = .ok deeper ∧
      PathOK h a (p + 1) (pre ++ [⟨e.node, e.index + 1⟩] ++ deeper) := by
  induction h with
  | zero =>
    intro a n f p path hp H hn
    obtain ⟨-, rfl, -⟩ := RepF.zero_iff.mp H
    rw [show path = [⟨some a, p⟩] from hp]
    exact ⟨[], ⟨some a, p⟩, 0, [], by simp only [adv]; rw [if_pos hn]; rfl, rfl, rfl⟩
  | succ h ih =>
    intro a n f p path hp H hn
    obtain ⟨child, rest, rfl, hchild, hrest⟩ := hp
    have hS := cap_pos h
    have hsplit := Nat.div_add_mod p (cap h)
    have hq := Nat.mod_lt p hS
    obtain ⟨c, hc, hrep, hlt⟩ := H.child_of_pos (Nat.lt_of_succ_lt hn)
    cases hchild.symm.trans hc
    by_cases hcarry : p % cap h + 1 < cap h
    · -- the step stays inside the same child
      have hdm := div_mod_unique (S := cap h) (a := p / cap h) hcarry
      rw [show cap h * (p / cap h) + (p % cap h + 1) = p + 1 by omega] at hdm
      obtain ⟨pre, e, k, deeper, hadv, hrepop, hok⟩ := ih hrest hrep (by omega)
      refine ⟨⟨some a, p / cap h⟩ :: pre, e, k, deeper, by simp only [adv, hadv], hrepop, child,
        pre ++ [⟨e.node, e.index + 1⟩] ++ deeper, ?_, ?_, ?_⟩
      · rw [hdm.1]; rfl
      · rwa [hdm.1]
      · rwa [hdm.2]
    · -- carry: the next child, leftmost path
      have hnone := adv_last ((show p % cap h = cap h - 1 by omega) ▸ hrest)
      have hdm := div_mod_unique (S := cap h) (a := p / cap h + 1) hS
      rw [show cap h * (p / cap h + 1) + 0 = p + 1 by rw [Nat.mul_succ]; omega] at hdm
      have hnext : cap h * (p / cap h + 1) < n := by rw [Nat.mul_succ]; omega
      obtain ⟨c', hc', hrep'⟩ := H.child hnext
      obtain ⟨path0, hp0, hok0⟩ := repop_leftmost hc' hrep'
      refine ⟨[], ⟨some a, p / cap h⟩, rest.length, path0, ?_, hrest.length ▸ hp0, c', path0,
        ?_, ?_, ?_⟩
      · simp only [adv, hnone]
        rw [if_pos (child_lt_nodeSize hnext H.bounds.2.1)]
      · rw [hdm.1]; rfl
      · rwa [hdm.1]
      · rwa [hdm.2]

structure IterInv (it : Iter α) (lp : List α) : Prop where
  reps : Reps it.v lp
  ts : it.treeSize = tsz lp.length
  stop : it.stop ≤ lp.length
  path : it.index < it.treeSize →
    ∃ r, it.v.root = some r ∧ PathOK it.v.height r it.index it.path

theorem IterInv.tree {it : Iter α} {lp : List α} (H : IterInv it lp) (hi : it.index < it.treeSize) :
    ∃ r, it.v.root = some r ∧ PathOK it.v.height r it.index it.path ∧
      RepF it.v.height (.node r) it.treeSize (fun i => lp[i]?) := by
  obtain ⟨r, hroot, hpath⟩ := H.path hi
  obtain ⟨r', hroot', hrepF⟩ := H.reps.root (H.ts ▸ Nat.zero_lt_of_lt hi)
  cases hroot.symm.trans hroot'
  exact ⟨r, hroot, hpath, H.ts ▸ hrepF⟩

theorem iter_elem {it : Iter α} {lp : List α} (H : IterInv it lp) (hi : it.index < it.stop) :
    it.Elem = .ok (.val (lp[it.index]'(Nat.lt_of_lt_of_le hi H.stop))) := by
  have hlen : it.index < lp.length := Nat.lt_of_lt_of_le hi H.stop
  unfold Iter.Elem
  by_cases ht : it.index ≥ it.treeSize
  · rw [if_pos ht]
    apply getIdx_of_getElem?
    rw [H.reps.tail_getElem?, ← H.ts, Nat.add_sub_cancel' ht, List.getElem?_eq_getElem hlen]
    rfl
  · rw [if_neg ht]
    obtain ⟨r, -, hpath, hrepF⟩ := H.tree (Nat.not_le.mp ht)
    obtain ⟨e, x, he, hcur, hfx⟩ := path_elem hpath hrepF (Nat.not_le.mp ht)
    rw [he]
    simp only []
    rw [hcur, Option.some.inj ((List.getElem?_eq_getElem hlen).symm.trans hfx)]

theorem iter_next {it : Iter α} {lp : List α} (H : IterInv it lp) :
    ∃ it', it.Next = .ok it' ∧ IterInv it' lp ∧ it'.index = it.index + 1 ∧ it'.stop = it.stop := by
  by_cases ht : it.index + 1 ≥ it.treeSize
  · refine ⟨_, if_pos ht, ⟨H.reps, H.ts, H.stop, fun h => ?_⟩, rfl, rfl⟩
    exact absurd (show it.index + 1 < it.treeSize from h) (Nat.not_lt.mpr ht)
  · obtain ⟨r, hroot, hpath, hrepF⟩ := H.tree (Nat.lt_of_succ_lt (Nat.not_le.mp ht))
    obtain ⟨pre, e, k, deeper, hadv, hrepop, hok⟩ := adv_step hpath hrepF (Nat.not_le.mp ht)
    refine ⟨{ it with path := pre ++ [⟨e.node, e.index + 1⟩] ++ deeper, index := it.index + 1 }, ?_,
      ⟨H.reps, H.ts, H.stop, fun _ => ⟨r, hroot, hok⟩⟩, rfl, rfl⟩
    unfold Iter.Next
    rw [if_neg ht, splitAdv_of_adv hadv]
    simp only [hrepop, ok_bind, pure_eq_ok]

theorem iter_collect : ∀ (fuel : Nat) {it : Iter α} {lp : List α}, IterInv it lp →
    fuel = it.stop - it.index →
    Iter.collect fuel it = .ok ((lslice lp it.index it.stop).map Slot.val) := by
  intro fuel
  induction fuel with
  | zero =>
    intro it lp H hf
    have : ¬ (it.index < it.stop) := by omega
    simp only [Iter.collect, Iter.HasElem, decide_eq_true_eq, if_neg this]
    rw [lslice, ← hf, List.take_zero]
    rfl
  | succ fuel ih =>
    intro it lp H hf
    have hi : it.index < it.stop := by omega
    obtain ⟨it', hnext, hinv', hidx', hstop'⟩ := iter_next H
    have hrec := ih hinv' (by omega)
    simp only [Iter.collect, Iter.HasElem, decide_eq_true_eq, if_pos hi, iter_elem H hi, hnext,
      ok_bind, hrec, pure_eq_ok]
    rw [lslice_cons hi H.stop, hidx', hstop']
    rfl

theorem newIterator_spec {v : Vector α} {lp : List α} (H : Reps v lp) {b e : Nat}
    (he : e ≤ lp.length) :
    ∃ it, newIteratorWithRange v b e = .ok it ∧ IterInv it lp ∧ it.index = b ∧ it.stop = e := by
  unfold newIteratorWithRange
  rw [treeSize_eq, H.count]
  by_cases hb : b ≥ tsz lp.length
  · rw [if_pos hb]
    exact ⟨_, rfl, ⟨H, rfl, he, fun h => absurd hb (Nat.not_le.mpr h)⟩, rfl, rfl⟩
  · rw [if_neg hb]
    obtain ⟨r, hroot, hrepF⟩ := H.root (Nat.zero_lt_of_lt (Nat.not_le.mp hb))
    have hmod : b % cap v.height = b :=
      Nat.mod_eq_of_lt (Nat.lt_of_lt_of_le (Nat.not_le.mp hb) H.hhi)
    obtain ⟨path, hdesc, hok⟩ := descendPath_spec b [] hrepF (hmod.symm ▸ Nat.not_le.mp hb)
    rw [hroot, hdesc]
    exact ⟨_, rfl, ⟨H, rfl, he, fun _ => ⟨r, hroot, hmod ▸ hok⟩⟩, rfl, rfl⟩

theorem vreps_iterate {w : Vec α} {l : List α} (H : VReps w l) :
    w.iterate = .ok (l.map Slot.val) := by
  cases w with
  | nil => exact absurd H id
  | vec v =>
    have H' : Reps v l := H
    obtain ⟨it, hit, hinv, hidx, hstop⟩ := newIterator_spec H' (b := 0) (Nat.le_refl l.length)
    simp only [Vec.iterate, Vec.Iterator, H'.count, hit, ok_bind, Iter.toSlots]
    rw [iter_collect _ hinv rfl, hidx, hstop, lslice, List.drop_zero, Nat.sub_zero,
      List.take_length]
  | sub v b e =>
    obtain ⟨lp, hR, hb, hbe, he, rfl⟩ := H
    obtain ⟨it, hit, hinv, hidx, hstop⟩ :=
      newIterator_spec hR (b := b.toNat) (e := e.toNat) (Int.toNat_le.mpr he)
    simp only [Vec.iterate, Vec.Iterator, hit, ok_bind, Iter.toSlots]
    rw [iter_collect _ hinv rfl, hidx, hstop]

end C06
