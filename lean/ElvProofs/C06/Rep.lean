/-
The tree invariant `RepF` and the tree-level functions that read the tree or rewrite one
position (`descend`, `doAssoc`) against it.

`RepF h s n f`: the slot `s` is a well-formed subtree of height `h` holding
exactly the `n` elements `f 0 … f (n-1)` (`0 < n ≤ cap h`, `n` a multiple of
the leaf size; leaves are full, children to the left of the last non-empty
child are full, children to its right are untyped nil).
-/
import ElvProofs.C06.Arith
namespace C06
open Go
open Gen.C06Consts

variable {α : Type}

def RepF : Nat → Slot α → Nat → (Nat → Option α) → Prop
  | 0, s, n, f => ∃ cs, s = .node cs ∧ cs.length = nodeSize ∧ n = nodeSize ∧
      ∀ i, i < nodeSize → ∃ a, f i = some a ∧ cs[i]? = some (.val a)
  | h + 1, s, n, f => ∃ cs, s = .node cs ∧ cs.length = nodeSize ∧ 0 < n ∧ n ≤ cap (h + 1) ∧
      nodeSize ∣ n ∧
      ∀ k, k < nodeSize → ∃ c, cs[k]? = some c ∧
        ((n ≤ cap h * k ∧ c = .nil) ∨
         (cap h * k < n ∧ RepF h c (min (cap h) (n - cap h * k)) (fun i => f (cap h * k + i))))

theorem RepF.zero_iff {cs : Arr α} {n : Nat} {f : Nat → Option α} :
    RepF 0 (.node cs) n f ↔ cs.length = nodeSize ∧ n = nodeSize ∧
      ∀ i, i < nodeSize → ∃ a, f i = some a ∧ cs[i]? = some (.val a) :=
  ⟨fun ⟨_, h, r⟩ => by cases h; exact r, fun r => ⟨_, rfl, r⟩⟩

theorem RepF.succ_iff {h : Nat} {cs : Arr α} {n : Nat} {f : Nat → Option α} :
    RepF (h + 1) (.node cs) n f ↔ cs.length = nodeSize ∧ 0 < n ∧ n ≤ cap (h + 1) ∧ nodeSize ∣ n ∧
      ∀ k, k < nodeSize → ∃ c, cs[k]? = some c ∧
        ((n ≤ cap h * k ∧ c = .nil) ∨
         (cap h * k < n ∧ RepF h c (min (cap h) (n - cap h * k)) (fun i => f (cap h * k + i)))) :=
  ⟨fun ⟨_, h, r⟩ => by cases h; exact r, fun r => ⟨_, rfl, r⟩⟩

theorem RepF.isNode {h : Nat} {s : Slot α} {n : Nat} {f : Nat → Option α} (H : RepF h s n f) :
    ∃ cs, s = .node cs ∧ cs.length = nodeSize := by
  cases h with
  | zero => obtain ⟨cs, h1, h2, _⟩ := H; exact ⟨cs, h1, h2⟩
  | succ h => obtain ⟨cs, h1, h2, _⟩ := H; exact ⟨cs, h1, h2⟩

theorem RepF.bounds {h : Nat} {s : Slot α} {n : Nat} {f : Nat → Option α} (H : RepF h s n f) :
    0 < n ∧ n ≤ cap h ∧ nodeSize ∣ n := by
  cases h with
  | zero =>
    obtain ⟨cs, _, _, rfl, _⟩ := H
    exact ⟨nodeSize_pos, Nat.le_of_eq cap_zero.symm, Nat.dvd_refl _⟩
  | succ h =>
    obtain ⟨cs, _, _, h0, h1, h2, _⟩ := H
    exact ⟨h0, h1, h2⟩

theorem RepF.congr {h : Nat} : ∀ {s : Slot α} {n : Nat} {f g : Nat → Option α},
    RepF h s n f → (∀ i, i < n → f i = g i) → RepF h s n g := by
  induction h with
  | zero =>
    intro s n f g ⟨cs, h1, h2, hn, h3⟩ hfg
    refine ⟨cs, h1, h2, hn, fun i hi => ?_⟩
    obtain ⟨a, ha, hc⟩ := h3 i hi
    exact ⟨a, hfg i (by omega) ▸ ha, hc⟩
  | succ h ih =>
    intro s n f g ⟨cs, h1, h2, h0, hle, hd, h3⟩ hfg
    refine ⟨cs, h1, h2, h0, hle, hd, fun k hk => ?_⟩
    obtain ⟨c, hc, hcase⟩ := h3 k hk
    refine ⟨c, hc, hcase.imp id fun ⟨ha, hb⟩ => ⟨ha, ih hb fun i hi => hfg _ ?_⟩⟩
    omega

theorem RepF.child {h : Nat} {a : Arr α} {n : Nat} {f : Nat → Option α}
    (H : RepF (h + 1) (.node a) n f) {k : Nat} (hk : cap h * k < n) :
    ∃ c, a[k]? = some (.node c) ∧
      RepF h (.node c) (min (cap h) (n - cap h * k)) (fun i => f (cap h * k + i)) := by
  obtain ⟨-, -, hle, -, hch⟩ := RepF.succ_iff.mp H
  obtain ⟨c, hc, hcase⟩ := hch k (child_lt_nodeSize hk hle)
  rcases hcase with ⟨hx, _⟩ | ⟨_, hy⟩
  · omega
  · obtain ⟨cc, rfl, _⟩ := hy.isNode
    exact ⟨cc, hc, hy⟩

theorem RepF.child_nil {h : Nat} {a : Arr α} {n : Nat} {f : Nat → Option α}
    (H : RepF (h + 1) (.node a) n f) {k : Nat} (hk : k < nodeSize) (hn : n ≤ cap h * k) :
    a[k]? = some .nil := by
  obtain ⟨c, hc, hcase⟩ := (RepF.succ_iff.mp H).2.2.2.2 k hk
  rcases hcase with ⟨_, rfl⟩ | ⟨hx, _⟩
  · exact hc
  · omega

theorem RepF.child_of_pos {h : Nat} {a : Arr α} {n : Nat} {f : Nat → Option α}
    (H : RepF (h + 1) (.node a) n f) {p : Nat} (hp : p < n) :
    ∃ c, a[p / cap h]? = some (.node c) ∧
      RepF h (.node c) (min (cap h) (n - cap h * (p / cap h)))
        (fun j => f (cap h * (p / cap h) + j)) ∧
      p % cap h < min (cap h) (n - cap h * (p / cap h)) := by
  have hsplit := Nat.div_add_mod p (cap h)
  have hq := Nat.mod_lt p (cap_pos h)
  obtain ⟨c, hc, hrep⟩ := H.child (k := p / cap h) (by omega)
  exact ⟨c, hc, hrep, by omega⟩

/-- Replacing the child `k0`: the other children must be left holding the same
elements, the new child must fit the new count. -/
theorem RepF.set {h : Nat} {cs : Arr α} {n n' : Nat} {f f' : Nat → Option α} {k0 : Nat}
    {c' : Slot α} (H : RepF (h + 1) (.node cs) n f) (hk0 : k0 < nodeSize)
    (h0 : 0 < n') (hle : n' ≤ cap (h + 1)) (hd : nodeSize ∣ n')
    (hother : ∀ k, k < nodeSize → k ≠ k0 →
      min (cap h) (n' - cap h * k) = min (cap h) (n - cap h * k) ∧
      ∀ i, i < min (cap h) (n - cap h * k) → f (cap h * k + i) = f' (cap h * k + i))
    (hc : (n' ≤ cap h * k0 ∧ c' = .nil) ∨ (cap h * k0 < n' ∧
      RepF h c' (min (cap h) (n' - cap h * k0)) (fun i => f' (cap h * k0 + i)))) :
    RepF (h + 1) (.node (cs.set k0 c')) n' f' := by
  obtain ⟨hlen, -, -, -, hch⟩ := RepF.succ_iff.mp H
  refine RepF.succ_iff.mpr ⟨List.length_set.trans hlen, h0, hle, hd, fun k hk => ?_⟩
  by_cases hkk : k = k0
  · subst hkk
    exact ⟨c', List.getElem?_set_self (hlen ▸ hk), hc⟩
  · obtain ⟨c, hc1, hcase⟩ := hch k hk
    obtain ⟨hsz, hf⟩ := hother k hk hkk
    have hS := cap_pos h
    refine ⟨c, (List.getElem?_set_ne (Ne.symm hkk)).trans hc1, ?_⟩
    rcases hcase with ⟨hx, hy⟩ | ⟨hx, hy⟩
    · exact Or.inl ⟨le_of_min_sub_eq_zero hS (hsz.trans (min_sub_of_le hx)), hy⟩
    · refine Or.inr ⟨Nat.lt_of_not_le fun hx' => ?_, hsz ▸ hy.congr hf⟩
      exact Nat.not_le.mpr hx (le_of_min_sub_eq_zero hS (hsz.symm.trans (min_sub_of_le hx')))

/-- Replacing the last occupied child `k0` (or, after it has filled up, the
first empty one), which holds `m` elements, by one that holds `m'`: the
children to its left stay full, those to its right nil. -/
theorem RepF.set_last {h : Nat} {cs : Arr α} {m m' : Nat} {f f' : Nat → Option α} {k0 : Nat}
    {c' : Slot α} (H : RepF (h + 1) (.node cs) (cap h * k0 + m) f) (hk0 : k0 < nodeSize)
    (hm : m ≤ cap h) (hm' : m' ≤ cap h) (h0 : 0 < cap h * k0 + m') (hd : nodeSize ∣ m')
    (hf : ∀ i, i < cap h * k0 → f i = f' i)
    (hc : (m' = 0 ∧ c' = .nil) ∨
      (0 < m' ∧ RepF h c' m' (fun i => f' (cap h * k0 + i)))) :
    RepF (h + 1) (.node (cs.set k0 c')) (cap h * k0 + m') f' := by
  have hcap : cap h * k0 + cap h ≤ cap (h + 1) := by rw [cap_succ]; exact mul_succ_le hk0
  refine H.set hk0 h0 (by omega)
    (Nat.dvd_add (Nat.dvd_trans (nodeSize_dvd_cap h) (Nat.dvd_mul_right _ _)) hd)
    (fun k _ hkk => ?_) (hc.imp (fun ⟨hx, hy⟩ => ⟨by omega, hy⟩) fun ⟨hx, hy⟩ => ⟨by omega, ?_⟩)
  · rcases Nat.lt_or_gt_of_ne hkk with hlt | hgt
    · have := mul_succ_le (S := cap h) hlt
      refine ⟨(min_sub_of_add_le (by omega)).trans (min_sub_of_add_le (by omega)).symm, ?_⟩
      exact fun i _ => hf _ (by omega)
    · have := mul_succ_le (S := cap h) hgt
      have e := min_sub_of_le (S := cap h) (show cap h * k0 + m ≤ cap h * k by omega)
      exact ⟨(min_sub_of_le (by omega)).trans e.symm,
        fun i hi => absurd (e ▸ hi) (Nat.not_lt_zero i)⟩
  · rw [Nat.add_sub_cancel_left, Nat.min_eq_right hm']
    exact hy

theorem descend_spec {h : Nat} : ∀ {cs : Arr α} {n : Nat} {f : Nat → Option α} (i : Nat),
    RepF h (.node cs) n f → i % cap h < n →
    ∃ leaf, descend h (some cs) i = .ok (some leaf) ∧ leaf.length = nodeSize ∧
      ∀ j, j < nodeSize →
        ∃ a, f (nodeSize * ((i % cap h) / nodeSize) + j) = some a ∧ leaf[j]? = some (.val a) := by
  induction h with
  | zero =>
    intro cs n f i H _
    obtain ⟨h2, -, h3⟩ := RepF.zero_iff.mp H
    refine ⟨cs, rfl, h2, fun j hj => ?_⟩
    rw [cap_zero, Nat.div_eq_of_lt (Nat.mod_lt _ nodeSize_pos), Nat.mul_zero, Nat.zero_add]
    exact h3 j hj
  | succ h ih =>
    intro cs n f i H hi
    obtain ⟨c, hc, hrep, hlt⟩ := H.child_of_pos hi
    rw [mod_cap_succ_mod] at hlt
    obtain ⟨leaf, hdesc, hlen, hleaf⟩ := ih i hrep hlt
    refine ⟨leaf, ?_, hlen, fun j hj => ?_⟩
    · simp only [descend, deref_some, ok_bind, digit_succ, getIdx_of_getElem? hc, asNode_node]
      exact hdesc
    · rw [← Nat.div_add_mod (i % cap (h + 1)) (cap h), mod_cap_succ_mod,
        block_split nodeSize_pos (nodeSize_dvd_cap h), Nat.add_assoc]
      exact hleaf j hj

theorem doAssoc_spec {h : Nat} : ∀ {cs : Arr α} {n : Nat} {f : Nat → Option α} (i : Nat) (x : α),
    RepF h (.node cs) n f → i % cap h < n →
    ∃ cs', doAssoc h (some cs) i x = .ok (some cs') ∧
      RepF h (.node cs') n (fun j => if j = i % cap h then some x else f j) := by
  induction h with
  | zero =>
    intro cs n f i x H _
    obtain ⟨h2, hn, h3⟩ := RepF.zero_iff.mp H
    have hlt : i % nodeSize < cs.length := by rw [h2]; exact Nat.mod_lt _ nodeSize_pos
    refine ⟨cs.set (i % nodeSize) (.val x), ?_, ?_⟩
    · simp only [doAssoc, deref_some, ok_bind, and_mask, setIdx_of_lt _ hlt, pure_eq_ok]
    · refine RepF.zero_iff.mpr ⟨List.length_set.trans h2, hn, fun j hj => ?_⟩
      rw [cap_zero]
      by_cases hji : j = i % nodeSize
      · subst hji
        exact ⟨x, if_pos rfl, List.getElem?_set_self hlt⟩
      · rw [if_neg hji, List.getElem?_set_ne (Ne.symm hji)]
        exact h3 j hj
  | succ h ih =>
    intro cs n f i x H hi
    obtain ⟨c, hc, hrep, hlt⟩ := H.child_of_pos hi
    have hsplit := Nat.div_add_mod (i % cap (h + 1)) (cap h)
    rw [mod_cap_succ_mod] at hlt hsplit
    obtain ⟨c', hrec, hrep'⟩ := ih i x hrep hlt
    obtain ⟨hlen, h0, hle, hd, -⟩ := RepF.succ_iff.mp H
    have hk : i % cap (h + 1) / cap h < nodeSize := (split_pos h _ (by omega)).2.2
    refine ⟨cs.set (i % cap (h + 1) / cap h) (.node c'), ?_, ?_⟩
    · simp only [doAssoc, deref_some, ok_bind, digit_succ, getIdx_of_getElem? hc, asNode_node, hrec,
        toAny_some, setIdx_of_lt _ (hlen ▸ hk), pure_eq_ok]
    · refine H.set hk h0 hle hd (fun k _ hkk => ⟨rfl, fun j hj => ?_⟩)
        (Or.inr ⟨by omega, hrep'.congr fun j _ => ?_⟩)
      · -- another child does not hold position `i`
        rw [if_neg]
        intro heq
        exact hkk (by rw [← heq, (div_mod_unique (by omega)).1])
      · by_cases hj : j = i % cap h
        · rw [if_pos hj, if_pos (by omega)]
        · rw [if_neg hj, if_neg (by omega)]

end C06
