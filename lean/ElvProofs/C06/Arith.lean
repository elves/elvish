/-
The four facts about the generated constants that the later proofs use (nothing else about
the constants is unfolded, so the proofs are generic in the branching exponent), and the
arithmetic of positions in a tree whose subtrees hold `S` elements in blocks of `B`.
-/
import ElvModel.C06.Model
import ElvProofs.Lemmas.Res
namespace C06
open Go
open Gen.C06Consts

theorem nodeSize_eq : nodeSize = 2 ^ chunkBits := by decide
theorem chunkMask_eq : chunkMask = nodeSize - 1 := by decide
theorem tailMaxLen_eq : tailMaxLen = nodeSize := by decide
theorem chunkBits_pos : 1 ≤ chunkBits := by decide

theorem two_le_nodeSize : 2 ≤ nodeSize := by
  rw [nodeSize_eq]
  exact Nat.pow_le_pow_right (Nat.le_succ 1) chunkBits_pos

theorem nodeSize_pos : 0 < nodeSize := Nat.lt_of_lt_of_le (by decide) two_le_nodeSize

theorem div_mod_unique {S a r : Nat} (hr : r < S) : (S * a + r) / S = a ∧ (S * a + r) % S = r := by
  have hS : 0 < S := by omega
  constructor
  · rw [Nat.mul_add_div hS, Nat.div_eq_of_lt hr, Nat.add_zero]
  · rw [Nat.mul_add_mod, Nat.mod_eq_of_lt hr]

/-- monotonicity of `S * k` in the form `omega` can use -/
theorem mul_succ_le {S k k' : Nat} (h : k' < k) : S * k' + S ≤ S * k :=
  Nat.mul_succ S k' ▸ Nat.mul_le_mul_left S h

/-- `min S (n - a)` elements of `n` fall into the subtree of size `S` that starts at `a` -/
theorem min_sub_of_add_le {S a n : Nat} (h : a + S ≤ n) : min S (n - a) = S := by omega
theorem min_sub_of_le {S a n : Nat} (h : n ≤ a) : min S (n - a) = 0 := by omega
theorem le_of_min_sub_eq_zero {S a n : Nat} (hS : 0 < S) (h : min S (n - a) = 0) : n ≤ a := by
  omega

theorem dvd_lt_add_le {B n m : Nat} (hn : B ∣ n) (hm : B ∣ m) (h : n < m) : n + B ≤ m := by
  obtain ⟨a, rfl⟩ := hn
  obtain ⟨c, rfl⟩ := hm
  exact mul_succ_le (Nat.lt_of_mul_lt_mul_left h)

/-- The subtree (of size `S`, number `k`) that holds the last position `c` of
`n + B` elements, `n` a multiple of the block size `B`: it holds a whole
block more than the `m` elements it has among the first `n`. -/
theorem last_block {B S n c : Nat} (hS : 0 < S) (hBS : B ∣ S) (hn : B ∣ n)
    (hc : c + 1 = n + B) :
    ∃ k m, n = S * k + m ∧ m + B ≤ S ∧ B ∣ m ∧ c / S = k ∧ c % S + 1 = m + B := by
  have h1 := Nat.div_add_mod c S
  have h2 := Nat.mod_lt c hS
  have hd : B ∣ S * (c / S) := Nat.dvd_trans hBS (Nat.dvd_mul_right _ _)
  have := dvd_lt_add_le hd (Nat.dvd_add hn (Nat.dvd_refl B)) (by omega)
  exact ⟨_, n - S * (c / S), by omega, by omega, Nat.dvd_sub hn hd, rfl, by omega⟩

theorem block_split {B S k q : Nat} (hB : 0 < B) (hS : B ∣ S) :
    B * ((S * k + q) / B) = S * k + B * (q / B) := by
  obtain ⟨S', rfl⟩ := hS
  rw [Nat.mul_assoc, Nat.mul_add_div hB, Nat.mul_add]

/-- capacity (number of elements) of a full subtree of height `h` -/
def cap (h : Nat) : Nat := nodeSize ^ (h + 1)

theorem cap_zero : cap 0 = nodeSize := Nat.pow_one _
theorem cap_succ (h : Nat) : cap (h + 1) = cap h * nodeSize := Nat.pow_succ _ _
theorem cap_pos (h : Nat) : 0 < cap h := Nat.pow_pos nodeSize_pos
theorem nodeSize_dvd_cap (h : Nat) : nodeSize ∣ cap h := Nat.dvd_mul_left _ _
theorem nodeSize_le_cap (h : Nat) : nodeSize ≤ cap h :=
  Nat.le_of_dvd (cap_pos h) (nodeSize_dvd_cap h)
theorem child_lt_nodeSize {h k n : Nat} (hk : cap h * k < n) (hn : n ≤ cap (h + 1)) :
    k < nodeSize := by
  rw [cap_succ] at hn
  exact Nat.lt_of_mul_lt_mul_left (Nat.lt_of_lt_of_le hk hn)
theorem two_cap_le_cap_succ (h : Nat) : cap h + cap h ≤ cap (h + 1) := by
  have := Nat.mul_le_mul_left (cap h) two_le_nodeSize
  rw [cap_succ]; omega

theorem and_mask (i : Nat) : i &&& chunkMask = i % nodeSize := by
  rw [chunkMask_eq, nodeSize_eq, Nat.and_two_pow_sub_one_eq_mod]

theorem digit_zero (i : Nat) : digit 0 i = i % nodeSize := by
  simp only [digit, Nat.zero_mul, Nat.shiftRight_zero, and_mask]

theorem digit_succ (h i : Nat) : digit (h + 1) i = (i % cap (h + 1)) / cap h := by
  unfold digit
  rw [and_mask, Nat.shiftRight_eq_div_pow, Nat.pow_mul', ← nodeSize_eq, cap_succ,
    Nat.mod_mul_right_div_self]
  rfl

theorem mod_cap_succ_mod (h i : Nat) : (i % cap (h + 1)) % cap h = i % cap h := by
  rw [cap_succ, Nat.mod_mul_right_mod]

theorem split_pos (h p : Nat) (hp : p < cap (h + 1)) :
    cap h * (p / cap h) + p % cap h = p ∧ p % cap h < cap h ∧ p / cap h < nodeSize := by
  refine ⟨Nat.div_add_mod _ _, Nat.mod_lt _ (cap_pos h), ?_⟩
  rw [Nat.div_lt_iff_lt_mul (cap_pos h), Nat.mul_comm, ← cap_succ]
  exact hp

@[simp] theorem ok_bind {β γ : Type} (a : β) (f : β → Res γ) : (Res.ok a >>= f) = f a := Res.ok_bind a f
@[simp] theorem pure_eq_ok {β : Type} (a : β) : (pure a : Res β) = Res.ok a := Res.pure_eq_ok a
@[simp] theorem panic_bind {β γ : Type} (w : String) (f : β → Res γ) :
    ((Res.panic w : Res β) >>= f) = Res.panic w := Res.panic_bind w f
@[simp] theorem exc_bind {β γ : Type} (w : String) (f : β → Res γ) :
    ((Res.exc w : Res β) >>= f) = Res.exc w := Res.exc_bind w f

variable {α : Type}

@[simp] theorem deref_some (a : Arr α) : deref (some a) = .ok a := rfl
@[simp] theorem asNode_node (a : Arr α) : asNode (Slot.node a) = .ok (some a) := rfl
@[simp] theorem toAny_some (a : Arr α) : toAny (some a) = Slot.node a := rfl

theorem getIdx_of_getElem? {β : Type} {a : List β} {i : Nat} {x : β} (h : a[i]? = some x) :
    getIdx a i = .ok x := by simp only [getIdx, h]

theorem setIdx_of_lt {β : Type} {a : List β} {i : Nat} (x : β) (h : i < a.length) :
    setIdx a i x = .ok (a.set i x) := if_pos h

theorem newNode_length : (newNode : Arr α).length = nodeSize := List.length_replicate

theorem newNode_getElem? {k : Nat} (hk : k < nodeSize) : (newNode : Arr α)[k]? = some .nil := by
  rw [newNode, List.getElem?_replicate, if_pos hk]

end C06
