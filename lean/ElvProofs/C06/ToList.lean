/-
The abstraction function `toList` agrees with the abstraction relation:
`VReps w l → w.toList = l`.
-/
import ElvModel.C06.Spec
import ElvProofs.C06.Iface
namespace C06
open Go
open Gen.C06Consts

variable {α : Type}

theorem flatMap_blocks {β γ : Type} : ∀ (cs : List β) (g : β → List γ) (blk : Nat → List γ),
    (∀ k, k < cs.length → ∃ c, cs[k]? = some c ∧ g c = blk k) →
    cs.flatMap g = (List.range cs.length).flatMap blk := by
  intro cs
  induction cs with
  | nil => intro g blk _; rfl
  | cons c cs ih =>
    intro g blk h
    obtain ⟨c0, hc0, hg0⟩ := h 0 (by simp)
    simp at hc0
    subst hc0
    rw [List.flatMap_cons, List.length_cons, List.range_succ_eq_map, List.flatMap_cons, hg0,
      List.flatMap_map]
    congr 1
    exact ih g (fun k => blk (k + 1)) (fun k hk => by
      obtain ⟨c', hc', hg'⟩ := h (k + 1) (by simp; omega)
      exact ⟨c', by simpa using hc', hg'⟩)

theorem range_filterMap_add {γ : Type} (f : Nat → Option γ) (a c : Nat) :
    (List.range (a + c)).filterMap f =
      (List.range a).filterMap f ++ (List.range c).filterMap (fun i => f (a + i)) := by
  rw [List.range_add, List.filterMap_append, List.filterMap_map]
  rfl

theorem blocks_sum {γ : Type} (f : Nat → Option γ) (S n : Nat) : ∀ K : Nat,
    (List.range K).flatMap (fun k =>
      (List.range (if n ≤ S * k then 0 else min S (n - S * k))).filterMap (fun i => f (S * k + i))) =
    (List.range (min n (S * K))).filterMap f := by
  intro K
  induction K with
  | zero => simp
  | succ K ih =>
    rw [List.range_succ, List.flatMap_append, ih, List.flatMap_singleton]
    by_cases hn : n ≤ S * K
    · rw [if_pos hn]
      have e1 : min n (S * K) = n := Nat.min_eq_left hn
      have e2 : min n (S * (K + 1)) = n := Nat.min_eq_left (by rw [Nat.mul_succ]; omega)
      rw [e1, e2]; simp
    · rw [if_neg hn]
      have e1 : min n (S * K) = S * K := Nat.min_eq_right (by omega)
      have e2 : min n (S * (K + 1)) = S * K + min S (n - S * K) := by
        rw [Nat.mul_succ]; omega
      rw [e1, e2, range_filterMap_add]

theorem elems_spec {h : Nat} : ∀ {s : Slot α} {n : Nat} {f : Nat → Option α},
    RepF h s n f → elems h s = (List.range n).filterMap f := by
  induction h with
  | zero =>
    intro s n f H
    obtain ⟨cs, rfl, h2, rfl, h3⟩ := H
    simp only [elems]
    have : cs.map slotVal = (List.range nodeSize).map f := by
      apply List.ext_getElem?
      intro i
      rw [List.getElem?_map, List.getElem?_map]
      by_cases hi : i < nodeSize
      · obtain ⟨a, ha1, ha2⟩ := h3 i hi
        rw [ha2, List.getElem?_range hi]
        simp [slotVal, ha1]
      · have e1 : cs.length ≤ i := by omega
        have e2 : (List.range nodeSize).length ≤ i := by simp; omega
        rw [List.getElem?_eq_none e1, List.getElem?_eq_none e2]
        rfl
    have h1 : cs.filterMap slotVal = (cs.map slotVal).filterMap id := by
      rw [List.filterMap_map]; rfl
    have h4 : (List.range nodeSize).filterMap f = ((List.range nodeSize).map f).filterMap id := by
      rw [List.filterMap_map]; rfl
    rw [h1, h4, this]
  | succ h ih =>
    intro s n f H
    obtain ⟨cs, rfl, h2, h0, hle, hd, h3⟩ := H
    simp only [elems]
    rw [flatMap_blocks cs (elems h) (fun k =>
      (List.range (if n ≤ cap h * k then 0 else min (cap h) (n - cap h * k))).filterMap
        (fun i => f (cap h * k + i)))]
    · rw [blocks_sum, h2]
      have : min n (cap h * nodeSize) = n := Nat.min_eq_left (by rw [← cap_succ]; exact hle)
      rw [this]
    · intro k hk
      obtain ⟨c, hc, hcase⟩ := h3 k (by omega)
      refine ⟨c, hc, ?_⟩
      rcases hcase with ⟨hx, rfl⟩ | ⟨hx, hy⟩
      · show elems h Slot.nil = _
        rw [if_pos hx]
        cases h <;> rfl
      · show elems h c = _
        rw [if_neg (by omega)]
        exact ih hy

theorem range_filterMap_getElem? (l : List α) : ∀ n : Nat,
    (List.range n).filterMap (fun i => l[i]?) = l.take n := by
  intro n
  induction n with
  | zero => simp
  | succ n ih =>
    rw [List.range_succ, List.filterMap_append, ih, List.take_add_one]
    congr 1

theorem filterMap_slotVal_map (l : List α) : (l.map Slot.val).filterMap slotVal = l := by
  rw [List.filterMap_map]
  have : (slotVal ∘ (Slot.val : α → Slot α)) = some := rfl
  rw [this, List.filterMap_some]

theorem reps_toList {v : Vector α} {l : List α} (H : Reps v l) : v.toList = l := by
  unfold Vector.toList
  rw [treeSize_eq, H.count, H.tail, filterMap_slotVal_map]
  by_cases h0 : tsz l.length = 0
  · rw [if_pos h0, h0]; simp
  · rw [if_neg h0]
    rcases H.tree with h | ⟨r, hroot, hrepF⟩
    · exact absurd h h0
    · rw [hroot, toAny_some, elems_spec hrepF, range_filterMap_getElem?, List.take_append_drop]

theorem vreps_toList {w : Vec α} {l : List α} (H : VReps w l) : w.toList = l := by
  cases w with
  | nil => exact absurd H id
  | vec v => exact reps_toList H
  | sub v b e =>
    obtain ⟨lp, hR, _, _, _, rfl⟩ := H
    simp only [Vec.toList, reps_toList hR]
    rfl

def WF (w : Vec α) : Prop := ∃ l, VReps w l

theorem WF.vreps {w : Vec α} (H : WF w) : VReps w w.toList := by
  obtain ⟨l, hl⟩ := H
  rw [vreps_toList hl]; exact hl

end C06
