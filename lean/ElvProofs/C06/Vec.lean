/-
The abstraction relation `Reps v l` ("the vector `v` is well formed and
represents the list `l`") and `Index`, `Assoc`, `Conj`, `Pop` of `*vector`
against it.

With `T = tsz l.length` the first `T` elements are in the tree and the rest,
between one and `nodeSize` of them, in the tail.  `Index` and `Assoc` leave
`T` alone (`Reps.update`); `Conj` on a full tail and `Pop` on a one-element
tail move a leaf between tail and tree and change `T` by `nodeSize`.
-/
import ElvProofs.C06.Tail
namespace C06
open Go
open Gen.C06Consts

variable {α : Type}

def tsz (c : Nat) : Nat := if c < nodeSize then 0 else (c - 1) / nodeSize * nodeSize

theorem treeSize_eq (v : Vector α) : treeSize v = tsz v.count := by
  unfold treeSize tsz
  rw [tailMaxLen_eq, Nat.shiftRight_eq_div_pow, Nat.shiftLeft_eq, ← nodeSize_eq]

theorem tsz_zero : tsz 0 = 0 := if_pos nodeSize_pos

/-- `tsz c` is the multiple of `nodeSize` that leaves a tail of `1 … nodeSize` elements -/
theorem tsz_spec {c : Nat} (hc : 0 < c) : nodeSize ∣ tsz c ∧ tsz c < c ∧ c ≤ tsz c + nodeSize := by
  unfold tsz
  split
  · exact ⟨Nat.dvd_zero _, hc, by omega⟩
  · have := Nat.div_add_mod (c - 1) nodeSize
    have := Nat.mod_lt (c - 1) nodeSize_pos
    rw [Nat.mul_comm]
    exact ⟨Nat.dvd_mul_right _ _, by omega, by omega⟩

theorem tsz_unique {c T : Nat} (hd : nodeSize ∣ T) (h1 : T < c) (h2 : c ≤ T + nodeSize) :
    tsz c = T := by
  obtain ⟨m, rfl⟩ := hd
  unfold tsz
  split
  · rcases Nat.eq_zero_or_pos m with rfl | h0
    · rfl
    · have := Nat.mul_le_mul_left nodeSize h0
      omega
  · have hc : c - 1 = nodeSize * m + (c - 1 - nodeSize * m) := by omega
    rw [hc, (div_mod_unique (by omega)).1, Nat.mul_comm]

theorem tsz_le (c : Nat) : tsz c ≤ c := by
  rcases Nat.eq_zero_or_pos c with rfl | h
  · exact Nat.le_of_eq tsz_zero
  · exact Nat.le_of_lt (tsz_spec h).2.1

theorem tsz_dvd (c : Nat) : nodeSize ∣ tsz c := by
  rcases Nat.eq_zero_or_pos c with rfl | h
  · exact tsz_zero ▸ Nat.dvd_zero _
  · exact (tsz_spec h).1

theorem mod_of_tail {T k : Nat} (hd : nodeSize ∣ T) (h1 : T ≤ k) (h2 : k < T + nodeSize) :
    k % nodeSize = k - T := by
  obtain ⟨m, rfl⟩ := hd
  have := (div_mod_unique (S := nodeSize) (a := m) (r := k - nodeSize * m) (by omega)).2
  rwa [Nat.add_sub_cancel' h1] at this

structure Reps (v : Vector α) (l : List α) : Prop where
  count : v.count = l.length
  tail : v.tail = (l.drop (tsz l.length)).map Slot.val
  tree : tsz l.length = 0 ∨
    ∃ r, v.root = some r ∧ RepF v.height (.node r) (tsz l.length) (fun i => l[i]?)
  hhi : tsz l.length ≤ cap v.height
  -- the height is the least possible: the root has at least two children (`Pop` drops a level otherwise)
  hlow : v.height ≠ 0 → cap (v.height - 1) < tsz l.length

theorem reps_empty : Reps (empty : Vector α) [] :=
  ⟨rfl, rfl, Or.inl tsz_zero, tsz_zero ▸ Nat.zero_le _, fun h => absurd rfl h⟩

theorem Reps.root {v : Vector α} {l : List α} (H : Reps v l) (h : 0 < tsz l.length) :
    ∃ r, v.root = some r ∧ RepF v.height (.node r) (tsz l.length) (fun i => l[i]?) :=
  H.tree.resolve_left (Nat.ne_of_gt h)

theorem Reps.tail_getElem? {v : Vector α} {l : List α} (H : Reps v l) (j : Nat) :
    v.tail[j]? = (l[tsz l.length + j]?).map Slot.val := by
  rw [H.tail, List.getElem?_map, List.getElem?_drop]

theorem Reps.tail_length {v : Vector α} {l : List α} (H : Reps v l) :
    v.tail.length = l.length - tsz l.length := by
  rw [H.tail, List.length_map, List.length_drop]

theorem Reps.update {v : Vector α} {l l' : List α} (H : Reps v l)
    (hts : tsz l'.length = tsz l.length) {root' : NodeP α}
    (htree : tsz l.length = 0 ∨
      ∃ r, root' = some r ∧ RepF v.height (.node r) (tsz l.length) (fun i => l'[i]?)) :
    Reps ⟨l'.length, v.height, root', (l'.drop (tsz l'.length)).map Slot.val⟩ l' :=
  ⟨rfl, rfl, by rw [hts]; exact htree, by rw [hts]; exact H.hhi, by rw [hts]; exact H.hlow⟩

theorem Reps.tree_congr {v : Vector α} {l l' : List α} (H : Reps v l)
    (hl : ∀ i, i < tsz l.length → l[i]? = l'[i]?) :
    tsz l.length = 0 ∨
      ∃ r, v.root = some r ∧ RepF v.height (.node r) (tsz l.length) (fun i => l'[i]?) :=
  H.tree.imp id fun ⟨r, hr, hrep⟩ => ⟨r, hr, hrep.congr hl⟩

theorem getElem?_set_of_lt {l : List α} {k : Nat} (hk : k < l.length) (x : α) (j : Nat) :
    (l.set k x)[j]? = if j = k then some x else l[j]? := by
  rw [List.getElem?_set, if_pos hk]
  by_cases h : j = k
  · rw [if_pos h, if_pos h.symm]
  · rw [if_neg h, if_neg (Ne.symm h)]

theorem vIndex_spec {v : Vector α} {l : List α} (H : Reps v l) (i : Int) :
    vIndex v i = .ok (if 0 ≤ i then (l[i.toNat]?).map Slot.val else none) := by
  unfold vIndex
  rw [H.count]
  by_cases hr : i < 0 ∨ i ≥ l.length
  · rw [if_pos hr]
    rcases hr with h | h
    · rw [if_neg (by omega)]
    · rw [if_pos (by omega), List.getElem?_eq_none (by omega)]
      rfl
  · rw [if_neg hr, if_pos (show 0 ≤ i by omega)]
    have hk : i.toNat < l.length := by omega
    generalize i.toNat = k at hk
    obtain ⟨hd, hlt, hle⟩ := tsz_spec (Nat.zero_lt_of_lt hk)
    simp only [treeSize_eq, H.count]
    by_cases hkt : k ≥ tsz l.length
    · have := H.tail_getElem? (k - tsz l.length)
      rw [Nat.add_sub_cancel' hkt, List.getElem?_eq_getElem hk] at this
      rw [if_pos hkt, and_mask, mod_of_tail hd hkt (by omega), getIdx_of_getElem? this,
        List.getElem?_eq_getElem hk]
      rfl
    · rw [if_neg hkt]
      obtain ⟨rt, hroot, hrepF⟩ := H.root (by omega)
      have hkc : k % cap v.height = k := Nat.mod_eq_of_lt (by have := H.hhi; omega)
      obtain ⟨leaf, hdesc, -, hleaf⟩ := descend_spec k hrepF (by omega)
      obtain ⟨a, ha1, ha2⟩ := hleaf (k % nodeSize) (Nat.mod_lt _ nodeSize_pos)
      rw [hkc, Nat.div_add_mod] at ha1
      rw [hroot, hdesc]
      simp only [ok_bind, deref_some, and_mask, getIdx_of_getElem? ha2, pure_eq_ok, ha1,
        Option.map_some]

theorem vAssoc_nil {v : Vector α} {l : List α} (H : Reps v l) (i : Int) (x : α)
    (hi : i < 0 ∨ i > l.length) : vAssoc v i x = .ok .nil := by
  unfold vAssoc
  rw [H.count, if_pos hi]

theorem vAssoc_set {v : Vector α} {l : List α} (H : Reps v l) (i : Int) (x : α)
    (h0 : 0 ≤ i) (h1 : i < l.length) :
    ∃ v', vAssoc v i x = .ok (.vec v') ∧ Reps v' (l.set i.toNat x) := by
  unfold vAssoc
  rw [H.count, if_neg (by omega), if_neg (by omega)]
  have hk : i.toNat < l.length := by omega
  generalize i.toNat = k at hk
  obtain ⟨hd, hlt, hle⟩ := tsz_spec (Nat.zero_lt_of_lt hk)
  have hts : tsz (l.set k x).length = tsz l.length := by rw [List.length_set]
  have hlen : l.length = (l.set k x).length := List.length_set.symm
  simp only [treeSize_eq, H.count]
  by_cases hkt : k ≥ tsz l.length
  ·
    have hj : k - tsz l.length < v.tail.length := by rw [H.tail_length]; omega
    rw [if_pos hkt, and_mask, mod_of_tail hd hkt (by omega), setIdx_of_lt _ hj, H.tail,
      ← List.map_set, List.set_drop, Nat.add_sub_cancel' hkt, hlen]
    refine ⟨_, rfl, H.update hts (H.tree_congr fun j hj => ?_)⟩
    rw [getElem?_set_of_lt hk, if_neg (by omega)]
  ·
    obtain ⟨rt, hroot, hrepF⟩ := H.root (by omega)
    have hkc : k % cap v.height = k := Nat.mod_eq_of_lt (by have := H.hhi; omega)
    obtain ⟨cs', hdo, hrep'⟩ := doAssoc_spec k x hrepF (by omega)
    have htail : v.tail = ((l.set k x).drop (tsz l.length)).map Slot.val := by
      rw [H.tail, List.drop_set, if_pos (by omega)]
    rw [if_neg hkt, hroot, hdo, htail, hlen]
    refine ⟨_, rfl, H.update hts (Or.inr ⟨cs', rfl, hrep'.congr fun j _ => ?_⟩)⟩
    rw [hkc, getElem?_set_of_lt hk]

theorem vConj_room {v : Vector α} {l : List α} (H : Reps v l) (x : α)
    (hroom : l.length - tsz l.length < nodeSize) :
    ∃ v', vConj v x = .ok v' ∧ Reps v' (l ++ [x]) := by
  have hlen : (l ++ [x]).length = l.length + 1 := List.length_append
  have hts : tsz (l ++ [x]).length = tsz l.length := by
    rw [hlen]
    rcases Nat.eq_zero_or_pos l.length with h0 | h0
    · have := two_le_nodeSize
      rw [h0, tsz_zero]
      exact tsz_unique (Nat.dvd_zero _) (by omega) (by omega)
    · obtain ⟨hd, h1, h2⟩ := tsz_spec h0
      exact tsz_unique hd (by omega) (by omega)
  have htail : v.tail ++ [Slot.val x] =
      ((l ++ [x]).drop (tsz (l ++ [x]).length)).map Slot.val := by
    rw [hts, H.tail, List.drop_append_of_le_length (tsz_le _), List.map_append]
    rfl
  unfold vConj
  rw [treeSize_eq, H.count, tailMaxLen_eq, if_pos hroom, htail, ← hlen]
  refine ⟨_, rfl, H.update hts (H.tree_congr fun i hi => ?_)⟩
  rw [List.getElem?_append_left (Nat.lt_of_lt_of_le hi (tsz_le _))]

theorem nodeFromSlice_full {s : List (Slot α)} (h : s.length = nodeSize) : nodeFromSlice s = s := by
  unfold nodeFromSlice
  rw [h, Nat.sub_self, ← h, List.take_length]
  exact List.append_nil s

theorem Reps.tail_leaf {v : Vector α} {l : List α} (H : Reps v l) {T : Nat}
    (hT : tsz l.length = T) (hfull : l.length = T + nodeSize) :
    RepF 0 (.node v.tail) nodeSize (fun i => l[T + i]?) := by
  subst hT
  refine RepF.zero_iff.mpr ⟨by rw [H.tail_length]; omega, rfl, fun i hi => ?_⟩
  have hlt : tsz l.length + i < l.length := by omega
  refine ⟨l[tsz l.length + i], List.getElem?_eq_getElem hlt, ?_⟩
  rw [H.tail_getElem?, List.getElem?_eq_getElem hlt]
  rfl

/-- the test of `Conj` for "the tree is full": `T` elements in the tree, a full tail -/
theorem conj_overflow_iff {T h : Nat} (hd : nodeSize ∣ T) (hhi : T ≤ cap h) :
    ((T + nodeSize) >>> chunkBits > 1 <<< (h * chunkBits)) ↔ T = cap h := by
  have hB := nodeSize_pos
  obtain ⟨m, rfl⟩ := hd
  have hcap : cap h = nodeSize * nodeSize ^ h := Nat.mul_comm _ _
  rw [Nat.shiftRight_eq_div_pow, Nat.shiftLeft_eq, Nat.one_mul, Nat.pow_mul', ← nodeSize_eq,
    Nat.add_div_right _ hB, Nat.mul_div_cancel_left _ hB, hcap]
  rw [hcap] at hhi
  constructor
  · intro hgt
    exact Nat.le_antisymm hhi (Nat.mul_le_mul_left _ (Nat.le_of_lt_succ hgt))
  · intro heq
    exact Nat.eq_of_mul_eq_mul_left hB heq ▸ Nat.lt_succ_self _

/-- `Conj` on a full tail: the tail goes into the tree as a leaf — under a new
root when the tree is full, as the root when there is no tree yet, by
`pushTail` otherwise — and the new element is the new tail. -/
theorem vConj_full {v : Vector α} {l : List α} (H : Reps v l) (x : α) {T : Nat}
    (hT : tsz l.length = T) (hfull : l.length = T + nodeSize) :
    ∃ v', vConj v x = .ok v' ∧ Reps v' (l ++ [x]) := by
  have hB := nodeSize_pos
  have hcount : l.length + 1 = (l ++ [x]).length := (List.length_append (bs := [x])).symm
  have hd : nodeSize ∣ T := hT ▸ tsz_dvd _
  have hhi : T ≤ cap v.height := hT ▸ H.hhi
  have hts : tsz (l ++ [x]).length = T + nodeSize := by
    rw [← hcount, hfull]
    exact tsz_unique (Nat.dvd_add hd (Nat.dvd_refl _)) (Nat.lt_succ_self _)
      (Nat.add_le_add_left hB _)
  have hold : ∀ i, i < T + nodeSize → l[i]? = (l ++ [x])[i]? :=
    fun i hi => (List.getElem?_append_left (hfull ▸ hi)).symm
  have hleaf : RepF 0 (.node v.tail) nodeSize (fun i => (l ++ [x])[T + i]?) :=
    (H.tail_leaf hT hfull).congr fun i hi => hold _ (Nat.add_lt_add_left hi T)
  have htail : [Slot.val x] = ((l ++ [x]).drop (tsz (l ++ [x]).length)).map Slot.val := by
    rw [hts, ← hfull, List.drop_append_of_le_length (Nat.le_refl _), List.drop_length]
    rfl
  have hov := conj_overflow_iff hd hhi
  rw [← hfull] at hov
  unfold vConj
  rw [treeSize_eq, H.count, hT, tailMaxLen_eq,
    if_neg (by rw [hfull, Nat.add_sub_cancel_left]; exact Nat.lt_irrefl _),
    nodeFromSlice_full (RepF.zero_iff.mp hleaf).1]
  by_cases hfullTree : T = cap v.height
  · -- the tree is full: a new root over the old one and a path to the leaf
    subst hfullTree
    obtain ⟨rt, hroot, hrepF⟩ := H.root (by rw [hT]; exact cap_pos _)
    rw [hT] at hrepF
    obtain ⟨p, hp, hrepP⟩ := newPath_spec hleaf v.height
    have h0 : 0 < (newNode : Arr α).length := newNode_length ▸ hB
    have h1 : 1 < ((newNode : Arr α).set 0 (.node rt)).length := by
      rw [List.length_set, newNode_length]
      exact two_le_nodeSize
    have hBc := nodeSize_le_cap v.height
    refine ⟨_, by
      simp only [if_pos (hov.mpr rfl), hp, ok_bind, hroot, toAny_some, setIdx_of_lt _ h0,
        setIdx_of_lt _ h1, pure_eq_ok]
      rfl, hcount, htail, Or.inr ⟨_, rfl, ?_⟩, ?_, fun _ => ?_⟩
    · have hrt := (hrepF.congr fun i hi => hold i (Nat.lt_add_right _ hi)).single
      rw [← Nat.mul_one (cap v.height)] at hrt hrepP
      rw [hts, ← Nat.mul_one (cap v.height)]
      exact hrt.set_last (m := 0) two_le_nodeSize (Nat.zero_le _) hBc (Nat.add_pos_right _ hB)
        (Nat.dvd_refl _) (fun _ _ => rfl) (Or.inr ⟨hB, hrepP⟩)
    · have := two_cap_le_cap_succ v.height
      rw [hts]
      show _ ≤ cap (v.height + 1)
      omega
    · rw [hts]
      exact Nat.lt_add_of_pos_right hB
  · have hroomT : T + nodeSize ≤ cap v.height :=
      dvd_lt_add_le hd (nodeSize_dvd_cap _) (Nat.lt_of_le_of_ne hhi hfullTree)
    rw [if_neg (mt hov.mp hfullTree)]
    rcases Nat.eq_zero_or_pos T with rfl | htpos
    · -- no tree yet (height 0)
      have hh0 : v.height = 0 :=
        Decidable.by_contra fun hh => Nat.not_lt_zero _ (hT ▸ H.hlow hh)
      refine ⟨⟨l.length + 1, 0, some v.tail, [.val x]⟩, by rw [hh0]; rfl, hcount, htail,
        Or.inr ⟨_, rfl, ?_⟩, ?_, fun hc => absurd rfl hc⟩
      · rw [hts, Nat.zero_add]
        exact hleaf.congr fun i _ => by rw [Nat.zero_add]
      · rw [hts]
        exact hh0 ▸ hroomT
    · obtain ⟨rt, hroot, hrepF⟩ := H.root (hT ▸ htpos)
      rw [hT] at hrepF
      have hpos : (l.length - 1) % cap v.height + 1 = T + nodeSize := by
        rw [hfull, Nat.mod_eq_of_lt (Nat.lt_of_lt_of_le (Nat.sub_lt (Nat.add_pos_right T hB)
          Nat.one_pos) hroomT)]
        exact Nat.sub_add_cancel (Nat.add_pos_right T hB)
      obtain ⟨cs', hpush, hrep'⟩ := pushTail_spec l.length
        (hrepF.congr fun i hi => hold i (Nat.lt_add_right _ hi)) hleaf hroomT hpos
      exact ⟨⟨l.length + 1, v.height, some cs', [.val x]⟩, by
        simp only [hroot, hpush, ok_bind, pure_eq_ok], hcount, htail,
        Or.inr ⟨_, rfl, hts ▸ hrep'⟩, hts ▸ hroomT, fun hc =>
          hts ▸ Nat.lt_of_lt_of_le (hT ▸ H.hlow hc) (Nat.le_add_right _ _)⟩

theorem vConj_spec {v : Vector α} {l : List α} (H : Reps v l) (x : α) :
    ∃ v', vConj v x = .ok v' ∧ Reps v' (l ++ [x]) := by
  by_cases hroom : l.length - tsz l.length < nodeSize
  · exact vConj_room H x hroom
  · have hc : 0 < l.length := by have := nodeSize_pos; omega
    obtain ⟨-, h1, h2⟩ := tsz_spec hc
    exact vConj_full H x rfl (by omega)

theorem vAssoc_end {v : Vector α} {l : List α} (H : Reps v l) (i : Int) (x : α)
    (hi : i = l.length) : ∃ v', vAssoc v i x = .ok (.vec v') ∧ Reps v' (l ++ [x]) := by
  obtain ⟨v', h1, h2⟩ := vConj_spec H x
  refine ⟨v', ?_, h2⟩
  unfold vAssoc
  rw [H.count, if_neg (by omega), if_pos hi, h1]
  rfl

theorem vPop_nil {v : Vector α} (H : Reps v ([] : List α)) : vPop v = .ok .nil := by
  unfold vPop
  rw [if_pos (show v.count = 0 from H.count)]

theorem dropLast_drop (l : List α) (n : Nat) : (l.drop n).dropLast = l.dropLast.drop n := by
  rw [List.dropLast_eq_take, List.dropLast_eq_take, List.length_drop, List.drop_take,
    Nat.sub_right_comm]

theorem getElem?_dropLast_of_lt {l : List α} {i : Nat} (hi : i < l.length - 1) :
    l[i]? = l.dropLast[i]? := by
  rw [List.getElem?_dropLast, if_pos hi]

theorem vPop_room {v : Vector α} {l : List α} (H : Reps v l)
    (hroom : l.length - tsz l.length > 1) :
    ∃ v', vPop v = .ok (.vec v') ∧ Reps v' l.dropLast := by
  have hdl : l.dropLast.length = l.length - 1 := List.length_dropLast
  obtain ⟨hd, h1, h2⟩ := tsz_spec (c := l.length) (by omega)
  have hts : tsz l.dropLast.length = tsz l.length := by
    rw [hdl]
    exact tsz_unique hd (by omega) (by omega)
  have htail : v.tail.take (v.tail.length - 1) =
      (l.dropLast.drop (tsz l.dropLast.length)).map Slot.val := by
    rw [hts, ← List.dropLast_eq_take, H.tail, ← List.map_dropLast, dropLast_drop]
  unfold vPop
  rw [treeSize_eq, H.count, if_neg (by omega), if_neg (by omega), if_pos hroom,
    if_neg (by rw [H.tail_length]; omega), htail, ← hdl]
  exact ⟨_, rfl, H.update hts (H.tree_congr fun i hi => getElem?_dropLast_of_lt (by omega))⟩

theorem Reps.sliceFor_tree {v : Vector α} {l : List α} (H : Reps v l) {i : Nat}
    (hi : i < tsz l.length) :
    sliceFor v i =
      .ok (((l.drop (nodeSize * (i / nodeSize))).take nodeSize).map Slot.val) := by
  obtain ⟨rt, hroot, hrepF⟩ := H.root (Nat.zero_lt_of_lt hi)
  have hmod : i % cap v.height = i := Nat.mod_eq_of_lt (Nat.lt_of_lt_of_le hi H.hhi)
  obtain ⟨leaf, hdesc, hlen, hleaf⟩ := descend_spec i hrepF (hmod.symm ▸ hi)
  unfold sliceFor
  rw [treeSize_eq, H.count, if_neg (Nat.not_le.mpr hi), hroot, hdesc]
  refine congrArg Res.ok (List.ext_getElem? fun j => ?_)
  rw [List.getElem?_map, List.getElem?_take, List.getElem?_drop]
  by_cases hj : j < nodeSize
  · obtain ⟨a, ha1, ha2⟩ := hleaf j hj
    rw [hmod] at ha1
    rw [if_pos hj, ha1, ha2]
    rfl
  · rw [if_neg hj, List.getElem?_eq_none (by omega)]
    rfl

theorem RepF.only_child {h : Nat} {cs : Arr α} {n : Nat} {f : Nat → Option α}
    (H : RepF (h + 1) (.node cs) n f) (hn : n ≤ cap h) :
    cs[1]? = some .nil ∧ ∃ c0, cs[0]? = some (.node c0) ∧ RepF h (.node c0) n f := by
  obtain ⟨c0, hc0, hrep0⟩ := H.child (k := 0) (by rw [Nat.mul_zero]; exact H.bounds.1)
  rw [Nat.mul_zero, Nat.sub_zero, Nat.min_eq_right hn] at hrep0
  exact ⟨H.child_nil two_le_nodeSize (by rw [Nat.mul_one]; exact hn), c0, hc0,
    hrep0.congr fun i _ => by rw [Nat.zero_add]⟩

/-- `Pop` on a one-element tail: the last leaf of the tree becomes the tail;
a root left with a single child is replaced by that child. -/
theorem vPop_leaf {v : Vector α} {l : List α} (H : Reps v l) {n : Nat}
    (hT : tsz l.length = n + nodeSize) (hlen : l.length = n + nodeSize + 1) :
    ∃ v', vPop v = .ok (.vec v') ∧ Reps v' l.dropLast := by
  have hB := nodeSize_pos
  have hdl : l.dropLast.length = n + nodeSize := by rw [List.length_dropLast, hlen]; rfl
  have hdn : nodeSize ∣ n := (Nat.dvd_add_left (Nat.dvd_refl _)).mp (hT ▸ tsz_dvd l.length)
  have hts : tsz l.dropLast.length = n :=
    hdl ▸ tsz_unique hdn (Nat.lt_add_of_pos_right hB) (Nat.le_refl _)
  have hold : ∀ i, i < n → l[i]? = l.dropLast[i]? := fun i hi =>
    getElem?_dropLast_of_lt (List.length_dropLast ▸ hdl ▸ Nat.lt_add_right _ hi)
  -- `l.length - 2` is the last position in the tree
  have hc2 : l.length - 2 + 1 = n + nodeSize := by omega
  have hc2lt : l.length - 2 < n + nodeSize := Nat.lt_of_succ_le (Nat.le_of_eq hc2)
  have hslice := H.sliceFor_tree (i := l.length - 2) (hT ▸ hc2lt)
  have htail : ((l.drop (nodeSize * ((l.length - 2) / nodeSize))).take nodeSize).map Slot.val =
      (l.dropLast.drop (tsz l.dropLast.length)).map Slot.val := by
    obtain ⟨k, m, hk, hm, -, hdiv, -⟩ := last_block hB (Nat.dvd_refl _) hdn hc2
    rw [hdiv, show nodeSize * k = n by omega, hts, List.dropLast_eq_take, List.drop_take, hlen,
      Nat.add_sub_cancel, Nat.add_sub_cancel_left]
  rw [htail] at hslice
  obtain ⟨rt, hroot, hrepF⟩ := H.root (hT ▸ Nat.add_pos_right n hB)
  rw [hT] at hrepF
  have hpos : (l.length - 2) % cap v.height + 1 = n + nodeSize := by
    rw [Nat.mod_eq_of_lt (Nat.lt_of_lt_of_le hc2lt hrepF.bounds.2.1), hc2]
  unfold vPop
  rw [treeSize_eq, H.count, hT, if_neg (hlen ▸ Nat.succ_ne_zero _),
    if_neg (hlen ▸ Nat.succ_ne_succ_iff.mpr (Nat.ne_of_gt (Nat.add_pos_right n hB))),
    if_neg (by rw [hlen, Nat.add_sub_cancel_left]; exact Nat.lt_irrefl 1), hslice, hroot,
    show l.length - 1 = l.dropLast.length from List.length_dropLast.symm]
  rcases Nat.eq_zero_or_pos v.height with hh0 | hhpos
  · -- height 0: the root leaf becomes the tail, what is left of the root is not used
    rw [hh0] at hrepF
    obtain ⟨hlen0, hn0, -⟩ := RepF.zero_iff.mp hrepF
    have hdig : digit 0 (l.length - 2) = nodeSize - 1 := by
      rw [digit_zero, Nat.mod_eq_of_lt (hn0 ▸ hc2lt)]
      exact Nat.eq_sub_of_add_eq (hc2.trans hn0)
    have hne : ¬ nodeSize - 1 = 0 := Nat.sub_ne_zero_of_lt two_le_nodeSize
    have hlt : nodeSize - 1 < rt.length := by rw [hlen0]; exact Nat.sub_lt hB Nat.one_pos
    refine ⟨⟨l.dropLast.length, v.height, some (rt.set (nodeSize - 1) .nil), _⟩, by
      simp only [hh0, popTail, popTailLow, hdig, if_neg hne, deref_some, ok_bind,
        setIdx_of_lt _ hlt, pure_eq_ok, Nat.lt_irrefl, if_false],
      rfl, rfl, Or.inl ?_, ?_, fun hc => absurd hh0 hc⟩
    · rw [hts]
      exact Nat.add_right_cancel (hn0.trans (Nat.zero_add _).symm)
    · rw [hts]
      exact Nat.le_trans (Nat.le_add_right n nodeSize) (hT ▸ H.hhi)
  · obtain ⟨h, hh⟩ : ∃ h, v.height = h + 1 := ⟨v.height - 1, by omega⟩
    have hlow := H.hlow (by omega)
    rw [hh, Nat.add_sub_cancel, hT] at hlow
    rw [hh] at hrepF
    have hnS : cap h ≤ n :=
      Nat.le_of_add_le_add_right
        (dvd_lt_add_le (nodeSize_dvd_cap h) (Nat.dvd_add hdn (Nat.dvd_refl _)) hlow)
    obtain ⟨cs', hpop, hrep'⟩ :=
      (popTail_spec l.length hrepF (hh ▸ hpos)).2 (Nat.lt_of_lt_of_le (cap_pos h) hnS)
    rw [hh, hpop]
    simp only [ok_bind, Nat.succ_pos, if_true, deref_some]
    rcases Nat.lt_or_ge (cap h) n with hgt | hle
    · -- the root keeps two children
      obtain ⟨c1, hc1, -⟩ := hrep'.child (k := 1) (by rw [Nat.mul_one]; exact hgt)
      exact ⟨⟨l.dropLast.length, h + 1, some cs', _⟩, by
        simp only [getIdx_of_getElem? hc1, ok_bind, pure_eq_ok], rfl, rfl,
        Or.inr ⟨_, rfl, hts ▸ hrep'.congr hold⟩, hts ▸ hrep'.bounds.2.1, fun _ => hts ▸ hgt⟩
    · -- the root has a single child left: the tree loses a level
      obtain ⟨hc1, c0, hc0, hrep0⟩ := hrep'.only_child hle
      refine ⟨⟨l.dropLast.length, h, some c0, _⟩, by
        simp only [getIdx_of_getElem? hc1, getIdx_of_getElem? hc0, ok_bind, asNode_node, pure_eq_ok,
          Nat.add_sub_cancel], rfl, rfl,
        Or.inr ⟨_, rfl, hts ▸ hrep0.congr hold⟩, hts ▸ hle, fun hc => ?_⟩
      have hc : h ≠ 0 := hc
      obtain ⟨h', rfl⟩ : ∃ h', h = h' + 1 := ⟨h - 1, by omega⟩
      have := two_cap_le_cap_succ h'
      have := cap_pos h'
      rw [hts]
      show cap h' < n
      omega

theorem vPop_spec {v : Vector α} {l : List α} (H : Reps v l) (hne : l ≠ []) :
    ∃ v', vPop v = .ok (.vec v') ∧ Reps v' l.dropLast := by
  have hlpos : 0 < l.length := List.length_pos_iff.mpr hne
  by_cases h1 : l.length = 1
  · have : l.dropLast = [] := List.length_eq_zero_iff.mp (by rw [List.length_dropLast]; omega)
    refine ⟨empty, ?_, this ▸ reps_empty⟩
    unfold vPop
    rw [H.count, if_neg (by omega), if_pos h1]
  · by_cases hroom : l.length - tsz l.length > 1
    · exact vPop_room H hroom
    · obtain ⟨hd, hlt, -⟩ := tsz_spec hlpos
      have := Nat.le_of_dvd (by omega) hd
      exact vPop_leaf H (n := tsz l.length - nodeSize) (by omega) (by omega)

end C06
