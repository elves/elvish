/-
A history is a list of operations, each applied to an earlier version (by position in the
store) and appending its result to the store.  The same history is run on plain lists, and the
two runs stay in the abstraction relation; since the store only grows, every earlier version
keeps representing the same list after every later step.
-/
import ElvProofs.C06.Reach
namespace C06
open Go

variable {α : Type}

inductive Op (α : Type) where
  | conj (src : Nat) (x : α)
  | assoc (src : Nat) (i : Int) (x : α)
  | pop (src : Nat)
  | sub (src : Nat) (i j : Int)

def Op.apply (w : Vec α) : Op α → Res (Vec α)
  | .conj _ x => w.Conj x
  | .assoc _ i x => w.Assoc i x
  | .pop _ => w.Pop
  | .sub _ i j => w.SubVector i j

def Op.src : Op α → Nat
  | .conj s _ => s
  | .assoc s _ _ => s
  | .pop s => s
  | .sub s _ _ => s

/-- the same operation on a plain list; `none` = "no value" -/
def Op.spec (l : List α) : Op α → Option (List α)
  | .conj _ x => some (l ++ [x])
  | .assoc _ i x =>
    if i < 0 ∨ i > l.length then none
    else if i = l.length then some (l ++ [x])
    else some (l.set i.toNat x)
  | .pop _ => if l.isEmpty then none else some l.dropLast
  | .sub _ i j =>
    if 0 ≤ i ∧ i ≤ j ∧ j ≤ l.length then some ((l.drop i.toNat).take (j.toNat - i.toNat)) else none

/-- run a history on the model: every result (also a nil one) becomes a new version -/
def runHist : List (Op α) → List (Vec α) → Res (List (Vec α))
  | [], st => .ok st
  | op :: rest, st =>
    match st[op.src]? with
    | none => .exc "no such version"
    | some w => do
      let w' ← op.apply w
      runHist rest (st ++ [w'])

/-- run a history on plain lists; an operation on a missing version or on a
"no value" version is not a history (`none`). -/
def specHist : List (Op α) → List (Option (List α)) → Option (List (Option (List α)))
  | [], st => some st
  | op :: rest, st =>
    match st[op.src]? with
    | some (some l) => specHist rest (st ++ [op.spec l])
    | _ => none

def VRel (w : Vec α) : Option (List α) → Prop
  | none => w = .nil
  | some l => VReps w l

def Sim : List (Vec α) → List (Option (List α)) → Prop
  | [], [] => True
  | w :: cs, a :: as => VRel w a ∧ Sim cs as
  | _, _ => False

theorem Sim.lookup : ∀ {cs : List (Vec α)} {as : List (Option (List α))}, Sim cs as →
    ∀ (k : Nat) (a : Option (List α)), as[k]? = some a → ∃ w, cs[k]? = some w ∧ VRel w a := by
  intro cs
  induction cs with
  | nil =>
    intro as h k a hk
    cases as with
    | nil => exact nomatch hk
    | cons _ _ => exact absurd h id
  | cons w cs ih =>
    intro as h k a hk
    cases as with
    | nil => exact absurd h id
    | cons a' as =>
      cases k with
      | zero => exact ⟨w, rfl, Option.some.inj hk ▸ h.1⟩
      | succ k => exact ih h.2 k a hk

theorem Sim.snoc : ∀ {cs : List (Vec α)} {as : List (Option (List α))} {w : Vec α}
    {a : Option (List α)}, Sim cs as → VRel w a → Sim (cs ++ [w]) (as ++ [a]) := by
  intro cs
  induction cs with
  | nil =>
    intro as w a h hr
    cases as with
    | nil => exact ⟨hr, trivial⟩
    | cons _ _ => exact absurd h id
  | cons w' cs ih =>
    intro as w a h hr
    cases as with
    | nil => exact absurd h id
    | cons a' as => exact ⟨h.1, ih h.2 hr⟩

theorem op_refines {w : Vec α} {l : List α} (H : VReps w l) (op : Op α) :
    ∃ w', op.apply w = .ok w' ∧ VRel w' (op.spec l) := by
  cases op with
  | conj s x => exact vreps_conj H x
  | assoc s i x =>
    simp only [Op.apply, Op.spec]
    by_cases h1 : i < 0 ∨ i > l.length
    · rw [if_pos h1]
      exact ⟨.nil, vreps_assoc_nil H i x h1, rfl⟩
    · rw [if_neg h1]
      by_cases h2 : i = l.length
      · rw [if_pos h2]
        exact vreps_assoc_end H i x h2
      · rw [if_neg h2]
        exact vreps_assoc_set H i x (by omega) (by omega)
  | pop s =>
    cases l with
    | nil => exact ⟨.nil, vreps_pop_nil H, rfl⟩
    | cons a t => exact vreps_pop H (List.cons_ne_nil a t)
  | sub s i j =>
    simp only [Op.apply, Op.spec]
    by_cases h : 0 ≤ i ∧ i ≤ j ∧ j ≤ l.length
    · rw [if_pos h]
      exact vreps_subVector_ok H h
    · rw [if_neg h]
      exact ⟨.nil, vreps_subVector_nil H h, rfl⟩

theorem hist_refines : ∀ (ops : List (Op α)) {cs : List (Vec α)} {as as' : List (Option (List α))},
    Sim cs as → specHist ops as = some as' →
    ∃ cs', runHist ops cs = .ok cs' ∧ Sim cs' as' ∧ cs <+: cs' ∧ as <+: as' := by
  intro ops
  induction ops with
  | nil =>
    intro cs as as' h hs
    simp only [specHist, Option.some.injEq] at hs
    subst hs
    exact ⟨cs, rfl, h, List.prefix_refl _, List.prefix_refl _⟩
  | cons op rest ih =>
    intro cs as as' h hs
    simp only [specHist] at hs
    split at hs
    · rename_i l hl
      obtain ⟨w, hw, hr⟩ := h.lookup _ _ hl
      obtain ⟨w', h1, h2⟩ := op_refines (show VReps w l from hr) op
      obtain ⟨cs', h3, h4, h5, h6⟩ := ih (h.snoc h2) hs
      refine ⟨cs', ?_, h4, ?_, ?_⟩
      · simp only [runHist, hw, h1, ok_bind]
        exact h3
      · exact List.IsPrefix.trans (List.prefix_append _ _) h5
      · exact List.IsPrefix.trans (List.prefix_append _ _) h6
    · exact absurd hs (by simp)

theorem runHist_prefix : ∀ (ops : List (Op α)) {cs cs' : List (Vec α)},
    runHist ops cs = .ok cs' → cs <+: cs' := by
  intro ops
  induction ops with
  | nil =>
    intro cs cs' hrun
    simp only [runHist, Res.ok.injEq] at hrun
    exact hrun ▸ List.prefix_refl _
  | cons op rest ih =>
    intro cs cs' hrun
    simp only [runHist] at hrun
    split at hrun
    · exact absurd hrun (by simp)
    · rename_i w0 _
      cases hop : op.apply w0 with
      | ok w' =>
        rw [hop] at hrun
        exact List.IsPrefix.trans (List.prefix_append _ _) (ih hrun)
      | exc e => rw [hop] at hrun; simp at hrun
      | panic e => rw [hop] at hrun; simp at hrun

end C06
