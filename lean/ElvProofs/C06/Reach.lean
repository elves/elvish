/-
Every list is represented by some vector, built by `Conj` (non-vacuity of the abstraction
relation), and the relation is functional.
-/
import ElvProofs.C06.Iface
namespace C06
open Go
open Gen.C06Consts

variable {α : Type}

theorem exists_reps (l : List α) : ∃ v, Reps v l := by
  generalize hn : l.length = n
  induction n generalizing l with
  | zero => exact List.length_eq_zero_iff.mp hn ▸ ⟨empty, reps_empty⟩
  | succ n ih =>
    have hne : l ≠ [] := fun h => by rw [h] at hn; exact absurd hn (by simp)
    obtain ⟨v, hv⟩ := ih l.dropLast (by rw [List.length_dropLast]; omega)
    obtain ⟨v', _, hv'⟩ := vConj_spec hv (l.getLast hne)
    exact ⟨v', List.dropLast_concat_getLast hne ▸ hv'⟩

theorem vreps_functional {w : Vec α} {l l' : List α} (H : VReps w l) (H' : VReps w l') : l = l' := by
  apply List.ext_getElem?
  intro i
  have h1 := vreps_index H (i : Int)
  have h2 := vreps_index H' (i : Int)
  rw [h1] at h2
  simp only [Int.toNat_natCast, Int.natCast_nonneg, if_true] at h2
  cases h : l[i]? <;> cases h' : l'[i]? <;> simp [h, h'] at h2 ⊢
  exact h2

end C06
