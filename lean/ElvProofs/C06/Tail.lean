/-
Moving a leaf between the tail and the tree: `newPath`, `pushTail` (`Conj` on a full tail)
and `popTail` (`Pop` on a one-element tail) against `RepF`.  In both directions the node on the path is the one that holds the
last position (`last_block`), and only that child changes (`RepF.set_last`).
-/
import ElvProofs.C06.Rep
namespace C06
open Go
open Gen.C06Consts

variable {α : Type}

theorem RepF.single {h : Nat} {c : Slot α} {n : Nat} {f : Nat → Option α} (H : RepF h c n f) :
    RepF (h + 1) (.node ((newNode : Arr α).set 0 c)) n f := by
  obtain ⟨h0, hle, hd⟩ := H.bounds
  have hlen : 0 < (newNode : Arr α).length := newNode_length ▸ nodeSize_pos
  have h2 := two_cap_le_cap_succ h
  refine RepF.succ_iff.mpr ⟨List.length_set.trans newNode_length, h0, by omega, hd, fun k hk => ?_⟩
  rcases Nat.eq_zero_or_pos k with rfl | hk0
  · refine ⟨c, List.getElem?_set_self hlen, Or.inr ⟨by omega, ?_⟩⟩
    rw [Nat.mul_zero, Nat.sub_zero, Nat.min_eq_right hle]
    exact H.congr fun i _ => by rw [Nat.zero_add]
  · have := mul_succ_le (S := cap h) hk0
    exact ⟨.nil, (List.getElem?_set_ne (by omega)).trans (newNode_getElem? hk),
      Or.inl ⟨by omega, rfl⟩⟩

theorem newPath_spec {lf : Arr α} {g : Nat → Option α} (hl : RepF 0 (.node lf) nodeSize g) :
    ∀ h, ∃ cs', newPath h (some lf) = .ok (some cs') ∧ RepF h (.node cs') nodeSize g := by
  intro h
  induction h with
  | zero => exact ⟨lf, rfl, hl⟩
  | succ h ih =>
    obtain ⟨p, hp, hrep⟩ := ih
    have h0 : 0 < (newNode : Arr α).length := newNode_length ▸ nodeSize_pos
    refine ⟨_, ?_, hrep.single⟩
    simp only [newPath, hp, ok_bind, toAny_some, setIdx_of_lt _ h0, pure_eq_ok]

/-- `pushTail` hangs the leaf `lf` (the elements `f n … f (n + nodeSize - 1)`)
behind the `n` elements of a tree that has room for it; `count - 1` is the
position of the leaf's last element. -/
theorem pushTail_spec {lf : Arr α} (count : Nat) {h : Nat} :
    ∀ {cs : Arr α} {n : Nat} {f : Nat → Option α},
      RepF h (.node cs) n f → RepF 0 (.node lf) nodeSize (fun i => f (n + i)) →
      n + nodeSize ≤ cap h → (count - 1) % cap h + 1 = n + nodeSize →
      ∃ cs', pushTail count h (some cs) (some lf) = .ok (some cs') ∧
        RepF h (.node cs') (n + nodeSize) f := by
  induction h with
  | zero =>
    intro cs n f H _ hroom _
    have := H.bounds
    rw [cap_zero] at hroom
    omega
  | succ h ih =>
    intro cs n f H hl hroom hpos
    obtain ⟨k0, m, rfl, hm, hdm, hdiv, hmod⟩ :=
      last_block (cap_pos h) (nodeSize_dvd_cap h) H.bounds.2.2 hpos
    have hlen := (RepF.succ_iff.mp H).1
    have hdigit : digit (h + 1) (count - 1) = k0 := by rw [digit_succ, hdiv]
    have hk0 : k0 < nodeSize :=
      child_lt_nodeSize (n := cap h * k0 + m + nodeSize) (by have := nodeSize_pos; omega) hroom
    have hidx : k0 < cs.length := by rw [hlen]; exact hk0
    -- the new child `X` in slot `k0` holds the `m` elements it had, if any, and the leaf
    suffices ∃ X, pushTail count (h + 1) (some cs) (some lf) = .ok (some (cs.set k0 (.node X))) ∧
        RepF h (.node X) (m + nodeSize) (fun i => f (cap h * k0 + i)) by
      obtain ⟨X, hX, hrepX⟩ := this
      have hB := nodeSize_pos
      exact ⟨_, hX, Nat.add_assoc _ m _ ▸ H.set_last hk0 (by omega) hm (by omega)
        (Nat.dvd_add hdm (Nat.dvd_refl _)) (fun _ _ => rfl) (Or.inr ⟨by omega, hrepX⟩)⟩
    have hl' : RepF 0 (.node lf) nodeSize (fun i => f (cap h * k0 + (m + i))) :=
      hl.congr fun i _ => by rw [Nat.add_assoc]
    rcases Nat.eq_zero_or_pos m with rfl | hmpos
    · -- the children before `k0` are full, `k0` is empty: a new path
      have hc := H.child_nil hk0 (Nat.le_refl _)
      obtain ⟨X, hX, hrepX⟩ := newPath_spec hl' h
      refine ⟨X, ?_, Nat.zero_add nodeSize ▸ hrepX.congr fun i _ => by rw [Nat.zero_add]⟩
      simp only [pushTail, deref_some, ok_bind, hdigit, getIdx_of_getElem? hc, hX, toAny_some,
        setIdx_of_lt _ hidx, pure_eq_ok]
    · -- child `k0` has room: push into it
      obtain ⟨c, hc, hrep⟩ := H.child (k := k0) (by omega)
      rw [Nat.add_sub_cancel_left, Nat.min_eq_right (by omega)] at hrep
      obtain ⟨X, hX, hrepX⟩ := ih hrep hl' hm (by rw [← mod_cap_succ_mod, hmod])
      refine ⟨X, ?_, hrepX⟩
      simp only [pushTail, deref_some, ok_bind, hdigit, getIdx_of_getElem? hc, asNode_node, hX,
        toAny_some, setIdx_of_lt _ hidx, pure_eq_ok]

/-- a node loses its last child `k`, which held a single leaf -/
theorem RepF.drop_last_child {h k : Nat} {cs : Arr α} {f : Nat → Option α}
    (H : RepF (h + 1) (.node cs) (cap h * k + nodeSize) f) (hk : 0 < k) :
    RepF (h + 1) (.node (cs.set k .nil)) (cap h * k) f := by
  exact H.set_last (m' := 0)
    (child_lt_nodeSize (Nat.lt_add_of_pos_right nodeSize_pos) H.bounds.2.1) (nodeSize_le_cap h)
    (Nat.zero_le _) (Nat.mul_pos (cap_pos h) hk) (Nat.dvd_zero _) (fun _ _ => rfl)
    (Or.inl ⟨rfl, rfl⟩)

/-- `popTail` removes the last leaf of a tree of `n + nodeSize` elements
(`count - 2` is the position of that leaf's last element); a tree that was
only that leaf becomes a nil pointer. -/
theorem popTail_spec (count : Nat) {h : Nat} :
    ∀ {cs : Arr α} {n : Nat} {f : Nat → Option α},
      RepF (h + 1) (.node cs) (n + nodeSize) f → (count - 2) % cap (h + 1) + 1 = n + nodeSize →
      (n = 0 → popTail count (h + 1) (some cs) = .ok none) ∧
      (0 < n → ∃ cs', popTail count (h + 1) (some cs) = .ok (some cs') ∧
        RepF (h + 1) (.node cs') n f) := by
  induction h with
  | zero =>
    intro cs n f H hpos
    obtain ⟨k0, m, rfl, hm, -, hdiv, -⟩ := last_block (cap_pos 0) (nodeSize_dvd_cap 0)
      ((Nat.dvd_add_left (Nat.dvd_refl _)).mp H.bounds.2.2) hpos
    have hdigit : digit 1 (count - 2) = k0 := by rw [digit_succ, hdiv]
    -- the last child is a leaf
    obtain rfl : m = 0 := by rw [cap_zero] at hm; omega
    rw [Nat.add_zero] at H ⊢
    rcases Nat.eq_zero_or_pos k0 with rfl | hk0
    · refine ⟨fun _ => ?_, fun h => absurd h (Nat.not_lt_zero _)⟩
      simp only [popTail, popTailLow, hdigit, if_true]
    · refine ⟨fun h => absurd h (Nat.ne_of_gt (Nat.mul_pos (cap_pos 0) hk0)),
        fun _ => ⟨_, ?_, H.drop_last_child hk0⟩⟩
      have hidx : k0 < cs.length := by
        rw [(RepF.succ_iff.mp H).1]
        exact child_lt_nodeSize (Nat.lt_add_of_pos_right nodeSize_pos) H.bounds.2.1
      simp only [popTail, popTailLow, hdigit, if_neg (Nat.ne_of_gt hk0), deref_some, ok_bind,
        setIdx_of_lt _ hidx, pure_eq_ok]
  | succ h ih =>
    intro cs n f H hpos
    obtain ⟨k0, m, rfl, hm, hdm, hdiv, hmod⟩ := last_block (cap_pos (h + 1))
      (nodeSize_dvd_cap (h + 1)) ((Nat.dvd_add_left (Nat.dvd_refl _)).mp H.bounds.2.2) hpos
    have hdigit : digit (h + 2) (count - 2) = k0 := by rw [digit_succ, hdiv]
    have hB := nodeSize_pos
    have hk0 : k0 < nodeSize :=
      child_lt_nodeSize (n := cap (h + 1) * k0 + m + nodeSize) (by omega) H.bounds.2.1
    have hidx : k0 < cs.length := by rw [(RepF.succ_iff.mp H).1]; exact hk0
    -- the last child holds `m + nodeSize` elements
    obtain ⟨c, hc, hrep⟩ := H.child (k := k0) (by omega)
    rw [Nat.add_assoc, Nat.add_sub_cancel_left, Nat.min_eq_right hm] at hrep
    obtain ⟨ihB, ihN⟩ := ih hrep (by rw [← mod_cap_succ_mod, hmod])
    rcases Nat.eq_zero_or_pos m with rfl | hmpos
    · -- it was a single leaf: the child goes
      have hrec := ihB rfl
      rw [Nat.add_zero] at H ⊢
      rcases Nat.eq_zero_or_pos k0 with rfl | hk0
      · refine ⟨fun _ => ?_, fun h => absurd h (Nat.not_lt_zero _)⟩
        simp only [popTail, deref_some, ok_bind, hdigit, getIdx_of_getElem? hc, asNode_node, hrec,
          Option.isNone_none, and_self, if_true, pure_eq_ok]
      · refine ⟨fun h => absurd h (Nat.ne_of_gt (Nat.mul_pos (cap_pos _) hk0)),
          fun _ => ⟨_, ?_, H.drop_last_child hk0⟩⟩
        simp only [popTail, deref_some, ok_bind, hdigit, getIdx_of_getElem? hc, asNode_node, hrec,
          Nat.ne_of_gt hk0, and_false, if_false, setIdx_of_lt _ hidx, pure_eq_ok]
    · obtain ⟨c', hrec, hrep'⟩ := ihN hmpos
      refine ⟨fun h => by omega, fun hn => ⟨cs.set k0 (.node c'), ?_, ?_⟩⟩
      · simp only [popTail, deref_some, ok_bind, hdigit, getIdx_of_getElem? hc, asNode_node, hrec,
          Option.isNone_some, Bool.false_eq_true, false_and, if_false, setIdx_of_lt _ hidx,
          pure_eq_ok]
      · rw [Nat.add_assoc] at H
        exact H.set_last hk0 hm (by omega) hn hdm (fun _ _ => rfl) (Or.inr ⟨hmpos, hrep'⟩)

end C06
