/-
The `Vector` interface (`*vector` and `*subVector` behind dynamic
dispatch) against the abstraction relation `VReps`.  A `*subVector` delegates
to its parent; what it returns is a slice of what the parent returns, which
the `lslice_*` lemmas say on plain lists.
-/
import ElvProofs.C06.Vec
namespace C06
open Go
open Gen.C06Consts

variable {α : Type}

def lslice (l : List α) (b e : Nat) : List α := (l.drop b).take (e - b)

theorem lslice_getElem? (l : List α) (b e i : Nat) :
    (lslice l b e)[i]? = if i < e - b then l[b + i]? else none := by
  unfold lslice
  rw [List.getElem?_take, List.getElem?_drop]

theorem lslice_length {l : List α} {b e : Nat} (hbe : b ≤ e) (he : e ≤ l.length) :
    (lslice l b e).length = e - b := by
  unfold lslice
  rw [List.length_take, List.length_drop]
  omega

theorem lslice_eq_drop_take {l : List α} {b e : Nat} (hbe : b ≤ e) :
    lslice l b e = (l.take e).drop b := by
  unfold lslice
  rw [List.take_drop, Nat.add_sub_cancel' hbe]

theorem lslice_lslice {l : List α} {b e i j : Nat} (hj : j ≤ e - b) :
    lslice (lslice l b e) i j = lslice l (b + i) (b + j) := by
  unfold lslice
  rw [List.drop_take, List.take_take, List.drop_drop, Nat.min_eq_left (by omega),
    Nat.add_sub_add_left]

theorem lslice_set (l : List α) (b e i : Nat) (x : α) :
    lslice (l.set (b + i) x) b e = (lslice l b e).set i x := by
  unfold lslice
  rw [List.drop_set, if_neg (by omega), Nat.add_sub_cancel_left, List.take_set]

theorem lslice_dropLast {l : List α} {b e : Nat} (hbe : b ≤ e) (he : e ≤ l.length) :
    lslice l b (e - 1) = (lslice l b e).dropLast := by
  unfold lslice
  rw [List.dropLast_eq_take, List.length_take, List.take_take, List.length_drop,
    Nat.min_eq_left (a := e - b) (by omega), Nat.min_eq_left (by omega), Nat.sub_right_comm]

theorem lslice_cons {l : List α} {b e : Nat} (hbe : b < e) (he : e ≤ l.length) :
    lslice l b e = l[b]'(by omega) :: lslice l (b + 1) e := by
  unfold lslice
  rw [List.drop_eq_getElem_cons (Nat.lt_of_lt_of_le hbe he),
    show e - b = (e - (b + 1)) + 1 by omega, List.take_succ_cons]

theorem lslice_snoc {l l' : List α} {b e : Nat} {x : α} (hbe : b ≤ e) (he : e ≤ l.length)
    (h : l'.take (e + 1) = l.take e ++ [x]) : lslice l' b (e + 1) = lslice l b e ++ [x] := by
  rw [lslice_eq_drop_take (Nat.le_succ_of_le hbe), lslice_eq_drop_take hbe, h,
    List.drop_append_of_le_length (by rw [List.length_take]; omega)]

/-- the interface value `w` is well formed and represents `l` -/
def VReps : Vec α → List α → Prop
  | .nil, _ => False
  | .vec v, l => Reps v l
  | .sub v b e, l => ∃ lp, Reps v lp ∧ 0 ≤ b ∧ b ≤ e ∧ e ≤ lp.length ∧ l = lslice lp b.toNat e.toNat

/-- the length of a slice, as the `*subVector` methods compute it -/
theorem lslice_length_int {lp : List α} {b e : Int} (hb : 0 ≤ b) (hbe : b ≤ e)
    (he : e ≤ lp.length) : ((lslice lp b.toNat e.toNat).length : Int) = e - b := by
  rw [lslice_length (by omega) (by omega)]
  omega

theorem vSubVector_ok {v : Vector α} {l : List α} (H : Reps v l) {i j : Int}
    (h : 0 ≤ i ∧ i ≤ j ∧ j ≤ l.length) :
    vSubVector v i j = .sub v i j ∧ VReps (.sub v i j) (lslice l i.toNat j.toNat) :=
  ⟨by unfold vSubVector; rw [H.count, if_neg (by omega)], l, H, h.1, h.2.1, h.2.2, rfl⟩

theorem vSubVector_nil {v : Vector α} {l : List α} (H : Reps v l) {i j : Int}
    (h : ¬ (0 ≤ i ∧ i ≤ j ∧ j ≤ l.length)) : vSubVector v i j = .nil := by
  unfold vSubVector
  rw [H.count, if_pos (by omega)]

theorem vreps_len {w : Vec α} {l : List α} (H : VReps w l) : w.Len = .ok (l.length : Int) := by
  cases w with
  | nil => exact absurd H id
  | vec v => exact congrArg (fun c : Nat => Res.ok (c : Int)) (show Reps v l from H).count
  | sub v b e =>
    obtain ⟨lp, _, hb, hbe, he, rfl⟩ := H
    exact congrArg Res.ok (lslice_length_int hb hbe he).symm

theorem vreps_index {w : Vec α} {l : List α} (H : VReps w l) (i : Int) :
    w.Index i = .ok (if 0 ≤ i then (l[i.toNat]?).map Slot.val else none) := by
  cases w with
  | nil => exact absurd H id
  | vec v => exact vIndex_spec H i
  | sub v b e =>
    obtain ⟨lp, hR, hb, hbe, he, rfl⟩ := H
    simp only [Vec.Index]
    by_cases hi : i < 0 ∨ i ≥ e - b
    · rw [if_pos hi]
      rcases hi with h | h
      · rw [if_neg (by omega)]
      · rw [if_pos (by omega), lslice_getElem?, if_neg (by omega)]
        rfl
    · rw [if_neg hi, vIndex_spec hR, if_pos (by omega), if_pos (by omega), lslice_getElem?,
        if_pos (by omega), Int.toNat_add hb (by omega)]

theorem vreps_subVector_ok {w : Vec α} {l : List α} (H : VReps w l) {i j : Int}
    (h : 0 ≤ i ∧ i ≤ j ∧ j ≤ l.length) :
    ∃ w', w.SubVector i j = .ok w' ∧ VReps w' (lslice l i.toNat j.toNat) := by
  cases w with
  | nil => exact absurd H id
  | vec v =>
    obtain ⟨h1, h2⟩ := vSubVector_ok (show Reps v l from H) h
    exact ⟨_, congrArg Res.ok h1, h2⟩
  | sub v b e =>
    obtain ⟨lp, hR, hb, hbe, he, rfl⟩ := H
    rw [lslice_length_int hb hbe he] at h
    obtain ⟨h1, h2⟩ := vSubVector_ok hR (i := b + i) (j := b + j) (by omega)
    refine ⟨_, by simp only [Vec.SubVector]; rw [if_neg (by omega), h1], ?_⟩
    rw [Int.toNat_add hb h.1, Int.toNat_add hb (by omega)] at h2
    rw [lslice_lslice (by omega)]
    exact h2

theorem vreps_subVector_nil {w : Vec α} {l : List α} (H : VReps w l) {i j : Int}
    (h : ¬ (0 ≤ i ∧ i ≤ j ∧ j ≤ l.length)) : w.SubVector i j = .ok .nil := by
  cases w with
  | nil => exact absurd H id
  | vec v => exact congrArg Res.ok (vSubVector_nil (show Reps v l from H) h)
  | sub v b e =>
    obtain ⟨lp, hR, hb, hbe, he, rfl⟩ := H
    rw [lslice_length_int hb hbe he] at h
    simp only [Vec.SubVector]
    rw [if_pos (by omega)]

theorem vreps_conj {w : Vec α} {l : List α} (H : VReps w l) (x : α) :
    ∃ w', w.Conj x = .ok w' ∧ VReps w' (l ++ [x]) := by
  cases w with
  | nil => exact absurd H id
  | vec v =>
    obtain ⟨v', h1, h2⟩ := vConj_spec (show Reps v l from H) x
    exact ⟨.vec v', by simp only [Vec.Conj, h1]; rfl, h2⟩
  | sub v b e =>
    obtain ⟨lp, hR, hb, hbe, he, rfl⟩ := H
    have he0 : 0 ≤ e := Int.le_trans hb hbe
    -- the parent after `Assoc e x`: `x` at position `e`, the same before it
    have key : ∃ v' lp', vAssoc v e x = .ok (.vec v') ∧ Reps v' lp' ∧ e + 1 ≤ lp'.length ∧
        lp'.take (e.toNat + 1) = lp.take e.toNat ++ [x] := by
      by_cases hend : e = lp.length
      · obtain ⟨v', h1, h2⟩ := vAssoc_end hR e x hend
        have hn : e.toNat = lp.length := by omega
        refine ⟨v', _, h1, h2, by rw [List.length_append, List.length_singleton]; omega, ?_⟩
        rw [hn, List.take_length]
        exact List.take_of_length_le (Nat.le_of_eq List.length_append)
      · have hlt : e.toNat < lp.length := by omega
        obtain ⟨v', h1, h2⟩ := vAssoc_set hR e x he0 (by omega)
        refine ⟨v', _, h1, h2, by rw [List.length_set]; omega, ?_⟩
        rw [List.take_add_one, List.take_set_of_le (Nat.le_refl _), List.getElem?_set_self hlt]
        rfl
    obtain ⟨v', lp', h1, hR', hlen', htake⟩ := key
    obtain ⟨h2, h3⟩ := vSubVector_ok hR' (i := b) (j := e + 1) ⟨hb, by omega, hlen'⟩
    refine ⟨.sub v' b (e + 1), by simp only [Vec.Conj, h1, ok_bind, Vec.SubVector, h2], ?_⟩
    rw [show (e + 1).toNat = e.toNat + 1 by omega, lslice_snoc (by omega) (by omega) htake] at h3
    exact h3

theorem vreps_assoc_nil {w : Vec α} {l : List α} (H : VReps w l) (i : Int) (x : α)
    (hi : i < 0 ∨ i > l.length) : w.Assoc i x = .ok .nil := by
  cases w with
  | nil => exact absurd H id
  | vec v => exact vAssoc_nil H i x hi
  | sub v b e =>
    obtain ⟨lp, hR, hb, hbe, he, rfl⟩ := H
    rw [lslice_length_int hb hbe he] at hi
    simp only [Vec.Assoc]
    rw [if_pos hi]

theorem vreps_assoc_end {w : Vec α} {l : List α} (H : VReps w l) (i : Int) (x : α)
    (hi : i = l.length) : ∃ w', w.Assoc i x = .ok w' ∧ VReps w' (l ++ [x]) := by
  cases w with
  | nil => exact absurd H id
  | vec v =>
    obtain ⟨v', h1, h2⟩ := vAssoc_end (show Reps v l from H) i x hi
    exact ⟨.vec v', h1, h2⟩
  | sub v b e =>
    obtain ⟨w', h1, h2⟩ := vreps_conj H x
    obtain ⟨lp, hR, hb, hbe, he, rfl⟩ := H
    rw [lslice_length_int hb hbe he] at hi
    refine ⟨w', ?_, h2⟩
    simp only [Vec.Assoc]
    rw [if_neg (by omega), if_pos hi]
    exact h1

theorem vreps_assoc_set {w : Vec α} {l : List α} (H : VReps w l) (i : Int) (x : α)
    (h0 : 0 ≤ i) (h1 : i < l.length) :
    ∃ w', w.Assoc i x = .ok w' ∧ VReps w' (l.set i.toNat x) := by
  cases w with
  | nil => exact absurd H id
  | vec v =>
    obtain ⟨v', h2, h3⟩ := vAssoc_set (show Reps v l from H) i x h0 h1
    exact ⟨.vec v', h2, h3⟩
  | sub v b e =>
    obtain ⟨lp, hR, hb, hbe, he, rfl⟩ := H
    rw [lslice_length_int hb hbe he] at h1
    obtain ⟨v', h2, h3⟩ := vAssoc_set hR (b + i) x (by omega) (by omega)
    obtain ⟨h4, h5⟩ := vSubVector_ok h3 (i := b) (j := e) ⟨hb, hbe, by rw [List.length_set]; exact he⟩
    refine ⟨.sub v' b e, by
      simp only [Vec.Assoc]
      rw [if_neg (by omega), if_neg (by omega), h2]
      simp only [ok_bind, Vec.SubVector, h4], ?_⟩
    rw [Int.toNat_add hb h0, lslice_set] at h5
    exact h5

theorem vreps_pop_nil {w : Vec α} (H : VReps w ([] : List α)) : w.Pop = .ok .nil := by
  cases w with
  | nil => exact absurd H id
  | vec v => exact vPop_nil H
  | sub v b e =>
    obtain ⟨lp, hR, hb, hbe, he, hl⟩ := H
    have hlen := lslice_length_int hb hbe he
    rw [← hl] at hlen
    simp only [Vec.Pop]
    rw [if_pos (show e - b = 0 from hlen.symm)]

theorem vreps_pop {w : Vec α} {l : List α} (H : VReps w l) (hne : l ≠ []) :
    ∃ w', w.Pop = .ok w' ∧ VReps w' l.dropLast := by
  cases w with
  | nil => exact absurd H id
  | vec v =>
    obtain ⟨v', h1, h2⟩ := vPop_spec (show Reps v l from H) hne
    exact ⟨.vec v', h1, h2⟩
  | sub v b e =>
    obtain ⟨lp, hR, hb, hbe, he, rfl⟩ := H
    have hlen := lslice_length_int hb hbe he
    have hpos : 0 < (lslice lp b.toNat e.toNat).length := List.length_pos_iff.mpr hne
    simp only [Vec.Pop]
    rw [if_neg (by omega)]
    by_cases h1 : e - b = 1
    · rw [if_pos h1]
      have : (lslice lp b.toNat e.toNat).dropLast = [] :=
        List.length_eq_zero_iff.mp (by rw [List.length_dropLast]; omega)
      exact ⟨_, rfl, this ▸ reps_empty⟩
    · rw [if_neg h1]
      obtain ⟨h4, h5⟩ := vSubVector_ok hR (i := b) (j := e - 1) (by omega)
      refine ⟨_, congrArg Res.ok h4, ?_⟩
      rw [show (e - 1).toNat = e.toNat - 1 by omega, lslice_dropLast (by omega) (by omega)] at h5
      exact h5

end C06
