/-
`math:pow` as fixed by fixes/C11-pow-zero-neg.patch.
-/
import ElvProofs.C11.MathFns
namespace C11
open Go
variable {F : Type}

theorem neg_one_pow (y : Nat) : (-1 : Int) ^ y = if y % 2 = 0 then 1 else -1 := by
  induction y with
  | zero => rfl
  | succ n ih =>
    rw [Int.pow_succ, ih]
    by_cases h : n % 2 = 0
    · have : (n + 1) % 2 ≠ 0 := by omega
      simp [h, this]
    · have : (n + 1) % 2 = 0 := by omega
      simp [h, this]

theorem bigExp_eq (x : Int) (y : Nat) : bigExp x y = x ^ y := by
  unfold bigExp
  by_cases h0 : y = 0
  · subst h0; simp
  · simp only [h0, if_false]
    by_cases h1 : x = 0
    · subst h1; simp [Int.zero_pow h0]
    · simp only [h1, if_false]
      by_cases h2 : x = 1
      · subst h2; simp [Int.one_pow]
      · simp only [h2, if_false]
        by_cases h3 : x = -1
        · subst h3; simp only [if_true]; exact (neg_one_pow y).symm
        · simp [h3]

theorem inv_pow (b : Rat) (n : Nat) : (b⁻¹) ^ n = (b ^ n)⁻¹ := by
  induction n with
  | zero => simp only [Rat.pow_zero]; exact (Rat.inv_eq_of_mul_eq_one (by simp)).symm
  | succ n ih => rw [Rat.pow_succ, Rat.pow_succ, Rat.inv_mul_rev, ih, Rat.mul_comm]

theorem divInt_pow (b : Rat) (n : Nat) :
    Rat.divInt (b.num ^ n) ((b.den : Int) ^ n) = b ^ n := by
  have := Rat.num_divInt_den (b ^ n)
  rw [Rat.num_pow, Rat.den_pow, Int.natCast_pow] at this
  exact this

theorem den_pow_ne_zero (b : Rat) (n : Nat) : ((b.den : Int) ^ n) ≠ 0 := by
  have : (0 : Int) < (b.den : Int) ^ n := Int.pow_pos (den_pos' b)
  omega

theorem zpow_of_nonneg (b : Rat) (e : Int) (h : 0 ≤ e) : b ^ e = b ^ e.toNat := by
  conv => lhs; rw [← Int.toNat_of_nonneg h]
  exact Rat.zpow_natCast b _

theorem zpow_of_neg (b : Rat) (e : Int) (h : e < 0) : b ^ e = (b⁻¹) ^ (-e).toNat := by
  have : e = -((-e).toNat : Int) := by omega
  conv => lhs; rw [this]
  rw [Rat.zpow_neg, Rat.zpow_natCast, inv_pow]

theorem mathPow_exact (ops : F64Ops F) (base exp : Num F) (hb : ExactC base) (he : ExactC exp)
    (hi : isExactInt exp = true) :
    (val base = 0 ∧ intVal exp < 0 ∧ mathPow ops base exp = .exc "div0") ∨
    (¬ (val base = 0 ∧ intVal exp < 0) ∧ Gives (mathPow ops base exp) (val base ^ intVal exp)) := by
  have hre : rankOf exp ≤ 1 := by cases exp <;> simp [isExactInt, rankOf, getNumType, NumType.rank] at *
  have hz := isExactZero_iff base hb
  unfold mathPow
  simp only [hb.1, hi, Bool.and_self, if_true, promoteToBigInt_eq exp hre]
  generalize hE : intVal exp = e
  by_cases c0 : isExactZero base = true ∧ e < 0
  · left
    refine ⟨hz.1 c0.1, c0.2, ?_⟩
    simp [c0.1, c0.2]
  · right
    have c0' : ¬ (val base = 0 ∧ e < 0) := fun h => c0 ⟨hz.2 h.1, h.2⟩
    refine ⟨c0', ?_⟩
    have : (isExactZero base && decide (e < 0)) = false := by
      cases hh : isExactZero base <;> simp_all
    simp only [this, Bool.false_eq_true, if_false]
    -- the `switch exp` on small machine ints
    have hsmall : ∀ k, smallExp exp = some k → e = k := by
      intro k hk; cases exp <;> simp [smallExp] at hk; subst hk; exact hE.symm
    by_cases s0 : smallExp exp = some 0
    · simp only [s0, if_true]
      refine ⟨.int 1, rfl, ⟨rfl, fun k hk => by cases hk; simp [fitsInt, minInt, maxInt]⟩, ?_⟩
      rw [hsmall 0 s0]; simp
    · simp only [s0, if_false]
      by_cases s1 : smallExp exp = some 1
      · simp only [s1, if_true]
        refine ⟨base, rfl, goodOut_of_exactC base hb, ?_⟩
        rw [hsmall 1 s1]; simp
      · simp only [s1, if_false]
        by_cases s2 : smallExp exp = some (-1)
        · simp only [s2, if_true]
          have hem := hsmall (-1) s2
          have hb0 : val base ≠ 0 := fun h => c0' ⟨h, by omega⟩
          rw [promoteToBigRat_eq base hb.1]
          simp only [ratInv, hb0, if_false, resMap_ok]
          refine ⟨_, rfl, goodOut_rat _, ?_⟩
          rw [hem, val_rat, Rat.zpow_neg]; simp
        · simp only [s2, if_false]
          by_cases c1 : isExactInt base = true ∧ 0 < e
          · have hrb : rankOf base ≤ 1 := by
              cases base <;> simp [isExactInt, rankOf, getNumType, NumType.rank] at *
            simp only [c1.1, c1.2, decide_true, Bool.and_self, if_true, promoteToBigInt_eq base hrb]
            refine ⟨_, rfl, goodOut_big _, ?_⟩
            rw [val_big, bigExp_eq, Rat.intCast_pow, intVal_cast base hrb, zpow_of_nonneg _ _ (by omega)]
          · have : (isExactInt base && decide (0 < e)) = false := by
              cases hh : isExactInt base <;> simp_all
            simp only [this, Bool.false_eq_true, if_false, promoteToBigRat_eq base hb.1]
            by_cases c2 : e < 0
            · have hb0 : val base ≠ 0 := fun h => c0' ⟨h, c2⟩
              simp only [c2, if_true, ratInv, hb0, if_false, resMap_ok, bigExp_eq, den_pow_ne_zero]
              refine ⟨_, rfl, goodOut_rat _, ?_⟩
              rw [val_rat, divInt_pow, zpow_of_neg _ _ c2]
            · simp only [c2, if_false, bigExp_eq, den_pow_ne_zero]
              refine ⟨_, rfl, goodOut_rat _, ?_⟩
              rw [val_rat, divInt_pow, zpow_of_nonneg _ _ (by omega)]

end C11
