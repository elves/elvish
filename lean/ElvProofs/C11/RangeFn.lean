/-
C11: `rangeFn` on exact arguments meets the documented progression.
-/
import ElvProofs.C11.Range
namespace C11
open Go
variable {F : Type}

theorem RangeSpecT.int_between {x y : Int} {z? : Option Int} {r : Res (List Int)}
    (h : RangeSpecT 0 1 (-1) x y z? r) {L : List Int} (hr : r = .ok L) :
    ∀ n ∈ L, (x ≤ n ∧ n < y) ∨ (n ≤ x ∧ y < n) := by
  obtain ⟨hu, hd⟩ := h
  subst hr
  intro n hn
  by_cases c : x ≤ y
  · left
    have hu := hu c
    cases z? with
    | none =>
      obtain ⟨L', e, hP⟩ := hu
      cases e
      exact hP.up_bounds (by decide) n hn
    | some z =>
      by_cases c2 : z ≤ 0
      · cases hu.1 c2
      · obtain ⟨L', e, hP⟩ := hu.2 c2
        cases e
        exact hP.up_bounds (by omega) n hn
  · right
    have hd := hd c
    cases z? with
    | none =>
      obtain ⟨L', e, hP⟩ := hd
      cases e
      exact hP.down_bounds (by decide) n hn
    | some z =>
      by_cases c2 : 0 ≤ z
      · cases hd.1 c2
      · obtain ⟨L', e, hP⟩ := hd.2 c2
        cases e
        exact hP.down_bounds (by omega) n hn

theorem fitsInt_between (x y n : Int) (hx : fitsInt x = true) (hy : fitsInt y = true)
    (h : (x ≤ n ∧ n < y) ∨ (n ≤ x ∧ y < n)) : fitsInt n = true := by
  rw [fitsInt_iff] at *; omega

theorem map_toList_option {α β} (f : α → β) (o : Option α) : o.toList.map f = (o.map f).toList := by
  cases o <;> rfl

theorem resMap_val_map {α} (g : α → Num F) (c : α → Rat) (hg : ∀ a, val (g a) = c a) (r : Res (List α)) :
    resMap (List.map val) (resMap (·.map g) r) = resMap (List.map c) r := by
  cases r with
  | ok L => simp only [resMap_ok, List.map_map]; congr 1; exact List.map_congr_left (fun a _ => hg a)
  | exc _ => rfl
  | panic _ => rfl

theorem resMap_map_ok {α β} {g : α → β} {r : Res (List α)} {outs : List β}
    (h : resMap (·.map g) r = .ok outs) : ∃ L, r = .ok L ∧ outs = L.map g := by
  cases r with
  | ok L => exact ⟨L, rfl, by simpa using h.symm⟩
  | exc _ => simp at h
  | panic _ => simp at h

/-- The part of `rangeFn` after the argument list is assembled. -/
def rangeCore (ops : F64Ops F) (raw : List (Num F)) : Res (List (Num F)) :=
  match unifyNums ops raw .int with
  | .ok (.ints l) => resMap (·.map fun n => fromGo (.int n)) (rangeBuiltinInt l)
  | .ok (.bigs l) => resMap (·.map fun n => fromGo (.big n)) (rangeBigNum 0 1 (-1) fuelInt l)
  | .ok (.rats l) => resMap (·.map fun q => fromGo (.rat q)) (rangeBigNum 0 1 (-1) fuelRat l)
  | .ok (.flts _) => .exc "unmodelled-range-float"
  | .exc e => .exc e
  | .panic w => .panic w

theorem rangeFn_eq (ops : F64Ops F) (s e : Num F) (st : Option (Num F)) :
    rangeFn ops [s, e] st = rangeCore ops (s :: e :: st.toList) := by
  cases st <;> rfl

/-- Two-argument form; `range $e` is `range 0 $e` by definition of `rangeFn`. -/
theorem rangeFn_exact (ops : F64Ops F) (s e : Num F) (st : Option (Num F)) (hs : ExactC s)
    (he : ExactC e) (hst : ∀ z, st = some z → ExactC z) :
    RangeSpecT (0 : Rat) 1 (-1) (val s) (val e) (st.map val)
      (resMap (List.map val) (rangeFn ops [s, e] st)) ∧
    ∀ outs, rangeFn ops [s, e] st = .ok outs → ∀ v ∈ outs, ExactC v := by
  have hc : ∀ a ∈ s :: e :: st.toList, ExactC a := by
    intro a ha
    simp only [List.mem_cons, Option.mem_toList] at ha
    rcases ha with rfl | rfl | ha
    · exact hs
    · exact he
    · exact hst a ha
  obtain ⟨hu, _, _⟩ := unifyNums_exact ops (s :: e :: st.toList) .int (fun a ha => (hc a ha).1)
    (by simp [NumType.rank])
  -- integer arguments: their values are the casts of `intVal`
  have castArgs : (∀ b ∈ s :: e :: st.toList, rankOf b ≤ 1) →
      val s = (intVal s : Rat) ∧ val e = (intVal e : Rat) ∧
      st.map val = (st.map intVal).map (fun k : Int => (k : Rat)) := by
    intro h1
    refine ⟨(intVal_cast s (h1 s (by simp))).symm, (intVal_cast e (h1 e (by simp))).symm, ?_⟩
    cases st with
    | none => rfl
    | some w => simp [intVal_cast w (h1 w (by simp))]
  rw [rangeFn_eq]
  unfold rangeCore
  generalize hg : unifyNums ops (s :: e :: st.toList) .int = u at hu
  cases hu with
  | ints h0 =>
    have fits : ∀ b ∈ s :: e :: st.toList, fitsInt (intVal b) = true := by
      intro b hb
      have hb0 := h0 b hb
      have hcb := (hc b hb).2
      cases b <;> simp [rankOf, getNumType, NumType.rank] at hb0
      exact hcb
    obtain ⟨es, ee, est⟩ := castArgs (fun b hb => by have := h0 b hb; omega)
    simp only [List.map_cons, map_toList_option]
    have hspec := rangeBuiltinInt_spec (intVal s) (intVal e) (st.map intVal)
      (fits s (by simp)) (fits e (by simp)) (by
        intro z hz
        cases st with
        | none => simp at hz
        | some w => simp at hz; subst hz; exact fits w (by simp))
    constructor
    · rw [resMap_val_map _ (fun k : Int => (k : Rat)) (fun _ => rfl), es, ee, est]
      exact hspec.cast
    · intro outs ho v hv
      obtain ⟨L, hr, rfl⟩ := resMap_map_ok ho
      obtain ⟨n, hn, rfl⟩ := List.mem_map.1 hv
      exact ⟨rfl, fitsInt_between _ _ n (fits s (by simp)) (fits e (by simp)) (hspec.int_between hr n hn)⟩
  | bigs h1 =>
    obtain ⟨es, ee, est⟩ := castArgs h1
    simp only [List.map_cons, map_toList_option]
    constructor
    · rw [resMap_val_map _ (fun k : Int => (k : Rat)) (fun n => (fromGo_big n).2), es, ee, est]
      exact (rangeBigNum_int (intVal s) (intVal e) (st.map intVal)).cast
    · intro outs ho v hv
      obtain ⟨L, _, rfl⟩ := resMap_map_ok ho
      obtain ⟨n, _, rfl⟩ := List.mem_map.1 hv
      exact (fromGo_big n).1
  | rats =>
    simp only [List.map_cons, map_toList_option]
    constructor
    · rw [resMap_val_map _ (fun q : Rat => q) (fun q => (fromGo_rat q).2)]
      have hid : ∀ r : Res (List Rat), resMap (List.map fun q : Rat => q) r = r := by
        intro r; cases r <;> simp
      rw [hid]
      exact rangeBigNum_rat (val s) (val e) (st.map val)
    · intro outs ho v hv
      obtain ⟨L, _, rfl⟩ := resMap_map_ok ho
      obtain ⟨q, _, rfl⟩ := List.mem_map.1 hv
      exact (fromGo_rat q).1

end C11
