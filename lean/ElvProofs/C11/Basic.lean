/-
Canonical form of exact numbers, and what `UnifyNums` returns on exact arguments.
-/
import ElvModel.C11.Model
namespace C11
open Go

variable {F : Type}

/-- `0` for a float: only used under `isExact`. -/
def val : Num F → Rat
  | .int n => (n : Rat)
  | .big n => (n : Rat)
  | .rat q => q
  | .flt _ => 0

@[simp] theorem val_int (n : Int) : val (.int n : Num F) = (n : Rat) := rfl
@[simp] theorem val_big (n : Int) : val (.big n : Num F) = (n : Rat) := rfl
@[simp] theorem val_rat (q : Rat) : val (.rat q : Num F) = q := rfl

/-- Both the invariant of every number a user can construct and the obligation on every output. -/
def Canonical : Num F → Prop
  | .int n => fitsInt n = true
  | .big n => fitsInt n = false
  | .rat q => q.den ≠ 1
  | .flt _ => True

def ExactC (n : Num F) : Prop := isExact n = true ∧ Canonical n

theorem fitsInt_iff (z : Int) : fitsInt z = true ↔ minInt ≤ z ∧ z ≤ maxInt := by
  simp [fitsInt]

theorem normalizeBigInt_spec (z : Int) :
    ExactC (normalizeBigInt z : Num F) ∧ val (normalizeBigInt z : Num F) = (z : Rat) := by
  unfold normalizeBigInt
  by_cases h : fitsInt z = true
  · simp [h, ExactC, isExact, Canonical, val]
  · simp [h, ExactC, isExact, Canonical, val]

theorem normalizeBigRat_spec (q : Rat) :
    ExactC (normalizeBigRat q : Num F) ∧ val (normalizeBigRat q : Num F) = q := by
  unfold normalizeBigRat
  by_cases h : q.den = 1
  · simp only [h, if_true]
    refine ⟨(normalizeBigInt_spec q.num).1, ?_⟩
    rw [(normalizeBigInt_spec q.num).2]
    apply Rat.ext <;> simp [h]
  · simp [h, ExactC, isExact, Canonical, val]

/-- `hint`: Go's type guarantees that a machine-int result is in range; each use discharges it. -/
theorem fromGo_spec (n : Num F) (hx : isExact n = true)
    (hint : ∀ k, n = .int k → fitsInt k = true) :
    ExactC (fromGo n) ∧ val (fromGo n) = val n := by
  cases n with
  | int k => exact ⟨⟨rfl, hint k rfl⟩, rfl⟩
  | big z => exact normalizeBigInt_spec z
  | rat q => exact normalizeBigRat_spec q
  | flt f => simp [isExact] at hx

/-- What is shown of a value a builtin hands to `FromGo` (the hypotheses of `fromGo_spec`). -/
def GoodOut (v : Num F) : Prop := isExact v = true ∧ ∀ k, v = .int k → fitsInt k = true

theorem goodOut_big (z : Int) : GoodOut (.big z : Num F) := ⟨rfl, fun _ h => nomatch h⟩
theorem goodOut_rat (q : Rat) : GoodOut (.rat q : Num F) := ⟨rfl, fun _ h => nomatch h⟩
theorem goodOut_zero : GoodOut (.int 0 : Num F) := ⟨rfl, fun k h => by cases h; decide⟩
theorem goodOut_of_exactC (v : Num F) (h : ExactC v) : GoodOut v := by
  refine ⟨h.1, ?_⟩
  intro k hk; subst hk; exact h.2

theorem fromGo_good (v : Num F) (h : GoodOut v) : ExactC (fromGo v) ∧ val (fromGo v) = val v :=
  fromGo_spec v h.1 h.2

/-- The one form in which the builtins' results are stated: `r` is `ok v` with `v` fit for
`FromGo` and of value `x`. -/
def Gives (r : Res (Num F)) (x : Rat) : Prop := ∃ v, r = .ok v ∧ GoodOut v ∧ val v = x

/-- What `outs` (`FromGo` at the command boundary) makes of it. -/
theorem Gives.outs {r : Res (Num F)} {x : Rat} (h : Gives r x) :
    ∃ v, outs r = .ok [v] ∧ ExactC v ∧ val v = x := by
  obtain ⟨v, rfl, hg, hv⟩ := h
  obtain ⟨hc, hf⟩ := fromGo_good v hg
  exact ⟨fromGo v, rfl, hc, hf.trans hv⟩

theorem one1_gives (f : Num F → Num F) (a : Num F) {x : Rat} (hg : GoodOut (f a)) (hv : val (f a) = x) :
    ∃ v, one1 f [a] = .ok [v] ∧ ExactC v ∧ val v = x :=
  Gives.outs (r := .ok (f a)) ⟨_, rfl, hg, hv⟩

theorem fromGo_big (z : Int) :
    ExactC (fromGo (.big z : Num F)) ∧ val (fromGo (.big z : Num F)) = (z : Rat) :=
  normalizeBigInt_spec z

theorem fromGo_rat (q : Rat) :
    ExactC (fromGo (.rat q : Num F)) ∧ val (fromGo (.rat q : Num F)) = q :=
  normalizeBigRat_spec q

theorem fromGo_of_canonical (n : Num F) (h : Canonical n) : fromGo n = n := by
  cases n with
  | int k => rfl
  | big z => simp [Canonical] at h; simp [fromGo, normalizeBigInt, h]
  | rat q => simp [Canonical] at h; simp [fromGo, normalizeBigRat, h]
  | flt f => rfl

/-- `isExactZero` is what the Go code tests with `num == 0`. -/
theorem isExactZero_iff (n : Num F) (h : ExactC n) : isExactZero n = true ↔ val n = 0 := by
  obtain ⟨hx, hc⟩ := h
  cases n with
  | int k => simp [isExactZero, val]
  | big z =>
    simp only [isExactZero, val, Canonical] at *
    constructor
    · intro h; cases h
    · intro h
      have : z = 0 := by simpa using h
      subst this
      simp [fitsInt, minInt, maxInt] at hc
  | rat q =>
    simp only [isExactZero, val, Canonical] at *
    constructor
    · intro h; cases h
    · intro h; subst h; simp at hc
  | flt f => simp [isExact] at hx

@[simp] theorem resMap_ok {α β} (f : α → β) (a : α) : resMap f (.ok a) = .ok (f a) := rfl
@[simp] theorem resMap_exc {α β} (f : α → β) (e : String) : resMap f (.exc e : Res α) = .exc e := rfl
@[simp] theorem resMap_panic {α β} (f : α → β) (e : String) : resMap f (.panic e : Res α) = .panic e := rfl

theorem isPanic_resMap {α β} (f : α → β) (r : Res α) : (resMap f r).isPanic = r.isPanic := by
  cases r <;> rfl

theorem mapRes_ok {α β} (f : α → Res β) (g : α → β) (l : List α) (h : ∀ a ∈ l, f a = .ok (g a)) :
    mapRes f l = .ok (l.map g) := by
  induction l with
  | nil => rfl
  | cons a l ih =>
    simp only [mapRes, h a (List.mem_cons_self ..)]
    rw [ih (fun b hb => h b (List.mem_cons_of_mem _ hb))]
    rfl

def rankOf (n : Num F) : Nat := (getNumType n).rank

theorem rank_inj {a b : NumType} (h : a.rank = b.rank) : a = b := by
  cases a <;> cases b <;> simp [NumType.rank] at h <;> rfl

theorem rank_maxType (t u : NumType) : (maxType t u).rank = max t.rank u.rank := by
  unfold maxType
  split <;> omega

theorem rank_unifyType (l : List (Num F)) (t : NumType) :
    (unifyType l t).rank = l.foldl (fun r n => max r (rankOf n)) t.rank := by
  unfold unifyType
  induction l generalizing t with
  | nil => rfl
  | cons a l ih => simp only [List.foldl_cons]; rw [ih, rank_maxType]; rfl

theorem foldl_max_ge (l : List (Num F)) (r : Nat) :
    r ≤ l.foldl (fun r n => max r (rankOf n)) r ∧
    ∀ a ∈ l, rankOf a ≤ l.foldl (fun r n => max r (rankOf n)) r := by
  induction l generalizing r with
  | nil => simp
  | cons a l ih =>
    simp only [List.foldl_cons, List.mem_cons]
    have := ih (max r (rankOf a))
    refine ⟨by omega, ?_⟩
    intro b hb
    rcases hb with rfl | hb
    · omega
    · exact this.2 b hb

theorem foldl_max_le (l : List (Num F)) (r R : Nat) (hr : r ≤ R) (h : ∀ a ∈ l, rankOf a ≤ R) :
    l.foldl (fun r n => max r (rankOf n)) r ≤ R := by
  induction l generalizing r with
  | nil => simpa
  | cons a l ih =>
    simp only [List.foldl_cons]
    apply ih
    · have := h a (List.mem_cons_self ..); omega
    · intro b hb; exact h b (List.mem_cons_of_mem _ hb)

theorem rankOf_exact (n : Num F) (h : isExact n = true) : rankOf n ≤ 2 := by
  cases n <;> simp [rankOf, getNumType, NumType.rank, isExact] at *

theorem promoteToBigInt_ok (n : Num F) (h : rankOf n ≤ 1) :
    ∃ z : Int, promoteToBigInt n = .ok z ∧ (z : Rat) = val n := by
  cases n with
  | int k => exact ⟨k, rfl, rfl⟩
  | big k => exact ⟨k, rfl, rfl⟩
  | rat q => simp [rankOf, getNumType, NumType.rank] at h
  | flt f => simp [rankOf, getNumType, NumType.rank] at h

def intVal : Num F → Int
  | .int n => n
  | .big n => n
  | _ => 0

theorem promoteToBigInt_eq (n : Num F) (h : rankOf n ≤ 1) : promoteToBigInt n = .ok (intVal n) := by
  cases n with
  | int k => rfl
  | big k => rfl
  | rat q => simp [rankOf, getNumType, NumType.rank] at h
  | flt f => simp [rankOf, getNumType, NumType.rank] at h

theorem intVal_cast (n : Num F) (h : rankOf n ≤ 1) : ((intVal n : Int) : Rat) = val n := by
  cases n with
  | int k => rfl
  | big k => rfl
  | rat q => simp [rankOf, getNumType, NumType.rank] at h
  | flt f => simp [rankOf, getNumType, NumType.rank] at h

theorem promoteToBigRat_eq (n : Num F) (h : isExact n = true) : promoteToBigRat n = .ok (val n) := by
  cases n with
  | int k => rfl
  | big k => rfl
  | rat q => rfl
  | flt f => simp [isExact] at h

theorem asInt_eq (n : Num F) (h : rankOf n = 0) : asInt n = .ok (intVal n) := by
  cases n <;> simp [rankOf, getNumType, NumType.rank] at h <;> rfl

inductive UnifyExact (raw : List (Num F)) : Res (NumSlice F) → Prop where
  | ints : (∀ a ∈ raw, rankOf a = 0) → UnifyExact raw (.ok (.ints (raw.map intVal)))
  | bigs : (∀ a ∈ raw, rankOf a ≤ 1) → UnifyExact raw (.ok (.bigs (raw.map intVal)))
  | rats : UnifyExact raw (.ok (.rats (raw.map val)))

theorem unifyNums_exact (ops : F64Ops F) (raw : List (Num F)) (typ : NumType)
    (hx : ∀ a ∈ raw, isExact a = true) (ht : typ.rank ≤ 2) :
    UnifyExact raw (unifyNums ops raw typ) ∧
    (∀ l, unifyNums ops raw typ = .ok (.ints l) → typ.rank = 0) ∧
    (∀ l, unifyNums ops raw typ = .ok (.bigs l) → typ.rank ≤ 1) := by
  unfold unifyNums
  have hr := rank_unifyType raw typ
  have hge := foldl_max_ge raw typ.rank
  have hle := foldl_max_le raw typ.rank 2 ht (fun a ha => rankOf_exact a (hx a ha))
  rw [← hr] at hge hle
  generalize unifyType raw typ = u at *
  cases u with
  | int =>
    have h0 : ∀ a ∈ raw, rankOf a = 0 := fun a ha => by
      have := hge.2 a ha; simp [NumType.rank] at this; exact this
    rw [mapRes_ok asInt intVal raw (fun a ha => asInt_eq a (h0 a ha))]
    refine ⟨.ints h0, ?_, ?_⟩
    · intro l _; have := hge.1; simp [NumType.rank] at this; exact this
    · intro l h; simp at h
  | bigInt =>
    have h1 : ∀ a ∈ raw, rankOf a ≤ 1 := fun a ha => by
      have := hge.2 a ha; simpa [NumType.rank] using this
    rw [mapRes_ok promoteToBigInt intVal raw (fun a ha => promoteToBigInt_eq a (h1 a ha))]
    refine ⟨.bigs h1, ?_, ?_⟩
    · intro l h; simp at h
    · intro l _; have := hge.1; simpa [NumType.rank] using this
  | bigRat =>
    rw [mapRes_ok promoteToBigRat val raw (fun a ha => promoteToBigRat_eq a (hx a ha))]
    refine ⟨.rats, ?_, ?_⟩ <;> intro l h <;> simp at h
  | float64 => simp [NumType.rank] at hle

theorem cast_foldl (f : Int → Int → Int) (g : Rat → Rat → Rat)
    (h : ∀ a b : Int, ((f a b : Int) : Rat) = g a b) (l : List Int) (z : Int) :
    ((l.foldl f z : Int) : Rat) = (l.map (fun k : Int => (k : Rat))).foldl g (z : Rat) := by
  induction l generalizing z with
  | nil => rfl
  | cons a l ih => simp only [List.foldl_cons, List.map_cons]; rw [ih, h]

theorem map_intVal_cast (raw : List (Num F)) (h : ∀ a ∈ raw, rankOf a ≤ 1) :
    (raw.map intVal).map (fun k : Int => (k : Rat)) = raw.map val := by
  rw [List.map_map]
  apply List.map_congr_left
  intro a ha
  exact intVal_cast a (h a ha)

end C11
