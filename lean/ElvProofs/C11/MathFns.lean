/-
`math:abs`, the integerizers (floor, ceil, trunc, round, round-to-even) against
their rational specifications, and `math:max` / `math:min` as one fold.
-/
import ElvProofs.C11.Basic
namespace C11
open Go
variable {F : Type}

theorem mathAbs_exact (ops : F64Ops F) (a : Num F) (ha : ExactC a) :
    GoodOut (mathAbs ops a) ∧
    val (mathAbs ops a) = if val a < 0 then -val a else val a := by
  cases a with
  | int n =>
    have hn : fitsInt n = true := ha.2
    rw [fitsInt_iff] at hn
    simp only [mathAbs, val_int, Rat.intCast_neg_iff]
    by_cases h : n < 0
    · simp only [h, if_true]
      by_cases h2 : n = minInt
      · subst h2
        simp only [if_true]
        exact ⟨goodOut_big _, by simp [minInt]⟩
      · simp only [h2, if_false]
        refine ⟨⟨rfl, ?_⟩, Rat.intCast_neg _⟩
        intro k hk; cases hk
        rw [fitsInt_iff]; simp only [minInt, maxInt] at *; omega
    · simp only [h, if_false]
      exact ⟨⟨rfl, fun k hk => by cases hk; exact ha.2⟩, rfl⟩
  | big n =>
    simp only [mathAbs, val_big, Rat.intCast_neg_iff]
    by_cases h : n < 0
    · simp only [h, if_true]
      refine ⟨goodOut_big _, ?_⟩
      have : (n.natAbs : Int) = -n := by omega
      rw [val_big, this]; exact Rat.intCast_neg _
    · simp only [h, if_false]; exact ⟨goodOut_big _, rfl⟩
  | rat q =>
    simp only [mathAbs, val_rat]
    by_cases h : q < 0
    · simp only [h, if_true]; exact ⟨goodOut_rat _, rfl⟩
    · simp only [h, if_false]; exact ⟨goodOut_rat _, rfl⟩
  | flt f => exact absurd ha.1 (by simp [isExact])

theorem not_den_dvd_num (q : Rat) (hd : q.den ≠ 1) : ¬ (q.den : Int) ∣ q.num := by
  intro h
  have h1 : q.den ∣ q.num.natAbs := by
    have := Int.dvd_natAbs.2 h
    exact Int.natCast_dvd_natCast.1 this
  have h2 : q.den ∣ Nat.gcd q.num.natAbs q.den := Nat.dvd_gcd h1 (Nat.dvd_refl _)
  rw [q.reduced] at h2
  exact hd (Nat.dvd_one.1 h2)

def truncSpec (q : Rat) : Int := if 0 ≤ q then q.floor else q.ceil

theorem floorRat_eq (q : Rat) : floorRat q = q.floor := (Rat.floor_def q).symm

theorem ceilRat_eq (q : Rat) (hd : q.den ≠ 1) : ceilRat q = q.ceil := by
  simp [ceilRat, Rat.ceil, hd]; rfl

theorem den_pos' (q : Rat) : (0 : Int) < q.den := by
  have := q.den_pos; omega

theorem truncRat_eq (q : Rat) (hd : q.den ≠ 1) : truncRat q = truncSpec q := by
  unfold truncRat truncSpec
  rw [Int.tdiv_eq_ediv]
  have hnd := not_den_dvd_num q hd
  have hs : (q.den : Int).sign = 1 := Int.sign_eq_one_of_pos (den_pos' q)
  by_cases h : 0 ≤ q
  · have h' : 0 ≤ q.num := Rat.num_nonneg.2 h
    simp [h, h', Rat.floor_def]
  · have h' : ¬ 0 ≤ q.num := fun hh => h (Rat.num_nonneg.1 hh)
    simp only [h, h', hnd, or_self, if_false, hs, Rat.ceil, hd]

theorem truncSpec_int (n : Int) : truncSpec (n : Rat) = n := by
  simp [truncSpec, Rat.floor_intCast, Rat.ceil_intCast]

/-- `|q - n| ≤ 1/2`, stated on numerators. -/
def Nearest (q : Rat) (n : Int) : Prop := 2 * (q.num - n * q.den).natAbs ≤ q.den
def Tie (q : Rat) (n : Int) : Prop := 2 * (q.num - n * q.den).natAbs = q.den

def TruncDiv (a : Int) (D : Nat) (t m : Int) : Prop :=
  t * D + m = a ∧ -D < m ∧ m < D ∧ (0 ≤ a → 0 ≤ m) ∧ (a < 0 → m ≤ 0)

theorem truncDiv (q : Rat) : TruncDiv q.num q.den (q.num.tdiv q.den) (q.num.tmod q.den) := by
  have hd := den_pos' q
  refine ⟨by rw [Int.mul_comm]; exact Int.mul_tdiv_add_tmod _ _, Int.lt_tmod_of_pos _ hd,
    Int.tmod_lt_of_pos _ hd, Int.tmod_nonneg _, ?_⟩
  intro ha
  have h1 : 0 ≤ (-q.num).tmod q.den := Int.tmod_nonneg _ (by omega)
  rw [Int.neg_tmod] at h1
  omega

/-- The truncated quotient `t`, or its neighbour away from zero once the remainder `m` has reached
half of `D`, is a nearest integer to `a/D`; it is half way only if `2|m| = D`. -/
theorem nearest_candidate {a t m n : Int} {D : Nat} (h : TruncDiv a D t m)
    (hn : (n = t ∧ (m * 2).natAbs ≤ D) ∨ (n = t - 1 ∧ a < 0 ∧ D ≤ (m * 2).natAbs) ∨
      (n = t + 1 ∧ 0 ≤ a ∧ D ≤ (m * 2).natAbs)) :
    2 * (a - n * D).natAbs ≤ D ∧ (2 * (a - n * D).natAbs = D → (m * 2).natAbs = D) := by
  obtain ⟨h1, h2, h3, h4, h5⟩ := h
  rcases hn with ⟨rfl, h⟩ | ⟨rfl, ha, h⟩ | ⟨rfl, ha, h⟩
  · omega
  · rw [Int.sub_mul, Int.one_mul]; omega
  · rw [Int.add_mul, Int.one_mul]; omega

theorem away_from_zero {a t m : Int} {D : Nat} (h : TruncDiv a D t m) :
    (a < 0 → a.natAbs < ((t - 1) * D).natAbs) ∧ (0 ≤ a → a.natAbs < ((t + 1) * D).natAbs) := by
  obtain ⟨h1, h2, h3, _, _⟩ := h
  rw [Int.sub_mul, Int.add_mul, Int.one_mul]; omega

theorem roundRat_spec (q : Rat) :
    Nearest q (roundRat q) ∧ (Tie q (roundRat q) → (q.num.natAbs < (roundRat q * q.den).natAbs)) := by
  have hd := truncDiv q
  obtain ⟨aw1, aw2⟩ := away_from_zero hd
  unfold Nearest Tie roundRat
  simp only []
  split
  · next c =>
    obtain ⟨n1, n2⟩ := nearest_candidate hd (.inl ⟨rfl, Nat.le_of_lt c⟩)
    exact ⟨n1, fun tie => absurd (n2 tie) (Nat.ne_of_lt c)⟩
  · next c =>
    split
    · next ha => exact ⟨(nearest_candidate hd (.inr (.inl ⟨rfl, ha, Nat.le_of_not_lt c⟩))).1, fun _ => aw1 ha⟩
    · next ha =>
      have ha := Int.not_lt.1 ha
      exact ⟨(nearest_candidate hd (.inr (.inr ⟨rfl, ha, Nat.le_of_not_lt c⟩))).1, fun _ => aw2 ha⟩

theorem even_neighbours (t : Int) (h : t % 2 ≠ 0) : (t - 1) % 2 = 0 ∧ (t + 1) % 2 = 0 := by omega

theorem roundEvenRat_spec (q : Rat) :
    Nearest q (roundEvenRat q) ∧ (Tie q (roundEvenRat q) → roundEvenRat q % 2 = 0) := by
  have hd := truncDiv q
  unfold Nearest Tie roundEvenRat
  simp only [Bool.or_eq_true, Bool.and_eq_true, decide_eq_true_eq, beq_iff_eq]
  split
  · next c =>
    obtain ⟨n1, n2⟩ := nearest_candidate hd (.inl ⟨rfl, c.elim Nat.le_of_lt (fun h => Nat.le_of_eq h.1)⟩)
    exact ⟨n1, fun tie => c.elim (fun lt => absurd (n2 tie) (Nat.ne_of_lt lt)) (·.2)⟩
  · next c =>
    -- past the half-way point, or at it with an odd quotient
    have hge : q.den ≤ (q.num.tmod q.den * 2).natAbs := Nat.le_of_not_lt (fun h => c (.inl h))
    have odd : (q.num.tmod q.den * 2).natAbs = q.den → q.num.tdiv q.den % 2 ≠ 0 :=
      fun h1 h2 => c (.inr ⟨h1, h2⟩)
    split
    · next ha =>
      obtain ⟨n1, n2⟩ := nearest_candidate hd (.inr (.inl ⟨rfl, ha, hge⟩))
      exact ⟨n1, fun tie => (even_neighbours _ (odd (n2 tie))).1⟩
    · next ha =>
      obtain ⟨n1, n2⟩ := nearest_candidate hd (.inr (.inr ⟨rfl, Int.not_lt.1 ha, hge⟩))
      exact ⟨n1, fun tie => (even_neighbours _ (odd (n2 tie))).2⟩

theorem integerize_exact_rel (a : Num F) (ha : ExactC a) (fnFloat : F → F) (fnRat : Rat → Int)
    (P : Rat → Int → Prop) (hint : ∀ n : Int, P (n : Rat) n)
    (hrat : ∀ q : Rat, q.den ≠ 1 → P q (fnRat q)) :
    GoodOut (integerize a fnFloat fnRat) ∧
    ∃ n : Int, val (integerize a fnFloat fnRat) = (n : Rat) ∧ P (val a) n := by
  cases a with
  | int n => exact ⟨⟨rfl, fun k hk => by cases hk; exact ha.2⟩, n, rfl, hint n⟩
  | big n => exact ⟨goodOut_big _, n, rfl, hint n⟩
  | rat q =>
    have hd : q.den ≠ 1 := ha.2
    simp only [integerize, hd, if_false]
    exact ⟨goodOut_big _, _, rfl, hrat q hd⟩
  | flt f => exact absurd ha.1 (by simp [isExact])

/-- The functional form: `P q n := n = spec q`. -/
theorem integerize_exact (a : Num F) (ha : ExactC a) (fnFloat : F → F) (fnRat : Rat → Int)
    (spec : Rat → Int) (hint : ∀ n : Int, spec (n : Rat) = n)
    (hrat : ∀ q : Rat, q.den ≠ 1 → fnRat q = spec q) :
    GoodOut (integerize a fnFloat fnRat) ∧ val (integerize a fnFloat fnRat) = ((spec (val a) : Int) : Rat) := by
  obtain ⟨hg, n, hv, hp⟩ := integerize_exact_rel a ha fnFloat fnRat (fun q n => n = spec q)
    (fun n => (hint n).symm) hrat
  exact ⟨hg, hp ▸ hv⟩

def RoundHalfAway (q : Rat) (n : Int) : Prop :=
  Nearest q n ∧ (Tie q n → q.num.natAbs < (n * q.den).natAbs)

def RoundHalfEven (q : Rat) (n : Int) : Prop :=
  Nearest q n ∧ (Tie q n → n % 2 = 0)

theorem roundHalfAway_int (n : Int) : RoundHalfAway (n : Rat) n := by
  simp [RoundHalfAway, Nearest, Tie]

theorem roundHalfEven_int (n : Int) : RoundHalfEven (n : Rat) n := by
  simp [RoundHalfEven, Nearest, Tie]

theorem foldl_pick {α : Type} (pick : α → α → α) (R : α → α → Prop) (hrefl : ∀ a, R a a)
    (htrans : ∀ {a b c}, R a b → R b c → R a c) (hp : ∀ n a, pick n a = n ∨ pick n a = a)
    (hR : ∀ n a, R n (pick n a) ∧ R a (pick n a)) (l : List α) (n : α) :
    l.foldl pick n ∈ n :: l ∧ ∀ x ∈ n :: l, R x (l.foldl pick n) := by
  induction l generalizing n with
  | nil => exact ⟨List.mem_singleton.2 rfl, fun x hx => by rw [List.mem_singleton.1 hx]; exact hrefl n⟩
  | cons a l ih =>
    obtain ⟨h1, h2⟩ := ih (pick n a)
    rw [List.foldl_cons]
    constructor
    · rcases List.mem_cons.1 h1 with h | h
      · rw [h]; rcases hp n a with hp | hp <;> rw [hp] <;> simp
      · simp [h]
    · intro x hx
      have top := h2 (pick n a) (List.mem_cons_self ..)
      rcases List.mem_cons.1 hx with rfl | hx
      · exact htrans (hR x a).1 top
      · rcases List.mem_cons.1 hx with rfl | hx
        · exact htrans (hR n x).2 top
        · exact h2 x (List.mem_cons_of_mem _ hx)

/-- The common shape of `math:max` and `math:min`. -/
def pickFold (ops : F64Ops F) (pI : Int → Int → Int) (pR : Rat → Rat → Rat) (pF : F → F → F)
    (raw : List (Num F)) : Res (Num F) :=
  if raw.isEmpty then .exc "arity" else
  match unifyNums ops raw .int with
  | .ok (.ints (n :: rest)) => .ok (.int (rest.foldl pI n))
  | .ok (.bigs (n :: rest)) => .ok (.big (rest.foldl pI n))
  | .ok (.rats (n :: rest)) => .ok (.rat (rest.foldl pR n))
  | .ok (.flts (n :: rest)) => .ok (.flt (rest.foldl pF n))
  | .ok _ => .panic "index out of range"
  | .exc e => .exc e
  | .panic w => .panic w

theorem mathMax_eq (ops : F64Ops F) (raw : List (Num F)) :
    mathMax ops raw = pickFold ops pickMax pickMax ops.max raw := rfl

theorem mathMin_eq (ops : F64Ops F) (raw : List (Num F)) :
    mathMin ops raw = pickFold ops pickMin pickMin ops.min raw := rfl

theorem pickFold_exact (ops : F64Ops F) (pI : Int → Int → Int) (pR : Rat → Rat → Rat) (pF : F → F → F)
    (R : Rat → Rat → Prop) (hrefl : ∀ a, R a a) (htrans : ∀ {a b c}, R a b → R b c → R a c)
    (hpI : ∀ n a, pI n a = n ∨ pI n a = a)
    (hRI : ∀ n a : Int, R (n : Rat) (pI n a : Int) ∧ R (a : Rat) (pI n a : Int))
    (hpR : ∀ n a, pR n a = n ∨ pR n a = a) (hRR : ∀ n a, R n (pR n a) ∧ R a (pR n a))
    (raw : List (Num F)) (hc : ∀ a ∈ raw, ExactC a) (hne : raw ≠ []) :
    ∃ x, Gives (pickFold ops pI pR pF raw) x ∧ x ∈ raw.map val ∧ ∀ a ∈ raw, R (val a) x := by
  obtain ⟨hu, _, _⟩ := unifyNums_exact ops raw .int (fun a ha => (hc a ha).1) (by simp [NumType.rank])
  unfold pickFold
  have : raw.isEmpty = false := by cases raw <;> simp_all
  simp only [this]
  match raw, hne with
  | a :: as, _ =>
    -- the fold over the integer values, when all arguments are integers
    have ints : (∀ b ∈ a :: as, rankOf b ≤ 1) →
        (∃ b ∈ a :: as, intVal b = (as.map intVal).foldl pI (intVal a)) ∧
        (((as.map intVal).foldl pI (intVal a) : Int) : Rat) ∈ (a :: as).map val ∧
        ∀ c ∈ a :: as, R (val c) (((as.map intVal).foldl pI (intVal a) : Int) : Rat) := by
      intro h1
      obtain ⟨hm, hle⟩ := foldl_pick pI (fun x y : Int => R (x : Rat) (y : Rat)) (fun _ => hrefl _)
        htrans hpI hRI (as.map intVal) (intVal a)
      rw [← List.map_cons, List.mem_map] at hm
      obtain ⟨b, hb, hbe⟩ := hm
      refine ⟨⟨b, hb, hbe⟩, ?_, ?_⟩
      · rw [← hbe, intVal_cast b (h1 b hb)]; exact List.mem_map.2 ⟨b, hb, rfl⟩
      · intro c hcm
        rw [← intVal_cast c (h1 c hcm)]
        exact hle (intVal c) (by rw [← List.map_cons]; exact List.mem_map.2 ⟨c, hcm, rfl⟩)
    generalize hg : unifyNums ops (a :: as) .int = u at hu
    cases hu with
    | ints h0 =>
      obtain ⟨⟨b, hb, hbe⟩, hm, hle⟩ := ints (fun b hb => by have := h0 b hb; omega)
      refine ⟨_, ⟨_, rfl, ⟨rfl, ?_⟩, rfl⟩, hm, hle⟩
      -- the chosen machine int is one of the arguments, hence in range
      intro k hk
      cases hk
      have hb0 := h0 b hb
      have hcb := (hc b hb).2
      cases b <;> simp [rankOf, getNumType, NumType.rank] at hb0
      rw [← hbe]; exact hcb
    | bigs h1 =>
      obtain ⟨_, hm, hle⟩ := ints h1
      exact ⟨_, ⟨_, rfl, goodOut_big _, rfl⟩, hm, hle⟩
    | rats =>
      obtain ⟨hm, hle⟩ := foldl_pick pR R hrefl htrans hpR hRR (as.map val) (val a)
      exact ⟨_, ⟨_, rfl, goodOut_rat _, rfl⟩, hm,
        fun c hcm => hle (val c) (by rw [← List.map_cons]; exact List.mem_map.2 ⟨c, hcm, rfl⟩)⟩

theorem pickMax_arg {α} [LT α] [DecidableLT α] (n a : α) : pickMax n a = n ∨ pickMax n a = a := by
  unfold pickMax; split <;> simp

theorem pickMin_arg {α} [LT α] [DecidableLT α] (n a : α) : pickMin n a = n ∨ pickMin n a = a := by
  unfold pickMin; split <;> simp

theorem pickMax_rat (n a : Rat) : n ≤ pickMax n a ∧ a ≤ pickMax n a := by
  unfold pickMax; split
  · exact ⟨Rat.le_of_lt ‹_›, Rat.le_refl⟩
  · exact ⟨Rat.le_refl, Rat.not_lt.1 ‹_›⟩

theorem pickMin_rat (n a : Rat) : pickMin n a ≤ n ∧ pickMin n a ≤ a := by
  unfold pickMin; split
  · exact ⟨Rat.le_of_lt ‹_›, Rat.le_refl⟩
  · exact ⟨Rat.le_refl, Rat.not_lt.1 ‹_›⟩

theorem pickMax_int (n a : Int) : (n : Rat) ≤ (pickMax n a : Int) ∧ (a : Rat) ≤ (pickMax n a : Int) := by
  unfold pickMax; split <;> constructor <;> apply Rat.intCast_le_intCast.2 <;> omega

theorem pickMin_int (n a : Int) : ((pickMin n a : Int) : Rat) ≤ n ∧ ((pickMin n a : Int) : Rat) ≤ a := by
  unfold pickMin; split <;> constructor <;> apply Rat.intCast_le_intCast.2 <;> omega

theorem mathMax_exact (ops : F64Ops F) (raw : List (Num F)) (hc : ∀ a ∈ raw, ExactC a) (hne : raw ≠ []) :
    ∃ x, Gives (mathMax ops raw) x ∧ x ∈ raw.map val ∧ ∀ a ∈ raw, val a ≤ x :=
  pickFold_exact ops pickMax pickMax ops.max (· ≤ ·) (fun _ => Rat.le_refl) Rat.le_trans
    pickMax_arg pickMax_int pickMax_arg pickMax_rat raw hc hne

theorem mathMin_exact (ops : F64Ops F) (raw : List (Num F)) (hc : ∀ a ∈ raw, ExactC a) (hne : raw ≠ []) :
    ∃ x, Gives (mathMin ops raw) x ∧ x ∈ raw.map val ∧ ∀ a ∈ raw, x ≤ val a :=
  pickFold_exact ops pickMin pickMin ops.min (fun x y => y ≤ x) (fun _ => Rat.le_refl)
    (fun h1 h2 => Rat.le_trans h2 h1) pickMin_arg pickMin_int pickMin_arg pickMin_rat raw hc hne

end C11
