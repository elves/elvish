/-
`range`: the Go loops (machine ints with wrap guards, `big.Int`, `big.Rat`) output the
arithmetic progression `Prog`.
-/
import ElvProofs.C11.MathFns
namespace C11
open Go
variable {F : Type}

/-- The arithmetic progression `cur, cur+step, cur+2·step, …` for as long as
`cont` holds (`cont x` is `x < end` ascending, `end < x` descending): the
mathematical meaning of `range`. -/
inductive Prog {T : Type} [Add T] (cont : T → Prop) (step : T) : T → List T → Prop where
  | stop {cur : T} : ¬ cont cur → Prog cont step cur []
  | next {cur : T} {l : List T} : cont cur → Prog cont step (cur + step) l → Prog cont step cur (cur :: l)

theorem Prog.unique {T : Type} [Add T] {cont : T → Prop} {step cur : T} {l l' : List T}
    (h : Prog cont step cur l) (h' : Prog cont step cur l') : l = l' := by
  induction h generalizing l' with
  | stop hn => cases h' with
    | stop _ => rfl
    | next hc _ => exact absurd hc hn
  | next hc _ ih => cases h' with
    | stop hn => exact absurd hc hn
    | next _ hp => rw [ih hp]

theorem rangeBigUp_prog {T : Type} [Add T] [LT T] [DecidableLT T] (e s : T) (μ : T → Nat)
    (hμ : ∀ c, c < e → μ (c + s) < μ c) (fuel : Nat) (c : T) (hf : μ c < fuel) :
    ∃ L, rangeBigUp e s fuel c = .ok L ∧ Prog (· < e) s c L := by
  induction fuel generalizing c with
  | zero => omega
  | succ fuel ih =>
    unfold rangeBigUp
    by_cases hc : c < e
    · obtain ⟨L, hL, hP⟩ := ih (c + s) (by have := hμ c hc; omega)
      exact ⟨c :: L, by simp [hc, hL], .next hc hP⟩
    · exact ⟨[], by simp [hc], .stop hc⟩

/-- The descending loop is the ascending one for the reversed order. -/
theorem rangeBigDown_eq_up {T : Type} [Add T] [LT T] [DecidableLT T] (e s : T) (fuel : Nat) (c : T) :
    rangeBigDown e s fuel c =
      @rangeBigUp T _ ⟨fun a b => b < a⟩ (fun a b => inferInstanceAs (Decidable (b < a))) e s fuel c := by
  induction fuel generalizing c with
  | zero => rfl
  | succ fuel ih => simp only [rangeBigDown, rangeBigUp, ih]

theorem rangeBigDown_prog {T : Type} [Add T] [LT T] [DecidableLT T] (e s : T) (μ : T → Nat)
    (hμ : ∀ c, e < c → μ (c + s) < μ c) (fuel : Nat) (c : T) (hf : μ c < fuel) :
    ∃ L, rangeBigDown e s fuel c = .ok L ∧ Prog (e < ·) s c L := by
  rw [rangeBigDown_eq_up]
  exact @rangeBigUp_prog T _ ⟨fun a b => b < a⟩ _ e s μ hμ fuel c hf

/-- Measure for the rational loops (and the fuel the model supplies). -/
def μRat (e s c : Rat) : Nat := ((e - c) / s).ceil.toNat

theorem μRat_decr (e s c : Rat) (hs : s ≠ 0) (hpos : 0 < (e - c) / s) :
    μRat e s (c + s) < μRat e s c := by
  unfold μRat
  have h1 : (e - (c + s)) / s = (e - c) / s - 1 := by grind
  rw [h1, Rat.ceil_sub_one]
  have h2 : (0 : Rat) < (((e - c) / s).ceil : Int) := by
    have := @Rat.le_ceil ((e - c) / s); grind
  have h3 := Rat.intCast_pos.1 h2
  omega

theorem div_pos_of_pos (a s : Rat) (ha : 0 < a) (hs : 0 < s) : 0 < a / s := by
  rw [Rat.div_def]; exact Rat.mul_pos ha (Rat.inv_pos.2 hs)

theorem div_pos_of_neg (a s : Rat) (ha : a < 0) (hs : s < 0) : 0 < a / s := by
  have : a / s = (-a) / (-s) := by grind
  rw [this]
  exact div_pos_of_pos _ _ (by grind) (by grind)

theorem wrap64_id (z : Int) (h : fitsInt z = true) : wrap64 z = z := by
  rw [fitsInt_iff] at h; simp only [minInt, maxInt] at h
  unfold wrap64; omega

theorem fitsInt_wrap64 (z : Int) : fitsInt (wrap64 z) = true := by
  rw [fitsInt_iff]; simp only [minInt, maxInt]; unfold wrap64; omega

theorem wrap64_over (z : Int) (h1 : maxInt < z) (h2 : z ≤ 2 * maxInt + 1) :
    wrap64 z = z - 18446744073709551616 := by
  simp only [maxInt] at *
  unfold wrap64; omega

theorem wrap64_under (z : Int) (h1 : z < minInt) (h2 : 2 * minInt ≤ z) :
    wrap64 z = z + 18446744073709551616 := by
  simp only [minInt] at *
  unfold wrap64; omega

/-- One wrapping step of the machine-int loops: in range, or past the end of `int64` on the side
the step points to, where the guard `next ≤ cur` / `next ≥ cur` fires. -/
theorem wrap_step (c s : Int) (hc : fitsInt c = true) (hs : fitsInt s = true) :
    (fitsInt (c + s) = true ∧ wrap64 (c + s) = c + s) ∨
    (0 < s ∧ maxInt < c + s ∧ wrap64 (c + s) ≤ c) ∨ (s < 0 ∧ c + s < minInt ∧ c ≤ wrap64 (c + s)) := by
  rw [fitsInt_iff] at hc hs
  by_cases hov : maxInt < c + s
  · have hw := wrap64_over _ hov (by simp only [minInt, maxInt] at *; omega)
    simp only [minInt, maxInt] at *
    omega
  · by_cases hun : c + s < minInt
    · have hw := wrap64_under _ hun (by simp only [minInt, maxInt] at *; omega)
      simp only [minInt, maxInt] at *
      omega
    · have hfit : fitsInt (c + s) = true := (fitsInt_iff _).2 ⟨by omega, by omega⟩
      exact .inl ⟨hfit, wrap64_id _ hfit⟩

/-- The wrap guard fires exactly when the mathematical next term exceeds `maxInt ≥ end`, so the
output is the mathematical progression. -/
theorem rangeIntUp_prog (e s : Int) (he : fitsInt e = true) (hs : fitsInt s = true) (hs0 : 0 < s)
    (fuel : Nat) (c : Int) (hc : fitsInt c = true) (hf : (e - c).toNat < fuel) :
    ∃ L, rangeIntUp e s fuel c = .ok L ∧ Prog (· < e) s c L := by
  induction fuel generalizing c with
  | zero => omega
  | succ fuel ih =>
    unfold rangeIntUp
    by_cases hlt : c < e
    · simp only [hlt, if_true]
      rcases wrap_step c s hc hs with ⟨hfit, hw⟩ | ⟨_, hov, hw⟩ | ⟨h, _⟩
      · rw [hw]
        have : ¬ (c + s ≤ c) := by omega
        simp only [this, if_false]
        obtain ⟨L, hL, hP⟩ := ih (c + s) hfit (by omega)
        exact ⟨c :: L, by simp [hL], .next hlt hP⟩
      · simp only [hw, if_true]
        have he' := (fitsInt_iff e).1 he
        exact ⟨[c], rfl, .next hlt (.stop (by omega))⟩
      · omega
    · exact ⟨[], by simp [hlt], .stop hlt⟩

theorem rangeIntDown_prog (e s : Int) (he : fitsInt e = true) (hs : fitsInt s = true) (hs0 : s < 0)
    (fuel : Nat) (c : Int) (hc : fitsInt c = true) (hf : (c - e).toNat < fuel) :
    ∃ L, rangeIntDown e s fuel c = .ok L ∧ Prog (e < ·) s c L := by
  induction fuel generalizing c with
  | zero => omega
  | succ fuel ih =>
    unfold rangeIntDown
    by_cases hlt : e < c
    · have hgt : c > e := hlt
      simp only [hgt, if_true]
      rcases wrap_step c s hc hs with ⟨hfit, hw⟩ | ⟨h, _⟩ | ⟨_, hun, hw⟩
      · rw [hw]
        have : ¬ (c + s ≥ c) := by omega
        simp only [this, if_false]
        obtain ⟨L, hL, hP⟩ := ih (c + s) hfit (by omega)
        exact ⟨c :: L, by simp [hL], .next hlt hP⟩
      · omega
      · have hw' : wrap64 (c + s) ≥ c := hw
        simp only [hw', if_true]
        have he' := (fitsInt_iff e).1 he
        exact ⟨[c], rfl, .next hlt (.stop (by omega))⟩
    · have hgt : ¬ c > e := hlt
      exact ⟨[], by simp [hgt], .stop hlt⟩

theorem Prog.up_bounds {e s c : Int} {L : List Int} (h : Prog (· < e) s c L) (hs : 0 < s) :
    ∀ x ∈ L, c ≤ x ∧ x < e := by
  induction h with
  | stop _ => intro x hx; cases hx
  | next hc _ ih =>
    intro x hx
    rcases List.mem_cons.1 hx with rfl | hx
    · exact ⟨Int.le_refl _, hc⟩
    · have := ih x hx; omega

theorem Prog.down_bounds {e s c : Int} {L : List Int} (h : Prog (e < ·) s c L) (hs : s < 0) :
    ∀ x ∈ L, x ≤ c ∧ e < x := by
  induction h with
  | stop _ => intro x hx; cases hx
  | next hc _ ih =>
    intro x hx
    rcases List.mem_cons.1 hx with rfl | hx
    · exact ⟨Int.le_refl _, hc⟩
    · have := ih x hx; omega

theorem Prog.cast_up {e s c : Int} {L : List Int} (h : Prog (· < e) s c L) :
    Prog (· < (e : Rat)) (s : Rat) (c : Rat) (L.map fun k : Int => (k : Rat)) := by
  induction h with
  | stop hn => exact .stop (fun h => hn (Rat.intCast_lt_intCast.1 h))
  | next hc _ ih =>
    refine .next (Rat.intCast_lt_intCast.2 hc) ?_
    rw [← Rat.intCast_add]; exact ih

theorem Prog.cast_down {e s c : Int} {L : List Int} (h : Prog ((e : Int) < ·) s c L) :
    Prog ((e : Rat) < ·) (s : Rat) (c : Rat) (L.map fun k : Int => (k : Rat)) := by
  induction h with
  | stop hn => exact .stop (fun h => hn (Rat.intCast_lt_intCast.1 h))
  | next hc _ ih =>
    refine .next (Rat.intCast_lt_intCast.2 hc) ?_
    rw [← Rat.intCast_add]; exact ih

theorem Prog.closed {cont : Rat → Prop} {s c : Rat} {L : List Rat} (h : Prog cont s c L) :
    L = (List.range L.length).map (fun k : Nat => c + (k : Rat) * s) ∧
    (∀ k, k < L.length → cont (c + (k : Rat) * s)) ∧ ¬ cont (c + (L.length : Rat) * s) := by
  induction h with
  | stop hn => simp [Rat.add_zero]; exact hn
  | @next cur l hc hp ih =>
    obtain ⟨h1, h2, h3⟩ := ih
    refine ⟨?_, ?_, ?_⟩
    · rw [List.length_cons, List.range_succ_eq_map, List.map_cons, List.map_map]
      congr 1
      · simp [Rat.add_zero]
      · conv => lhs; rw [h1]
        apply List.map_congr_left
        intro k _
        simp only [Function.comp]
        have : ((k + 1 : Nat) : Rat) = (k : Rat) + 1 := by simp
        rw [this]; grind
    · intro k hk
      cases k with
      | zero => simpa [Rat.add_zero] using hc
      | succ k =>
        have := h2 k (by simpa using hk)
        have e : cur + s + (k : Rat) * s = cur + ((k + 1 : Nat) : Rat) * s := by
          have : ((k + 1 : Nat) : Rat) = (k : Rat) + 1 := by simp
          rw [this]; grind
        rw [← e]; exact this
    · have e : cur + s + (l.length : Rat) * s = cur + (((cur :: l).length : Nat) : Rat) * s := by
        have : (((cur :: l).length : Nat) : Rat) = (l.length : Rat) + 1 := by simp
        rw [this]; grind
      rw [← e]; exact h3


/-- What the documentation says `range $x $y &step=$z?` outputs. -/
def RangeSpecT {T : Type} [Add T] [LT T] [LE T] (zero one negOne : T) (x y : T) (z? : Option T)
    (r : Res (List T)) : Prop :=
  (x ≤ y →
    match z? with
    | some z => (z ≤ zero → r = .exc "step-positive") ∧
                (¬ z ≤ zero → ∃ L, r = .ok L ∧ Prog (· < y) z x L)
    | none => ∃ L, r = .ok L ∧ Prog (· < y) one x L) ∧
  (¬ x ≤ y →
    match z? with
    | some z => (zero ≤ z → r = .exc "step-negative") ∧
                (¬ zero ≤ z → ∃ L, r = .ok L ∧ Prog (y < ·) z x L)
    | none => ∃ L, r = .ok L ∧ Prog (y < ·) negOne x L)

theorem RangeSpecT.not_panic {T : Type} [Add T] [LT T] [LE T] {zero one negOne x y : T} {z? : Option T}
    {r : Res (List T)} (h : RangeSpecT zero one negOne x y z? r) : r.isPanic = false := by
  obtain ⟨hu, hd⟩ := h
  by_cases c : x ≤ y
  · have hu := hu c
    cases z? with
    | none => obtain ⟨L, rfl, _⟩ := hu; rfl
    | some z =>
      by_cases c2 : z ≤ zero
      · rw [hu.1 c2]; rfl
      · obtain ⟨L, rfl, _⟩ := hu.2 c2; rfl
  · have hd := hd c
    cases z? with
    | none => obtain ⟨L, rfl, _⟩ := hd; rfl
    | some z =>
      by_cases c2 : zero ≤ z
      · rw [hd.1 c2]; rfl
      · obtain ⟨L, rfl, _⟩ := hd.2 c2; rfl

theorem rangeBigNum_spec {T : Type} [Add T] [LT T] [DecidableLT T] [LE T] [DecidableLE T]
    (zero one negOne : T) (fuelOf : T → T → T → Nat) (μu μd : T → T → T → Nat)
    (h1 : ∀ e s c, ¬ s ≤ zero → c < e → μu e s (c + s) < μu e s c)
    (h2 : ∀ e s c, ¬ zero ≤ s → e < c → μd e s (c + s) < μd e s c)
    (h3u : ∀ st e s, μu e s st < fuelOf st e s) (h3d : ∀ st e s, μd e s st < fuelOf st e s)
    (h4 : ¬ one ≤ zero) (h5 : ¬ zero ≤ negOne) (x y : T) (z? : Option T) :
    RangeSpecT zero one negOne x y z? (rangeBigNum zero one negOne fuelOf (x :: y :: z?.toList)) := by
  unfold RangeSpecT rangeBigNum
  refine ⟨fun hxy => ?_, fun hxy => ?_⟩
  · simp only [hxy, if_true]
    cases z? with
    | none =>
      simp only [Option.toList]
      exact rangeBigUp_prog y one (μu y one) (fun c hc => h1 y one c h4 hc) _ x (h3u x y one)
    | some z =>
      simp only [Option.toList]
      refine ⟨fun hz => by simp [hz], fun hz => ?_⟩
      simp only [hz, if_false]
      exact rangeBigUp_prog y z (μu y z) (fun c hc => h1 y z c hz hc) _ x (h3u x y z)
  · simp only [hxy, if_false]
    cases z? with
    | none =>
      simp only [Option.toList]
      exact rangeBigDown_prog y negOne (μd y negOne) (fun c hc => h2 y negOne c h5 hc) _ x (h3d x y negOne)
    | some z =>
      simp only [Option.toList]
      refine ⟨fun hz => by simp [hz], fun hz => ?_⟩
      simp only [hz, if_false]
      exact rangeBigDown_prog y z (μd y z) (fun c hc => h2 y z c hz hc) _ x (h3d x y z)

theorem rangeBigNum_int (x y : Int) (z? : Option Int) :
    RangeSpecT 0 1 (-1) x y z? (rangeBigNum 0 1 (-1) fuelInt (x :: y :: z?.toList)) :=
  rangeBigNum_spec 0 1 (-1) fuelInt (fun e _ c => (e - c).toNat) (fun e _ c => (c - e).toNat)
    (by intro e s c hs hc; omega) (by intro e s c hs hc; omega)
    (by intro st e s; simp only [fuelInt]; omega) (by intro st e s; simp only [fuelInt]; omega)
    (by omega) (by omega) x y z?

theorem rangeBigNum_rat (x y : Rat) (z? : Option Rat) :
    RangeSpecT 0 1 (-1) x y z? (rangeBigNum 0 1 (-1) fuelRat (x :: y :: z?.toList)) :=
  rangeBigNum_spec 0 1 (-1) fuelRat μRat μRat
    (by intro e s c hs hc
        exact μRat_decr e s c (by grind) (div_pos_of_pos _ _ (by grind) (by grind)))
    (by intro e s c hs hc
        exact μRat_decr e s c (by grind) (div_pos_of_neg _ _ (by grind) (by grind)))
    (by intro st e s; simp [fuelRat, μRat]) (by intro st e s; simp [fuelRat, μRat])
    (by decide) (by decide) x y z?

theorem rangeBuiltinInt_spec (x y : Int) (z? : Option Int) (hx : fitsInt x = true)
    (hy : fitsInt y = true) (hz : ∀ z, z? = some z → fitsInt z = true) :
    RangeSpecT 0 1 (-1) x y z? (rangeBuiltinInt (x :: y :: z?.toList)) := by
  unfold RangeSpecT rangeBuiltinInt
  refine ⟨fun hxy => ?_, fun hxy => ?_⟩
  · simp only [hxy, if_true]
    cases z? with
    | none =>
      simp only [Option.toList]
      exact rangeIntUp_prog y 1 hy (by decide) (by omega) _ x hx (by omega)
    | some z =>
      simp only [Option.toList]
      refine ⟨fun hz0 => by simp [hz0], fun hz0 => ?_⟩
      simp only [hz0, if_false]
      exact rangeIntUp_prog y z hy (hz z rfl) (by omega) _ x hx (by omega)
  · simp only [hxy, if_false]
    cases z? with
    | none =>
      simp only [Option.toList]
      exact rangeIntDown_prog y (-1) hy (by decide) (by omega) _ x hx (by omega)
    | some z =>
      simp only [Option.toList]
      refine ⟨fun hz0 => ?_, fun hz0 => ?_⟩
      · have : z ≥ 0 := hz0
        simp [this]
      · have : ¬ z ≥ 0 := hz0
        simp only [this, if_false]
        exact rangeIntDown_prog y z hy (hz z rfl) (by omega) _ x hx (by omega)

theorem RangeSpecT.cast {x y : Int} {z? : Option Int} {r : Res (List Int)}
    (h : RangeSpecT 0 1 (-1) x y z? r) :
    RangeSpecT (0 : Rat) 1 (-1) (x : Rat) (y : Rat) (z?.map fun k : Int => (k : Rat))
      (resMap (List.map fun k : Int => (k : Rat)) r) := by
  unfold RangeSpecT at *
  have hxy : ((x : Rat) ≤ (y : Rat)) ↔ x ≤ y := Rat.intCast_le_intCast
  obtain ⟨hu, hd⟩ := h
  refine ⟨fun c => ?_, fun c => ?_⟩
  · have hu := hu (hxy.1 c)
    cases z? with
    | none =>
      obtain ⟨L, rfl, hP⟩ := hu
      exact ⟨_, rfl, hP.cast_up⟩
    | some z =>
      simp only [Option.map] at *
      have hz : ((z : Rat) ≤ 0) ↔ z ≤ 0 := by
        have := @Rat.intCast_le_intCast z 0; simpa using this
      refine ⟨fun c2 => ?_, fun c2 => ?_⟩
      · rw [hu.1 (hz.1 c2)]; rfl
      · obtain ⟨L, rfl, hP⟩ := hu.2 (fun hh => c2 (hz.2 hh))
        exact ⟨_, rfl, hP.cast_up⟩
  · have hd := hd (fun hh => c (hxy.2 hh))
    cases z? with
    | none =>
      obtain ⟨L, rfl, hP⟩ := hd
      exact ⟨_, rfl, by simpa using hP.cast_down⟩
    | some z =>
      simp only [Option.map] at *
      have hz : ((0 : Rat) ≤ (z : Rat)) ↔ 0 ≤ z := by
        have := @Rat.intCast_le_intCast 0 z; simpa using this
      refine ⟨fun c2 => ?_, fun c2 => ?_⟩
      · rw [hd.1 (hz.1 c2)]; rfl
      · obtain ⟨L, rfl, hP⟩ := hd.2 (fun hh => c2 (hz.2 hh))
        exact ⟨_, rfl, hP.cast_down⟩

end C11
