import ElvProofs.C11.Basic
namespace C11
open Go

variable {F : Type}

/-- `+ - *` unify with floor type `bigInt`. -/
theorem unify_bigInt_cases (ops : F64Ops F) (raw : List (Num F))
    (hx : ∀ a ∈ raw, isExact a = true) :
    (unifyNums ops raw .bigInt = .ok (.bigs (raw.map intVal)) ∧ ∀ a ∈ raw, rankOf a ≤ 1) ∨
    unifyNums ops raw .bigInt = .ok (.rats (raw.map val)) := by
  obtain ⟨h, hi, _⟩ := unifyNums_exact ops raw .bigInt hx (by simp [NumType.rank])
  generalize hu : unifyNums ops raw .bigInt = u at *
  cases h with
  | ints h0 => have := hi _ rfl; simp [NumType.rank] at this
  | bigs h1 => exact .inl ⟨rfl, h1⟩
  | rats => exact .inr rfl

theorem add_exact (ops : F64Ops F) (args : List (Num F)) (hx : ∀ a ∈ args, isExact a = true) :
    Gives (add ops args) ((args.map val).foldl (· + ·) 0) := by
  unfold add
  rcases unify_bigInt_cases ops args hx with ⟨h, h1⟩ | h <;> rw [h]
  · refine ⟨_, rfl, goodOut_of_exactC _ (normalizeBigInt_spec _).1, ?_⟩
    rw [(normalizeBigInt_spec _).2, cast_foldl _ _ Rat.intCast_add, map_intVal_cast args h1]; rfl
  · exact ⟨_, rfl, goodOut_of_exactC _ (normalizeBigRat_spec _).1, (normalizeBigRat_spec _).2⟩

def subSpec : List Rat → Rat
  | [] => 0
  | [x] => -x
  | x :: rest => rest.foldl (· - ·) x

theorem sub_exact (ops : F64Ops F) (args : List (Num F)) (hx : ∀ a ∈ args, isExact a = true)
    (hne : args ≠ []) :
    Gives (sub ops args) (subSpec (args.map val)) := by
  unfold sub
  have : args.isEmpty = false := by cases args <;> simp_all
  simp only [this]
  rcases unify_bigInt_cases ops args hx with ⟨h, h1⟩ | h <;> rw [h]
  · match args, hne, h1 with
    | [a], _, h1 =>
      refine ⟨.big (-intVal a), rfl, goodOut_big _, ?_⟩
      simp only [val_big, List.map_cons, List.map_nil, subSpec, ← intVal_cast a (h1 a (by simp))]
      exact Rat.intCast_neg _
    | a :: b :: rest, _, h1 =>
      refine ⟨.big ((b :: rest).map intVal |>.foldl (· - ·) (intVal a)), rfl, goodOut_big _, ?_⟩
      simp only [val_big, List.map_cons, subSpec]
      rw [cast_foldl _ _ Rat.intCast_sub, intVal_cast a (h1 a (by simp))]
      have := map_intVal_cast (b :: rest) (fun x hx => h1 x (by simp at hx ⊢; right; exact hx))
      simp only [List.map_cons] at this ⊢
      rw [this]
  · match args, hne with
    | [a], _ => exact ⟨.rat (-val a), rfl, goodOut_rat _, rfl⟩
    | a :: b :: rest, _ =>
      exact ⟨.rat ((b :: rest).map val |>.foldl (· - ·) (val a)), rfl, goodOut_rat _, rfl⟩

theorem sub_empty (ops : F64Ops F) : sub ops ([] : List (Num F)) = .exc "arity" := rfl

theorem mulScan_noInf (ops : F64Ops F) (l : List (Num F)) (z : Bool)
    (h : ∀ a ∈ l, isInfNum ops a = false) :
    mulScan ops l z = (z || l.any isExactZero, false) := by
  induction l generalizing z with
  | nil => simp [mulScan]
  | cons a l ih =>
    simp only [mulScan, h a (List.mem_cons_self ..)]
    rw [ih _ (fun b hb => h b (List.mem_cons_of_mem _ hb))]
    simp [Bool.or_assoc]

theorem isInfNum_exact (ops : F64Ops F) (a : Num F) (h : isExact a = true) : isInfNum ops a = false := by
  cases a <;> simp [isExact, isInfNum] at *

theorem foldl_mul_zero (l : List Rat) : l.foldl (· * ·) 0 = 0 := by
  induction l with
  | nil => rfl
  | cons a l ih => simpa using ih

theorem foldl_mul_of_zero_mem (l : List Rat) (z : Rat) (h : (0 : Rat) ∈ l) : l.foldl (· * ·) z = 0 := by
  induction l generalizing z with
  | nil => cases h
  | cons a l ih =>
    simp only [List.foldl_cons]
    rcases List.mem_cons.1 h with h | h
    · subst h; simp [foldl_mul_zero]
    · exact ih _ h

theorem mul_exact (ops : F64Ops F) (args : List (Num F)) (hx : ∀ a ∈ args, isExact a = true) :
    Gives (mul ops args) ((args.map val).foldl (· * ·) 1) := by
  unfold mul
  rw [mulScan_noInf ops args false (fun a ha => isInfNum_exact ops a (hx a ha))]
  simp only [Bool.false_or, Bool.not_false, Bool.and_true]
  by_cases hz : args.any isExactZero = true
  · simp only [hz, if_true]
    refine ⟨.int 0, rfl, goodOut_zero, ?_⟩
    obtain ⟨a, ha, haz⟩ := List.any_eq_true.1 hz
    have : val a = 0 := by
      cases a <;> simp [isExactZero] at haz
      subst haz; rfl
    rw [foldl_mul_of_zero_mem]
    · rfl
    · exact List.mem_map.2 ⟨a, ha, this⟩
  · simp only [hz]
    rcases unify_bigInt_cases ops args hx with ⟨h, h1⟩ | h <;> rw [h]
    · refine ⟨_, rfl, goodOut_of_exactC _ (normalizeBigInt_spec _).1, ?_⟩
      rw [(normalizeBigInt_spec _).2, cast_foldl _ _ Rat.intCast_mul, map_intVal_cast args h1]; rfl
    · exact ⟨_, rfl, goodOut_of_exactC _ (normalizeBigRat_spec _).1, (normalizeBigRat_spec _).2⟩

theorem mul_zero_rule (ops : F64Ops F) (args : List (Num F)) (h0 : Num.int 0 ∈ args)
    (hinf : ∀ a ∈ args, isInfNum ops a = false) : mul ops args = .ok (.int 0) := by
  unfold mul
  rw [mulScan_noInf ops args false hinf]
  have : args.any isExactZero = true := List.any_eq_true.2 ⟨_, h0, rfl⟩
  simp [this]


def divSpec : List Rat → Rat
  | [] => 0
  | [x] => x⁻¹
  | x :: rest => rest.foldl (· / ·) x

/-- `/ x` is `/ 1 x`. -/
def DivByZero : List Rat → Prop
  | [] => False
  | [x] => x = 0
  | _ :: rest => (0 : Rat) ∈ rest

theorem unify_bigRat (ops : F64Ops F) (raw : List (Num F)) (hx : ∀ a ∈ raw, isExact a = true) :
    unifyNums ops raw .bigRat = .ok (.rats (raw.map val)) := by
  obtain ⟨h, hi, hb⟩ := unifyNums_exact ops raw .bigRat hx (by simp [NumType.rank])
  generalize hu : unifyNums ops raw .bigRat = u at *
  cases h with
  | ints h0 => have := hi _ rfl; simp [NumType.rank] at this
  | bigs h1 => have := hb _ rfl; simp [NumType.rank] at this
  | rats => rfl

theorem foldlRes_ratQuo (a : Rat) (rs : List Rat) (h : (0 : Rat) ∉ rs) :
    foldlRes ratQuo a rs = .ok (rs.foldl (· / ·) a) := by
  induction rs generalizing a with
  | nil => rfl
  | cons b rs ih =>
    have hb : b ≠ 0 := fun hb => h (by simp [hb])
    simp only [foldlRes, ratQuo, hb, if_false, List.foldl_cons]
    exact ih _ (fun hm => h (List.mem_cons_of_mem _ hm))

theorem foldl_div_zero (l : List Rat) : l.foldl (· / ·) 0 = 0 := by
  induction l with
  | nil => rfl
  | cons a l ih => simp only [List.foldl_cons, Rat.div_def, Rat.zero_mul]; simpa [Rat.div_def] using ih

theorem any_isExactZero_iff (l : List (Num F)) (h : ∀ a ∈ l, ExactC a) :
    l.any isExactZero = true ↔ (0 : Rat) ∈ l.map val := by
  rw [List.any_eq_true, List.mem_map]
  constructor
  · rintro ⟨a, ha, hz⟩; exact ⟨a, ha, (isExactZero_iff a (h a ha)).1 hz⟩
  · rintro ⟨a, ha, hz⟩; exact ⟨a, ha, (isExactZero_iff a (h a ha)).2 hz⟩

theorem div_exact (ops : F64Ops F) (args : List (Num F)) (hc : ∀ a ∈ args, ExactC a)
    (hne : args ≠ []) :
    (DivByZero (args.map val) ∧ div ops args = .exc "div0") ∨
    (¬ DivByZero (args.map val) ∧ Gives (div ops args) (divSpec (args.map val))) := by
  match args, hne with
  | x :: rest, _ =>
    have hcx := hc x (by simp)
    have hcr : ∀ a ∈ rest, ExactC a := fun a ha => hc a (by simp [ha])
    have hz := any_isExactZero_iff rest hcr
    have hzx := isExactZero_iff x hcx
    unfold div
    by_cases h1 : rest.any isExactZero = true
    · left
      simp only [h1, if_true, and_true]
      cases rest with
      | nil => simp at h1
      | cons b rs => exact hz.1 h1
    · simp only [h1]
      have h0 : (0 : Rat) ∉ rest.map val := fun h => h1 (hz.2 h)
      by_cases h2 : isExactZero x = true
      · simp only [h2, if_true]
        cases rest with
        | nil => left; simp [DivByZero, hzx.1 h2]
        | cons b rs =>
          right
          refine ⟨h0, .int 0, by simp, goodOut_zero, ?_⟩
          simp only [List.map_cons, divSpec, hzx.1 h2]
          exact (foldl_div_zero _).symm
      · simp only [h2]
        rw [unify_bigRat ops _ (fun a ha => (hc a ha).1)]
        have hx0 : val x ≠ 0 := fun h => h2 (hzx.2 h)
        right
        cases rest with
        | nil =>
          refine ⟨by simpa [DivByZero] using hx0, .rat (val x)⁻¹, ?_, goodOut_rat _, rfl⟩
          simp [ratInv, hx0]
        | cons b rs =>
          refine ⟨h0, .rat ((List.map val (b :: rs)).foldl (· / ·) (val x)), ?_, goodOut_rat _, rfl⟩
          simp only [List.map_cons]
          rw [foldlRes_ratQuo _ _ (by simpa using h0)]
          rfl

/-- `/` with arguments (without, it is `cd /`) is `outs` of `div` like the other commands. -/
theorem slash_outs (ops : F64Ops F) (args : List (Num F)) (hne : args ≠ []) :
    resMap (fun v => [v]) (slash ops args) = outs (div ops args) := by
  have : args.isEmpty = false := by cases args <;> simp_all
  unfold slash outs
  rw [this]
  cases div ops args <;> rfl

theorem div_zero_rule (ops : F64Ops F) (rest : List (Num F)) (hne : rest ≠ [])
    (h : rest.any isExactZero = false) : div ops (.int 0 :: rest) = .ok (.int 0) := by
  unfold div
  cases rest with
  | nil => exact absurd rfl hne
  | cons b rs => simp [h, isExactZero]

theorem div_by_exact_zero (ops : F64Ops F) (x : Num F) (rest : List (Num F))
    (h : rest.any isExactZero = true) : div ops (x :: rest) = .exc "div0" := by
  simp [div, h]

theorem fitsInt_tmod (x y : Int) (hy : fitsInt y = true) (hy0 : y ≠ 0) : fitsInt (Int.tmod x y) = true := by
  rw [fitsInt_iff] at *
  have h1 := Int.natAbs_tmod x y
  have h2 : x.natAbs % y.natAbs < y.natAbs := Nat.mod_lt _ (by omega)
  simp only [minInt, maxInt] at *
  omega

theorem rem_exact (a b : Num F) (ha : ExactC a) (hb : ExactC b) :
    (¬ (isExactInt a = true ∧ isExactInt b = true) ∧ rem a b = .exc "exact-int") ∨
    (isExactInt a = true ∧ isExactInt b = true ∧ val b = 0 ∧ rem a b = .exc "div0") ∨
    (isExactInt a = true ∧ isExactInt b = true ∧ val b ≠ 0 ∧
      Gives (rem a b) ((Int.tmod (intVal a) (intVal b) : Int) : Rat)) := by
  unfold rem
  by_cases h1 : isExactInt a = true
  · by_cases h2 : isExactInt b = true
    · right
      have hz := isExactZero_iff b hb
      by_cases h3 : isExactZero b = true
      · left; simp [h1, h2, h3, hz.1 h3]
      · right
        have hb0 : val b ≠ 0 := fun h => h3 (hz.2 h)
        refine ⟨h1, h2, hb0, ?_⟩
        simp only [h1, h2, h3]
        cases a with
        | int x =>
          cases b with
          | int y =>
            refine ⟨_, rfl, ⟨rfl, ?_⟩, rfl⟩
            intro k hk; cases hk
            have hy0 : y ≠ 0 := by intro h; subst h; simp at hb0
            exact fitsInt_tmod x y hb.2 hy0
          | big y =>
            have hy0 : y ≠ 0 := by intro h; subst h; simp at hb0
            simp only [promoteToBigInt, hy0]
            exact ⟨_, rfl, goodOut_big _, rfl⟩
          | rat q => simp [isExactInt] at h2
          | flt f => simp [isExactInt] at h2
        | big x =>
          cases b with
          | int y =>
            have hy0 : y ≠ 0 := by intro h; subst h; simp at hb0
            simp only [promoteToBigInt, hy0]
            exact ⟨_, rfl, goodOut_big _, rfl⟩
          | big y =>
            have hy0 : y ≠ 0 := by intro h; subst h; simp at hb0
            simp only [promoteToBigInt, hy0]
            exact ⟨_, rfl, goodOut_big _, rfl⟩
          | rat q => simp [isExactInt] at h2
          | flt f => simp [isExactInt] at h2
        | rat q => simp [isExactInt] at h1
        | flt f => simp [isExactInt] at h1
    · left; simp [h1, h2]
  · left; simp [h1]

end C11
