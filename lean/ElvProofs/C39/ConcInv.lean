import ElvProofs.C39.ConcLocal
/-!
The global invariants of the concurrent semantics, and that they determine the
result of every execution that runs to the end (`Conc.unique`).
-/
namespace C39.Conc
open C39

def sumTo : Nat → (Nat → Nat) → Nat
  | 0, _ => 0
  | n + 1, f => sumTo n f + f n

theorem sumTo_congr {n : Nat} {f g : Nat → Nat} (h : ∀ m, m < n → f m = g m) : sumTo n f = sumTo n g := by
  induction n with
  | zero => rfl
  | succ n ih => rw [sumTo, sumTo, ih fun m hm => h m (by omega), h n (by omega)]

theorem sumTo_zero {n : Nat} {f : Nat → Nat} (h : ∀ m, m < n → f m = 0) : sumTo n f = 0 := by
  induction n with
  | zero => rfl
  | succ n ih => rw [sumTo, ih fun m hm => h m (by omega), h n (by omega)]

theorem sumTo_point {n i d : Nat} {f g : Nat → Nat} (hi : i < n) (hgi : g i = f i + d)
    (hne : ∀ m, m < n → m ≠ i → g m = f m) : sumTo n g = sumTo n f + d := by
  induction n with
  | zero => omega
  | succ n ih =>
    rw [sumTo, sumTo]
    by_cases hin : i = n
    · subst hin
      rw [sumTo_congr fun m hm => hne m (by omega) (by omega), hgi]; omega
    · rw [ih (by omega) fun m hm => hne m (by omega), hne n (by omega) (Ne.symm hin)]; omega

theorem sumTo_le {n i : Nat} {f : Nat → Nat} (hi : i < n) : f i ≤ sumTo n f := by
  induction n with
  | zero => omega
  | succ n ih =>
    rw [sumTo]
    by_cases hin : i = n
    · subst hin; omega
    · have := ih (by omega); omega

theorem sumTo_le_n {n : Nat} {f : Nat → Nat} (h : ∀ m, m < n → f m ≤ 1) : sumTo n f ≤ n := by
  induction n with
  | zero => exact Nat.le_refl 0
  | succ n ih =>
    have := ih fun m hm => h m (by omega)
    have := h n (by omega)
    rw [sumTo]; omega

def effActions : List Action → Env → Acc
  | [], _ => zero
  | a :: as, env => fun k => rem (startOf a env).proc k + effActions as (startOf a env).nextEnv k

/-- What each evaluation returns: whether it compiled, and how often it outputs each value. -/
def resActions : List Action → Env → List (Bool × (Out → Nat))
  | [], _ => []
  | a :: as, env =>
    ((startOf a env).ok, fun o => rem (startOf a env).proc (.out o)) :: resActions as (startOf a env).nextEnv

def curRem (g : GState) : Acc :=
  match g.cur with
  | some c => rem c.proc
  | none => zero

def nextEnvG (g : GState) : Env :=
  match g.cur with
  | some c => c.nextEnv
  | none => g.env

/-- Everything the goroutine still has to do. -/
def remG (g : GState) : Acc := fun k => curRem g k + effActions g.todo (nextEnvG g) k

/-- The results of the goroutine's evaluations: past, present and future. -/
def view (g : GState) : List (Bool × (Out → Nat)) :=
  g.results.map (fun r => (r.ok, fun o => r.outs.count o)) ++
  (match g.cur with
   | some c => [(c.ok, fun o => g.outs.count o + rem c.proc (.out o))]
   | none => []) ++
  resActions g.todo (nextEnvG g)

def sumG (gs : List GState) (k : Key) : Nat := (gs.map (fun g => remG g k)).sum

theorem sumG_split (l1 : List GState) (g : GState) (l2 : List GState) (k : Key) :
    sumG (l1 ++ g :: l2) k = sumG l1 k + remG g k + sumG l2 k := by
  simp [sumG, List.sum_append, List.sum_cons]; omega

/-- What loading modules has brought so far. -/
def T (w : World) (acc : Acc) (k : Key) : Nat := sumTo w.N (fun m => acc (.load m) * loadEff w m k)

def okG (w : World) (g : GState) : Prop :=
  (∀ c, g.cur = some c → okP w false c.proc) ∧ g.todo.all (okAction w) = true

mutual
theorem effS_noout (w : World) : ∀ (s : Stmt) (e : Env) (o : Out), okS w true s = true → effS s e (.out o) = 0
  | .inc .., _, _, _ | .flag _, _, _, _ | .useF _, _, _, _ | .useB _, _, _, _
  | .useStr, _, _, _ | .var .., _, _, _ | .del _, _, _, _ => rfl
  | .out _, _, _, h | .getF _, _, _, h | .getB _, _, _, h | .ref _, _, _, h => by simp [okS] at h
  | .peach n body, e, o, h | .each n body, e, o, h => by
    simp [effS, effL_noout w body e o h]
  | .par b1 b2, e, o, h => by
    have h12 := Bool.and_eq_true_iff.1 h
    simp [effS, effL_noout w b1 e o h12.1, effL_noout w b2 e o h12.2]
theorem effL_noout (w : World) : ∀ (ss : List Stmt) (e : Env) (o : Out), okL w true ss = true → effL ss e (.out o) = 0
  | [], _, _, _ => rfl
  | s :: ss, e, o, h => by
    have h' := okL_cons.1 h
    rw [effL_cons, effS_noout w s e o h'.1, effL_noout w ss _ o h'.2]
end

theorem winEff_out {w : World} (hb : BodiesOk w) {win : Option Nat} (hw : ∀ i, win = some i → i < w.N) (o : Out) :
    winEff w win (.out o) = 0 := by
  cases win with
  | none => rfl
  | some i => simp [winEff, loadEff, single, effL_noout w _ _ o (hb i (hw i rfl))]

theorem okP_startOf {w : World} {a : Action} (h : okAction w a = true) (env : Env) :
    okP w false (startOf a env).proc := by
  cases a with
  | eval ss | evalPriv ss => simp only [startOf]; split <;> first | exact h | rfl
  | call c k | check n => rfl

/-- What a step of goroutine `g` that adds `d` to the counts and installs `win` does to the accounts. -/
structure StepFacts (w : World) (acc : Acc) (g g' : GState) (d : Acc) (win : Option Nat) : Prop where
  account : ∀ k, d k + remG g' k = remG g k + winEff w win k
  loads : ∀ m, d (.load m) = if win = some m then 1 else 0
  won : ∀ i, win = some i → installed w acc i = false ∧ 1 ≤ remG g (.use i) ∧ i < w.N
  used : ∀ i, 0 < d (.use i) → installed w (fun k => acc k + d k) i = true

theorem StepFacts.silent {w : World} {acc : Acc} {g g' : GState} (h : ∀ k, remG g' k = remG g k) :
    StepFacts w acc g g' zero none :=
  ⟨fun k => by simp [h, winEff, zero], fun _ => rfl, nofun, fun _ hi => absurd hi (Nat.lt_irrefl 0)⟩

theorem gstep_facts {w : World} (hb : BodiesOk w) {acc acc' : Acc} {g g' : GState}
    (h : GStep w acc g acc' g') (hk : okG w g) :
    okG w g' ∧ view g' = view g ∧ ∃ d win, acc' = (fun k => acc k + d k) ∧ StepFacts w acc g g' d win := by
  cases h with
  | start a as hc ht =>
    rw [okG, ht, List.all_cons, Bool.and_eq_true] at hk
    refine ⟨⟨fun c hcc => ?_, hk.2.2⟩, ?_, zero, none, rfl, .silent fun k => ?_⟩
    · cases hcc; exact okP_startOf hk.2.1 _
    · simp [view, hc, ht, nextEnvG, resActions]
    · simp only [remG, curRem, nextEnvG, hc, ht, effActions, zero]; omega
  | run c d em win p' hc hp =>
    have hkp := hk.1 c hc
    have hrem := pstep_rem hp _ hkp
    refine ⟨⟨fun c' hcc => ?_, hk.2⟩, ?_, d, win, rfl, ?_, pstep_load hp, fun i hi => ?_, pstep_use hp⟩
    · cases hcc; exact okP_step hb hp _ hkp
    · simp only [view, hc, nextEnvG, Cur.nextEnv, pstep_finalEnv hp]
      congr 4
      funext o
      have h1 := hrem (.out o)
      rw [winEff_out hb (fun i hi => (pstep_win hp hi).2.2 _ hkp) o, pstep_out hp o] at h1
      rw [List.count_append]; omega
    · intro k
      simp only [remG, curRem, nextEnvG, hc, Cur.nextEnv, pstep_finalEnv hp]
      have := hrem k; omega
    · obtain ⟨h1, h2, h3⟩ := pstep_win hp hi
      refine ⟨h1, ?_, h3 _ hkp⟩
      simp only [remG, curRem, hc]; omega
  | finish c hc hd =>
    refine ⟨⟨nofun, hk.2⟩, ?_, zero, none, rfl, .silent fun k => ?_⟩
    · simp [view, hc, nextEnvG, rem_done hd]
    · simp [remG, curRem, nextEnvG, hc, zero, rem_done hd]

/-- `C` contains every module the program must load: the ones its own `use`
statements name, and the ones the bodies of modules in `C` import — unless they
were loaded before. -/
def Good (w : World) (c0 : Cfg) (C : Nat → Prop) : Prop :=
  (∀ i, 0 < sumG c0.gs (.use i) → w.pre i = true ∨ C i) ∧
  (∀ m i, C m → 0 < loadEff w m (.use i) → w.pre i = true ∨ C i)

structure Inv (w : World) (c0 c : Cfg) : Prop where
  account : ∀ k, c.acc k + sumG c.gs k = c0.acc k + sumG c0.gs k + T w c.acc k
  ok : ∀ g ∈ c.gs, okG w g
  used : ∀ i, 0 < c.acc (.use i) → installed w c.acc i = true
  loads : ∀ i, c.acc (.load i) ≤ 1 ∧ (0 < c.acc (.load i) → i < w.N)
  views : c.gs.map view = c0.gs.map view
  sound : ∀ C, Good w c0 C →
    (∀ i, 0 < sumG c.gs (.use i) → w.pre i = true ∨ C i) ∧ (∀ i, 0 < c.acc (.load i) → C i)

theorem inv_init {w : World} {c0 : Cfg} (hf : Fresh c0.acc) (hk : ∀ g ∈ c0.gs, okG w g) : Inv w c0 c0 := by
  refine ⟨fun k => ?_, hk, fun i hi => ?_, fun i => ?_, rfl, fun C hC => ⟨hC.1, fun i hi => ?_⟩⟩
  · rw [T, sumTo_zero fun m _ => by rw [(hf m).2.1, Nat.zero_mul]]; rfl
  · rw [(hf i).1] at hi; omega
  · rw [(hf i).2.1]; omega
  · rw [(hf i).2.1] at hi; omega

theorem T_step {w : World} {acc d : Acc} {win : Option Nat}
    (hl : ∀ m, d (.load m) = if win = some m then 1 else 0) (hN : ∀ i, win = some i → i < w.N) (k : Key) :
    T w (fun k => acc k + d k) k = T w acc k + winEff w win k := by
  cases win with
  | none => exact sumTo_congr fun m _ => by simp [hl]
  | some i =>
    refine sumTo_point (hN i rfl) ?_ fun m _ hm => ?_
    · simp only [hl, if_true, Nat.add_mul, Nat.one_mul, winEff]
    · simp [hl, Ne.symm hm]

theorem inv_step {w : World} (hb : BodiesOk w) {c0 c c' : Cfg} (hi : Inv w c0 c) (hs : CStep w c c') :
    Inv w c0 c' := by
  obtain ⟨acc, acc', l1, g, g', l2, hg⟩ := hs
  obtain ⟨hk', hv, d, win, rfl, hf⟩ := gstep_facts hb hg (hi.ok g (by simp))
  have hload : ∀ i, acc (.load i) + d (.load i) = acc (.load i) + if win = some i then 1 else 0 :=
    fun i => by rw [hf.loads]
  refine ⟨fun k => ?_, fun h hh => ?_, fun i hpos => ?_, fun i => ?_, ?_, fun C hC => ?_⟩
  · have h1 := hi.account k
    have h2 := hf.account k
    simp only [sumG_split] at h1 ⊢
    rw [T_step hf.loads (fun i hw => (hf.won i hw).2.2) k]
    omega
  · rcases List.mem_append.1 hh with hh | hh
    · exact hi.ok h (by simp [hh])
    · rcases List.mem_cons.1 hh with rfl | hh
      · exact hk'
      · exact hi.ok h (by simp [hh])
  · by_cases hd : 0 < d (.use i)
    · exact hf.used i hd
    · have hpos : 0 < acc (.use i) + d (.use i) := hpos
      exact installed_mono (hi.used i (show 0 < acc (.use i) by omega))
  · simp only [hload]
    by_cases hwi : win = some i
    · obtain ⟨hni, _, hiN⟩ := hf.won i hwi
      have : ¬ 0 < acc (.load i) := fun h => by simp [installed_iff.2 (Or.inr h)] at hni
      simp only [hwi, if_true]; omega
    · simpa [hwi] using hi.loads i
  · simpa [hv] using hi.views
  · obtain ⟨s1, s2⟩ := hi.sound C hC
    -- a module is installed only for a pending `use`
    have hwinC : ∀ i, win = some i → C i := fun i hwi => by
      obtain ⟨hni, hrem, _⟩ := hf.won i hwi
      rcases s1 i (by rw [sumG_split]; omega) with hp | hc
      · simp [installed, hp] at hni
      · exact hc
    refine ⟨fun i hpos => ?_, fun i hpos => ?_⟩
    · by_cases hold : 0 < sumG (l1 ++ g :: l2) (.use i)
      · exact s1 i hold
      · -- the new pending `use` comes from the body of the module just installed
        rw [sumG_split] at hpos hold
        have hwpos : 0 < winEff w win (.use i) := by have := hf.account (.use i); omega
        cases win with
        | none => exact absurd hwpos (Nat.lt_irrefl 0)
        | some m => exact hC.2 m i (hwinC m rfl) hwpos
    · simp only [hload] at hpos
      by_cases hwi : win = some i
      · exact hwinC i hwi
      · exact s2 i (by simpa [hwi] using hpos)

theorem inv_exec {w : World} (hb : BodiesOk w) {c0 c : Cfg} (hf : Fresh c0.acc)
    (hk : ∀ g ∈ c0.gs, okG w g) (h : Exec w c0 c) : Inv w c0 c := by
  induction h with
  | refl => exact inv_init hf hk
  | step c' c'' _ hs ih => exact inv_step hb ih hs

theorem sumG_terminal {c : Cfg} (h : c.terminal) (k : Key) : sumG c.gs k = 0 := by
  refine List.sum_eq_zero_iff_forall_eq_nat.2 fun x hx => ?_
  obtain ⟨g, hg, rfl⟩ := List.mem_map.1 hx
  simp [remG, curRem, h g hg, effActions, zero]

theorem good_final {w : World} {c0 c : Cfg} (hi : Inv w c0 c) (ht : c.terminal) :
    Good w c0 (fun i => 0 < c.acc (.load i)) := by
  have hacc : ∀ k, c.acc k = c0.acc k + sumG c0.gs k + T w c.acc k := fun k => by
    have := hi.account k
    rw [sumG_terminal ht k] at this
    omega
  have hinst : ∀ i, 0 < c.acc (.use i) → w.pre i = true ∨ 0 < c.acc (.load i) :=
    fun i hpos => installed_iff.1 (hi.used i hpos)
  refine ⟨fun i hpos => hinst i (by rw [hacc]; omega), fun m i hm hpos => hinst i ?_⟩
  have : c.acc (.load m) * loadEff w m (.use i) ≤ T w c.acc (.use i) :=
    sumTo_le (f := fun m => c.acc (.load m) * loadEff w m (.use i)) ((hi.loads m).2 hm)
  have := Nat.mul_pos hm hpos
  rw [hacc]; omega

/-- Confluence: any two executions that run to the end have the same counts and
the same result for every evaluation. -/
theorem unique {w : World} (hb : BodiesOk w) {c0 cA cB : Cfg} (hf : Fresh c0.acc)
    (hk : ∀ g ∈ c0.gs, okG w g)
    (hA : Exec w c0 cA) (hB : Exec w c0 cB) (tA : cA.terminal) (tB : cB.terminal) :
    cA.acc = cB.acc ∧ cA.gs.map view = cB.gs.map view := by
  have iA := inv_exec hb hf hk hA
  have iB := inv_exec hb hf hk hB
  -- each execution loads the least Good set, and each at most once
  have hload : ∀ i, cA.acc (.load i) = cB.acc (.load i) := fun i => by
    have hAB := (iA.sound _ (good_final iB tB)).2 i
    have hBA := (iB.sound _ (good_final iA tA)).2 i
    have := (iA.loads i).1
    have := (iB.loads i).1
    by_cases ha : 0 < cA.acc (.load i)
    · have := hAB ha; omega
    · by_cases hb' : 0 < cB.acc (.load i)
      · have := hBA hb'; omega
      · omega
  refine ⟨funext fun k => ?_, by rw [iA.views, iB.views]⟩
  have a := iA.account k
  have b := iB.account k
  rw [sumG_terminal tA k] at a
  rw [sumG_terminal tB k] at b
  have hT : T w cA.acc k = T w cB.acc k := sumTo_congr fun m _ => by rw [hload m]
  omega

end C39.Conc
