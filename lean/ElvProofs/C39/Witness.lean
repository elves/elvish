import ElvProofs.C39.Sound
import ElvProofs.C39.ConcSerial
import ElvProofs.C39.Cta
/-!
Concrete witnesses.  The lockset tables are shaped like the extracted ones:
mutex 0 = Evaler.mu, variable 0 = the shared variable in question.
-/
namespace C39.Witness
open C39

/-- `Evaler.modules` with the fix: written in NewEvaler (construction), by
AddModule / installModule / uninstallModule under Lock, read by loadedModule and
CheckTree under RLock. -/
def fixedTbl : List (Site Nat Nat) := [
  { var := 0, write := true, held := [], init := true, name := "eval.go:NewEvaler" },
  { var := 0, write := true, held := [(0, true)], init := false, name := "eval.go:Evaler.AddModule" },
  { var := 0, write := false, held := [(0, false)], init := false, name := "eval.go:Evaler.loadedModule" },
  { var := 0, write := false, held := [(0, true)], init := false, name := "eval.go:Evaler.installModule" },
  { var := 0, write := true, held := [(0, true)], init := false, name := "eval.go:Evaler.installModule" },
  { var := 0, write := false, held := [(0, false)], init := false, name := "eval.go:Evaler.CheckTree" }]

/-- `Evaler.modules` as extracted from the tree without the fix. -/
def unfixedTbl : List (Site Nat Nat) := [
  { var := 0, write := false, held := [], init := false, name := "builtin_special.go:use:431" },
  { var := 0, write := false, held := [], init := false, name := "builtin_special.go:useFromFile:457" },
  { var := 0, write := true, held := [], init := false, name := "builtin_special.go:useFromFile:487" },
  { var := 0, write := true, held := [], init := false, name := "builtin_special.go:evalModule:510" },
  { var := 0, write := true, held := [], init := false, name := "builtin_special.go:evalModule:514(delete)" },
  { var := 0, write := true, held := [], init := true, name := "eval.go:NewEvaler:106(composite literal)" },
  { var := 0, write := true, held := [], init := true, name := "eval.go:NewEvaler:139" },
  { var := 0, write := true, held := [(0, true)], init := false, name := "eval.go:Evaler.AddModule:213" },
  { var := 0, write := false, held := [(0, false)], init := false, name := "eval.go:Evaler.CheckTree:424" },
  { var := 0, write := false, held := [], init := false, name := "eval.go:Evaler.CheckTree:426(alias m)" }]

/-- `Ns.slots` (abridged): construction writes, lock-free reads, and the write of `del`. -/
def slotsTbl : List (Site Nat Nat) := [
  { var := 0, write := true, held := [], init := false, name := "builtin_special.go:delLocalVarOp.exec:270" },
  { var := 0, write := true, held := [], init := true, name := "compiler.go:nsOp.prepare:69" },
  { var := 0, write := false, held := [], init := false, name := "compiler.go:nsOp.prepare:66" },
  { var := 0, write := false, held := [], init := false, name := "var_ref.go:derefBase:142" }]

/-- Goroutine 0 constructs (writes x), starts 1 and 2; 1 writes x under Lock,
2 reads x under RLock. -/
def lockedTrace : Trace Nat Nat := [
  ⟨0, .wr 0⟩, ⟨0, .fork 1⟩, ⟨0, .fork 2⟩,
  ⟨1, .acq 0⟩, ⟨1, .wr 0⟩, ⟨1, .rel 0⟩,
  ⟨2, .racq 0⟩, ⟨2, .rd 0⟩, ⟨2, .rrel 0⟩]

/-- Two goroutines write x with no lock (two `evalModule`s installing a module). -/
def racyTrace : Trace Nat Nat := [⟨0, .fork 1⟩, ⟨0, .fork 2⟩, ⟨1, .wr 0⟩, ⟨2, .wr 0⟩]

theorem wf_of_bounded {tr : Trace Nat Nat}
    (h : ∀ i (hi : i < tr.length), enabled (stateAt tr i) tr[i]) : WF tr := by
  intro i s hs
  obtain ⟨hi, rfl⟩ := List.getElem?_eq_some_iff.1 hs
  exact h i hi

theorem lockedTrace_wf : WF lockedTrace := wf_of_bounded (by decide)
theorem racyTrace_wf : WF racyTrace := wf_of_bounded (by decide)

theorem lockedTrace_wffork : WFfork lockedTrace := by
  intro j t ht ht0
  match j, ht with
  | 0, ht | 1, ht | 2, ht => cases ht; exact absurd rfl ht0
  | 3, ht | 4, ht | 5, ht => cases ht; exact ⟨1, 0, by omega, rfl⟩
  | 6, ht | 7, ht | 8, ht => cases ht; exact ⟨2, 0, by omega, rfl⟩
  | n + 9, ht => cases ht

theorem racyTrace_wffork : WFfork racyTrace := by
  intro j t ht ht0
  match j, ht with
  | 0, ht | 1, ht => cases ht; exact absurd rfl ht0
  | 2, ht => cases ht; exact ⟨0, 0, by omega, rfl⟩
  | 3, ht => cases ht; exact ⟨1, 0, by omega, rfl⟩
  | n + 4, ht => cases ht

theorem lockedTrace_conforms : Conforms lockedTrace fixedTbl := by
  intro i s x hs hacc
  match i, hs with
  | 0, hs =>
    cases hs
    cases eq_of_accesses hacc (.inr rfl)
    exact ⟨fixedTbl[0], List.getElem_mem _, rfl, rfl, fun _ => ⟨⟨_, rfl, rfl⟩, nofun⟩, nofun⟩
  | 4, hs =>
    cases hs
    cases eq_of_accesses hacc (.inr rfl)
    exact ⟨fixedTbl[1], List.getElem_mem _, rfl, rfl, nofun, by decide⟩
  | 7, hs =>
    cases hs
    cases eq_of_accesses hacc (.inl rfl)
    exact ⟨fixedTbl[2], List.getElem_mem _, rfl, rfl, nofun, by decide⟩
  | 1, hs | 2, hs | 3, hs | 5, hs | 6, hs | 8, hs => cases hs; rcases hacc with h | h <;> cases h
  | n + 9, hs => cases hs

theorem racyTrace_conforms (tbl : List (Site Nat Nat)) (site : Site Nat Nat)
    (hm : site ∈ tbl) (hv : site.var = 0) (hw : site.write = true) (hi : site.init = false)
    (hh : site.held = []) : Conforms racyTrace tbl := by
  intro i s x hs hacc
  match i, hs with
  | 2, hs | 3, hs =>
    cases hs
    cases eq_of_accesses hacc (.inr rfl)
    exact ⟨site, hm, hv, hw, fun h => (by rw [hi] at h; cases h), fun _ p hp => (by rw [hh] at hp; cases hp)⟩
  | 0, hs | 1, hs => cases hs; rcases hacc with h | h <;> cases h
  | n + 4, hs => cases hs

theorem racyTrace_no_edge_from_2 {i j : Nat} (h : HB racyTrace i j) : i ≠ 2 := by
  induction h with
  | @po i j s t hij hs ht htid =>
    rintro rfl
    cases hs
    match j, ht, hij with
    | 3, ht, _ => cases ht; cases htid
    | n + 4, ht, _ => cases ht
  | unlockLock _ hs | unlockRLock _ hs | runlockLock _ hs | forkE _ hs => rintro rfl; cases hs
  | @joinE i j a g e hij hs ht =>
    rintro rfl
    match j, ht, hij with
    | 3, ht, _ => cases ht
    | n + 4, ht, _ => cases ht
  | trans _ _ ih _ => exact ih

theorem racyTrace_race : Race racyTrace 0 :=
  ⟨2, 3, ⟨1, .wr 0⟩, ⟨2, .wr 0⟩, by omega, rfl, rfl, by decide, Or.inr rfl, Or.inr rfl, Or.inl rfl,
    fun h => racyTrace_no_edge_from_2 h rfl⟩

def prog : List (List Action) :=
  [[.eval [.inc 0 1, .useF 1]], [.eval [.inc 0 2, .flag 1], .call 0 3]]

end C39.Witness

namespace C39.Conc.Witness
open C39 C39.Conc

def prog : List (List Action) :=
  [[.eval [.useF 2, .inc 0 1, .peach 2 [.inc 1 1, .out 7]]],
   [.eval [.useF 3, .flag 1, .out 9], .call 0 5]]

def roundRobin : Nat → List Nat
  | 0 => []
  | n + 1 => 0 :: 1 :: roundRobin n

def init : Cfg := Cfg.init zero prog

def partialProg : List (List Action) :=
  [[.eval [.useF 0, .getF 0]], [.eval [.useF 0, .getF 0]]]

/-- Goroutine 0 installs m0 and is about to run its body; goroutine 1 then
finds the module installed, reads `$m0:x` and returns. -/
def partialSched : List Nat := [0, 0, 0, 1, 1, 1, 1]

theorem fresh_zero : Fresh zero := fun _ => ⟨rfl, rfl, rfl⟩

end C39.Conc.Witness

namespace C39.Cta.Witness
open C39 C39.Cta

/-- The check-then-act table of `Evaler.modules` as extracted from the tree
with fixes/C39-modules-map-lock.patch. -/
def fixedTbl : List CtaSite :=
  [⟨"eval.go:Evaler.AddModule:213", false, true, true, 1, none, false, false⟩,
   ⟨"eval.go:Evaler.installModule:233", false, true, true, 1, some ("eval.go:Evaler.installModule:230", true, 1), true, false⟩,
   ⟨"eval.go:Evaler.uninstallModule:242", true, true, true, 1, some ("eval.go:Evaler.uninstallModule:241", true, 1), true, false⟩,
   ⟨"eval.go:NewEvaler:139", false, true, false, 0, none, false, true⟩]

/-- The same from the tree with the seeded change
seeded/C39-installmodule-check-then-insert (installModule = loadedModule, then AddModule). -/
def seededTbl : List CtaSite :=
  [⟨"eval.go:Evaler.installModule:231(via AddModule)", false, false, false, 0,
      some ("eval.go:Evaler.installModule:228(via loadedModule)", false, 0), true, false⟩,
   ⟨"eval.go:Evaler.AddModule:213", false, true, true, 1, none, true, false⟩,
   ⟨"eval.go:Evaler.uninstallModule:240", true, true, true, 1, some ("eval.go:Evaler.uninstallModule:239", true, 1), true, false⟩,
   ⟨"eval.go:NewEvaler:139", false, true, false, 0, none, false, true⟩]

def goodTrace : List Ev :=
  [.lock 0, .look 0 "eval.go:Evaler.installModule:230" false, .ins 0 "eval.go:Evaler.installModule:233", .unlock 0,
   .lock 1, .look 1 "eval.go:Evaler.installModule:230" true, .unlock 1]

def badTrace : List Ev :=
  [.lock 0, .look 0 "eval.go:Evaler.installModule:230" false, .ins 0 "eval.go:Evaler.installModule:233", .unlock 0,
   .lock 1, .look 1 "eval.go:Evaler.installModule:230" true, .ins 1 "eval.go:Evaler.installModule:233"]

/-- The seeded change: both goroutines look the key up (in loadedModule's
critical section), both find nothing, both insert (in AddModule's). -/
def splitTrace : List Ev :=
  [.lock 0, .look 0 "eval.go:Evaler.loadedModule:220" false, .unlock 0,
   .lock 1, .look 1 "eval.go:Evaler.loadedModule:220" false, .unlock 1,
   .lock 0, .ins 0 "eval.go:Evaler.AddModule:213", .unlock 0,
   .lock 1, .ins 1 "eval.go:Evaler.AddModule:213", .unlock 1]

end C39.Cta.Witness
