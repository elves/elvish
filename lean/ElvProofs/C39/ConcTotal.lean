import ElvProofs.C39.ConcSerial
/-!
The sequential run of a program of the class finishes.  Measure:
(number of modules of the universe not yet installed) × (a bound on the size of
a module body) + (size of what remains of the evaluation); every step of
`pnext` decreases it.
-/
namespace C39.Conc
open C39

mutual
def sizeS : Stmt → Nat
  | .peach n body => n * (sizeL body + 2) + 3
  | .each n body => n * (sizeL body + 4) + 1
  | .par b1 b2 => sizeL b1 + sizeL b2 + 5
  | .useF _ => 3
  | .useB _ => 3
  | .inc _ _ => 1
  | .flag _ => 1
  | .out _ => 1
  | .useStr => 1
  | .getF _ => 1
  | .getB _ => 1
  | .var _ _ => 1
  | .ref _ => 1
  | .del _ => 1
def sizeL : List Stmt → Nat
  | [] => 0
  | s :: ss => sizeS s + sizeL ss
end

def psize : Proc → Nat
  | .code ss _ => sizeL ss + 1
  | .inst _ ss _ => sizeL ss + 2
  | .seq p _ ss _ => psize p + sizeL ss + 2
  | .par a b => psize a + psize b + 1

theorem sizeL_cons (s : Stmt) (ss : List Stmt) : sizeL (s :: ss) = sizeS s + sizeL ss := rfl

theorem psize_parN (n : Nat) (body : List Stmt) (e : Env) : psize (parN n body e) = n * (sizeL body + 2) + 1 := by
  induction n with
  | zero => simp [parN, psize, sizeL]
  | succ n ih => simp only [parN, psize, ih, Nat.add_one_mul]; omega

theorem psize_pos (p : Proc) : 0 < psize p := by cases p <;> simp [psize]

theorem sizeS_use {s : Stmt} {i : Nat} (h : stmtUse s = some i) : sizeS s = 3 := by
  cases s <;> cases h <;> rfl

theorem sizeS_pos (s : Stmt) : 0 < sizeS s := by cases s <;> simp [sizeS]

def winSize (w : World) : Option Nat → Nat
  | none => 0
  | some i => sizeL (w.body i) + 2

variable {w : World} {acc : Acc} {p : Proc} {d : Acc} {em : List Out} {win : Option Nat} {p' : Proc}

theorem pstep_size (h : PStep w acc p d em win p') : psize p' < psize p + winSize w win := by
  induction h with
  | useHit s i ss e hs | useMiss s i ss e hs => simp only [psize, sizeL_cons, sizeS_use hs, winSize]; omega
  | get s => have := sizeS_pos s; simp only [psize, sizeL_cons, winSize]; omega
  | peach => simp only [psize, sizeL_cons, sizeS, psize_parN, winSize]; omega
  | eachSucc => simp only [psize, sizeL_cons, sizeS, Nat.add_one_mul, winSize]; omega
  | seqOut p => have := psize_pos p; simp only [psize, winSize]; omega
  | seqIn _ _ _ _ _ _ _ _ _ ih | parL _ _ _ _ _ _ _ ih | parR _ _ _ _ _ _ _ ih => simp only [psize]; omega
  | _ => simp [psize, sizeL_cons, sizeS, winSize] <;> omega

def uninst (w : World) (acc : Acc) : Nat := sumTo w.N (fun i => if installed w acc i then 0 else 1)

theorem uninst_le (w : World) (acc : Acc) : uninst w acc ≤ w.N :=
  sumTo_le_n (fun m _ => by split <;> omega)

def bodyBound (w : World) : Nat := sumTo w.N (fun i => sizeL (w.body i)) + 2

theorem winSize_le {w : World} {i : Nat} (hi : i < w.N) : winSize w (some i) ≤ bodyBound w := by
  have := sumTo_le (f := fun i => sizeL (w.body i)) hi
  simp only [bodyBound, winSize]; omega

theorem installed_congr {w : World} {acc d : Acc} {m : Nat} (h : d (.load m) = 0) :
    installed w (fun k => acc k + d k) m = installed w acc m := by
  simp [installed, h]

theorem pstep_measure (h : PStep w acc p d em win p') {b : Bool} (hk : okP w b p) :
    uninst w (fun k => acc k + d k) * bodyBound w + psize p' < uninst w acc * bodyBound w + psize p := by
  have hs := pstep_size h
  have hl := pstep_load h
  cases win with
  | none =>
    have hu : uninst w (fun k => acc k + d k) = uninst w acc :=
      sumTo_congr fun m _ => by rw [installed_congr (by simp [hl])]
    rw [hu]; exact Nat.add_lt_add_left hs _
  | some i =>
    obtain ⟨hni, _, hN⟩ := pstep_win h rfl
    -- module `i` was not installed and now is; nothing else has changed
    have hu : uninst w acc = uninst w (fun k => acc k + d k) + 1 := by
      refine sumTo_point (hN b hk) ?_ fun m _ hm => ?_
      · have : installed w (fun k => acc k + d k) i = true := installed_iff.2 (Or.inr (by simp [hl]))
        simp [hni, this]
      · rw [installed_congr (by simp [hl, Ne.symm hm])]
    have := winSize_le (hN b hk)
    rw [hu, Nat.add_one_mul]
    omega

theorem runProc_total {w : World} (hb : BodiesOk w) :
    ∀ (n : Nat) (acc : Acc) (p : Proc) (outs : List Out) (b : Bool),
      okP w b p → uninst w acc * bodyBound w + psize p < n → ∃ r, runProc w n acc p outs = some r
  | 0, _, _, _, _, _, h => by omega
  | n + 1, acc, p, outs, b, hk, hm => by
    rw [runProc]
    cases hn : pnext w acc p with
    | none => exact ⟨_, rfl⟩
    | some r =>
      obtain ⟨d, em, win, p'⟩ := r
      have hs := pnext_some hn
      have := pstep_measure hs hk
      exact runProc_total hb n _ p' _ b (okP_step hb hs b hk) (by omega)

def sizeA : Action → Nat
  | .eval ss => sizeL ss + 1
  | .evalPriv ss => sizeL ss + 1
  | .call _ _ => 2
  | .check _ => 1

theorem psize_startOf (a : Action) (env : Env) : psize (startOf a env).proc ≤ sizeA a := by
  cases a with
  | eval ss | evalPriv ss => simp only [startOf]; split <;> simp [psize, sizeA, sizeL]
  | call c k | check n => exact Nat.le_refl _

theorem runActions_total {w : World} (hb : BodiesOk w) (fuel : Nat) : ∀ (as : List Action) (acc : Acc) (g : GState),
    (∀ a ∈ as, okAction w a = true ∧ w.N * bodyBound w + sizeA a < fuel) →
    ∃ r, runActions w fuel as acc g = some r
  | [], _, _, _ => ⟨_, rfl⟩
  | a :: as, acc, g, h => by
    obtain ⟨hok, hf⟩ := h a (.head _)
    have hm : uninst w acc * bodyBound w + psize (startOf a g.env).proc < fuel := by
      have h1 := psize_startOf a g.env
      have h2 := Nat.mul_le_mul_right (bodyBound w) (uninst_le w acc)
      omega
    obtain ⟨r, hr⟩ := runProc_total hb fuel acc _ [] false (okP_startOf hok g.env) hm
    rw [runActions, hr]
    exact runActions_total hb fuel as _ _ fun a' ha' => h a' (.tail _ ha')

theorem runGoroutines_total {w : World} (hb : BodiesOk w) (fuel : Nat) : ∀ (rest : List GState) (acc : Acc) (done : List GState),
    (∀ g ∈ rest, ∀ a ∈ g.todo, okAction w a = true ∧ w.N * bodyBound w + sizeA a < fuel) →
    ∃ c, runGoroutines w fuel rest acc done = some c
  | [], _, _, _ => ⟨_, rfl⟩
  | g :: rest, acc, done, h => by
    obtain ⟨r, hr⟩ := runActions_total hb fuel g.todo acc g (h g (.head _))
    rw [runGoroutines, hr]
    exact runGoroutines_total hb fuel rest _ _ fun g' hg' => h g' (.tail _ hg')

def fuelFor (w : World) (prog : List (List Action)) : Nat :=
  w.N * bodyBound w + (prog.map (fun g => (g.map sizeA).sum)).sum + 1

theorem le_sum_map {α : Type} (f : α → Nat) {a : α} {l : List α} (h : a ∈ l) : f a ≤ (l.map f).sum := by
  induction h with
  | head => rw [List.map_cons, List.sum_cons]; omega
  | tail _ _ ih => rw [List.map_cons, List.sum_cons]; omega

theorem serialRun_total {w : World} {prog : List (List Action)} (h : inClass w prog = true) (acc : Acc) :
    (serialRun w (fuelFor w prog) acc prog).isSome = true := by
  obtain ⟨hb, hk⟩ := inClass_spec h acc
  obtain ⟨c, hc⟩ := runGoroutines_total hb (fuelFor w prog) (prog.map GState.init) acc [] (by
    intro g hg a ha
    obtain ⟨as, has, rfl⟩ := List.mem_map.1 hg
    refine ⟨List.all_eq_true.1 (hk _ hg).2 a ha, ?_⟩
    have h1 := le_sum_map sizeA ha
    have h2 := le_sum_map (fun g => (g.map sizeA).sum) has
    simp only [fuelFor, GState.init] at h1 ⊢; omega)
  rw [serialRun, hc]; rfl

end C39.Conc
