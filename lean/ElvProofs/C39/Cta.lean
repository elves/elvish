import ElvModel.C39.CheckThenAct
/-!
The test-and-set discipline gives at-most-once insertion.
-/
namespace C39.Cta
open C39

/-- Nothing installed was ever overwritten; insertions and deletions alternate;
a pending guard of the mutex holder still tells the truth. -/
def Inv (s : State) : Prop :=
  s.overwrites = 0 ∧
  s.inserts = s.deletes + (if s.present then 1 else 0) ∧
  ∀ n b, s.armed = some (n, b) → s.holder.isSome = true ∧ b = s.present

theorem inv_init : Inv init := ⟨rfl, rfl, by intro n b h; cases h⟩

def AllTas (tbl : List CtaSite) : Prop := ∀ e ∈ tbl, e.live = true → e.atomic = true

theorem allTas_of_check {tbl : List CtaSite} (h : ctaCheck tbl = .tas) : AllTas tbl := by
  unfold ctaCheck at h
  split at h
  · split at h <;> cases h
  · rename_i hn
    intro e he hl
    have := List.find?_eq_none.1 hn e he
    simpa [hl] using this

theorem permitted_atomic {tbl : List CtaSite} (ht : AllTas tbl) {s : State} {g : Nat} {site : String} {del : Bool}
    (h : permitted tbl s g site del = true) :
    s.holder = some g ∧ ∃ an, s.armed = some (an, del) := by
  unfold permitted at h
  split at h
  · cases h
  · rename_i e he
    have hmem := List.mem_of_find?_eq_some he
    have hp := List.find?_some he
    simp only [Bool.and_eq_true] at hp
    have hat := ht e hmem hp.2
    rw [if_pos hat] at h
    simp only [Bool.and_eq_true, beq_iff_eq] at h
    refine ⟨h.1, ?_⟩
    have h2 := h.2
    split at h2
    · rename_i gn _ _ an found _ _
      simp only [Bool.and_eq_true, beq_iff_eq] at h2
      exact ⟨an, by rw [‹s.armed = _›, h2.2]⟩
    · cases h2

theorem inv_step {tbl : List CtaSite} (ht : AllTas tbl) {s s' : State} {e : Ev}
    (hi : Inv s) (h : step tbl s e = some s') : Inv s' := by
  obtain ⟨h1, h2, h3⟩ := hi
  cases e with
  | lock g | unlock g =>
    simp only [step] at h
    split at h <;> cases h
    exact ⟨h1, h2, nofun⟩
  | look g site found =>
    simp only [step] at h
    split at h <;> cases h
    rename_i hf
    split
    · rename_i hh
      refine ⟨h1, h2, fun n b hnb => ?_⟩
      cases hnb
      exact ⟨by simp [beq_iff_eq.1 hh], beq_iff_eq.1 hf⟩
    · exact ⟨h1, h2, h3⟩
  | ins g site =>
    simp only [step] at h
    split at h <;> cases h
    rename_i hp
    obtain ⟨hh, an, ha⟩ := permitted_atomic ht hp
    have hpres : s.present = false := (h3 an false ha).2.symm
    exact ⟨by simp [h1, hpres], by simp [h2, hpres], by simp [hh]⟩
  | del g site =>
    simp only [step] at h
    split at h <;> cases h
    rename_i hp
    obtain ⟨hh, an, ha⟩ := permitted_atomic ht hp
    have hpres : s.present = true := (h3 an true ha).2.symm
    exact ⟨h1, by simp [h2, hpres], by simp [hh]⟩

theorem inv_run {tbl : List CtaSite} (ht : AllTas tbl) : ∀ (tr : List Ev) (s s' : State),
    Inv s → run tbl s tr = some s' → Inv s'
  | [], s, s', hi, h => by simp only [run, Option.some.injEq] at h; subst h; exact hi
  | e :: es, s, s', hi, h => by
    simp only [run] at h
    split at h
    · rename_i s1 hs
      exact inv_run ht es s1 s' (inv_step ht hi hs) h
    · cases h

end C39.Cta
