import ElvModel.C39.Concurrent
/-!
What one atomic step of an evaluation does to the static account of what
remains (`rem`), to the counts, to the outputs, and to the class invariant `okP`.
-/
namespace C39.Conc
open C39

theorem single_self (k : Key) (v : Nat) : single k v k = v := if_pos rfl
theorem single_ne {k k' : Key} (v : Nat) (h : k' ≠ k) : single k v k' = 0 := if_neg h

theorem single_pos {k k' : Key} {v : Nat} (h : 0 < single k v k') : k' = k :=
  Decidable.by_contra fun hk => by rw [single_ne v hk] at h; omega

theorem single_out_count (o' o : Out) : single (.out o') 1 (.out o) = [o'].count o := by
  by_cases h : o' = o
  · subst h; rw [single_self, List.count_singleton_self]
  · rw [single_ne 1 fun hk => h (Key.out.inj hk).symm]; simp [h]

theorem installed_iff {w : World} {acc : Acc} {i : Nat} :
    installed w acc i = true ↔ w.pre i = true ∨ 0 < acc (.load i) := by
  simp [installed, Nat.pos_iff_ne_zero]

theorem installed_mono {w : World} {acc d : Acc} {i : Nat} (h : installed w acc i = true) :
    installed w (fun k => acc k + d k) i = true := by
  simp only [installed_iff] at h ⊢
  exact h.imp_right fun h => by omega

theorem effL_nil (e : Env) (k : Key) : effL [] e k = 0 := rfl
theorem effL_cons (s : Stmt) (ss : List Stmt) (e : Env) (k : Key) :
    effL (s :: ss) e k = effS s e k + effL ss (envS s e) k := rfl

theorem rem_parN (n : Nat) (body : List Stmt) (e : Env) (k : Key) :
    rem (parN n body e) k = n * effL body e k := by
  induction n with
  | zero => simp [parN, rem, effL_nil]
  | succ n ih => simp only [parN, rem, ih, Nat.succ_mul]; omega

theorem rem_done : ∀ {p : Proc}, p.isDone = true → ∀ k, rem p k = 0
  | .code [] _, _, _ => rfl
  | .par a b, h, k => by
    simp only [Proc.isDone, Bool.and_eq_true] at h
    simp [rem, rem_done h.1, rem_done h.2]

theorem effS_use {s : Stmt} {i : Nat} (h : stmtUse s = some i) (e : Env) :
    effS s e = single (.use i) 1 := by
  cases s <;> cases h <;> rfl

theorem envS_use {s : Stmt} {i : Nat} (h : stmtUse s = some i) (e : Env) : envS s e = e := by
  cases s <;> cases h <;> rfl

theorem effS_get {s : Stmt} {i : Nat} (h : stmtGet s = some i) (e : Env) :
    effS s e = single (.out (some (modX i))) 1 := by
  cases s <;> cases h <;> rfl

theorem envS_get {s : Stmt} {i : Nat} (h : stmtGet s = some i) (e : Env) : envS s e = e := by
  cases s <;> cases h <;> rfl

/-- Everything that remains is in the class; `b` = we are inside a module body. -/
def okP (w : World) : Bool → Proc → Prop
  | b, .code ss _ => okL w b ss = true
  | b, .inst i ss _ => i < w.N ∧ okL w b ss = true
  | b, .seq p fin ss _ => okP w (b || fin.isSome) p ∧ okL w b ss = true ∧ (∀ i, fin = some i → i < w.N)
  | b, .par a c => okP w b a ∧ okP w b c

def BodiesOk (w : World) : Prop := ∀ i, i < w.N → okL w true (w.body i) = true

theorem okL_cons {w : World} {b : Bool} {s : Stmt} {ss : List Stmt} :
    okL w b (s :: ss) = true ↔ okS w b s = true ∧ okL w b ss = true :=
  Bool.and_eq_true_iff

theorem okP_parN {w : World} {b : Bool} {body : List Stmt} (h : okL w b body = true) (e : Env) :
    ∀ n, okP w b (parN n body e)
  | 0 => rfl
  | n + 1 => ⟨h, okP_parN h e n⟩

theorem okS_use {w : World} {b : Bool} {s : Stmt} {i : Nat} (h : stmtUse s = some i)
    (hk : okS w b s = true) : i < w.N := by
  cases s <;> cases h <;> exact of_decide_eq_true hk

theorem okS_get {w : World} {b : Bool} {s : Stmt} {i : Nat} (h : stmtGet s = some i)
    (hk : okS w b s = true) : w.pre i = true := by
  cases s <;> cases h <;> exact (Bool.and_eq_true_iff.1 hk).2

variable {w : World} {acc : Acc} {p : Proc} {d : Acc} {em : List Out} {win : Option Nat} {p' : Proc}

theorem okP_step (hb : BodiesOk w) (h : PStep w acc p d em win p') : ∀ b, okP w b p → okP w b p' := by
  induction h with
  | useMiss _ _ _ _ hs => intro b hk; exact ⟨okS_use hs (okL_cons.1 hk).1, (okL_cons.1 hk).2⟩
  | instLost => intro b hk; exact hk.2
  | instWin i => intro b hk; exact ⟨by simpa [okP] using hb i hk.1, hk.2, fun j hj => by cases hj; exact hk.1⟩
  | peach n body ss e =>
    intro b hk
    obtain ⟨h1, h2⟩ := okL_cons.1 hk
    exact ⟨okP_parN (by simpa [okS] using h1) e n, h2, nofun⟩
  | eachSucc n body ss e =>
    intro b hk
    obtain ⟨h1, h2⟩ := okL_cons.1 hk
    have hbody : okL w b body = true := by simpa [okS] using h1
    exact ⟨by simpa [okP] using hbody, okL_cons.2 ⟨h1, h2⟩, nofun⟩
  | parS b1 b2 ss e =>
    intro b hk
    obtain ⟨h1, h2⟩ := okL_cons.1 hk
    have h12 : okL w b b1 = true ∧ okL w b b2 = true := by simpa [okS] using h1
    exact ⟨by simpa [okP] using h12, h2, nofun⟩
  | seqIn _ _ _ _ _ _ _ _ _ ih => intro b hk; exact ⟨ih _ hk.1, hk.2⟩
  | seqOut => intro b hk; exact hk.2.1
  | parL _ _ _ _ _ _ _ ih => intro b hk; exact ⟨ih _ hk.1, hk.2⟩
  | parR _ _ _ _ _ _ _ ih => intro b hk; exact ⟨hk.1, ih _ hk.2⟩
  | _ => intro b hk; exact (okL_cons.1 hk).2

/-- Needs the class: `$m:x` is only read from preloaded modules. -/
theorem pstep_rem (h : PStep w acc p d em win p') :
    ∀ b, okP w b p → ∀ k, rem p k + winEff w win k = d k + rem p' k := by
  induction h with
  | useHit s i ss e hs | useMiss s i ss e hs =>
    intro b _ k; simp [rem, effL_cons, effS_use hs, envS_use hs, winEff, zero]
  | get s i ss e hs =>
    intro b hk k
    have hr : ready w acc i = true := by simp [ready, okS_get hs (okL_cons.1 hk).1]
    simp [rem, effL_cons, effS_get hs, envS_get hs, winEff, zero, hr]
  | instWin => intro b _ k; simp only [rem, winEff, loadEff, finKey]; omega
  | refSome n v ss e hv | refNone n ss e hv =>
    intro b _ k; simp [rem, effL_cons, effS, envS, winEff, zero, hv]
  | peach => intro b _ k; simp [rem, effL_cons, effS, envS, winEff, zero, rem_parN, finKey]
  | eachSucc =>
    intro b _ k
    simp only [rem, effL_cons, effS, envS, winEff, zero, finKey, Nat.succ_mul]
    omega
  | seqOut p fin ss e hd => intro b _ k; simp [rem, rem_done hd, winEff, zero]
  | seqIn _ _ _ _ _ _ _ _ _ ih | parL _ _ _ _ _ _ _ ih =>
    intro b hk k; have := ih _ hk.1 k; simp only [rem]; omega
  | parR _ _ _ _ _ _ _ ih => intro b hk k; have := ih _ hk.2 k; simp only [rem]; omega
  | _ => intro b _ k; simp [rem, effL_cons, effS, envS, winEff, zero, finKey]

theorem pstep_out (h : PStep w acc p d em win p') :
    ∀ o, d (.out o) = em.count o := by
  induction h with
  | out | get | refSome => exact single_out_count _
  | seqOut _ fin => intro o; cases fin <;> simp [finKey, single, zero]
  | seqIn _ _ _ _ _ _ _ _ _ ih | parL _ _ _ _ _ _ _ ih | parR _ _ _ _ _ _ _ ih => exact ih
  | _ => intro o; simp [single, zero]

theorem pstep_load (h : PStep w acc p d em win p') :
    ∀ m, d (.load m) = if win = some m then 1 else 0 := by
  induction h with
  | instWin i => intro m; simp [single, eq_comm]
  | seqOut _ fin => intro m; cases fin <;> simp [finKey, single, zero]
  | seqIn _ _ _ _ _ _ _ _ _ ih | parL _ _ _ _ _ _ _ ih | parR _ _ _ _ _ _ _ ih => exact ih
  | _ => intro m; simp [single, zero]

theorem pstep_win (h : PStep w acc p d em win p') {i : Nat} (hw : win = some i) :
    installed w acc i = false ∧ 1 ≤ rem p (.use i) ∧ ∀ b, okP w b p → i < w.N := by
  induction h with
  | instWin j ss e hj => cases hw; exact ⟨hj, by simp [rem, single], fun b hk => hk.1⟩
  | seqIn _ _ _ _ _ _ _ _ _ ih | parL _ _ _ _ _ _ _ ih =>
    obtain ⟨h1, h2, h3⟩ := ih hw
    exact ⟨h1, by simp only [rem]; omega, fun b hk => h3 _ hk.1⟩
  | parR _ _ _ _ _ _ _ ih =>
    obtain ⟨h1, h2, h3⟩ := ih hw
    exact ⟨h1, by simp only [rem]; omega, fun b hk => h3 _ hk.2⟩
  | _ => cases hw

theorem pstep_use (h : PStep w acc p d em win p') :
    ∀ i, 0 < d (.use i) → installed w (fun k => acc k + d k) i = true := by
  induction h with
  | useHit _ _ _ _ _ hi | instLost _ _ _ hi =>
    intro j hj; cases single_pos hj; exact installed_mono hi
  | instWin i =>
    intro j hj
    have hj : 0 < single (.use i) 1 (.use j) + single (.load i) 1 (.use j) := hj
    rw [single_ne (k := .load i) 1 (by simp), Nat.add_zero] at hj
    cases single_pos hj
    exact installed_iff.2 (Or.inr (by simp only [single_self]; omega))
  | seqIn _ _ _ _ _ _ _ _ _ ih | parL _ _ _ _ _ _ _ ih | parR _ _ _ _ _ _ _ ih => exact ih
  | seqOut _ fin => intro j hj; cases fin <;> simp [finKey, single, zero] at hj
  | _ => intro j hj; simp [single, zero] at hj

theorem pstep_finalEnv (h : PStep w acc p d em win p') : finalEnv p' = finalEnv p := by
  cases h with
  | useHit s i ss e hs | useMiss s i ss e hs => simp only [finalEnv, List.foldl_cons, envS_use hs]
  | get s i ss e hs => simp only [finalEnv, List.foldl_cons, envS_get hs]
  | _ => rfl

end C39.Conc
