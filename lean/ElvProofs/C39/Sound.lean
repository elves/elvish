import ElvProofs.C39.Locks
/-!
Lockset soundness for one variable: a common mutex orders conflicting accesses
(by the hand-over lemmas), and construction phase accesses happen before
everything other goroutines do (by the fork edges).
-/
namespace C39
set_option linter.unusedSectionVars false
variable {L V : Type} [DecidableEq L] [DecidableEq V]

theorem eq_of_accesses {e : Ev L V} {x y : V} (hx : e.accesses x) (hy : e.accesses y) : x = y := by
  rcases hx with rfl | rfl <;> rcases hy with h | h <;> cases h <;> rfl

theorem not_fork_of_accesses {e : Ev L V} {x : V} (h : e.accesses x) : e.isFork = false := by
  rcases h with rfl | rfl <;> rfl

theorem lock_orders {tr : Trace L V} (hwf : WF tr) {i j : Nat} {s t : Step L V} {m : L}
    (hij : i < j) (hs : tr[i]? = some s) (ht : tr[j]? = some t) (hne : s.tid ≠ t.tid)
    (h : (holdsEx (stateAt tr i) s.tid m ∧ holdsAny (stateAt tr j) t.tid m) ∨
         (holdsAny (stateAt tr i) s.tid m ∧ holdsEx (stateAt tr j) t.tid m)) :
    HB tr i j := by
  obtain ⟨d, rfl⟩ := Nat.exists_eq_add_of_le (Nat.le_of_lt hij)
  -- `s`'s goroutine released `m` at `k`, `t`'s acquired it at `q`
  obtain ⟨k, q, ek, eq, hik, hqj, hk, hq, hkq⟩ :
      ∃ k q ek eq, i ≤ k ∧ q < i + d ∧ tr[k]? = some ⟨s.tid, ek⟩ ∧ tr[q]? = some ⟨t.tid, eq⟩ ∧ HB tr k q := by
    rcases h with ⟨h1, h2⟩ | ⟨h1, h2⟩
    · exact handover_from_writer hwf (Ne.symm hne) h1 h2
    · exact handover_to_writer hwf (Ne.symm hne) h1 h2
  have hiq : HB tr i q := (Nat.eq_or_lt_of_le hik).elim (· ▸ hkq) fun h => .trans (.po h hs hk rfl) hkq
  exact .trans hiq (.po hqj hq ht rfl)

theorem tid_of_initPhase {tr : Trace L V} {i : Nat} {s : Step L V} (hinit : InitPhase tr i)
    (hs : tr[i]? = some s) : s.tid = 0 := by
  obtain ⟨⟨s', hs', h0⟩, _⟩ := hinit
  cases hs.symm.trans hs'; exact h0

theorem init_before_all {tr : Trace L V} (hf : WFfork tr) {i : Nat} {s : Step L V}
    (hs : tr[i]? = some s) (hnf : s.ev.isFork = false) (hinit : InitPhase tr i) :
    ∀ j (t : Step L V), i < j → tr[j]? = some t → t.tid ≠ 0 → HB tr i j := by
  intro j
  induction j using Nat.strongRecOn with
  | ind j ih =>
    intro t hij ht ht0
    -- `t`'s goroutine was created at `f`, after the construction phase
    obtain ⟨f, p, hfj, hfork⟩ := hf j t ht ht0
    have hif : i < f := by
      refine Nat.lt_of_le_of_ne (Nat.le_of_not_lt fun h => ?_) fun h => ?_
      · simpa [Ev.isFork] using hinit.2 f _ h hfork
      · subst h; cases hs.symm.trans hfork; simp [Ev.isFork] at hnf
    have hfj' : HB tr f j := .forkE (e := t.ev) hfj hfork ht
    by_cases hp : p = 0
    · exact .trans (.po hif hs hfork ((tid_of_initPhase hinit hs).trans hp.symm)) hfj'
    · exact .trans (ih f hfj ⟨p, .fork t.tid⟩ hif hfork hp) hfj'

theorem nothing_before_init {tr : Trace L V} (hf : WFfork tr) {i j : Nat} {s : Step L V}
    (hij : i < j) (hs : tr[i]? = some s) (hs0 : s.tid ≠ 0) (hinit : InitPhase tr j) : False := by
  obtain ⟨f, p, hfi, hfork⟩ := hf i s hs hs0
  simpa [Ev.isFork] using hinit.2 f _ (by omega) hfork

theorem checkVar_good {tbl : List (Site L V)} {x : V} {cands : List L}
    (h : (checkVar tbl x cands).good = true) :
    immutableAfterInit tbl x = true ∨ ∃ m, protectedBy tbl x m = true := by
  unfold checkVar at h
  split at h
  · left; assumption
  · right
    split at h
    · rename_i m hm
      exact ⟨m, by simpa using List.find?_some hm⟩
    · exfalso
      split at h
      · simp [Verdict.good] at h
      · split at h <;> simp [Verdict.good] at h

theorem mem_sitesOf {tbl : List (Site L V)} {x : V} {s : Site L V} (h : s ∈ tbl) (hx : s.var = x) :
    s ∈ sitesOf tbl x :=
  List.mem_filter.2 ⟨h, by simp [hx]⟩

theorem holds_of_guardedBy {site : Site L V} {m : L} {σ : Locks L} {t : Tid}
    (hH : ∀ p ∈ site.held, (p.2 = true → holdsEx σ t p.1) ∧ holdsAny σ t p.1)
    (g : site.guardedBy m = true) : holdsAny σ t m ∧ (site.write = true → holdsEx σ t m) := by
  unfold Site.guardedBy at g
  split at g
  · obtain ⟨p, hp, hq⟩ := List.any_eq_true.1 g
    obtain ⟨rfl, h2⟩ : p.1 = m ∧ p.2 = true := by simpa using hq
    exact ⟨(hH p hp).2, fun _ => (hH p hp).1 h2⟩
  · obtain ⟨p, hp, hq⟩ := List.any_eq_true.1 g
    obtain rfl : p.1 = m := by simpa using hq
    exact ⟨(hH p hp).2, fun hw => absurd hw ‹_›⟩

theorem no_race_of_protected {tbl : List (Site L V)} {x : V}
    (hv : immutableAfterInit tbl x = true ∨ ∃ m, protectedBy tbl x m = true)
    {tr : Trace L V} (hwf : WF tr) (hf : WFfork tr) (hc : Conforms tr tbl) : ¬ Race tr x := by
  rintro ⟨i, j, s, t, hij, hs, ht, hne, hsa, hta, hw, hnhb⟩
  apply hnhb
  obtain ⟨si, hsi, hsix, hsiw, hsiI, hsiH⟩ := hc i s x hs hsa
  obtain ⟨sj, hsj, hsjx, hsjw, hsjI, hsjH⟩ := hc j t x ht hta
  -- construction-phase sites first
  by_cases hiI : si.init = true
  · have hs0 := tid_of_initPhase (hsiI hiI) hs
    exact init_before_all hf hs (not_fork_of_accesses hsa) (hsiI hiI) j t hij ht (by rw [← hs0]; exact Ne.symm hne)
  by_cases hjI : sj.init = true
  · have ht0 := tid_of_initPhase (hsjI hjI) ht
    exact (nothing_before_init hf hij hs (by rw [← ht0]; exact hne) (hsjI hjI)).elim
  rw [Bool.not_eq_true] at hiI hjI
  rcases hv with himm | ⟨m, hm⟩
  · -- immutable after publication: the writing site would be a construction site
    have hi := List.all_eq_true.1 himm si (mem_sitesOf hsi hsix)
    have hj := List.all_eq_true.1 himm sj (mem_sitesOf hsj hsjx)
    rw [hsiw, hiI] at hi
    rw [hsjw, hjI] at hj
    rcases hw with hw | hw
    · simp [hw] at hi
    · simp [hw] at hj
  · have gi := List.all_eq_true.1 hm si (mem_sitesOf hsi hsix)
    have gj := List.all_eq_true.1 hm sj (mem_sitesOf hsj hsjx)
    rw [hiI, Bool.false_or] at gi
    rw [hjI, Bool.false_or] at gj
    obtain ⟨ai, ei⟩ := holds_of_guardedBy (hsiH hiI) gi
    obtain ⟨aj, ej⟩ := holds_of_guardedBy (hsjH hjI) gj
    rcases hw with hw | hw
    · exact lock_orders hwf hij hs ht hne (.inl ⟨ei (hsiw.trans hw), aj⟩)
    · exact lock_orders hwf hij hs ht hne (.inr ⟨ai, ej (hsjw.trans hw)⟩)

end C39
