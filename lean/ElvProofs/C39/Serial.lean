import ElvModel.C39.Programs
/-!
The effects of the generated programs form a commutative monoid, so applying
them in any order gives the same shared state.
-/
namespace C39

theorem Shared.add_comm (a b : Shared) : a.add b = b.add a := by
  cases a; cases b
  simp only [Shared.add, Shared.mk.injEq]
  refine ⟨?_, ?_, ?_⟩ <;> funext n
  · exact Nat.add_comm _ _
  · exact Bool.or_comm _ _
  · exact Bool.or_comm _ _

theorem Shared.add_assoc (a b c : Shared) : (a.add b).add c = a.add (b.add c) := by
  cases a; cases b; cases c
  simp only [Shared.add, Shared.mk.injEq]
  refine ⟨?_, ?_, ?_⟩ <;> funext n
  · exact Nat.add_assoc _ _ _
  · exact Bool.or_assoc _ _ _
  · exact Bool.or_assoc _ _ _

theorem Shared.zero_add (a : Shared) : Shared.zero.add a = a := by
  cases a
  simp [Shared.add, Shared.zero]

theorem Shared.add_zero (a : Shared) : a.add Shared.zero = a := by
  rw [Shared.add_comm, Shared.zero_add]

theorem foldl_add_start (l : List Shared) (a b : Shared) :
    l.foldl Shared.add (a.add b) = a.add (l.foldl Shared.add b) := by
  induction l generalizing b with
  | nil => rfl
  | cons x xs ih =>
    simp only [List.foldl_cons]
    rw [Shared.add_assoc, ih]

theorem applyAll_append (l₁ l₂ : List Shared) :
    applyAll (l₁ ++ l₂) = (applyAll l₁).add (applyAll l₂) := by
  unfold applyAll
  rw [List.foldl_append, ← foldl_add_start, Shared.add_zero]

theorem applyAll_cons (x : Shared) (l : List Shared) : applyAll (x :: l) = x.add (applyAll l) := by
  unfold applyAll
  rw [List.foldl_cons, Shared.zero_add, ← foldl_add_start, Shared.add_zero]

theorem runGoroutine_effects (as : List Action) (e : Env) :
    (runGoroutine as e).1 = applyAll (goroutineEffects as e) := by
  induction as generalizing e with
  | nil => rfl
  | cons a as ih =>
    simp only [runGoroutine, goroutineEffects]
    rw [applyAll_cons, ← ih]

theorem runAll_effects (gs : List (List Action)) : (runAll gs).1 = applyAll (effects gs) := by
  induction gs with
  | nil => rfl
  | cons g gs ih =>
    simp only [runAll, effects, List.map_cons, List.flatten_cons]
    rw [applyAll_append, ← runGoroutine_effects]
    congr 1

end C39
