import ElvModel.C39.UseProtocol
/-!
The invariant of the `use` protocol with the re-check.
-/
namespace C39.Use

def Agrees (inst : Option Nat) : Pc → Prop
  | .running ns | .done ns => inst = some ns
  | _ => True

def Inv (s : State) : Prop :=
  s.execs = (if s.installed.isSome then 1 else 0) ∧ ∀ pc ∈ s.pcs, Agrees s.installed pc

theorem inv_init (n : Nat) : Inv (init n) :=
  ⟨rfl, fun pc h => by cases List.eq_of_mem_replicate h; trivial⟩

theorem agrees_set {l : List Pc} {inst : Option Nat} {g : Nat} {pc : Pc}
    (h : ∀ pc ∈ l, Agrees inst pc) (hpc : Agrees inst pc) : ∀ pc' ∈ l.set g pc, Agrees inst pc' :=
  fun pc' hm => (List.mem_or_eq_of_mem_set hm).elim (h pc') (· ▸ hpc)

theorem inv_step (s : State) (g : Nat) (h : Inv s) : Inv (step true s g) := by
  obtain ⟨h1, h2⟩ := h
  unfold step
  split
  · split
    · exact ⟨h1, agrees_set h2 ‹_›⟩
    · exact ⟨h1, agrees_set h2 trivial⟩
  · split
    · exact ⟨h1, agrees_set h2 ‹_›⟩
    · -- nothing is installed, so no goroutine is running the body or has returned
      rename_i hne
      have hnone : s.installed = none := by
        cases hi : s.installed with
        | none => rfl
        | some ns => exact (hne ns rfl hi).elim
      refine ⟨by simp [h1, hnone], agrees_set (fun pc hpc => ?_) rfl⟩
      have := h2 pc hpc
      rw [hnone] at this
      cases pc <;> first | trivial | cases this
  · rename_i ns hrun
    exact ⟨h1, agrees_set h2 (h2 (.running ns) (List.mem_of_getElem? hrun))⟩
  · exact ⟨h1, h2⟩

theorem inv_run (s : State) (sched : List Nat) (h : Inv s) : Inv (run true s sched) :=
  List.foldlRecOn sched _ h fun s hs g _ => inv_step s g hs

end C39.Use
