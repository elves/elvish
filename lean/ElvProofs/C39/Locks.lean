import ElvModel.C39.Lockset
/-!
The two hand-over lemmas: a mutex held by `a` at position `i` and by `u ≠ a` at a
later position, by one of them exclusively, was released by `a` and then acquired
by `u` in between, and the release happens before the acquisition.
-/
namespace C39
set_option linter.unusedSectionVars false
variable {L V : Type} [DecidableEq L] [DecidableEq V]

theorem stateAt_succ {tr : Trace L V} {n : Nat} {s : Step L V} (h : tr[n]? = some s) :
    stateAt tr (n + 1) = stepLocks (stateAt tr n) s := by
  unfold stateAt
  rw [List.take_add_one, List.foldl_append, h]
  rfl

theorem stateAt_succ_none {tr : Trace L V} {n : Nat} (h : tr[n]? = none) :
    stateAt tr (n + 1) = stateAt tr n := by
  unfold stateAt
  rw [List.take_add_one, List.foldl_append, h]
  rfl

@[simp] theorem stepLocks_acq (σ : Locks L) (t : Tid) (m m' : L) :
    stepLocks σ (⟨t, .acq m⟩ : Step L V) m' = if m' = m then { σ m with w := some t } else σ m' := rfl
@[simp] theorem stepLocks_rel (σ : Locks L) (t : Tid) (m m' : L) :
    stepLocks σ (⟨t, .rel m⟩ : Step L V) m' = if m' = m then { σ m with w := none } else σ m' := rfl
@[simp] theorem stepLocks_racq (σ : Locks L) (t : Tid) (m m' : L) :
    stepLocks σ (⟨t, .racq m⟩ : Step L V) m' = if m' = m then { σ m with r := t :: (σ m).r } else σ m' := rfl
@[simp] theorem stepLocks_rrel (σ : Locks L) (t : Tid) (m m' : L) :
    stepLocks σ (⟨t, .rrel m⟩ : Step L V) m' = if m' = m then { σ m with r := (σ m).r.erase t } else σ m' := rfl
@[simp] theorem stepLocks_rd (σ : Locks L) (t : Tid) (x : V) :
    stepLocks σ (⟨t, .rd x⟩ : Step L V) = σ := rfl
@[simp] theorem stepLocks_wr (σ : Locks L) (t : Tid) (x : V) :
    stepLocks σ (⟨t, .wr x⟩ : Step L V) = σ := rfl
@[simp] theorem stepLocks_fork (σ : Locks L) (t g : Tid) :
    stepLocks σ (⟨t, .fork g⟩ : Step L V) = σ := rfl
@[simp] theorem stepLocks_join (σ : Locks L) (t g : Tid) :
    stepLocks σ (⟨t, .join g⟩ : Step L V) = σ := rfl

theorem stepLocks_frame (σ : Locks L) (t : Tid) (e : Ev L V) (m : L) :
    stepLocks σ ⟨t, e⟩ m = σ m ∨ e = .acq m ∨ e = .rel m ∨ e = .racq m ∨ e = .rrel m := by
  cases e with
  | acq m' | rel m' | racq m' | rrel m' =>
    by_cases hm : m = m'
    · subst hm; simp
    · left; simp [hm]
  | _ => exact Or.inl rfl

/-- Mutual exclusion: while a writer holds the mutex nobody holds it for reading. -/
def Inv (σ : Locks L) : Prop := ∀ m, (σ m).w ≠ none → (σ m).r = []

theorem inv_init : Inv (Locks.init : Locks L) := by
  intro m _; rfl

theorem inv_step {σ : Locks L} {s : Step L V} (hi : Inv σ) (he : enabled σ s) : Inv (stepLocks σ s) := by
  obtain ⟨t, e⟩ := s
  intro m
  rcases stepLocks_frame σ t e m with h | rfl | rfl | rfl | rfl
  · rw [h]; exact hi m
  · intro _; simpa using he.2
  · simp
  · intro h; exact absurd (show (σ m).w = none from he) (by simpa using h)
  · intro h; simp [hi m (by simpa using h)]

theorem inv_stateAt {tr : Trace L V} (hwf : WF tr) : ∀ n, Inv (stateAt tr n) := by
  intro n
  induction n with
  | zero => exact inv_init
  | succ n ih =>
    cases h : tr[n]? with
    | none => rw [stateAt_succ_none h]; exact ih
    | some s => rw [stateAt_succ h]; exact inv_step ih (hwf n s h)

theorem lose_ex_step {σ : Locks L} {s : Step L V} {a : Tid} {m : L}
    (he : enabled σ s) (h0 : (σ m).w = some a) (h1 : (stepLocks σ s m).w ≠ some a) :
    s = ⟨a, .rel m⟩ := by
  obtain ⟨t, e⟩ := s
  rcases stepLocks_frame σ t e m with h | rfl | rfl | rfl | rfl
  · rw [h] at h1; exact absurd h0 h1
  · rw [he.1] at h0; cases h0
  · obtain rfl : t = a := Option.some.inj (he.symm.trans h0)
    rfl
  · simp [h0] at h1
  · simp [h0] at h1

theorem lose_any_step {σ : Locks L} {s : Step L V} {a : Tid} {m : L}
    (he : enabled σ s) (h0 : holdsAny σ a m) (h1 : ¬ holdsAny (stepLocks σ s) a m) :
    s = ⟨a, .rel m⟩ ∨ s = ⟨a, .rrel m⟩ := by
  obtain ⟨t, e⟩ := s
  unfold holdsAny at h0 h1
  rcases stepLocks_frame σ t e m with h | rfl | rfl | rfl | rfl
  · rw [h] at h1; exact absurd h0 h1
  · rw [he.1, he.2] at h0; simp at h0
  · rcases h0 with h0 | h0
    · obtain rfl : t = a := Option.some.inj (he.symm.trans h0)
      exact Or.inl rfl
    · exact absurd (Or.inr (by simpa using h0)) h1
  · exact absurd (h0.imp (by simp) (by simp; exact Or.inr)) h1
  · by_cases hat : a = t
    · subst hat; exact Or.inr rfl
    · exact absurd (h0.imp (by simp) (by simpa using (List.mem_erase_of_ne hat).2)) h1

theorem gain_any_step {σ : Locks L} {s : Step L V} {u : Tid} {m : L}
    (h0 : ¬ holdsAny σ u m) (h1 : holdsAny (stepLocks σ s) u m) :
    s = ⟨u, .acq m⟩ ∨ s = ⟨u, .racq m⟩ := by
  obtain ⟨t, e⟩ := s
  unfold holdsAny at h0 h1
  rcases stepLocks_frame σ t e m with h | rfl | rfl | rfl | rfl
  · rw [h] at h1; exact absurd h1 h0
  · rcases h1 with h1 | h1
    · obtain rfl : t = u := by simpa using h1
      exact Or.inl rfl
    · exact absurd (Or.inr (by simpa using h1)) h0
  · exact absurd (h1.imp (by simp) (by simp)) h0
  · rcases h1 with h1 | h1
    · exact absurd (Or.inl (by simpa using h1)) h0
    · rcases List.mem_cons.1 (by simpa using h1) with h | h
      · subst h; exact Or.inr rfl
      · exact absurd (Or.inr h) h0
  · exact absurd (h1.imp (by simp) (by simpa using List.mem_of_mem_erase)) h0

theorem gain_ex_step {σ : Locks L} {s : Step L V} {u : Tid} {m : L}
    (h0 : (σ m).w ≠ some u) (h1 : (stepLocks σ s m).w = some u) :
    s = ⟨u, .acq m⟩ := by
  obtain ⟨t, e⟩ := s
  rcases stepLocks_frame σ t e m with h | rfl | rfl | rfl | rfl
  · rw [h] at h1; exact absurd h1 h0
  · obtain rfl : t = u := by simpa using h1
    rfl
  · simp at h1
  · exact absurd (by simpa using h1) h0
  · exact absurd (by simpa using h1) h0

theorem step_of_change {tr : Trace L V} {P : Locks L → Prop} {i : Nat} (h0 : ¬ P (stateAt tr i)) :
    ∀ d, P (stateAt tr (i + d)) →
      ∃ k s, i ≤ k ∧ k < i + d ∧ tr[k]? = some s ∧ ¬ P (stateAt tr k) ∧ P (stepLocks (stateAt tr k) s)
  | 0, h => absurd h h0
  | d + 1, h => by
    by_cases hd : P (stateAt tr (i + d))
    · obtain ⟨k, s, h1, h2, h3⟩ := step_of_change h0 d hd
      exact ⟨k, s, h1, by omega, h3⟩
    · cases hs : tr[i + d]? with
      | none => rw [← Nat.add_assoc, stateAt_succ_none hs] at h; exact absurd h hd
      | some s => rw [← Nat.add_assoc, stateAt_succ hs] at h; exact ⟨i + d, s, by omega, by omega, hs, hd, h⟩

theorem handover_from_writer {tr : Trace L V} (hwf : WF tr) {i d : Nat} {a u : Tid} {m : L}
    (hau : u ≠ a) (hi : (stateAt tr i m).w = some a) (hu : holdsAny (stateAt tr (i + d)) u m) :
    ∃ k q ek eq, i ≤ k ∧ q < i + d ∧ tr[k]? = some ⟨a, ek⟩ ∧ tr[q]? = some ⟨u, eq⟩ ∧ HB tr k q := by
  have h0 : ¬ holdsAny (stateAt tr i) u m := by
    rintro (h | h)
    · exact hau (Option.some.inj (h.symm.trans hi))
    · rw [inv_stateAt hwf i m (by simp [hi])] at h; cases h
  obtain ⟨q, s, hq1, hq2, hs, hnot, hgain⟩ := step_of_change (P := fun σ => holdsAny σ u m) h0 d hu
  -- `u`'s acquisition was possible, so `a` had unlocked before
  have hw : (stateAt tr q m).w = none := by
    have hen := hwf q s hs
    rcases gain_any_step hnot hgain with rfl | rfl
    · exact hen.1
    · exact hen
  obtain ⟨d', rfl⟩ := Nat.exists_eq_add_of_le hq1
  obtain ⟨k, s', hk1, hk2, hs', hheld, hlost⟩ :=
    step_of_change (P := fun σ => (σ m).w ≠ some a) (not_not_intro hi) d' (by simp [hw])
  obtain rfl := lose_ex_step (hwf k s' hs') (Decidable.not_not.1 hheld) hlost
  rcases gain_any_step hnot hgain with rfl | rfl
  · exact ⟨k, _, _, _, hk1, hq2, hs', hs, .unlockLock hk2 hs' hs⟩
  · exact ⟨k, _, _, _, hk1, hq2, hs', hs, .unlockRLock hk2 hs' hs⟩

theorem handover_to_writer {tr : Trace L V} (hwf : WF tr) {i d : Nat} {a u : Tid} {m : L}
    (hau : u ≠ a) (hi : holdsAny (stateAt tr i) a m) (hu : (stateAt tr (i + d) m).w = some u) :
    ∃ k q ek eq, i ≤ k ∧ q < i + d ∧ tr[k]? = some ⟨a, ek⟩ ∧ tr[q]? = some ⟨u, eq⟩ ∧ HB tr k q := by
  have h0 : ¬ (stateAt tr i m).w = some u := by
    intro h
    rcases hi with hi | hi
    · exact hau (Option.some.inj (h.symm.trans hi))
    · rw [inv_stateAt hwf i m (by simp [h])] at hi; cases hi
  obtain ⟨q, s, hq1, hq2, hs, hnot, hgain⟩ := step_of_change (P := fun σ => (σ m).w = some u) h0 d hu
  obtain rfl := gain_ex_step hnot hgain
  -- `u`'s Lock was possible, so `a` had released before
  have hen : (stateAt tr q m).w = none ∧ (stateAt tr q m).r = [] := hwf q _ hs
  obtain ⟨d', rfl⟩ := Nat.exists_eq_add_of_le hq1
  obtain ⟨k, s', hk1, hk2, hs', hheld, hlost⟩ :=
    step_of_change (P := fun σ => ¬ holdsAny σ a m) (not_not_intro hi) d' (by simp [holdsAny, hen.1, hen.2])
  rcases lose_any_step (hwf k s' hs') (Classical.not_not.1 hheld) hlost with rfl | rfl
  · exact ⟨k, _, _, _, hk1, hq2, hs', hs, .unlockLock hk2 hs' hs⟩
  · exact ⟨k, _, _, _, hk1, hq2, hs', hs, .runlockLock hk2 hs' hs⟩

end C39
