import ElvModel.C37.Model
import ElvModel.C37.Spec
import ElvProofs.C37.Core
open Go C37 C37.Spec

/-!
# C37 — error positions point at the right lines and columns

The theorems are about the executable model `C37.getContextDetails` (tied to `diag.NewContext` by
`./check C37`), stated in the spec vocabulary of `ElvModel/C37/Spec.lean` (`newlines`, `lineStart`,
`lineEnd`, `adjTo`, `sub`), for every source `src : Bytes` and every range `0 ≤ f ≤ t ≤ |src|`.
-/

/-- No slice expression of `getContextDetails` panics for an in-range range. -/
theorem C37_no_panic (src : Bytes) (f t : Int) (h0 : 0 ≤ f) (h1 : f ≤ t) (h2 : t ≤ src.length) :
    ∃ d, getContextDetails src f t = .ok d := by
  obtain ⟨before, body0, after, rfl, rfl, rfl⟩ := split_range src f t h0 h1 h2
  exact ⟨_, getContextDetails_append before body0 after _ _ rfl (by simp)⟩

example : getContextDetails [97, 10, 98] 1 3 ≠ .panic "slice bounds out of range" := by decide
/-- outside the precondition the slices do panic (so the hypotheses matter) -/
example : getContextDetails [97, 10, 98] 2 4 = .panic "slice bounds out of range" := by decide

/-- The spec vocabulary means what it says: `lineStart s (k+1)` (for a line that exists) lies inside
`s`, exactly `k` newlines precede it, and for `k > 0` the byte just before it is a newline. -/
theorem C37_spec_lineStart (s : Bytes) (k : Nat) (h : k ≤ newlines s) :
    lineStart s (k + 1) ≤ s.length ∧
    newlines (sub s 0 (lineStart s (k + 1))) = k ∧
    (0 < k → s[lineStart s (k + 1) - 1]? = some 10) := by
  simpa [lineStart, sub] using afterNL_spec s k h

/-- `lineEnd s p` is the first offset `≥ p` holding a newline, or `|s|`. -/
theorem C37_spec_lineEnd (s : Bytes) (p : Nat) (h : p ≤ s.length) :
    p ≤ lineEnd s p ∧ lineEnd s p ≤ s.length ∧
    newlines (sub s p (lineEnd s p)) = 0 ∧
    (lineEnd s p < s.length → s[lineEnd s p]? = some 10) := by
  induction s generalizing p with
  | nil => simp [Nat.le_zero.mp h, lineEnd, sub, newlines]
  | cons b s ih =>
    cases p with
    | zero =>
      by_cases hb : b = 10
      · simp [lineEnd, hb, sub, newlines]
      · obtain ⟨_, i2, i3, i4⟩ := ih 0 (by omega)
        simp only [sub, List.drop_zero, Nat.sub_zero] at i3
        refine ⟨by omega, by simp [lineEnd, hb]; omega, by simp [lineEnd, hb, sub, newlines, i3], ?_⟩
        simpa [lineEnd, hb] using i4
    | succ p =>
      obtain ⟨i1, i2, i3, i4⟩ := ih p (by simpa using h)
      refine ⟨by simp [lineEnd]; omega, by simp [lineEnd]; omega, ?_, by simpa [lineEnd] using i4⟩
      simpa [sub, lineEnd] using i3

example : lineStart [97, 10, 10, 98, 99, 10] 3 = 3 ∧ lineEnd [97, 10, 10, 98, 99, 10] 3 = 5 := by decide

/-- C37, start: the start line is 1 + the number of newlines before `from`, and the start column
counts bytes from the first byte of that line: line/column identify the first byte of the range. -/
theorem C37_start (src : Bytes) (f t : Int) (h0 : 0 ≤ f) (h1 : f ≤ t) (h2 : t ≤ src.length)
    (d : Details) (hd : getContextDetails src f t = .ok d) :
    d.startLine = 1 + newlines (sub src 0 f.toNat) ∧ 1 ≤ d.startCol ∧
    (lineStart src d.startLine.toNat : Int) + d.startCol - 1 = f := by
  obtain ⟨before, body, rest, rfl, rfl, _, _, rfl⟩ := transfer src f t h0 h1 h2 d hd
  have := lineStart_append before (body ++ rest)
  simp only [Int.toNat_natCast, detailsAt, toNat_one_add]
  rw [List.append_assoc, sub_prefix]
  exact ⟨rfl, by omega, by omega⟩

/-- C37, end: with `t' = to − 1` if the range ends in a newline, else `to`, the end line is 1 + the
number of newlines before `t'` and `lineStart endLine + endCol = t'`, i.e. (line, column) denote
byte `t' − 1`, the last counted byte. -/
theorem C37_end (src : Bytes) (f t : Int) (h0 : 0 ≤ f) (h1 : f ≤ t) (h2 : t ≤ src.length)
    (d : Details) (hd : getContextDetails src f t = .ok d) :
    let t' := adjTo src f.toNat t.toNat
    d.endLine = 1 + newlines (sub src 0 t') ∧ 0 ≤ d.endCol ∧
    (lineStart src d.endLine.toNat : Int) + d.endCol = t' := by
  obtain ⟨before, body, rest, rfl, rfl, ha, _, rfl⟩ := transfer src f t h0 h1 h2 d hd
  have hs := sub_prefix (before ++ body) rest
  have := lineStart_append (before ++ body) rest
  rw [List.length_append] at hs this
  simp only [Int.toNat_natCast, ha, detailsAt, toNat_one_add, hs, true_and]
  exact ⟨by omega, by omega⟩

/-- Ranges that are empty after the adjustment: same line, `endCol = startCol − 1`. -/
theorem C37_end_empty (src : Bytes) (f t : Int) (h0 : 0 ≤ f) (h1 : f ≤ t) (h2 : t ≤ src.length)
    (d : Details) (hd : getContextDetails src f t = .ok d)
    (he : adjTo src f.toNat t.toNat = f.toNat) :
    d.endLine = d.startLine ∧ d.endCol = d.startCol - 1 := by
  obtain ⟨before, body, rest, rfl, rfl, ha, _, rfl⟩ := transfer src f t h0 h1 h2 d hd
  rw [Int.toNat_natCast, ha] at he
  obtain rfl : body = [] := List.length_eq_zero_iff.mp (by omega)
  simp only [detailsAt, List.append_nil, true_and]
  omega

/-- A range whose last counted byte is itself a newline ends at column 0 (of the line after that newline). -/
theorem C37_end_after_newline (src : Bytes) (f t : Int) (h0 : 0 ≤ f) (h1 : f ≤ t)
    (h2 : t ≤ src.length) (d : Details) (hd : getContextDetails src f t = .ok d)
    (hn : endsInNL src f.toNat (adjTo src f.toNat t.toNat) = true) :
    d.endCol = 0 := by
  obtain ⟨before, body, rest, rfl, rfl, ha, _, rfl⟩ := transfer src f t h0 h1 h2 d hd
  rw [Int.toNat_natCast, ha, endsInNL_eq, endsNL_iff] at hn
  obtain ⟨b, rfl⟩ := hn
  simp only [detailsAt]
  rw [← List.append_assoc, lastLine_snoc_nl]
  rfl

/-- C37, context: `head ++ body ++ tail` is exactly the source text from the first byte of the start
line to the end of the line containing the adjusted end `t'` (the next newline at or after `t'`, or
the end of the source); `body` is the range up to `t'`; head and tail contain no newline.  When a
trailing newline was stripped, the tail is empty and the text ends at `t'` (the stripped newline is
the line terminator: `lineEnd src t' = t'`). -/
theorem C37_context (src : Bytes) (f t : Int) (h0 : 0 ≤ f) (h1 : f ≤ t) (h2 : t ≤ src.length)
    (d : Details) (hd : getContextDetails src f t = .ok d) :
    let t' := adjTo src f.toNat t.toNat
    slice src (lineStart src d.startLine.toNat) (lineEnd src t') = .ok (d.head ++ d.body ++ d.tail) ∧
    d.body = sub src f.toNat t' ∧
    (∀ x ∈ d.head, x ≠ 10) ∧ (∀ x ∈ d.tail, x ≠ 10) ∧
    (endsInNL src f.toNat t.toNat = true → d.tail = [] ∧ lineEnd src t' = t') := by
  obtain ⟨before, body, rest, rfl, rfl, ha, hnl, rfl⟩ := transfer src f t h0 h1 h2 d hd
  have hle := lineEnd_append (before ++ body) rest
  rw [List.length_append] at hle
  simp only [Int.toNat_natCast, ha, detailsAt, toNat_one_add, hle]
  refine ⟨?_, (sub_mid before body rest).symm, lastLine_no_nl _, firstLine_no_nl _, ?_⟩
  · -- the source is `pre ++ (head ++ body ++ tail) ++ post`, line `startLine` starts after `pre`
    obtain ⟨pre, hpre⟩ := lastLine_suffix before
    obtain ⟨post, hpost⟩ := firstLine_prefix rest
    have hlen : before.length = pre.length + (lastLine before).length := by
      simpa using congrArg List.length hpre
    have hls := lineStart_append before (body ++ rest)
    rw [← List.append_assoc] at hls
    have hsrc : before ++ body ++ rest
        = pre ++ (lastLine before ++ body ++ firstLine rest) ++ post := by
      conv => lhs; rw [hpre, hpost]
      simp
    rw [hsrc] at hls ⊢
    exact slice_of_append rfl (by omega) (by simp only [List.length_append]; omega)
  · intro h
    obtain ⟨after, rfl⟩ := hnl h
    exact ⟨rfl, rfl⟩

/-- C37, description: `describeRange` uses the one-position format `l:c` exactly when the adjusted
range is empty (then it is on one line), `l:c-c` when the adjusted range is non-empty and contains
no newline (start and end on one line), and `l:c-l:c` otherwise; the numbers are the `Details`
fields characterised above. -/
theorem C37_describe (src : Bytes) (f t : Int) (h0 : 0 ≤ f) (h1 : f ≤ t) (h2 : t ≤ src.length)
    (d : Details) (hd : getContextDetails src f t = .ok d) :
    let t' := adjTo src f.toNat t.toNat
    (d.startLine = d.endLine ↔ newlines (sub src f.toNat t') = 0) ∧
    ((d.startLine = d.endLine ∧ d.endCol < d.startCol) ↔ t' = f.toNat) ∧
    describeRange d =
      if t' = f.toNat then s!"{d.startLine}:{d.startCol}"
      else if newlines (sub src f.toNat t') = 0 then s!"{d.startLine}:{d.startCol}-{d.endCol}"
      else s!"{d.startLine}:{d.startCol}-{d.endLine}:{d.endCol}" := by
  obtain ⟨before, body, rest, rfl, rfl, ha, _, rfl⟩ := transfer src f t h0 h1 h2 d hd
  simp only [Int.toNat_natCast, ha, sub_mid]
  have h1 : (detailsAt before body rest).startLine = (detailsAt before body rest).endLine
      ↔ newlines body = 0 := by
    simp only [detailsAt, newlines_append]; omega
  have h2 : ((detailsAt before body rest).startLine = (detailsAt before body rest).endLine
      ∧ (detailsAt before body rest).endCol < (detailsAt before body rest).startCol)
      ↔ before.length + body.length = before.length := by
    rw [h1]
    simp only [detailsAt, lastLine_append]
    by_cases h0 : newlines body = 0
    · rw [if_pos h0, List.length_append]; omega
    · have : 0 < body.length := List.length_pos_iff.mpr (fun e => h0 (e ▸ rfl))
      rw [if_neg h0]; omega
  exact ⟨h1, h2, describeRange_eq _ _ _ h1 h2⟩

/-- source "ab\ncé\n\nxyz" (11 bytes; é = c3 a9), range [4,9) = "é\n\nx": lines 2..4, columns in bytes. -/
example :
    getContextDetails [97, 98, 10, 99, 0xc3, 0xa9, 10, 10, 120, 121, 122] 4 9 =
      .ok { startLine := 2, startCol := 2, endLine := 4, endCol := 1,
            body := [0xc3, 0xa9, 10, 10, 120], head := [99], tail := [121, 122] } := by decide
example : lineStart [97, 98, 10, 99, 0xc3, 0xa9, 10, 10, 120, 121, 122] 2 + 2 - 1 = 4 := by decide
example : adjTo [97, 98, 10, 99, 0xc3, 0xa9, 10, 10, 120, 121, 122] 4 9 = 9 ∧
    lineStart [97, 98, 10, 99, 0xc3, 0xa9, 10, 10, 120, 121, 122] 4 + 1 = 9 ∧
    lineEnd [97, 98, 10, 99, 0xc3, 0xa9, 10, 10, 120, 121, 122] 9 = 11 := by decide

/-- same source, range [3,7) = "cé\n": trailing newline stripped, tail empty. -/
example :
    getContextDetails [97, 98, 10, 99, 0xc3, 0xa9, 10, 10, 120, 121, 122] 3 7 =
      .ok { startLine := 2, startCol := 1, endLine := 2, endCol := 3,
            body := [99, 0xc3, 0xa9], head := [], tail := [] } := by decide
example : adjTo [97, 98, 10, 99, 0xc3, 0xa9, 10, 10, 120, 121, 122] 3 7 = 6 ∧
    lineEnd [97, 98, 10, 99, 0xc3, 0xa9, 10, 10, 120, 121, 122] 6 = 6 := by decide

/-- same source, range [6,8) = "\n\n": the last counted byte is a newline ⇒
end is line 3 column 0. -/
example :
    getContextDetails [97, 98, 10, 99, 0xc3, 0xa9, 10, 10, 120, 121, 122] 6 8 =
      .ok { startLine := 2, startCol := 4, endLine := 3, endCol := 0,
            body := [10], head := [99, 0xc3, 0xa9], tail := [] } := by decide
example : endsInNL [97, 98, 10, 99, 0xc3, 0xa9, 10, 10, 120, 121, 122] 6
    (adjTo [97, 98, 10, 99, 0xc3, 0xa9, 10, 10, 120, 121, 122] 6 8) = true := by decide

/-- same source, range [7,8) = "\n" on the blank line: empty after adjustment ⇒
`endCol = startCol − 1 = 0`, one-position format. -/
example :
    getContextDetails [97, 98, 10, 99, 0xc3, 0xa9, 10, 10, 120, 121, 122] 7 8 =
      .ok { startLine := 3, startCol := 1, endLine := 3, endCol := 0,
            body := [], head := [], tail := [] } := by decide
example : adjTo [97, 98, 10, 99, 0xc3, 0xa9, 10, 10, 120, 121, 122] 7 8 = 7 := by decide

/-- the three formats of `describeRange` all occur. -/
example :
    (getContextDetails [97, 98, 10, 99, 100] 4 4).bind (fun d => .ok (describeRange d)) = .ok "2:2" ∧
    (getContextDetails [97, 98, 10, 99, 100] 3 5).bind (fun d => .ok (describeRange d)) = .ok "2:1-2" ∧
    (getContextDetails [97, 98, 10, 99, 100] 1 4).bind (fun d => .ok (describeRange d)) = .ok "1:2-2:1" := by
  decide
