/-
C01 — Parsing is total and lossless for every source text.

Model: `ElvModel/C01/Model.lean` (the parser of pkg/parse after
fixes/C01-redir-sourcetext.patch).

Reading of "the leaves concatenate back to the original text": the parser
stops at the first rune no grammar rule accepts (e.g. a stray `)`); the text
after that point is in no node, and `parser.done` reports it with an
"unexpected rune" error positioned there.  So the statement proved is: the
leaves concatenate to the source up to the end of the root, and the root
ends at the end of the source unless such an error points at its end
(`TailReported`).
-/
import ElvProofs.C01.Main
open Go C01

/-- `m` is `n` or a node below it. -/
inductive C01_Desc : Node → Node → Prop where
  | self (n : Node) : C01_Desc n n
  | child {n c m : Node} : c ∈ n.children → C01_Desc c m → C01_Desc n m

/-- What the property says about one node: its range is inside the source
(b), its text is the source slice of its range (d), and its children, if any,
tile its range in order (b). -/
def C01_NodeOk (src : Bytes) (m : Node) : Prop :=
  m.frm ≤ m.to ∧ m.to ≤ src.length ∧ m.text = (src.drop m.frm).take (m.to - m.frm) ∧
    (m.children = [] ∨ (Consec m.frm m.children ∧ endOf m.frm m.children = m.to))

/-- The full property for one entry point, at full strength: for every source
(arbitrary bytes) and every `unicode.IsPrint`, parsing returns (no panic, no
FUEL with the default fuel) a tree and errors such that every node is as the
property says, the leaves give back the text, and every error is inside the
source. -/
def C01_full : Prop :=
  ∀ (isPrint : Int → Bool) (src : Bytes),
    ∃ t errs, parse isPrint src = .ok t errs ∧
      (∀ m, C01_Desc t m → C01_NodeOk src m) ∧
      t.frm = 0 ∧ leaves t ++ src.drop t.to = src ∧ TailReported src t errs ∧
      ErrsInRange src errs

/-- Every node of a well-formed tree is as the property says. -/
theorem C01_wf_nodes (src : Bytes) (t m : Node) (h : WF src t) (hd : C01_Desc t m) :
    C01_NodeOk src m := by
  induction hd with
  | self n =>
    cases n with
    | mk k a b tx f cs =>
      simp only [WF] at h
      exact ⟨h.1, h.2.1, h.2.2.1, h.2.2.2.1⟩
  | @child n c m hc _ ih =>
    apply ih
    cases n with
    | mk k a b tx f cs =>
      simp only [WF] at h
      have hws := h.2.2.2.2
      simp only [Node.children] at hc
      clear h ih
      induction cs with
      | nil => cases hc
      | cons d ds ihd =>
        simp only [WFs] at hws
        rcases List.mem_cons.mp hc with rfl | hc'
        · exact hws.1
        · exact ihd hc' hws.2

/-- (a, first half) No source text makes the parser panic — any entry point
(`ParseAs` with any node type and expression context), any fuel. -/
theorem C01_no_panic (isPrint : Int → Bool) (fuel : Nat) (nt : NT) (src : Bytes)
    (hnt : ∀ l, nt ≠ .redir (some l)) (w : String) : parseAsFuel isPrint fuel nt src ≠ .panic w := by
  intro h
  have := parseAsFuel_good isPrint fuel nt src hnt
  rw [h] at this
  exact this

/-- (b)–(e) for every entry point `ParseAs(src, n)` and every fuel: whenever the
parser returns — it cannot panic, the only other outcome is running out of
fuel — every node has its range inside the source, its text is the source
slice of the range, its children tile the range in order; the leaves
concatenate to the source up to the end of the root; text after the root is
reported; every error is inside the source. -/
theorem C01_parseAs_lossless_partial (isPrint : Int → Bool) (fuel : Nat) (nt : NT) (src : Bytes)
    (hnt : ∀ l, nt ≠ .redir (some l)) (t : Node) (errs : List PErr)
    (h : parseAsFuel isPrint fuel nt src = .ok t errs) :
    (∀ m, C01_Desc t m → C01_NodeOk src m) ∧
      t.frm = 0 ∧ leaves t ++ src.drop t.to = src ∧ TailReported src t errs ∧
      ErrsInRange src errs := by
  have hg := parseAsFuel_good isPrint fuel nt src hnt
  rw [h] at hg
  obtain ⟨hw, hf, he, ht⟩ := hg
  refine ⟨fun m hd => C01_wf_nodes src t m hw hd, hf, ?_, ht, he⟩
  rw [leaves_eq t hw, hf]
  unfold srcSlice
  simp

/-- The same for `Parse`.  Together with `C01_terminates` this gives
`C01_total_lossless : C01_full`. -/
theorem C01_lossless_partial (isPrint : Int → Bool) (src : Bytes) (t : Node) (errs : List PErr)
    (h : parse isPrint src = .ok t errs) :
    (∀ m, C01_Desc t m → C01_NodeOk src m) ∧
      t.frm = 0 ∧ leaves t ++ src.drop t.to = src ∧ TailReported src t errs ∧
      ErrsInRange src errs :=
  C01_parseAs_lossless_partial isPrint (defaultFuel src) .chunk src (fun l => by simp) t errs h

/-- (e) alone, in the form C44 uses it (`C44_diagnostics_in_bounds`): every parse error lies inside the source. -/
theorem C01_error_ranges (isPrint : Int → Bool) (src : Bytes) (t : Node) (errs : List PErr)
    (h : parse isPrint src = .ok t errs) : ∀ x ∈ errs, x.frm ≤ x.to ∧ x.to ≤ src.length :=
  (C01_lossless_partial isPrint src t errs h).2.2.2.2

/-- (a, second half) Termination: with the default fuel (`7·len + 8` levels
of nesting; `len + 2` iterations per loop) no entry point runs out of fuel —
every loop iteration that continues consumes a byte, and at most 7 nested
`parse` calls happen without consuming one. -/
theorem C01_terminates (isPrint : Int → Bool) (nt : NT) (src : Bytes)
    (hnt : ∀ l, nt ≠ .redir (some l)) : parseAs isPrint nt src ≠ .fuel :=
  parseAs_no_fuel isPrint nt src hnt

/-- C01 at full strength for every entry point `ParseAs(src, n)`: for every byte
string and every `unicode.IsPrint`, parsing returns a tree and errors (no panic,
no FUEL), every node has its range inside the source, its text is the source
slice of its range and its children tile it in order, the leaves concatenate to
the source up to the end of the root, text after the root is reported by an
error placed there, and every error lies inside the source. -/
theorem C01_parseAs_total_lossless (isPrint : Int → Bool) (nt : NT) (src : Bytes)
    (hnt : ∀ l, nt ≠ .redir (some l)) :
    ∃ t errs, parseAs isPrint nt src = .ok t errs ∧
      (∀ m, C01_Desc t m → C01_NodeOk src m) ∧
      t.frm = 0 ∧ leaves t ++ src.drop t.to = src ∧ TailReported src t errs ∧
      ErrsInRange src errs := by
  cases h : parseAs isPrint nt src with
  | ok t errs =>
    exact ⟨t, errs, rfl, C01_parseAs_lossless_partial isPrint (defaultFuel src) nt src hnt t errs h⟩
  | panic w => exact absurd h (C01_no_panic isPrint (defaultFuel src) nt src hnt w)
  | fuel => exact absurd h (C01_terminates isPrint nt src hnt)

/-- The same for `Parse`: C01 at full strength. -/
theorem C01_total_lossless : C01_full :=
  fun isPrint src => C01_parseAs_total_lossless isPrint .chunk src (fun l => by simp)

/-- `a 2>a`: a form with a redirection that has a left operand. -/
def C01_src0 : Bytes := [97, 32, 50, 62, 97]

def C01_isOk : ParseResult → Bool
  | .ok _ _ => true
  | _ => false

theorem C01_isOk_iff (r : ParseResult) : C01_isOk r = true → ∃ t errs, r = .ok t errs := by
  cases r <;> simp [C01_isOk]

set_option maxRecDepth 100000 in
/-- `parse` returns on `a 2>a` (so `C01_lossless_partial` applies to it). -/
example : ∃ t errs, parse (fun _ => false) C01_src0 = .ok t errs :=
  C01_isOk_iff _ (by decide)

set_option maxRecDepth 100000 in
/-- … and on malformed text with invalid UTF-8 (`"\xff` + `)`), with errors. -/
example : ∃ t errs, parse (fun _ => false) [34, 255, 41] = .ok t errs ∧ errs ≠ [] := by
  have hl : (match parse (fun _ => false) [34, 255, 41] with | .ok _ e => e.length | _ => 0) = 1 := by decide
  cases h : parse (fun _ => false) [34, 255, 41] with
  | ok t errs =>
    rw [h] at hl
    exact ⟨t, errs, rfl, fun he => by rw [he] at hl; cases hl⟩
  | panic w => rw [h] at hl; cases hl
  | fuel => rw [h] at hl; cases hl

/-- `Parse` of the unchanged tree (`parse[N]` cuts the text from `begin`). -/
def C01_parseUnfixed (isPrint : Int → Bool) (src : Bytes) : ParseResult :=
  toResult ((parseNTUnfixed (defaultFuel src) .chunk >>= fun n => done >>= fun _ => pure n)
    { isPrint := isPrint, src := src } { pos := 0, overEOF := 0, errors := [] })

def C01_at : Node → List Nat → Option Node
  | n, [] => some n
  | n, i :: p => match n.children[i]? with
    | some c => C01_at c p
    | none => none

theorem C01_at_desc : ∀ (p : List Nat) (n m : Node), C01_at n p = some m → C01_Desc n m
  | [], n, m, h => by
    simp only [C01_at] at h
    cases h; exact .self n
  | i :: p, n, m, h => by
    simp only [C01_at] at h
    cases hc : n.children[i]? with
    | none => rw [hc] at h; cases h
    | some c =>
      rw [hc] at h
      exact .child (List.mem_of_getElem? hc) (C01_at_desc p c m h)

def C01_info (r : ParseResult) (p : List Nat) : Option (Kind × Nat × Nat × Bytes) :=
  match r with
  | .ok t _ => (C01_at t p).map fun m => (m.kind, m.frm, m.to, m.text)
  | _ => none

set_option maxRecDepth 100000 in
/-- On the unchanged tree the `Redir` node of `a 2>a` has range `[2,5)` = `2>a`
but text `>a`. -/
theorem C01_unfixed_redir_text :
    C01_info (C01_parseUnfixed (fun _ => false) C01_src0) [0, 0, 2] = some (.redir, 2, 5, [62, 97]) := by
  decide

/-- (d) is false for the unchanged `parse[N]`: not every node's text is the
source slice of its range.  Witness `a 2>a` (harness/corpus/C01.txt). -/
theorem C01_counterexample :
    ¬ (∀ (src : Bytes) (t : Node) (errs : List PErr),
        C01_parseUnfixed (fun _ => false) src = .ok t errs → ∀ m, C01_Desc t m → C01_NodeOk src m) := by
  intro H
  have hi := C01_unfixed_redir_text
  cases hr : C01_parseUnfixed (fun _ => false) C01_src0 with
  | panic w => rw [hr] at hi; cases hi
  | fuel => rw [hr] at hi; cases hi
  | ok t errs =>
    rw [hr] at hi
    simp only [C01_info] at hi
    cases hm : C01_at t [0, 0, 2] with
    | none => rw [hm] at hi; cases hi
    | some m =>
      rw [hm] at hi
      simp only [Option.map_some, Option.some.injEq, Prod.mk.injEq] at hi
      obtain ⟨_, hf, ht, htx⟩ := hi
      have hok := H C01_src0 t errs hr m (C01_at_desc _ _ _ hm)
      have := hok.2.2.1
      rw [hf, ht, htx] at this
      revert this
      decide

set_option maxRecDepth 100000 in
/-- With the fix the same node has the text of its range. -/
example : C01_info (parse (fun _ => false) C01_src0) [0, 0, 2] = some (.redir, 2, 5, [50, 62, 97]) := by
  decide
