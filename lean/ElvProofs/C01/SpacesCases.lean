/-
One iteration of the `spaces:` loop of `parseSpacesInner`, as a case analysis on the rune it
peeks at (for the same reason as `primaryBody_cases`).
-/
import ElvProofs.C01.Hoare
namespace C01
open Go
open Gen.C01Chars

/-- what `spacesLoop nl (n + 1)` does after it has stepped over a `^` -/
def caretRest (nl : Bool) (n : Nat) : M Unit := do
  let r2 ← peek
  if r2 == 13 then
    let _ ← next
    let r3 ← peek
    if r3 == 10 then
      let _ ← next
      spacesLoop nl n
    else spacesLoop nl n
  else if r2 == 10 then
    let _ ← next
    spacesLoop nl n
  else if r2 == eof then
    error .shouldBeNewline
    spacesLoop nl n
  else
    backup
    pure ()

theorem spacesLoop_cases {nl : Bool} {n : Nat} {e : Env} {s : St} {r : Int} {motive : Out Unit → Prop}
    (hpk : peek e s = .ok r s)
    (space : IsInlineWhitespace r = true ∨ (nl = true ∧ IsWhitespace r = true) →
      motive ((do let _ ← next; spacesLoop nl n : M Unit) e s))
    (comment : r = 35 →
      motive ((do let _ ← next; let k ← loopFuel; commentLoop k; spacesLoop nl n : M Unit) e s))
    (caret : r = 94 → motive ((do let _ ← next; caretRest nl n : M Unit) e s))
    (stop : ¬ IsInlineWhitespace r = true → ¬ (nl = true ∧ IsWhitespace r = true) → r ≠ 35 → r ≠ 94 →
      motive ((pure () : M Unit) e s)) :
    motive (spacesLoop nl (n + 1) e s) := by
  unfold spacesLoop
  rw [bind_of_eq hpk]
  by_cases hin : IsInlineWhitespace r = true
  · rw [if_pos hin]; exact space (Or.inl hin)
  rw [if_neg hin]
  by_cases hws : (nl && IsWhitespace r) = true
  · rw [if_pos hws]; exact space (Or.inr ((Bool.and_eq_true _ _).mp hws))
  rw [if_neg hws]
  by_cases hhash : (r == 35) = true
  · rw [if_pos hhash]; exact comment (eq_of_beq hhash)
  rw [if_neg hhash]
  by_cases hcaret : (r == 94) = true
  · rw [if_pos hcaret]; exact caret (eq_of_beq hcaret)
  rw [if_neg hcaret]
  exact stop hin (fun h => hws ((Bool.and_eq_true _ _).mpr h)) (fun h => hhash (beq_iff_eq.mpr h))
    (fun h => hcaret (beq_iff_eq.mpr h))

theorem caretRest_cases {nl : Bool} {n : Nat} {e : Env} {s : St} {r : Int} {motive : Out Unit → Prop}
    (hpk : peek e s = .ok r s)
    (cr : r = 13 → motive ((do
      let _ ← next
      let r3 ← peek
      if r3 == 10 then
        let _ ← next
        spacesLoop nl n
      else spacesLoop nl n : M Unit) e s))
    (lf : r = 10 → motive ((do let _ ← next; spacesLoop nl n : M Unit) e s))
    (atEof : r = eof → motive ((do error .shouldBeNewline; spacesLoop nl n : M Unit) e s))
    (other : r ≠ eof → motive ((do backup; pure () : M Unit) e s)) :
    motive (caretRest nl n e s) := by
  unfold caretRest
  rw [bind_of_eq hpk]
  by_cases hcr : (r == 13) = true
  · rw [if_pos hcr]; exact cr (eq_of_beq hcr)
  rw [if_neg hcr]
  by_cases hlf : (r == 10) = true
  · rw [if_pos hlf]; exact lf (eq_of_beq hlf)
  rw [if_neg hlf]
  by_cases heof : (r == eof) = true
  · rw [if_pos heof]; exact atEof (eq_of_beq heof)
  rw [if_neg heof]
  exact other (fun h => heof (beq_iff_eq.mpr h))

end C01
