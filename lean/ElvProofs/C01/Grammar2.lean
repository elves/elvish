/-
`Primary`: the alternatives that call back into the grammar, and the dispatch.
-/
import ElvProofs.C01.Grammar
import ElvProofs.C01.PrimaryCases
namespace C01
open Go
open Gen.C01Chars

section
variable {g : Prop} {e : Env} {rec : NT → M Node} {N : Nat} {R S : Int → Prop} {n : Nat} {nb : NB}

theorem exitusCapture_bd (hrec : RecRun g e rec N) : Bd g e N (· = 63) S n 0 nb (exitusCapture rec nb) id := by
  unfold exitusCapture
  intro s h hr hn
  have h1 := nextSt_inv h.inv
  have p1 := nextSt_progress h.inv (ne_eof_of_eq hr (by decide))
  have f12 := nextSt_fwd h1
  rw [bind_of_eq (next_eq h.inv), bind_of_eq (next_eq h1)]
  refine Run_bind (addSep_fwd (d := 1) h ((nextSt_fwd h.inv).trans f12) (by have := f12.2; omega)) ?_
  intro nb1 s2 b1
  refine Run.mono (Bd.after (k' := 7) ?_ b1 hn) fun _ _ b => ⟨b.weaken, fun _ => b.2.2⟩
  exact .congr (nb' := nb1.setType ExceptionCapture) <| .weaken <| .bind (.child hrec .chunk) fun _ =>
    .bind .parseSep fun (_, _) => .ite (fun _ => .error_bind .pure) fun _ => .pure

theorem outputCapture_bd (hrec : RecRun g e rec N) : Bd g e N (· = 40) S n 0 nb (outputCapture rec nb) id := by
  unfold outputCapture
  exact .congr (nb' := nb.setType OutputCapture) <| .bind1 .parseSep (fun _ h => h) fun (_, _) =>
    .bind (.child hrec .chunk) fun _ => .bind .parseSep fun (_, _) => .ite (fun _ => .error_bind .pure) fun _ => .pure

theorem lbracketLoop_bd (hrec : RecRun g e rec N) :
    ∀ (n : Nat) (nb : NB), Bd g e N Any Never n 4 nb (lbracketLoop rec n nb) id
  | 0, _ => .fuel fun _ => rfl
  | n + 1, nb => by
    have again (nd : Node) : Bd g e N Any Never n (4 + 7) (nb.add nd)
        (parseSpacesAndNewlines (nb.add nd) >>= lbracketLoop rec n) id :=
      .weaken <| .bind .spaces fun _ => .le_k (lbracketLoop_bd hrec n _)
    unfold lbracketLoop
    refine .getEnv_bind <| .peek_bind fun r _ => .ite (fun hc => ?_) fun _ => .ite
      (fun hc => .bind1 (.child hrec (.compound NormalExpr)) (fun _ h => h ▸ hc) again) fun _ => .pure
    -- a lone `&` is a separator; before a pair the look-ahead is undone
    intro s h hr hn
    rw [bind_of_eq (next_eq h.inv), bind_of_eq (peek_eq (nextSt_inv h.inv))]
    split
    · refine Run_bind (addSep_fwd (d := 0) (nb := { nb with f := { nb.f with lone := true } }) (h.congr rfl rfl)
        (nextSt_fwd h.inv) (nextSt_pos_le _ _)) fun nb1 s1 b1 => ?_
      exact (parseSpacesInner_full true b1.1).mono fun _ _ q => ⟨⟨q.1.1, q.1.2.1.trans b1.2.1, (b1.trans q.1).2.2⟩, False.elim⟩
    · rw [bind_of_eq (backup_nextSt h.inv)]
      exact (Bd.bind1 (.child hrec .mapPair) (fun _ h => h.trans (eq_of_beq hc)) again :
        Bd g e N (· = r) Never (n + 1) 4 nb _ id) s h hr hn

theorem lbracket_bd (hrec : RecRun g e rec N) : Bd g e N (· = 91) S n 0 nb (lbracket rec nb) id := by
  unfold lbracket
  exact .bind1 .parseSep (fun _ h => h) fun (_, _) => .bind .spaces fun _ => .loopFuel_bind <|
    .bind (.le_k (lbracketLoop_bd hrec _ _)) fun _ => .bind .parseSep fun (_, _) =>
    .bind (.ite (fun _ => .error) fun _ => .pure) fun _ => .ite
      (fun _ => .bind (.ite (fun _ => .error) fun _ => .pure) fun _ => .pure) fun _ => .pure

theorem lambdaLoop_bd (hrec : RecRun g e rec N) :
    ∀ (n : Nat) (nb : NB), Bd g e N Any Never n 4 nb (lambdaLoop rec n nb) id
  | 0, _ => .fuel fun _ => rfl
  | n + 1, nb => by
    have again (nd : Node) : Bd g e N Any Never n (4 + 7) (nb.add nd)
        (parseSpacesAndNewlines (nb.add nd) >>= lambdaLoop rec n) id :=
      .weaken <| .bind .spaces fun _ => .le_k (lambdaLoop_bd hrec n _)
    unfold lambdaLoop
    exact .getEnv_bind <| .peek_bind fun r _ => .ite
      (fun hc => .bind1 (.child hrec .mapPair) (fun _ h => h.trans (eq_of_beq hc)) again) fun _ => .ite
      (fun hc => .bind1 (.child hrec (.compound NormalExpr)) (fun _ h => h ▸ hc) again) fun _ => .pure

theorem lambda_bd (hrec : RecRun g e rec N) : Bd g e N R Never n 7 nb (lambda rec nb) id := by
  unfold lambda
  exact .congr (nb' := nb.setType Lambda) <| .weaken <| .bind .spaces fun _ => .bind .parseSep fun (_, _) =>
    .bind (.ite
      (fun _ => .weaken <| .bind .spaces fun _ => .loopFuel_bind <| .bind (.le_k (lambdaLoop_bd hrec _ _)) fun _ =>
        .bind .parseSep fun (_, _) => .bind (.ite (fun _ => .error) fun _ => .pure) fun _ => .pure)
      fun _ => .pure) fun _ =>
    .bind (.child hrec .chunk) fun _ => .bind .parseSep fun (_, _) => .ite (fun _ => .error_bind .pure) fun _ => .pure

theorem bracedLoop_bd (hrec : RecRun g e rec N) :
    ∀ (n : Nat) (nb : NB), Bd g e N Any Never n 3 nb (bracedLoop rec n nb) id
  | 0, _ => .fuel fun _ => rfl
  | n + 1, nb => by
    unfold bracedLoop
    refine .peek_bind fun r _ => .ite (fun hc => ?_) fun _ => .pure
    intro s h hr hn
    refine Run_bind (parseSpacesInner_full true h) ?_
    intro nb1 s1 ⟨b1, hp1⟩
    refine Run_bind (parseSep_cases (sep := 44) (by decide) b1.1) ?_
    intro ⟨_, nb2⟩ s2 hc2
    -- `isBracedSep`: a space, which the spaces before the comma consume, or the comma itself
    have b12 : BPostD 1 e nb s nb2 s2 := by
      have hr : peekRune e s = r := hr
      rcases hc2 with ⟨_, b2⟩ | ⟨hp, hs, hne⟩
      · exact ⟨b2.1, b2.2.1.trans b1.2.1, by have := b1.2.2; have := b2.2.2; omega⟩
      · cases hp
        rw [hs]
        refine ⟨b1.1, b1.2.1, ?_⟩
        by_cases hw : IsWhitespace r = true
        · exact hp1 (Or.inr (Or.inl ⟨rfl, hr ▸ hw⟩))
        · have h44 : r = 44 := by
            simp only [isBracedSep, Bool.or_eq_true, beq_iff_eq] at hc
            exact hc.elim id (fun hc => absurd hc hw)
          have : s1.pos ≠ s.pos := fun hpos => hne (by rw [peekRune_congr hpos, hr, h44])
          have := b1.2.2
          omega
    refine Run.mono (Bd.after (k' := 3) ?_ b12 hn) fun _ _ b => ⟨b.weaken, False.elim⟩
    exact .weaken <| .bind .spaces fun _ => .bind (.child hrec (.compound BracedElemExpr)) fun _ => bracedLoop_bd hrec n _

theorem lbrace_bd (hrec : RecRun g e rec N) : Bd g e N (· = 123) S n 0 nb (lbrace rec nb) id := by
  unfold lbrace
  exact .bind1 .parseSep (fun _ h => h) fun (_, nb1) => .peek_bind fun _ _ => .ite (fun _ => lambda_bd hrec) fun _ =>
    .congr (nb' := nb1.setType Braced) <| .weaken <| .bind (.child hrec (.compound BracedElemExpr)) fun _ =>
    .loopFuel_bind <| .bind (.le_k (bracedLoop_bd hrec _ _)) fun _ =>
    .bind .parseSep fun (_, _) => .ite (fun _ => .error_bind .pure) fun _ => .pure

def BodyPost (e : Env) (nb : NB) (s : St) (nb' : NB) (s' : St) : Prop :=
  Fwd e s s' ∧ nb'.frm = nb.frm ∧ WFs e.src nb'.children ∧
    (nb'.children = [] ∨ (Consec nb'.frm nb'.children ∧ endOf nb'.frm nb'.children = s'.pos))

theorem BPostD.body {d : Nat} {nb nb' : NB} {s s' : St} (h : BPostD d e nb s nb' s') : BodyPost e nb s nb' s' :=
  ⟨h.fwd, h.2.1, h.1.wfs, Or.inr ⟨h.1.consec, h.1.sync⟩⟩

theorem LeafPost.body {nb nb' : NB} {s s' : St} (h : LeafPost e nb s nb' s') (hnil : nb.children = []) :
    BodyPost e nb s nb' s' :=
  ⟨h.1, h.2.1, by rw [h.2.2, hnil]; trivial, Or.inl (by rw [h.2.2, hnil])⟩

theorem primaryBody_run (hrec : RecRun g e rec N) {nb : NB} {s : St} (h : BInv e nb s)
    (hnil : nb.children = []) (hfrm : nb.frm = s.pos) (hN : g → 7 * rem e s ≤ N) :
    Run g (primaryBody rec nb e s) (fun nb' s' => BodyPost e nb s nb' s' ∧
      (startsPrimary e.isPrint (peekRune e s) nb.f.ctx = true → s.pos + 1 ≤ s'.pos)) := by
  have hi := h.inv
  have hle : nb.frm ≤ s.pos := Nat.le_of_eq hfrm
  have hn : g → rem e s < rem e s + 1 ∧ 7 * rem e s + 0 ≤ N := fun hg => ⟨Nat.lt_succ_self _, hN hg⟩
  -- an alternative that consumes a byte whenever it is the one taken
  have leaf : ∀ {o : Out NB}, Run g o (fun nb' s' => LeafPost e nb s nb' s' ∧ s.pos + 1 ≤ s'.pos) →
      Run g o (fun nb' s' => BodyPost e nb s nb' s' ∧
        (startsPrimary e.isPrint (peekRune e s) nb.f.ctx = true → s.pos + 1 ≤ s'.pos)) :=
    fun ho => ho.mono (fun _ _ l => ⟨l.1.body hnil, fun _ => l.2⟩)
  have node : ∀ {o : Out NB}, Run g o (fun nb' s' => BPost e nb s nb' s' ∧ (Any (peekRune e s) → s.pos + 1 ≤ s'.pos)) →
      Run g o (fun nb' s' => BodyPost e nb s nb' s' ∧
        (startsPrimary e.isPrint (peekRune e s) nb.f.ctx = true → s.pos + 1 ≤ s'.pos)) :=
    fun ho => ho.mono (fun _ _ b => ⟨b.1.body, fun _ => b.2 trivial⟩)
  refine primaryBody_cases (motive := fun o => Run g o _) (peek_eq hi)
    (notPrimary := fun hno => ?_)
    (bare := fun hc => leaf ((bareword_run hi hle).mono (fun _ _ l => ⟨l.1, l.2 hc⟩)))
    (single := fun hc => leaf (singleQuoted_run hi (ne_eof_of_eq hc (by decide))))
    (double := fun hc => leaf (doubleQuoted_run hi (ne_eof_of_eq hc (by decide))))
    (dollar := fun hc => leaf (variableP_run hi hfrm (ne_eof_of_eq hc (by decide))))
    (star := fun hc => leaf ((starWildcard_run hi hle).mono (fun _ _ l => ⟨l.1, l.2 hc⟩)))
    (question := fun hc => ?_)
    (paren := fun hc => node (outputCapture_bd hrec s h hc hn))
    (bracket := fun hc => node (lbracket_bd hrec s h hc hn))
    (brace := fun hc => node (lbrace_bd hrec s h hc hn))
  · rw [bind_of_eq (error_eq hi _)]
    exact Run_pure ⟨((BPost.refl h).err _).body, fun hst => by rw [hno] at hst; cases hst⟩
  · rw [bind_of_eq (hasPrefix_eq hi _)]
    split
    · exact node (exitusCapture_bd hrec s h hc hn)
    · exact leaf ((questionWildcard_run hi hle).mono (fun _ _ l => ⟨l.1, l.2 hc⟩))

end
end C01
