/-
Nodes under construction: the tiling invariant `BInv` ("the children so far
are well-formed, consecutive from `From`, and end at `pos`"), what `addSep`,
`parseSep`, `parseSpacesInner` and the leaf alternatives of `Primary` do to it,
and when they are sure to consume a byte.
-/
import ElvProofs.C01.Scan
namespace C01
open Go
open Gen.C01Chars

/-- What `addSep` needs: children well-formed and consecutive, ending at or before `pos`. -/
structure BPre (e : Env) (nb : NB) (s : St) : Prop where
  inv : Inv e s
  wfs : WFs e.src nb.children
  consec : Consec nb.frm nb.children
  le : endOf nb.frm nb.children ≤ s.pos

/-- The tiling invariant: as `BPre`, and the children end exactly at `pos`. -/
structure BInv (e : Env) (nb : NB) (s : St) : Prop where
  inv : Inv e s
  wfs : WFs e.src nb.children
  consec : Consec nb.frm nb.children
  sync : endOf nb.frm nb.children = s.pos

/-- result of a builder step that consumed at least `d` bytes -/
def BPostD (d : Nat) (e : Env) (nb : NB) (s : St) (nb' : NB) (s' : St) : Prop :=
  BInv e nb' s' ∧ nb'.frm = nb.frm ∧ s.pos + d ≤ s'.pos

abbrev BPost (e : Env) (nb : NB) (s : St) (nb' : NB) (s' : St) : Prop := BPostD 0 e nb s nb' s'

@[simp] theorem NB.setType_frm (nb : NB) (t : Int) : (nb.setType t).frm = nb.frm := rfl
@[simp] theorem NB.setType_children (nb : NB) (t : Int) : (nb.setType t).children = nb.children := rfl
@[simp] theorem NB.setValue_frm (nb : NB) (v : Bytes) : (nb.setValue v).frm = nb.frm := rfl
@[simp] theorem NB.setValue_children (nb : NB) (v : Bytes) : (nb.setValue v).children = nb.children := rfl
@[simp] theorem NB.add_frm (nb : NB) (n : Node) : (nb.add n).frm = nb.frm := rfl

section
variable {g : Prop} {e : Env}

theorem BInv.pre {e : Env} {nb : NB} {s : St} (h : BInv e nb s) : BPre e nb s :=
  ⟨h.inv, h.wfs, h.consec, Nat.le_of_eq h.sync⟩

theorem BInv.congr {nb nb' : NB} {s : St} (h : BInv e nb s) (hf : nb'.frm = nb.frm)
    (hc : nb'.children = nb.children) : BInv e nb' s :=
  ⟨h.inv, hc ▸ h.wfs, by rw [hf, hc]; exact h.consec, by rw [hf, hc]; exact h.sync⟩

theorem BInv.err {nb : NB} {s : St} (h : BInv e nb s) (m : Msg) : BInv e nb (errSt e s m) :=
  ⟨errSt_inv h.inv _, h.wfs, h.consec, h.sync⟩

theorem BPre.of_fwd {nb : NB} {s s' : St} (h : BInv e nb s) (hf : Fwd e s s') : BPre e nb s' :=
  ⟨hf.1, h.wfs, h.consec, by rw [h.sync]; exact hf.2⟩

theorem BInv.add {nb : NB} {s s' : St} {n : Node} (h : BInv e nb s) (hi : Inv e s')
    (hw : WF e.src n) (hfrm : n.frm = s.pos) (hto : n.to = s'.pos) : BInv e (nb.add n) s' := by
  refine ⟨hi, ?_, ?_, ?_⟩
  · exact WFs_append.mpr ⟨h.wfs, hw⟩
  · show Consec nb.frm (nb.children ++ [n])
    exact Consec_append.mpr ⟨h.consec, by rw [hfrm, h.sync]⟩
  · show endOf nb.frm (nb.children ++ [n]) = s'.pos
    rw [endOf_append, hto]

theorem BPostD.fwd {d : Nat} {nb nb' : NB} {s s' : St} (h : BPostD d e nb s nb' s') : Fwd e s s' :=
  ⟨h.1.inv, Nat.le_trans (Nat.le_add_right _ _) h.2.2⟩

theorem BPostD.weaken {d : Nat} {nb nb' : NB} {s s' : St} (h : BPostD d e nb s nb' s') : BPost e nb s nb' s' :=
  ⟨h.1, h.2.1, Nat.le_trans (Nat.le_add_right _ _) h.2.2⟩

theorem BPostD.trans {d d2 : Nat} {nb nb' nb'' : NB} {s s' s'' : St} (h1 : BPostD d e nb s nb' s')
    (h2 : BPostD d2 e nb' s' nb'' s'') : BPostD d e nb s nb'' s'' :=
  ⟨h2.1, h2.2.1.trans h1.2.1, Nat.le_trans h1.2.2 (Nat.le_trans (Nat.le_add_right _ _) h2.2.2)⟩

theorem BPost.refl {nb : NB} {s : St} (h : BInv e nb s) : BPost e nb s nb s :=
  ⟨h, rfl, Nat.le_refl _⟩

theorem BPostD.err {d : Nat} {nb nb' : NB} {s s' : St} (h : BPostD d e nb s nb' s') (m : Msg) :
    BPostD d e nb s nb' (errSt e s' m) :=
  ⟨h.1.err m, h.2.1, h.2.2⟩

theorem BPostD.setf {d : Nat} {nb nb' : NB} {s s' : St} (h : BPostD d e nb s nb' s') (f : Fields) :
    BPostD d e nb s { nb' with f := f } s' :=
  ⟨h.1.congr rfl rfl, h.2.1, h.2.2⟩

theorem rem_D {d : Nat} {nb nb' : NB} {s s' : St} (b : BPostD d e nb s nb' s') : rem e s' + d ≤ rem e s := by
  have := b.2.2; have := b.1.inv.le; unfold rem; omega

theorem addSep_run {nb : NB} {s : St} (h : BPre e nb s) :
    Run g (addSep nb e s) (fun nb' s' => s' = s ∧ BInv e nb' s ∧ nb'.frm = nb.frm) := by
  unfold addSep
  rw [bind_of_eq (getPos_eq _ _), NB.lastTo_eq]
  have hle := h.inv.le
  split
  · next hlt =>
    rw [bind_of_eq (sliceSrc_eq (Nat.le_of_lt hlt) hle)]
    refine Run_pure ⟨rfl, ?_, rfl⟩
    refine ⟨h.inv, ?_, ?_, ?_⟩
    · refine WFs_append.mpr ⟨h.wfs, ?_⟩
      simp only [WF, WFs, and_true, true_or]
      exact ⟨Nat.le_of_lt hlt, hle⟩
    · exact Consec_append.mpr ⟨h.consec, rfl⟩
    · show endOf nb.frm (nb.children ++ [_]) = s.pos
      rw [endOf_append]; rfl
  · next hge =>
    refine Run_pure ⟨rfl, ⟨h.inv, h.wfs, h.consec, ?_⟩, rfl⟩
    have := h.le
    omega

theorem addSep_fwd {d : Nat} {nb : NB} {s s' : St} (h : BInv e nb s) (hf : Fwd e s s') (hd : s.pos + d ≤ s'.pos) :
    Run g (addSep nb e s') (fun nb' s'' => BPostD d e nb s nb' s'') :=
  (addSep_run (BPre.of_fwd h hf)).mono (fun _ _ ⟨hs, hb, hfr⟩ => hs ▸ ⟨hb, hfr, hd⟩)

/-- `parseSep` answers `true` with the separator consumed, or `false` with nothing changed -/
theorem parseSep_cases {nb : NB} {s : St} {sep : Int} (hne : sep ≠ eof) (h : BInv e nb s) :
    Run g (parseSep nb sep e s) (fun p s' => (p.1 = true ∧ BPostD 1 e nb s p.2 s') ∨
      (p = (false, nb) ∧ s' = s ∧ peekRune e s ≠ sep)) := by
  unfold parseSep
  rw [bind_of_eq (peek_eq h.inv)]
  split
  · next hc =>
    rw [bind_of_eq (next_eq h.inv)]
    refine Run_bind (addSep_fwd (d := 1) h (nextSt_fwd h.inv)
      (nextSt_progress h.inv (ne_eof_of_eq (eq_of_beq hc) hne))) ?_
    exact fun nb' s' b => Run_pure (Or.inl ⟨rfl, b⟩)
  · next hc => exact Run_pure (Or.inr ⟨rfl, rfl, fun h => hc (beq_iff_eq.mpr h)⟩)

theorem parseSpacesInner_full {nb : NB} {s : St} (nl : Bool) (h : BInv e nb s) :
    Run g (parseSpacesInner nb nl e s) (fun nb' s' => BPost e nb s nb' s' ∧
      (SpaceStart nl (peekRune e s) → s.pos + 1 ≤ s'.pos)) := by
  unfold parseSpacesInner
  rw [bind_of_eq (loopFuel_eq _ _)]
  refine Run_bind (spacesLoop_run nl _ _ h.inv (fun _ => rem_lt_fuel _ _)) ?_
  intro _ s1 ⟨f1, hp1⟩
  refine (addSep_run (BPre.of_fwd h f1)).mono ?_
  intro nb' s' ⟨hs, hb, hf⟩
  subst hs
  exact ⟨⟨hb, hf, f1.2⟩, hp1⟩

theorem eof_not_varname (ip : Int → Bool) : allowedInVariableName ip eof = false := rfl
theorem eof_not_bareword (ip : Int → Bool) (ctx : Int) : allowedInBareword ip eof ctx = false := by
  unfold allowedInBareword
  rw [eof_not_varname]
  simp [eof]
theorem eof_not_primary (ip : Int → Bool) (ctx : Int) : startsPrimary ip eof ctx = false := by
  unfold startsPrimary
  rw [eof_not_bareword]
  simp [eof]
theorem eof_not_form (ip : Int → Bool) : startsForm ip eof = false := by
  unfold startsForm startsCompound startsIndexing
  rw [eof_not_primary]
  simp [IsInlineWhitespace, eof]

def LeafPost (e : Env) (nb : NB) (s : St) (nb' : NB) (s' : St) : Prop :=
  Fwd e s s' ∧ nb'.frm = nb.frm ∧ nb'.children = nb.children

/-- the common end of the alternatives whose value is the text they stepped over:
`pn.Value = ps.src[a:ps.pos]` -/
theorem value_slice {nb : NB} {s s' : St} {a : Nat} (hf : Fwd e s s') (ha : a ≤ s'.pos) :
    Run g ((getPos >>= fun pos => sliceSrc a pos >>= fun v => pure (nb.setValue v)) e s')
      (fun nb' s'' => s'' = s' ∧ nb'.frm = nb.frm ∧ nb'.children = nb.children) := by
  rw [bind_of_eq (getPos_eq _ _), bind_of_eq (sliceSrc_eq ha hf.1.le)]
  exact Run_pure ⟨rfl, rfl, rfl⟩

theorem bareword_run {nb : NB} {s : St} (h : Inv e s) (hf : nb.frm ≤ s.pos) :
    Run g (bareword nb e s) (fun nb' s' => LeafPost e nb s nb' s' ∧
      (allowedInBareword e.isPrint (peekRune e s) nb.f.ctx = true → s.pos + 1 ≤ s'.pos)) := by
  unfold bareword
  rw [bind_of_eq (getEnv_eq _ _), bind_of_eq (loopFuel_eq _ _)]
  refine Run_bind (skipWhile_run (fun r => allowedInBareword e.isPrint r (nb.setType Bareword).f.ctx) _ _ h
    (fun _ => ⟨eof_not_bareword _ _, rem_lt_fuel _ _⟩)) ?_
  intro _ s' ⟨f1, hp1⟩
  refine (value_slice (nb := nb.setType Bareword) f1 (Nat.le_trans hf f1.2)).mono ?_
  intro nb' s'' ⟨hs, hfr, hch⟩
  subst hs
  exact ⟨⟨f1, hfr, hch⟩, hp1 (eof_not_bareword _ _)⟩

theorem starWildcard_run {nb : NB} {s : St} (h : Inv e s) (hf : nb.frm ≤ s.pos) :
    Run g (starWildcard nb e s) (fun nb' s' => LeafPost e nb s nb' s' ∧ (peekRune e s = 42 → s.pos + 1 ≤ s'.pos)) := by
  unfold starWildcard
  rw [bind_of_eq (loopFuel_eq _ _)]
  refine Run_bind (skipWhile_run (fun r => r == 42) _ _ h (fun _ => ⟨by decide, rem_lt_fuel _ _⟩)) ?_
  intro _ s' ⟨f1, hp1⟩
  refine (value_slice (nb := nb.setType Wildcard) f1 (Nat.le_trans hf f1.2)).mono ?_
  intro nb' s'' ⟨hs, hfr, hch⟩
  subst hs
  exact ⟨⟨f1, hfr, hch⟩, fun hr => hp1 (by decide) (beq_iff_eq.mpr hr)⟩

theorem questionWildcard_run {nb : NB} {s : St} (h : Inv e s) (hf : nb.frm ≤ s.pos) :
    Run g (questionWildcard nb e s)
      (fun nb' s' => LeafPost e nb s nb' s' ∧ (peekRune e s = 63 → s.pos + 1 ≤ s'.pos)) := by
  unfold questionWildcard
  rw [bind_of_eq (peek_eq h)]
  refine Run_bind (P := fun _ s' => Fwd e s s' ∧ (peekRune e s = 63 → s.pos + 1 ≤ s'.pos)) ?_ ?_
  · split
    · next hc =>
      rw [bind_of_eq (next_eq h)]
      exact Run_pure ⟨nextSt_fwd h, fun hr => nextSt_progress h (ne_eof_of_eq hr (by decide))⟩
    · next hc => exact Run_pure ⟨Fwd.refl h, fun hr => absurd (beq_iff_eq.mpr hr) hc⟩
  · intro _ s' ⟨f1, hp1⟩
    refine (value_slice (nb := nb.setType Wildcard) f1 (Nat.le_trans hf f1.2)).mono ?_
    intro nb' s'' ⟨hs, hfr, hch⟩
    subst hs
    exact ⟨⟨f1, hfr, hch⟩, hp1⟩

theorem next_then {α} {s : St} (h : Inv e s) (hp : s.pos ≠ e.src.length) {f : Int → M α} {nb' : α → NB} {nb : NB}
    (hf : Run g (f (peekRune e s) e (nextSt e s)) (fun a s' => Fwd e (nextSt e s) s' ∧
      (nb' a).frm = nb.frm ∧ (nb' a).children = nb.children)) :
    Run g ((next >>= fun r => f r >>= fun a => pure (nb' a)) e s)
      (fun nb'' s' => LeafPost e nb s nb'' s' ∧ s.pos + 1 ≤ s'.pos) := by
  rw [bind_of_eq (next_eq h)]
  have hp1 := nextSt_progress h hp
  refine Run_bind hf ?_
  intro a s' ⟨f1, hfr, hch⟩
  exact Run_pure ⟨⟨(nextSt_fwd h).trans f1, hfr, hch⟩, by have := f1.2; omega⟩

theorem singleQuoted_run {nb : NB} {s : St} (h : Inv e s) (hp : s.pos ≠ e.src.length) :
    Run g (singleQuoted nb e s) (fun nb' s' => LeafPost e nb s nb' s' ∧ s.pos + 1 ≤ s'.pos) := by
  unfold singleQuoted
  exact next_then (nb := nb) h hp ((singleQuotedInner_run (nextSt_inv h)).mono (fun _ _ f => ⟨f, rfl, rfl⟩))

theorem doubleQuoted_run {nb : NB} {s : St} (h : Inv e s) (hp : s.pos ≠ e.src.length) :
    Run g (doubleQuoted nb e s) (fun nb' s' => LeafPost e nb s nb' s' ∧ s.pos + 1 ≤ s'.pos) := by
  unfold doubleQuoted
  exact next_then (nb := nb) h hp ((doubleQuotedInner_run (nextSt_inv h)).mono (fun _ _ f => ⟨f, rfl, rfl⟩))

theorem variableP_run {nb : NB} {s : St} (h : Inv e s) (hf : nb.frm = s.pos) (hp : s.pos ≠ e.src.length) :
    Run g (variableP nb e s) (fun nb' s' => LeafPost e nb s nb' s' ∧ s.pos + 1 ≤ s'.pos) := by
  -- the first `next` consumes `$`; afterwards the position never drops below that
  have h1 := nextSt_inv h
  have f1 := nextSt_fwd h
  have hp1 := nextSt_progress h hp
  have h2 := nextSt_inv h1
  have f12 := nextSt_fwd h1
  have fin : ∀ {nb' : NB} {s' : St}, Fwd e (nextSt e s) s' → nb'.frm = nb.frm → nb'.children = nb.children →
      LeafPost e nb s nb' s' ∧ s.pos + 1 ≤ s'.pos :=
    fun f hfr hch => ⟨⟨f1.trans f, hfr, hch⟩, by have := f.2; omega⟩
  unfold variableP
  rw [bind_of_eq (getEnv_eq _ _), bind_of_eq (next_eq h), bind_of_eq (next_eq h1)]
  split
  · rw [bind_of_eq (backup_nextSt h1), bind_of_eq (error_eq h1 _), bind_of_eq (next_eq (errSt_inv h1 _))]
    exact Run_pure (fin ((errSt_fwd h1 _).trans (nextSt_fwd (errSt_inv h1 _))) rfl rfl)
  split
  · refine Run_bind (singleQuotedInner_run h2) ?_
    intro _ s' f3
    exact Run_pure (fin (f12.trans f3) rfl rfl)
  split
  · refine Run_bind (doubleQuotedInner_run h2) ?_
    intro _ s' f3
    exact Run_pure (fin (f12.trans f3) rfl rfl)
  · refine Run_bind (P := fun _ s' => Fwd e (nextSt e s) s') ?_ ?_
    · split
      · rw [bind_of_eq (backup_nextSt h1)]
        exact Run_of_eq (error_eq h1 _) (errSt_fwd h1 _)
      · exact Run_pure f12
    · intro _ s3 f3
      rw [bind_of_eq (loopFuel_eq _ _)]
      refine Run_bind (skipWhile_fwd _ (eof_not_varname _) f3.1) ?_
      intro _ s4 f4
      have f34 := f3.trans f4
      refine (value_slice (nb := nb.setType Variable) (f1.trans f34) (by have := f34.2; simp only [NB.setType_frm]; omega)).mono ?_
      intro nb' s'' ⟨hs, hfr, hch⟩
      subst hs
      exact fin f34 hfr hch

end
end C01
