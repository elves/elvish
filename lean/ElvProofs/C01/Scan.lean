/-
The scanning functions (no tree building): they keep the invariant, never move the position
backwards, and their loops do not reach the bound `len + 2`, because every iteration that
continues consumes a byte.
-/
import ElvProofs.C01.SpacesCases
namespace C01
open Go
open Gen.C01Chars

section
variable {g : Prop} {e : Env}

theorem commentLoop_run : ∀ (n : Nat) (s : St), Inv e s → (g → rem e s < n) →
    Run g (commentLoop n e s) (fun _ s' => Fwd e s s')
  | 0, _, _, hn => Run_fuel (fun hg => Nat.not_lt_zero _ (hn hg))
  | n + 1, s, h, hn => by
    unfold commentLoop
    rw [bind_of_eq (peek_eq h)]
    split
    · exact Run_pure (Fwd.refl h)
    · next hc =>
      have hp : s.pos ≠ e.src.length := by
        intro heq; apply hc; simp [peekRune_eof.mpr heq]
      have r1 := rem_next h hp
      rw [bind_of_eq (next_eq h)]
      exact (commentLoop_run n _ (nextSt_inv h) (fun hg => by have := hn hg; omega)).fwd (nextSt_fwd h)

/-- the runes on which `parseSpacesInner` is sure to consume something -/
abbrev SpaceStart (nl : Bool) (r : Int) : Prop :=
  IsInlineWhitespace r = true ∨ (nl = true ∧ IsWhitespace r = true) ∨ r = 35

theorem SpaceStart.ne_eof {nl : Bool} {r : Int} (h : SpaceStart nl r) : r ≠ eof := by
  intro heq
  rw [heq] at h
  revert h
  cases nl <;> decide

theorem spacesLoop_run (nl : Bool) : ∀ (n : Nat) (s : St), Inv e s → (g → rem e s < n) →
    Run g (spacesLoop nl n e s)
      (fun _ s' => Fwd e s s' ∧ (SpaceStart nl (peekRune e s) → s.pos + 1 ≤ s'.pos))
  | 0, _, _, hn => Run_fuel (fun hg => Nat.not_lt_zero _ (hn hg))
  | n + 1, s, h, hn => by
    have h1 := nextSt_inv h
    have f1 := nextSt_fwd h
    have h2 := nextSt_inv h1
    have f2 := f1.trans (nextSt_fwd h1)
    -- every branch but the last starts with `next` on a rune that is not `eof`
    have step : peekRune e s ≠ eof → s.pos + 1 ≤ (nextSt e s).pos ∧ rem e (nextSt e s) + 1 ≤ rem e s :=
      fun hne => ⟨nextSt_progress h (fun heq => hne (peekRune_eof.mpr heq)),
        rem_next h (fun heq => hne (peekRune_eof.mpr heq))⟩
    -- the rest of the loop from a later state `s1`
    have rest : ∀ s1, Fwd e s s1 → s.pos + 1 ≤ s1.pos → rem e s1 + 1 ≤ rem e s →
        Run g (spacesLoop nl n e s1) (fun _ s' => Fwd e s s' ∧ (SpaceStart nl (peekRune e s) → s.pos + 1 ≤ s'.pos)) :=
      fun s1 fw hp hr => (spacesLoop_run nl n s1 fw.1 (fun hg => by have := hn hg; omega)).mono
        (fun _ s' p => ⟨fw.trans p.1, fun _ => Nat.le_trans hp p.1.2⟩)
    refine spacesLoop_cases (motive := fun o => Run g o _) (peek_eq h)
      (space := fun hc => ?_) (comment := fun hc => ?_) (caret := fun hc => ?_)
      (stop := fun hn1 hn2 hn3 _ => Run_pure ⟨Fwd.refl h, fun hs => (hs.elim hn1 (fun hs => hs.elim hn2 hn3)).elim⟩)
    · obtain ⟨p1, r1⟩ := step (SpaceStart.ne_eof (hc.elim Or.inl (fun hc => Or.inr (Or.inl hc))))
      rw [bind_of_eq (next_eq h)]
      exact rest _ f1 p1 r1
    · obtain ⟨p1, r1⟩ := step (by rw [hc]; decide)
      rw [bind_of_eq (next_eq h), bind_of_eq (loopFuel_eq _ _)]
      refine Run_bind (commentLoop_run _ _ h1 (fun _ => rem_lt_fuel _ _)) (fun _ s2 f2 => ?_)
      have := rem_mono f2
      exact rest s2 (f1.trans f2) (Nat.le_trans p1 f2.2) (by omega)
    · obtain ⟨p1, r1⟩ := step (by rw [hc]; decide)
      have r2 := rem_mono (nextSt_fwd h1)
      rw [bind_of_eq (next_eq h)]
      refine caretRest_cases (motive := fun o => Run g o _) (peek_eq h1)
        (cr := fun _ => ?_) (lf := fun _ => ?_) (atEof := fun _ => ?_) (other := fun _ => ?_)
      · rw [bind_of_eq (next_eq h1), bind_of_eq (peek_eq h2)]
        split
        · rw [bind_of_eq (next_eq h2)]
          have := rem_mono (nextSt_fwd h2)
          exact rest _ (f2.trans (nextSt_fwd h2)) (Nat.le_trans p1 (Nat.le_trans (nextSt_fwd h1).2 (nextSt_fwd h2).2))
            (by omega)
        · exact rest _ f2 (Nat.le_trans p1 (nextSt_fwd h1).2) (by omega)
      · rw [bind_of_eq (next_eq h1)]
        exact rest _ f2 (Nat.le_trans p1 (nextSt_fwd h1).2) (by omega)
      · rw [bind_of_eq (error_eq h1 _)]
        exact rest _ (f1.trans (errSt_fwd h1 _)) p1 r1
      · rw [bind_of_eq (backup_nextSt h)]
        refine Run_pure ⟨Fwd.refl h, fun hs => absurd hs ?_⟩
        rw [hc]
        cases nl <;> decide

theorem skipWhile_run (p : Int → Bool) : ∀ (n : Nat) (s : St), Inv e s → (g → p eof = false ∧ rem e s < n) →
    Run g (skipWhile p n e s)
      (fun _ s' => Fwd e s s' ∧ (p eof = false → p (peekRune e s) = true → s.pos + 1 ≤ s'.pos))
  | 0, _, _, hn => Run_fuel (fun hg => Nat.not_lt_zero _ (hn hg).2)
  | n + 1, s, h, hn => by
    unfold skipWhile
    rw [bind_of_eq (peek_eq h)]
    split
    · next hc =>
      rw [bind_of_eq (next_eq h)]
      refine (skipWhile_run p n _ (nextSt_inv h) (fun hg => ⟨(hn hg).1, ?_⟩)).mono (fun _ s' q => ?_)
      · have := rem_next h (ne_eof_of (hn hg).1 hc); have := (hn hg).2; omega
      · exact ⟨(nextSt_fwd h).trans q.1, fun hp _ => Nat.le_trans (nextSt_progress h (ne_eof_of hp hc)) q.1.2⟩
    · next hc => exact Run_pure ⟨Fwd.refl h, fun _ hc' => absurd hc' hc⟩

theorem skipWhile_spec (p : Int → Bool) (n : Nat) (s : St) (h : Inv e s) :
    Ok (skipWhile p n e s) (fun _ s' => Fwd e s s') :=
  ((skipWhile_run (g := False) p n s h False.elim).mono (fun _ _ q => q.1)).ok

theorem skipWhile_fwd (p : Int → Bool) (hp : p eof = false) {s : St} (h : Inv e s) :
    Run g (skipWhile p (e.src.length + 2) e s) (fun _ s' => Fwd e s s') :=
  (skipWhile_run p _ s h (fun _ => ⟨hp, rem_lt_fuel _ _⟩)).mono (fun _ _ q => q.1)

theorem singleQuotedLoop_run : ∀ (n : Nat) (buf : Bytes) (s : St), Inv e s → (g → rem e s < n) →
    Run g (singleQuotedLoop n buf e s) (fun _ s' => Fwd e s s')
  | 0, _, _, _, hn => Run_fuel (fun hg => Nat.not_lt_zero _ (hn hg))
  | n + 1, buf, s, h, hn => by
    have h1 := nextSt_inv h
    have f1 := nextSt_fwd h
    unfold singleQuotedLoop
    rw [bind_of_eq (next_eq h)]
    split
    · rw [bind_of_eq (error_eq h1 _)]
      exact Run_pure (f1.trans (errSt_fwd h1 _))
    · next hc =>
      have r1 := rem_next h (fun heq => hc (by simp [peekRune_eof.mpr heq]))
      split
      · rw [bind_of_eq (peek_eq h1)]
        split
        · rw [bind_of_eq (next_eq h1)]
          have := rem_mono (nextSt_fwd h1)
          exact (singleQuotedLoop_run n _ _ (nextSt_inv h1) (fun hg => by have := hn hg; omega)).fwd
            (f1.trans (nextSt_fwd h1))
        · exact Run_pure f1
      · exact (singleQuotedLoop_run n _ _ h1 (fun hg => by have := hn hg; omega)).fwd f1

theorem singleQuotedLoop_spec (n : Nat) (buf : Bytes) (s : St) (h : Inv e s) :
    Ok (singleQuotedLoop n buf e s) (fun _ s' => Fwd e s s') :=
  (singleQuotedLoop_run (g := False) n buf s h False.elim).ok

theorem singleQuotedInner_run {s : St} (h : Inv e s) : Run g (singleQuotedInner e s) (fun _ s' => Fwd e s s') := by
  unfold singleQuotedInner
  rw [bind_of_eq (loopFuel_eq _ _)]
  exact singleQuotedLoop_run _ _ _ h (fun _ => rem_lt_fuel _ _)

theorem hexLoop_run : ∀ (n : Nat) (rr : Int) (s : St), Inv e s →
    Run g (hexLoop n rr e s) (fun _ s' => Fwd e s s')
  | 0, _, _, h => Run_pure (Fwd.refl h)
  | n + 1, rr, s, h => by
    unfold hexLoop
    rw [bind_of_eq (next_eq h)]
    split
    · rw [bind_of_eq (backup_nextSt h), bind_of_eq (error_eq h _)]
      exact Run_pure (errSt_fwd h _)
    · exact (hexLoop_run n _ _ (nextSt_inv h)).fwd (nextSt_fwd h)

def errpSt (e : Env) (s : St) (a b : Nat) (m : Msg) : St :=
  { s with errors := s.errors ++ [{ frm := a, to := b, partial_ := a == e.src.length, msg := m }] }

theorem errorp_eq {s : St} {a b : Nat} (h1 : a ≤ b) (h2 : b ≤ e.src.length) (m : Msg) :
    errorp a b m e s = .ok () (errpSt e s a b m) := by
  unfold errorp errpSt; simp [h1, h2]

theorem errpSt_fwd {s : St} (h : Inv e s) {a b : Nat} (h1 : a ≤ b) (h2 : b ≤ e.src.length) (m : Msg) :
    Fwd e s (errpSt e s a b m) := by
  refine ⟨⟨h.le, h.bnd, h.eof, ?_⟩, Nat.le_refl _⟩
  intro x hx
  simp only [errpSt, List.mem_append, List.mem_singleton] at hx
  rcases hx with hx | hx
  · exact h.errs x hx
  · subst hx; exact ⟨h1, h2⟩

/-- The two further digits of an octal escape: either both were read (two
more bytes consumed) or the value stayed below 64. -/
theorem octLoop2_run (rr : Int) (s : St) (h : Inv e s) (hr : rr ≤ 7) :
    Run g (octLoop 2 rr e s) (fun rr' s' => Fwd e s s' ∧ (s.pos + 2 ≤ s'.pos ∨ rr' ≤ 63)) := by
  have h1 := nextSt_inv h
  have f1 := nextSt_fwd h
  unfold octLoop
  rw [bind_of_eq (next_eq h)]
  split
  · rw [bind_of_eq (backup_nextSt h), bind_of_eq (error_eq h _)]
    exact Run_pure ⟨errSt_fwd h _, Or.inr (by omega)⟩
  · next hc =>
    have hp1 := nextSt_progress h (fun heq => hc (by simp [peekRune_eof.mpr heq, eof]))
    unfold octLoop
    rw [bind_of_eq (next_eq h1)]
    split
    · rw [bind_of_eq (backup_nextSt h1), bind_of_eq (error_eq h1 _)]
      refine Run_pure ⟨f1.trans (errSt_fwd h1 _), Or.inr ?_⟩
      simp at hc; omega
    · next hc2 =>
      have hp2 := nextSt_progress h1 (fun heq => hc2 (by simp [peekRune_eof.mpr heq, eof]))
      unfold octLoop
      exact Run_pure ⟨f1.trans (nextSt_fwd h1), Or.inl (by omega)⟩

theorem doubleQuotedEscape_run {s : St} (h : Inv e s) (hpos : 1 ≤ s.pos) :
    Run g (doubleQuotedEscape e s) (fun _ s' => Fwd e s s') := by
  have h1 := nextSt_inv h
  have f1 := nextSt_fwd h
  unfold doubleQuotedEscape
  rw [bind_of_eq (next_eq h)]
  -- `by_cases` with `if_pos`/`if_neg`, not `split`: see `primaryBody_cases`
  by_cases hctl : (peekRune e s == 99 || peekRune e s == 94) = true
  · rw [if_pos hctl, bind_of_eq (next_eq h1)]
    refine Run_bind (P := fun _ s' => Fwd e s s') ?_ ?_
    · split
      · rw [bind_of_eq (backup_nextSt h1), bind_of_eq (error_eq h1 _), bind_of_eq (next_eq (errSt_inv h1 _))]
        exact Run_pure (f1.trans ((errSt_fwd h1 _).trans (nextSt_fwd (errSt_inv h1 _))))
      · exact Run_pure (f1.trans (nextSt_fwd h1))
    · intro _ s' hf
      split <;> exact Run_pure hf
  rw [if_neg hctl]
  by_cases hhex : (peekRune e s == 120 || peekRune e s == 117 || peekRune e s == 85) = true
  · rw [if_pos hhex]
    refine Run_bind ((hexLoop_run _ _ _ h1).fwd f1) ?_
    intro _ s' hf
    split <;> exact Run_pure hf
  rw [if_neg hhex]
  by_cases hoct : (decide (48 ≤ peekRune e s) && decide (peekRune e s ≤ 55)) = true
  · rw [if_pos hoct]
    simp only [Bool.and_eq_true, decide_eq_true_eq] at hoct
    have hp1 := nextSt_progress h (ne_eof_of_ge (by omega : 0 ≤ peekRune e s))
    refine Run_bind (octLoop2_run _ _ h1 (by omega)) ?_
    intro rr s' ⟨hf, hor⟩
    split
    · exact Run_pure (f1.trans hf)
    · rw [bind_of_eq (getPos_eq _ _)]
      have hle := hf.1.le
      have h4 : 4 ≤ s'.pos := by omega
      rw [if_pos h4, bind_of_eq (errorp_eq (by omega) hle _)]
      exact Run_pure (f1.trans (hf.trans (errpSt_fwd hf.1 (by omega) hle _)))
  rw [if_neg hoct]
  cases List.lookup (peekRune e s) doubleEscape with
  | some rr => exact Run_pure f1
  | none =>
    show Run g ((backup >>= fun _ => error Msg.invalidEscape >>= fun _ => next >>= fun _ => pure []) e (nextSt e s)) _
    rw [bind_of_eq (backup_nextSt h), bind_of_eq (error_eq h _), bind_of_eq (next_eq (errSt_inv h _))]
    exact Run_pure ((errSt_fwd h _).trans (nextSt_fwd (errSt_inv h _)))

theorem doubleQuotedLoop_run : ∀ (n : Nat) (buf : Bytes) (s : St), Inv e s → (g → rem e s < n) →
    Run g (doubleQuotedLoop n buf e s) (fun _ s' => Fwd e s s')
  | 0, _, _, _, hn => Run_fuel (fun hg => Nat.not_lt_zero _ (hn hg))
  | n + 1, buf, s, h, hn => by
    have h1 := nextSt_inv h
    have f1 := nextSt_fwd h
    unfold doubleQuotedLoop
    rw [bind_of_eq (next_eq h)]
    split
    · rw [bind_of_eq (error_eq h1 _)]
      exact Run_pure (f1.trans (errSt_fwd h1 _))
    · next hc =>
      have hp : s.pos ≠ e.src.length := fun heq => hc (by simp [peekRune_eof.mpr heq])
      have hp1 := nextSt_progress h hp
      have r1 := rem_next h hp
      split
      · exact Run_pure f1
      split
      · refine Run_bind (doubleQuotedEscape_run h1 (by omega)) ?_
        intro b s' hf
        have := rem_mono hf
        exact (doubleQuotedLoop_run n _ _ hf.1 (fun hg => by have := hn hg; omega)).fwd (f1.trans hf)
      · exact (doubleQuotedLoop_run n _ _ h1 (fun hg => by have := hn hg; omega)).fwd f1

theorem doubleQuotedLoop_spec (n : Nat) (buf : Bytes) (s : St) (h : Inv e s) :
    Ok (doubleQuotedLoop n buf e s) (fun _ s' => Fwd e s s') :=
  (doubleQuotedLoop_run (g := False) n buf s h False.elim).ok

theorem doubleQuotedInner_run {s : St} (h : Inv e s) : Run g (doubleQuotedInner e s) (fun _ s' => Fwd e s s') := by
  unfold doubleQuotedInner
  rw [bind_of_eq (loopFuel_eq _ _)]
  exact doubleQuotedLoop_run _ _ _ h (fun _ => rem_lt_fuel _ _)

end
end C01
