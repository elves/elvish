/-
`body`, `wrap`, `parseNT` (induction on fuel) and the entry points.
-/
import ElvProofs.C01.Grammar2
namespace C01
open Go
open Gen.C01Chars

section
variable {g : Prop} {e : Env} {rec : NT → M Node} {N : Nat}

theorem NTFrm_le {nt : NT} {s : St} (h : NTPre e nt s) : NTFrm nt s ≤ s.pos := by
  unfold NTFrm
  split
  · next l =>
    obtain ⟨hw, hto⟩ := h
    rw [← hto]; exact (WF_range hw).1
  · exact Nat.le_refl _

/-- what `n.parse(ps)` leaves behind for the wrapper -/
def BodyNT (e : Env) (nt : NT) (s : St) (nb' : NB) (s' : St) : Prop :=
  BodyPost e { frm := NTFrm nt s, f := nt.init, children := [] } s nb' s' ∧
  (Starts e nt (peekRune e s) → s.pos + 1 ≤ s'.pos)

theorem body_run (hrec : RecRun g e rec N) (nt : NT) {s : St} (hi : Inv e s) (hpre : NTPre e nt s)
    (hN : g → need e nt s ≤ N) :
    Run g (body rec nt { frm := s.pos, f := nt.init, children := [] } e s) (BodyNT e nt s) := by
  have h0 : BInv e { frm := s.pos, f := nt.init, children := [] } s := ⟨hi, trivial, trivial, rfl⟩
  -- every body but `Primary`'s is a `Bd` with the rank of its nonterminal, on a builder that starts where the node does
  have node : ∀ {nb nb1 : NB}, nb1.frm = NTFrm nt s → BInv e nb1 s →
      Bd g e N Any (Starts e nt) (rem e s + 1) (rank nt) nb1 (body rec nt nb) id →
      Run g (body rec nt nb e s) (BodyNT e nt s) :=
    fun hf hb h => (h s hb trivial fun hg => ⟨Nat.lt_succ_self _, hN hg⟩).mono fun _ _ ⟨b, hp⟩ =>
      ⟨⟨b.fwd, b.2.1.trans hf, b.1.wfs, Or.inr ⟨b.1.consec, b.1.sync⟩⟩, hp⟩
  cases nt with
  | chunk => exact node rfl h0 (chunkBody_bd hrec)
  | filter => exact node rfl h0 (filterBody_bd hrec)
  | array => exact node rfl h0 (arrayBody_bd hrec)
  | pipeline => exact node rfl h0 (pipelineBody_bd hrec)
  | form => exact node rfl h0 (formBody_bd hrec)
  | redir left =>
    obtain ⟨hb1, hf1⟩ := attachLeft_inv left h0 rfl rfl hpre
    exact node hf1 hb1 (redirRest_bd hrec)
  | compound c => exact node rfl h0 (compoundBody_bd hrec rfl)
  | indexing c => exact node rfl h0 (indexingBody_bd hrec rfl)
  | primary c => exact primaryBody_run hrec h0 rfl rfl hN
  | mapPair => exact node rfl h0 (mapPairBody_bd hrec)

/-- The generic wrapper does what is asked of the recursive calls if they do, one level up. -/
theorem wrap_run (hrec : RecRun g e rec N) : RecRun g e (wrap rec) (N + 1) := by
  intro nt s hi hpre hN
  unfold wrap
  rw [bind_of_eq (getPos_eq _ _)]
  refine Run_bind (body_run hrec nt hi hpre (fun hg => Nat.le_of_lt_succ (hN hg))) ?_
  intro nb' s' ⟨⟨hf, hfrm, hw, ht⟩, hp⟩
  rw [bind_of_eq (getPos_eq _ _)]
  have hle : nb'.frm ≤ s'.pos := by
    rw [hfrm]; exact Nat.le_trans (NTFrm_le hpre) hf.2
  rw [bind_of_eq (sliceSrc_eq hle hf.1.le)]
  refine Run_pure ⟨⟨hf, ?_, rfl, hfrm⟩, hp⟩
  simp only [WF]
  exact ⟨hle, hf.1.le, trivial, ht, hw⟩

/-- Every grammar function, at every fuel, returns a well-formed node that ends at the new
position, keeps the state invariant (all errors in range), never moves backwards and consumes a
byte if entered on a rune that starts it — or runs out of fuel, which it does not when
`fuel > 7·(bytes left) + rank nt`; it never panics. -/
theorem parseNT_run : ∀ (fuel : Nat), RecRun g e (parseNT fuel) fuel
  | 0 => fun _ _ _ _ hN => Run_fuel (fun hg => Nat.not_lt_zero _ (hN hg))
  | fuel + 1 => by
    have ih : RecRun g e (fun nt' => parseNT fuel nt') fuel := parseNT_run fuel
    intro nt s hi hpre hN
    unfold parseNT
    exact wrap_run ih nt s hi hpre hN

/-- the part of `parseNT_run` that holds at every fuel -/
def RecSpec (e : Env) (rec : NT → M Node) : Prop :=
  ∀ nt s, Inv e s → NTPre e nt s → Ok (rec nt e s) (NodePost e nt s)

theorem parseNT_spec (fuel : Nat) : RecSpec e (parseNT fuel) :=
  fun nt s hi hpre => ((parseNT_run (g := False) fuel nt s hi hpre False.elim).mono (fun _ _ q => q.1)).ok

end

theorem inv_init (e : Env) : Inv e { pos := 0, overEOF := 0, errors := [] } :=
  ⟨Nat.zero_le _, Bnd.zero, fun h => absurd h (Nat.lt_irrefl 0), fun _ hx => by cases hx⟩

def ErrsInRange (src : Bytes) (errs : List PErr) : Prop :=
  ∀ x ∈ errs, x.frm ≤ x.to ∧ x.to ≤ src.length

/-- text after the root is reported by an "unexpected rune" error that points at it -/
def TailReported (src : Bytes) (t : Node) (errs : List PErr) : Prop :=
  t.to = src.length ∨
    (t.to < src.length ∧ ∃ x ∈ errs, x.frm = t.to ∧ x.to = t.to + 1 ∧ ∃ r, x.msg = .unexpectedRune r)

def GoodResult (src : Bytes) (r : ParseResult) : Prop :=
  match r with
  | .ok t errs => WF src t ∧ t.frm = 0 ∧ ErrsInRange src errs ∧ TailReported src t errs
  | .panic _ => False
  | .fuel => True

def doneSt (e : Env) (s : St) : St :=
  if s.pos = e.src.length then s
  else errSt e s (.unexpectedRune ((decodeRune (e.src.drop s.pos)).1 : Nat))

theorem done_eq {e : Env} {s : St} (h : Inv e s) : done e s = .ok () (doneSt e s) := by
  unfold done doneSt
  by_cases hp : s.pos = e.src.length
  · simp [hp]
  · simp only [ne_eq, hp, not_false_eq_true, if_true, h.le, if_false]
    exact error_eq h _

def toResult : Out Node → ParseResult
  | .ok n s => .ok n s.errors
  | .panic w => .panic w
  | .fuel => .fuel

/-- `ParseAs` from the initial state, for any node type but a `Redir` that claims a left operand -/
theorem parseAs_run {g : Prop} (e : Env) (fuel : Nat) (nt : NT) (hnt : ∀ l, nt ≠ .redir (some l))
    (hfuel : g → 7 * e.src.length + rank nt < fuel) :
    Run g ((parseNT fuel nt >>= fun n => done >>= fun _ => pure n) e { pos := 0, overEOF := 0, errors := [] })
      (fun t s' => WF e.src t ∧ t.frm = 0 ∧ ErrsInRange e.src s'.errors ∧ TailReported e.src t s'.errors) := by
  have hpre : NTPre e nt { pos := 0, overEOF := 0, errors := [] } := by
    unfold NTPre; split
    · next l => exact absurd rfl (hnt l)
    · trivial
  have hfrm : NTFrm nt { pos := 0, overEOF := 0, errors := [] } = 0 := by
    unfold NTFrm; split
    · next l => exact absurd rfl (hnt l)
    · rfl
  refine Run_bind (parseNT_run fuel nt _ (inv_init e) hpre hfuel) ?_
  intro n s' ⟨⟨hf, hw, hto, hfr⟩, _⟩
  rw [bind_of_eq (done_eq hf.1)]
  refine Run_pure ⟨hw, hfr.trans hfrm, ?_, ?_⟩
  · unfold doneSt; split
    · exact hf.1.errs
    · exact (errSt_inv hf.1 _).errs
  · unfold doneSt
    by_cases hp : s'.pos = e.src.length
    · exact Or.inl (hto.trans hp)
    · have hlt : s'.pos < e.src.length := Nat.lt_of_le_of_ne hf.1.le hp
      simp only [hp, if_false]
      refine Or.inr ⟨by rw [hto]; exact hlt, _, List.mem_append_right _ (List.mem_singleton.mpr rfl),
        hto.symm, ?_, _, rfl⟩
      simp only [hlt, if_true, hto]

theorem parseAsFuel_eq (isPrint : Int → Bool) (fuel : Nat) (nt : NT) (src : Bytes) :
    parseAsFuel isPrint fuel nt src =
      toResult ((parseNT fuel nt >>= fun n => done >>= fun _ => pure n) { isPrint := isPrint, src := src }
        { pos := 0, overEOF := 0, errors := [] }) := by
  unfold parseAsFuel toResult
  rfl

theorem parseAsFuel_good (isPrint : Int → Bool) (fuel : Nat) (nt : NT) (src : Bytes)
    (hnt : ∀ l, nt ≠ .redir (some l)) : GoodResult src (parseAsFuel isPrint fuel nt src) := by
  rw [parseAsFuel_eq]
  have h := parseAs_run (g := False) { isPrint := isPrint, src := src } fuel nt hnt False.elim
  revert h
  cases (parseNT fuel nt >>= fun n => done >>= fun _ => pure n) { isPrint := isPrint, src := src }
    { pos := 0, overEOF := 0, errors := [] } with
  | ok n s' => exact id
  | panic w => exact id
  | fuel => exact fun _ => trivial

theorem parseAs_no_fuel (isPrint : Int → Bool) (nt : NT) (src : Bytes) (hnt : ∀ l, nt ≠ .redir (some l)) :
    parseAs isPrint nt src ≠ .fuel := by
  unfold parseAs
  rw [parseAsFuel_eq]
  have hrank : rank nt ≤ 6 := by cases nt <;> simp [rank]
  obtain ⟨n, s', hr, _⟩ := (parseAs_run (g := True) { isPrint := isPrint, src := src } (defaultFuel src) nt hnt
    (fun _ => by show 7 * src.length + rank nt < 7 * src.length + 8; omega)).returns trivial
  rw [hr]
  intro h
  cases h

end C01
