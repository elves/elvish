/-
The dispatch of `(*Primary).parse` on the rune it peeks at, as a case analysis.

`split` on the ten nested `if`s of `primaryBody` costs twice as much for each level of nesting,
so every statement about `primaryBody` goes through `primaryBody_cases` and does not unfold it.
-/
import ElvProofs.C01.Hoare
namespace C01
open Go
open Gen.C01Chars

/-- To prove something of `primaryBody rec nb e s`, where `peek` gives `r`, prove it of the
alternative taken in each of the ten cases.  The final `else` of the Go function (`r` starts a
primary and is none of the cases) is dead code, so it asks for nothing. -/
theorem primaryBody_cases {rec : NT → M Node} {nb : NB} {e : Env} {s : St} {r : Int}
    {motive : Out NB → Prop} (hpk : peek e s = .ok r s)
    (notPrimary : startsPrimary e.isPrint r nb.f.ctx = false →
      motive ((do error .shouldBePrimary; pure nb : M NB) e s))
    (bare : allowedInBareword e.isPrint r nb.f.ctx = true → motive (bareword nb e s))
    (single : r = 39 → motive (singleQuoted nb e s))
    (double : r = 34 → motive (doubleQuoted nb e s))
    (dollar : r = 36 → motive (variableP nb e s))
    (star : r = 42 → motive (starWildcard nb e s))
    (question : r = 63 → motive
      ((do let cap ← hasPrefix [63, 40]; if cap then exitusCapture rec nb else questionWildcard nb : M NB) e s))
    (paren : r = 40 → motive (outputCapture rec nb e s))
    (bracket : r = 91 → motive (lbracket rec nb e s))
    (brace : r = 123 → motive (lbrace rec nb e s)) :
    motive (primaryBody rec nb e s) := by
  unfold primaryBody
  rw [bind_of_eq (getEnv_eq e s), bind_of_eq hpk]
  by_cases hst : (!startsPrimary e.isPrint r nb.f.ctx) = true
  · rw [if_pos hst]; exact notPrimary ((Bool.not_eq_true' _).mp hst)
  rw [if_neg hst]
  by_cases hbare : allowedInBareword e.isPrint r nb.f.ctx = true
  · rw [if_pos hbare]; exact bare hbare
  rw [if_neg hbare]
  by_cases hsq : (r == 39) = true
  · rw [if_pos hsq]; exact single (eq_of_beq hsq)
  rw [if_neg hsq]
  by_cases hdq : (r == 34) = true
  · rw [if_pos hdq]; exact double (eq_of_beq hdq)
  rw [if_neg hdq]
  by_cases hdollar : (r == 36) = true
  · rw [if_pos hdollar]; exact dollar (eq_of_beq hdollar)
  rw [if_neg hdollar]
  by_cases hstar : (r == 42) = true
  · rw [if_pos hstar]; exact star (eq_of_beq hstar)
  rw [if_neg hstar]
  by_cases hq : (r == 63) = true
  · rw [if_pos hq]; exact question (eq_of_beq hq)
  rw [if_neg hq]
  by_cases hlparen : (r == 40) = true
  · rw [if_pos hlparen]; exact paren (eq_of_beq hlparen)
  rw [if_neg hlparen]
  by_cases hlbracket : (r == 91) = true
  · rw [if_pos hlbracket]; exact bracket (eq_of_beq hlbracket)
  rw [if_neg hlbracket]
  by_cases hlbrace : (r == 123) = true
  · rw [if_pos hlbrace]; exact brace (eq_of_beq hlbrace)
  simp only [Bool.not_eq_true', Bool.not_eq_false, startsPrimary, Bool.or_eq_true, hbare, hsq, hdq, hdollar, hstar, hq, hlparen, hlbracket, hlbrace,
    or_self, Bool.false_eq_true] at hst

end C01
