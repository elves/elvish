/-
Well-formedness of parse trees (the "lossless" half of C01) and the generic
facts about it: appending a child, leaves concatenate to the covered text.
-/
import ElvModel.C01.Model
namespace C01
open Go

/-- `src[a:b]` as a total function (the value `Go.slice` returns when it does not panic). -/
def srcSlice (src : Bytes) (a b : Nat) : Bytes := (src.drop a).take (b - a)

def Consec : Nat → List Node → Prop
  | _, [] => True
  | a, c :: cs => c.frm = a ∧ Consec c.to cs

def endOf : Nat → List Node → Nat
  | a, [] => a
  | _, c :: cs => endOf c.to cs

mutual
/-- Property C01 (b)+(d) for one tree: ranges inside the source, text is the
source slice of the range, children (if any) tile the range in order, and the
same below. -/
def WF (src : Bytes) : Node → Prop
  | .mk _ a b t _ cs =>
    a ≤ b ∧ b ≤ src.length ∧ t = srcSlice src a b ∧
      (cs = [] ∨ (Consec a cs ∧ endOf a cs = b)) ∧ WFs src cs
def WFs (src : Bytes) : List Node → Prop
  | [] => True
  | c :: cs => WF src c ∧ WFs src cs
end

mutual
def leaves : Node → Bytes
  | .mk _ _ _ t _ cs => if cs.isEmpty then t else leavesL cs
def leavesL : List Node → Bytes
  | [] => []
  | c :: cs => leaves c ++ leavesL cs
end

theorem WF_range {src : Bytes} {n : Node} (h : WF src n) : n.frm ≤ n.to ∧ n.to ≤ src.length := by
  cases n; simp only [WF] at h; exact ⟨h.1, h.2.1⟩

theorem WF_text {src : Bytes} {n : Node} (h : WF src n) : n.text = srcSlice src n.frm n.to := by
  cases n; simp only [WF] at h; exact h.2.2.1

theorem WFs_append {src : Bytes} {cs : List Node} {c : Node} :
    WFs src (cs ++ [c]) ↔ WFs src cs ∧ WF src c := by
  induction cs with
  | nil => simp [WFs]
  | cons d ds ih => simp [WFs, ih, and_assoc]

theorem Consec_append {a : Nat} {cs : List Node} {c : Node} :
    Consec a (cs ++ [c]) ↔ Consec a cs ∧ c.frm = endOf a cs := by
  induction cs generalizing a with
  | nil => simp [Consec, endOf]
  | cons d ds ih => simp [Consec, endOf, ih, and_assoc]

theorem endOf_append {a : Nat} {cs : List Node} {c : Node} : endOf a (cs ++ [c]) = c.to := by
  induction cs generalizing a with
  | nil => simp [endOf]
  | cons d ds ih => simp [endOf, ih]

theorem endOf_eq_getLast (a : Nat) (cs : List Node) :
    endOf a cs = (cs.getLast?.map Node.to).getD a := by
  induction cs generalizing a with
  | nil => simp [endOf]
  | cons d ds ih =>
    simp only [endOf, ih]
    cases ds with
    | nil => simp
    | cons e es =>
      rw [List.getLast?_cons_cons]
      cases h : (e :: es).getLast? with
      | none => simp at h
      | some c => simp

theorem NB.lastTo_eq (nb : NB) : nb.lastTo = endOf nb.frm nb.children := by
  rw [endOf_eq_getLast]
  unfold NB.lastTo
  cases nb.children.getLast? <;> simp

theorem le_endOf {src : Bytes} {a : Nat} {cs : List Node} (hw : WFs src cs) (hc : Consec a cs) :
    a ≤ endOf a cs := by
  induction cs generalizing a with
  | nil => simp [endOf]
  | cons d ds ih =>
    simp only [WFs] at hw
    simp only [Consec] at hc
    simp only [endOf]
    have := ih hw.2 hc.2
    have := WF_range hw.1
    omega

theorem endOf_le {src : Bytes} {a : Nat} {cs : List Node} (hw : WFs src cs) (ha : a ≤ src.length) :
    endOf a cs ≤ src.length := by
  induction cs generalizing a with
  | nil => simpa [endOf]
  | cons d ds ih =>
    simp only [WFs] at hw
    simp only [endOf]
    exact ih hw.2 (WF_range hw.1).2

theorem srcSlice_append (src : Bytes) (a b c : Nat) (h1 : a ≤ b) (h2 : b ≤ c) :
    srcSlice src a b ++ srcSlice src b c = srcSlice src a c := by
  unfold srcSlice
  have : src.drop b = (src.drop a).drop (b - a) := by
    rw [List.drop_drop]; congr 1; omega
  rw [this]
  have h3 : c - a = (b - a) + (c - b) := by omega
  rw [h3, List.take_add]

theorem srcSlice_self (src : Bytes) (a : Nat) : srcSlice src a a = [] := by simp [srcSlice]

mutual
/-- (c): the leaves of a well-formed tree concatenate to the source text of its range. -/
theorem leaves_eq {src : Bytes} : ∀ (n : Node), WF src n → leaves n = srcSlice src n.frm n.to
  | .mk k a b t f cs => by
    intro h
    simp only [WF] at h
    obtain ⟨h1, h2, h3, h4, h5⟩ := h
    simp only [leaves, Node.frm, Node.to]
    cases cs with
    | nil => simpa using h3
    | cons c cs' =>
      simp only [List.isEmpty_cons, Bool.false_eq_true, if_false]
      rcases h4 with h4 | ⟨h4, h4'⟩
      · cases h4
      · rw [leavesL_eq (c :: cs') a h5 h4, h4']
theorem leavesL_eq {src : Bytes} : ∀ (cs : List Node) (a : Nat), WFs src cs → Consec a cs →
    leavesL cs = srcSlice src a (endOf a cs)
  | [], a => by intro _ _; simp [leavesL, endOf, srcSlice_self]
  | c :: cs, a => by
    intro hw hc
    simp only [WFs] at hw
    simp only [Consec] at hc
    simp only [leavesL, endOf]
    rw [leaves_eq c hw.1, leavesL_eq cs c.to hw.2 hc.2, hc.1]
    apply srcSlice_append
    · rw [← hc.1]; exact (WF_range hw.1).1
    · exact le_endOf hw.2 hc.2
end

end C01
