/-
`decodeLastRune` undoes `decodeRune` at boundaries: the fact behind
"`backup` after `next` restores the position".
-/
import ElvProofs.C01.Utf8
namespace C01
open Go

theorem decodeLast_undo (src : Bytes) (p : Nat) (hb : Bnd src p) (hp : p < src.length) :
    (decodeLastRune (src.take (p + (decodeRune (src.drop p)).2))).2 = (decodeRune (src.drop p)).2 := by
  have hne := drop_ne_nil hp
  by_cases herr : (decodeRune (src.drop p)).1 = RuneError ∧ (decodeRune (src.drop p)).2 = 1
  · -- an invalid byte: were the last rune of `src.take (p + 1)` longer, `p` would lie inside it
    rw [herr.2]
    have hlen : (src.take (p + 1)).length = p + 1 := by rw [List.length_take]; omega
    have hs : src.take (p + 1) ≠ [] := by intro e; rw [e] at hlen; simp at hlen
    rcases decodeLastRune_cases _ hs with e | ⟨q, hq, hsum, e⟩
    · rw [e]
    · have hpos := decodeLastRune_size_pos hs
      by_cases h1 : (decodeLastRune (src.take (p + 1))).2 = 1
      · exact h1
      · exfalso
        rw [hlen] at hsum
        have hq' : (src.take (p + 1)).drop q ≠ [] := by
          intro e'; have := congrArg List.length e'; simp at this; omega
        have hd := decodeRune_congr (s' := src.drop q) (r := (decodeLastRune (src.take (p + 1))).1)
          (n := (decodeLastRune (src.take (p + 1))).2) e hq' (fun h => h1 h.2)
          (by rw [List.drop_take, List.take_take]; congr 1; omega)
        exact hb.not_inside q _ (by rw [hd]) (by omega) ⟨by omega, by omega⟩
  · -- a valid rune `r`: the text up to its end is `src.take p ++ encodeRune r`
    obtain ⟨hv, ht⟩ := decodeRune_valid_take (s := src.drop p) (r := (decodeRune (src.drop p)).1)
      (n := (decodeRune (src.drop p)).2) rfl hne herr
    obtain ⟨-, -, hn⟩ := decodeRune_eq_encodeRune_append (s := src.drop p)
      (r := (decodeRune (src.drop p)).1) (n := (decodeRune (src.drop p)).2) rfl hne herr
    rw [List.take_add, ht, decodeLastRune_append_encodeRune hv]
    exact hn.symm

end C01
