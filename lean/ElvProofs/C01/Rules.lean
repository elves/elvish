/-
What is assumed of the recursive calls (`RecRun`), and the judgement `Bd` in which the grammar
functions are walked: it is closed under the constructs they are written in, so the walk of a
function is a term that follows its text.
-/
import ElvProofs.C01.Builder
namespace C01
open Go
open Gen.C01Chars

/-- precondition of `parse(ps, n)`: a `Redir` literal with a left operand gets
an operand that was just parsed (ends at `pos`). -/
def NTPre (e : Env) (nt : NT) (s : St) : Prop :=
  match nt with
  | .redir (some l) => WF e.src l ∧ l.to = s.pos
  | _ => True

def NTFrm (nt : NT) (s : St) : Nat :=
  match nt with
  | .redir (some l) => l.frm
  | _ => s.pos

def NodePost (e : Env) (nt : NT) (s : St) (n : Node) (s' : St) : Prop :=
  Fwd e s s' ∧ WF e.src n ∧ n.to = s'.pos ∧ n.frm = NTFrm nt s

/-- the runes on which `parse(ps, n)` is guaranteed to consume something -/
def Starts (e : Env) (nt : NT) (r : Int) : Prop :=
  match nt with
  | .pipeline => startsForm e.isPrint r = true
  | .form => startsForm e.isPrint r = true
  | .compound c => startsCompound e.isPrint r c = true
  | .indexing c => startsIndexing e.isPrint r c = true
  | .primary c => startsPrimary e.isPrint r c = true
  | .mapPair => r = 38
  | .redir _ => isRedirSign r = true
  | _ => False

/-- how many levels a nonterminal can descend without consuming a byte -/
def rank : NT → Nat
  | .primary _ => 0
  | .indexing _ => 1
  | .compound _ => 2
  | .array => 3
  | .mapPair => 3
  | .redir _ => 3
  | .form => 4
  | .filter => 4
  | .pipeline => 5
  | .chunk => 6

/-- A call for `nt` at state `s` returns when given more fuel than this: 7 levels for every
byte left, and the levels `nt` can descend before the next byte is consumed. -/
def need (e : Env) (nt : NT) (s : St) : Nat := 7 * rem e s + rank nt

/-- what is assumed of the recursive calls, whose nesting fuel is `N` -/
def RecRun (g : Prop) (e : Env) (rec : NT → M Node) (N : Nat) : Prop :=
  ∀ nt s, Inv e s → NTPre e nt s → (g → need e nt s < N) →
    Run g (rec nt e s) (fun n s' => NodePost e nt s n s' ∧ (Starts e nt (peekRune e s) → s.pos + 1 ≤ s'.pos))

abbrev Any : Int → Prop := fun _ => True
abbrev Never : Int → Prop := fun _ => False

/-- `m`, started with the builder `nb` in sync on a rune of which `R` holds, returns a builder (`p` of
its answer) in sync, never further back, and at least a byte on if the rune it started on is in `S`.
That has the shape of `RecRun`, so the body of a nonterminal `nt` is a `Bd … (Starts e nt) … (rank nt)`.

The termination argument lives in `n` and `k` and in three rules.  `n` bounds the bytes left: a
loop with `n` iterations to go is a `Bd … n`, and after a step that consumed a byte the rest is
owed for `n - 1` only (`bind1`).  `k` is the nesting budget, `7 * rem e s + k ≤ N`: in the body of
`nt` it is `rank nt`, a child must have a smaller rank (`child`), a step that consumes nothing
leaves it as it is (`bind`), and every byte consumed adds 7, more than any rank (`bind1`). -/
def Bd {α : Type} (g : Prop) (e : Env) (N : Nat) (R S : Int → Prop) (n k : Nat) (nb : NB) (m : M α)
    (p : α → NB) : Prop :=
  ∀ s, BInv e nb s → R (peekRune e s) → (g → rem e s < n ∧ 7 * rem e s + k ≤ N) →
    Run g (m e s) (fun a s' => BPost e nb s (p a) s' ∧ (S (peekRune e s) → s.pos + 1 ≤ s'.pos))

section
variable {α β : Type} {g : Prop} {e : Env} {rec : NT → M Node} {N : Nat}
variable {R S S' : Int → Prop} {n k : Nat} {nb : NB}

theorem Bd.fuel {m : M α} {p : α → NB} (h0 : ∀ s, m e s = .fuel) : Bd g e N R S 0 k nb m p :=
  fun s _ _ hf => by rw [h0]; exact fun hg => Nat.not_lt_zero _ (hf hg).1

theorem Bd.pure {a : α} {p : α → NB} (hf : (p a).frm = nb.frm := by rfl)
    (hc : (p a).children = nb.children := by rfl) : Bd g e N R Never n k nb (pure a : M α) p :=
  fun _ h _ _ => Run_pure ⟨⟨h.congr hf hc, hf, Nat.le_refl _⟩, False.elim⟩

theorem Bd.mono {m : M α} {p : α → NB} (h : Bd g e N R S n k nb m p) (hS : ∀ r, R r → S' r → S r) :
    Bd g e N R S' n k nb m p :=
  fun s hb hr hn => (h s hb hr hn).mono fun _ _ q => ⟨q.1, fun hs => q.2 (hS _ hr hs)⟩

theorem Bd.weaken {m : M α} {p : α → NB} (h : Bd g e N R S n k nb m p) : Bd g e N R Never n k nb m p :=
  h.mono fun _ _ => False.elim

theorem Bd.le_k {k' : Nat} {m : M α} {p : α → NB} (h : Bd g e N R S n k nb m p) (hk : k ≤ k' := by decide) :
    Bd g e N R S n k' nb m p :=
  fun s hb hr hn => h s hb hr fun hg => ⟨(hn hg).1, by have := (hn hg).2; omega⟩

/-- fields of the builder set on the way do not matter -/
theorem Bd.congr {nb' : NB} {m : M α} {p : α → NB} (h : Bd g e N R S n k nb' m p)
    (hf : nb'.frm = nb.frm := by rfl) (hc : nb'.children = nb.children := by rfl) : Bd g e N R S n k nb m p :=
  fun s hb hr hn => (h s (hb.congr hf hc) hr hn).mono fun _ _ q => ⟨⟨q.1.1, q.1.2.1.trans hf, q.1.2.2⟩, q.2⟩

theorem Bd.bind {m : M α} {f : α → M β} {p : α → NB} {q : β → NB} (hm : Bd g e N R S n k nb m p)
    (hf : ∀ a, Bd g e N Any S' n k (p a) (f a) q) : Bd g e N R S n k nb (m >>= f) q :=
  fun s h hr hn => Run_bind (hm s h hr hn) fun a s1 ⟨b1, p1⟩ =>
    (hf a s1 b1.1 trivial fun hg => by have := rem_D b1; have := hn hg; omega).mono
      fun _ _ ⟨b2, _⟩ => ⟨b1.trans b2, fun hs => Nat.le_trans (p1 hs) b2.2.2⟩

/-- `m` is sure to consume a byte: what follows has one iteration less to go and fuel for seven more levels -/
theorem Bd.bind1 {S'' : Int → Prop} {m : M α} {f : α → M β} {p : α → NB} {q : β → NB}
    (hm : Bd g e N R S n k nb m p) (hS : ∀ r, R r → S r) (hf : ∀ a, Bd g e N Any S' (n - 1) (k + 7) (p a) (f a) q) :
    Bd g e N R S'' n k nb (m >>= f) q :=
  fun s h hr hn => Run_bind (hm s h hr hn) fun a s1 ⟨b1, p1⟩ => by
    have p1 := p1 (hS _ hr)
    have r1 := rem_D (d := 1) ⟨b1.1, b1.2.1, p1⟩
    exact (hf a s1 b1.1 trivial fun hg => by have := hn hg; omega).mono
      fun _ _ ⟨b2, _⟩ => ⟨b1.trans b2, fun _ => Nat.le_trans p1 b2.2.2⟩

theorem Bd.ite {c : Prop} [Decidable c] {a b : M α} {p : α → NB} (ha : c → Bd g e N R S n k nb a p)
    (hb : ¬c → Bd g e N R S n k nb b p) : Bd g e N R S n k nb (if c then a else b) p := by
  split
  · next h => exact ha h
  · next h => exact hb h

theorem Bd.peek_bind {f : Int → M β} {q : β → NB} (h : ∀ r, R r → Bd g e N (· = r) S n k nb (f r) q) :
    Bd g e N R S n k nb (peek >>= f) q :=
  fun s hb hr hn => by rw [bind_of_eq (peek_eq hb.inv)]; exact h _ hr s hb rfl hn

theorem Bd.getEnv_bind {f : Env → M β} {q : β → NB} (h : Bd g e N R S n k nb (f e) q) :
    Bd g e N R S n k nb (getEnv >>= f) q := h

theorem Bd.loopFuel_bind {f : Nat → M β} {q : β → NB}
    (h : Bd g e N Any S (e.src.length + 2) k nb (f (e.src.length + 2)) q) : Bd g e N R S n k nb (loopFuel >>= f) q :=
  fun s hb _ hn => h s hb trivial fun hg => ⟨rem_lt_fuel _ _, (hn hg).2⟩

theorem Bd.error {m : Msg} : Bd g e N R Never n k nb (error m) (fun _ => nb) :=
  fun _ h _ _ => Run_of_eq (error_eq h.inv _) ⟨(BPost.refl h).err _, False.elim⟩

theorem Bd.error_bind {m : Msg} {f : Unit → M β} {q : β → NB} (h : Bd g e N R S n k nb (f ()) q) :
    Bd g e N R S n k nb (C01.error m >>= f) q :=
  fun s hb hr hn => by rw [bind_of_eq (error_eq hb.inv _)]; exact h _ (hb.err m) hr hn

/-- a child of smaller rank, appended -/
theorem Bd.child (hrec : RecRun g e rec N) (nt : NT) (hk : rank nt < k := by decide)
    (hpre : ∀ s, NTPre e nt s ∧ NTFrm nt s = s.pos := by exact fun _ => ⟨trivial, rfl⟩) :
    Bd g e N R (Starts e nt) n k nb (rec nt) (nb.add ·) :=
  fun s h _ hn => (hrec nt s h.inv (hpre s).1 fun hg => by
      have := (hn hg).2; show 7 * rem e s + rank nt < N; omega).mono
    fun _ _ ⟨⟨hf, hw, hto, hfr⟩, hp⟩ => ⟨⟨h.add hf.1 hw (hfr.trans (hpre s).2) hto, rfl, hf.2⟩, hp⟩

theorem Bd.spaces {nl : Bool} : Bd g e N R (SpaceStart nl) n k nb (parseSpacesInner nb nl) id :=
  fun _ h _ _ => parseSpacesInner_full nl h

theorem Bd.parseSep {sep : Int} (hne : sep ≠ eof := by decide) :
    Bd g e N R (· = sep) n k nb (C01.parseSep nb sep) (·.2) :=
  fun _ h _ _ => (parseSep_cases hne h).mono fun _ _ q => by
    rcases q with ⟨_, b⟩ | ⟨rfl, rfl, hr⟩
    · exact ⟨b.weaken, fun _ => b.2.2⟩
    · exact ⟨BPost.refl h, fun hr' => absurd hr' hr⟩

theorem Bd.parseSep_bind {sep : Int} {f : Bool × NB → M β} {q : β → NB} (hne : sep ≠ eof)
    (ht : ∀ nb1, Bd g e N Any S' (n - 1) (k + 7) nb1 (f (true, nb1)) q) (hf : Bd g e N R S n k nb (f (false, nb)) q) :
    Bd g e N R S n k nb (C01.parseSep nb sep >>= f) q :=
  fun s h hr hn => Run_bind (parseSep_cases hne h) fun (ok, nb1) s1 hc => by
    rcases hc with ⟨rfl, b1⟩ | ⟨hp, rfl, _⟩
    · have r1 := rem_D b1
      exact (ht nb1 s1 b1.1 trivial fun hg => by have := hn hg; omega).mono
        fun _ _ ⟨b2, _⟩ => ⟨b1.weaken.trans b2, fun _ => (b1.trans b2).2.2⟩
    · cases hp; exact hf s1 h hr hn

/-- the rest of a function as a `Bd`, after steps walked by hand that ended in sync `d` bytes on -/
theorem Bd.after {d k' : Nat} {nb0 : NB} {s0 s : St} {m : M α} {p : α → NB}
    (h : Bd g e N Any Never (n - d) k' nb m p) (b : BPostD d e nb0 s0 nb s)
    (hn : g → rem e s0 < n ∧ 7 * rem e s0 + k ≤ N) (hk : k' ≤ k + 7 * d := by omega) :
    Run g (m e s) (fun a s' => BPostD d e nb0 s0 (p a) s') :=
  (h s b.1 trivial fun hg => by have := rem_D b; have := hn hg; omega).mono fun _ _ q => b.trans q.1

end
end C01
