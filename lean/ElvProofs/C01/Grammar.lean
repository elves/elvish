/-
The grammar functions other than `Primary`, each walked as a `Bd` under the assumption `RecRun`
on the recursive calls.  Where a function is not regular (a look-ahead, a node that becomes the
operand of the next, progress that depends on how far an earlier step got) those steps are walked
by hand and the rest of the function enters as a `Bd`.
-/
import ElvProofs.C01.Rules
namespace C01
open Go
open Gen.C01Chars

section
variable {g : Prop} {e : Env} {rec : NT → M Node} {N : Nat} {R : Int → Prop} {n k : Nat} {nb : NB}

theorem parseSepsLoop_bd : ∀ (n c : Nat) (nb : NB), Bd g e N Any Never n k nb (parseSepsLoop n c nb) (·.2)
  | 0, _, _ => .fuel fun _ => rfl
  | n + 1, c, nb => by
    unfold parseSepsLoop
    refine .peek_bind fun r _ => .ite (fun hc => ?_) fun _ => .ite (fun hc => ?_) fun _ => .pure
    · have hne : r ≠ eof := by rintro rfl; revert hc; decide
      exact .bind1 (.parseSep hne) (fun _ h => h) fun (_, _) =>
        .le_k (parseSepsLoop_bd n _ _) (Nat.le_add_right _ _)
    · have hr : SpaceStart false r := by
        simp only [Bool.or_eq_true, beq_iff_eq] at hc
        exact hc.elim Or.inl (fun hc => Or.inr (Or.inr hc))
      exact .bind1 .spaces (fun _ h => h ▸ hr) fun _ => .le_k (parseSepsLoop_bd n _ _) (Nat.le_add_right _ _)

theorem Bd.parseSeps : Bd g e N R Never n k nb (C01.parseSeps nb) (·.2) :=
  .loopFuel_bind (parseSepsLoop_bd _ _ _)

theorem chunkLoop_bd (hrec : RecRun g e rec N) : ∀ (n : Nat) (nb : NB), Bd g e N Any Never n 6 nb (chunkLoop rec n nb) id
  | 0, _ => .fuel fun _ => rfl
  | n + 1, nb => by
    unfold chunkLoop
    exact .getEnv_bind <| .peek_bind fun r _ => .ite
      (fun hc => .bind1 (.child hrec .pipeline) (fun _ h => h ▸ hc) fun _ =>
        .bind .parseSeps fun (_, _) => .ite (fun _ => .pure) fun _ => .le_k (chunkLoop_bd hrec n _)) fun _ => .pure

theorem chunkBody_bd (hrec : RecRun g e rec N) : Bd g e N R Never n 6 nb (chunkBody rec nb) id := by
  unfold chunkBody
  exact .bind .parseSeps fun (_, _) => .loopFuel_bind (chunkLoop_bd hrec _ _)

theorem pipelineLoop_bd (hrec : RecRun g e rec N) :
    ∀ (n : Nat) (nb : NB), Bd g e N Any Never n 5 nb (pipelineLoop rec n nb) (·.2)
  | 0, _ => .fuel fun _ => rfl
  | n + 1, nb => by
    unfold pipelineLoop
    exact .getEnv_bind <| .parseSep_bind (by decide)
      (fun _ => .ite (fun _ => .weaken <| .bind .spaces fun _ => .peek_bind fun _ _ => .ite
        (fun _ => .error_bind .pure) fun _ =>
        .weaken <| .bind (.child hrec .form) fun _ => .le_k (pipelineLoop_bd hrec n _)) fun h => (h rfl).elim)
      (.ite (fun h => nomatch h) fun _ => .pure)

theorem pipelineBody_bd (hrec : RecRun g e rec N) :
    Bd g e N R (Starts e .pipeline) n 5 nb (pipelineBody rec nb) id := by
  unfold pipelineBody
  refine .bind (.child hrec .form) fun _ => .loopFuel_bind <| .weaken <| .bind (pipelineLoop_bd hrec _ _) fun (_, _) =>
    .ite (fun _ => .pure) fun _ => .weaken <| .bind .spaces fun nb3 => .peek_bind fun _ _ => .ite (fun _ => ?_) fun _ => .pure
  -- the `&` is a separator like those of `parseSep`
  intro s h _ hn
  rw [bind_of_eq (next_eq h.inv)]
  refine Run_bind (addSep_fwd (d := 0) h (nextSt_fwd h.inv) (nextSt_pos_le _ _)) fun nb4 s4 b4 => ?_
  exact Run.mono (parseSpacesInner_full false (nb := { nb4 with f := { nb4.f with flag := true } }) (b4.1.congr rfl rfl))
    fun _ _ q => ⟨(b4.setf _).trans q.1, False.elim⟩

theorem setMode_run {nb : NB} {s : St} (sign : Bytes) (h : Inv e s) :
    Run g (setMode nb sign e s)
      (fun nb' s' => Fwd e s s' ∧ s'.pos = s.pos ∧ nb'.frm = nb.frm ∧ nb'.children = nb.children) := by
  unfold setMode
  cases redirMode sign with
  | some m => exact Run_pure ⟨Fwd.refl h, rfl, rfl, rfl⟩
  | none =>
    show Run g ((error Msg.badRedirSign >>= fun _ => pure nb) e s) _
    rw [bind_of_eq (error_eq h _)]
    exact Run_pure ⟨errSt_fwd h _, rfl, rfl, rfl⟩

theorem redirRest_bd (hrec : RecRun g e rec N) :
    Bd g e N R (isRedirSign · = true) n 3 nb (redirRest rec nb) id := by
  unfold redirRest
  intro s h _ hn
  -- the sign is cut out of the source and becomes a separator
  rw [bind_of_eq (getPos_eq _ _), bind_of_eq (loopFuel_eq _ _)]
  refine Run_bind (skipWhile_run isRedirSign _ s h.inv fun _ => ⟨by decide, rem_lt_fuel _ _⟩) ?_
  intro _ s2 ⟨f2, hp2⟩
  rw [bind_of_eq (getPos_eq _ _), bind_of_eq (sliceSrc_eq f2.2 f2.1.le)]
  refine Run_bind (setMode_run _ f2.1) ?_
  intro nb2 s3 ⟨f3, hp3, hf2, hc2⟩
  refine Run_bind (addSep_fwd (d := s2.pos - s.pos) (h.congr hf2 hc2) (f2.trans f3) (by have := f2.2; omega)) ?_
  intro nb3 s3' b3
  refine Run.mono (Bd.after (k' := 3) ?_ b3 hn) fun _ _ b => ⟨⟨b.1, b.2.1.trans hf2, b.fwd.2⟩, fun hs => ?_⟩
  · exact .weaken <| .bind .spaces fun _ => .weaken <| .bind .parseSep fun (isFd, nb5) =>
      .congr (nb' := if isFd = true then { nb5 with f := { nb5.f with flag := true } } else nb5)
        (.weaken <| .bind (.child hrec (.compound NormalExpr)) fun _ => .ite
          (fun _ => .bind (.ite (fun _ => .error) fun _ => .error) fun _ => .pure) fun _ => .pure)
        (by split <;> rfl) (by split <;> rfl)
  · have := hp2 (by decide) hs
    have := b.2.2
    omega

theorem attachLeft_inv (left : Option Node) {nb : NB} {s : St} (h : BInv e nb s) (hnil : nb.children = [])
    (hfrm : nb.frm = s.pos) (hpre : NTPre e (.redir left) s) :
    BInv e (attachLeft left nb) s ∧ (attachLeft left nb).frm = NTFrm (.redir left) s := by
  cases left with
  | none => exact ⟨h, hfrm⟩
  | some l =>
    obtain ⟨hw, hto⟩ := hpre
    refine ⟨⟨h.inv, ?_, ?_, ?_⟩, rfl⟩
    · show WFs e.src (nb.children ++ [l]); rw [hnil]; exact ⟨hw, trivial⟩
    · show Consec l.frm (nb.children ++ [l]); rw [hnil]; exact ⟨rfl, trivial⟩
    · show endOf l.frm (nb.children ++ [l]) = s.pos; rw [hnil]; exact hto

theorem formLoop_bd (hrec : RecRun g e rec N) : ∀ (n : Nat) (nb : NB), Bd g e N Any Never n 4 nb (formLoop rec n nb) id
  | 0, _ => .fuel fun _ => rfl
  | n + 1, nb => by
    have again (nd : Node) : Bd g e N Any Never n (4 + 7) (nb.add nd) (parseSpaces (nb.add nd) >>= formLoop rec n) id :=
      .weaken <| .bind .spaces fun _ => .le_k (formLoop_bd hrec n _)
    unfold formLoop
    refine .getEnv_bind <| .peek_bind fun r _ => .ite (fun hc => ?_) fun _ => .ite (fun hc => ?_) fun _ => .ite
      (fun hc => .bind1 (.child hrec (.redir none)) (fun _ h => h ▸ hc) again) fun _ => .pure
    · -- the look-ahead `next; peek; backup` leaves the state as it was
      intro s h hr hn
      rw [bind_of_eq (next_eq h.inv), bind_of_eq (peek_eq (nextSt_inv h.inv)), bind_of_eq (backup_nextSt h.inv)]
      exact (Bd.ite (fun _ => .pure) fun _ => .bind1 (.child hrec .mapPair) (fun _ h => h.trans (eq_of_beq hc)) again :
        Bd g e N (· = r) Never (n + 1) 4 nb _ id) s h hr hn
    · -- the compound just parsed becomes the left operand of a redirection, which starts where it does
      intro s h hr hn
      refine Run_bind (hrec (.compound NormalExpr) s h.inv trivial fun hg => by
        have := hn hg; show 7 * rem e s + 2 < N; omega) ?_
      intro cn s1 ⟨⟨f1, hw1, hto1, hfrm1⟩, hp1⟩
      have b1 : BPostD 1 e nb s (nb.add cn) s1 := ⟨h.add f1.1 hw1 hfrm1 hto1, rfl, hp1 (hr ▸ hc)⟩
      have fin : ∀ {nd : Node} {s2 : St}, BPostD 1 e nb s (nb.add nd) s2 →
          Run g ((parseSpaces (nb.add nd) >>= formLoop rec n) e s2)
            (fun a s' => BPost e nb s a s' ∧ (False → s.pos + 1 ≤ s'.pos)) :=
        fun b2 => ((again _).after b2 hn).mono fun _ _ b => ⟨b.weaken, False.elim⟩
      rw [bind_of_eq (peek_eq f1.1)]
      split
      · refine Run_bind (hrec (.redir (some cn)) s1 f1.1 ⟨hw1, hto1⟩ fun hg => by
          have := rem_D b1; have := hn hg; show 7 * rem e s1 + 3 < N; omega) ?_
        intro rd s2 ⟨⟨f2, hw2, hto2, hfrm2⟩, _⟩
        exact fin ⟨h.add f2.1 hw2 (hfrm2.trans hfrm1) hto2, rfl, Nat.le_trans b1.2.2 f2.2⟩
      · exact fin b1

/-- `Form.parse` entered on a rune that starts a form consumes a byte: the head does, or (the rune
is a space, which starts a form and no compound) the spaces after the empty head do. -/
theorem formBody_bd (hrec : RecRun g e rec N) : Bd g e N R (Starts e .form) n 4 nb (formBody rec nb) id := by
  unfold formBody
  intro s h hr hn
  refine Run_bind ((Bd.child hrec (.compound CmdExpr) : Bd g e N R _ n 4 nb _ _) s h hr hn) ?_
  intro hd s1 ⟨b1, hp1⟩
  refine Run_bind (parseSpacesInner_full false b1.1) ?_
  intro nb2 s2 ⟨b2, hp2⟩
  have b12 : BPost e nb s nb2 s2 := b1.trans b2
  refine (Bd.loopFuel_bind (R := Any) (n := n) (formLoop_bd hrec _ _) s2 b2.1 trivial fun hg => by
    have := rem_D b12; have := hn hg; omega).mono ?_
  intro nb' s' ⟨b3, _⟩
  refine ⟨b12.trans b3, fun hst => ?_⟩
  have := b3.2.2
  by_cases hp : s.pos + 1 ≤ s1.pos
  · have := b2.2.2; omega
  · -- the head consumed nothing, so it did not start on a rune that starts a compound
    have hst : startsForm e.isPrint (peekRune e s) = true := hst
    have hws : IsInlineWhitespace (peekRune e s) = true := by
      simp only [startsForm, Bool.or_eq_true] at hst
      exact hst.elim id (fun hc => absurd (hp1 hc) hp)
    have hpos : s1.pos = s.pos := by have := b1.2.2; omega
    have := hp2 (Or.inl (by rw [peekRune_congr hpos]; exact hws))
    omega

theorem filterLoop_bd (hrec : RecRun g e rec N) : ∀ (n : Nat) (nb : NB), Bd g e N Any Never n 4 nb (filterLoop rec n nb) id
  | 0, _ => .fuel fun _ => rfl
  | n + 1, nb => by
    have again (nd : Node) : Bd g e N Any Never n (4 + 7) (nb.add nd) (parseSpaces (nb.add nd) >>= filterLoop rec n) id :=
      .weaken <| .bind .spaces fun _ => .le_k (filterLoop_bd hrec n _)
    unfold filterLoop
    exact .getEnv_bind <| .peek_bind fun r _ => .ite
      (fun hc => .bind1 (.child hrec .mapPair) (fun _ h => h.trans (eq_of_beq hc)) again) fun _ => .ite
      (fun hc => .bind1 (.child hrec (.compound NormalExpr)) (fun _ h => h ▸ hc) again) fun _ => .pure

theorem filterBody_bd (hrec : RecRun g e rec N) : Bd g e N R Never n 4 nb (filterBody rec nb) id := by
  unfold filterBody
  exact .weaken <| .bind .spaces fun _ => .loopFuel_bind (filterLoop_bd hrec _ _)

theorem arrayLoop_bd (hrec : RecRun g e rec N) : ∀ (n : Nat) (nb : NB), Bd g e N Any Never n 3 nb (arrayLoop rec n nb) id
  | 0, _ => .fuel fun _ => rfl
  | n + 1, nb => by
    unfold arrayLoop
    exact .getEnv_bind <| .peek_bind fun r _ => .ite
      (fun hc => .bind1 (.child hrec (.compound NormalExpr)) (fun _ h => h ▸ hc) fun _ =>
        .bind .spaces fun _ => .le_k (arrayLoop_bd hrec n _)) fun _ => .pure

theorem arrayBody_bd (hrec : RecRun g e rec N) : Bd g e N R Never n 3 nb (arrayBody rec nb) id := by
  unfold arrayBody
  exact .weaken <| .bind .spaces fun _ => .loopFuel_bind (arrayLoop_bd hrec _ _)

theorem indexingLoop_bd (hrec : RecRun g e rec N) :
    ∀ (n : Nat) (nb : NB), Bd g e N Any Never n 1 nb (indexingLoop rec n nb) id
  | 0, _ => .fuel fun _ => rfl
  | n + 1, nb => by
    unfold indexingLoop
    exact .getEnv_bind <| .parseSep_bind (by decide)
      (fun _ => .ite (fun _ => .peek_bind fun _ _ => .bind (.ite (fun _ => .error) fun _ => .pure) fun _ =>
        .weaken <| .bind (.child hrec .array) fun _ => .weaken <| .bind .parseSep fun (_, _) => .ite
          (fun _ => .error_bind .pure) fun _ => .le_k (indexingLoop_bd hrec n _)) fun h => (h rfl).elim)
      (.ite (fun h => nomatch h) fun _ => .pure)

theorem indexingBody_bd (hrec : RecRun g e rec N) {c : Int} (hc : nb.f.ctx = c) :
    Bd g e N R (Starts e (.indexing c)) n 1 nb (indexingBody rec nb) id := by
  subst hc
  unfold indexingBody
  exact .bind (.child hrec (.primary nb.f.ctx) (Nat.le_refl _)) fun _ => .loopFuel_bind (indexingLoop_bd hrec _ _)

theorem peek_ascii {s : St} (h : Inv e s) {c : Nat} (hc : peekRune e s = (c : Int)) (h128 : c < 128) :
    (nextSt e s).pos = s.pos + 1 ∧ srcSlice e.src s.pos (s.pos + 1) = [UInt8.ofNat c] := by
  have hne : s.pos ≠ e.src.length := ne_eof_of_ge (by rw [hc]; omega)
  have hlt : s.pos < e.src.length := Nat.lt_of_le_of_ne h.le hne
  unfold peekRune at hc
  simp only [hne, if_false] at hc
  have hc' : (decodeRune (e.src.drop s.pos)).1 = c := by exact_mod_cast hc
  match hd : e.src.drop s.pos with
  | [] => exact absurd hd (drop_ne_nil hlt)
  | b :: t =>
    rw [hd] at hc'
    obtain ⟨hb, hsz⟩ := decodeRune_ascii b t (by rw [hc']; exact h128)
    constructor
    · unfold nextSt; simp only [hne, if_false, hd, hsz]
    · unfold srcSlice
      rw [hd]
      have : s.pos + 1 - s.pos = 1 := by omega
      rw [this]
      simp only [List.take_succ_cons, List.take_zero]
      congr 1
      rw [← hc', hb]
      simp

/-- `Compound.tilde` adds the `~` it stands on as an `Indexing` with one `Primary`, and does
nothing anywhere else. -/
theorem tilde_run {nb : NB} {s : St} (h : BInv e nb s) :
    Run g (tilde nb e s) (fun nb' s' => BPost e nb s nb' s' ∧
      (peekRune e s = 126 → s.pos + 1 ≤ s'.pos) ∧ (peekRune e s ≠ 126 → nb' = nb ∧ s' = s)) := by
  unfold tilde
  rw [bind_of_eq (peek_eq h.inv)]
  split
  · next hc =>
    have hc' : peekRune e s = ((126 : Nat) : Int) := eq_of_beq hc
    obtain ⟨hp, htxt⟩ := peek_ascii h.inv hc' (by omega)
    have h1 := nextSt_inv h.inv
    rw [bind_of_eq (next_eq h.inv), bind_of_eq (getPos_eq _ _)]
    have : 1 ≤ (nextSt e s).pos := by omega
    simp only [this, if_true]
    refine Run_pure ⟨⟨BInv.add h h1 ?_ ?_ rfl, rfl, by omega⟩, fun _ => by omega, fun hne => absurd hc' hne⟩
    · have hsub : (nextSt e s).pos - 1 = s.pos := by omega
      have htxt' : ([126] : Bytes) = srcSlice e.src s.pos (nextSt e s).pos := by rw [hp, htxt]; rfl
      have hle := h1.le
      simp only [WF, WFs, hsub, Consec, endOf, Node.frm, Node.to, and_true, true_or]
      refine ⟨by omega, hle, htxt', Or.inr trivial, by omega, hle, htxt'⟩
    · show (nextSt e s).pos - 1 = s.pos
      omega
  · next hc =>
    exact Run_pure ⟨BPost.refl h, fun h126 => absurd (beq_iff_eq.mpr h126) hc, fun _ => ⟨rfl, rfl⟩⟩

theorem compoundLoop_bd (hrec : RecRun g e rec N) (ctx : Int) :
    ∀ (n : Nat) (nb : NB), Bd g e N Any (Starts e (.indexing ctx)) n 2 nb (compoundLoop rec ctx n nb) id
  | 0, _ => .fuel fun _ => rfl
  | n + 1, nb => by
    unfold compoundLoop
    exact .getEnv_bind <| .peek_bind fun r _ => .ite
      (fun hc => .bind1 (.child hrec (.indexing ctx) (Nat.le_refl _)) (fun _ h => h ▸ hc) fun _ => .le_k (compoundLoop_bd hrec ctx n _))
      fun hc => .mono .pure fun _ h hs => hc (h ▸ hs)

/-- a compound starts on `~` or on what starts its first indexing; `tilde` leaves everything as it
was when the rune is not `~` -/
theorem compoundBody_bd (hrec : RecRun g e rec N) {c : Int} (hc : nb.f.ctx = c) :
    Bd g e N R (Starts e (.compound c)) n 2 nb (compoundBody rec nb) id := by
  subst hc
  unfold compoundBody
  intro s h _ hn
  refine Run_bind (tilde_run h) ?_
  intro nb1 s1 ⟨b1, hp1, hsame⟩
  refine (Bd.loopFuel_bind (R := Any) (n := n) (compoundLoop_bd hrec _ _ _) s1 b1.1 trivial fun hg => by
    have := rem_D (d := 0) b1; have := hn hg; omega).mono ?_
  intro nb' s' ⟨b2, hp2⟩
  refine ⟨b1.trans b2, fun hst => ?_⟩
  by_cases hr : peekRune e s = 126
  · exact Nat.le_trans (hp1 hr) b2.2.2
  · obtain ⟨rfl, rfl⟩ := hsame hr
    exact hp2 hst

theorem mapPairBody_bd (hrec : RecRun g e rec N) : Bd g e N R (· = 38) n 3 nb (mapPairBody rec nb) id := by
  unfold mapPairBody
  exact .bind .parseSep fun (_, _) => .weaken <| .bind (.child hrec (.compound LHSExpr)) fun _ =>
    .bind (.ite (fun _ => .error) fun _ => .pure) fun _ => .weaken <| .bind .parseSep fun (_, _) => .ite
      (fun _ => .weaken <| .bind .spaces fun _ => .weaken <| .bind (.child hrec (.compound NormalExpr)) fun _ => .pure)
      fun _ => .pure

end
end C01
