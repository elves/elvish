/-
The logic for the parser monad (`Ok`: no panic at any fuel; `Run g`: moreover no FUEL
when `g` holds), the state invariant, and the primitives (`peek`, `next`, `backup`,
`error`, …) as equations under the invariant.
-/
import ElvProofs.C01.Utf8Last
import ElvProofs.C01.Tree
namespace C01
open Go
open Gen.C01Chars

/-- "No panic, and if there is a result it satisfies `Q`" (running out of
fuel satisfies everything: when that does not happen is what `Run` adds).
C04's walk of the parser works through `Ok`: the `*_spec` lemmas of Scan.lean and `parseNT_spec`
of Main.lean are stated for it. -/
def Ok {α : Type} (o : Out α) (Q : α → St → Prop) : Prop :=
  match o with
  | .ok a s => Q a s
  | .panic _ => False
  | .fuel => True

@[simp] theorem pure_apply {α} (a : α) (e : Env) (s : St) : (pure a : M α) e s = .ok a s := rfl

theorem bind_apply {α β} (m : M α) (f : α → M β) (e : Env) (s : St) :
    (m >>= f) e s = (match m e s with
      | .ok a s' => f a e s'
      | .panic w => .panic w
      | .fuel => .fuel) := rfl

theorem bind_of_eq {α β} {m : M α} {f : α → M β} {e : Env} {s s' : St} {a : α}
    (h : m e s = .ok a s') : (m >>= f) e s = f a e s' := by
  rw [bind_apply, h]

/-- As `Ok`, and moreover the outcome is FUEL only if `g` fails.  `g` stands for "the fuel
given suffices", so one walk over a function proves both that it does not panic at any fuel
(`g := False`) and that it returns at enough fuel (`g := True`). -/
def Run {α : Type} (g : Prop) (o : Out α) (Q : α → St → Prop) : Prop :=
  match o with
  | .ok a s => Q a s
  | .panic _ => False
  | .fuel => ¬ g

section
variable {α β : Type} {g : Prop} {e : Env} {s : St}

theorem Run.ok {o : Out α} {Q : α → St → Prop} (h : Run g o Q) : Ok o Q := by
  cases o with
  | ok a s => exact h
  | panic w => exact h
  | fuel => trivial

theorem Run.returns {o : Out α} {Q : α → St → Prop} (h : Run g o Q) (hg : g) : ∃ a s, o = .ok a s ∧ Q a s := by
  cases o with
  | ok a s => exact ⟨a, s, rfl, h⟩
  | panic w => exact h.elim
  | fuel => exact (h hg).elim

theorem Run.mono {o : Out α} {Q Q' : α → St → Prop} (h : Run g o Q) (hq : ∀ a s, Q a s → Q' a s) :
    Run g o Q' := by
  cases o with
  | ok a s => exact hq a s h
  | panic w => exact h
  | fuel => exact h

theorem Run_bind {m : M α} {f : α → M β} {P : α → St → Prop} {Q : β → St → Prop}
    (hm : Run g (m e s) P) (hf : ∀ a s', P a s' → Run g (f a e s') Q) : Run g ((m >>= f) e s) Q := by
  rw [bind_apply]
  cases h : m e s with
  | ok a s' => rw [h] at hm; exact hf a s' hm
  | panic w => rw [h] at hm; exact hm.elim
  | fuel => rw [h] at hm; exact hm

theorem Run_pure {a : α} {Q : α → St → Prop} (h : Q a s) : Run g ((pure a : M α) e s) Q := h

theorem Run_of_eq {o : Out α} {a : α} {s' : St} {Q : α → St → Prop} (h : o = .ok a s') (hq : Q a s') :
    Run g o Q := by rw [h]; exact hq

theorem Run_fuel {Q : α → St → Prop} (h : ¬ g) : Run g ((outOfFuel : M α) e s) Q := h

end

structure Inv (e : Env) (s : St) : Prop where
  le : s.pos ≤ e.src.length
  bnd : Bnd e.src s.pos
  eof : 0 < s.overEOF → s.pos = e.src.length
  errs : ∀ x ∈ s.errors, x.frm ≤ x.to ∧ x.to ≤ e.src.length

def Fwd (e : Env) (s s' : St) : Prop := Inv e s' ∧ s.pos ≤ s'.pos

theorem Fwd.refl {e : Env} {s : St} (h : Inv e s) : Fwd e s s := ⟨h, Nat.le_refl _⟩
theorem Fwd.trans {e : Env} {s s' s'' : St} (h1 : Fwd e s s') (h2 : Fwd e s' s'') : Fwd e s s'' :=
  ⟨h2.1, Nat.le_trans h1.2 h2.2⟩

theorem Run.fwd {α : Type} {g : Prop} {e : Env} {s s1 : St} {o : Out α} (h1 : Fwd e s s1) (h : Run g o (fun _ s' => Fwd e s1 s')) :
    Run g o (fun _ s' => Fwd e s s') :=
  h.mono (fun _ _ hf => h1.trans hf)


def peekRune (e : Env) (s : St) : Int :=
  if s.pos = e.src.length then eof else ((decodeRune (e.src.drop s.pos)).1 : Nat)

def nextSt (e : Env) (s : St) : St :=
  if s.pos = e.src.length then { s with overEOF := s.overEOF + 1 }
  else { s with pos := s.pos + (decodeRune (e.src.drop s.pos)).2 }

theorem peek_eq {e : Env} {s : St} (h : Inv e s) : peek e s = .ok (peekRune e s) s := by
  unfold peek peekRune
  have := h.le
  split <;> simp_all

theorem next_eq {e : Env} {s : St} (h : Inv e s) : next e s = .ok (peekRune e s) (nextSt e s) := by
  unfold next peekRune nextSt
  have := h.le
  split <;> simp_all

theorem getPos_eq (e : Env) (s : St) : getPos e s = .ok s.pos s := rfl
theorem getEnv_eq (e : Env) (s : St) : getEnv e s = .ok e s := rfl
theorem loopFuel_eq (e : Env) (s : St) : loopFuel e s = .ok (e.src.length + 2) s := rfl

theorem peekRune_eof {e : Env} {s : St} : peekRune e s = eof ↔ s.pos = e.src.length := by
  unfold peekRune eof
  split
  · simp [*]
  · simp only [*, iff_false]; omega

theorem ne_eof_of {e : Env} {p : Int → Bool} (hp : p eof = false) {s : St} (h : p (peekRune e s) = true) :
    s.pos ≠ e.src.length := by
  intro heq
  rw [peekRune_eof.mpr heq, hp] at h
  cases h

theorem ne_eof_of_eq {e : Env} {s : St} {c : Int} (h : peekRune e s = c) (hc : c ≠ eof) :
    s.pos ≠ e.src.length :=
  fun heq => hc (h.symm.trans (peekRune_eof.mpr heq))

theorem peekRune_congr {e : Env} {s s' : St} (h : s'.pos = s.pos) : peekRune e s' = peekRune e s := by
  unfold peekRune; rw [h]

theorem ne_eof_of_ge {e : Env} {s : St} (h : 0 ≤ peekRune e s) : s.pos ≠ e.src.length := by
  intro heq
  rw [peekRune_eof.mpr heq] at h
  exact absurd h (by decide)

theorem peekRune_nonneg {e : Env} {s : St} (h : s.pos ≠ e.src.length) : 0 ≤ peekRune e s := by
  unfold peekRune; simp [h]

theorem nextSt_pos_le (e : Env) (s : St) : s.pos ≤ (nextSt e s).pos := by
  unfold nextSt; split <;> simp

theorem nextSt_errors (e : Env) (s : St) : (nextSt e s).errors = s.errors := by
  unfold nextSt; split <;> simp

theorem nextSt_inv {e : Env} {s : St} (h : Inv e s) : Inv e (nextSt e s) := by
  unfold nextSt
  split
  · next heq => exact ⟨h.le, h.bnd, fun _ => heq, h.errs⟩
  · next hne =>
    have hlt : s.pos < e.src.length := Nat.lt_of_le_of_ne h.le hne
    have h1 := decodeRune_size_le (e.src.drop s.pos)
    simp only [List.length_drop] at h1
    refine ⟨by simp only []; omega, Bnd.step h.bnd hlt, ?_, h.errs⟩
    intro h0
    have := h.eof h0
    omega

theorem nextSt_fwd {e : Env} {s : St} (h : Inv e s) : Fwd e s (nextSt e s) :=
  ⟨nextSt_inv h, nextSt_pos_le e s⟩

theorem nextSt_progress {e : Env} {s : St} (h : Inv e s) (hne : s.pos ≠ e.src.length) :
    s.pos < (nextSt e s).pos := by
  unfold nextSt
  simp only [hne, if_false]
  have hlt : s.pos < e.src.length := Nat.lt_of_le_of_ne h.le hne
  have := Go.decodeRune_size_pos (drop_ne_nil hlt)
  omega

theorem backup_nextSt {e : Env} {s : St} (h : Inv e s) : backup e (nextSt e s) = .ok () s := by
  unfold backup nextSt
  by_cases heq : s.pos = e.src.length
  · simp [heq]
    cases s; simp_all
  · have hlt : s.pos < e.src.length := Nat.lt_of_le_of_ne h.le heq
    have h0 : s.overEOF = 0 := by
      rcases Nat.eq_zero_or_pos s.overEOF with h0 | h0
      · exact h0
      · exact absurd (h.eof h0) heq
    have h1 := decodeRune_size_le (e.src.drop s.pos)
    simp only [List.length_drop] at h1
    have hu := decodeLast_undo e.src s.pos h.bnd hlt
    simp only [heq, if_false, h0, Nat.lt_irrefl]
    have : s.pos + (decodeRune (List.drop s.pos e.src)).2 ≤ e.src.length := by omega
    simp only [this, if_true, hu]
    simp
    cases s; simp_all

def errSt (e : Env) (s : St) (m : Msg) : St :=
  { s with errors := s.errors ++ [{ frm := s.pos, to := if s.pos < e.src.length then s.pos + 1 else s.pos,
                                    partial_ := s.pos == e.src.length, msg := m }] }

theorem error_eq {e : Env} {s : St} (h : Inv e s) (m : Msg) : error m e s = .ok () (errSt e s m) := by
  unfold error errorp errSt
  have := h.le
  by_cases hlt : s.pos < e.src.length
  · simp [hlt]; omega
  · simp [hlt]; omega

theorem errSt_inv {e : Env} {s : St} (h : Inv e s) (m : Msg) : Inv e (errSt e s m) := by
  refine ⟨h.le, h.bnd, h.eof, ?_⟩
  intro x hx
  simp only [errSt, List.mem_append, List.mem_singleton] at hx
  rcases hx with hx | hx
  · exact h.errs x hx
  · subst hx
    have := h.le
    simp only []
    split <;> omega

@[simp] theorem errSt_pos (e : Env) (s : St) (m : Msg) : (errSt e s m).pos = s.pos := rfl
@[simp] theorem errSt_overEOF (e : Env) (s : St) (m : Msg) : (errSt e s m).overEOF = s.overEOF := rfl

theorem errSt_fwd {e : Env} {s : St} (h : Inv e s) (m : Msg) : Fwd e s (errSt e s m) :=
  ⟨errSt_inv h m, Nat.le_refl _⟩

theorem sliceSrc_eq {e : Env} {s : St} {a b : Nat} (h1 : a ≤ b) (h2 : b ≤ e.src.length) :
    sliceSrc a b e s = .ok (srcSlice e.src a b) s := by
  unfold sliceSrc slice srcSlice
  have : (0 : Int) ≤ (a : Int) ∧ (a : Int) ≤ (b : Int) ∧ (b : Int) ≤ (e.src.length : Int) := by omega
  simp only [this, and_self, if_true, Int.toNat_natCast]

theorem hasPrefix_eq {e : Env} {s : St} (h : Inv e s) (p : Bytes) :
    hasPrefix p e s = .ok (p.isPrefixOf (e.src.drop s.pos)) s := by
  unfold hasPrefix; simp [h.le]

/-- bytes left: what the loop bounds and the nesting fuel are measured against -/
def rem (e : Env) (s : St) : Nat := e.src.length - s.pos

theorem rem_mono {e : Env} {s s' : St} (h : Fwd e s s') : rem e s' ≤ rem e s := by
  unfold rem; have := h.2; omega

theorem rem_next {e : Env} {s : St} (h : Inv e s) (hp : s.pos ≠ e.src.length) :
    rem e (nextSt e s) + 1 ≤ rem e s := by
  have := nextSt_progress h hp
  have := (nextSt_inv h).le
  unfold rem; omega

theorem rem_lt_fuel (e : Env) (s : St) : rem e s < e.src.length + 2 := by unfold rem; omega

end C01
