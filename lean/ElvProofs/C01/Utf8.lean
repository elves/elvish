/-
UTF-8 facts needed by the parser proofs: the positions the parser can be at are
*boundaries* (reached from 0 by repeatedly decoding forward), and no boundary lies
inside a multi-byte rune.
-/
import ElvProofs.Lemmas.Utf8
namespace C01
open Go

/-- Positions reachable from 0 by decoding forward: the only values `pos` takes. -/
inductive Bnd (src : Bytes) : Nat → Prop where
  | zero : Bnd src 0
  | step {p : Nat} : Bnd src p → p < src.length → Bnd src (p + (decodeRune (src.drop p)).2)

theorem drop_ne_nil {src : Bytes} {p : Nat} (h : p < src.length) : src.drop p ≠ [] := by
  intro h'
  have := congrArg List.length h'
  simp at this
  omega

theorem Bnd.not_inside {src : Bytes} {c : Nat} (hc : Bnd src c) :
    ∀ q m, (decodeRune (src.drop q)).2 = m → 2 ≤ m → ¬ (q < c ∧ c < q + m) := by
  induction hc with
  | zero => intro q m _ _ h; omega
  | @step c hc hlt ih =>
    intro q m hm h2 ⟨h3, h4⟩
    have hk1 := Go.decodeRune_size_pos (drop_ne_nil hlt)
    have ih' := ih q m hm h2
    by_cases hcq : c < q
    · -- `q` lies strictly inside the rune at `c`: it holds a continuation byte, yet starts a rune
      obtain ⟨b, hb, hcont⟩ := decodeRune_getElem?_isCont (src.drop c) (q - c) (by omega) (by omega)
      rw [List.getElem?_drop, show c + (q - c) = q by omega] at hb
      obtain ⟨hq, rfl⟩ := List.getElem?_eq_some_iff.1 hb
      have := decodeRune_head_runeStart src[q] (src.drop (q + 1))
        (by rw [← List.drop_eq_getElem_cons hq, hm]; exact h2)
      simp [runeStart, hcont] at this
    · by_cases hcq' : c = q
      · subst hcq'; omega
      · omega

end C01
