/-
C12: the float branches of the arithmetic builtins, for every instance of the
float operations.
-/
import ElvProofs.C11.Arith
import ElvModel.C12.Model
namespace C12
open Go C11
variable {F : Type}

def HasFloat (args : List (Num F)) : Prop := ∃ a ∈ args, isExact a = false

theorem rankOf_float (a : Num F) (h : isExact a = false) : rankOf a = 3 := by
  cases a <;> simp [isExact] at h; rfl

theorem rank_le_three (t : NumType) : t.rank ≤ 3 := by cases t <;> simp [NumType.rank]

theorem unifyNums_float (ops : F64Ops F) (raw : List (Num F)) (typ : NumType) (h : HasFloat raw) :
    unifyNums ops raw typ = .ok (.flts (raw.map (convertToFloat64 ops))) := by
  obtain ⟨a, ha, hf⟩ := h
  have hr := rank_unifyType raw typ
  have hge := (foldl_max_ge raw typ.rank).2 a ha
  rw [← hr, rankOf_float a hf] at hge
  have : unifyType raw typ = .float64 := by
    apply rank_inj
    have := rank_le_three (unifyType raw typ)
    simp only [NumType.rank] at *; omega
  simp [unifyNums, this]

theorem add_float (ops : F64Ops F) (args : List (Num F)) (h : HasFloat args) :
    add ops args = .ok (.flt ((args.map (convertToFloat64 ops)).foldl ops.add (ops.ofInt64 0))) := by
  simp [add, unifyNums_float ops args _ h]

def subFold (ops : F64Ops F) : List F → F
  | [] => ops.ofInt64 0
  | [x] => ops.neg x
  | x :: rest => rest.foldl ops.sub x

theorem sub_float (ops : F64Ops F) (args : List (Num F)) (h : HasFloat args) :
    sub ops args = .ok (.flt (subFold ops (args.map (convertToFloat64 ops)))) := by
  have hne : args.isEmpty = false := by
    obtain ⟨a, ha, _⟩ := h; cases args <;> simp_all
  simp only [sub, hne, unifyNums_float ops args _ h]
  match args with
  | [] => simp at hne
  | [a] => rfl
  | a :: b :: rest => rfl

def MulZeroRule (ops : F64Ops F) (args : List (Num F)) : Prop :=
  (mulScan ops args false).1 = true ∧ (mulScan ops args false).2 = false

theorem mul_float (ops : F64Ops F) (args : List (Num F)) (h : HasFloat args)
    (hz : ¬ MulZeroRule ops args) :
    mul ops args = .ok (.flt ((args.map (convertToFloat64 ops)).foldl ops.mul (ops.ofInt64 1))) := by
  unfold mul
  unfold MulZeroRule at hz
  generalize mulScan ops args false = sc at hz
  obtain ⟨z, i⟩ := sc
  have : (z && !i) = false := by
    cases z <;> cases i <;> simp_all
  simp [this, unifyNums_float ops args _ h]

def divFold (ops : F64Ops F) : List F → F
  | [] => ops.ofInt64 0
  | [x] => ops.div (ops.ofInt64 1) x
  | x :: rest => rest.foldl ops.div x

theorem div_float (ops : F64Ops F) (x : Num F) (rest : List (Num F)) (h : HasFloat (x :: rest))
    (h0 : rest.any isExactZero = false) (hx : isExactZero x = false) :
    div ops (x :: rest) = .ok (.flt (divFold ops ((x :: rest).map (convertToFloat64 ops)))) := by
  simp only [div, h0, hx, unifyNums_float ops _ _ h]
  cases rest with
  | nil => rfl
  | cons b rs => rfl


theorem mulScan_snd (ops : F64Ops F) (l : List (Num F)) (z : Bool) :
    (mulScan ops l z).2 = l.any (isInfNum ops) := by
  induction l generalizing z with
  | nil => rfl
  | cons a l ih =>
    simp only [mulScan, List.any_cons]
    by_cases h : isInfNum ops a = true
    · simp [h]
    · have h' : isInfNum ops a = false := by simpa using h
      simp [h', ih]

theorem mulZeroRule_iff (ops : F64Ops F) (args : List (Num F)) :
    MulZeroRule ops args ↔ (Num.int 0 ∈ args ∧ ∀ a ∈ args, isInfNum ops a = false) := by
  unfold MulZeroRule
  rw [mulScan_snd]
  constructor
  · rintro ⟨h1, h2⟩
    have hinf : ∀ a ∈ args, isInfNum ops a = false := by
      intro a ha
      cases hh : isInfNum ops a
      · rfl
      · have : args.any (isInfNum ops) = true := List.any_eq_true.2 ⟨a, ha, hh⟩
        rw [this] at h2; cases h2
    rw [mulScan_noInf ops args false hinf] at h1
    simp only [Bool.false_or] at h1
    obtain ⟨a, ha, hz⟩ := List.any_eq_true.1 h1
    refine ⟨?_, hinf⟩
    cases a <;> simp [isExactZero] at hz
    subst hz; exact ha
  · rintro ⟨h0, hinf⟩
    rw [mulScan_noInf ops args false hinf]
    refine ⟨?_, ?_⟩
    · simp only [Bool.false_or]; exact List.any_eq_true.2 ⟨_, h0, rfl⟩
    · cases hh : args.any (isInfNum ops)
      · rfl
      · obtain ⟨a, ha, hz⟩ := List.any_eq_true.1 hh
        rw [hinf a ha] at hz; cases hz

end C12
