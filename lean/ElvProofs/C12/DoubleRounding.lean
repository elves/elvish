/-
C12: a transparent description of the WRONG way to convert a rational
`a/b` with machine-word parts — `float64(a) / float64(b)` — used to state that
it differs from the single correctly rounded conversion `B64.rne (a/b)` the
model (and `big.Rat.Float64`) performs.
-/
import ElvProofs.C12.NearestRat
namespace C12.B64

/-- `float64(a) / float64(b)` under IEEE-754: each conversion rounds, and the quotient of the
two ROUNDED values is rounded again.  `none` when an operand is not finite. -/
def divThenRound (a b : Int) : Option Nat :=
  match toRat (rne (a : Rat)), toRat (rne (b : Rat)) with
  | some x, some y => some (rne (x / y))
  | _, _ => none

/-- `float64(2^53+1)` is `2^53` (a tie, to even), so the quotient comes out as `2^-53`, whereas
the double nearest to `1/(2^53+1)` is its predecessor. -/
theorem divThenRound_witness :
    divThenRound 1 9007199254740993 = some 0x3ca0000000000000 ∧
    rne (mkRat 1 9007199254740993) = 0x3c9fffffffffffff := by
  constructor <;> decide +kernel

theorem overflowThr_rat : (overflowThr : Rat) = (2 : Rat) ^ 1024 - (2 : Rat) ^ 970 := by
  have h : ((overflowThr + 2 ^ 970 : Nat) : Rat) = ((2 ^ 1024 : Nat) : Rat) := by rw [overflowThr_eq]
  rw [Rat.natCast_add, Rat.natCast_pow, Rat.natCast_pow] at h
  have e2 : ((2 : Nat) : Rat) = (2 : Rat) := rfl
  rw [e2] at h
  generalize (2 : Rat) ^ 1024 = A at *
  generalize (2 : Rat) ^ 970 = B at *
  grind

end C12.B64
