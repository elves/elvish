/-
C12: the pieces of the transparent binary64 rounding `B64.rneMag` — the
exponent `ilog2`, the integer rounding `roundHalfEven`, and the significand.
The central fact is `significand_eq`: in units of `2^-1074` the significand is
`n·2^1074` divided by the unit in the last place and rounded, so it is a nearest
multiple of that unit (`sig_nearest`) and lies in the binade (`significand_bounds`).
-/
import ElvProofs.C12.Pattern
namespace C12.B64

/-- `2^k ≤ n/d`, read with any shift `S` that makes the exponent non-negative. -/
theorem pow2Le_iff (k : Int) (n d S : Nat) (hS : 0 ≤ (S : Int) + k) :
    pow2Le k n d = true ↔ d * 2 ^ ((S : Int) + k).toNat ≤ n * 2 ^ S := by
  unfold pow2Le
  by_cases hk : 0 ≤ k
  · simp only [hk, if_true, decide_eq_true_eq]
    have : ((S : Int) + k).toNat = k.toNat + S := by omega
    rw [this, Nat.pow_add, ← Nat.mul_assoc]
    exact (Nat.mul_le_mul_right_iff (Nat.two_pow_pos S)).symm
  · simp only [hk, if_false, decide_eq_true_eq]
    have : S = ((S : Int) + k).toNat + (-k).toNat := by omega
    conv => rhs; rhs; rw [this, Nat.pow_add, Nat.mul_comm (2 ^ _) (2 ^ _), ← Nat.mul_assoc]
    exact (Nat.mul_le_mul_right_iff (Nat.two_pow_pos _)).symm

theorem pow2Le_of_le (k j : Int) (n d : Nat) (hjk : j ≤ k) (h : pow2Le k n d = true) :
    pow2Le j n d = true := by
  rw [pow2Le_iff j n d j.natAbs (by omega)]
  rw [pow2Le_iff k n d j.natAbs (by omega)] at h
  exact Nat.le_trans (Nat.mul_le_mul_left d (Nat.pow_le_pow_right (by decide) (by omega))) h

theorem ilog2_spec (n d : Nat) (hn : 0 < n) (hd : 0 < d) :
    pow2Le (ilog2 n d) n d = true ∧ pow2Le (ilog2 n d + 1) n d = false := by
  unfold ilog2
  simp only []
  have ha1 := Nat.log2_self_le (Nat.ne_of_gt hn)
  have ha2 := @Nat.lt_log2_self n
  have hb1 := Nat.log2_self_le (Nat.ne_of_gt hd)
  have hb2 := @Nat.lt_log2_self d
  generalize n.log2 = a at *
  generalize d.log2 = b at *
  -- 2^a ≤ n < 2^(a+1) and 2^b ≤ d < 2^(b+1), so 2^(a-b-1) < n/d < 2^(a-b+1)
  have up : pow2Le ((a : Int) - b + 1) n d = false := by
    apply Bool.eq_false_iff.2
    intro h
    rw [pow2Le_iff _ n d b (by omega)] at h
    have e : ((b : Int) + ((a : Int) - b + 1)).toNat = a + 1 := by omega
    rw [e, Nat.mul_comm d] at h
    have h1 : n * 2 ^ b < 2 ^ (a + 1) * 2 ^ b := Nat.mul_lt_mul_of_pos_right ha2 (Nat.two_pow_pos b)
    have h2 : 2 ^ (a + 1) * 2 ^ b ≤ 2 ^ (a + 1) * d := Nat.mul_le_mul_left _ hb1
    omega
  have low : pow2Le ((a : Int) - b - 1) n d = true := by
    rw [pow2Le_iff _ n d (b + 1) (by omega)]
    have e : (((b + 1 : Nat) : Int) + ((a : Int) - b - 1)).toNat = a := by omega
    rw [e, Nat.mul_comm n]
    have h1 : d * 2 ^ a ≤ 2 ^ (b + 1) * 2 ^ a := Nat.mul_le_mul_right _ (Nat.le_of_lt hb2)
    have h2 : 2 ^ (b + 1) * 2 ^ a ≤ 2 ^ (b + 1) * n := Nat.mul_le_mul_left _ ha1
    omega
  cases h : pow2Le ((a : Int) - b) n d
  · simp only [Bool.false_eq_true, if_false]
    refine ⟨low, ?_⟩
    have : (a : Int) - b - 1 + 1 = a - b := by omega
    rw [this]; exact h
  · simp only [if_true]
    exact ⟨h, up⟩

theorem le_ilog2 (n d : Nat) (hn : 0 < n) (hd : 0 < d) (k : Int) (h : pow2Le k n d = true) :
    k ≤ ilog2 n d := by
  obtain ⟨_, s2⟩ := ilog2_spec n d hn hd
  apply Int.not_lt.1
  intro hlt
  have := pow2Le_of_le k (ilog2 n d + 1) n d (by omega) h
  rw [s2] at this; cases this

theorem ilog2_lt (n d : Nat) (hn : 0 < n) (hd : 0 < d) (k : Int) (h : pow2Le k n d = false) :
    ilog2 n d < k := by
  obtain ⟨s1, _⟩ := ilog2_spec n d hn hd
  apply Int.not_le.1
  intro hle
  have := pow2Le_of_le (ilog2 n d) k n d hle s1
  rw [h] at this; cases this

theorem ilog2_unique (n d : Nat) (hn : 0 < n) (hd : 0 < d) (k : Int)
    (h1 : pow2Le k n d = true) (h2 : pow2Le (k + 1) n d = false) : ilog2 n d = k := by
  have := le_ilog2 n d hn hd k h1
  have := ilog2_lt n d hn hd (k + 1) h2
  omega

theorem pow2Le_scale (k : Int) (n d g : Nat) (hg : 0 < g) :
    pow2Le k (n * g) (d * g) = pow2Le k n d := by
  unfold pow2Le
  by_cases hk : 0 ≤ k
  · simp only [hk, if_true]
    rw [Nat.mul_right_comm d g]
    simp [Nat.mul_le_mul_right_iff hg]
  · simp only [hk, if_false]
    rw [Nat.mul_right_comm n g]
    simp [Nat.mul_le_mul_right_iff hg]

theorem ilog2_scale (n d g : Nat) (hn : 0 < n) (hd : 0 < d) (hg : 0 < g) :
    ilog2 (n * g) (d * g) = ilog2 n d := by
  obtain ⟨s1, s2⟩ := ilog2_spec n d hn hd
  apply ilog2_unique _ _ (Nat.mul_pos hn hg) (Nat.mul_pos hd hg)
  · rw [pow2Le_scale _ _ _ _ hg]; exact s1
  · rw [pow2Le_scale _ _ _ _ hg]; exact s2

theorem roundHalfEven_scale (N D g : Nat) (hg : 0 < g) :
    roundHalfEven (N * g) (D * g) = roundHalfEven N D := by
  unfold roundHalfEven
  rw [Nat.mul_div_mul_right _ _ hg, Nat.mul_mod_mul_right]
  simp only []
  have e1 : (2 * (N % D * g) < D * g) ↔ (2 * (N % D) < D) := by
    rw [← Nat.mul_assoc]; exact Nat.mul_lt_mul_right hg
  have e2 : (D * g < 2 * (N % D * g)) ↔ (D < 2 * (N % D)) := by
    rw [← Nat.mul_assoc]; exact Nat.mul_lt_mul_right hg
  simp only [e1, e2]

theorem roundHalfEven_cases (N D : Nat) :
    (roundHalfEven N D = N / D ∧ (2 * (N % D) < D ∨ (2 * (N % D) = D ∧ N / D % 2 = 0))) ∨
    (roundHalfEven N D = N / D + 1 ∧ (D < 2 * (N % D) ∨ (2 * (N % D) = D ∧ N / D % 2 = 1))) := by
  unfold roundHalfEven
  simp only []
  split
  · exact .inl ⟨rfl, .inl ‹_›⟩
  · split
    · exact .inr ⟨rfl, .inl ‹_›⟩
    · split
      · exact .inl ⟨rfl, .inr ⟨by omega, ‹_›⟩⟩
      · exact .inr ⟨rfl, .inr ⟨by omega, by omega⟩⟩

theorem roundHalfEven_nearest (N D : Nat) (hD : 0 < D) :
    let M := roundHalfEven N D
    (2 * (M * D) ≤ 2 * N + D ∧ 2 * N ≤ 2 * (M * D) + D) ∧
    ((2 * (M * D) = 2 * N + D ∨ 2 * N = 2 * (M * D) + D) → M % 2 = 0) := by
  have h1 := Nat.div_add_mod' N D
  have h2 := Nat.mod_lt N hD
  simp only []
  rcases roundHalfEven_cases N D with ⟨e, c⟩ | ⟨e, c⟩ <;> rw [e]
  · omega
  · rw [Nat.add_mul (N / D) 1 D, Nat.one_mul]; omega

theorem roundHalfEven_exact (M D : Nat) (hD : 0 < D) : roundHalfEven (M * D) D = M := by
  unfold roundHalfEven
  simp [Nat.mul_div_cancel _ hD, Nat.mul_mod_left, hD]

theorem le_roundHalfEven (N D lo : Nat) (hD : 0 < D) (h : lo * D ≤ N) : lo ≤ roundHalfEven N D := by
  have hq : lo ≤ N / D := (Nat.le_div_iff_mul_le hD).2 h
  rcases roundHalfEven_cases N D with ⟨e, _⟩ | ⟨e, _⟩ <;> omega

theorem roundHalfEven_le (N D hi : Nat) (hD : 0 < D) (h : N < hi * D) : roundHalfEven N D ≤ hi := by
  have hq : N / D < hi := (Nat.div_lt_iff_lt_mul hD).2 h
  rcases roundHalfEven_cases N D with ⟨e, _⟩ | ⟨e, _⟩ <;> omega

/-- `N/D = (n/d)/2^E`. -/
def scaled (n d : Nat) : Nat × Nat :=
  let E := ulpExp n d
  if 0 ≤ E then (n, d * 2 ^ E.toNat) else (n * 2 ^ (-E).toNat, d)

def significand (n d : Nat) : Nat := roundHalfEven (scaled n d).1 (scaled n d).2

/-- The unit in the last place is `2^t` units of `2^-1074`. -/
def expT (n d : Nat) : Nat := (ulpExp n d + 1074).toNat

/-- The pattern before clamping to the infinity pattern (unbounded exponent). -/
def rneMagU (n d : Nat) : Nat := expT n d * 2 ^ 52 + significand n d

theorem rneMag_eq_min (n d : Nat) : rneMag n d = min (rneMagU n d) infMag := by
  unfold rneMag rneMagU expT significand scaled
  simp only []
  split <;> rfl

theorem rneMag_of_finite (n d : Nat) (h : rneMag n d < infMag) : rneMag n d = rneMagU n d := by
  rw [rneMag_eq_min] at h ⊢; omega

theorem rneMag_le_infMag (n d : Nat) : rneMag n d ≤ infMag := by
  rw [rneMag_eq_min]; omega

theorem rneMagU_mod_two (n d : Nat) : rneMagU n d % 2 = significand n d % 2 := by
  unfold rneMagU; omega

theorem expT_cast (n d : Nat) : ((expT n d : Nat) : Int) = ulpExp n d + 1074 := by
  unfold expT ulpExp; omega

theorem ulpExp_of_expT_pos (n d : Nat) (h : 0 < expT n d) : ulpExp n d = ilog2 n d - 52 := by
  unfold expT ulpExp at *; omega

theorem rneMagU_scale (n d g : Nat) (hn : 0 < n) (hd : 0 < d) (hg : 0 < g) :
    rneMagU (n * g) (d * g) = rneMagU n d := by
  unfold rneMagU expT significand scaled ulpExp
  rw [ilog2_scale n d g hn hd hg]
  simp only []
  split
  · rw [Nat.mul_right_comm d g, roundHalfEven_scale _ _ _ hg]
  · rw [Nat.mul_right_comm n g, roundHalfEven_scale _ _ _ hg]

theorem rneMag_scale (n d g : Nat) (hn : 0 < n) (hd : 0 < d) (hg : 0 < g) :
    rneMag (n * g) (d * g) = rneMag n d := by
  rw [rneMag_eq_min, rneMag_eq_min, rneMagU_scale n d g hn hd hg]

/-- Both cases of `scaled` are this fraction, reduced by a power of two. -/
theorem significand_eq (n d : Nat) :
    significand n d = roundHalfEven (n * 2 ^ 1074) (2 ^ expT n d * d) := by
  have hE : -1074 ≤ ulpExp n d := by unfold ulpExp; omega
  unfold significand scaled expT
  generalize ulpExp n d = E at *
  by_cases c : (0 : Int) ≤ E
  · simp only [c, if_true]
    have ht : (E + 1074).toNat = E.toNat + 1074 := by omega
    rw [ht, Nat.pow_add, Nat.mul_right_comm (2 ^ E.toNat), Nat.mul_comm (2 ^ E.toNat) d,
      roundHalfEven_scale _ _ _ (Nat.two_pow_pos 1074)]
  · simp only [c, if_false]
    have hZ : (2 : Nat) ^ 1074 = 2 ^ (-E).toNat * 2 ^ (E + 1074).toNat := by
      rw [← Nat.pow_add]; congr 1; omega
    rw [hZ, ← Nat.mul_assoc, Nat.mul_comm (2 ^ (E + 1074).toNat) d,
      roundHalfEven_scale _ _ _ (Nat.two_pow_pos _)]

theorem sig_nearest (n d : Nat) (hd : 0 < d) :
    (2 * (significand n d * (2 ^ expT n d * d)) ≤ 2 * (n * 2 ^ 1074) + 2 ^ expT n d * d ∧
      2 * (n * 2 ^ 1074) ≤ 2 * (significand n d * (2 ^ expT n d * d)) + 2 ^ expT n d * d) ∧
    ((2 * (significand n d * (2 ^ expT n d * d)) = 2 * (n * 2 ^ 1074) + 2 ^ expT n d * d ∨
      2 * (n * 2 ^ 1074) = 2 * (significand n d * (2 ^ expT n d * d)) + 2 ^ expT n d * d) →
      significand n d % 2 = 0) := by
  rw [significand_eq]
  exact roundHalfEven_nearest _ _ (Nat.mul_pos (Nat.two_pow_pos _) hd)

theorem pow2Le_units (k : Int) (n d j t : Nat) (h : k + 1074 = j + t) :
    pow2Le k n d = true ↔ 2 ^ j * (2 ^ t * d) ≤ n * 2 ^ 1074 := by
  have e : (((1074 : Nat) : Int) + k).toNat = j + t := by omega
  rw [pow2Le_iff k n d 1074 (by omega), e, Nat.pow_add, Nat.mul_comm d, Nat.mul_assoc]

theorem binade_floor (n d : Nat) (hn : 0 < n) (hd : 0 < d) (hE : ulpExp n d = ilog2 n d - 52) :
    2 ^ 52 * (2 ^ expT n d * d) ≤ n * 2 ^ 1074 :=
  (pow2Le_units _ n d 52 _ (by have := expT_cast n d; omega)).1 (ilog2_spec n d hn hd).1

/-- Used with `j = 53` always, and `j = 52` at the subnormal spacing. -/
theorem binade_ceil (n d : Nat) (hn : 0 < n) (hd : 0 < d) (j : Nat) (hj : ilog2 n d < ulpExp n d + j) :
    n * 2 ^ 1074 < 2 ^ j * (2 ^ expT n d * d) := by
  apply Nat.lt_of_not_ge
  intro h
  have := le_ilog2 n d hn hd (ulpExp n d + j)
    ((pow2Le_units _ n d j _ (by have := expT_cast n d; omega)).2 h)
  omega

theorem significand_bounds (n d : Nat) (hn : 0 < n) (hd : 0 < d) :
    (ulpExp n d = ilog2 n d - 52 → 2 ^ 52 ≤ significand n d ∧ significand n d ≤ 2 ^ 53) ∧
    (ulpExp n d ≠ ilog2 n d - 52 → ulpExp n d = -1074 ∧ significand n d ≤ 2 ^ 52) := by
  have hc : 0 < 2 ^ expT n d * d := Nat.mul_pos (Nat.two_pow_pos _) hd
  have hmax : ulpExp n d = max (ilog2 n d - 52) (-1074) := rfl
  rw [significand_eq]
  constructor
  · intro hE
    exact ⟨le_roundHalfEven _ _ _ hc (binade_floor n d hn hd hE),
      roundHalfEven_le _ _ _ hc (binade_ceil n d hn hd 53 (by omega))⟩
  · intro hE
    exact ⟨by omega, roundHalfEven_le _ _ _ hc (binade_ceil n d hn hd 52 (by omega))⟩

theorem significand_ge (n d : Nat) (hn : 0 < n) (hd : 0 < d) (ht : 0 < expT n d) :
    2 ^ 52 ≤ significand n d :=
  ((significand_bounds n d hn hd).1 (ulpExp_of_expT_pos n d ht)).1

theorem significand_le (n d : Nat) (hn : 0 < n) (hd : 0 < d) : significand n d ≤ 2 ^ 53 := by
  have hmax : ulpExp n d = max (ilog2 n d - 52) (-1074) := rfl
  rw [significand_eq]
  exact roundHalfEven_le _ _ _ (Nat.mul_pos (Nat.two_pow_pos _) hd) (binade_ceil n d hn hd 53 (by omega))

theorem magUnits_rneMagU (n d : Nat) (hn : 0 < n) (hd : 0 < d) :
    magUnits (rneMagU n d) = significand n d * 2 ^ expT n d :=
  magUnits_encode _ _ (significand_ge n d hn hd) (significand_le n d hn hd)

theorem rneMag_half_ulp (n d : Nat) (hn : 0 < n) (hd : 0 < d) (hfin : rneMag n d < infMag) :
    let t := (ulpExp n d + 1074).toNat
    let u := magUnits (rneMag n d)
    2 * (u * d) ≤ 2 * (n * 2 ^ 1074) + d * 2 ^ t ∧ 2 * (n * 2 ^ 1074) ≤ 2 * (u * d) + d * 2 ^ t := by
  show 2 * (magUnits (rneMag n d) * d) ≤ 2 * (n * 2 ^ 1074) + d * 2 ^ expT n d ∧
    2 * (n * 2 ^ 1074) ≤ 2 * (magUnits (rneMag n d) * d) + d * 2 ^ expT n d
  rw [rneMag_of_finite n d hfin, magUnits_rneMagU n d hn hd, Nat.mul_assoc (significand n d),
    Nat.mul_comm d]
  exact (sig_nearest n d hd).1

end C12.B64
