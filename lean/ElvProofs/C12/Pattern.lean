/-
C12: the value `B64.magUnits` of a magnitude pattern, read off its two fields
(biased exponent `e`, fraction `f < 2^52`): patterns are ordered like the values
they denote, and the values above `2^52·2^t` units lie on the grid of multiples
of `2^t`.
-/
import ElvModel.C12.Binary64
namespace C12.B64

theorem fields (m : Nat) : ∃ e f, f < 2 ^ 52 ∧ m = e * 2 ^ 52 + f :=
  ⟨m / 2 ^ 52, m % 2 ^ 52, Nat.mod_lt _ (Nat.two_pow_pos 52), (Nat.div_add_mod' m _).symm⟩

theorem fields_div (e f : Nat) (hf : f < 2 ^ 52) : (e * 2 ^ 52 + f) / 2 ^ 52 = e := by
  rw [Nat.mul_comm, Nat.mul_add_div (Nat.two_pow_pos 52), Nat.div_eq_of_lt hf, Nat.add_zero]

theorem magUnits_fields (e f : Nat) (hf : f < 2 ^ 52) :
    magUnits (e * 2 ^ 52 + f) = if e = 0 then f else (2 ^ 52 + f) * 2 ^ (e - 1) := by
  have h2 : (e * 2 ^ 52 + f) % 2 ^ 52 = f := by
    rw [Nat.mul_comm, Nat.mul_add_mod, Nat.mod_eq_of_lt hf]
  unfold magUnits
  simp only [fields_div e f hf, h2]

theorem magUnits_subnormal (f : Nat) (hf : f < 2 ^ 52) : magUnits f = f := by
  have := magUnits_fields 0 f hf
  rwa [Nat.zero_mul, Nat.zero_add, if_pos rfl] at this

theorem magUnits_normal (e f : Nat) (hf : f < 2 ^ 52) :
    magUnits ((e + 1) * 2 ^ 52 + f) = (2 ^ 52 + f) * 2 ^ e := by
  rw [magUnits_fields _ f hf, if_neg (Nat.succ_ne_zero e), Nat.add_sub_cancel]

theorem magUnits_fields_lt (e f : Nat) (hf : f < 2 ^ 52) :
    magUnits (e * 2 ^ 52 + f) < 2 ^ 52 * 2 ^ e := by
  cases e with
  | zero => rw [Nat.zero_mul, Nat.zero_add, magUnits_subnormal f hf, Nat.pow_zero, Nat.mul_one]; exact hf
  | succ e =>
    rw [magUnits_normal e f hf, show (2 : Nat) ^ (e + 1) = 2 * 2 ^ e from Nat.pow_succ', ← Nat.mul_assoc,
      Nat.mul_two]
    exact Nat.mul_lt_mul_of_pos_right (Nat.add_lt_add_left hf _) (Nat.two_pow_pos e)

/-- Includes the pattern of infinity, read as `2^1024`. -/
theorem magUnits_strictMono (m1 m2 : Nat) (h : m1 < m2) : magUnits m1 < magUnits m2 := by
  obtain ⟨e1, f1, hf1, rfl⟩ := fields m1
  obtain ⟨e2, f2, hf2, rfl⟩ := fields m2
  have hlex : e1 < e2 ∨ (e1 = e2 ∧ f1 < f2) := by omega
  rcases hlex with he | ⟨rfl, hf⟩
  · -- a lower binade: below its end, which is at most the start of the binade of `m2`
    obtain ⟨e, rfl⟩ : ∃ e, e2 = e + 1 := ⟨e2 - 1, by omega⟩
    apply Nat.lt_of_lt_of_le (magUnits_fields_lt e1 f1 hf1)
    rw [magUnits_normal e f2 hf2]
    exact Nat.mul_le_mul (Nat.le_add_right _ _) (Nat.pow_le_pow_right (by decide) (by omega))
  · cases e1 with
    | zero => simpa only [Nat.zero_mul, Nat.zero_add, magUnits_subnormal, hf1, hf2] using hf
    | succ e =>
      rw [magUnits_normal e f1 hf1, magUnits_normal e f2 hf2]
      exact Nat.mul_lt_mul_of_pos_right (Nat.add_lt_add_left hf _) (Nat.two_pow_pos e)

theorem magUnits_mono (m1 m2 : Nat) (h : m1 ≤ m2) : magUnits m1 ≤ magUnits m2 := by
  rcases Nat.lt_or_eq_of_le h with h | h
  · exact Nat.le_of_lt (magUnits_strictMono _ _ h)
  · rw [h]; exact Nat.le_refl _

theorem magUnits_inj (m1 m2 : Nat) (h : magUnits m1 = magUnits m2) : m1 = m2 := by
  rcases Nat.lt_trichotomy m1 m2 with c | c | c
  · have := magUnits_strictMono _ _ c; omega
  · exact c
  · have := magUnits_strictMono _ _ c; omega

theorem magUnits_pos (mag : Nat) (h : 0 < mag) : 0 < magUnits mag :=
  magUnits_strictMono 0 mag h

theorem magUnits_grid (m t : Nat) : magUnits m < 2 ^ 52 * 2 ^ t ∨ ∃ j, magUnits m = j * 2 ^ t := by
  obtain ⟨e, f, hf, rfl⟩ := fields m
  by_cases c : e ≤ t
  · left
    exact Nat.lt_of_lt_of_le (magUnits_fields_lt e f hf)
      (Nat.mul_le_mul_left _ (Nat.pow_le_pow_right (by decide) c))
  · right
    obtain ⟨k, rfl⟩ : ∃ k, e = k + t + 1 := ⟨e - t - 1, by omega⟩
    rw [magUnits_normal _ f hf, Nat.pow_add, ← Nat.mul_assoc]
    exact ⟨_, rfl⟩

/-- Uniformly for a subnormal (`t = 0`, `M < 2^52`), a normal (`2^52 ≤ M < 2^53`) and a
rounding carry (`M = 2^53`). -/
theorem magUnits_encode (t M : Nat) (hlo : 0 < t → 2 ^ 52 ≤ M) (hhi : M ≤ 2 ^ 53) :
    magUnits (t * 2 ^ 52 + M) = M * 2 ^ t := by
  have p53 : (2 : Nat) ^ 53 = 2 ^ 52 + 2 ^ 52 := by rw [Nat.pow_succ, Nat.mul_two]
  by_cases c1 : M < 2 ^ 52
  · have ht : t = 0 := by
      apply Nat.eq_zero_of_not_pos
      intro h; exact absurd (hlo h) (Nat.not_le.2 c1)
    subst ht
    rw [Nat.zero_mul, Nat.zero_add, magUnits_subnormal M c1, Nat.pow_zero, Nat.mul_one]
  · obtain ⟨f, rfl⟩ : ∃ f, M = 2 ^ 52 + f := ⟨M - 2 ^ 52, by omega⟩
    by_cases c2 : f < 2 ^ 52
    · rw [← Nat.add_assoc, ← Nat.succ_mul, magUnits_normal t f c2]
    · have hf : f = 2 ^ 52 := by omega
      subst hf
      have e : t * 2 ^ 52 + (2 ^ 52 + 2 ^ 52) = (t + 1 + 1) * 2 ^ 52 + 0 := by
        simp only [Nat.succ_mul, Nat.add_assoc, Nat.add_zero]
      rw [e, magUnits_normal (t + 1) 0 (Nat.two_pow_pos 52), Nat.add_zero,
        show (2 : Nat) ^ (t + 1) = 2 * 2 ^ t from Nat.pow_succ', ← Nat.mul_assoc, Nat.mul_two]

end C12.B64
