/-
C12: "nearest, ties to even" for an arbitrary strictly increasing sequence
`g : Int → Rat`.  `NearestEven g x p` says that `g p` is as near to `x` as any
element of the sequence, and that `p` is even when another element is as near.
What is claimed of a rounding beyond that — the index is the only one, it is
exact on the elements, monotone in `x`, and reaches an even index `K` exactly
from the midpoint below `K` on — follows from the order of `g` alone: being
nearer than a lower (higher) element means lying at or above (below) the
midpoint between the two.
-/
namespace C12.B64

def rdist (a b : Rat) : Rat := if a < b then b - a else a - b

theorem rdist_neg (a b : Rat) : rdist (-a) (-b) = rdist a b := by
  unfold rdist; grind

theorem rdist_nonneg (a b : Rat) : 0 ≤ rdist a b := by
  unfold rdist; grind

theorem rdist_self (a : Rat) : rdist a a = 0 := by
  unfold rdist; grind

theorem rdist_le_zero {a b : Rat} (h : rdist a b ≤ 0) : b = a := by
  unfold rdist at h; grind

theorem rdist_lt_of_lt_of_le {x a b : Rat} (hab : a < b) (hbx : b ≤ x) : rdist x b < rdist x a := by
  unfold rdist; grind

/-- `a` is as near to `x` as the lower `b` exactly from the midpoint of the two on. -/
theorem rdist_le_lower {x a b : Rat} (hab : b < a) : rdist x a ≤ rdist x b ↔ b + a ≤ 2 * x := by
  unfold rdist; grind

theorem rdist_le_upper {x a b : Rat} (hab : a < b) : rdist x a ≤ rdist x b ↔ 2 * x ≤ a + b := by
  rw [← rdist_neg x a, ← rdist_neg x b, rdist_le_lower (Rat.neg_lt_neg hab), ← Rat.neg_add, Rat.mul_neg,
    Rat.neg_le_neg_iff, Rat.add_comm]

/-- `p` indexes an element of the sequence `g` nearest to `x`, with an even index whenever another
element is as near. -/
def NearestEven (g : Int → Rat) (x : Rat) (p : Int) : Prop :=
  ∀ k, rdist x (g p) ≤ rdist x (g k) ∧ (rdist x (g p) = rdist x (g k) → k ≠ p → p % 2 = 0)

/-- The mirror image: for a sequence with `g (-k) = -g k`. -/
theorem NearestEven.neg {g : Int → Rat} (hodd : ∀ k, g (-k) = -g k) {x : Rat} {p : Int}
    (h : NearestEven g x p) : NearestEven g (-x) (-p) := by
  intro k
  have e : rdist (-x) (g k) = rdist x (g (-k)) := by rw [← rdist_neg x, hodd, Rat.neg_neg]
  rw [hodd, rdist_neg, e]
  exact ⟨(h (-k)).1, fun e ne => by have := (h (-k)).2 e (by omega); omega⟩

section
variable {g : Int → Rat} (hg : ∀ a b, a < b → g a < g b)
include hg

theorem le_of_increasing {a b : Int} (h : a ≤ b) : g a ≤ g b := by
  rcases Int.lt_or_eq_of_le h with c | c
  · exact Rat.le_of_lt (hg _ _ c)
  · rw [c]; exact Rat.le_refl

theorem le_of_increasing_le {a b : Int} (h : g a ≤ g b) : a ≤ b :=
  Int.not_lt.1 fun c => Rat.not_lt.2 h (hg _ _ c)

theorem eq_of_increasing_eq {a b : Int} (h : g a = g b) : a = b := by
  rcases Int.lt_trichotomy a b with c | c | c
  · exact absurd h (Rat.ne_of_lt (hg _ _ c))
  · exact c
  · exact absurd h.symm (Rat.ne_of_lt (hg _ _ c))

theorem NearestEven.lower {x : Rat} {p k : Int} (hp : NearestEven g x p) (h : k < p) :
    g k + g p ≤ 2 * x :=
  (rdist_le_lower (hg _ _ h)).1 (hp k).1

theorem NearestEven.upper {x : Rat} {p k : Int} (hp : NearestEven g x p) (h : p < k) :
    2 * x ≤ g p + g k :=
  (rdist_le_upper (hg _ _ h)).1 (hp k).1

theorem NearestEven.exact {k p : Int} (hp : NearestEven g (g k) p) : p = k := by
  have h := (hp k).1
  rw [rdist_self] at h
  exact eq_of_increasing_eq hg (rdist_le_zero h)

/-- Two equidistant even indices would have an odd index strictly between them, which would be
nearer. -/
theorem NearestEven.unique {x : Rat} {p m : Int} (hp : NearestEven g x p)
    (hnear : rdist x (g m) ≤ rdist x (g p))
    (htie : rdist x (g m) = rdist x (g p) → m ≠ p → m % 2 = 0) : m = p := by
  apply Decidable.byContradiction
  intro hne
  have heq := Rat.le_antisymm (hp m).1 hnear
  have pe := (hp m).2 heq hne
  have me := htie heq.symm hne
  rcases Int.lt_or_gt_of_ne hne with hlt | hgt
  · have a := (rdist_le_upper (hg _ _ hlt)).1 hnear
    have b := hp.lower hg (show m + 1 < p by omega)
    exact Rat.not_lt.2 (Rat.add_le_add_right.1 (Rat.le_trans b a)) (hg m (m + 1) (by omega))
  · have a := (rdist_le_lower (hg _ _ hgt)).1 hnear
    have b := hp.upper hg (show p < p + 1 by omega)
    exact Rat.not_lt.2 (Rat.add_le_add_left.1 (Rat.le_trans a b)) (hg (p + 1) m (by omega))

theorem NearestEven.mono {x y : Rat} {p r : Int} (hp : NearestEven g x p) (hr : NearestEven g y r)
    (hxy : x ≤ y) : p ≤ r := by
  rcases Rat.le_iff_lt_or_eq.1 hxy with hlt | rfl
  · apply Int.not_lt.1
    intro c
    have h : 2 * y ≤ 2 * x := Rat.le_trans (hr.upper hg c) (hp.lower hg c)
    exact Rat.not_lt.2 (Rat.le_of_mul_le_mul_left h (by decide)) hlt
  · exact Int.le_of_eq (hp.unique hg (hr p).1 (fun e ne => (hr p).2 e (Ne.symm ne))).symm

/-- From the midpoint below an even index `K` on, the nearest index is at least `K`. -/
theorem NearestEven.ge_iff {x : Rat} {p K : Int} (hp : NearestEven g x p) (hK : (K - 1) % 2 = 1) :
    K ≤ p ↔ g (K - 1) + g K ≤ 2 * x := by
  constructor
  · intro hge
    exact Rat.le_trans (Rat.add_le_add_left.2 (le_of_increasing hg hge)) (hp.lower hg (show K - 1 < p by omega))
  · intro hge
    apply Int.not_lt.1
    intro hlt
    have h2 := hp.upper hg hlt
    -- so `p = K - 1`, an odd index, and `x` is the midpoint: a tie
    have hpk : p = K - 1 := by
      have : K - 1 ≤ p := le_of_increasing_le hg (Rat.add_le_add_right.1 (Rat.le_trans hge h2))
      omega
    subst hpk
    have tie := (hp K).2 (Rat.le_antisymm (hp K).1 ((rdist_le_lower (hg _ _ hlt)).2 hge)) (by omega)
    omega
end

end C12.B64
