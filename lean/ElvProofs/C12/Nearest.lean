/-
C12: the pattern `B64.rneMagU n d` (the rounding with an unbounded exponent)
denotes a value NEAREST to `n/d` among all magnitude patterns, of every binade,
and is the even pattern at a tie (`rneMagU_nearest`): every other pattern lies
on the grid of the result's binade or below that binade.  Everything here is
cross-multiplied natural-number arithmetic in units of `2^-1074`;
`NearestRat.lean` reads it in `Rat` and for both signs.
-/
import ElvProofs.C12.Round
namespace C12.B64

/-- `|a − b|` on naturals. -/
def adiff (a b : Nat) : Nat := (a - b) + (b - a)

theorem adiff_of_le (a b : Nat) (h : b ≤ a) : adiff a b = a - b := by
  unfold adiff; omega

theorem adiff_le_half (A X c : Nat) (h1 : 2 * X ≤ 2 * A + c) (h2 : 2 * A ≤ 2 * X + c) :
    2 * adiff A X ≤ c ∧ (2 * adiff A X = c → (2 * X = 2 * A + c ∨ 2 * A = 2 * X + c)) := by
  unfold adiff; omega

theorem half_le_adiff (A X Y c : Nat) (h1 : 2 * X ≤ 2 * A + c) (h2 : 2 * A ≤ 2 * X + c)
    (hXY : X + c ≤ Y ∨ Y + c ≤ X) : c ≤ 2 * adiff A Y := by
  unfold adiff; omega

theorem nearest_multiple (A c M j : Nat)
    (h1 : 2 * (M * c) ≤ 2 * A + c) (h2 : 2 * A ≤ 2 * (M * c) + c) :
    adiff A (M * c) ≤ adiff A (j * c) ∧
    (adiff A (M * c) = adiff A (j * c) → j ≠ M → (2 * (M * c) = 2 * A + c ∨ 2 * A = 2 * (M * c) + c)) := by
  obtain ⟨n1, n2⟩ := adiff_le_half A (M * c) c h1 h2
  by_cases hj : j = M
  · subst hj; exact ⟨Nat.le_refl _, fun _ ne => absurd rfl ne⟩
  · have far : c ≤ 2 * adiff A (j * c) := by
      apply half_le_adiff A (M * c) (j * c) c h1 h2
      rcases Nat.lt_or_gt_of_ne hj with h | h
      · right; rw [← Nat.succ_mul]; exact Nat.mul_le_mul_right c h
      · left; rw [← Nat.succ_mul]; exact Nat.mul_le_mul_right c h
    exact ⟨by omega, fun e _ => n2 (by omega)⟩

theorem nearest_grid (A c M Y : Nat)
    (h1 : 2 * (M * c) ≤ 2 * A + c) (h2 : 2 * A ≤ 2 * (M * c) + c)
    (hY : (∃ j, Y = j * c) ∨ ∃ j, Y < j * c ∧ j * c ≤ A) :
    adiff A (M * c) ≤ adiff A Y ∧
    (adiff A (M * c) = adiff A Y → Y ≠ M * c → (2 * (M * c) = 2 * A + c ∨ 2 * A = 2 * (M * c) + c)) := by
  rcases hY with ⟨j, rfl⟩ | ⟨j, hlt, hle⟩
  · obtain ⟨k1, k2⟩ := nearest_multiple A c M j h1 h2
    exact ⟨k1, fun e ne => k2 e (fun hj => ne (by rw [hj]))⟩
  · -- `Y < j·c ≤ A`: the multiple `j·c` is strictly closer than `Y`
    obtain ⟨k1, _⟩ := nearest_multiple A c M j h1 h2
    rw [adiff_of_le A (j * c) hle] at k1
    rw [adiff_of_le A Y (by omega)]
    constructor
    · omega
    · intro e; omega

theorem rneMagU_nearest (n d : Nat) (hn : 0 < n) (hd : 0 < d) (m : Nat) :
    adiff (n * 2 ^ 1074) (magUnits (rneMagU n d) * d) ≤ adiff (n * 2 ^ 1074) (magUnits m * d) ∧
    (adiff (n * 2 ^ 1074) (magUnits (rneMagU n d) * d) = adiff (n * 2 ^ 1074) (magUnits m * d) →
      m ≠ rneMagU n d → rneMagU n d % 2 = 0) := by
  obtain ⟨⟨h1, h2⟩, htie⟩ := sig_nearest n d hd
  have hu : magUnits (rneMagU n d) * d = significand n d * (2 ^ expT n d * d) := by
    rw [magUnits_rneMagU n d hn hd, Nat.mul_assoc]
  have hne : m ≠ rneMagU n d → magUnits m * d ≠ significand n d * (2 ^ expT n d * d) := by
    intro ne e
    rw [← hu] at e
    exact ne (magUnits_inj _ _ (Nat.eq_of_mul_eq_mul_right hd e))
  rw [hu, rneMagU_mod_two]
  have near := nearest_grid (n * 2 ^ 1074) (2 ^ expT n d * d) (significand n d) (magUnits m * d) h1 h2 ?_
  · exact ⟨near.1, fun e ne => htie (near.2 e (hne ne))⟩
  · -- `m` is on the grid of the result's binade, or below the start of that binade
    rcases Nat.eq_zero_or_pos (expT n d) with h0 | ht
    · exact .inl ⟨magUnits m, by rw [h0, Nat.pow_zero, Nat.one_mul]⟩
    · rcases magUnits_grid m (expT n d) with hlow | ⟨j, hj⟩
      · refine .inr ⟨2 ^ 52, ?_, binade_floor n d hn hd (ulpExp_of_expT_pos n d ht)⟩
        rw [← Nat.mul_assoc]; exact Nat.mul_lt_mul_of_pos_right hlow hd
      · exact .inl ⟨j, by rw [hj, Nat.mul_assoc]⟩

end C12.B64
