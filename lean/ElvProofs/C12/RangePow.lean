/-
C12: the float branch of `range` (`C12.rangeC12`).
-/
import ElvProofs.C12.Struct
namespace C12
open Go C11

variable {F : Type}

def iterate (f : F → F) : F → Nat → List F
  | _, 0 => []
  | a, n + 1 => a :: iterate f (f a) n

theorem rangeFloatUp_spec (ops : F64Ops F) (c : FCmp F) (end_ step : F) :
    ∀ (fuel : Nat) (cur : F) (l : List F), rangeFloatUp ops c end_ step fuel cur = .ok l →
      l = iterate (fun x => ops.add x step) cur l.length ∧
      (∀ x ∈ l, c.lt x end_ = true) ∧
      (∀ x ∈ l.dropLast, c.le (ops.add x step) x = false) := by
  intro fuel
  induction fuel with
  | zero => intro cur l h; simp [rangeFloatUp] at h
  | succ fuel ih =>
    intro cur l h
    unfold rangeFloatUp at h
    by_cases c1 : c.lt cur end_ = true
    · simp only [c1, if_true] at h
      by_cases c2 : c.le (ops.add cur step) cur = true
      · simp only [c2, if_true] at h
        cases h
        simp [iterate, c1]
      · simp only [c2] at h
        cases hr : rangeFloatUp ops c end_ step fuel (ops.add cur step) with
        | ok l' =>
          rw [hr] at h
          simp only [resMap] at h
          cases h
          obtain ⟨i1, i2, i3⟩ := ih _ _ hr
          refine ⟨?_, ?_, ?_⟩
          · simp only [List.length_cons, iterate]
            rw [← i1]
          · intro x hx
            rcases List.mem_cons.1 hx with rfl | hx
            · exact c1
            · exact i2 x hx
          · intro x hx
            cases l' with
            | nil => simp at hx
            | cons y t =>
              rw [List.dropLast_cons_cons] at hx
              rcases List.mem_cons.1 hx with rfl | hx
              · simpa using c2
              · exact i3 x hx
        | exc e => rw [hr] at h; simp [resMap] at h
        | panic w => rw [hr] at h; simp [resMap] at h
    · simp only [c1] at h
      cases h
      simp [iterate]

theorem rangeFloatDown_eq_up (ops : F64Ops F) (c : FCmp F) (end_ step : F) :
    ∀ (fuel : Nat) (cur : F), rangeFloatDown ops c end_ step fuel cur =
      rangeFloatUp ops ⟨fun a b => c.lt b a, fun a b => c.le b a⟩ end_ step fuel cur := by
  intro fuel
  induction fuel with
  | zero => intro cur; rfl
  | succ fuel ih => intro cur; simp only [rangeFloatDown, rangeFloatUp, ih]

theorem rangeFloatDown_spec (ops : F64Ops F) (c : FCmp F) (end_ step : F) :
    ∀ (fuel : Nat) (cur : F) (l : List F), rangeFloatDown ops c end_ step fuel cur = .ok l →
      l = iterate (fun x => ops.add x step) cur l.length ∧
      (∀ x ∈ l, c.lt end_ x = true) ∧
      (∀ x ∈ l.dropLast, c.le x (ops.add x step) = false) := by
  intro fuel cur l h
  rw [rangeFloatDown_eq_up] at h
  exact rangeFloatUp_spec ops _ end_ step fuel cur l h

theorem rangeC12_float (ops : F64Ops F) (c : FCmp F) (fuel : Nat) (raw : List (Num F)) (h : HasFloat raw) :
    (match unifyNums ops raw .int with
      | .ok (.flts l) => resMap (·.map fun f => fromGo (.flt f)) (rangeBuiltinFloat ops c fuel l)
      | _ => (.exc "other" : Res (List (Num F)))) =
    resMap (·.map .flt) (rangeBuiltinFloat ops c fuel (raw.map (convertToFloat64 ops))) := by
  rw [unifyNums_float ops raw .int h]
  rfl

end C12
