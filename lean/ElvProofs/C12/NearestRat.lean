/-
C12: the finite doubles of both signs as ONE increasing sequence `dval`, indexed
by the sign-magnitude key of the pattern, and `B64.rne q` as the pattern of the
key `rkey q`.  `rkey_nearest` carries `rneMagU_nearest` (natural numbers, units
of `2^-1074`, cross-multiplied) to `Rat` and to both signs, once:
`NearestEven dval q (rkey q)`.  Nearest among all finite doubles, uniqueness,
exactness on representable values, monotonicity and the overflow thresholds are
then the facts of `NearestEven.lean` read through the link between keys and
patterns (`rne_key`, `toRat_dval`).
-/
import ElvProofs.C12.Nearest
import ElvProofs.C12.NearestEven
namespace C12.B64

theorem rdist_scale (q r c : Rat) (hc : 0 < c) : rdist q r * c = rdist (q * c) (r * c) := by
  unfold rdist
  have := Rat.mul_lt_mul_right hc (a := q) (b := r)
  grind

theorem rdist_natCast (a b : Nat) : rdist (a : Rat) (b : Rat) = ((adiff a b : Nat) : Rat) := by
  unfold rdist adiff
  by_cases h : a < b
  · have e : (a : Rat) < b := Rat.natCast_lt_natCast.2 h
    obtain ⟨k, rfl⟩ : ∃ k, b = a + k := ⟨b - a, by omega⟩
    have e1 : a - (a + k) = 0 := by omega
    have e2 : a + k - a = k := by omega
    rw [if_pos e, e1, e2, Rat.natCast_add]
    grind
  · have e : ¬ ((a : Rat) < b) := fun hh => h (Rat.natCast_lt_natCast.1 hh)
    obtain ⟨k, rfl⟩ : ∃ k, a = b + k := ⟨a - b, by omega⟩
    have e1 : b - (b + k) = 0 := by omega
    have e2 : b + k - b = k := by omega
    rw [if_neg e, e1, e2, Rat.natCast_add]
    grind

theorem rat_mul_den (q : Rat) : q * (q.den : Rat) = (q.num : Rat) := by
  have h := Rat.mkRat_self q
  rw [Rat.mkRat_eq_div] at h
  have hd : (q.den : Rat) ≠ 0 := by
    have := q.den_pos
    intro h0; have := Rat.natCast_eq_zero_iff.1 h0; omega
  have e : q * (q.den : Rat) = ((q.num : Rat) / (q.den : Rat)) * (q.den : Rat) := by rw [h]
  rw [e]
  exact Rat.div_mul_cancel hd

theorem natCast_pos' (a : Nat) (h : 0 < a) : (0 : Rat) < (a : Rat) := Rat.natCast_pos.2 h

theorem magToRat_mul (m : Nat) : magToRat m * ((2 ^ 1074 : Nat) : Rat) = ((magUnits m : Nat) : Rat) := by
  unfold magToRat
  rw [Rat.mkRat_eq_div, Rat.intCast_natCast]
  apply Rat.div_mul_cancel
  intro h0
  have := Rat.natCast_eq_zero_iff.1 h0
  have := Nat.two_pow_pos 1074
  omega

theorem magToRat_nonneg (m : Nat) : 0 ≤ magToRat m := by
  unfold magToRat
  rw [← Rat.divInt_ofNat]
  exact Rat.divInt_nonneg (Int.natCast_nonneg _) (Int.natCast_nonneg _)

theorem magToRat_zero : magToRat 0 = 0 := by
  show mkRat ((magUnits 0 : Nat) : Int) (2 ^ 1074) = 0
  have : magUnits 0 = 0 := by decide
  rw [this]; exact Rat.zero_mkRat _

theorem magToRat_lt (m1 m2 : Nat) (h : m1 < m2) : magToRat m1 < magToRat m2 := by
  apply Rat.lt_of_mul_lt_mul_right (c := ((2 ^ 1074 : Nat) : Rat)) _ Rat.natCast_nonneg
  rw [magToRat_mul, magToRat_mul]
  exact Rat.natCast_lt_natCast.2 (magUnits_strictMono _ _ h)

theorem magToRat_pos (m : Nat) (h : 0 < m) : 0 < magToRat m := by
  have := magToRat_lt 0 m h
  rwa [magToRat_zero] at this

theorem rdist_units (q : Rat) (hq : 0 < q.num) (m : Nat) :
    rdist q (magToRat m) * ((q.den * 2 ^ 1074 : Nat) : Rat) =
      ((adiff (q.num.natAbs * 2 ^ 1074) (magUnits m * q.den) : Nat) : Rat) := by
  have hm := magToRat_mul m
  have hZ := Nat.two_pow_pos 1074
  generalize (2:Nat) ^ 1074 = Z at *
  have hc : (0 : Rat) < ((q.den * Z : Nat) : Rat) := natCast_pos' _ (Nat.mul_pos q.den_pos hZ)
  rw [rdist_scale _ _ _ hc, ← rdist_natCast]
  have hn : ((q.num.natAbs : Nat) : Rat) = (q.num : Rat) := by
    rw [← Rat.intCast_natCast, Int.natAbs_of_nonneg (Int.le_of_lt hq)]
  have e1 : q * ((q.den * Z : Nat) : Rat) = ((q.num.natAbs * Z : Nat) : Rat) := by
    rw [Rat.natCast_mul, Rat.natCast_mul, hn, ← rat_mul_den q, Rat.mul_assoc]
  have e2 : magToRat m * ((q.den * Z : Nat) : Rat) = ((magUnits m * q.den : Nat) : Rat) := by
    rw [Rat.natCast_mul, Rat.natCast_mul, ← hm]
    grind
  rw [e1, e2]

theorem mul_right_cancel_pos (a b c : Rat) (hc : 0 < c) (h : a * c = b * c) : a = b :=
  Rat.le_antisymm (Rat.le_of_mul_le_mul_right (by rw [h]; exact Rat.le_refl) hc)
    (Rat.le_of_mul_le_mul_right (by rw [h]; exact Rat.le_refl) hc)

theorem rdist_le_iff (q : Rat) (hq : 0 < q.num) (m1 m2 : Nat) :
    rdist q (magToRat m1) ≤ rdist q (magToRat m2) ↔
      adiff (q.num.natAbs * 2 ^ 1074) (magUnits m1 * q.den) ≤
        adiff (q.num.natAbs * 2 ^ 1074) (magUnits m2 * q.den) := by
  have hc : (0 : Rat) < ((q.den * 2 ^ 1074 : Nat) : Rat) :=
    natCast_pos' _ (Nat.mul_pos q.den_pos (Nat.two_pow_pos 1074))
  rw [← Rat.natCast_le_natCast, ← rdist_units q hq m1, ← rdist_units q hq m2]
  exact ⟨fun h => Rat.mul_le_mul_of_nonneg_right h (Rat.le_of_lt hc), fun h => Rat.le_of_mul_le_mul_right h hc⟩

theorem rdist_eq_iff (q : Rat) (hq : 0 < q.num) (m1 m2 : Nat) :
    rdist q (magToRat m1) = rdist q (magToRat m2) ↔
      adiff (q.num.natAbs * 2 ^ 1074) (magUnits m1 * q.den) =
        adiff (q.num.natAbs * 2 ^ 1074) (magUnits m2 * q.den) := by
  have hc : (0 : Rat) < ((q.den * 2 ^ 1074 : Nat) : Rat) :=
    natCast_pos' _ (Nat.mul_pos q.den_pos (Nat.two_pow_pos 1074))
  rw [← Rat.natCast_inj, ← rdist_units q hq m1, ← rdist_units q hq m2]
  exact ⟨fun h => by rw [h], mul_right_cancel_pos _ _ _ hc⟩

theorem toRat_mag (m : Nat) (h : m < infMag) : toRat m = some (magToRat m) := by
  have hs : m < signBit := by simp only [infMag, signBit] at *; omega
  unfold toRat
  simp only []
  rw [Nat.mod_eq_of_lt hs, Nat.div_eq_of_lt hs]
  have c1 : ¬ (m ≥ infMag) := by omega
  have c2 : ¬ (0 % 2 = 1) := by decide
  simp only [c1, c2, if_false]

theorem toRat_neg_mag (m : Nat) (h : m < infMag) : toRat (signBit + m) = some (-(magToRat m)) := by
  have hs : m < signBit := by simp only [infMag, signBit] at *; omega
  have e1 : (signBit + m) % signBit = m := by
    rw [Nat.add_mod_left, Nat.mod_eq_of_lt hs]
  have e2 : (signBit + m) / signBit = 1 := by
    simp only [signBit] at *; omega
  unfold toRat
  simp only []
  rw [e1, e2]
  have c1 : ¬ (m ≥ infMag) := by omega
  have c2 : 1 % 2 = 1 := by decide
  simp only [c1, c2, if_false, if_true]

theorem toRat_decode (bits : Nat) (hb : bits < 2 ^ 64) (v : Rat) (h : toRat bits = some v) :
    ∃ m, m < infMag ∧ m = bits % signBit ∧
      ((bits = m ∧ v = magToRat m) ∨ (bits = signBit + m ∧ v = -(magToRat m))) := by
  unfold toRat at h
  simp only [] at h
  have hdm := Nat.div_add_mod bits signBit
  have hlt : bits / signBit < 2 := by
    simp only [signBit] at *
    have : (2:Nat) ^ 64 = 18446744073709551616 := by decide
    omega
  generalize hmag : bits % signBit = mag at *
  by_cases c : mag ≥ infMag
  · simp [c] at h
  · refine ⟨mag, Nat.lt_of_not_ge c, rfl, ?_⟩
    simp only [c, if_false] at h
    by_cases s : bits / signBit % 2 = 1
    · simp only [s, if_true] at h
      right
      refine ⟨?_, (Option.some.inj h).symm⟩
      simp only [signBit] at *; omega
    · simp only [s, if_false] at h
      left
      refine ⟨?_, (Option.some.inj h).symm⟩
      simp only [signBit] at *; omega

theorem toRat_none_of_inf (m : Nat) (h : m = infMag) : toRat m = none ∧ toRat (signBit + m) = none := by
  subst h; constructor <;> decide

theorem rne_pos (q : Rat) (h : 0 < q.num) : rne q = rneMag q.num.natAbs q.den := by
  unfold rne
  have h1 : q.num ≠ 0 := by omega
  have h2 : ¬ q.num < 0 := by omega
  simp only [h1, h2, if_false]

theorem rne_neg_num (q : Rat) (h : q.num < 0) : rne q = signBit + rneMag q.num.natAbs q.den := by
  unfold rne
  have h1 : q.num ≠ 0 := by omega
  simp only [h1, h, if_false, if_true]

theorem rne_zero_num (q : Rat) (h : q.num = 0) : rne q = 0 := by
  unfold rne; simp only [h, if_true]

theorem rne_zero : toRat 0 = some 0 ∧ toRat signBit = some 0 ∧ rne 0 = 0 := by
  refine ⟨?_, ?_, rfl⟩
  · rw [toRat_mag 0 (by decide), magToRat_zero]
  · have := toRat_neg_mag 0 (by decide)
    rwa [magToRat_zero, Rat.neg_zero] at this

theorem natAbs_pos_of_pos (q : Rat) (hq : 0 < q.num) : 0 < q.num.natAbs :=
  Int.natAbs_pos.2 (Int.ne_of_gt hq)

theorem pos_of_num_pos (q : Rat) (h : 0 < q.num) : 0 < q := (Rat.lt_iff 0 q).2 (by simpa using h)

/-- The overflow threshold `2^1024 − 2^970`: the midpoint between the largest
finite double `(2^53 − 1)·2^971` and `2^1024`. -/
def overflowThr : Nat := (2 ^ 54 - 1) * 2 ^ 970

theorem overflowThr_eq : overflowThr + 2 ^ 970 = 2 ^ 1024 := by decide +kernel

theorem rne_wf (q : Rat) : rne q < 2 ^ 64 ∧ rne q % signBit ≤ infMag := by
  have hle := rneMag_le_infMag q.num.natAbs q.den
  have p64 : (2:Nat) ^ 64 = 18446744073709551616 := by decide
  unfold rne
  split
  · constructor <;> decide
  · split
    · simp only [signBit, infMag] at *; omega
    · simp only [signBit, infMag] at *; omega

theorem finite_of_toRat {bits : Nat} {v : Rat} (h : toRat bits = some v) : bits % signBit < infMag := by
  apply Nat.lt_of_not_ge
  intro c
  unfold toRat at h
  simp only [c, if_true] at h
  cases h

/-- The finite doubles (and, beyond `infMag`, their continuation with an unbounded exponent) as one
increasing sequence: index `k` is the sign-magnitude key of the pattern. -/
def dval (k : Int) : Rat := if k < 0 then -(magToRat k.natAbs) else magToRat k.natAbs

theorem dval_natCast (m : Nat) : dval (m : Int) = magToRat m := by
  unfold dval
  rw [if_neg (by omega), Int.natAbs_natCast]

theorem dval_zero : dval 0 = 0 := (dval_natCast 0).trans magToRat_zero

theorem dval_neg (k : Int) : dval (-k) = -dval k := by
  rcases Int.lt_trichotomy k 0 with c | rfl | c
  · unfold dval
    rw [if_neg (by omega), if_pos c, Int.natAbs_neg, Rat.neg_neg]
  · rw [Int.neg_zero, dval_zero, Rat.neg_zero]
  · unfold dval
    rw [if_pos (by omega), if_neg (by omega), Int.natAbs_neg]

theorem dval_of_nonneg {k : Int} (h : 0 ≤ k) : dval k = magToRat k.natAbs := by
  unfold dval
  rw [if_neg (by omega)]

theorem dval_of_nonpos {k : Int} (h : k ≤ 0) : dval k = -(magToRat k.natAbs) := by
  have e := dval_neg (-k)
  rw [Int.neg_neg] at e
  rw [e, dval_of_nonneg (by omega), Int.natAbs_neg]

theorem dval_strictMono (a b : Int) (h : a < b) : dval a < dval b := by
  unfold dval
  by_cases ha : a < 0 <;> by_cases hb : b < 0 <;> simp only [ha, hb, if_true, if_false]
  · exact Rat.neg_lt_neg (magToRat_lt _ _ (by omega))
  · have h1 := magToRat_pos a.natAbs (by omega)
    have h2 := magToRat_nonneg b.natAbs
    grind
  · omega
  · exact magToRat_lt _ _ (by omega)

/-- The key of the rounding with an unbounded exponent. -/
def rkey (q : Rat) : Int := q.num.sign * rneMagU q.num.natAbs q.den

theorem rkey_of_pos (q : Rat) (h : 0 < q.num) : rkey q = (rneMagU q.num.natAbs q.den : Nat) := by
  unfold rkey
  rw [Int.sign_eq_one_of_pos h, Int.one_mul]

theorem rkey_of_neg (q : Rat) (h : q.num < 0) : rkey q = -((rneMagU q.num.natAbs q.den : Nat) : Int) := by
  unfold rkey
  rw [Int.sign_eq_neg_one_of_neg h, Int.neg_mul, Int.one_mul]

theorem rkey_of_zero (q : Rat) (h : q.num = 0) : rkey q = 0 := by
  unfold rkey
  rw [h, Int.sign_zero, Int.zero_mul]

theorem rkey_neg (q : Rat) : rkey (-q) = -rkey q := by
  unfold rkey
  rw [Rat.neg_num, Rat.neg_den, Int.sign_neg, Int.natAbs_neg, Int.neg_mul]

theorem rkey_nearest_pos (q : Rat) (hq : 0 < q.num) : NearestEven dval q (rkey q) := by
  have near : ∀ m : Nat,
      rdist q (magToRat (rneMagU q.num.natAbs q.den)) ≤ rdist q (magToRat m) ∧
      (rdist q (magToRat (rneMagU q.num.natAbs q.den)) = rdist q (magToRat m) →
        m ≠ rneMagU q.num.natAbs q.den → rneMagU q.num.natAbs q.den % 2 = 0) := by
    intro m
    obtain ⟨a1, a2⟩ := rneMagU_nearest q.num.natAbs q.den (natAbs_pos_of_pos q hq) q.den_pos m
    exact ⟨(rdist_le_iff q hq _ _).2 a1, fun e ne => a2 ((rdist_eq_iff q hq _ _).1 e) ne⟩
  rw [rkey_of_pos q hq]
  generalize rneMagU q.num.natAbs q.den = p at near
  intro k
  rw [dval_natCast]
  by_cases c : k < 0
  · -- a negative double is farther than `0`
    have far : rdist q (dval 0) < rdist q (dval k) :=
      rdist_lt_of_lt_of_le (dval_strictMono k 0 c) (by rw [dval_zero]; exact Rat.le_of_lt (pos_of_num_pos q hq))
    have a1 := (near 0).1
    rw [magToRat_zero, ← dval_zero] at a1
    refine ⟨Rat.le_of_lt (Std.lt_of_le_of_lt a1 far), fun e _ => ?_⟩
    rw [e] at a1
    exact absurd a1 (Rat.not_le.2 far)
  · obtain ⟨m, rfl⟩ := Int.eq_ofNat_of_zero_le (Int.not_lt.1 c)
    rw [dval_natCast]
    exact ⟨(near m).1, fun e ne => by have := (near m).2 e (by omega); omega⟩

theorem rkey_nearest (q : Rat) : NearestEven dval q (rkey q) := by
  rcases Int.lt_trichotomy q.num 0 with c | c | c
  · have := (rkey_nearest_pos (-q) (by rw [Rat.neg_num]; omega)).neg dval_neg
    rwa [rkey_neg, Int.neg_neg, Rat.neg_neg] at this
  · rw [rkey_of_zero q c, Rat.num_eq_zero.1 c]
    intro k
    rw [dval_zero, rdist_self]
    exact ⟨rdist_nonneg _ _, fun _ _ => rfl⟩
  · exact rkey_nearest_pos q c

/-- Exact on the elements: each is at distance 0 from itself. -/
theorem rkey_dval (k : Int) : rkey (dval k) = k :=
  (rkey_nearest (dval k)).exact dval_strictMono

/-- `rne q` is the pattern of the key `rkey q`, clamped to infinity; the sign bit is not a
function of the key only because of `-0`. -/
theorem rne_key (q : Rat) :
    (0 ≤ rkey q ∧ rne q = min (rkey q).natAbs infMag) ∨
    (rkey q ≤ 0 ∧ rne q = signBit + min (rkey q).natAbs infMag) := by
  rcases Int.lt_trichotomy q.num 0 with c | c | c
  · right
    rw [rne_neg_num q c, rneMag_eq_min, rkey_of_neg q c, Int.natAbs_neg, Int.natAbs_natCast]
    exact ⟨by omega, rfl⟩
  · left
    rw [rne_zero_num q c, rkey_of_zero q c]
    exact ⟨Int.le_refl _, by decide⟩
  · left
    rw [rne_pos q c, rneMag_eq_min, rkey_of_pos q c, Int.natAbs_natCast]
    exact ⟨by omega, rfl⟩

/-- A finite result is the element of the sequence at `rkey q`, and has the parity of the key. -/
theorem rne_dval (q r : Rat) (h : toRat (rne q) = some r) :
    r = dval (rkey q) ∧ rne q % 2 = (rkey q).natAbs % 2 := by
  have hfin := finite_of_toRat h
  have lt : infMag < signBit := by decide
  rcases rne_key q with ⟨hs, e⟩ | ⟨hs, e⟩
  · rw [e, Nat.mod_eq_of_lt (by omega)] at hfin
    have e' : rne q = (rkey q).natAbs := by omega
    rw [e', toRat_mag _ (by omega)] at h
    exact ⟨by rw [dval_of_nonneg hs, Option.some.inj h], by rw [e']⟩
  · rw [e, Nat.add_mod_left, Nat.mod_eq_of_lt (by omega)] at hfin
    have e' : rne q = signBit + (rkey q).natAbs := by omega
    rw [e', toRat_neg_mag _ (by omega)] at h
    exact ⟨by rw [dval_of_nonpos hs, Option.some.inj h], by rw [e']; simp only [signBit]; omega⟩

theorem toRat_dval (bits : Nat) (hb : bits < 2 ^ 64) (v : Rat) (h : toRat bits = some v) :
    ∃ k : Int, v = dval k ∧ (bits % 2 = 0 → k % 2 = 0) := by
  obtain ⟨m, _, _, ⟨e, hv⟩ | ⟨e, hv⟩⟩ := toRat_decode bits hb v h
  · exact ⟨m, by rw [dval_natCast, hv], by omega⟩
  · exact ⟨-(m : Int), by rw [dval_neg, dval_natCast, hv], by simp only [signBit] at e; omega⟩

theorem rne_nearest (q r : Rat) (hr : toRat (rne q) = some r) (bits : Nat) (hb : bits < 2 ^ 64)
    (v : Rat) (hv : toRat bits = some v) :
    rdist q r ≤ rdist q v ∧ (rdist q r = rdist q v → v ≠ r → rne q % 2 = 0) := by
  obtain ⟨k, rfl, _⟩ := toRat_dval bits hb v hv
  obtain ⟨rfl, hpar⟩ := rne_dval q r hr
  refine ⟨(rkey_nearest q k).1, fun e ne => ?_⟩
  have := (rkey_nearest q k).2 e (fun h => ne (by rw [h]))
  omega

theorem rne_unique (q r : Rat) (hr : toRat (rne q) = some r) (bits : Nat) (hb : bits < 2 ^ 64)
    (v : Rat) (hv : toRat bits = some v)
    (hnear : rdist q v ≤ rdist q r) (htie : rdist q v = rdist q r → v ≠ r → bits % 2 = 0) : v = r := by
  obtain ⟨k, rfl, hpar⟩ := toRat_dval bits hb v hv
  obtain ⟨rfl, _⟩ := rne_dval q r hr
  exact congrArg dval ((rkey_nearest q).unique dval_strictMono hnear
    (fun e ne => hpar (htie e (fun h => ne (eq_of_increasing_eq dval_strictMono h)))))

theorem rne_mono (q1 q2 : Rat) (h : q1 ≤ q2) (r1 r2 : Rat)
    (h1 : toRat (rne q1) = some r1) (h2 : toRat (rne q2) = some r2) : r1 ≤ r2 := by
  rw [(rne_dval q1 r1 h1).1, (rne_dval q2 r2 h2).1]
  exact le_of_increasing dval_strictMono ((rkey_nearest q1).mono dval_strictMono (rkey_nearest q2) h)

theorem rne_toRat (bits : Nat) (hb : bits < 2 ^ 64) (q : Rat) (h : toRat bits = some q)
    (hnz : bits % signBit ≠ 0) : rne q = bits := by
  obtain ⟨m, hm, hmod, hcase⟩ := toRat_decode bits hb q h
  have hm0 : 0 < m := Nat.pos_of_ne_zero (by rw [hmod]; exact hnz)
  have hmin : min m infMag = m := Nat.min_eq_left (Nat.le_of_lt hm)
  rcases hcase with ⟨hbits, hq⟩ | ⟨hbits, hq⟩
  · have hk : rkey q = m := by rw [hq, ← dval_natCast, rkey_dval]
    rcases rne_key q with ⟨_, e⟩ | ⟨hs, _⟩
    · rw [e, hk, Int.natAbs_natCast, hmin, hbits]
    · omega
  · have hk : rkey q = -(m : Int) := by rw [hq, ← dval_natCast, ← dval_neg, rkey_dval]
    rcases rne_key q with ⟨hs, _⟩ | ⟨_, e⟩
    · omega
    · rw [e, hk, Int.natAbs_neg, Int.natAbs_natCast, hmin, hbits]

/-- `overflowThr` is the midpoint between the largest finite double and `2^1024`, the element at
the even key `infMag`. -/
theorem dval_thr : dval (infMag - 1) + dval infMag = 2 * (overflowThr : Rat) := by
  decide +kernel

theorem rne_inf_key (q : Rat) : rne q = infMag ↔ (infMag : Int) ≤ rkey q := by
  rcases rne_key q with ⟨_, e⟩ | ⟨_, e⟩ <;> rw [e] <;> simp only [signBit, infMag] <;> omega

theorem rne_neg_inf_key (q : Rat) : rne q = signBit + infMag ↔ rkey q ≤ -(infMag : Int) := by
  rcases rne_key q with ⟨_, e⟩ | ⟨_, e⟩ <;> rw [e] <;> simp only [signBit, infMag] <;> omega

theorem rne_eq_inf_iff (q : Rat) : rne q = infMag ↔ (overflowThr : Rat) ≤ q := by
  rw [rne_inf_key, (rkey_nearest q).ge_iff dval_strictMono (by decide), dval_thr]
  exact ⟨fun h => Rat.le_of_mul_le_mul_left h (by decide), fun h => Rat.mul_le_mul_of_nonneg_left h (by decide)⟩

theorem rne_eq_neg_inf_iff (q : Rat) : rne q = signBit + infMag ↔ q ≤ -(overflowThr : Rat) := by
  rw [Rat.le_neg_iff, ← rne_eq_inf_iff, rne_inf_key, rne_neg_inf_key, rkey_neg]
  omega

end C12.B64
